import Pm.LsdList
/-! # The list with cursors: what `list.c` computes

`Abs`: a plain list of items and, for every registered iterator, a cursor `(j, g)`: the iterator stands at the `j`-th gap of
the list (`0` = before the first item); `g = true`: the item right after the gap has been returned by `list_next` and is the
one `list_remove` will take, the next item to return is the one after it; `g = false`: the next item to return is the one
right after the gap and there is nothing to remove.  Every call of `list.c` is a few lines on this machine (`Abs.apply`,
`Abs.run` for the calls of `Op`); `ahead` / `behind` / `removable` say what an iterator still has to return.  What the
machine does is proved in `Pm/LsdListProof.lean` and `Pm/LsdListSortProof.lean`; that the node-level model (`Pm/LsdList.lean`)
refines it, from `Pm/LsdListBase.lean` on. -/

namespace Pm.LsdList
variable {α : Type}

/-- how `list_node_create` at field `f` moves a cursor -/
def curCreate (f : Nat) (c : Nat × Bool) : Nat × Bool := (if f ≤ c.1 then c.1 + 1 else c.1, c.2)

/-- how `list_node_destroy` at field `f` moves a cursor -/
def curDestroy (f : Nat) (c : Nat × Bool) : Nat × Bool :=
  if c.1 + c.2.toNat = f ∨ c.1 = f then (f, false) else if f < c.1 then (c.1 - 1, c.2) else c

structure Abs (α : Type) where
  items : List α
  /-- the iterator chain, newest first: handle and cursor -/
  curs : List (Nat × (Nat × Bool))
  /-- the list has a deletion function (`l->fDel`): `list_delete_all` and `list_delete` report the items it is called on -/
  fdel : Bool

namespace Abs

/-- insert `x` at gap `f`: cursors at or behind that gap move with the items behind it -/
def createAt (a : Abs α) (f : Nat) (x : α) : Abs α :=
  { a with items := a.items.insertIdx f x, curs := a.curs.map (fun kc => (kc.1, curCreate f kc.2)) }

/-- remove the item after gap `f` -/
def destroyAt (a : Abs α) (f : Nat) : Abs α :=
  { a with items := a.items.eraseIdx f, curs := a.curs.map (fun kc => (kc.1, curDestroy f kc.2)) }

def curOf (a : Abs α) (k : Nat) : Option (Nat × Bool) := a.curs.lookup k

def setCur (a : Abs α) (k : Nat) (c : Nat × Bool) : Abs α :=
  { a with curs := a.curs.map (fun kc => if kc.1 = k then (k, c) else kc) }

def append (a : Abs α) (x : α) : Abs α := a.createAt a.items.length x

def prepend (a : Abs α) (x : α) : Abs α := a.createAt 0 x

def pop (a : Abs α) : Option α × Abs α :=
  match a.items[0]? with
  | none => (none, a)
  | some v => (some v, a.destroyAt 0)

def itCreate (a : Abs α) (k : Nat) : Abs α := { a with curs := (k, (0, false)) :: a.curs }

def itReset (a : Abs α) (k : Nat) : Option (Abs α) := (a.curOf k).map (fun _ => a.setCur k (0, false))

def itDestroy (a : Abs α) (k : Nat) : Option (Abs α) :=
  (a.curOf k).map (fun _ => { a with curs := a.curs.eraseP (fun kc => kc.1 == k) })

/-- `list_next`: the item after the cursor (after the returned item, if there is one) -/
def next (a : Abs α) (k : Nat) : Option (Option α × Abs α) :=
  (a.curOf k).map (fun c =>
    (a.items[c.1 + c.2.toNat]?, a.setCur k (if c.2 then c.1 + 1 else c.1, decide (c.1 + c.2.toNat < a.items.length))))

/-- `list_insert`: at the cursor's gap -/
def insert (a : Abs α) (k : Nat) (x : α) : Option (Abs α) := (a.curOf k).map (fun c => a.createAt c.1 x)

/-- `list_remove`: the returned item after the cursor's gap, if there is one -/
def remove (a : Abs α) (k : Nat) : Option (Option α × Abs α) :=
  (a.curOf k).map (fun c => if c.2 then (a.items[c.1]?, a.destroyAt c.1) else (none, a))

end Abs

/-- `list_delete` on the list with cursors -/
def Abs.delete (a : Abs α) (k : Nat) : Option (Nat × List α × Abs α) :=
  (a.remove k).map (fun r => match r.1 with
    | some v => (1, if a.fdel then [v] else [], r.2)
    | none => (0, [], r.2))

/-- `list_for_each` on a plain list: the number of items visited, negated when the callback stopped the walk -/
def forEachAbs (f : α → Int) : List α → Int → Int
  | [], n => n
  | d :: rest, n => if f d < 0 then -(n + 1) else forEachAbs f rest (n + 1)

/-- `list_delete_all` on the list with cursors: walk the gaps from `k`; a matching item is removed (`destroyAt`, which
    moves the cursors), a non-matching one is stepped over -/
def Abs.deleteAllFrom (f : α → Bool) : Nat → Abs α → Nat → Nat → List α → Option (Nat × List α × Abs α)
  | 0, _, _, _, _ => none
  | fuel + 1, a, k, n, del =>
    match a.items[k]? with
    | none => some (n, del, a)
    | some d =>
      if f d then Abs.deleteAllFrom f fuel (a.destroyAt k) k (n + 1) (if a.fdel then del ++ [d] else del)
      else Abs.deleteAllFrom f fuel a (k + 1) n del

def Abs.deleteAll (a : Abs α) (f : α → Bool) : Option (Nat × List α × Abs α) :=
  Abs.deleteAllFrom f (a.items.length + 1) a 0 0 []

/-- `list_find` on the list with cursors: `list_next` until the callback accepts an item or the end is reached -/
def Abs.find (f : α → Bool) : Nat → Abs α → Nat → Option (Option α × Abs α)
  | 0, _, _ => none
  | fuel + 1, a, k =>
    match a.next k with
    | none => none
    | some (none, a') => some (none, a')
    | some (some v, a') => if f v then some (some v, a') else Abs.find f fuel a' k

/-- `list_find` with the fuel it needs -/
def Abs.findOp (a : Abs α) (k : Nat) (f : α → Bool) : Option (Option α × Abs α) := Abs.find f (a.items.length + 2) a k

/-- `x` put in front of the first item `y` with `f x y < 0` -/
def insBefore (f : α → α → Int) (x : α) : List α → List α
  | [] => [x]
  | y :: ys => if f x y ≥ 0 then y :: insBefore f x ys else x :: y :: ys

/-- one round of the outer loop: `x` against the last item of the part done so far -/
def insLast (f : α → α → Int) (x : α) (done : List α) : List α :=
  match done.getLast? with
  | some y => if f x y < 0 then insBefore f x done else done ++ [x]
  | none => done ++ [x]

def sortAux (f : α → α → Int) : List α → List α → List α
  | done, [] => done
  | done, x :: rest => sortAux f (insLast f x done) rest

/-- `list_sort` on a plain list -/
def sortList (f : α → α → Int) : List α → List α
  | [] => []
  | x :: rest => sortAux f [x] rest

/-- `list_sort` on the list with cursors: every iterator is reset — unless the list has fewer than two items, when nothing happens -/
def Abs.sort (a : Abs α) (f : α → α → Int) : Abs α :=
  if a.items.length > 1 then
    { a with items := sortList f a.items, curs := a.curs.map (fun kc => (kc.1, (0, false))) }
  else a

/-- one call of the API on the list with cursors (`none`: an iterator handle that is not registered is used, or a handle is
    registered twice) -/
def Abs.apply (a : Abs α) : Op α → Option (Res α × Abs α)
  | .append x => some (.item (some x), a.append x)
  | .enqueue x => some (.item (some x), a.append x)
  | .prepend x => some (.item (some x), a.prepend x)
  | .push x => some (.item (some x), a.prepend x)
  | .pop => some (.item a.pop.1, a.pop.2)
  | .dequeue => some (.item a.pop.1, a.pop.2)
  | .peek => some (.item a.items[0]?, a)
  | .isEmpty => some (.flag a.items.isEmpty, a)
  | .count => some (.num a.items.length, a)
  | .findFirst f => some (.item (a.items.find? f), a)
  | .deleteAll f => (a.deleteAll f).map (fun r => (.deleted r.1 r.2.1, r.2.2))
  | .forEach f => some (.num (forEachAbs f a.items 0), a)
  | .sort cmp => some (.unit, a.sort cmp)
  | .itCreate k => if (a.curOf k).isSome then none else some (.unit, a.itCreate k)
  | .itReset k => (a.itReset k).map (.unit, ·)
  | .itDestroy k => (a.itDestroy k).map (.unit, ·)
  | .next k => (a.next k).map (fun r => (.item r.1, r.2))
  | .insert k x => (a.insert k x).map (.item (some x), ·)
  | .find k f => (a.findOp k f).map (fun r => (.item r.1, r.2))
  | .remove k => (a.remove k).map (fun r => (.item r.1, r.2))
  | .delete k => (a.delete k).map (fun r => (.deleted r.1 r.2.1, r.2.2))

def Abs.run (a : Abs α) : List (Op α) → Option (List (Res α) × Abs α)
  | [] => some ([], a)
  | op :: ops =>
    match a.apply op with
    | none => none
    | some (r, a') => (Abs.run a' ops).map (fun x => (r :: x.1, x.2))

/-- the call uses iterator handles properly: a new handle is not in use, a used handle is registered -/
def Abs.okOp (a : Abs α) : Op α → Bool
  | .itCreate k => (a.curOf k).isNone
  | .itReset k => (a.curOf k).isSome
  | .itDestroy k => (a.curOf k).isSome
  | .next k => (a.curOf k).isSome
  | .insert k _ => (a.curOf k).isSome
  | .find k _ => (a.curOf k).isSome
  | .remove k => (a.curOf k).isSome
  | .delete k => (a.curOf k).isSome
  | _ => true

def Abs.okRun : Abs α → List (Op α) → Prop
  | _, [] => True
  | a, op :: ops => a.okOp op = true ∧ ∀ r a', a.apply op = some (r, a') → Abs.okRun a' ops

/-- the items a call puts into the list -/
def Op.inserted : Op α → List α
  | .append x => [x]
  | .prepend x => [x]
  | .push x => [x]
  | .enqueue x => [x]
  | .insert _ x => [x]
  | _ => []

/-- the calls that restart (or create, or destroy) the iterator with handle `k` -/
def Op.restarts (k : Nat) : Op α → Bool
  | .itReset k' => k' == k
  | .itCreate k' => k' == k
  | .itDestroy k' => k' == k
  | .sort _ => true
  | _ => false

/-- the items the iterator with handle `k` has still to return, in order -/
def Abs.ahead (a : Abs α) (k : Nat) : List α :=
  match a.curOf k with
  | some c => a.items.drop (c.1 + c.2.toNat)
  | none => []

/-- the items behind the iterator (returned already, or put behind it) -/
def Abs.behind (a : Abs α) (k : Nat) : List α :=
  match a.curOf k with
  | some c => a.items.take (c.1 + c.2.toNat)
  | none => []

/-- the item `list_remove` / `list_delete` would take: the last one behind the cursor, when the cursor remembers it -/
def Abs.removable (a : Abs α) (k : Nat) : Option α :=
  match a.curOf k with
  | some c => if c.2 then a.items[c.1]? else none
  | none => none

theorem Abs.behind_append_ahead (a : Abs α) (k : Nat) (h : (a.curOf k).isSome) : a.behind k ++ a.ahead k = a.items := by
  obtain ⟨c, hc⟩ := Option.isSome_iff_exists.mp h
  simp [Abs.behind, Abs.ahead, hc]

/-- ascending in the sense of the comparison: no item is followed (anywhere later) by a smaller one -/
def SortedBy (f : α → α → Int) (l : List α) : Prop := l.Pairwise (fun a b => f a b ≤ 0)

end Pm.LsdList
