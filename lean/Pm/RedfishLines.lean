import Pm.RedfishSetup
/-! Conservation of "lines printed + lines still owed": every message with `output` set owes the line `lab` of its plug
    (`lab` = what the rules say of that plug). -/
namespace Pm.Redfish

/-- the line printed for a waiter with `output` set whose ancestor `anc` is `s ≠ on` -/
def wline1 (anc : Nat) (s : Stat) (pm : PM) : Line :=
  if pm.cmd == .stat then Line.status pm.plug s
  else if pm.cmd == .off && s == .off then Line.ok pm.plug
  else Line.dep pm.plug pm.cmd s anc

theorem wline_eq (anc : Nat) (s : Stat) (pm : PM) : wline anc s pm = if pm.output then [wline1 anc s pm] else [] := by
  unfold wline wline1
  cases pm.output <;> simp
  repeat' split
  all_goals rfl

/-- the status a completing message hands to `process_waiters` -/
def resStat (c : Cfg) (m : M) (i : PM) : Stat := if hostFails c i.plug then .error else statStr c m i.plug
/-- the line a completing message prints for itself -/
def ownLine (c : Cfg) (m : M) (i : PM) : Line :=
  if hostFails c i.plug then .status i.plug .error
  else if i.cmd = .stat then .status i.plug (statStr c m i.plug) else .ok i.plug
/-- a power message whose command has not been "sent" yet -/
def unsent (i : PM) : Bool := decide (i.cmd ≠ .stat) && !i.waitState
/-- … and whose host answers: processing it "sends" the command and prints nothing -/
def isFresh (c : Cfg) (i : PM) : Bool := !hostFails c i.plug && unsent i
theorem sent_of_not_fresh {c : Cfg} {i : PM} (hfr : isFresh c i = false) (hf : hostFails c i.plug = false)
    (hc : i.cmd ≠ .stat) : i.waitState = true := by
  cases hh : i.waitState
  · simp [isFresh, unsent, hf, hc, hh] at hfr
  · rfl

/-- "poll again" -/
def isAgain (c : Cfg) (m : M) (i : PM) : Bool :=
  !hostFails c i.plug && decide (i.cmd ≠ .stat) && i.waitState && ((statStr c m i.plug == .on) != (i.cmd == .on))

theorem processOne_shape (c : Cfg) (m : M) (i : PM) (ho : i.cmd ≠ .stat → i.output = true) :
    processOne c m i =
      if isFresh c i then { m with st := powerSt c m.st i.cmd i.plug,
                                   delayed := m.delayed ++ [{ i with output := true, waitState := true }] }
      else if isAgain c m i then { m with delayed := m.delayed ++ [i] }
      else processWaiters c (outIf m i.output (ownLine c m i)) i.plug (resStat c m i) := by
  by_cases hf : hostFails c i.plug = true
  · rw [processOne_fail _ _ _ hf]; simp [isFresh, unsent, isAgain, hf, ownLine, resStat]
  · have hf : hostFails c i.plug = false := by simpa using hf
    by_cases hc : i.cmd = .stat
    · rw [processOne_stat _ _ _ hf hc]; simp [isFresh, unsent, isAgain, hf, hc, ownLine, resStat]
    · cases hwt : i.waitState
      · rw [processOne_fresh _ _ _ hf hc hwt]; simp [isFresh, unsent, hf, hc, hwt]
      · by_cases hs : (statStr c m i.plug == .on) = (i.cmd == .on)
        · rw [processOne_done _ _ _ hf hc hwt hs]
          simp [isFresh, unsent, isAgain, hf, hc, hwt, hs, ownLine, resStat, ho hc, outIf]
        · rw [processOne_again _ _ _ hf hc hwt hs]
          have : ((statStr c m i.plug == .on) != (i.cmd == .on)) = true := by
            cases h1 : (statStr c m i.plug == .on) <;> cases h2 : (i.cmd == .on) <;> simp_all
          simp [isFresh, unsent, isAgain, hf, hc, hwt, this]

theorem pw_shape (c : Cfg) (m : M) (a : Nat) (s : Stat) :
    ∃ qs, (processWaiters c m a s).active = m.active ++ (movedF c a s m.waiting ++ qs) ∧
      (processWaiters c m a s).delayed = m.delayed ∧ (processWaiters c m a s).st = m.st ∧
      (processWaiters c m a s).out = m.out ++ linesF c a s m.waiting ∧
      (processWaiters c m a s).waiting = keepF c a s m.waiting ∧
      (∀ q ∈ qs, s = .on ∧ ∃ w ∈ m.waiting, a ∈ ancUp c w.plug ∧ parentOf c w.plug ≠ some a ∧
        q = query (childOf c w.plug a) ∧
        plugActive { m with active := m.active ++ movedF c a .on m.waiting } (childOf c w.plug a) w.cmd = false) := by
  rw [processWaiters_eq']
  by_cases hs : s = .on
  · subst hs
    simp only [ne_eq, not_true_eq_false, if_false]
    obtain ⟨qs, e, hq1, _⟩ := pass2_fold c a (keepF c a .on m.waiting) (afterPass1 c m a .on)
    rw [e]
    refine ⟨qs, by simp [afterPass1], rfl, rfl, rfl, rfl, ?_⟩
    intro j hj
    obtain ⟨w, hwk, hd, rfl, hpa⟩ := hq1 j hj
    have := mem_keepF_on.1 hwk
    refine ⟨trivial, w, this.1, isDesc_iff.1 hd, this.2 (isDesc_iff.1 hd), rfl, ?_⟩
    unfold plugActive at hpa ⊢
    simpa [afterPass1] using hpa
  · simp only [hs, ne_eq, not_false_eq_true, if_true]
    have hmv : movedF c a s m.waiting = [] := by simp [movedF, hs]
    exact ⟨[], by simp [afterPass1, hmv], rfl, rfl, rfl, rfl, by simp⟩

section
variable (lab : Nat → Line)

/-- how often the line `x` has been printed -/
def printed (x : Line) (out : List Line) : Nat := out.countP (fun L => L == x)
/-- how many messages of `l` still owe the line `x` -/
def owed (x : Line) (l : List PM) : Nat := l.countP (fun i => i.output && lab i.plug == x)
/-- the books for the line `x`: printed, plus owed by the messages still to run (`todo`), delayed and waiting -/
def total (x : Line) (todo : List PM) (m : M) : Nat := printed x m.out + owed lab x todo + owed lab x m.delayed + owed lab x m.waiting

theorem printed_append (x : Line) (a b : List Line) : printed x (a ++ b) = printed x a + printed x b := by
  simp [printed, List.countP_append]
theorem owed_append (x : Line) (a b : List PM) : owed lab x (a ++ b) = owed lab x a + owed lab x b := by
  simp [owed, List.countP_append]

theorem owed_split (x : Line) (q : PM → Bool) (l : List PM) :
    owed lab x l = owed lab x (l.filter q) + owed lab x (l.filter (fun a => !q a)) := by
  unfold owed; exact List.countP_eq_countP_filter_add _ _ _

theorem printed_linesF {c : Cfg} (x : Line) (a : Nat) (s : Stat) (ws : List PM)
    (H : ∀ w ∈ ws, a ∈ ancUp c w.plug → w.output = true → (wline1 a s w) = lab w.plug) :
    printed x ((ws.filter (descB c a)).flatMap (wline a s)) = owed lab x (ws.filter (descB c a)) := by
  induction ws with
  | nil => simp [printed, owed]
  | cons w ws ih =>
    have ih := ih (fun w' hw' => H w' (List.mem_cons_of_mem _ hw'))
    by_cases hd : descB c a w = true
    · rw [List.filter_cons_of_pos hd, List.flatMap_cons, printed_append, ih]
      have hoc : owed lab x (w :: ws.filter (descB c a)) =
          (if (w.output && lab w.plug == x) = true then 1 else 0) + owed lab x (ws.filter (descB c a)) := by
        unfold owed; rw [List.countP_cons]; omega
      rw [hoc, wline_eq]
      cases ho : w.output
      · simp [printed]
      · have := H w (by simp) (isDesc_iff.1 hd) ho
        simp [printed, this]
    · rw [List.filter_cons_of_neg hd]; exact ih

theorem pw_books {c : Cfg} (x : Line) (m : M) (a : Nat) (s : Stat)
    (H : s ≠ .on → ∀ w ∈ m.waiting, a ∈ ancUp c w.plug → w.output = true → (wline1 a s w) = lab w.plug) :
    ∃ added, (processWaiters c m a s).active = m.active ++ added ∧
      (processWaiters c m a s).delayed = m.delayed ∧ (processWaiters c m a s).st = m.st ∧
      (∀ j ∈ added, j ∈ m.waiting ∨ j.cmd = .stat) ∧
      (∀ w ∈ (processWaiters c m a s).waiting, w ∈ m.waiting) ∧
      printed x (processWaiters c m a s).out + owed lab x added + owed lab x (processWaiters c m a s).waiting
        = printed x m.out + owed lab x m.waiting := by
  obtain ⟨qs, e1, e2, e3, e4, e5, e6⟩ := pw_shape c m a s
  have hqs : owed lab x qs = 0 := by
    unfold owed; rw [List.countP_eq_zero]
    intro q hq; obtain ⟨_, w, _, _, _, rfl, _⟩ := e6 q hq; simp [query]
  refine ⟨movedF c a s m.waiting ++ qs, e1, e2, e3, ?_, ?_, ?_⟩
  · intro j hj
    rcases List.mem_append.1 hj with hj | hj
    · exact Or.inl (mem_movedF.1 hj).2.1
    · obtain ⟨_, w, _, _, _, rfl, _⟩ := e6 j hj; exact Or.inr rfl
  · rw [e5]; intro w hwk; exact keepF_sub hwk
  · rw [e4, e5, printed_append, owed_append, hqs]
    by_cases hs : s = .on
    · subst hs
      have := owed_split lab x (fun pm => descB c a pm && directB c a pm) m.waiting
      simp only [keepF, movedF, linesF, printed, ne_eq, not_true_eq_false, if_false, List.countP_nil]
      omega
    · simp only [linesF, keepF, movedF, hs, ne_eq, not_false_eq_true, if_true]
      rw [printed_linesF lab x a s m.waiting (H hs)]
      have := owed_split lab x (descB c a) m.waiting
      simp [owed] at this ⊢
      omega

/-- books across one `processOne`; `todo` = the not yet processed part of the active list behind `i` -/
theorem one_books {c : Cfg} (x : Line) (m : M) (i : PM) (P todo : List PM) (hact : m.active = P ++ i :: todo)
    (ho : i.cmd ≠ .stat → i.output = true)
    (Hown : isFresh c i = false → isAgain c m i = false → i.output = true → (ownLine c m i) = lab i.plug)
    (Hw : isFresh c i = false → isAgain c m i = false → resStat c m i ≠ .on →
      ∀ w ∈ m.waiting, i.plug ∈ ancUp c w.plug → w.output = true → (wline1 i.plug (resStat c m i) w) = lab w.plug) :
    ∃ added, (processOne c m i).active = P ++ i :: (todo ++ added) ∧
      (∀ j ∈ added, j ∈ m.waiting ∨ j.cmd = .stat) ∧
      (∀ w ∈ (processOne c m i).waiting, w ∈ m.waiting) ∧
      total lab x (todo ++ added) (processOne c m i) = total lab x (i :: todo) m := by
  rw [processOne_shape c m i ho]
  by_cases hfr : isFresh c i = true
  · simp only [hfr, if_true]
    refine ⟨[], by simp [hact], by simp, fun w h => h, ?_⟩
    have hc : i.cmd ≠ .stat := by simp [isFresh, unsent] at hfr; exact hfr.2.1
    simp [total, owed, List.countP_cons, List.countP_append, ho hc]
    omega
  · have hfr : isFresh c i = false := by simpa using hfr
    by_cases hag : isAgain c m i = true
    · simp only [hfr, hag, if_true, Bool.false_eq_true, if_false]
      refine ⟨[], by simp [hact], by simp, fun w h => h, ?_⟩
      simp [total, owed, List.countP_cons, List.countP_append]
      omega
    · have hag : isAgain c m i = false := by simpa using hag
      simp only [hfr, hag, Bool.false_eq_true, if_false]
      have hm' : (outIf m i.output (ownLine c m i)).waiting = m.waiting := by cases i.output <;> rfl
      obtain ⟨added, e1, e2, e3, e4, e5, e6⟩ := pw_books lab (c := c) x (outIf m i.output (ownLine c m i)) i.plug
        (resStat c m i) (by rw [hm']; exact Hw hfr hag)
      refine ⟨added, ?_, ?_, ?_, ?_⟩
      · rw [e1]; cases i.output <;> simp [outIf, hact]
      · rw [hm'] at e4; exact e4
      · rw [hm'] at e5; exact e5
      · unfold total
        rw [e2, owed_append]
        have hd : (outIf m i.output (ownLine c m i)).delayed = m.delayed := by cases i.output <;> rfl
        rw [hd]
        rw [hm'] at e6
        have hout : printed x (outIf m i.output (ownLine c m i)).out =
            printed x m.out + (if (i.output && lab i.plug == x) = true then 1 else 0) := by
          cases hio : i.output
          · simp [outIf]
          · have := Hown hfr hag hio
            simp [outIf, printed, List.countP_append, this]
        have hoc : owed lab x (i :: todo) = (if (i.output && lab i.plug == x) = true then 1 else 0) + owed lab x todo := by
          unfold owed; rw [List.countP_cons]; omega
        rw [hoc]
        omega

/-! ### the books across the whole loop, for any invariant that justifies the printed lines -/

/-- The shape of a loop invariant `Inv P rest new m`: of the batch the shell loop is working through, `P` is processed and
    `rest` is still to come; `new` has been appended to the active list meanwhile and runs in the next round
    (`m.active = P ++ rest ++ new`).  `RoundStart Inv m`: the invariant as a round starts — nothing processed, the delayed
    messages taken into the batch, as `runLoop` does. -/
def RoundStart (Inv : List PM → List PM → List PM → M → Prop) (m : M) : Prop :=
  Inv [] (m.active ++ m.delayed) [] { m with active := m.active ++ m.delayed, delayed := [] }

/-- what a loop invariant has to provide for the books to balance with the lines `lab` -/
structure Justifies (c : Cfg) (Inv : List PM → List PM → List PM → M → Prop) : Prop where
  act : ∀ P rest new m, Inv P rest new m → m.active = P ++ rest ++ new
  outp : ∀ P i rest new m, Inv P (i :: rest) new m → i.cmd ≠ .stat → i.output = true
  own : ∀ P i rest new m, Inv P (i :: rest) new m → isFresh c i = false → isAgain c m i = false →
    i.output = true → (ownLine c m i) = lab i.plug
  waiters : ∀ P i rest new m, Inv P (i :: rest) new m → isFresh c i = false → isAgain c m i = false →
    resStat c m i ≠ .on → ∀ w ∈ m.waiting, i.plug ∈ ancUp c w.plug → w.output = true →
      (wline1 i.plug (resStat c m i) w) = lab w.plug
  step : ∀ P i rest new m, Inv P (i :: rest) new m → ∃ new', Inv (P ++ [i]) rest new' (processOne c m i)
  turn : ∀ P new m, Inv P [] new m →
    Inv [] (new ++ m.delayed) [] { m with active := new ++ m.delayed, delayed := [] }

theorem fold_books {c : Cfg} {Inv : List PM → List PM → List PM → M → Prop} (J : Justifies lab c Inv)
    (rest : List PM) : ∀ (P new : List PM) (m : M), Inv P rest new m →
    ∃ new', Inv (P ++ rest) [] new' (rest.foldl (fun m pm => processOne c m pm) m) ∧
      ∀ x, total lab x new' (rest.foldl (fun m pm => processOne c m pm) m) = total lab x (rest ++ new) m := by
  induction rest with
  | nil => intro P new m h; exact ⟨new, by simpa using h, fun _ => by simp⟩
  | cons i rest ih =>
    intro P new m h
    have hact := J.act _ _ _ _ h
    obtain ⟨new', h'⟩ := J.step _ _ _ _ _ h
    have hact' := J.act _ _ _ _ h'
    obtain ⟨new'', h'', e''⟩ := ih (P ++ [i]) new' _ h'
    refine ⟨new'', by simpa using h'', fun x => ?_⟩
    obtain ⟨added, e1, _, _, e4⟩ := one_books lab (c := c) x m i P (rest ++ new) (by simp [hact])
      (J.outp _ _ _ _ _ h) (J.own _ _ _ _ _ h) (J.waiters _ _ _ _ _ h)
    have hn : new' = new ++ added := by
      rw [hact'] at e1
      have : P ++ (i :: (rest ++ new')) = P ++ (i :: (rest ++ (new ++ added))) := by simpa using e1
      have := List.append_cancel_left this
      simp at this
      exact this
    rw [List.foldl_cons, e'' x, hn, ← List.append_assoc, e4]
    simp

theorem round_books {c : Cfg} {Inv : List PM → List PM → List PM → M → Prop} (J : Justifies lab c Inv)
    (m : M) (h : RoundStart Inv m) :
    RoundStart Inv (roundM c m) ∧ ∀ x, total lab x (roundM c m).active (roundM c m) = total lab x m.active m := by
  obtain ⟨new', h1, e1⟩ := fold_books lab J (m.active ++ m.delayed) [] [] _ h
  unfold RoundStart roundM
  simp only
  generalize List.foldl (fun m pm => processOne c m pm) { m with active := m.active ++ m.delayed, delayed := [] }
    (m.active ++ m.delayed) = m' at h1 e1
  have hact := J.act _ _ _ _ h1
  simp only [List.nil_append, List.append_nil] at hact
  simp only [hact, List.drop_left]
  refine ⟨J.turn _ _ _ h1, fun x => ?_⟩
  have e1 := e1 x
  simp only [total, owed_append] at e1 ⊢
  simp [owed] at e1 ⊢
  omega

theorem loop_books {c : Cfg} {Inv : List PM → List PM → List PM → M → Prop} (J : Justifies lab c Inv) :
    ∀ (f : Nat) (m : M), RoundStart Inv m →
    RoundStart Inv (runLoop c f m) ∧
    ∀ x, total lab x (runLoop c f m).active (runLoop c f m) = total lab x m.active m := by
  intro f
  induction f with
  | zero => intro m h; exact ⟨h, fun _ => rfl⟩
  | succ f ih =>
    intro m h
    rw [runLoop_succ]
    split
    · exact ⟨h, fun _ => rfl⟩
    · have := round_books lab J m h
      exact ⟨(ih _ this.1).1, fun x => by rw [(ih _ this.1).2 x, this.2 x]⟩

end

end Pm.Redfish
