import Pm.FrameCli
/-! Two runs that differ in one device: the device phase of one pass on the worlds any client phase leaves (`TwoRun.DevHyps`,
    `TwoRun.pass_gen_g`); its case of a quiet client phase (`PassHyps`, `pass_rel_step`): the relation `PassRel` is re-established
    by every such pass, hence kept over any number of them (`passes_rel`). -/
namespace Pm.Daemon
open Pm Pm.Client
open Pm.Dev2 (Oracle Dev Action SAgree QOn QOff ActsOK NoMis withArgs)

theorem strip_acts {nd nd' : Bytes × Dev} (h : strip nd = strip nd') : nd.2.acts = nd'.2.acts := by
  have h2 : withArgs nd.2 [] = withArgs nd'.2 [] := congrArg Prod.snd h
  have := congrArg Dev.acts h2; exact this

theorem strip_plugs {nd nd' : Bytes × Dev} (h : strip nd = strip nd') : nd.2.plugs = nd'.2.plugs := by
  have h2 : withArgs nd.2 [] = withArgs nd'.2 [] := congrArg Prod.snd h
  have := congrArg Dev.plugs h2; exact this

theorem DevsRel.take {j : Nat} {l l' : List (Bytes × Dev)} (h : DevsRel j l l') : (l.take j).map strip = (l'.take j).map strip := by
  apply List.ext_getElem?
  intro i
  rw [List.getElem?_map, List.getElem?_map, List.getElem?_take, List.getElem?_take]
  by_cases hi : i < j
  · simp only [hi, ↓reduceIte]; exact h.2 i (by omega)
  · simp only [hi, ↓reduceIte]

theorem DevsRel.drop {j : Nat} {l l' : List (Bytes × Dev)} (h : DevsRel j l l') :
    (l.drop (j + 1)).map strip = (l'.drop (j + 1)).map strip := by
  apply List.ext_getElem?
  intro i
  rw [List.getElem?_map, List.getElem?_map, List.getElem?_drop, List.getElem?_drop]
  exact h.2 (j + 1 + i) (by omega)

theorem split_at (l : List (Bytes × Dev)) (j : Nat) (hj : j < l.length) :
    l = l.take j ++ l[j] :: l.drop (j + 1) ∧ (l.take j).length = j := by
  constructor
  · conv => lhs; rw [← List.take_append_drop j l]
    congr 1
    exact List.drop_eq_getElem_cons hj
  · simp; omega

theorem mem_split_index {pre post : List (Bytes × Dev)} {B nd : Bytes × Dev} (h : nd ∈ pre ++ post) :
    ∃ i, i ≠ pre.length ∧ (pre ++ B :: post)[i]? = some nd := by
  rw [List.mem_append] at h
  rcases h with h | h
  · obtain ⟨i, hi, he⟩ := List.getElem_of_mem h
    refine ⟨i, by omega, ?_⟩
    rw [List.getElem?_append_left hi, List.getElem?_eq_getElem hi, he]
  · obtain ⟨i, hi, he⟩ := List.getElem_of_mem h
    refine ⟨pre.length + (i + 1), by omega, ?_⟩
    rw [List.getElem?_append_right (by omega)]
    simp [List.getElem?_eq_getElem hi, he]

/-- what is assumed of one pass (inputs `p`, `p'`; oracle answers `xp ++ xB ++ xq` resp. `xp ++ xB' ++ xq`) -/
structure PassHyps (Q : Bytes → Bool) (g j : Nat) (w w' : W) (p p' : PassIn) (xp xB xB' xq : List Pm.Dev2.RxCall) : Prop where
  j_lt : j < w.devs.length
  acc : p.acc = 0
  acc' : p'.acc = 0
  quiet : ∀ c ∈ w.clients, QuietCli p.envs c
  quiet' : ∀ c ∈ w'.clients, QuietCli p'.envs c
  uniq : UniqueIds w.clients
  uniq' : UniqueIds w'.clients
  clock : SameClock p p'
  hx : w.pendingX = xp ++ (xB ++ xq)
  hx' : w'.pendingX = xp ++ (xB' ++ xq)
  others : ∀ i nd, i ≠ j → w.devs[i]? = some nd → SameEvents p p' nd ∧ QOn Q nd.2 ∧ ActsOK Q nd.2.acts
  g0 : g ≠ 0
  hB : ∀ B, w.devs[j]? = some B → (∀ x ∈ B.2.acts, x.clientId ≠ g) ∧ QOff Q B.2 ∧
    ExactOn p ((w.devs.take j).foldl (devPass p) (acc0 (cliPostPoll w p.acc p.envs))) [B] xB
  hB' : ∀ B', w'.devs[j]? = some B' → (∀ x ∈ B'.2.acts, x.clientId ≠ g) ∧ QOff Q B'.2 ∧
    ExactOn p' ((w'.devs.take j).foldl (devPass p') (acc0 (cliPostPoll w' p'.acc p'.envs))) [B'] xB'
  alive : (w.devs.foldl (devPass p) (acc0 (cliPostPoll w p.acc p.envs))).dead = false
  alive' : (w'.devs.foldl (devPass p') (acc0 (cliPostPoll w' p'.acc p'.envs))).dead = false
  E1 : ExactOn p (acc0 (cliPostPoll w p.acc p.envs)) (w.devs.take j) xp
  E1' : ExactOn p' (acc0 (cliPostPoll w' p'.acc p'.envs)) (w'.devs.take j) xp
  c1 : (accAt p (acc0 (cliPostPoll w p.acc p.envs)) w.devs (j + 1)).w.nsock = (accAt p' (acc0 (cliPostPoll w' p'.acc p'.envs)) w'.devs (j + 1)).w.nsock
  c2 : (accAt p (acc0 (cliPostPoll w p.acc p.envs)) w.devs (j + 1)).w.npair = (accAt p' (acc0 (cliPostPoll w' p'.acc p'.envs)) w'.devs (j + 1)).w.npair
  c3 : (accAt p (acc0 (cliPostPoll w p.acc p.envs)) w.devs (j + 1)).w.nfork = (accAt p' (acc0 (cliPostPoll w' p'.acc p'.envs)) w'.devs (j + 1)).w.nfork

theorem accAt_succ_getElem (p : PassIn) (a : DevAcc) (l : List (Bytes × Dev)) (j : Nat) (hj : j < l.length) :
    accAt p a l (j + 1) = devPass p ((l.take j).foldl (devPass p) a) l[j] := by
  unfold accAt
  rw [List.take_succ_eq_append_getElem hj, List.foldl_append]
  rfl

/-! `DevHyps` and `pass_gen_g` are the device phase of `Pm/TwoRunC05.lean` (namespace `TwoRun`); they stand here because the pass
    with a quiet client phase, `pass_rel_step` below, is their instance. -/
namespace TwoRun

/-- what is assumed of the device phase of one pass, stated on the worlds `w0`, `w0'` the client phase leaves (`PassHyps` is
    the case of a quiet client phase): same clock; the devices other than `B` have the same events, sit on `Q`-nodes and carry `Q`-plugs in
    their actions; `Q` contains no node of `B`; the regex answers are segmented
    `xp ++ xB ++ xq` / `xp ++ xB' ++ xq`; `B` is handed the same number of new descriptors in both runs; no modelled `assert`.
    No field reads `F` (the descriptors of the clients that are not tracked): it is a parameter so that `DevHyps Q F j` stands
    beside `CliHyps F PB` and `MRel Q F j PB` with the same arguments. -/
structure DevHyps (Q : Bytes → Bool) (F : Nat → Bool) (j : Nat) (w0 w0' : W) (p p' : PassIn) (xp xB xB' xq : List Pm.Dev2.RxCall) : Prop where
  j_lt : j < w0.devs.length
  ex : w0.exited = false
  clock : SameClock p p'
  hx : w0.pendingX = xp ++ (xB ++ xq)
  hx' : w0'.pendingX = xp ++ (xB' ++ xq)
  others : ∀ i nd, i ≠ j → w0.devs[i]? = some nd → SameEvents p p' nd ∧ QOn Q nd.2 ∧ ActsOK Q nd.2.acts
  hB : ∀ B, w0.devs[j]? = some B → QOff Q B.2 ∧ ExactOn p ((w0.devs.take j).foldl (devPass p) (acc0 w0)) [B] xB
  hB' : ∀ B', w0'.devs[j]? = some B' → QOff Q B'.2 ∧ ExactOn p' ((w0'.devs.take j).foldl (devPass p') (acc0 w0')) [B'] xB'
  alive : (w0.devs.foldl (devPass p) (acc0 w0)).dead = false
  alive' : (w0'.devs.foldl (devPass p') (acc0 w0')).dead = false
  E1 : ExactOn p (acc0 w0) (w0.devs.take j) xp
  E1' : ExactOn p' (acc0 w0') (w0'.devs.take j) xp
  c1 : (accAt p (acc0 w0) w0.devs (j + 1)).w.nsock = (accAt p' (acc0 w0') w0'.devs (j + 1)).w.nsock
  c2 : (accAt p (acc0 w0) w0.devs (j + 1)).w.npair = (accAt p' (acc0 w0') w0'.devs (j + 1)).w.npair
  c3 : (accAt p (acc0 w0) w0.devs (j + 1)).w.nfork = (accAt p' (acc0 w0') w0'.devs (j + 1)).w.nfork

/-- the device phase for one client id `g` that has the same record in `w0` and `w0'` and nothing queued on `B` -/
theorem pass_gen_g (Q : Bytes → Bool) (F : Nat → Bool) (g j : Nat) (w w' : W) (p p' : PassIn) (xp xB xB' xq : List Pm.Dev2.RxCall)
    (w0 w0' : W) (hw0 : cliPostPoll w p.acc p.envs = w0) (hw0' : cliPostPoll w' p'.acc p'.envs = w0')
    (hex : w0.exited = false) (hex' : w0'.exited = false)
    (hcli : cliRec w0 g = cliRec w0' g) (hgok : GOk Q w0 g) (hst : SAgree Q w0.store w0'.store)
    (hn1 : w0.nsock = w0'.nsock) (hn2 : w0.npair = w0'.npair) (hn3 : w0.nfork = w0'.nfork)
    (hdv : DevsRel j w0.devs w0'.devs) (h : DevHyps Q F j w0 w0' p p' xp xB xB' xq) (hg : g ≠ 0)
    (hq : ∀ B, w0.devs[j]? = some B → ∀ x ∈ B.2.acts, x.clientId ≠ g)
    (hq' : ∀ B', w0'.devs[j]? = some B' → ∀ x ∈ B'.2.acts, x.clientId ≠ g) :
    PassRel Q g j (daemonPass w p).1 (daemonPass w' p').1 := by
  have hj := h.j_lt
  have hj' : j < w0'.devs.length := hdv.1 ▸ h.j_lt
  obtain ⟨hs, hpl⟩ := split_at w0.devs j h.j_lt
  obtain ⟨hs', -⟩ := split_at w0'.devs j hj'
  obtain ⟨hQ, E2⟩ := h.hB _ (List.getElem?_eq_getElem h.j_lt)
  obtain ⟨hQ', E2'⟩ := h.hB' _ (List.getElem?_eq_getElem hj')
  have halive := h.alive
  have halive' := h.alive'
  rw [hs] at halive
  rw [hs'] at halive'
  have c1 := h.c1
  have c2 := h.c2
  have c3 := h.c3
  rw [accAt_succ_getElem _ _ _ _ hj, accAt_succ_getElem _ _ _ _ hj'] at c1 c2 c3
  have hothers : ∀ nd ∈ w0.devs.take j ++ w0.devs.drop (j + 1), SameEvents p p' nd ∧ QOn Q nd.2 ∧ ActsOK Q nd.2.acts := by
    intro nd hnd
    obtain ⟨i, hi, he⟩ := mem_split_index (B := w0.devs[j]) hnd
    rw [← hs] at he
    exact h.others i nd (by omega) he
  exact hpl ▸ pass_rel_core hw0 hw0' hex hex' hs hs'
    { sameBefore := hdv.take, sameBehind := hdv.drop, clock := h.clock, core := .acc0 hcli hgok hst, fresh := rfl
      nsock := hn1, npair := hn2, nfork := hn3, calls := h.hx, calls' := h.hx', others := hothers, g0 := hg
      noG := hq _ (List.getElem?_eq_getElem h.j_lt), noG' := hq' _ (List.getElem?_eq_getElem hj'), off := hQ, off' := hQ'
      alive := halive, alive' := halive', E1 := h.E1, E1' := h.E1', E2 := E2, E2' := E2', c1 := c1, c2 := c2, c3 := c3 }

end TwoRun

theorem pass_rel_step (Q : Bytes → Bool) (g j : Nat) (w w' : W) (p p' : PassIn) (xp xB xB' xq : List Pm.Dev2.RxCall)
    (hr : PassRel Q g j w w') (h : PassHyps Q g j w w' p p' xp xB xB' xq) :
    PassRel Q g j (daemonPass w p).1 (daemonPass w' p').1 := by
  have e0 := cliPostPoll_quiet w p.acc p.envs h.acc h.quiet h.uniq
  have e0' := cliPostPoll_quiet w' p'.acc p'.envs h.acc' h.quiet' h.uniq'
  -- what the quiet client phase leaves differs from `w`, `w'` in `sys` and `caps` only, which neither `PassRel` nor `DevHyps` reads:
  -- their fields are those of `hr` and `h`, with the accumulators of `h` rewritten to it
  exact TwoRun.pass_gen_g Q (fun _ => false) g j w w' p p' xp xB xB' xq _ _ e0 e0' hr.ex hr.ex' hr.cli hr.gok hr.store hr.nsock
    hr.npair hr.nfork hr.devs
    { j_lt := h.j_lt, ex := hr.ex, clock := h.clock, hx := h.hx, hx' := h.hx', others := h.others
      hB := fun B hB => (e0 ▸ (h.hB B hB).2 :), hB' := fun B hB => (e0' ▸ (h.hB' B hB).2 :)
      alive := (e0 ▸ h.alive :), alive' := (e0' ▸ h.alive' :), E1 := (e0 ▸ h.E1 :), E1' := (e0' ▸ h.E1' :)
      c1 := (e0 ▸ e0' ▸ h.c1 :), c2 := (e0 ▸ e0' ▸ h.c2 :), c3 := (e0 ▸ e0' ▸ h.c3 :) }
    h.g0 (fun B hB => (h.hB B hB).1) (fun B hB => (h.hB' B hB).1)

/-- the driver records the regex answers for the next pass (the `X` lines of the harness) -/
def withX (w : W) (xs : List Pm.Dev2.RxCall) : W := { w with pendingX := xs }

/-- the world after the passes `ps`, each given with the regex answers recorded for it -/
def passes (w : W) (ps : List (PassIn × List Pm.Dev2.RxCall)) : W := ps.foldl (fun w px => (daemonPass (withX w px.2) px.1).1) w

/-- the relation does not read the pending regex answers (`withX` overwrites them, `feed` of `Pm/RunX.lean` appends to them) -/
theorem PassRel.withX {Q : Bytes → Bool} {g j : Nat} {w w' : W} (h : PassRel Q g j w w') (xs xs' : List Pm.Dev2.RxCall) :
    PassRel Q g j { w with pendingX := xs } { w' with pendingX := xs' } :=
  ⟨h.cli, h.gok, h.store, h.nsock, h.npair, h.nfork, h.devs, h.ex, h.ex'⟩

/-- every pass of the two runs satisfies `PassHyps` (with its own inputs, oracle answers and their segmentation), over the run
    `passes`.  The same for the shared run `runX` is `AlongX (GoodX Q g j)` (`Pm/RunX.lean`, `Pm/RunXC05.lean`: `goodRun_to_X`). -/
inductive GoodRun (Q : Bytes → Bool) (g j : Nat) : W → W → List ((PassIn × List Pm.Dev2.RxCall) × (PassIn × List Pm.Dev2.RxCall)) → Prop
  | nil (w w' : W) : GoodRun Q g j w w' []
  | cons (w w' : W) (p p' : PassIn) (xs xs' : List Pm.Dev2.RxCall)
      (rest : List ((PassIn × List Pm.Dev2.RxCall) × (PassIn × List Pm.Dev2.RxCall))) (xp xB xB' xq : List Pm.Dev2.RxCall) :
      PassHyps Q g j (withX w xs) (withX w' xs') p p' xp xB xB' xq →
      GoodRun Q g j (daemonPass (withX w xs) p).1 (daemonPass (withX w' xs') p').1 rest →
      GoodRun Q g j w w' (((p, xs), (p', xs')) :: rest)

theorem passes_rel (Q : Bytes → Bool) (g j : Nat) (w w' : W)
    (l : List ((PassIn × List Pm.Dev2.RxCall) × (PassIn × List Pm.Dev2.RxCall)))
    (hr : PassRel Q g j w w') (h : GoodRun Q g j w w' l) :
    PassRel Q g j (passes w (l.map (·.1))) (passes w' (l.map (·.2))) := by
  induction h with
  | nil w w' => exact hr
  | cons w w' p p' xs xs' rest xp xB xB' xq hp _ ih =>
    simp only [passes, List.map_cons, List.foldl_cons] at ih ⊢
    exact ih (pass_rel_step Q g j _ _ p p' xp xB xB' xq (hr.withX xs xs') hp)

end Pm.Daemon
