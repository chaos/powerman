import Pm.RfCmdProof
import Pm.RoundTrip
import Pm.CreateR
/-! # The plug list and the plug map of redfishpower stay in step (`Link`), for plug names that survive being parsed again

`plugs.c` keeps an ordered hostlist (`plugs_name_valid`, `stat` without arguments) and a hash map (everything else).
`plugs_add` pushes the NAME through `hostlist_push`, i.e. parses it again as a hostlist expression.  For names without
separators and brackets (`LegalName`) that is `hostlist_push_host`, and the two structures hold the same names; then every
state reachable through such lines satisfies `Linked`, which is what `powerCmd_resolved` needs. -/
namespace Pm.RfCmd
open Pm
open Pm.Daemon (createR CR)

theorem tokens_legal (n : Name) (h : LegalName n) : tokens n = [n] := by
  unfold tokens
  have := tokens_go_plain n h.2 [] [] []
  rw [List.append_nil] at this
  rw [this, tokens_go_nil]
  have hne : n ≠ [] := h.1
  simp [hne]

theorem legal_no_bracket (n : Name) (h : LegalName n) : '[' ∉ n ∧ ']' ∉ n := by
  constructor
  · intro hm; exact (legalChar_spec (h.2 _ hm)).1 rfl
  · intro hm; exact (legalChar_spec (h.2 _ hm)).2.1 rfl

theorem createR_legal (n : Name) (h : LegalName n) : createR n = .ok (pushHost [] n) := by
  obtain ⟨h1, h2⟩ := legal_no_bracket n h
  unfold createR
  rw [tokens_legal n h]
  simp only [List.foldl_cons, List.foldl_nil]
  rw [splitOnFirst_miss '[' n h1]
  have : n.contains ']' = false := by
    cases hc : n.contains ']' with
    | false => rfl
    | true => exact absurd (by simpa using hc) h2
  simp only [this, Bool.false_eq_true, if_false]

theorem hlCreate_legal (n : Name) (h : LegalName n) : hlCreate n = some (pushHost [] n) := by
  unfold hlCreate; rw [createR_legal n h]

theorem pushRange_nil (r : HostRange) : pushRange [] r = [r] := by
  unfold pushRange; simp

theorem nameRange_count (n : Name) : (nameRange n).count = 1 := by
  rcases nameRange_cases n with e | ⟨_, _, e⟩ <;> rw [e]
  · rfl
  · exact congrArg (· + 1) (Nat.sub_self _)

/-- `hostlist_push(hl, name)` for a legal name is `hostlist_push_host` and pushes one host -/
theorem hlPush_legal (hl : Hostlist) (n : Name) (h : LegalName n) : hlPush hl n = (pushHost hl n, 1) := by
  unfold hlPush
  rw [hlCreate_legal n h]
  simp only [pushHost_eq [] n, pushRange_nil, List.foldl_cons, List.foldl_nil, hlCount, List.map_cons, List.map_nil,
    List.sum_cons, List.sum_nil, nameRange_count, pushHost_eq hl n, Nat.add_zero]

/-- `hostlist_delete(hl, name)` for a legal name is `hostlist_delete_host` -/
theorem hlDelete_legal (hl : Hostlist) (n : Name) (h : LegalName n) : hlDelete hl n = (deleteHost hl n).1 := by
  unfold hlDelete
  rw [hlCreate_legal n h]
  have : expand (pushHost [] n) = [n] := by
    rw [expand_pushHost' [] n (fun t ht => by simp at ht)]; simp [expand_nil]
  simp only [this, List.reverse_cons, List.reverse_nil, List.nil_append, List.foldl_cons, List.foldl_nil]

/-- list and map in step, in the form every line keeps: the plug list is well-formed, built by `hostlist_push_host`, free
    of duplicates, and holds exactly the names the map holds -/
def Link (s : State) : Prop :=
  HWF s.plugs ∧ HPushed s.plugs ∧ (expand s.plugs).Nodup ∧
  (∀ n ∈ expand s.plugs, n ∈ s.plugMap.map (·.1)) ∧ (∀ n ∈ s.plugMap.map (·.1), n ∈ expand s.plugs)

instance (r : HostRange) : Decidable r.Pushed := by unfold HostRange.Pushed; exact inferInstance
instance (s : State) : Decidable (Link s) := by unfold Link HWF HPushed; exact inferInstance

theorem Link.linkedD {s : State} (h : Link s) : LinkedD s := by
  obtain ⟨_, hpu, _, h1, h2⟩ := h
  exact ⟨hpu, h1, h2⟩
theorem Link.linked {s : State} (h : Link s) : Linked s := h.linkedD.linked

theorem Link.find_iff {s : State} (h : Link s) (n : Name) : (find s.plugs n).isSome = true ↔ n ∈ expand s.plugs :=
  h.linkedD.find_iff n

theorem mapDelete_keys (m : PlugMap) (n : Name) : (mapDelete m n).map (·.1) = (m.map (·.1)).filter (fun k => k ≠ n) := by
  unfold mapDelete
  induction m with
  | nil => rfl
  | cons e r ih =>
    simp only [List.filter_cons, List.map_cons]
    by_cases he : e.1 = n
    · simp only [he, ne_eq, not_true_eq_false, decide_false, Bool.false_eq_true, if_false]; exact ih
    · simp only [he, ne_eq, not_false_eq_true, decide_true, if_true, List.map_cons]; rw [ih]

theorem plugsAdd_Link {s s' : State} {p host : Name} {i : Nat} {par : Option Name} (h : Link s) (hp : LegalName p)
    (ha : plugsAdd s p host i par = some s') : Link s' := by
  obtain ⟨hwf, hpu, hnd, h1, h2⟩ := h
  unfold plugsAdd at ha
  simp only at ha
  by_cases hf : (find s.plugs p).isNone = true
  · rw [if_pos hf, hlPush_legal s.plugs p hp] at ha
    simp only [Nat.succ_ne_zero, if_false] at ha
    cases ha
    have hnot : p ∉ expand s.plugs := by
      intro hm
      have := (Link.find_iff ⟨hwf, hpu, hnd, h1, h2⟩ p).mpr hm
      cases hfi : find s.plugs p with
      | none => rw [hfi] at this; cases this
      | some i => rw [hfi] at hf; cases hf
    have hlk : s.plugMap.lookup p = none := by
      cases hl : s.plugMap.lookup p with
      | none => rfl
      | some v =>
        have : p ∈ s.plugMap.map (·.1) := (lookup_isSome_iff_mem_keys _ _).mp (by rw [hl]; rfl)
        exact absurd (h2 p this) hnot
    have hexp : expand (pushHost s.plugs p) = expand s.plugs ++ [p] := expand_pushHost' s.plugs p hwf
    have hkeys : (mapUpdate s.plugMap p { plugname := p, hostname := host, hostIdx := i, parent := par }).map (·.1) =
        s.plugMap.map (·.1) ++ [p] := by rw [mapUpdate_keys, hlk]; simp
    refine ⟨pushHost_HWF _ _ hwf, pushHost_HPushed _ _ hpu, ?_, ?_, ?_⟩
    · show (expand (pushHost s.plugs p)).Nodup
      rw [hexp, List.nodup_append]
      refine ⟨hnd, by simp, ?_⟩
      intro a ha b hb
      simp at hb; subst hb
      intro e; subst e; exact hnot ha
    · intro n hn
      show n ∈ (mapUpdate s.plugMap p _).map (·.1)
      rw [hkeys]
      have : n ∈ expand s.plugs ++ [p] := by rw [← hexp]; exact hn
      rcases List.mem_append.mp this with h | h
      · exact List.mem_append.mpr (Or.inl (h1 n h))
      · exact List.mem_append.mpr (Or.inr h)
    · intro n hn
      show n ∈ expand (pushHost s.plugs p)
      rw [hexp]
      have : n ∈ s.plugMap.map (·.1) ++ [p] := by rw [← hkeys]; exact hn
      rcases List.mem_append.mp this with h | h
      · exact List.mem_append.mpr (Or.inl (h2 n h))
      · exact List.mem_append.mpr (Or.inr h)
  · rw [if_neg hf] at ha
    cases ha
    have hsome : (find s.plugs p).isSome = true := by
      cases hfi : find s.plugs p with
      | none => rw [hfi] at hf; exact absurd rfl hf
      | some i => rfl
    have hm : p ∈ expand s.plugs := (Link.find_iff ⟨hwf, hpu, hnd, h1, h2⟩ p).mp hsome
    have hlk : (s.plugMap.lookup p).isSome = true := (lookup_isSome_iff_mem_keys _ _).mpr (h1 p hm)
    have hkeys : (mapUpdate s.plugMap p { plugname := p, hostname := host, hostIdx := i, parent := par }).map (·.1) =
        s.plugMap.map (·.1) := by rw [mapUpdate_keys, if_pos hlk]
    refine ⟨hwf, hpu, hnd, ?_, ?_⟩
    · intro n hn; show n ∈ (mapUpdate s.plugMap p _).map (·.1); rw [hkeys]; exact h1 n hn
    · intro n hn
      have : n ∈ (mapUpdate s.plugMap p _).map (·.1) := hn
      rw [hkeys] at this; exact h2 n this

theorem plugsRemove_Link {s : State} {n : Name} (h : Link s) (hn : LegalName n) : Link (plugsRemove s n) := by
  obtain ⟨hwf, hpu, hnd, h1, h2⟩ := h
  unfold plugsRemove
  have hd := deleteHost_expand s.plugs n hwf (HPushed_findable s.plugs n hpu)
  refine ⟨?_, ?_, ?_, ?_, ?_⟩
  · show HWF (hlDelete s.plugs n); rw [hlDelete_legal _ _ hn]; exact deleteHost_HWF _ _ hwf
  · show HPushed (hlDelete s.plugs n); rw [hlDelete_legal _ _ hn]; exact deleteHost_HPushed _ _ hpu
  · show (expand (hlDelete s.plugs n)).Nodup
    rw [hlDelete_legal _ _ hn, hd.1]; exact hnd.erase n
  · intro x hx
    have hx' : x ∈ expand (hlDelete s.plugs n) := hx
    rw [hlDelete_legal _ _ hn, hd.1, hnd.mem_erase_iff] at hx'
    show x ∈ (mapDelete s.plugMap n).map (·.1)
    rw [mapDelete_keys]
    exact List.mem_filter.mpr ⟨h1 x hx'.2, by simpa using hx'.1⟩
  · intro x hx
    have hx' : x ∈ (mapDelete s.plugMap n).map (·.1) := hx
    rw [mapDelete_keys] at hx'
    obtain ⟨a, b⟩ := List.mem_filter.mp hx'
    show x ∈ expand (hlDelete s.plugs n)
    rw [hlDelete_legal _ _ hn, hd.1, hnd.mem_erase_iff]
    exact ⟨by simpa using b, h2 x a⟩

theorem hlCreate_HWF (a : Name) (hl : Hostlist) (h : hlCreate a = some hl) : HWF hl := by
  unfold hlCreate at h
  cases hc : createR a with
  | ok x => rw [hc] at h; cases h; exact create_HWF a _ (Daemon.create_of_createR a _ hc)
  | err => rw [hc] at h; cases h
  | fatal => rw [hc] at h; cases h

theorem nthC_mem (hl : Hostlist) (hw : HWF hl) (i : Nat) (p : Name) (h : nthC hl i = some p) : p ∈ expand hl := by
  rw [nthC_spec hl i hw] at h
  exact List.mem_of_getElem? h

/-! ### every command keeps `Link` (names legal) -/

def HostsLegal (s : State) : Prop := ∀ n ∈ expand s.hosts, LegalName n

theorem Frame.Link {s s' : State} (f : Frame s s') (h : Link s) : Link s' := by
  unfold RfCmd.Link at *; rw [f.plugs, f.plugMap]; exact h

theorem plugsUpdatePath_Link {s s' : State} {n cmd path : Name} {post : Option Name} (h : Link s)
    (ha : plugsUpdatePath s n cmd path post = some s') : Link s' := by
  obtain ⟨pd, hpd, rfl⟩ := plugsUpdatePath_some ha
  obtain ⟨hwf, hpu, hnd, h1, h2⟩ := h
  have hkeys : (mapUpdate s.plugMap n (updPath pd cmd path post)).map (·.1) = s.plugMap.map (·.1) := by
    rw [mapUpdate_keys, if_pos (by rw [hpd]; rfl)]
  refine ⟨hwf, hpu, hnd, ?_, ?_⟩
  · intro x hx; show x ∈ (mapUpdate s.plugMap n _).map (·.1); rw [hkeys]; exact h1 x hx
  · intro x hx
    have : x ∈ (mapUpdate s.plugMap n _).map (·.1) := hx
    rw [hkeys] at this; exact h2 x this

/-- the plug names a `setplugs` line defines are legal: no separators, no brackets (true of every expression without a
    bracket after the closing bracket of a range) -/
def LegalSetplugs (av : List Name) : Prop :=
  ∀ a0 rest lplugs, av = lit "setplugs" :: a0 :: rest → hlCreate a0 = some lplugs → ∀ p ∈ expand lplugs, LegalName p

theorem Write.Link {N : Name → Prop} (hN : ∀ p, N p → LegalName p) {s s' : State} (w : Write N s s')
    (h : HostsLegal s ∧ Link s) : HostsLegal s' ∧ Link s' := by
  refine ⟨fun n hn => h.1 n (w.hosts ▸ hn), ?_⟩
  cases w with
  | frame f => exact f.Link h.2
  | remove n hn => exact plugsRemove_Link h.2 (h.1 n hn)
  | add np _ ha => exact plugsAdd_Link h.2 (hN _ np) ha
  | path hp => exact plugsUpdatePath_Link h.2 hp
  | statpath => exact h.2
  | timeout => exact h.2

theorem LegalSetplugs.defines {av : List Name} (h : LegalSetplugs av) (p : Name) (hp : LineDefines av p) : LegalName p := by
  obtain ⟨_, rfl, a0, rest, lplugs, i, rfl, h0, hi⟩ := hp
  exact h a0 rest lplugs rfl h0 p (nthC_mem lplugs (hlCreate_HWF a0 lplugs h0) i p hi)

/-! ### the state `main` hands to `shell()` -/

theorem hlPush_HWF (hl : Hostlist) (a : Name) (h : HWF hl) : HWF (hlPush hl a).1 := by
  unfold hlPush
  cases hc : hlCreate a with
  | none => exact h
  | some new =>
    simp only
    exact (expand_foldl_pushRange new hl h (hlCreate_HWF a new hc)).2

theorem foldl_hlPush_HWF (args : List Name) : ∀ (hl : Hostlist), HWF hl → HWF (args.foldl (fun hl a => (hlPush hl a).1) hl) := by
  induction args with
  | nil => intro hl h; exact h
  | cons a r ih => intro hl h; exact ih _ (hlPush_HWF hl a h)

theorem setupHosts_ind {P : State → Prop} :
    ∀ (l : List (Name × Nat)) (st s1 : State), P st →
      (∀ e ∈ l, ∀ st st', P st → plugsAdd st e.1 e.1 e.2 none = some st' → P st') →
      l.foldl (fun acc e => match acc with | none => none | some st => plugsAdd st e.1 e.1 e.2 none) (some st) = some s1 →
      P s1 := by
  intro l
  induction l with
  | nil => intro st s1 h _ e; simp at e; subst e; exact h
  | cons e r ih =>
    intro st s1 h step hf
    simp only [List.foldl_cons] at hf
    cases ha : plugsAdd st e.1 e.1 e.2 none with
    | none =>
      rw [ha] at hf
      have : ∀ (l : List (Name × Nat)), l.foldl (fun (acc : Option State) e => match acc with | none => none | some st => plugsAdd st e.1 e.1 e.2 none) none = none := by
        intro l; induction l with
        | nil => rfl
        | cons x xs ihx => simp only [List.foldl_cons]; exact ihx
      rw [this] at hf; cases hf
    | some st' =>
      rw [ha] at hf
      exact ih st' s1 (step e (List.mem_cons_self ..) st st' h ha) (fun x hx => step x (List.mem_cons_of_mem _ hx)) hf

/-- the host list `main` builds from its `-h` arguments -/
def hostsOf (hostArgs : List Name) : Hostlist := hostArgs.foldl (fun hl a => (hlPush hl a).1) []

/-- the state `main` starts from before `setup_hosts` -/
def blank (hosts fails : Hostlist) (now : Nat) : State :=
  { hosts, failHosts := fails, plugs := [], plugMap := [], initial := false, header := none,
    userpwd := none, userpwdCmdline := false, statpath := none, onpath := none, onpost := none, offpath := none,
    offpost := none, cmdTimeout := 60, now, status := [] }

theorem init_writes (hostArgs failArgs : List Name) (now : Nat) (s : State) (h : init hostArgs failArgs now = some s)
    (hw : HWF (hostsOf hostArgs)) :
    ∃ fails, Writes (· ∈ expand (hostsOf hostArgs)) (blank (hostsOf hostArgs) fails now) s := by
  unfold init at h
  split at h
  · cases h
  · simp only at h
    split at h
    · cases h
    · split at h
      · cases h
      · rename_i s1 hs1
        cases h
        unfold setupHosts at hs1
        refine ⟨_, .tail (setupHosts_ind (P := Writes _ (blank (hostsOf hostArgs) _ now)) _ _ s1 .refl ?_ hs1)
          (.frame ⟨rfl, rfl, rfl, rfl, rfl, rfl, rfl⟩)⟩
        intro e he st st' hst ha
        obtain ⟨x, i⟩ := e
        have := List.mem_zipIdx he
        simp only [Nat.sub_zero, Nat.zero_add] at this
        obtain ⟨_, hi, hx⟩ := this
        have hx' : x = (expand (hostsOf hostArgs))[i] := hx
        refine .tail hst (.add (hx' ▸ List.getElem_mem _) ?_ ha)
        rw [hst.hosts]
        show nthC (hostsOf hostArgs) i = some x
        rw [nthC_spec _ _ hw, hx']; exact List.getElem?_eq_getElem hi

/-- `LegalSetplugs` as a computation on the words of the line -/
def legalSetplugsB (av : List Name) : Bool :=
  match av with
  | c :: a0 :: _ =>
    if c = lit "setplugs" then
      match hlCreate a0 with
      | some l => (expand l).all fun p => decide (LegalName p)
      | none => true
    else true
  | _ => true

theorem legalSetplugsB_sound (av : List Name) (h : legalSetplugsB av = true) : LegalSetplugs av := by
  intro a0 rest lplugs hav hc p hp
  subst hav
  unfold legalSetplugsB at h
  simp only [if_true, hc, List.all_eq_true, decide_eq_true_eq] at h
  exact h p hp

theorem reachable_inv (hostArgs failArgs : List Name) (now : Nat) (s0 : State)
    (h0 : init hostArgs failArgs now = some s0) (hleg : ∀ n ∈ expand (hostsOf hostArgs), LegalName n)
    (bufs : List (List Char)) (hb : ∀ b ∈ bufs, LegalSetplugs (argvCreate (cstr b))) :
    TInv (session s0 bufs).1 ∧ Link (session s0 bufs).1 ∧ Linked (session s0 bufs).1 := by
  obtain ⟨fails, w⟩ := init_writes hostArgs failArgs now s0 h0 (foldl_hlPush_HWF hostArgs [] HWF_nil)
  have w' := (w.mono (N' := LegalName) hleg).trans (session_writes bufs s0 fun b hb' => LegalSetplugs.defines (hb b hb'))
  have hl := w'.keeps (fun _ _ w => w.Link fun _ h => h)
    ⟨hleg, HWF_nil, (fun t ht => by simp [blank] at ht), List.nodup_nil, by intro n hn; simp [blank, expand_nil] at hn,
      by intro n hn; simp [blank] at hn⟩
  exact ⟨w'.keeps (fun _ _ w => w.TInv) ⟨List.nodup_nil, by intro e he; simp [blank] at he⟩, hl.2, hl.2.linked⟩

/-! ### with legal plug names and list and map in step, `setplugs` and `setpath` always come back to the prompt -/

theorem plugsAdd_legal (s : State) (p host : Name) (i : Nat) (par : Option Name) (hp : LegalName p) :
    (plugsAdd s p host i par).isSome = true := by
  unfold plugsAdd
  simp only
  split
  · rw [hlPush_legal s.plugs p hp]; rfl
  · rfl

theorem setupPlug_not_fatal (s : State) (p his : Name) (par : Option Name) (hp : LegalName p) (c : Ctl) :
    setupPlug s p his par ≠ .fatal c := by
  refine setupPlug_cases s p his par (P := fun r => r ≠ .fatal c) (fun _ e => by cases e) (fun _ _ e => by cases e) ?_
    (fun _ _ _ _ _ e => by cases e)
  intro host hn
  have := plugsAdd_legal s p host (hostIndexOf his) par hp
  rw [hn] at this; cases this

theorem setplugsLoop_cont (lplugs : Hostlist) (idx : Nat → Option Name) (parent : Option Name)
    (hleg : ∀ i p, nthC lplugs i = some p → LegalName p) :
    ∀ (k i : Nat) (s : State), (∀ j, i ≤ j → j < i + k → (nthC lplugs j).isSome = true ∧ (idx j).isSome = true) →
      (setplugsLoop lplugs idx parent k i s).ctl = .cont :=
  setplugsLoop_induct lplugs idx parent (fun _ => rfl)
    (fun {k i s} why hall => by
      obtain ⟨h1, h2⟩ := hall i (Nat.le_refl _) (by omega)
      rcases why with hp | hi | ⟨p, his, c, hp, _, hs⟩
      · rw [hp] at h1; cases h1
      · rw [hi] at h2; cases h2
      · exact absurd hs (setupPlug_not_fatal s p his parent (hleg i p hp) c))
    (fun _ => rfl) fun _ _ _ ih hall => ih fun j a b => hall j (by omega) (by omega)

theorem nthC_isSome (hl : Hostlist) (hw : HWF hl) (j : Nat) (hj : j < hlCount hl) : (nthC hl j).isSome = true := by
  have hc : hlCount hl = (expand hl).length := count_expand hl hw
  rw [nthC_spec hl j hw, List.getElem?_eq_getElem (by omega)]; rfl

theorem setplugs_cont (s : State) (av : List Name)
    (hleg : ∀ a0 rest lplugs, av = a0 :: rest → hlCreate a0 = some lplugs → ∀ p ∈ expand lplugs, LegalName p) :
    (setplugs s av).ctl = .cont ∨ (setplugs s av).ctl = bignum := by
  refine setplugs_cases s av (P := fun r => r.ctl = .cont ∨ r.ctl = bignum) (fun _ _ h => h) (fun _ => .inl rfl) ?_ ?_
  · intro a1 hostindices h1 hone hn
    have := nthC_isSome hostindices (hlCreate_HWF a1 hostindices h1) 0 (by omega)
    rw [hn] at this; cases this
  · intro a0 a1 rest lplugs hostindices idx hav h0 h1 hidx
    have hw0 := hlCreate_HWF a0 lplugs h0
    refine .inl (setplugsLoop_cont lplugs idx _ (fun i p hp => hleg a0 (a1 :: rest) lplugs hav h0 p (nthC_mem lplugs hw0 i p hp))
      _ _ _ fun j _ hj => ⟨nthC_isSome lplugs hw0 j (by omega), ?_⟩)
    rcases hidx with ⟨his, rfl⟩ | ⟨rfl, hc⟩
    · rfl
    · exact nthC_isSome hostindices (hlCreate_HWF a1 hostindices h1) j (by omega)

theorem setpathLoop_cont (cmd path : Name) (post : Option Name) :
    ∀ (l : List Name) (s : State), Link s → (setpathLoop cmd path post l s).ctl = .cont :=
  setpathLoop_induct cmd path post (fun _ => rfl) (fun _ => rfl)
    (fun {n _ s} hv hnone h => by
      -- a name the list knows is in the map when the two are in step: the update cannot fail
      have := (h.linked n).mp hv
      unfold plugsUpdatePath plugsGetData at hnone
      cases hl : s.plugMap.lookup n with
      | none => rw [hl] at this; cases this
      | some pd => rw [hl] at hnone; simp at hnone)
    fun hs ih h => ih (plugsUpdatePath_Link h hs)

theorem setpath_cont (s : State) (av : List Name) (h : Link s) :
    (setpath s av).ctl = .cont ∨ (setpath s av).ctl = bignum :=
  setpath_cases s av (P := fun r => r.ctl = .cont ∨ r.ctl = bignum) (fun _ _ h => h)
    fun _ _ _ _ => .inl (setpathLoop_cont _ _ _ _ _ h)

theorem step_cont (s : State) (buf : List Char) (hs : Safe s) (ht : TimeoutOK s) (hl : Link s)
    (hleg : LegalSetplugs (argvCreate (cstr buf))) (hb : (step s buf).ctl ≠ bignum) :
    (step s buf).ctl = .cont ∨ ((step s buf).ctl = .exit 0 ∧ firstWord buf = some (lit "quit")) := by
  unfold step firstWord at *
  generalize argvCreate (cstr buf) = av at *
  cases av with
  | nil => exact .inl rfl
  | cons c args =>
    refine processCmd_cases s c args (fun _ _ _ _ _ => .inl rfl) (fun _ _ => .inr ⟨rfl, rfl⟩) (fun _ _ _ => .inl rfl)
      (fun _ _ _ _ => .inl rfl) (fun hleg hb => ?_) (fun _ hb => ?_) (fun cmd _ hb => ?_) hleg hb
      (P := fun c r => LegalSetplugs (c :: args) → r.ctl ≠ bignum →
        r.ctl = .cont ∨ (r.ctl = .exit 0 ∧ (c :: args).head? = some (lit "quit")))
    · exact (setplugs_cont s args fun a0 rest lplugs e => hleg a0 rest lplugs (by rw [e])).resolve_right hb |> .inl
    · exact (setpath_cont s args hl).resolve_right hb |> .inl
    · rcases powerCmd_ctl s cmd args with h | h | h | h
      · exact .inl h
      · rw [ht.noOverflow] at h; cases h.2
      · exact absurd h hb
      · rcases h.2 with h' | h'
        · rw [hs.1] at h'; cases h'
        · rw [hs.2] at h'; cases h'

/-! ### which lines can make a `Safe` state unsafe -/

theorem Frame.Safe {s s' : State} (f : Frame s s') (hs : Safe s) : Safe s' := by
  have e1 : mCfg s' = mCfg s := by unfold mCfg hostFailing; rw [f.plugMap, f.failHosts]
  have e2 : allStatPaths s' = allStatPaths s := by unfold allStatPaths; rw [f.plugMap, f.statpath]
  unfold RfCmd.Safe at *
  rw [e1, e2]; exact hs

theorem step_Safe (s : State) (buf : List Char) (hs : Safe s)
    (h : firstWord buf ≠ some (lit "setplugs") ∧ firstWord buf ≠ some (lit "setpath") ∧
      firstWord buf ≠ some (lit "setstatpath")) : Safe (step s buf).st := by
  unfold step firstWord at *
  generalize argvCreate (cstr buf) = av at *
  cases av with
  | nil => exact hs
  | cons c args =>
    obtain ⟨n1, n2, n3⟩ := h
    simp only [List.head?_cons, ne_eq, Option.some.injEq] at n1 n2 n3
    exact processCmd_cases s c args
      (P := fun c r => c ≠ lit "setplugs" → c ≠ lit "setpath" → c ≠ lit "setstatpath" → Safe r.st)
      (fun _ _ f _ _ _ => f.Safe hs) (fun _ _ _ => hs) (fun _ _ _ n => absurd rfl n)
      (fun _ _ _ _ _ => hs) (fun n _ _ => absurd rfl n)
      (fun _ n _ => absurd rfl n) (fun cmd _ _ _ => (powerCmd_frame s cmd args).Safe hs) n1 n2 n3

/-! ### the stored time-out always fits an `int` (F39): `err_exit("cmd_timeout overflow")` is unreachable -/

theorem step_TimeoutOK (s : State) (buf : List Char) (ht : TimeoutOK s) : TimeoutOK (step s buf).st :=
  (processCmd_writes s _).keeps (fun _ _ w => w.TimeoutOK) ht

theorem reachable_TimeoutOK (hostArgs failArgs : List Name) (now : Nat) (s0 : State)
    (h0 : init hostArgs failArgs now = some s0) (hn : (now : Int) ≤ LONG_MAX - INT_MAX) (bufs : List (List Char)) :
    TimeoutOK (session s0 bufs).1 := by
  obtain ⟨fails, w⟩ := init_writes hostArgs failArgs now s0 h0 (foldl_hlPush_HWF hostArgs [] HWF_nil)
  exact ((w.mono (N' := fun _ => True) fun _ _ => trivial).trans (session_writes bufs s0 fun _ _ _ _ => trivial)).keeps
    (fun _ _ w => w.TimeoutOK) ⟨by show (60 : Int) ≤ INT_MAX; decide, hn⟩

/-! ### over-long lines: `fgets` cuts the input into pieces of at most 255 bytes and loses nothing -/

theorem fgetsOne_spec : ∀ (k : Nat) (acc rest : List Char),
    (fgetsOne k acc rest).1 ++ (fgetsOne k acc rest).2 = acc.reverse ++ rest ∧
    (fgetsOne k acc rest).1.length ≤ acc.length + k ∧
    (rest ≠ [] → 0 < k → (fgetsOne k acc rest).2.length < rest.length)
  | 0, acc, rest => by simp [fgetsOne]
  | k + 1, acc, [] => by simp [fgetsOne]
  | k + 1, acc, c :: r => by
    unfold fgetsOne
    split
    · simp
    · obtain ⟨a, b, d⟩ := fgetsOne_spec k (c :: acc) r
      refine ⟨by rw [a]; simp, by simp at b ⊢; omega, ?_⟩
      intro _ _
      by_cases hr : r = []
      · subst hr
        have : (fgetsOne k (c :: acc) []).2 = [] := by cases k <;> simp [fgetsOne]
        rw [this]; simp
      · by_cases hk : 0 < k
        · have := d hr hk; simp; omega
        · have hk0 : k = 0 := by omega
          subst hk0; simp [fgetsOne]

theorem fgetsSplit_spec : ∀ (fuel : Nat) (l : List Char), l.length < fuel →
    (fgetsSplit fuel l).flatten = l ∧ ∀ p ∈ fgetsSplit fuel l, p.length ≤ 255
  | 0, l, h => by omega
  | fuel + 1, [], _ => by simp [fgetsSplit]
  | fuel + 1, c :: r, h => by
    unfold fgetsSplit
    simp only
    obtain ⟨a, b, d⟩ := fgetsOne_spec 255 [] (c :: r)
    have hlt := d (by simp) (by omega)
    obtain ⟨ih1, ih2⟩ := fgetsSplit_spec fuel (fgetsOne 255 [] (c :: r)).2 (by simp at h hlt; omega)
    refine ⟨?_, ?_⟩
    · rw [List.flatten_cons, ih1, a]; simp
    · intro p hp
      rcases List.mem_cons.mp hp with rfl | hp
      · simpa using b
      · exact ih2 p hp

end Pm.RfCmd

#print axioms Pm.RfCmd.step_class
#print axioms Pm.RfCmd.step_safe
#print axioms Pm.RfCmd.step_inv
#print axioms Pm.RfCmd.setplugs_pairs
#print axioms Pm.RfCmd.powerCmd_resolved
#print axioms Pm.RfCmd.reachable_inv
#print axioms Pm.RfCmd.init_writes
#print axioms Pm.RfCmd.step_cont
#print axioms Pm.RfCmd.step_Safe
#print axioms Pm.RfCmd.reachable_TimeoutOK
#print axioms Pm.RfCmd.fgetsSplit_spec
