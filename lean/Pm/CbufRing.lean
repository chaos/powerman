/-! # liblsd's circular buffer (`liblsd/cbuf.c`) at index level

A mirror of the part of `cbuf.c` that `powermand` reaches (`cbuf_create`, `cbuf_opt_set`, `cbuf_flush`, `cbuf_used`,
`cbuf_is_empty`, `cbuf_drop`, `cbuf_peek`, `cbuf_write`, `cbuf_write_from_fd`, `cbuf_read_to_fd`, `cbuf_read_line`, and
below them `cbuf_reader`, `cbuf_writer`, `cbuf_dropper`, `cbuf_grow`, `cbuf_shrink`, `cbuf_find_unread_line`,
`cbuf_get_mem/fd`, `cbuf_put_mem/fd`, `cbuf_is_valid`), one definition per C function, the ring *with its indices*:
`data[0 .. size]` (`size + 1` slots: one sentinel slot so that `i_in == i_out` means empty), `i_in`, `i_out`, `i_rep`,
`got_wrap`, the two-piece copies across the wrap point, the re-layout of a wrapped ring in `cbuf_grow`.

Conventions.
* The daemon is built with assertions (no `NDEBUG`): `alloc = size + 1 + 2 * CBUF_MAGIC_LEN`.  The two magic cookies
  themselves are not stored; `data` holds exactly the `size + 1` ring slots, and `Ring.valid` checks `data.length` and
  `alloc` instead of comparing cookies.
* Every `assert` of the C code is computed: the operations return `ok : Bool`, false when an assertion would fire.
* `malloc`/`realloc` succeed; new bytes are 0 (in C they are indeterminate; nothing observable depends on them).
* C `int`s are unbounded naturals/integers here.
* A descriptor is an input: `Src` (what `read` will answer) and `Dst` (what `write` will accept), consumed call by call.
* Loops run on fuel that is provably never exhausted (`readerLoop_spec` in `Pm/CbufRingProof.lean`, `writerLoop_spec` in
  `Pm/CbufRingWrite.lean`, `findLoop_eq_scan` in `Pm/CbufRingLine.lean`).
* No proofs in this file.  It is compared with the real `cbuf.c` by `harness/u_cbuf.c` / `lib/cbuflayer.py` (driver
  `CbMain.lean`). -/
namespace Pm.CbufRing

/-- `CBUF_CHUNK` -/
def chunk : Nat := 1000
/-- `CBUF_MAGIC_LEN` = `sizeof (unsigned long)` -/
def magicLen : Nat := 8

/-- `cbuf_overwrite_t` (`CBUF_NO_DROP` = 0, `CBUF_WRAP_ONCE` = 1, `CBUF_WRAP_MANY` = 2) -/
inductive Ovw where
  | noDrop | wrapOnce | wrapMany
  deriving DecidableEq, Repr, Inhabited

/-- `struct cbuf` -/
structure Ring where
  /-- the `size + 1` ring slots `cb->data[0 .. size]` -/
  data : List UInt8
  alloc : Nat
  minsize : Nat
  maxsize : Nat
  size : Nat
  used : Nat
  overwrite : Ovw
  got_wrap : Bool
  i_in : Nat
  i_out : Nat
  i_rep : Nat
  deriving Repr, Inhabited

/-- `memcpy (&data[i], bs, |bs|)` (the callers keep `i + |bs| ≤ |data|`) -/
def blit (data : List UInt8) (i : Nat) (bs : List UInt8) : List UInt8 :=
  data.take i ++ bs ++ data.drop (i + bs.length)

/-- `cbuf_is_valid`: every assertion, in order.  The first two conjuncts stand for the cookie comparisons (the
    allocation really extends over `size + 1` slots and both cookies). -/
def Ring.valid (r : Ring) : Bool :=
  r.data.length == r.size + 1 && r.alloc == r.size + 1 + 2 * magicLen
  && decide (r.alloc > 0)
  && decide (r.alloc > r.size)
  && decide (r.size > 0)
  && decide (r.size ≥ r.minsize)
  && decide (r.size ≤ r.maxsize)
  && decide (r.minsize > 0)
  && decide (r.maxsize > 0)
  && decide (r.used ≤ r.size)
  && (r.got_wrap || r.i_rep == 0)
  && decide (r.i_in ≤ r.size)
  && decide (r.i_out ≤ r.size)
  && decide (r.i_rep ≤ r.size)
  && (if r.i_in ≥ r.i_out then decide (r.i_rep > r.i_in ∨ r.i_rep ≤ r.i_out)
      else decide (r.i_rep > r.i_in ∧ r.i_rep ≤ r.i_out))
  && r.size - r.used == (r.i_out + (r.size + 1) - r.i_in - 1) % (r.size + 1)

/-- the unread bytes in order: `data` read from `i_out` up to `i_in`, modulo `size + 1` -/
def Ring.contents (r : Ring) : List UInt8 :=
  (r.data.drop r.i_out ++ r.data.take r.i_out).take ((r.i_in + (r.size + 1) - r.i_out) % (r.size + 1))

/-! ## descriptors and memory as sources and sinks -/

/-- what `read` on a descriptor will answer: `avail` bytes are there; the k-th call hands out at most `caps[k]` of them
    (a short read; no entry left = no limit); with nothing to hand out the answer is 0 (`eof`: end of file) or -1 (`EAGAIN`
    or an error).  (`cbuf_get_fd` retries on `EINTR`: an answer here is the answer after that loop.) -/
structure Src where
  avail : List UInt8
  caps : List Nat
  eof : Bool
  deriving Repr, Inhabited

/-- the `getf` argument of `cbuf_writer` with its `src` object -/
inductive Getter where
  | mem (src : List UInt8)
  | fd (s : Src)
  deriving Repr, Inhabited

/-- what is still to come from the source -/
def Getter.pending : Getter → List UInt8
  | .mem src => src
  | .fd s => s.avail

/-- `cbuf_get_mem` / `cbuf_get_fd` asked for `n > 0` bytes: the return value, the bytes stored, the source afterwards.
    (`cbuf_get_mem` returns `len`; the callers never ask it for more than the source holds.) -/
def Getter.get (g : Getter) (n : Nat) : Int × List UInt8 × Getter :=
  match g with
  | .mem src => let bs := src.take n; ((bs.length : Nat), bs, .mem (src.drop n))
  | .fd s =>
    let k := min n (match s.caps with | [] => s.avail.length | c :: _ => min c s.avail.length)
    if k = 0 then (if s.eof then 0 else -1, [], .fd { s with caps := s.caps.tail })
    else ((k : Nat), s.avail.take k, .fd { s with avail := s.avail.drop k, caps := s.caps.tail })

/-- what `write` on a descriptor will accept: the k-th call takes `caps[k]` bytes when that is positive, and answers
    `caps[k]` itself otherwise (0, or -1 for `EAGAIN` / an error); no entry left = takes everything.  `out` = written so far. -/
structure Dst where
  out : List UInt8
  caps : List Int
  deriving Repr, Inhabited

/-- the `putf` argument of `cbuf_reader` with its `dst` object -/
inductive Putter where
  | mem (dst : List UInt8)
  | fd (d : Dst)
  deriving Repr, Inhabited

/-- everything delivered so far -/
def Putter.out : Putter → List UInt8
  | .mem dst => dst
  | .fd d => d.out

/-- `cbuf_put_mem` / `cbuf_put_fd` handed the bytes `bs` (`|bs| > 0`): the return value and the sink afterwards -/
def Putter.put (p : Putter) (bs : List UInt8) : Int × Putter :=
  match p with
  | .mem dst => ((bs.length : Nat), .mem (dst ++ bs))
  | .fd d =>
    match d.caps with
    | [] => ((bs.length : Nat), .fd { d with out := d.out ++ bs })
    | c :: cs =>
      if c ≤ 0 then (c, .fd { d with caps := cs })
      else let k := min bs.length c.toNat; ((k : Nat), .fd { out := d.out ++ bs.take k, caps := cs })

/-! ## create, flush, options, queries -/

/-- `cbuf_create (minsize, maxsize)`; `none` = `NULL` (`EINVAL`) -/
def create (minsize maxsize : Int) : Option Ring :=
  if minsize ≤ 0 then none else
  let mn := minsize.toNat
  some { data := List.replicate (mn + 1) 0, alloc := mn + 1 + 2 * magicLen, minsize := mn,
         maxsize := if maxsize > minsize then maxsize.toNat else mn, size := mn, used := 0, overwrite := .wrapMany,
         got_wrap := false, i_in := 0, i_out := 0, i_rep := 0 }

/-- `cbuf_flush` -/
def flush (r : Ring) : Ring :=
  { r with used := 0, got_wrap := false, i_in := 0, i_out := 0, i_rep := 0 }

/-- `cbuf_opt_set (cb, CBUF_OPT_OVERWRITE, value)`: return value (-1: `EINVAL`) and ring -/
def optSet (r : Ring) (value : Int) : Int × Ring :=
  if value = 0 then (0, { r with overwrite := .noDrop })
  else if value = 1 then (0, { r with overwrite := .wrapOnce })
  else if value = 2 then (0, { r with overwrite := .wrapMany })
  else (-1, r)

/-- `cbuf_used` -/
def usedOf (r : Ring) : Nat := r.used
/-- `cbuf_is_empty` -/
def isEmpty (r : Ring) : Bool := r.used == 0

/-! ## `cbuf_shrink`, `cbuf_dropper`, `cbuf_drop` -/

/-- `cbuf_shrink`: not implemented in C — every path returns 0; what remains is its entry assertion -/
def shrink (r : Ring) : Bool := r.valid

/-- `cbuf_dropper (cb, len)`: the ring afterwards and whether all assertions held -/
def dropper (r : Ring) (len : Nat) : Ring × Bool :=
  let ok1 := decide (len > 0) && decide (len ≤ r.used)
  let r' := { r with used := r.used - len, i_out := (r.i_out + len) % (r.size + 1) }
  let ok2 := if r'.size - r'.used > chunk ∧ r'.size > r'.minsize then shrink r' else true
  (r', ok1 && ok2)

/-- `cbuf_drop (src, len)`: return value, ring, assertions -/
def drop (r : Ring) (len : Int) : Int × Ring × Bool :=
  if len < -1 then (-1, r, true)
  else if len = 0 then (0, r, true)
  else
    let len : Nat := if len = -1 then r.used else min len.toNat r.used
    if len > 0 then
      let d := dropper r len
      ((len : Nat), d.1, r.valid && d.2 && d.1.valid)
    else ((len : Nat), r, r.valid)

/-! ## `cbuf_reader`, `cbuf_peek`, `cbuf_read_to_fd` -/

/-- state of the copy loop of `cbuf_reader` -/
structure RLoop where
  i_src : Nat
  nleft : Nat
  m : Int
  p : Putter
  deriving Repr

/-- the `while (nleft > 0)` loop of `cbuf_reader` -/
def readerLoop : Nat → List UInt8 → Nat → RLoop → RLoop
  | 0, _, _, s => s
  | fuel + 1, data, size, s =>
    if s.nleft > 0 then
      let n := min s.nleft (size + 1 - s.i_src)
      let pr := s.p.put ((data.drop s.i_src).take n)
      let m := pr.1
      let s' : RLoop :=
        if m > 0 then { i_src := (s.i_src + m.toNat) % (size + 1), nleft := s.nleft - m.toNat, m := m, p := pr.2 }
        else { s with m := m, p := pr.2 }
      if (n : Int) ≠ m then s' else readerLoop fuel data size s'
    else s

/-- `cbuf_reader (src, len, putf, dst)` with `len > 0`: return value, sink afterwards, assertions.  The ring is not
    written to. -/
def reader (r : Ring) (len : Nat) (p : Putter) : Int × Putter × Bool :=
  let ok0 := decide (len > 0)
  let len := min len r.used
  if len = 0 then (0, p, ok0) else
  let s := readerLoop len r.data r.size { i_src := r.i_out, nleft := len, m := 0, p := p }
  let n := len - s.nleft
  let ok1 := decide (s.nleft ≤ len)
  if n = 0 then (s.m, s.p, ok0 && ok1) else ((n : Nat), s.p, ok0 && ok1)

/-- `cbuf_peek (src, dstbuf, len)`: return value, the bytes stored into `dstbuf`, assertions.  The ring is not changed
    (`cbuf_reader` only reads it). -/
def peek (r : Ring) (len : Int) : Int × List UInt8 × Bool :=
  if len < 0 then (-1, [], true)
  else if len = 0 then (0, [], true)
  else
    let x := reader r len.toNat (.mem [])
    (x.1, x.2.1.out, r.valid && x.2.2)

/-- `cbuf_read_to_fd (src, dstfd, len)`: return value, ring, descriptor afterwards, assertions -/
def readToFd (r : Ring) (len : Int) (d : Dst) : Int × Ring × Dst × Bool :=
  if len < -1 then (-1, r, d, true) else
  let len : Nat := if len = -1 then r.used else len.toNat
  if len > 0 then
    let x := reader r len (.fd d)
    let d' := match x.2.1 with | .fd d' => d' | .mem _ => d
    if x.1 > 0 then
      let y := dropper r x.1.toNat
      (x.1, y.1, d', r.valid && x.2.2 && y.2 && y.1.valid)
    else (x.1, r, d', r.valid && x.2.2)
  else (0, r, d, r.valid)

/-! ## `cbuf_grow`, `cbuf_writer`, `cbuf_write`, `cbuf_write_from_fd` -/

/-- `cbuf_grow (cb, n)`: the ring afterwards, the number of bytes it grew by, assertions (`n > 0`, `size_meta > 0`,
    `m > cb->alloc`, `cbuf_is_valid` at the end) -/
def grow (r : Ring) (n : Nat) : Ring × Nat × Bool :=
  if r.size = r.maxsize then (r, 0, decide (n > 0)) else
  let size_old := r.size
  let size_meta := r.alloc - r.size
  let m := r.alloc + n
  let m := m + (chunk - m % chunk)
  let m := min m (r.maxsize + size_meta)
  let ok := decide (n > 0) && decide (size_meta > 0) && decide (m > r.alloc)
  let size' := m - size_meta
  -- realloc: the old bytes stay where they are, the ring gets `size' + 1` slots
  let r1 : Ring := { r with data := r.data ++ List.replicate (size' + 1 - r.data.length) 0, alloc := m, size := size' }
  let r2 : Ring :=
    if r1.i_rep > r1.i_in then
      let n := (size_old + 1) - r1.i_rep
      let m := (r1.size + 1) - n
      -- memmove (cb->data + m, cb->data + cb->i_rep, n)
      { r1 with data := blit r1.data m ((r1.data.drop r1.i_rep).take n),
                i_out := if r1.i_out ≥ r1.i_rep then r1.i_out + (m - r1.i_rep) else r1.i_out,
                i_rep := m }
    else r1
  (r2, r2.size - size_old, ok && r2.valid)

/-- state of the copy loop of `cbuf_writer` -/
structure WLoop where
  data : List UInt8
  i_dst : Nat
  nleft : Nat
  m : Int
  g : Getter
  deriving Repr

/-- the `while (nleft > 0)` loop of `cbuf_writer` -/
def writerLoop : Nat → Nat → WLoop → WLoop
  | 0, _, s => s
  | fuel + 1, size, s =>
    if s.nleft > 0 then
      let n := min s.nleft (size + 1 - s.i_dst)
      let gr := s.g.get n
      let m := gr.1
      let data := blit s.data s.i_dst gr.2.1
      let s' : WLoop :=
        if m > 0 then { data := data, i_dst := (s.i_dst + m.toNat) % (size + 1), nleft := s.nleft - m.toNat, m := m, g := gr.2.2 }
        else { s with data := data, m := m, g := gr.2.2 }
      if (n : Int) ≠ m then s' else writerLoop fuel size s'
    else s

/-- result of `cbuf_writer` and of the calls built on it -/
structure WOut where
  rc : Int
  ndropped : Nat
  ring : Ring
  g : Getter
  ok : Bool
  deriving Repr

/-- the "update dst cbuf metadata" block of `cbuf_writer` (`n > 0` bytes were stored, the copy loop ended at `i_dst`) -/
def writerUpdate (r : Ring) (i_dst n nfree : Nat) : Ring × Bool :=
  let nrepl := (r.i_out + (r.size + 1) - r.i_rep) % (r.size + 1)
  let ok := i_dst == (r.i_in + n) % (r.size + 1)
  let r1 : Ring := { r with used := min (r.used + n) r.size, i_in := i_dst }
  -- `n > nfree - nrepl` in C integers
  let r2 : Ring := if n + nrepl > nfree then { r1 with got_wrap := true, i_rep := (r1.i_in + 1) % (r1.size + 1) } else r1
  let r3 : Ring := if n > nfree then { r2 with i_out := r2.i_rep } else r2
  (r3, ok)

/-- "compute number of bytes to write": `none` = `ENOSPC` -/
def clipLen (r : Ring) (len : Nat) : Option Nat :=
  match r.overwrite with
  | .noDrop => let l := min len (r.size - r.used); if l = 0 then none else some l
  | .wrapOnce => some (min len r.size)
  | .wrapMany => some len

/-- `cbuf_writer (dst, len, getf, src, &ndropped)` with `len > 0` -/
def writer (r : Ring) (len : Nat) (g : Getter) : WOut :=
  let ok0 := decide (len > 0)
  let nfree0 := r.size - r.used
  let gr : Ring × Nat × Bool := if len > nfree0 ∧ r.size < r.maxsize then grow r (len - nfree0) else (r, 0, true)
  let r1 := gr.1
  let nfree := nfree0 + gr.2.1
  match clipLen r1 len with
  | none => { rc := -1, ndropped := 0, ring := r1, g := g, ok := ok0 && gr.2.2 }
  | some len =>
    let s := writerLoop len r1.size { data := r1.data, i_dst := r1.i_in, nleft := len, m := 0, g := g }
    let n := len - s.nleft
    let ok1 := decide (s.nleft ≤ len)
    if n = 0 then { rc := s.m, ndropped := 0, ring := { r1 with data := s.data }, g := s.g, ok := ok0 && gr.2.2 && ok1 }
    else
      let u := writerUpdate { r1 with data := s.data } s.i_dst n nfree
      { rc := (n : Nat), ndropped := n - nfree, ring := u.1, g := s.g, ok := ok0 && gr.2.2 && ok1 && u.2 }

/-- `cbuf_write (dst, srcbuf, len, &ndropped)` with `len = |src|` -/
def write (r : Ring) (src : List UInt8) : WOut :=
  if src.length = 0 then { rc := 0, ndropped := 0, ring := r, g := .mem src, ok := true } else
  let w := writer r src.length (.mem src)
  { w with ok := r.valid && w.ok && w.ring.valid }

/-- `cbuf_write_from_fd (dst, srcfd, len, &ndropped)` -/
def writeFromFd (r : Ring) (len : Int) (s : Src) : WOut :=
  if len < -1 then { rc := -1, ndropped := 0, ring := r, g := .fd s, ok := true } else
  let len : Nat :=
    if len = -1 then (if r.size - r.used = 0 then chunk else r.size - r.used) else len.toNat
  if len > 0 then
    let w := writer r len (.fd s)
    { w with ok := r.valid && w.ok && w.ring.valid }
  else { rc := 0, ndropped := 0, ring := r, g := .fd s, ok := r.valid }

/-! ## `cbuf_find_unread_line`, `cbuf_read_line` -/

/-- state of the scan loop of `cbuf_find_unread_line`; `cur` is `&data[i]` seen as the rest of the array -/
structure FLoop where
  i : Nat
  cur : List UInt8
  n : Nat
  m : Nat
  l : Nat
  chars : Int
  lines : Int
  deriving Repr

/-- the `while (i != cb->i_in)` loop of `cbuf_find_unread_line` -/
def findLoop : Nat → List UInt8 → Nat → Nat → FLoop → FLoop
  | 0, _, _, _, s => s
  | fuel + 1, data, size, i_in, s =>
    if s.i ≠ i_in then
      let n := s.n + 1
      let chars := if s.chars > 0 then s.chars - 1 else s.chars
      let nl := s.cur.headD 0 == 10
      let lines := if nl ∧ s.lines > 0 then s.lines - 1 else s.lines
      let m := if nl then n else s.m
      let l := if nl then s.l + 1 else s.l
      if chars = 0 ∨ lines = 0 then { s with n := n, m := m, l := l, chars := chars, lines := lines }
      else
        let i' := (s.i + 1) % (size + 1)
        findLoop fuel data size i_in
          { i := i', cur := if i' = 0 then data else s.cur.tail, n := n, m := m, l := l, chars := chars, lines := lines }
    else s

/-- `cbuf_find_unread_line (cb, chars, &nlines)`: the return value and `*nlines` afterwards -/
def findUnreadLine (r : Ring) (chars lines : Int) : Nat × Nat :=
  if lines = 0 ∨ (lines ≤ -1 ∧ chars ≤ 0) then (0, 0)
  else if r.used = 0 then (0, 0)
  else
    let chars := if lines > 0 then -1 else chars
    let s := findLoop (r.size + 1) r.data r.size r.i_in
      { i := r.i_out, cur := r.data.drop r.i_out, n := 0, m := 0, l := 0, chars := chars, lines := lines }
    if s.lines > 0 then (0, 0) else (s.m, s.l)

/-- `cbuf_read_line (src, dstbuf, len, lines)`: return value, what was stored into `dstbuf` before the terminating NUL
    (`none`: `dstbuf` not touched), ring, assertions -/
def readLine (r : Ring) (len lines : Int) : Int × Option (List UInt8) × Ring × Bool :=
  if len < 0 ∨ lines < -1 then (-1, none, r, true)
  else if lines = 0 then (0, none, r, true)
  else
    let n := (findUnreadLine r (len - 1) lines).1
    if n > 0 then
      let m := min n (len - 1).toNat
      let x : Int × Putter × Bool := if len > 0 ∧ m > 0 then reader r m (.mem []) else (0, .mem [], true)
      let okl := if len > 0 ∧ m > 0 then decide (x.1 = (m : Nat)) else true
      let d := dropper r n
      ((n : Nat), if len > 0 then some x.2.1.out else none, d.1, r.valid && x.2.2 && okl && d.2 && d.1.valid)
    else (0, none, r, r.valid)

end Pm.CbufRing
