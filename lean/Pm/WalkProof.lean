import Pm.Dev2Fd
/-! Several addresses per host (`device_tcp.c`: `tcp->addrs`, `tcp->cur`): what one connection *attempt* is.
    Which addresses `tcp_connect_one` is called for and in what order (`walkTried`, a ghost beside `connectWalk`), for
    `C12_attempt_walks_all_addresses` and `C12_next_attempt_restarts_at_first`; the system-call log of a walk, address by
    address (`WalkLog`), for `C20_fd_ledger_walk`. -/
namespace Pm.Dev2.Walk
open Pm.Dev2 Pm.Dev2.Fd

/-- the indices `tcp_connect_one` is called for by `connectWalk`, in call order (same recursion, same tests) -/
def walkTried : Nat → CS → List Nat
  | 0, _ => []
  | fuel + 1, c =>
    match c.dev.cur with
    | none => []
    | some i =>
      if (connectOne c).2 then [i]
      else i :: walkTried fuel { (connectOne c).1 with dev := { (connectOne c).1.dev with cur := aiNext c.dev.naddr i } }

theorem connectOne_naddr (c : CS) : (connectOne c).1.dev.naddr = c.dev.naddr := (connectOne_frame c).dev.naddr

/-- **the shape of a walk** that starts at address `i` of `naddr` with enough fuel (`naddr - i` iterations; both callers give
    `naddr`): the addresses tried are `i, i+1, …` — consecutive, each once — and either
    (a) every one of them up to the last address of the list failed: `cur == NULL`, no descriptor; or
    (b) the last one tried, `j`, is the first whose `tcp_connect_one` returned true: `cur` stands on it, its descriptor is held,
        the state is CONNECTED (connected at once, clean `SO_ERROR`) or what it was (EINPROGRESS). -/
theorem connectWalk_tried (n : Nat) (c : CS) (i : Nat) (hcur : c.dev.cur = some i) (hi : i < c.dev.naddr)
    (hn : c.dev.naddr - i ≤ n) (hfd : c.dev.fd = none) :
    ((connectWalk n c).dev.cur = none ∧ walkTried n c = List.range' i (c.dev.naddr - i) ∧ (connectWalk n c).dev.fd = none ∧
        (connectWalk n c).dev.conn = c.dev.conn) ∨
    (∃ j, i ≤ j ∧ j < c.dev.naddr ∧ (connectWalk n c).dev.cur = some j ∧ walkTried n c = List.range' i (j - i + 1) ∧
        (connectWalk n c).dev.fd.isSome = true ∧
        ((connectWalk n c).dev.conn = 2 ∨ (connectWalk n c).dev.conn = c.dev.conn)) := by
  fun_induction connectWalk n c generalizing i with
  | case1 c => omega
  | case2 fuel c h => rw [h] at hcur; cases hcur
  | case3 fuel c i' hcur' hok =>
    unfold walkTried
    simp only [hcur, hok, ↓reduceIte]
    obtain ⟨hcu, hc⟩ := connectOne_cases c
    right
    rcases hc with ⟨_, h2, h3⟩ | ⟨h1, _⟩
    · exact ⟨i, Nat.le_refl _, hi, by rw [hcu, hcur], by simp [List.range'], h2, h3⟩
    · rw [h1] at hok; cases hok
  | case4 fuel c i' hcur' hok ih =>
    obtain rfl : i' = i := Option.some.inj (hcur'.symm.trans hcur)
    unfold walkTried
    simp only [hcur, hok, Bool.false_eq_true, ↓reduceIte]
    obtain ⟨hcu, hc⟩ := connectOne_cases c
    rcases hc with ⟨h1, _⟩ | ⟨_, h2, h3⟩
    · exact absurd h1 hok
    · have hfd' : (connectOne c).1.dev.fd = none := h3.elim id (fun h3 => h3.trans hfd)
      have e1 := connectOne_naddr c
      by_cases hlast : i' + 1 < c.dev.naddr
      · -- there is a next address
        have hnext : aiNext c.dev.naddr i' = some (i' + 1) := by simp [aiNext, hlast]
        have := ih (i' + 1) (by simp [hnext]) (by show i' + 1 < (connectOne c).1.dev.naddr; rw [e1]; exact hlast)
          (by show (connectOne c).1.dev.naddr - (i' + 1) ≤ fuel; rw [e1]; omega) hfd'
        rw [show ({ (connectOne c).1 with dev := { (connectOne c).1.dev with cur := aiNext c.dev.naddr i' } } : CS).dev.naddr = c.dev.naddr from e1,
          show ({ (connectOne c).1 with dev := { (connectOne c).1.dev with cur := aiNext c.dev.naddr i' } } : CS).dev.conn = c.dev.conn from h2] at this
        rcases this with ⟨a1, a2, a3, a4⟩ | ⟨j, b1, b2, b3, b4, b5, b6⟩
        · left
          refine ⟨a1, ?_, a3, a4⟩
          have : c.dev.naddr - i' = (c.dev.naddr - (i' + 1)) + 1 := by omega
          rw [a2, this, List.range'_succ]
        · right
          refine ⟨j, by omega, b2, b3, ?_, b5, b6⟩
          have : j - i' + 1 = (j - (i' + 1) + 1) + 1 := by omega
          rw [b4, this]; simp [List.range'_succ]
      · -- `i'` was the last address: `cur = cur->ai_next = NULL`
        have hnext : aiNext c.dev.naddr i' = none := by simp [aiNext, hlast]
        left
        have hw : ∀ m (c' : CS), c'.dev.cur = none → (connectWalk m c').dev.cur = none ∧
            (connectWalk m c').dev.fd = c'.dev.fd ∧ (connectWalk m c').dev.conn = c'.dev.conn ∧ walkTried m c' = [] := by
          intro m c' h'
          cases m with
          | zero => exact ⟨rfl, rfl, rfl, rfl⟩
          | succ m => simp [connectWalk, walkTried, h']
        obtain ⟨w1, w2, w3, w4⟩ := hw fuel { (connectOne c).1 with dev := { (connectOne c).1.dev with cur := aiNext c.dev.naddr i' } } (by simp [hnext])
        rw [w4]
        refine ⟨w1, ?_, w2.trans hfd', w3.trans h2⟩
        have : c.dev.naddr - i' = 1 := by omega
        rw [this]; simp [List.range']

/-- the addresses one call of `tcp_connect` tries -/
def attemptTried (c : CS) : List Nat := walkTried c.dev.naddr { c with dev := { c.dev with conn := 1, cur := some 0 } }

/-- `tcp_connect` (past its two asserts) does not read `tcp->cur`: `tcp->cur = tcp->addrs` comes first -/
theorem tcpConnect_ignores_cur (c : CS) (v : Option Nat) (h0 : c.dev.conn = 0) (hfd : c.dev.fd = none) :
    tcpConnect { c with dev := { c.dev with cur := v } } = tcpConnect c := by
  unfold tcpConnect
  simp only [h0, hfd, bne_self_eq_false, Bool.false_eq_true, ↓reduceIte, Option.isSome_none]

/-- **one attempt**: `tcp_connect` on a device that is NOT_CONNECTED without a descriptor (what its two asserts demand) and has at
    least one address (`tcp_create` exits otherwise) tries the addresses `0, 1, 2, …` in order, each once, and
    * ends NOT_CONNECTED ("connection refused", `cur == NULL`, no descriptor) only after **every** address was tried, or
    * ends on the first address `j` whose `tcp_connect_one` did not fail at once: `cur` stands on `j`, the descriptor is held,
      the device is CONNECTING (EINPROGRESS) or CONNECTED; the addresses behind `j` were not touched. -/
theorem tcpConnect_attempt (c : CS) (h0 : c.dev.conn = 0) (hfd : c.dev.fd = none) (hna : 0 < c.dev.naddr) :
    ((tcpConnect c).1.dev.conn = 0 ∧ (tcpConnect c).1.dev.cur = none ∧ (tcpConnect c).1.dev.fd = none ∧
        attemptTried c = List.range c.dev.naddr) ∨
    (∃ j, j < c.dev.naddr ∧ (tcpConnect c).1.dev.cur = some j ∧ (tcpConnect c).1.dev.fd.isSome = true ∧
        ((tcpConnect c).1.dev.conn = 1 ∨ (tcpConnect c).1.dev.conn = 2) ∧ attemptTried c = List.range (j + 1)) := by
  unfold tcpConnect attemptTried
  have hfs : c.dev.fd.isSome = false := by simp [hfd]
  simp only [h0, bne_self_eq_false, Bool.false_eq_true, ↓reduceIte, hfs]
  have h := connectWalk_tried c.dev.naddr { c with dev := { c.dev with conn := 1, cur := some 0 } } 0 rfl hna (by simp) hfd
  simp only [Nat.sub_zero] at h
  generalize connectWalk c.dev.naddr _ = r at *
  generalize walkTried c.dev.naddr _ = t at *
  rcases h with ⟨a1, a2, a3, _⟩ | ⟨j, _, b2, b3, b4, b5, b6⟩
  · left
    have e : r.dev.cur.isNone = true := by rw [a1]; rfl
    rw [if_pos e]
    exact ⟨rfl, a1, a3, by rw [a2, List.range_eq_range']⟩
  · right
    have e : ¬ r.dev.cur.isNone = true := by rw [b3]; simp
    rw [if_neg e]
    exact ⟨j, b2, b3, b5, b6.elim Or.inr Or.inl, by rw [b4, List.range_eq_range']⟩

/-- the addresses `tcp_finish_connect` tries after `SO_ERROR` reported that the pending connect (on address `i`) failed -/
def finishTried (c : CS) (i : Nat) : List Nat :=
  walkTried (closeFd c).dev.naddr { closeFd c with dev := { (closeFd c).dev with cur := aiNext (closeFd c).dev.naddr i } }

/-- **an attempt goes on** when the asynchronous connect on address `i` has failed: the pending socket is closed, then the
    addresses `i+1, i+2, …` are tried in order, each once; the attempt ends NOT_CONNECTED ("connection refused") only when every
    address behind `i` has failed as well, otherwise on the first address `j > i` that did not fail at once -/
theorem finishConnectFail_attempt (c : CS) (i : Nat) (hcur : c.dev.cur = some i) (hi : i < c.dev.naddr) (h1 : c.dev.conn = 1) :
    ((finishConnectFail c).dev.conn = 0 ∧ (finishConnectFail c).dev.cur = none ∧ (finishConnectFail c).dev.fd = none ∧
        finishTried c i = List.range' (i + 1) (c.dev.naddr - (i + 1))) ∨
    (∃ j, i < j ∧ j < c.dev.naddr ∧ (finishConnectFail c).dev.cur = some j ∧ (finishConnectFail c).dev.fd.isSome = true ∧
        ((finishConnectFail c).dev.conn = 1 ∨ (finishConnectFail c).dev.conn = 2) ∧
        finishTried c i = List.range' (i + 1) (j - i)) := by
  unfold finishConnectFail finishTried
  have q := closeFd_shape c
  generalize closeFd c = c1 at *
  have a2 := q.fd
  have a5 := q.conn
  have a7 := q.naddr
  rw [q.cur, hcur]
  dsimp only
  by_cases hlast : i + 1 < c.dev.naddr
  · have hnext : aiNext c1.dev.naddr i = some (i + 1) := by simp [aiNext, a7, hlast]
    have h := connectWalk_tried c1.dev.naddr { c1 with dev := { c1.dev with cur := aiNext c1.dev.naddr i } } (i + 1)
      (by simp [hnext]) (by show i + 1 < c1.dev.naddr; rw [a7]; exact hlast) (by show c1.dev.naddr - (i + 1) ≤ c1.dev.naddr; omega) a2
    generalize connectWalk c1.dev.naddr _ = r at *
    generalize walkTried c1.dev.naddr _ = t at *
    dsimp only at h
    rw [a5, h1] at h
    rcases h with ⟨b1, b2, b3, _⟩ | ⟨j, b1, b2, b3, b4, b5, b6⟩
    · left
      have e : r.dev.cur.isNone = true := by rw [b1]; rfl
      rw [if_pos e]
      exact ⟨rfl, b1, b3, by rw [b2, a7]⟩
    · right
      have e : ¬ r.dev.cur.isNone = true := by rw [b3]; simp
      rw [if_neg e]
      refine ⟨j, by omega, by omega, b3, b5, b6.elim Or.inr Or.inl, ?_⟩
      rw [b4]; congr 1; omega
  · have hnext : aiNext c1.dev.naddr i = none := by simp [aiNext, a7, hlast]
    left
    rw [hnext]
    have hz : c.dev.naddr - (i + 1) = 0 := by omega
    rw [hz]
    cases hn : c1.dev.naddr with
    | zero => omega
    | succ m =>
      simp only [connectWalk, walkTried, Option.isNone_none, ↓reduceIte, List.range'_zero]
      simp [a2]

/-- the system-call log of an address walk and the descriptor it ends with: for every address that failed, its `socket x`, some
    entries that neither open nor close anything (`connect`, `SO_ERROR`), and the `close x` of that very socket — and only then
    the next address; at the end possibly one socket that stays open (`ok`).  (`noans`: the scripted kernel of the harness
    has no answer left — a modelled abort, nothing was opened.) -/
inductive WalkLog : List Sys → Option Nat → Prop
  | done : WalkLog [] none
  | fail (x : Nat) (ν rest : List Sys) (fd : Option Nat) : ν.all neutral = true → WalkLog rest fd →
      WalkLog (Sys.socket x :: ν ++ Sys.close x :: rest) fd
  | noans (ν rest : List Sys) (fd : Option Nat) : ν.all neutral = true → WalkLog rest fd → WalkLog (ν ++ rest) fd
  | ok (x : Nat) (ν : List Sys) : ν.all neutral = true → WalkLog (Sys.socket x :: ν) (some x)

theorem connectWalk_log (n : Nat) (c : CS) (hfd : c.dev.fd = none) :
    ∃ δ, (connectWalk n c).sys = c.sys ++ δ ∧ WalkLog δ (connectWalk n c).dev.fd := by
  fun_induction connectWalk n c with
  | case1 c => exact ⟨[], by simp, by simpa [hfd] using WalkLog.done⟩
  | case2 fuel c hcur => exact ⟨[], by simp, by rw [hfd]; exact .done⟩
  | case3 fuel c i hcur hok =>
    obtain ⟨x, ν, hν, hs, hf, _⟩ := connectOne_hit c hok
    exact ⟨_, hs, by rw [hf]; exact .ok x ν hν⟩
  | case4 fuel c i hcur hok ih =>
    obtain ⟨hfd2, _, ν, hν, hs⟩ := connectOne_miss c (by simpa using hok) hfd
    obtain ⟨δ, e1, e2⟩ := ih hfd2
    rcases hs with ⟨x, hs⟩ | hs
    · refine ⟨Sys.socket x :: ν ++ Sys.close x :: δ, ?_, .fail x ν δ _ hν e2⟩
      rw [e1]; show (connectOne c).1.sys ++ δ = _; rw [hs]; simp
    · refine ⟨ν ++ δ, ?_, .noans ν δ _ hν e2⟩
      rw [e1]; show (connectOne c).1.sys ++ δ = _; rw [hs]; simp

theorem tcpConnect_log (c : CS) (h0 : c.dev.conn = 0) (hfd : c.dev.fd = none) :
    ∃ δ, (tcpConnect c).1.sys = c.sys ++ δ ∧ WalkLog δ (tcpConnect c).1.dev.fd := by
  unfold tcpConnect
  have hfs : c.dev.fd.isSome = false := by rw [hfd]; rfl
  simp only [h0, bne_self_eq_false, Bool.false_eq_true, ↓reduceIte, hfs]
  obtain ⟨δ, e1, e2⟩ := connectWalk_log c.dev.naddr { c with dev := { c.dev with conn := 1, cur := some 0 } } hfd
  generalize connectWalk c.dev.naddr _ = r at *
  -- the "connection refused" of the caller writes the connection state only
  exact ⟨δ, ite_cases (P := fun x : CS => x.sys = c.sys ++ δ ∧ WalkLog δ x.dev.fd) (fun _ => ⟨e1, e2⟩) fun _ => ⟨e1, e2⟩⟩

theorem finishConnectFail_log (c : CS) (i : Nat) (hi : c.dev.cur = some i) :
    ∃ δ, (finishConnectFail c).sys = c.sys ++ closeOf c.dev.fd ++ δ ∧ WalkLog δ (finishConnectFail c).dev.fd := by
  unfold finishConnectFail
  have q := closeFd_shape c
  generalize closeFd c = c1 at *
  rw [q.cur, hi]
  dsimp only
  obtain ⟨δ, e1, e2⟩ := connectWalk_log c1.dev.naddr { c1 with dev := { c1.dev with cur := aiNext c1.dev.naddr i } } q.fd
  generalize connectWalk c1.dev.naddr _ = r at *
  have e1' : r.sys = c.sys ++ closeOf c.dev.fd ++ δ := by rw [← q.sys]; exact e1
  exact ⟨δ, ite_cases (P := fun x : CS => x.sys = c.sys ++ closeOf c.dev.fd ++ δ ∧ WalkLog δ x.dev.fd) (fun _ => ⟨e1', e2⟩) fun _ => ⟨e1', e2⟩⟩

/-- replayed from no open descriptor, the log of a walk never closes a descriptor that is not open and ends with exactly the
    descriptor the walk ends with -/
theorem WalkLog.ledger {δ : List Sys} {fd : Option Nat} (h : WalkLog δ fd) : fdRun [] δ = some fd.toList := by
  induction h with
  | done => rfl
  | fail x ν rest fd hν _ ih =>
    have : fdRun [] (Sys.socket x :: ν ++ Sys.close x :: rest) = fdRun [] rest := by
      show fdRun [] (Sys.socket x :: (ν ++ Sys.close x :: rest)) = _
      simp [fdRun, fdStep, fdRun_append, fdRun_neutral _ _ hν]
    rw [this, ih]
  | noans ν rest fd hν _ ih => rw [fdRun_append, fdRun_neutral _ _ hν]; exact ih
  | ok x ν hν => simp [fdRun, fdStep, fdRun_neutral _ _ hν]

theorem neutral_not_socket (ν : List Sys) (hν : ν.all neutral = true) (x : Nat) : Sys.socket x ∉ ν := by
  intro hm
  have := List.all_eq_true.1 hν _ hm
  simp [neutral] at this

theorem split_socket (p r ν m : List Sys) (x : Nat) (hν : ν.all neutral = true) (e : p ++ Sys.socket x :: r = ν ++ m) :
    ∃ m', p = ν ++ m' ∧ m' ++ Sys.socket x :: r = m := by
  rcases List.append_eq_append_iff.1 e with ⟨a', e1, e2⟩ | ⟨c', e1, e2⟩
  · -- ν = p ++ a', socket x :: r = a' ++ m
    cases a' with
    | nil => exact ⟨[], by simpa using e1.symm, by simpa using e2⟩
    | cons b a'' =>
      simp only [List.cons_append, List.cons.injEq] at e2
      exfalso
      exact neutral_not_socket ν hν x (by rw [e1, ← e2.1]; simp)
  · exact ⟨c', e1, e2.symm⟩

/-- **no two sockets at once**: at every `socket()` of a walk all sockets opened before it in the walk have been closed -/
theorem WalkLog.one_at_a_time {δ : List Sys} {fd : Option Nat} (h : WalkLog δ fd) :
    ∀ (p r : List Sys) (x : Nat), δ = p ++ Sys.socket x :: r → fdRun [] p = some [] := by
  induction h with
  | done => intro p r x e; simp at e
  | fail y ν rest fd hν _ ih =>
    intro p r x e
    cases p with
    | nil => rfl
    | cons a p' =>
      simp only [List.cons_append, List.cons.injEq] at e
      obtain ⟨ea, e⟩ := e
      subst ea
      obtain ⟨m', e1, e2⟩ := split_socket p' r ν (Sys.close y :: rest) x hν e.symm
      cases m' with
      | nil => simp at e2
      | cons b m'' =>
        simp only [List.cons_append, List.cons.injEq] at e2
        obtain ⟨eb, e3⟩ := e2
        have := ih m'' r x e3.symm
        subst eb e1
        show fdRun [] (Sys.socket y :: (ν ++ Sys.close y :: m'')) = some []
        simp [fdRun, fdStep, fdRun_append, fdRun_neutral _ _ hν, this]
  | noans ν rest fd hν _ ih =>
    intro p r x e
    obtain ⟨m', e1, e2⟩ := split_socket p r ν rest x hν e.symm
    have := ih m' r x e2.symm
    rw [e1, fdRun_append, fdRun_neutral _ _ hν]; exact this
  | ok y ν hν =>
    intro p r x e
    cases p with
    | nil => rfl
    | cons a p' =>
      simp only [List.cons_append, List.cons.injEq] at e
      exfalso
      exact neutral_not_socket ν hν x (by rw [e.2]; simp)

/-- a tcp device with three addresses, not connected -/
def ex3 : Dev := { exDev with naddr := 3 }
/-- the first address is unreachable at once, the second refuses at once, the third is in progress -/
def env221 : Env := { now := 0, revents := 0, sockets := [2000, 2001, 2002], connects := [2, 2, 1], soerrs := [], read := none, writeOk := true }
/-- every address fails at once -/
def env222 : Env := { env221 with connects := [2, 2, 2] }
/-- the pending connect on the first address failed (`SO_ERROR`), the second connects at once with a clean `SO_ERROR` -/
def envFin : Env := { now := 0, revents := 2, sockets := [2001, 2002], connects := [0], soerrs := [111, 0], read := none, writeOk := true }

end Pm.Dev2.Walk

#print axioms Pm.Dev2.Walk.connectWalk_tried
#print axioms Pm.Dev2.Walk.tcpConnect_attempt
#print axioms Pm.Dev2.Walk.finishConnectFail_attempt
#print axioms Pm.Dev2.Walk.connectWalk_log
#print axioms Pm.Dev2.Walk.WalkLog.ledger
#print axioms Pm.Dev2.Walk.WalkLog.one_at_a_time
