import Pm.RedfishOne
/-! `stat`: the machine prints exactly the lines of `specStat`. -/
namespace Pm.Redfish

/-- every ancestor of `p` is on under the status assignment `f` -/
def clearPath (c : Cfg) (f : Nat → Stat) (p : Nat) : Prop := ∀ b ∈ ancUp c p, f b = .on

theorem resStat_eq (c : Cfg) (m : M) (i : PM) : resStat c m i = statOf c m.st i.plug := by
  unfold resStat statOf statStr; rfl

theorem clearPath_child {c : Cfg} (hw : WF c = true) {f : Nat → Stat} {x a : Nat} (hp : parentOf c x = some a)
    (ha : clearPath c f a) (hon : f a = .on) : clearPath c f x := by
  intro b hb
  rw [ancUp_cons hw hp] at hb
  rcases List.mem_cons.1 hb with rfl | hb
  · exact hon
  · exact ha b hb

theorem clearPath_root {c : Cfg} (f : Nat → Stat) {p : Nat} (h : parentOf c p = none) : clearPath c f p := by
  intro b hb; rw [ancUp_root h] at hb; cases hb

/-- Invariant of the loop for `stat` from the plug states `st0` (shape `Inv P rest new m`: see `RoundStart`): nothing is
    ever delayed, the states do not change, and every message still to run is a status request for a known plug all of
    whose ancestors are on. -/
structure StatInv (c : Cfg) (st0 : St) (P rest new : List PM) (m : M) : Prop where
  act : m.active = P ++ rest ++ new
  st : m.st = st0
  noDelayed : m.delayed = []
  items : ∀ i ∈ rest ++ new, i.cmd = .stat ∧ known c i.plug = true ∧ clearPath c (statOf c st0) i.plug
  waiters : ∀ w ∈ m.waiting, w.cmd = .stat ∧ known c w.plug = true

theorem stat_not_fresh (c : Cfg) (i : PM) (h : i.cmd = .stat) : isFresh c i = false := by simp [isFresh, unsent, h]
theorem stat_not_again (c : Cfg) (m : M) (i : PM) (h : i.cmd = .stat) : isAgain c m i = false := by simp [isAgain, h]

theorem StatInv_justifies {c : Cfg} (hw : WF c = true) (st0 : St) :
    Justifies (statLine c st0) c (StatInv c st0) where
  act := fun _ _ _ _ h => h.act
  outp := by
    intro P i rest new m h hc
    exact absurd (h.items i (by simp)).1 hc
  own := by
    intro P i rest new m h _ _ _
    have hi := h.items i (by simp)
    rw [specStat_clear st0 hi.2.1 hi.2.2]
    unfold ownLine statOf statStr
    rw [h.st]
    by_cases hf : hostFails c i.plug = true
    · simp [hf]
    · simp [hf, hi.1]
  waiters := by
    intro P i rest new m h _ _ hs w hwm ha _
    have hi := h.items i (by simp)
    have hwt := h.waiters w hwm
    rw [resStat_eq, h.st] at hs ⊢
    rw [specStat_blocked hw st0 hwt.2 ha hs hi.2.2]
    simp [wline1, hwt.1]
  step := by
    intro P i rest new m h
    have hi := h.items i (by simp)
    rw [processOne_shape c m i (fun hc => absurd hi.1 hc), stat_not_fresh c i hi.1, stat_not_again c m i hi.1]
    simp only [Bool.false_eq_true, if_false]
    obtain ⟨qs, e1, e2, e3, _, e4, e5⟩ := pw_shape c (outIf m i.output (ownLine c m i)) i.plug (resStat c m i)
    obtain ⟨f1, f2, f3, f4⟩ := outIf_fields m i.output (ownLine c m i)
    rw [f1, f3] at e1; rw [f2] at e2; rw [f4] at e3; rw [f3] at e4 e5
    refine ⟨new ++ (movedF c i.plug (resStat c m i) m.waiting ++ qs),
      ⟨by rw [e1, h.act]; simp, by rw [e3, h.st], by rw [e2, h.noDelayed], ?_, ?_⟩⟩
    · intro j hj
      simp only [List.mem_append] at hj
      rcases hj with hj | hj | hj | hj
      · exact h.items j (by simp [hj])
      · exact h.items j (by simp [hj])
      · obtain ⟨hs, hjw, _, hp⟩ := mem_movedF.1 hj
        rw [resStat_eq, h.st] at hs
        have := h.waiters j hjw
        exact ⟨this.1, this.2, clearPath_child hw hp hi.2.2 hs⟩
      · obtain ⟨hs, w, _, ha, _, rfl, _⟩ := e5 j hj
        rw [resStat_eq, h.st] at hs
        have hx := childOf_spec hw ha
        exact ⟨rfl, parentOf_known hx.1, clearPath_child hw hx.1 hi.2.2 hs⟩
    · intro w hwk
      rw [e4] at hwk
      exact h.waiters w (keepF_sub hwk)
  turn := by
    intro P new m h
    refine ⟨by simp, h.st, rfl, ?_, h.waiters⟩
    intro j hj
    simp only [h.noDelayed, List.append_nil] at hj
    exact h.items j (by simp [hj])

theorem StatInv_init {c : Cfg} (hw : WF c = true) (st : St) (ts : List Nat) :
    RoundStart (StatInv c st) (setup c .stat (enq c st .stat ts)) := by
  unfold RoundStart
  obtain ⟨qs, e, hq⟩ := setup_plain (c := c) (st := st) (cmd := .stat) (ts := ts) (by simp [phasedT, phasedB])
  rw [e, enq_eq]
  refine ⟨by simp, rfl, rfl, ?_, ?_⟩
  · intro j hj
    simp at hj
    rcases hj with ⟨t, ht, rfl⟩ | hj
    · have := isRootT_iff.1 ht.2
      exact ⟨rfl, this.1, clearPath_root _ this.2⟩
    · obtain ⟨w, hwm, rfl, _⟩ := hq j hj
      rw [enq_eq] at hwm
      simp at hwm
      obtain ⟨t, ht, rfl⟩ := hwm
      have hr := rootOf_spec hw t (isChildT_iff.1 ht.2)
      exact ⟨rfl, anc_known hw _ _ hr.1, clearPath_root _ hr.2⟩
  · intro w hwm
    simp at hwm
    obtain ⟨t, ht, rfl⟩ := hwm
    obtain ⟨q, hq⟩ := isChildT_iff.1 ht.2
    exact ⟨rfl, parentOf_known hq⟩

theorem runCmd_stat {c : Cfg} (hw : WF c = true) (st : St) (ts : List Nat) :
    (runCmd c st .stat ts).1.Perm (specStat c st ts) ∧ (runCmd c st .stat ts).2.1 = st := by
  obtain ⟨hp, _, hfin⟩ := runLoop_books hw (StatInv_justifies hw st) st .stat ts (by simp [phasedT, phasedB])
    (StatInv_init hw st ts)
  rw [runCmd_eq, specStat_eq]
  refine ⟨hp.trans (split_known c ts _ fun t ht => ?_).symm, hfin.st⟩
  have : (lookup c t).isNone = true := by unfold known at ht; cases h : lookup c t <;> simp_all
  simp [statLine, this]

end Pm.Redfish
