import Pm.LsdListProof
/-! # `liblsd/list.c` at node level: the representation relation and the two node functions

`Rep l ns items`: the node-level state `l` (`Pm/LsdList.lean`) represents the plain list `items`, carried by the nodes `ns`
(in order); every registered iterator has a place `(j, g)` on that chain.  This file proves what an insertion and a removal do
to the chain and to the places (`Chain.insert`, `Chain.erase`, `Place.create`, `Place.destroy`); `Pm/LsdListNode.lean` applies it to
`list_node_create` and `list_node_destroy` (every other mutation of `list.c` goes through these two). -/
namespace Pm.LsdList
variable {α : Type}

/-- the `j`-th `next` field of the chain `ns`: `&l->head`, then `&ns[j-1]->next` -/
def fieldAt (ns : List Nat) : Nat → Ref
  | 0 => .head
  | j + 1 => match ns[j]? with | some n => .next n | none => .head

/-- no node occurs twice -/
def Inj (ns : List Nat) : Prop := ∀ (a b n : Nat), ns[a]? = some n → ns[b]? = some n → a = b

/-- the chain from `head`: node `ns[k]` holds item `items[k]` and points to `ns[k+1]` (the last one to `NULL`) -/
structure Chain (l : LList α) (ns : List Nat) (items : List α) : Prop where
  len : items.length = ns.length
  head : l.head = ns[0]?
  cell : ∀ (k n : Nat), ns[k]? = some n → l.cells[n]? = some ⟨items[k]?, ns[k + 1]?⟩
  inj : Inj ns

/-- an iterator's place: `prev` is the `j`-th field, `pos` the node that field holds (`g = false`) or the one after (`g = true`) -/
structure Place (ns : List Nat) (i : Iter) (j : Nat) (g : Bool) : Prop where
  le : j + g.toNat ≤ ns.length
  prev : i.prev = fieldAt ns j
  pos : i.pos = ns[j + g.toNat]?

structure Rep (l : LList α) (ns : List Nat) (items : List α) : Prop extends Chain l ns items where
  count : l.count = ns.length
  tail : l.tail = fieldAt ns ns.length
  freeNodup : l.free.Nodup
  freeOk : ∀ p ∈ l.free, p < l.cells.size ∧ ∀ (k : Nat), ns[k]? ≠ some p
  keys : (l.iters.map (·.1)).Nodup
  place : ∀ ki ∈ l.iters, ∃ j g, Place ns ki.2 j g

/-! ## fields and loads -/

theorem fieldAt_succ (ns : List Nat) (j n : Nat) (h : ns[j]? = some n) : fieldAt ns (j + 1) = .next n := by
  simp [fieldAt, h]

theorem fieldAt_inj (ns : List Nat) (hi : Inj ns) (a b : Nat) (ha : a ≤ ns.length) (hb : b ≤ ns.length)
    (h : fieldAt ns a = fieldAt ns b) : a = b := by
  cases a with
  | zero =>
    cases b with
    | zero => rfl
    | succ b =>
      obtain ⟨n, hn⟩ : ∃ n, ns[b]? = some n := ⟨ns[b]'(by omega), by simp⟩
      rw [fieldAt_succ ns b n hn] at h; simp [fieldAt] at h
  | succ a =>
    obtain ⟨n, hn⟩ : ∃ n, ns[a]? = some n := ⟨ns[a]'(by omega), by simp⟩
    cases b with
    | zero => rw [fieldAt_succ ns a n hn] at h; simp [fieldAt] at h
    | succ b =>
      obtain ⟨m, hm⟩ : ∃ m, ns[b]? = some m := ⟨ns[b]'(by omega), by simp⟩
      rw [fieldAt_succ ns a n hn, fieldAt_succ ns b m hm] at h
      have : n = m := by simpa using h
      subst this
      rw [hi a b n hn hm]

theorem Chain.load {l : LList α} {ns : List Nat} {items : List α} (h : Chain l ns items) (j : Nat) (hj : j ≤ ns.length) :
    load l (fieldAt ns j) = some ns[j]? := by
  cases j with
  | zero => simp [fieldAt, LsdList.load, h.head]
  | succ j =>
    obtain ⟨n, hn⟩ : ∃ n, ns[j]? = some n := ⟨ns[j]'(by omega), by simp⟩
    rw [fieldAt_succ ns j n hn]
    simp [LsdList.load, h.cell j n hn]

theorem Chain.ptr {l : LList α} {ns : List Nat} {items : List α} (h : Chain l ns items) (k n : Nat) (hn : ns[k]? = some n) :
    ptr l (fieldAt ns k) = some n := by
  have hk : k < ns.length := (List.getElem?_eq_some_iff.mp hn).1
  simp [LsdList.ptr, h.load k (by omega), hn]

theorem Chain.lt_size {l : LList α} {ns : List Nat} {items : List α} (h : Chain l ns items) (k n : Nat) (hn : ns[k]? = some n) :
    n < l.cells.size := by
  have := h.cell k n hn
  by_cases hlt : n < l.cells.size
  · exact hlt
  · simp [Array.getElem?_eq_none (Nat.le_of_not_lt hlt)] at this

/-- cells off the chain may change -/
theorem Chain.frame {l l' : LList α} {ns : List Nat} {items : List α} (h : Chain l ns items) (hh : l'.head = l.head)
    (hc : ∀ (k n : Nat), ns[k]? = some n → l'.cells[n]? = l.cells[n]?) : Chain l' ns items :=
  ⟨h.len, hh ▸ h.head, fun k n hk => hc k n hk ▸ h.cell k n hk, h.inj⟩

/-- `*r = v` for the `j`-th field of a chain: it is `head`, or the `next` field of node `j - 1`; no other cell changes -/
theorem Chain.store {l : LList α} {ns : List Nat} {items : List α} (h : Chain l ns items) (j : Nat) (hj : j ≤ ns.length)
    (v : Option Nat) :
    ∃ cells head, store l (fieldAt ns j) v = some { l with cells := cells, head := head } ∧
      head = (if j = 0 then v else l.head) ∧
      (∀ n, j ≠ 0 → ns[j - 1]? = some n → cells[n]? = some ⟨items[j - 1]?, v⟩) ∧
      (∀ m, (∀ k, ns[k]? = some m → k + 1 ≠ j) → cells[m]? = l.cells[m]?) ∧ cells.size = l.cells.size := by
  cases j with
  | zero => exact ⟨l.cells, v, rfl, rfl, fun _ h0 => absurd rfl h0, fun _ _ => rfl, rfl⟩
  | succ j =>
    have hn := List.getElem?_eq_getElem (Nat.lt_of_succ_le hj)
    refine ⟨l.cells.setIfInBounds ns[j] ⟨items[j]?, v⟩, l.head, ?_, rfl, ?_, ?_, by simp⟩
    · simp only [fieldAt_succ ns j _ hn, LsdList.store, h.cell j _ hn]
    · intro n _ hn'
      have e : ns[j] = n := Option.some.inj (hn.symm.trans hn')
      simp [← e, h.lt_size j _ hn]
    · intro m hm
      have hne : ns[j] ≠ m := fun e => hm j (e ▸ hn) rfl
      simp [hne]

theorem Chain.item {l : LList α} {ns : List Nat} {items : List α} (h : Chain l ns items) (k n : Nat) (hn : ns[k]? = some n) :
    ∃ d, items[k]? = some d := by
  have hk : k < ns.length := (List.getElem?_eq_some_iff.mp hn).1
  exact ⟨items[k]'(by rw [h.len]; exact hk), by simp⟩

theorem Inj.idx_eq {ns : List Nat} (hi : Inj ns) (a b : Nat) (ha : a ≤ ns.length) (hb : b ≤ ns.length) (h : ns[a]? = ns[b]?) : a = b := by
  by_cases hlt : a < ns.length
  · exact hi a b ns[a] (List.getElem?_eq_getElem hlt) (h ▸ List.getElem?_eq_getElem hlt)
  · rw [List.getElem?_eq_none (by omega), eq_comm, List.getElem?_eq_none_iff] at h
    omega

/-- the field `prev` points to holds `pos` itself exactly when the iterator does not remember a returned item -/
theorem Place.holds_pos_iff {ns : List Nat} (hi : Inj ns) {i : Iter} {j : Nat} {g : Bool} (p : Place ns i j g) :
    ns[j]? = i.pos ↔ g = false := by
  have hle := p.le
  rw [p.pos]
  cases g with
  | false => simp
  | true => exact ⟨fun e => absurd (hi.idx_eq j (j + 1) (by omega) hle e) (by omega), nofun⟩

/-- the assertion of the node functions holds for an iterator that has a place -/
theorem Place.assert {l : LList α} {ns : List Nat} {items : List α} (h : Chain l ns items) {i : Iter} {j : Nat} {g : Bool}
    (p : Place ns i j g) : iterAssert l i = true := by
  have hj : j ≤ ns.length := by have := p.le; omega
  unfold iterAssert
  rw [p.prev, h.load j hj]
  cases g with
  | false => simp [p.pos]
  | true =>
    have hlt : j < ns.length := by have := p.le; simp at this; omega
    obtain ⟨n, hn⟩ : ∃ n, ns[j]? = some n := ⟨ns[j]'hlt, by simp⟩
    have h2 := h.load (j + 1) (by omega)
    rw [fieldAt_succ ns j n hn] at h2
    simp [hn, h2, p.pos]

theorem Place.unique {ns : List Nat} (hi : Inj ns) {i : Iter} {j j' : Nat} {g g' : Bool} (p : Place ns i j g) (p' : Place ns i j' g') :
    j = j' ∧ g = g' := by
  have hj : j ≤ ns.length := by have := p.le; omega
  have hj' : j' ≤ ns.length := by have := p'.le; omega
  have e := fieldAt_inj ns hi j j' hj hj' (by rw [← p.prev, ← p'.prev])
  subst e
  refine ⟨rfl, ?_⟩
  have hp := p.pos; rw [p'.pos] at hp
  cases g <;> cases g' <;> try rfl
  · have hlt : j < ns.length := by have := p'.le; simp at this; omega
    simp at hp
    obtain ⟨n, hn⟩ : ∃ n, ns[j]? = some n := ⟨ns[j]'hlt, by simp⟩
    rw [hn] at hp
    have := hi (j + 1) j n hp hn; omega
  · have hlt : j < ns.length := by have := p.le; simp at this; omega
    simp at hp
    obtain ⟨n, hn⟩ : ∃ n, ns[j]? = some n := ⟨ns[j]'hlt, by simp⟩
    rw [hn] at hp
    have := hi (j + 1) j n hp.symm hn; omega

/-! ## insertion and removal on the chain, index by index -/

theorem inj_iff_nodup {ns : List Nat} : Inj ns ↔ ns.Nodup := by
  constructor
  · intro hi
    rw [List.Nodup, List.pairwise_iff_getElem]
    intro a b ha hb hab e
    have := hi a b ns[a] (List.getElem?_eq_getElem ha) (e ▸ List.getElem?_eq_getElem hb)
    omega
  · intro hn a b n ha hb
    exact (List.getElem?_inj (List.getElem?_eq_some_iff.mp ha).1 hn).mp (ha.trans hb.symm)

theorem Inj.insertIdx {ns : List Nat} (hi : Inj ns) (f p : Nat) (hf : f ≤ ns.length) (hp : ∀ (k : Nat), ns[k]? ≠ some p) :
    Inj (ns.insertIdx f p) := by
  rw [inj_iff_nodup, (List.perm_insertIdx p ns hf).nodup_iff, List.nodup_cons]
  exact ⟨fun hm => let ⟨k, hk⟩ := List.mem_iff_getElem?.mp hm; hp k hk, inj_iff_nodup.mp hi⟩

theorem Inj.eraseIdx {ns : List Nat} (hi : Inj ns) (f : Nat) : Inj (ns.eraseIdx f) :=
  inj_iff_nodup.mpr ((inj_iff_nodup.mp hi).sublist (List.eraseIdx_sublist ns f))

theorem perm_eraseIdx : ∀ (ns : List Nat) (m q : Nat), ns[m]? = some q → ns.Perm (q :: ns.eraseIdx m) := by
  intro ns
  induction ns with
  | nil => intro m q h; simp at h
  | cons a as ih =>
    intro m q h
    cases m with
    | zero => simp at h; subst h; simp
    | succ m' =>
      simp at h
      simp only [List.eraseIdx_cons_succ]
      exact (List.Perm.cons a (ih m' q h)).trans (List.Perm.swap q a _)

theorem fieldAt_insertIdx (ns : List Nat) (f p j : Nat) (hf : f ≤ ns.length) :
    fieldAt (ns.insertIdx f p) j = if j ≤ f then fieldAt ns j else if j = f + 1 then .next p else fieldAt ns (j - 1) := by
  cases j with
  | zero => simp [fieldAt]
  | succ j =>
    rcases Nat.lt_trichotomy j f with h | h | h
    · have h1 : j + 1 ≤ f := by omega
      simp [fieldAt, List.getElem?_insertIdx, h, h1]
    · subst h
      have h1 : ¬ j + 1 ≤ j := by omega
      simp [fieldAt, List.getElem?_insertIdx, hf, h1]
    · have h1 : ¬ j + 1 ≤ f := by omega
      have h2 : ¬ j < f := by omega
      have h3 : ¬ j = f := by omega
      obtain ⟨j', rfl⟩ : ∃ j', j = j' + 1 := ⟨j - 1, by omega⟩
      simp [fieldAt, List.getElem?_insertIdx, h1, h2, h3]

theorem fieldAt_eraseIdx (ns : List Nat) (f j : Nat) :
    fieldAt (ns.eraseIdx f) j = if j ≤ f then fieldAt ns j else fieldAt ns (j + 1) := by
  cases j with
  | zero => simp [fieldAt]
  | succ j =>
    by_cases h : j < f
    · have h1 : j + 1 ≤ f := by omega
      simp [fieldAt, List.getElem?_eraseIdx, h, h1]
    · have h1 : ¬ j + 1 ≤ f := by omega
      simp [fieldAt, List.getElem?_eraseIdx, h, h1]

theorem Chain.insert {l l' : LList α} {ns : List Nat} {items : List α} (h : Chain l ns items) (f p : Nat) (x : α)
    (hf : f ≤ ns.length) (hp : ∀ (k : Nat), ns[k]? ≠ some p)
    (hcp : l'.cells[p]? = some ⟨some x, ns[f]?⟩)
    (hhead : l'.head = if f = 0 then some p else l.head)
    (hpred : ∀ n, f ≠ 0 → ns[f - 1]? = some n → l'.cells[n]? = some ⟨items[f - 1]?, some p⟩)
    (hframe : ∀ (k n : Nat), ns[k]? = some n → k + 1 ≠ f → l'.cells[n]? = l.cells[n]?) :
    Chain l' (ns.insertIdx f p) (items.insertIdx f x) := by
  have hlen := h.len
  refine ⟨by simp [List.length_insertIdx, hf, hlen], ?_, ?_, h.inj.insertIdx f p hf hp⟩
  · rw [hhead, List.getElem?_insertIdx]
    by_cases h0 : f = 0
    · subst h0; simp
    · have : 0 < f := Nat.pos_of_ne_zero h0
      simp [h0, this, h.head]
  · intro k n hk
    have hc := h.cell
    simp only [List.getElem?_insertIdx] at hk ⊢
    rcases Nat.lt_trichotomy k f with hkf | hkf | hkf
    · simp only [hkf, if_true] at hk
      by_cases hk1 : k + 1 = f
      · have e : f - 1 = k := hk1 ▸ Nat.add_sub_cancel k 1
        have := hpred n (Nat.ne_of_gt (Nat.zero_lt_of_lt hkf)) (by rw [e]; exact hk)
        rw [this, e]
        simp [hkf, hk1, hf]
      · rw [hframe k n hk hk1, hc k n hk]
        have h1 : k + 1 < f := Nat.lt_of_le_of_ne hkf hk1
        simp [hkf, h1]
    · subst hkf
      have h1 : ¬ k < k := Nat.lt_irrefl k
      simp only [h1, if_false, if_true, hf] at hk
      have : n = p := by simpa using hk.symm
      subst this
      rw [hcp]
      have h2 : ¬ k + 1 < k := Nat.not_succ_lt_self
      have h4 : k ≤ items.length := hlen ▸ hf
      simp [h1, h2, h4]
    · have h1 : ¬ k < f := by omega
      have h2 : ¬ k = f := by omega
      simp only [h1, h2, if_false] at hk
      rw [hframe (k - 1) n hk (by omega), hc (k - 1) n hk]
      have h3 : ¬ k + 1 < f := by omega
      have h4 : ¬ k + 1 = f := by omega
      have h5 : k - 1 + 1 = k := by omega
      simp [h1, h2, h3, h4, h5]

theorem Chain.erase {l l' : LList α} {ns : List Nat} {items : List α} (h : Chain l ns items) (f : Nat)
    (hf : f < ns.length)
    (hhead : l'.head = if f = 0 then ns[f + 1]? else l.head)
    (hpred : ∀ n, f ≠ 0 → ns[f - 1]? = some n → l'.cells[n]? = some ⟨items[f - 1]?, ns[f + 1]?⟩)
    (hframe : ∀ (k n : Nat), ns[k]? = some n → k + 1 ≠ f → k ≠ f → l'.cells[n]? = l.cells[n]?) :
    Chain l' (ns.eraseIdx f) (items.eraseIdx f) := by
  have hlen := h.len
  refine ⟨by simp [List.length_eraseIdx, hf, hlen], ?_, ?_, h.inj.eraseIdx f⟩
  · rw [hhead, List.getElem?_eraseIdx]
    by_cases h0 : f = 0
    · subst h0; simp
    · have : 0 < f := by omega
      simp [h0, this, h.head]
  · intro k n hk
    have hc := h.cell
    simp only [List.getElem?_eraseIdx] at hk ⊢
    by_cases hkf : k < f
    · simp only [hkf, if_true] at hk
      by_cases hk1 : k + 1 = f
      · have e : f - 1 = k := by omega
        have := hpred n (by omega) (by rw [e]; exact hk)
        rw [this, e]
        simp [hkf, hk1]
      · rw [hframe k n hk hk1 (by omega), hc k n hk]
        have h1 : k + 1 < f := by omega
        simp [hkf, h1]
    · simp only [hkf, if_false] at hk
      rw [hframe (k + 1) n hk (by omega) (by omega), hc (k + 1) n hk]
      have h1 : ¬ k + 1 < f := by omega
      simp [hkf, h1]

/-! ### how the nodes and fields of a chain move under the two cursor maps -/

theorem getElem?_insertIdx_shift (ns : List Nat) (f p m : Nat) :
    (ns.insertIdx f p)[if f ≤ m then m + 1 else m]? = ns[m]? := by
  by_cases h : f ≤ m
  · rw [if_pos h, List.getElem?_insertIdx_of_gt (Nat.lt_succ_of_le h)]; rfl
  · rw [if_neg h, List.getElem?_insertIdx_of_lt (Nat.lt_of_not_le h)]

theorem fieldAt_insertIdx_shift (ns : List Nat) (f p j : Nat) (hf : f ≤ ns.length) (hj : j ≠ f) :
    fieldAt (ns.insertIdx f p) (if f ≤ j then j + 1 else j) = fieldAt ns j := by
  by_cases h : f ≤ j
  · rw [if_pos h, fieldAt_insertIdx _ _ _ _ hf, if_neg (by omega), if_neg (by omega)]; rfl
  · rw [if_neg h, fieldAt_insertIdx _ _ _ _ hf, if_pos (by omega)]

theorem getElem?_eraseIdx_shift (ns : List Nat) (f m : Nat) (hm : m ≠ f) :
    (ns.eraseIdx f)[if f < m then m - 1 else m]? = ns[m]? := by
  by_cases h : f < m
  · rw [if_pos h, List.getElem?_eraseIdx_of_ge (by omega), show m - 1 + 1 = m by omega]
  · rw [if_neg h, List.getElem?_eraseIdx_of_lt (by omega)]

theorem fieldAt_eraseIdx_shift (ns : List Nat) (f j : Nat) (hj : j ≠ f + 1) :
    fieldAt (ns.eraseIdx f) (if f < j then j - 1 else j) = fieldAt ns j := by
  by_cases h : f < j
  · rw [if_pos h, fieldAt_eraseIdx, if_neg (by omega), show j - 1 + 1 = j by omega]
  · rw [if_neg h, fieldAt_eraseIdx, if_pos (by omega)]

theorem Place.create {ns : List Nat} {i : Iter} {j : Nat} {g : Bool} (hi : Inj ns) (pl : Place ns i j g) (f p : Nat)
    (hf : f ≤ ns.length) :
    Place (ns.insertIdx f p) (fixCreate (fieldAt ns f) p ns[f]? i) (curCreate f (j, g)).1 (curCreate f (j, g)).2 := by
  have hle := pl.le
  have hg1 : g.toNat ≤ 1 := by cases g <;> simp
  have hlen := List.length_insertIdx_of_le_length hf p
  -- the branch the fix-up takes can be read off the place
  have hprev : i.prev = fieldAt ns f ↔ j = f := by
    rw [pl.prev]; exact ⟨fieldAt_inj ns hi j f (Nat.le_trans (Nat.le_add_right _ _) hle) hf, fun e => e ▸ rfl⟩
  have hpos : i.pos = ns[f]? ↔ j + g.toNat = f := by
    rw [pl.pos]; exact ⟨hi.idx_eq _ _ hle hf, fun e => e ▸ rfl⟩
  unfold fixCreate curCreate
  by_cases hjf : j = f
  · -- `prev` is the field that is written: it becomes the `next` field of the new node
    subst hjf
    simp only [hprev.mpr rfl, if_true, Nat.le_refl]
    refine ⟨by rw [hlen, Nat.add_right_comm]; exact Nat.succ_le_succ hle, ?_, ?_⟩
    · rw [fieldAt_insertIdx _ _ _ _ hf, if_neg (Nat.not_succ_le_self j), if_pos rfl]
    · rw [pl.pos, ← getElem?_insertIdx_shift ns j p (j + g.toNat), if_pos (Nat.le_add_right _ _), Nat.add_right_comm]
  · simp only [mt hprev.mp hjf, if_false]
    by_cases hp : j + g.toNat = f
    · -- `pos` is the node the new one goes in front of: it becomes the new node
      have hlt : j < f := Nat.lt_of_le_of_ne (hp ▸ Nat.le_add_right j _) hjf
      simp only [hpos.mpr hp, if_true, Nat.not_le.mpr hlt, if_false]
      refine ⟨by rw [hlen]; exact Nat.le_succ_of_le hle, ?_, ?_⟩
      · rw [fieldAt_insertIdx _ _ _ _ hf, if_pos (Nat.le_of_lt hlt)]; exact pl.prev
      · rw [hp, List.getElem?_insertIdx_self, if_pos hf]
    · simp only [mt hpos.mp hp, if_false]
      refine ⟨by rw [hlen]; exact curCreate_le hle, ?_, ?_⟩
      · rw [fieldAt_insertIdx_shift _ _ _ _ hf hjf]; exact pl.prev
      · rw [curCreate_shift hg1 hp, getElem?_insertIdx_shift]; exact pl.pos

theorem Place.destroy {ns : List Nat} {i : Iter} {j : Nat} {g : Bool} (hi : Inj ns) (pl : Place ns i j g) (f n : Nat)
    (hn : ns[f]? = some n) :
    Place (ns.eraseIdx f) (fixDestroy (fieldAt ns f) n ns[f + 1]? i) (curDestroy f (j, g)).1 (curDestroy f (j, g)).2 := by
  have hf : f < ns.length := (List.getElem?_eq_some_iff.mp hn).1
  have hle := pl.le
  have hg1 : g.toNat ≤ 1 := by cases g <;> simp
  have hlen := List.length_eraseIdx_of_lt hf
  have hjl : j ≤ ns.length := Nat.le_trans (Nat.le_add_right _ _) hle
  -- the branch the fix-up takes can be read off the place
  have hpos : i.pos = some n ↔ j + g.toNat = f := by
    rw [pl.pos, ← hn]; exact ⟨hi.idx_eq _ _ hle (Nat.le_of_lt hf), fun e => e ▸ rfl⟩
  have hprev : i.prev = .next n ↔ j = f + 1 := by
    rw [pl.prev, ← fieldAt_succ ns f n hn]
    exact ⟨fieldAt_inj ns hi j (f + 1) hjl hf, fun e => e ▸ rfl⟩
  have hfield : fieldAt ns f = fieldAt (ns.eraseIdx f) f := by rw [fieldAt_eraseIdx, if_pos (Nat.le_refl f)]
  have helem : ns[f + 1]? = (ns.eraseIdx f)[f]? := (List.getElem?_eraseIdx_of_ge (Nat.le_refl f)).symm
  unfold fixDestroy curDestroy
  by_cases hp : j + g.toNat = f
  · -- `pos` is the removed node: the iterator falls back to the field and what it holds now
    simp only [hpos.mpr hp, if_true, hp, true_or]
    exact ⟨by rw [hlen]; exact Nat.le_sub_one_of_lt hf, hfield, helem⟩
  · simp only [mt hpos.mp hp, if_false, hp, false_or]
    by_cases hj1 : j = f + 1
    · -- `prev` is the `next` field of the removed node: it becomes the field that held the node
      subst hj1
      simp only [hprev.mpr rfl, if_true, Nat.succ_ne_self, if_false, Nat.lt_succ_self, Nat.add_sub_cancel]
      refine ⟨by rw [hlen]; exact Nat.le_sub_one_of_lt (by rwa [Nat.add_right_comm] at hle), hfield, ?_⟩
      rw [pl.pos, List.getElem?_eraseIdx_of_ge (Nat.le_add_right f _), Nat.add_right_comm]
    · simp only [mt hprev.mp hj1, if_false]
      by_cases hjf : j = f
      · -- the removed node is the one returned last: it is forgotten
        subst hjf
        have hg : g = true := by
          cases g
          · exact absurd rfl hp
          · rfl
        subst hg
        simp only [if_true]
        exact ⟨by rw [hlen]; exact Nat.le_sub_one_of_lt hf, pl.prev.trans hfield, pl.pos.trans helem⟩
      · have hcur : (if f < j then (j - 1, g) else (j, g)) = (if f < j then j - 1 else j, g) := by split <;> rfl
        simp only [hjf, if_false, hcur]
        refine ⟨by rw [hlen]; exact curDestroy_le hg1 hle hf hjf, ?_, ?_⟩
        · rw [fieldAt_eraseIdx_shift _ _ _ hj1]; exact pl.prev
        · rw [curDestroy_shift hg1 hjf, getElem?_eraseIdx_shift _ _ _ hp]; exact pl.pos

end Pm.LsdList
