import Pm.ClientLine
/-! C09, the client's write side: what `_handle_write` puts on a client's descriptor, read off the system-call log (`written`),
    and its conservation over any sequence of poll answers and of further output being queued. -/
namespace Pm.Daemon.Tel

/-- the payloads of the `write`s on descriptor `fd` in the daemon's system-call log, concatenated -/
def written (fd : Nat) : List Sys → List UInt8
  | [] => []
  | .write fd' b _ _ :: r => (if fd' = fd then b else []) ++ written fd r
  | .accept _ :: r => written fd r
  | .close _ :: r => written fd r
  | .read _ _ :: r => written fd r

/-- the same bytes as `ClientPf.written`, which takes the log first -/
theorem written_eq (fd : Nat) (ss : List Sys) : written fd ss = ClientPf.written ss fd := by
  induction ss with
  | nil => rfl
  | cons x r ih =>
    cases x with
    | write f b _ _ =>
      show _ = (if (f == fd) = true then b else []) ++ ClientPf.written r fd
      simp only [written, ih, beq_iff_eq]
    | _ => exact ih

theorem written_append (fd : Nat) (l1 l2 : List Sys) : written fd (l1 ++ l2) = written fd l1 ++ written fd l2 := by
  simp only [written_eq, ClientPf.written_append]

theorem handleWrite_conserve (w : W) (c : Cli) :
    written c.fd (handleWrite w c).1.sys ++ (handleWrite w c).2.toBuf = written c.fd w.sys ++ c.toBuf ∧
    (handleWrite w c).2.fd = c.fd := by
  rcases ClientPf.handleWrite_cases w c with ⟨bl, h⟩ | ⟨wr, kept, e, b, caps, q, bl, hs, h⟩
  · rw [h]; exact ⟨rfl, rfl⟩
  · rw [h]; refine ⟨?_, rfl⟩
    show written c.fd (w.sys ++ [.write c.fd wr e b]) ++ kept = _
    rw [written_append, ← hs]; simp [written]

theorem handleWrite_other (w : W) (c : Cli) (fd : Nat) (h : fd ≠ c.fd) :
    written fd (handleWrite w c).1.sys = written fd w.sys := by
  rcases ClientPf.handleWrite_cases w c with ⟨bl, he⟩ | ⟨wr, kept, e, b, caps, q, bl, _, he⟩
  · rw [he]
  · rw [he]
    show written fd (w.sys ++ [.write c.fd wr e b]) = _
    rw [written_append]; simp [written, h.symm]

/-- what can happen to a client's output queue: the daemon queues more (`_client_printf`), or poll reports the
    descriptor writable and the kernel takes at most `n` bytes (negative: the write fails) -/
inductive WEv where
  | put (b : List UInt8)
  | cap (n : Int)

def wstep (s : W × Cli) : WEv → W × Cli
  | .put b => (s.1, put s.2 b)
  | .cap n => handleWrite (setCap s.1 s.2.fd n) s.2

def putsOf : List WEv → List UInt8
  | [] => []
  | .put b :: r => b ++ putsOf r
  | .cap _ :: r => putsOf r

theorem client_write_conservation (w : W) (c : Cli) (evs : List WEv) :
    written c.fd (evs.foldl wstep (w, c)).1.sys ++ (evs.foldl wstep (w, c)).2.toBuf =
      written c.fd w.sys ++ c.toBuf ++ putsOf evs ∧
    (evs.foldl wstep (w, c)).2.fd = c.fd := by
  induction evs generalizing w c with
  | nil => simp [putsOf]
  | cons e r ih =>
    cases e with
    | put b =>
      simp only [List.foldl_cons, wstep, putsOf]
      have := ih w (put c b)
      simp only [put] at this ⊢
      rw [this.1, this.2]; simp [List.append_assoc]
    | cap n =>
      simp only [List.foldl_cons, wstep, putsOf]
      have h1 := handleWrite_conserve (setCap w c.fd n) c
      have := ih (handleWrite (setCap w c.fd n) c).1 (handleWrite (setCap w c.fd n) c).2
      rw [h1.2] at this
      rw [this.1, this.2, h1.1]
      simp [setCap]

end Pm.Daemon.Tel
