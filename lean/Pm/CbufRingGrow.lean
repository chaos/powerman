import Pm.CbufRingProof
import Pm.Cbuf
/-! Refinement proof of the index-level cbuf model: `cbuf_grow` (used by `Pm/CbufRingWrite.lean`). -/
namespace Pm.CbufRing

/-- the size `cbuf_grow (cb, n)` arrives at -/
def grownSize (r : Ring) (n : Nat) : Nat :=
  if r.size = r.maxsize then r.size else
  min (r.alloc + n + (chunk - (r.alloc + n) % chunk)) (r.maxsize + (r.alloc - r.size)) - (r.alloc - r.size)

theorem grownSize_eq_growTo (r : Ring) (n : Nat) (h : ValidP r) :
    grownSize r n = Pm.Cbuf.growTo r.size n r.maxsize := by
  unfold grownSize Pm.Cbuf.growTo
  have ha := h.alloc
  have : r.alloc - r.size = 17 := by simp [magicLen] at ha; omega
  have h2 : r.alloc = r.size + Pm.Cbuf.sizeMeta := by simp [magicLen] at ha; simp [Pm.Cbuf.sizeMeta]; omega
  by_cases hs : r.size = r.maxsize
  · simp [hs]
  · have : (r.size == r.maxsize) = false := by simp [hs]
    simp only [hs, this, ↓reduceIte, Bool.false_eq_true]
    rw [‹r.alloc - r.size = 17›, h2]
    rfl

theorem grownSize_bounds (r : Ring) (n : Nat) (h : ValidP r) (hn : 0 < n) (hs : r.size ≠ r.maxsize) :
    r.size < grownSize r n ∧ grownSize r n ≤ r.maxsize := by
  unfold grownSize
  rw [if_neg hs]
  have ha := h.alloc
  have := h.le_max
  have hc : chunk = 1000 := rfl
  have hm : (r.alloc + n) % chunk < chunk := Nat.mod_lt _ (by decide)
  simp [magicLen] at ha
  omega

/-- `realloc` to `size' + 1` slots (`alloc = m`) and the re-layout: a replay region that reaches the old end of the array
    (`i_rep > i_in`) is moved to the new end, and `i_out` with it when it lies inside -/
def regrow (r : Ring) (m size' : Nat) : Ring :=
  if r.i_rep > r.i_in then
    { r with
      data := blit (r.data ++ List.replicate (size' + 1 - r.data.length) 0) (size' + 1 - (r.size + 1 - r.i_rep))
        (((r.data ++ List.replicate (size' + 1 - r.data.length) 0).drop r.i_rep).take (r.size + 1 - r.i_rep)),
      alloc := m, size := size',
      i_out := if r.i_out ≥ r.i_rep then r.i_out + (size' + 1 - (r.size + 1 - r.i_rep) - r.i_rep) else r.i_out,
      i_rep := size' + 1 - (r.size + 1 - r.i_rep) }
  else { r with data := r.data ++ List.replicate (size' + 1 - r.data.length) 0, alloc := m, size := size' }

/-- `m` of `cbuf_grow (cb, n)`, the allocation it asks `realloc` for: `alloc + n` rounded up to the next multiple of the chunk
    strictly above, capped at `maxsize` plus what an allocation holds beside the data -/
def grownAlloc (r : Ring) (n : Nat) : Nat :=
  min (r.alloc + n + (chunk - (r.alloc + n) % chunk)) (r.maxsize + (r.alloc - r.size))

theorem grow_eq (r : Ring) (n : Nat) (hs : r.size ≠ r.maxsize) :
    grow r n =
      (regrow r (grownAlloc r n) (grownSize r n), (regrow r (grownAlloc r n) (grownSize r n)).size - r.size,
       decide (n > 0) && decide (r.alloc - r.size > 0) && decide (grownAlloc r n > r.alloc) &&
         (regrow r (grownAlloc r n) (grownSize r n)).valid) := by
  unfold grow grownSize grownAlloc
  rw [if_neg hs, if_neg hs]
  rfl

theorem regrow_fields (r : Ring) (m s' : Nat) :
    (regrow r m s').size = s' ∧ (regrow r m s').used = r.used ∧ (regrow r m s').maxsize = r.maxsize ∧
    (regrow r m s').minsize = r.minsize ∧ (regrow r m s').overwrite = r.overwrite ∧ (regrow r m s').i_in = r.i_in := by
  unfold regrow
  split <;> exact ⟨rfl, rfl, rfl, rfl, rfl, rfl⟩

theorem getD_append_left (data zs : List UInt8) (j : Nat) (h : j < data.length) : (data ++ zs).getD j 0 = data.getD j 0 := by
  rw [List.getD_eq_getElem?_getD, List.getElem?_append_left h, ← List.getD_eq_getElem?_getD]

/-! Index arithmetic of the re-layout, on plain numbers: `S` old size, `s'` new size, `p` = `i_rep`, `m` the new
`i_rep` (`m - p = s' - S`).  With the indices described from `i_rep` (`ValidP.geom`) every slot in use is
`(p + x) % (S + 1)` for an offset `x ≤ S`, and the re-layout makes it `(m + x) % (s' + 1)`. -/

/-- the replay region was moved: slots from `p` on moved up by `m - p`, slots before `p` stayed -/
theorem relayout_slot (S s' p m x : Nat) (hs : S < s') (hp : p ≤ S) (hx : x ≤ S) (hm : m + (S + 1) = p + (s' + 1)) :
    (m + x) % (s' + 1) = if p ≤ (p + x) % (S + 1) then (p + x) % (S + 1) + (m - p) else (p + x) % (S + 1) := by
  rcases mod2 (p + x) (S + 1) (by omega) with ⟨h1, h2⟩ | ⟨h1, h2⟩
  · rw [h2, if_pos (Nat.le_add_right p x), Nat.mod_eq_of_lt (by omega)]
    omega
  · rw [h2, if_neg (by omega), show m + x = p + x - (S + 1) + (s' + 1) by omega, Nat.add_mod_right,
      Nat.mod_eq_of_lt (by omega)]

/-- nothing was moved: `i_in`, `y` slots after `p`, is not before `p`, so nothing in between wraps -/
theorem no_wrap (S p y : Nat) (hp : p ≤ S) (hy : y ≤ S) (h : p ≤ (p + y) % (S + 1)) : p + y < S + 1 := by
  rcases mod2 (p + y) (S + 1) (by omega) with ⟨h1, _⟩ | ⟨h1, h2⟩
  · exact h1
  · omega

/-- the bytes after `realloc` and `memmove`: what was in slot `j` is in the slot `relayout_slot` names -/
theorem relayout_getD (data : List UInt8) (S s' p m j : Nat) (hl : data.length = S + 1) (hs : S < s') (hp : p ≤ S)
    (hm : m + (S + 1) = p + (s' + 1)) (hj : j ≤ S) :
    (blit (data ++ List.replicate (s' + 1 - data.length) 0) m
        (((data ++ List.replicate (s' + 1 - data.length) 0).drop p).take (S + 1 - p))).getD
      (if p ≤ j then j + (m - p) else j) 0 = data.getD j 0 := by
  have hk : (((data ++ List.replicate (s' + 1 - data.length) 0).drop p).take (S + 1 - p)).length = S + 1 - p := by
    rw [List.length_take, List.length_drop, List.length_append, List.length_replicate]; omega
  rw [getD_blit _ _ _ (by rw [hk, List.length_append, List.length_replicate]; omega), hk]
  by_cases hpj : p ≤ j
  · rw [if_pos hpj, if_pos (by omega), List.getD_eq_getElem?_getD, List.getElem?_take, if_pos (by omega),
      List.getElem?_drop, List.getElem?_append_left (by omega), show p + (j + (m - p) - m) = j by omega,
      ← List.getD_eq_getElem?_getD]
  · rw [if_neg hpj, if_neg (by omega)]
    exact getD_append_left _ _ _ (by omega)

theorem regrow_spec (r : Ring) (m s' : Nat) (h : ValidP r) (hs : r.size < s') (hmax : s' ≤ r.maxsize)
    (hm : m = s' + 1 + 2 * magicLen) : Took r 0 (regrow r m s') := by
  obtain ⟨R, hR, ho⟩ := h.geom
  have hi : r.i_in = (r.i_rep + (R + r.used)) % (r.size + 1) := by rw [h.in_eq, ho, Nat.mod_add_mod, Nat.add_assoc]
  have hlen : (r.data ++ List.replicate (s' + 1 - r.data.length) 0).length = s' + 1 := by
    rw [List.length_append, List.length_replicate, h.len]; omega
  have hs0 : 0 < s' := Nat.lt_trans h.size_pos hs
  have hmin : r.minsize ≤ s' := Nat.le_trans h.min_le (Nat.le_of_lt hs)
  have hpl := h.rep_le
  -- it is enough to find each unread byte in its new slot
  suffices hv : ValidP (regrow r m s') ∧ ∀ t, t < r.used →
      (regrow r m s').data.getD (((regrow r m s').i_out + t) % (s' + 1)) 0 = r.data.getD ((r.i_out + t) % (r.size + 1)) 0 by
    obtain ⟨f1, f2, f3, f4, f5, _⟩ := regrow_fields r m s'
    refine ⟨hv.1, ?_, f2, Nat.le_of_lt (f1.symm ▸ hs), f3, f4, f5⟩
    rw [hv.1.contents_eq, h.contents_eq, f1, f2]
    exact rslice_congr _ _ _ _ _ _ _ hv.2
  unfold regrow
  by_cases hr : r.i_rep > r.i_in
  · -- the replay region reaches the old end of the array and is moved to the new end
    rw [if_pos hr]
    have hmm : s' + 1 - (r.size + 1 - r.i_rep) + (r.size + 1) = r.i_rep + (s' + 1) := by omega
    have slot := fun x hx => relayout_slot r.size s' r.i_rep _ x hs hpl hx hmm
    have ho' : (if r.i_out ≥ r.i_rep then r.i_out + (s' + 1 - (r.size + 1 - r.i_rep) - r.i_rep) else r.i_out) =
        (s' + 1 - (r.size + 1 - r.i_rep) + R) % (s' + 1) := by rw [slot R (Nat.le_trans (Nat.le_add_right _ _) hR), ← ho]
    rw [ho']
    constructor
    · refine .of_geom ?_ hm hs0 hmin hmax h.min_pos (Or.inl ?_) (by dsimp only; omega) R
        (Nat.le_trans hR (Nat.le_of_lt hs)) rfl ?_
      · exact (blit_length _ _ _ (by rw [List.length_take, List.length_drop, hlen]; omega)).trans hlen
      · rcases h.wrap with hw | hw
        · exact hw
        · omega
      · show r.i_in = _
        rw [Nat.mod_add_mod, Nat.add_assoc, slot _ hR, ← hi, if_neg (by omega)]
    · intro t ht
      dsimp only
      rw [Nat.mod_add_mod, Nat.add_assoc, slot _ (Nat.le_trans (Nat.add_le_add_left (Nat.le_of_lt ht) R) hR), ho, Nat.mod_add_mod, Nat.add_assoc]
      exact relayout_getD r.data r.size s' r.i_rep _ _ h.len hs hpl hmm (Nat.le_of_lt_succ (Nat.mod_lt _ (Nat.succ_pos _)))
  · -- nothing wraps between `i_rep` and `i_in`: everything stays where it is
    rw [if_neg hr]
    have hlt := no_wrap r.size r.i_rep (R + r.used) hpl hR (by rw [← hi]; omega)
    have ho1 : r.i_out = r.i_rep + R := ho.trans (Nat.mod_eq_of_lt (by omega))
    constructor
    · refine .of_geom hlen hm hs0 hmin hmax h.min_pos h.wrap (Nat.le_trans hpl (Nat.le_of_lt hs)) R (Nat.le_trans hR (Nat.le_of_lt hs)) ?_ ?_
      · show r.i_out = (r.i_rep + R) % (s' + 1)
        exact ho1.trans (Nat.mod_eq_of_lt (by omega)).symm
      · show r.i_in = (r.i_out + r.used) % (s' + 1)
        rw [hi, ho1, Nat.add_assoc, Nat.mod_eq_of_lt hlt, Nat.mod_eq_of_lt (by omega)]
    · intro t ht
      dsimp only
      rw [ho1, Nat.mod_eq_of_lt (by omega), Nat.mod_eq_of_lt (by omega)]
      exact getD_append_left _ _ _ (by rw [h.len]; omega)

/-- `cbuf_grow (cb, n)` on a valid ring with `n > 0`: the same queue in a valid ring, no assertion fires, the new size is
    `grownSize` (= `Pm.Cbuf.growTo`), the return value is the difference. -/
theorem grow_spec (r : Ring) (n : Nat) (h : ValidP r) (hn : 0 < n) :
    Took r 0 (grow r n).1 ∧ (grow r n).2.2 = true ∧ (grow r n).1.size = grownSize r n ∧
    (grow r n).2.1 = grownSize r n - r.size := by
  by_cases hs : r.size = r.maxsize
  · have e : grow r n = (r, 0, decide (n > 0)) := by unfold grow; rw [if_pos hs]
    have g : grownSize r n = r.size := by unfold grownSize; rw [if_pos hs]
    rw [e, g]
    exact ⟨.none h, decide_eq_true hn, rfl, (Nat.sub_self _).symm⟩
  · rw [grow_eq r n hs]
    dsimp only
    have hb := grownSize_bounds r n h hn hs
    have ha := h.alloc
    have hmeta : r.alloc - r.size = 1 + 2 * magicLen := by omega
    have hM : grownAlloc r n = grownSize r n + 1 + 2 * magicLen := by
      have hg : grownSize r n = grownAlloc r n - (r.alloc - r.size) := by
        unfold grownSize grownAlloc; rw [if_neg hs]
      unfold grownAlloc at hg ⊢
      have hc : chunk = 1000 := rfl
      have hm : (r.alloc + n) % chunk < chunk := Nat.mod_lt _ (by decide)
      have := h.le_max
      simp only [magicLen] at hmeta ha ⊢
      omega
    rw [hM]
    have t := regrow_spec r (grownSize r n + 1 + 2 * magicLen) (grownSize r n) h hb.1 hb.2 rfl
    have hf := (regrow_fields r (grownSize r n + 1 + 2 * magicLen) (grownSize r n)).1
    refine ⟨t, ?_, hf, by rw [hf]⟩
    simp only [Bool.and_eq_true, decide_eq_true_eq]
    refine ⟨⟨⟨hn, by omega⟩, by simp only [magicLen] at ha ⊢; omega⟩, (valid_iff _).mpr t.valid⟩

end Pm.CbufRing
