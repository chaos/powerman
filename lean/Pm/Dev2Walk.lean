import Pm.Dev2
/-! The connection layer of `device.c` / `device_tcp.c` / `device_pipe.c` on the mirror `Pm/Dev2.lean`: the address walk
    (`tcp_connect`, `tcp_finish_connect`: `while (tcp->cur && !tcp_connect_one(dev, tcp->cur)) tcp->cur = tcp->cur->ai_next`),
    `_connect`, `_disconnect`, `_reconnect`, `_handle_ready_device`.
    `Timer.dropLogin` and `Timer.backoffEnd` are in `Timer` because C12 cites both from there.
    (Which addresses are tried, the log of a walk, `tcp->cur` inside the list: `Pm/WalkProof.lean`, `Pm/CurInv.lean`.) -/
namespace Pm.Dev2

/-- every field of the device but `fd`, `conn`, `cur`, `statConnects`, `tstate`, `tcmd` is the same -/
structure ConnFrame (d d' : Dev) : Prop where
  plugs : d'.plugs = d.plugs
  scripts : d'.scripts = d.scripts
  timeout : d'.timeout = d.timeout
  acts : d'.acts = d.acts
  toBuf : d'.toBuf = d.toBuf
  fromBuf : d'.fromBuf = d.fromBuf
  xmStr : d'.xmStr = d.xmStr
  xmOffs : d'.xmOffs = d.xmOffs
  xmResult : d'.xmResult = d.xmResult
  xmUsed : d'.xmUsed = d.xmUsed
  args : d'.args = d.args
  nextUid : d'.nextUid = d.nextUid
  shortCircuitDelay : d'.shortCircuitDelay = d.shortCircuitDelay
  wake : d'.wake = d.wake
  connected : d'.connected = d.connected
  retryCount : d'.retryCount = d.retryCount
  lastRetry : d'.lastRetry = d.lastRetry
  loggedIn : d'.loggedIn = d.loggedIn
  naddr : d'.naddr = d.naddr
  statActions : d'.statActions = d.statActions
  isPipe : d'.isPipe = d.isPipe
  cpid : d'.cpid = d.cpid
  pingPeriod : d'.pingPeriod = d.pingPeriod
  lastPing : d'.lastPing = d.lastPing
  fromSize : d'.fromSize = d.fromSize

theorem ConnFrame.rfl' (d : Dev) : ConnFrame d d := by constructor <;> rfl
theorem ConnFrame.trans {a b c : Dev} (h1 : ConnFrame a b) (h2 : ConnFrame b c) : ConnFrame a c := by
  constructor
  · exact h2.plugs.trans h1.plugs
  · exact h2.scripts.trans h1.scripts
  · exact h2.timeout.trans h1.timeout
  · exact h2.acts.trans h1.acts
  · exact h2.toBuf.trans h1.toBuf
  · exact h2.fromBuf.trans h1.fromBuf
  · exact h2.xmStr.trans h1.xmStr
  · exact h2.xmOffs.trans h1.xmOffs
  · exact h2.xmResult.trans h1.xmResult
  · exact h2.xmUsed.trans h1.xmUsed
  · exact h2.args.trans h1.args
  · exact h2.nextUid.trans h1.nextUid
  · exact h2.shortCircuitDelay.trans h1.shortCircuitDelay
  · exact h2.wake.trans h1.wake
  · exact h2.connected.trans h1.connected
  · exact h2.retryCount.trans h1.retryCount
  · exact h2.lastRetry.trans h1.lastRetry
  · exact h2.loggedIn.trans h1.loggedIn
  · exact h2.naddr.trans h1.naddr
  · exact h2.statActions.trans h1.statActions
  · exact h2.isPipe.trans h1.isPipe
  · exact h2.cpid.trans h1.cpid
  · exact h2.pingPeriod.trans h1.pingPeriod
  · exact h2.lastPing.trans h1.lastPing
  · exact h2.fromSize.trans h1.fromSize

/-- the six fields the connection functions write may take any value -/
theorem ConnFrame.set (d : Dev) (fd cur : Option Nat) (conn ts sc : Nat) (tc : UInt8) :
    ConnFrame d { d with fd := fd, conn := conn, cur := cur, tstate := ts, tcmd := tc, statConnects := sc } := by
  constructor <;> rfl

/-- a log entry that is a `read` or a `write` on the device's descriptor -/
def Sys.isIO : Sys → Bool
  | .read _ => true
  | .write _ _ => true
  | _ => false
/-- no `read`, no `write` -/
def NoIO (δ : List Sys) : Prop := ∀ s ∈ δ, s.isIO = false
theorem NoIO.nil : NoIO [] := by intro s h; simp at h
theorem NoIO.cons {s : Sys} {δ : List Sys} (hs : s.isIO = false) (h : NoIO δ) : NoIO (s :: δ) := by
  intro t ht
  rcases List.mem_cons.1 ht with rfl | ht
  · exact hs
  · exact h t ht
theorem NoIO.append {a b : List Sys} (h1 : NoIO a) (h2 : NoIO b) : NoIO (a ++ b) := by
  intro s h; rcases List.mem_append.1 h with h | h
  · exact h1 s h
  · exact h2 s h

/-- the pass state apart from the connection: the device (`ConnFrame`), and of the environment everything but the three answer
    lists; the log only grows, an abort stays -/
structure WalkFrame (c c' : CS) : Prop where
  dev : ConnFrame c.dev c'.dev
  now : c'.env.now = c.env.now
  revents : c'.env.revents = c.env.revents
  read : c'.env.read = c.env.read
  writeOk : c'.env.writeOk = c.env.writeOk
  wcap : c'.env.wcap = c.env.wcap
  pairs : c'.env.pairs = c.env.pairs
  pids : c'.env.pids = c.env.pids
  log : ∃ δ, c'.sys = c.sys ++ δ ∧ NoIO δ
  aborted : c.aborted = true → c'.aborted = true

/-- the general step of the connection layer: connection fields of the device, answers consumed, log entries that are not i/o -/
theorem WalkFrame.step {c : CS} {d' : Dev} (hd : ConnFrame c.dev d') (so co se : List Nat) {δ : List Sys} (hδ : NoIO δ)
    {ab : Bool} (hab : c.aborted = true → ab = true) :
    WalkFrame c ⟨d', { c.env with sockets := so, connects := co, soerrs := se }, c.sys ++ δ, ab⟩ :=
  ⟨hd, rfl, rfl, rfl, rfl, rfl, rfl, rfl, ⟨δ, rfl, hδ⟩, hab⟩

theorem WalkFrame.ofDev {c : CS} {d' : Dev} (hd : ConnFrame c.dev d') : WalkFrame c { c with dev := d' } :=
  ⟨hd, rfl, rfl, rfl, rfl, rfl, rfl, rfl, ⟨[], (List.append_nil _).symm, NoIO.nil⟩, id⟩

theorem WalkFrame.rfl' (c : CS) : WalkFrame c c := .ofDev (.rfl' _)
theorem WalkFrame.trans {a b c : CS} (h1 : WalkFrame a b) (h2 : WalkFrame b c) : WalkFrame a c := by
  obtain ⟨δ1, e1, n1⟩ := h1.log
  obtain ⟨δ2, e2, n2⟩ := h2.log
  exact ⟨h1.dev.trans h2.dev, h2.now.trans h1.now, h2.revents.trans h1.revents, h2.read.trans h1.read,
    h2.writeOk.trans h1.writeOk, h2.wcap.trans h1.wcap, h2.pairs.trans h1.pairs, h2.pids.trans h1.pids,
    ⟨δ1 ++ δ2, by rw [e2, e1, List.append_assoc], n1.append n2⟩, fun h => h2.aborted (h1.aborted h)⟩

/-- `getsockopt(SO_ERROR)`: clean, an error, or no scripted answer left -/
theorem finishConnectOne_outcomes (c : CS) :
    (∃ r, finishConnectOne c = ({ c with env := { c.env with soerrs := r }, sys := c.sys ++ [.soerror 0], dev := { c.dev with conn := 2, statConnects := c.dev.statConnects + 1, tstate := 0, tcmd := 0 } }, true)) ∨
    (∃ e r, finishConnectOne c = ({ c with env := { c.env with soerrs := r }, sys := c.sys ++ [.soerror e] }, false)) ∨
    finishConnectOne c = ({ c with sys := c.sys ++ [.abort "no SO_ERROR answer"], aborted := true }, false) := by
  unfold finishConnectOne
  split
  · rename_i e r _
    dsimp only
    split
    · rename_i he
      rw [beq_iff_eq] at he; subst he
      exact .inl ⟨r, rfl⟩
    · exact .inr (.inl ⟨e, r, rfl⟩)
  · exact .inr (.inr rfl)

/-- the six ways through `tcp_connect_one`: no scripted answer; EINPROGRESS; `connect` fails at once; connected at once with a
    clean `SO_ERROR`, with an error, with no `SO_ERROR` answer.  Every failure closes the socket it opened. -/
theorem connectOne_outcomes (c : CS) :
    connectOne c = ({ c with sys := c.sys ++ [.abort "no socket/connect answer"], aborted := true }, false) ∨
    ∃ fd fr ans ar e se,
      connectOne c = ({ c with env := { c.env with sockets := fr, connects := ar }, sys := c.sys ++ [.socket fd, .connect ans], dev := { c.dev with fd := some fd } }, true) ∨
      connectOne c = ({ c with env := { c.env with sockets := fr, connects := ar }, sys := c.sys ++ [.socket fd, .connect ans, .close fd], dev := { c.dev with fd := none } }, false) ∨
      connectOne c = ({ c with env := { c.env with sockets := fr, connects := ar, soerrs := se }, sys := c.sys ++ [.socket fd, .connect ans, .soerror 0], dev := { c.dev with fd := some fd, conn := 2, statConnects := c.dev.statConnects + 1, tstate := 0, tcmd := 0 } }, true) ∨
      connectOne c = ({ c with env := { c.env with sockets := fr, connects := ar, soerrs := se }, sys := c.sys ++ [.socket fd, .connect ans, .soerror e, .close fd], dev := { c.dev with fd := none } }, false) ∨
      connectOne c = ({ c with env := { c.env with sockets := fr, connects := ar }, sys := c.sys ++ [.socket fd, .connect ans, .abort "no SO_ERROR answer", .close fd], dev := { c.dev with fd := none }, aborted := true }, false) := by
  unfold connectOne
  split
  · rename_i fd fr ans ar _ _
    right
    dsimp only
    split
    · rcases finishConnectOne_outcomes { c with env := { c.env with sockets := fr, connects := ar }, sys := c.sys ++ [.socket fd, .connect ans], dev := { c.dev with fd := some fd } } with ⟨r, h⟩ | ⟨e, r, h⟩ | h <;> rw [h]
      · exact ⟨fd, fr, ans, ar, 0, r, .inr (.inr (.inl (by simp only [List.append_assoc, List.cons_append, List.nil_append, ↓reduceIte])))⟩
      · exact ⟨fd, fr, ans, ar, e, r, .inr (.inr (.inr (.inl (by simp only [List.append_assoc, List.cons_append, List.nil_append, ↓reduceIte, Bool.false_eq_true]))))⟩
      · exact ⟨fd, fr, ans, ar, 0, [], .inr (.inr (.inr (.inr (by simp only [List.append_assoc, List.cons_append, List.nil_append, ↓reduceIte, Bool.false_eq_true]))))⟩
    · split
      · exact ⟨fd, fr, ans, ar, 0, [], .inl rfl⟩
      · exact ⟨fd, fr, ans, ar, 0, [], .inr (.inl (by simp only [List.append_assoc, List.cons_append, List.nil_append]))⟩
  · exact .inl rfl

theorem finishConnectOne_frame (c : CS) : WalkFrame c (finishConnectOne c).1 := by
  rcases finishConnectOne_outcomes c with ⟨r, h⟩ | ⟨e, r, h⟩ | h <;> rw [h]
  · exact .step (.set ..) _ _ _ (.cons rfl .nil) id
  · exact .step (.rfl' _) _ _ _ (.cons rfl .nil) id
  · exact .step (.rfl' _) _ _ _ (.cons rfl .nil) fun _ => rfl

theorem connectOne_frame (c : CS) : WalkFrame c (connectOne c).1 := by
  rcases connectOne_outcomes c with h | ⟨fd, fr, ans, ar, e, se, h | h | h | h | h⟩ <;> rw [h]
  · exact .step (.rfl' _) _ _ _ (.cons rfl .nil) fun _ => rfl
  · exact .step (.set ..) _ _ _ (.cons rfl (.cons rfl .nil)) id
  · exact .step (.set ..) _ _ _ (.cons rfl (.cons rfl (.cons rfl .nil))) id
  · exact .step (.set ..) _ _ _ (.cons rfl (.cons rfl (.cons rfl .nil))) id
  · exact .step (.set ..) _ _ _ (.cons rfl (.cons rfl (.cons rfl (.cons rfl .nil)))) id
  · exact .step (.set ..) _ _ _ (.cons rfl (.cons rfl (.cons rfl (.cons rfl .nil)))) fun _ => rfl

/-- `tcp->cur = …` alone -/
theorem setCur_frame (c : CS) (v : Option Nat) : WalkFrame c { c with dev := { c.dev with cur := v } } := .ofDev (.set ..)

theorem connectWalk_frame (n : Nat) (c : CS) : WalkFrame c (connectWalk n c) := by
  fun_induction connectWalk n c with
  | case1 c => exact setCur_frame c none
  | case2 fuel c h => exact .rfl' c
  | case3 fuel c i h hok => exact connectOne_frame c
  | case4 fuel c i h hok ih => exact (connectOne_frame c).trans ((setCur_frame _ _).trans ih)

/-- `if (tcp->cur == NULL) connect_state = DEV_NOT_CONNECTED` after a walk -/
theorem walkEnd_frame (r : CS) : WalkFrame r (if r.dev.cur.isNone then { r with dev := { r.dev with conn := 0 } } else r) := by
  split
  · exact .ofDev (.set ..)
  · exact .rfl' r

theorem tcpConnect_frame (c : CS) : WalkFrame c (tcpConnect c).1 := by
  unfold tcpConnect
  split
  · exact .step (.rfl' _) _ _ _ (.cons rfl .nil) fun _ => rfl
  · split
    · exact .step (.rfl' _) _ _ _ (.cons rfl .nil) fun _ => rfl
    · exact ((WalkFrame.ofDev (.set ..)).trans (connectWalk_frame _ _)).trans (walkEnd_frame _)

theorem closeFd_frame (c : CS) : WalkFrame c (closeFd c) := by
  unfold closeFd
  split
  · exact .step (.set ..) _ _ _ (.cons rfl .nil) id
  · exact .rfl' c

theorem finishConnectFail_frame (c : CS) : WalkFrame c (finishConnectFail c) := by
  unfold finishConnectFail
  have h0 := closeFd_frame c
  generalize closeFd c = c1 at *
  split
  · exact h0.trans (.step (.set ..) _ _ _ (.cons rfl .nil) fun _ => rfl)
  · exact (h0.trans ((setCur_frame _ _).trans (connectWalk_frame _ _))).trans (walkEnd_frame _)

/-- the four ways through `pipe_connect`: one of its two asserts fires; the scripted kernel has no answer left; or `socketpair`,
    `fork`, the parent closes the child's end, and the device is CONNECTED at once -/
theorem pipeConnect_cases (c : CS) :
    (c.dev.conn ≠ 0 ∧
      pipeConnect c = ({ c with sys := c.sys ++ [.abort "assert connect_state == NOT_CONNECTED"], aborted := true }, false)) ∨
    (c.dev.conn = 0 ∧ c.dev.fd.isSome = true ∧
      pipeConnect c = ({ c with sys := c.sys ++ [.abort "assert fd == NO_FD"], aborted := true }, false)) ∨
    (c.dev.conn = 0 ∧ c.dev.fd = none ∧
      pipeConnect c = ({ c with sys := c.sys ++ [.abort "no socketpair/fork answer"], aborted := true }, false)) ∨
    ∃ fa pr pid qr, c.dev.conn = 0 ∧ c.dev.fd = none ∧
      pipeConnect c =
        ({ c with env := { c.env with pairs := pr, pids := qr },
                  sys := c.sys ++ [.socketpair fa (fa + 1), .fork pid, .close (fa + 1)],
                  dev := { c.dev with fd := some fa, conn := 2, statConnects := c.dev.statConnects + 1, cpid := some pid } }, true) := by
  unfold pipeConnect
  by_cases h0 : c.dev.conn = 0
  · rw [if_neg (by rw [h0]; decide)]
    by_cases hfs : c.dev.fd.isSome = true
    · rw [if_pos hfs]; exact .inr (.inl ⟨h0, hfs, rfl⟩)
    · rw [if_neg hfs]
      have hfd : c.dev.fd = none := by cases h : c.dev.fd with | none => rfl | some _ => rw [h] at hfs; exact absurd rfl hfs
      split
      · exact .inr (.inr (.inr ⟨_, _, _, _, h0, hfd, rfl⟩))
      · exact .inr (.inr (.inl ⟨h0, hfd, rfl⟩))
  · rw [if_pos (by simpa using h0)]; exact .inl ⟨h0, rfl⟩

theorem pipeConnect_dev (c : CS) :
    (pipeConnect c).1.dev = c.dev ∨
    ∃ fa pid, (pipeConnect c).1.dev = { c.dev with fd := some fa, conn := 2, statConnects := c.dev.statConnects + 1, cpid := some pid } := by
  rcases pipeConnect_cases c with ⟨_, e⟩ | ⟨_, _, e⟩ | ⟨_, _, e⟩ | ⟨fa, _, pid, _, _, _, e⟩ <;> rw [e]
  · exact .inl rfl
  · exact .inl rfl
  · exact .inl rfl
  · exact .inr ⟨fa, pid, rfl⟩

theorem pipeConnect_frame (c : CS) : (pipeConnect c).1.dev.acts = c.dev.acts := by
  rcases pipeConnect_dev c with e | ⟨_, _, e⟩ <;> rw [e]

/-- the outcome of `tcp_connect_one`: `true` leaves a descriptor (CONNECTED after a `connect` that completed at once and a clean
    `SO_ERROR`, otherwise the state is what it was); `false` leaves none if one was opened; the address pointer is not touched -/
theorem connectOne_cases (c : CS) :
    (connectOne c).1.dev.cur = c.dev.cur ∧
    (((connectOne c).2 = true ∧ (connectOne c).1.dev.fd.isSome = true ∧
        ((connectOne c).1.dev.conn = 2 ∨ (connectOne c).1.dev.conn = c.dev.conn)) ∨
     ((connectOne c).2 = false ∧ (connectOne c).1.dev.conn = c.dev.conn ∧
        ((connectOne c).1.dev.fd = none ∨ (connectOne c).1.dev.fd = c.dev.fd))) := by
  rcases connectOne_outcomes c with h | ⟨fd, fr, ans, ar, e, se, h | h | h | h | h⟩ <;> rw [h]
  · exact ⟨rfl, .inr ⟨rfl, rfl, .inr rfl⟩⟩
  · exact ⟨rfl, .inl ⟨rfl, rfl, .inr rfl⟩⟩
  · exact ⟨rfl, .inr ⟨rfl, rfl, .inl rfl⟩⟩
  · exact ⟨rfl, .inl ⟨rfl, rfl, .inl rfl⟩⟩
  · exact ⟨rfl, .inr ⟨rfl, rfl, .inl rfl⟩⟩
  · exact ⟨rfl, .inr ⟨rfl, rfl, .inl rfl⟩⟩

/-- a walk ends with `cur == NULL` and whatever descriptor state the last failure left, or on an address whose
    `tcp_connect_one` returned true -/
theorem connectWalk_cases (n : Nat) (c : CS) (hfd : c.dev.fd = none) :
    ((connectWalk n c).dev.cur = none ∧ (connectWalk n c).dev.fd = none ∧ (connectWalk n c).dev.conn = c.dev.conn) ∨
    ((connectWalk n c).dev.cur.isSome = true ∧ (connectWalk n c).dev.fd.isSome = true ∧
      ((connectWalk n c).dev.conn = 2 ∨ (connectWalk n c).dev.conn = c.dev.conn)) := by
  fun_induction connectWalk n c with
  | case1 c => left; exact ⟨rfl, hfd, rfl⟩
  | case2 fuel c h => left; exact ⟨h, hfd, rfl⟩
  | case3 fuel c i hi hok =>
    obtain ⟨hcur, hc⟩ := connectOne_cases c
    right
    rcases hc with ⟨_, h2, h3⟩ | ⟨h1, _⟩
    · exact ⟨by rw [hcur, hi]; rfl, h2, h3⟩
    · rw [h1] at hok; cases hok
  | case4 fuel c i hi hok ih =>
    obtain ⟨hcur, hc⟩ := connectOne_cases c
    rcases hc with ⟨h1, _⟩ | ⟨_, h2, h3⟩
    · exact absurd h1 hok
    · have hfd' : (connectOne c).1.dev.fd = none := h3.elim id (fun h3 => h3.trans hfd)
      rcases ih hfd' with ⟨a, b, d⟩ | ⟨a, b, d⟩
      · left; exact ⟨a, b, d.trans h2⟩
      · right; exact ⟨a, b, d.imp id (·.trans h2)⟩

/-- decoder state and connect counter untouched -/
def TelSame (d d' : Dev) : Prop := d'.tstate = d.tstate ∧ d'.tcmd = d.tcmd ∧ d'.statConnects = d.statConnects
/-- a connection came up: CONNECTED, the decoder reset (`_telnet_init`), one more successful connect counted -/
def TelUp (d d' : Dev) : Prop := d'.conn = 2 ∧ d'.tstate = 0 ∧ d'.tcmd = 0 ∧ d'.statConnects = d.statConnects + 1

theorem connectOne_tel (c : CS) :
    (TelSame c.dev (connectOne c).1.dev ∧ (connectOne c).1.dev.conn = c.dev.conn) ∨
    ((connectOne c).2 = true ∧ TelUp c.dev (connectOne c).1.dev) := by
  rcases connectOne_outcomes c with h | ⟨fd, fr, ans, ar, e, se, h | h | h | h | h⟩ <;> rw [h]
  · exact .inl ⟨⟨rfl, rfl, rfl⟩, rfl⟩
  · exact .inl ⟨⟨rfl, rfl, rfl⟩, rfl⟩
  · exact .inl ⟨⟨rfl, rfl, rfl⟩, rfl⟩
  · exact .inr ⟨rfl, rfl, rfl, rfl, rfl⟩
  · exact .inl ⟨⟨rfl, rfl, rfl⟩, rfl⟩
  · exact .inl ⟨⟨rfl, rfl, rfl⟩, rfl⟩

theorem connectWalk_tel (n : Nat) (c : CS) :
    (TelSame c.dev (connectWalk n c).dev ∧ (connectWalk n c).dev.conn = c.dev.conn) ∨
    ((connectWalk n c).dev.cur.isSome = true ∧ TelUp c.dev (connectWalk n c).dev) := by
  fun_induction connectWalk n c with
  | case1 c => left; exact ⟨⟨rfl, rfl, rfl⟩, rfl⟩
  | case2 fuel c h => left; exact ⟨⟨rfl, rfl, rfl⟩, rfl⟩
  | case3 fuel c i hi hok =>
    rcases connectOne_tel c with h | ⟨_, h⟩
    · left; exact h
    · right; exact ⟨by rw [(connectOne_cases c).1, hi]; rfl, h⟩
  | case4 fuel c i hi hok ih =>
    rcases connectOne_tel c with ⟨⟨a1, a2, a3⟩, a4⟩ | ⟨h, _⟩
    · rcases ih with ⟨⟨b1, b2, b3⟩, b4⟩ | ⟨b0, b1, b2, b3, b4⟩
      · left; exact ⟨⟨b1.trans a1, b2.trans a2, b3.trans a3⟩, b4.trans a4⟩
      · right; exact ⟨b0, b1, b2, b3, b4.trans (congrArg (· + 1) a3)⟩
    · exact absurd h hok

theorem tcpConnect_tel (c : CS) :
    (TelSame c.dev (tcpConnect c).1.dev ∧
      ((tcpConnect c).1.dev.conn = c.dev.conn ∨ (tcpConnect c).1.dev.conn = 0 ∨ (tcpConnect c).1.dev.conn = 1)) ∨
    TelUp c.dev (tcpConnect c).1.dev := by
  unfold tcpConnect
  split
  · left; exact ⟨⟨rfl, rfl, rfl⟩, Or.inl rfl⟩
  · split
    · left; exact ⟨⟨rfl, rfl, rfl⟩, Or.inl rfl⟩
    · dsimp only
      have h := connectWalk_tel c.dev.naddr { c with dev := { c.dev with conn := 1, cur := some 0 } }
      generalize connectWalk c.dev.naddr _ = r at *
      rcases h with ⟨a, b⟩ | ⟨b0, b⟩
      · left
        split
        · exact ⟨a, Or.inr (Or.inl rfl)⟩
        · exact ⟨a, Or.inr (Or.inr b)⟩
      · right
        rw [if_neg fun hn => by rw [Option.isNone_iff_eq_none.1 hn] at b0; cases b0]
        exact b

theorem closeFd_tel (c : CS) : TelSame c.dev (closeFd c).dev ∧ (closeFd c).dev.conn = c.dev.conn := by
  unfold closeFd; split <;> exact ⟨⟨rfl, rfl, rfl⟩, rfl⟩

theorem finishConnectFail_tel (c : CS) :
    (TelSame c.dev (finishConnectFail c).dev ∧
      ((finishConnectFail c).dev.conn = 0 ∨ (finishConnectFail c).dev.conn = c.dev.conn)) ∨
    TelUp c.dev (finishConnectFail c).dev := by
  unfold finishConnectFail
  obtain ⟨⟨t1, t2, t3⟩, t4⟩ := closeFd_tel c
  generalize closeFd c = c1 at *
  split
  · left; exact ⟨⟨t1, t2, t3⟩, Or.inl rfl⟩
  · rename_i i _
    dsimp only
    have h := connectWalk_tel c1.dev.naddr { c1 with dev := { c1.dev with cur := aiNext c1.dev.naddr i } }
    generalize connectWalk c1.dev.naddr _ = r at *
    unfold TelSame TelUp at *
    rcases h with ⟨⟨a1, a2, a3⟩, b⟩ | ⟨b0, b1, b2, b3, b4⟩
    · left
      split
      · exact ⟨⟨a1.trans t1, a2.trans t2, a3.trans t3⟩, Or.inl rfl⟩
      · exact ⟨⟨a1.trans t1, a2.trans t2, a3.trans t3⟩, Or.inr (b.trans t4)⟩
    · right
      rw [if_neg fun hn => by rw [Option.isNone_iff_eq_none.1 hn] at b0; cases b0]
      exact ⟨b1, b2, b3, by rw [b4]; exact congrArg (· + 1) t3⟩

/-! ### the functions above the walk, cut into pieces

`_handle_ready_device` in its write half and its read half, `_connect` and `_disconnect` in their steps: every proof file that goes
through these functions reasons about the pieces. -/

namespace Tel

/-- POLLOUT while CONNECTING: `assert(dev->finish_connect != NULL)`, `tcp_finish_connect`, and what `_handle_ready_device`
    makes of its outcome -/
def finishTail (c : CS) : CS × Bool × Bool :=
  if c.dev.conn == 0 then (c, true, true)
  else if c.dev.conn == 2 then ({ c with dev := enqueueLogin c.dev }, false, true)
  else (c, false, true)
def readyFinish (c : CS) : CS × Bool × Bool :=
  if c.dev.isPipe then ({ c with sys := c.sys ++ [.abort "assert finish_connect != NULL"], aborted := true }, false, true) else
  finishTail (if (finishConnectOne c).2 then (finishConnectOne c).1 else finishConnectFail (finishConnectOne c).1)

/-- `_handle_ready_device` from "ready for writing" to just before "ready for reading": the state, ioerr, and
    whether the read bit is skipped -/
def readyWrite (c : CS) : CS × Bool × Bool :=
  let f := c.env.revents
  if f &&& 2 != 0 then
    if c.dev.conn == 1 then readyFinish c
    else
      if c.dev.toBuf.isEmpty then (c, true, false)
      else if c.env.writeOk then
        if c.env.wcap == 0 then ({ c with sys := c.sys ++ [.write [] true] }, true, false)
        else ({ c with sys := c.sys ++ [.write (c.dev.toBuf.take c.env.wcap) true], dev := { c.dev with toBuf := c.dev.toBuf.drop c.env.wcap } }, false, false)
      else ({ c with sys := c.sys ++ [.write c.dev.toBuf false] }, true, false)
  else (c, false, false)

/-- `_handle_read` + preprocessing once the capacity half (`clipRead`) is done: what happens with the bytes read -/
def readyRd (c : CS) : CS × Bool :=
  match c.env.read with
  | some (some bs) =>
    if bs.isEmpty then ({ c with sys := c.sys ++ [.read 0] }, true)
    else ({ c with sys := c.sys ++ [.read bs.length],
                   dev := if c.dev.isPipe then { c.dev with fromBuf := c.dev.fromBuf ++ bs } else telnetFilter c.dev bs }, false)
  | some none => ({ c with sys := c.sys ++ [.read (-1)] }, true)
  | none => ({ c with sys := c.sys ++ [.abort "no read answer"], aborted := true }, false)

/-- `_handle_ready_device`, "ready for reading" (`f` = the poll flags) -/
def readyRead (f : Nat) (c : CS) : CS × Bool :=
  if f &&& 1 != 0 then readyRd (clipRead c) else (c, false)

theorem handleReady_eq (c : CS) :
    handleReady c =
      (if c.dev.conn == 0 then ({ c with sys := c.sys ++ [.abort "assert connect_state != NOT_CONNECTED"], aborted := true }, false) else
       if c.dev.fd.isNone then ({ c with sys := c.sys ++ [.abort "assert fd != NO_FD"], aborted := true }, false) else
       if c.env.revents &&& 4 != 0 || c.env.revents &&& 8 != 0 || c.env.revents &&& 16 != 0 then (c, true) else
       if (readyWrite c).2.1 then ((readyWrite c).1, true) else
       if (readyWrite c).2.2 then ((readyWrite c).1, false) else
       readyRead c.env.revents (readyWrite c).1) := by
  unfold handleReady; rfl

/-- the write half, every case: a pending connect is continued (`readyFinish`); or nothing is written (the descriptor is not
    writable, or nothing is queued: an i/o error); or one `write` is logged — `ok` with the front piece `wr` of `toBuf` as its
    payload, which leaves the buffer (all of it stays at `EAGAIN`), or failed, with `toBuf` as it was -/
theorem readyWrite_cases (c : CS) :
    (c.dev.conn = 1 ∧ readyWrite c = readyFinish c) ∨
    (∃ io, readyWrite c = (c, io, false)) ∨
    ∃ wr ok kept io, (if ok then wr else []) ++ kept = c.dev.toBuf ∧
      (kept = c.dev.toBuf ∨ kept = c.dev.toBuf.drop c.env.wcap) ∧
      readyWrite c = ({ c with sys := c.sys ++ [.write wr ok], dev := { c.dev with toBuf := kept } }, io, false) := by
  unfold readyWrite
  dsimp only
  by_cases hf : (c.env.revents &&& 2 != 0) = true
  · rw [if_pos hf]
    by_cases h1 : (c.dev.conn == 1) = true
    · rw [if_pos h1]; exact .inl ⟨by simpa using h1, rfl⟩
    rw [if_neg h1]
    by_cases hb : c.dev.toBuf.isEmpty = true
    · rw [if_pos hb]; exact .inr (.inl ⟨_, rfl⟩)
    rw [if_neg hb]
    refine .inr (.inr ?_)
    by_cases hw : c.env.writeOk = true
    · rw [if_pos hw]
      by_cases h0 : (c.env.wcap == 0) = true
      · rw [if_pos h0]; exact ⟨[], true, c.dev.toBuf, _, rfl, .inl rfl, rfl⟩
      · rw [if_neg h0]; exact ⟨_, true, _, _, List.take_append_drop _ _, .inr rfl, rfl⟩
    · rw [if_neg hw]; exact ⟨c.dev.toBuf, false, c.dev.toBuf, _, rfl, .inl rfl, rfl⟩
  · rw [if_neg hf]; exact .inr (.inl ⟨_, rfl⟩)

end Tel

namespace Fd

/-- `_connect` cut into its three steps -/
abbrev bump (c : CS) : CS := { c with dev := { c.dev with lastRetry := c.env.now, retryCount := c.dev.retryCount + 1 } }
def connTail (r : CS × Bool) : CS := if r.2 && !r.1.aborted then { r.1 with dev := enqueueLogin r.1.dev } else r.1
theorem connectDev_eq (c : CS) :
    connectDev c = connTail (if (bump c).dev.isPipe then pipeConnect (bump c) else tcpConnect (bump c)) := rfl

/-- `_handle_ready_device` called without a descriptor stops at one of its two entry asserts and changes nothing in the device -/
theorem handleReady_noFd (c : CS) (hfd : c.dev.fd = none) : (handleReady c).1.dev = c.dev := by
  rw [Tel.handleReady_eq]
  split
  · rfl
  · rw [if_pos (by rw [hfd]; rfl)]

def closeOf : Option Nat → List Sys
  | some fd => [Sys.close fd]
  | none => []
def reapOf : Bool → Option Nat → List Sys
  | true, some pid => [Sys.kill pid, Sys.waitpid pid]
  | _, _ => []

end Fd

namespace Timer
/-- the queue `_disconnect` leaves: a login action at the head is dropped, everything else is kept in order -/
def dropLogin : List Action → List Action
  | a :: r => if a.com == 0 then r else a :: r
  | [] => []

theorem dropLogin_subset (l : List Action) : ∀ a ∈ dropLogin l, a ∈ l := by
  cases l with
  | nil => exact fun _ h => h
  | cons x r =>
    intro a h
    rw [dropLogin] at h
    split at h
    · exact List.mem_cons_of_mem _ h
    · exact h
end Timer

theorem disconnectDev_cs (c : CS) :
    disconnectDev c =
      { c with sys := c.sys ++ Fd.closeOf c.dev.fd ++ Fd.reapOf c.dev.isPipe c.dev.cpid,
               dev := { c.dev with fd := none, cpid := if c.dev.isPipe then none else c.dev.cpid, toBuf := [], fromBuf := [],
                                   conn := 0, loggedIn := false,
                                   acts := Timer.dropLogin c.dev.acts } } := by
  obtain ⟨d, e, s, a⟩ := c
  unfold disconnectDev Timer.dropLogin
  -- the three `match`es of the model, on the descriptor, on transport and child, on the head of the queue
  cases hf : d.fd <;> cases hp : d.isPipe <;> cases hc : d.cpid <;>
    simp only [hf, hp, hc, Fd.closeOf, Fd.reapOf, List.append_nil, ↓reduceIte, Bool.false_eq_true] <;> cases d.acts <;> rfl

/-! ### `_connect`, `_disconnect`, `_reconnect` seen from the queue; the ways `_reconnect` can go -/

theorem finishConnectOne_acts (c : CS) : (finishConnectOne c).1.dev.acts = c.dev.acts := (finishConnectOne_frame c).dev.acts
theorem connectOne_acts (c : CS) : (connectOne c).1.dev.acts = c.dev.acts := (connectOne_frame c).dev.acts

/-- the flag a transport's connect returns says CONNECTED: where it stops at an assert or without an answer the device is as it
    was, NOT_CONNECTED -/
theorem tcpConnect_flag (c : CS) (h0 : c.dev.conn = 0) : (tcpConnect c).2 = ((tcpConnect c).1.dev.conn == 2) := by
  have stay : false = (c.dev.conn == 2) := by rw [h0]; rfl
  unfold tcpConnect
  split
  · exact stay
  split
  · exact stay
  · rfl
theorem pipeConnect_flag (c : CS) (h0 : c.dev.conn = 0) : (pipeConnect c).2 = ((pipeConnect c).1.dev.conn == 2) := by
  have stay : false = (c.dev.conn == 2) := by rw [h0]; rfl
  rcases pipeConnect_cases c with ⟨_, e⟩ | ⟨_, _, e⟩ | ⟨_, _, e⟩ | ⟨_, _, _, _, _, _, e⟩ <;> rw [e]
  · exact stay
  · exact stay
  · exact stay
  · rfl

theorem pipeConnect_now (c : CS) : (pipeConnect c).1.env.now = c.env.now := by
  rcases pipeConnect_cases c with ⟨_, e⟩ | ⟨_, _, e⟩ | ⟨_, _, e⟩ | ⟨_, _, _, _, _, _, e⟩ <;> rw [e]

/-- everything `_connect` does, seen from outside the connection: the attempt is counted; the transport's connect changes the
    device (`d1`) in the connection fields only and — a coprocess — in the child's pid; the clock of the pass stays; and, when
    `_connect` is called on a NOT_CONNECTED device as `_reconnect` calls it, the login action is put in front of the queue exactly
    when the device is CONNECTED now and the transport did not stop on a modelled abort -/
theorem connectDev_frame (c : CS) :
    ∃ d1 : Dev, ConnFrame { (Fd.bump c).dev with cpid := d1.cpid } d1 ∧
      (connectDev c).env.now = c.env.now ∧
      (((connectDev c).dev = enqueueLogin d1 ∧ (c.dev.conn = 0 → d1.conn = 2)) ∨
       ((connectDev c).dev = d1 ∧ (c.dev.conn = 0 → d1.conn ≠ 2 ∨ (connectDev c).aborted = true))) := by
  rw [Fd.connectDev_eq]
  have tail : ∀ r : CS × Bool, (c.dev.conn = 0 → r.2 = (r.1.dev.conn == 2)) →
      (Fd.connTail r).env = r.1.env ∧
      (((Fd.connTail r).dev = enqueueLogin r.1.dev ∧ (c.dev.conn = 0 → r.1.dev.conn = 2)) ∨
       ((Fd.connTail r).dev = r.1.dev ∧ (c.dev.conn = 0 → r.1.dev.conn ≠ 2 ∨ (Fd.connTail r).aborted = true))) := by
    intro r hfl
    unfold Fd.connTail
    by_cases h : (r.2 && !r.1.aborted) = true
    · rw [if_pos h]
      exact ⟨rfl, .inl ⟨rfl, fun h0 => by rw [hfl h0, Bool.and_eq_true] at h; exact eq_of_beq h.1⟩⟩
    · rw [if_neg h]
      refine ⟨rfl, .inr ⟨rfl, fun h0 => ?_⟩⟩
      rw [hfl h0] at h
      by_cases h2 : r.1.dev.conn = 2
      · exact .inr (by simpa [h2] using h)
      · exact .inl h2
  have hb0 : c.dev.conn = 0 → (Fd.bump c).dev.conn = 0 := id
  by_cases hp : (Fd.bump c).dev.isPipe = true
  · rw [if_pos hp]
    obtain ⟨he, ht⟩ := tail (pipeConnect (Fd.bump c)) fun h0 => pipeConnect_flag _ (hb0 h0)
    refine ⟨(pipeConnect (Fd.bump c)).1.dev, ?_, by rw [he]; exact pipeConnect_now _, ht⟩
    rcases pipeConnect_dev (Fd.bump c) with e | ⟨fa, pid, e⟩
    · rw [e]; exact .rfl' _
    · rw [e]; constructor <;> rfl
  · rw [if_neg hp]
    obtain ⟨he, ht⟩ := tail (tcpConnect (Fd.bump c)) fun h0 => tcpConnect_flag _ (hb0 h0)
    have h := tcpConnect_frame (Fd.bump c)
    exact ⟨(tcpConnect (Fd.bump c)).1.dev, by rw [h.dev.cpid]; exact h.dev, by rw [he]; exact h.now, ht⟩

theorem disconnectDev_empty (c : CS) (h : c.dev.acts = []) : (disconnectDev c).dev.acts = [] := by
  rw [disconnectDev_cs]; show Timer.dropLogin c.dev.acts = []; rw [h]; rfl

theorem disconnectDev_conn (c : CS) : (disconnectDev c).dev.conn = 0 := by rw [disconnectDev_cs]

namespace Timer
/-- the instant at which `_time_to_reconnect` allows the next attempt (meaningful when `retry_count > 0`) -/
def backoffEnd (d : Dev) : Time := d.lastRetry + (rtab.getD (min (d.retryCount - 1) 6) 60) * 1000000

theorem rtab_ge_one : ∀ x ∈ rtab, 1 ≤ x := by decide

theorem backoffEnd_ge (d : Dev) : d.lastRetry + 1000000 ≤ backoffEnd d := by
  have hlt : min (d.retryCount - 1) 6 < rtab.length := Nat.lt_succ_of_le (Nat.min_le_right _ _)
  have hr : 1 ≤ rtab.getD (min (d.retryCount - 1) 6) 60 := by
    rw [List.getD_eq_getElem?_getD, List.getElem?_eq_getElem hlt]
    exact rtab_ge_one _ (List.getElem_mem hlt)
  have hw := Nat.mul_le_mul_right 1000000 hr
  unfold backoffEnd Time
  omega

theorem timeToReconnect_spec (d : Dev) (now : Time) :
    (timeToReconnect d now = (true, none) ∧ (d.retryCount = 0 ∨ backoffEnd d ≤ now)) ∨
    (timeToReconnect d now = (false, some (backoffEnd d - now)) ∧ 0 < d.retryCount ∧ now < backoffEnd d) := by
  unfold timeToReconnect backoffEnd
  by_cases h : d.retryCount > 0
  · rw [if_pos h]
    dsimp only
    by_cases h2 : now ≥ d.lastRetry + rtab.getD (min (d.retryCount - 1) 6) 60 * 1000000
    · rw [if_pos h2]; exact Or.inl ⟨rfl, Or.inr h2⟩
    · rw [if_neg h2]; exact Or.inr ⟨rfl, h, by unfold Time at *; omega⟩
  · rw [if_neg h]
    exact Or.inl ⟨rfl, Or.inl (by omega)⟩

end Timer
open Timer in
/-- `_reconnect`: `_disconnect` first unless the device is NOT_CONNECTED already (`c1`); then a connect attempt if none has
    been counted or the back-off is over, else the rest of the back-off is registered and nothing more happens -/
theorem reconnectDev_cases (c : CS) (tmo : Option Time) :
    ∃ c1, c1 = (if (c.dev.conn != 0) = true then disconnectDev c else c) ∧ c1.dev.conn = 0 ∧
      (((c1.dev.retryCount = 0 ∨ backoffEnd c1.dev ≤ c1.env.now) ∧ reconnectDev c tmo = (connectDev c1, tmo)) ∨
       (0 < c1.dev.retryCount ∧ c1.env.now < backoffEnd c1.dev ∧
          reconnectDev c tmo = (c1, upd tmo (backoffEnd c1.dev - c1.env.now)))) := by
  refine ⟨_, rfl, ?_, ?_⟩
  · split
    · exact disconnectDev_conn c
    · rename_i h; simpa using h
  · unfold reconnectDev
    dsimp only
    generalize (if (c.dev.conn != 0) = true then disconnectDev c else c) = c1
    rcases timeToReconnect_spec c1.dev c1.env.now with ⟨h, hb⟩ | ⟨h, hpos, hlt⟩
    · rw [h]; exact Or.inl ⟨hb, rfl⟩
    · rw [h]; exact Or.inr ⟨hpos, hlt, rfl⟩

/-- what holds after the optional `_disconnect` (`Q`) and is carried by `_connect` or by doing nothing into `P`, holds after `_reconnect` -/
theorem reconnectDev_elim {Q P : CS → Prop} (c : CS) (tmo : Option Time)
    (hdis : c.dev.conn ≠ 0 → Q (disconnectDev c)) (hidle : c.dev.conn = 0 → Q c)
    (hcon : ∀ c1, c1.dev.conn = 0 → Q c1 → P (connectDev c1)) (hkeep : ∀ c1, c1.dev.conn = 0 → Q c1 → P c1) :
    P (reconnectDev c tmo).1 := by
  obtain ⟨c1, hc1, h0, ⟨_, e⟩ | ⟨_, _, e⟩⟩ := reconnectDev_cases c tmo
  all_goals
    rw [e]
    have hq : Q c1 := by
      rw [hc1]
      by_cases h : c.dev.conn = 0
      · rw [if_neg (by simp [h])]; exact hidle h
      · rw [if_pos (by simpa using h)]; exact hdis h
  · exact hcon c1 h0 hq
  · exact hkeep c1 h0 hq

end Pm.Dev2
