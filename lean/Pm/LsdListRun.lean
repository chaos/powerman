import Pm.LsdListSort
/-! # `valid`, every call, any sequence of calls

* `valid_iff`: the executable check `valid` of `Pm/LsdList.lean` is exactly the representation invariant `Valid`.
* `apply_refines` / `run_refines`: every call of the API, and any sequence of calls, on a represented list is the same call /
  sequence on the list with cursors (`Abs`, `Pm/LsdListAbs.lean`); the C code dies only where a handle is misused. -/
namespace Pm.LsdList
variable {α : Type}

/-! ## `valid` (the executable check) is `Valid` (the representation invariant) -/

theorem fieldsOf_getLast (ns : List Nat) : (fieldsOf ns).getLast! = fieldAt ns ns.length := by
  apply List.getLast!_of_getLast?
  rw [List.getLast?_eq_getElem?, fieldsOf_length]
  simp only [Nat.add_sub_cancel]
  exact fieldsOf_getElem? ns ns.length (Nat.le_refl _)

theorem Valid.valid {l : LList α} (h : Valid l) : valid l = true := by
  obtain ⟨ns, items, h⟩ := h
  unfold LsdList.valid
  rw [h.toChain.nodes]
  simp only [Bool.and_eq_true, beq_iff_eq, List.all_eq_true, decide_eq_true_eq, Bool.not_eq_true', Option.isSome_iff_exists]
  refine ⟨⟨⟨⟨⟨⟨h.count, ?_⟩, ?_⟩, h.freeNodup⟩, ?_⟩, h.keys⟩, ?_⟩
  · rw [fieldsOf_getLast]; exact h.tail
  · intro p hp
    obtain ⟨k, hk⟩ := List.mem_iff_getElem?.mp hp
    obtain ⟨d, hd⟩ := h.toChain.item k p hk
    exact ⟨d, by rw [h.toChain.dataOf k p hk, hd]⟩
  · intro p hp
    refine ⟨(h.freeOk p hp).1, ?_⟩
    cases hc : ns.contains p with
    | false => rfl
    | true =>
      obtain ⟨k, hk⟩ := List.mem_iff_getElem?.mp (List.contains_iff_mem.mp hc)
      exact absurd hk ((h.freeOk p hp).2 k)
  · intro ki hki
    obtain ⟨j, g, pl⟩ := h.place ki hki
    exact ⟨(j, g), pl.iterPlace h.inj⟩

theorem walk_spec (cells : Array (Cell α)) : ∀ (fuel : Nat) (s : Option Nat) (ns : List Nat), walk cells fuel s = some ns →
    s = ns[0]? ∧ ∀ (k n : Nat), ns[k]? = some n → ∃ c, cells[n]? = some c ∧ c.next = ns[k + 1]? := by
  intro fuel
  induction fuel with
  | zero =>
    intro s ns h
    cases s with
    | none => simp [walk] at h; subst h; simp
    | some p => simp [walk] at h
  | succ fuel ih =>
    intro s ns h
    cases s with
    | none => simp [walk] at h; subst h; simp
    | some p =>
      simp only [walk] at h
      cases hc : cells[p]? with
      | none => simp [hc] at h
      | some c =>
        simp only [hc] at h
        cases hw : walk cells fuel c.next with
        | none => simp [hw] at h
        | some rest =>
          simp only [hw, Option.map_some, Option.some.injEq] at h
          subst h
          obtain ⟨h1, h2⟩ := ih c.next rest hw
          refine ⟨by simp, ?_⟩
          intro k n hk
          cases k with
          | zero =>
            simp at hk; subst hk
            exact ⟨c, hc, by simpa using h1⟩
          | succ k' =>
            simp at hk
            simpa using h2 k' n hk

theorem inj_of_pointwise (cells : Array (Cell α)) (ns : List Nat)
    (hp : ∀ (k n : Nat), ns[k]? = some n → ∃ c, cells[n]? = some c ∧ c.next = ns[k + 1]?) : Inj ns := by
  have key : ∀ (a b n : Nat), ns[a]? = some n → ns[b]? = some n → ∀ d, ns[a + d]? = ns[b + d]? := by
    intro a b n ha hb d
    induction d with
    | zero => simp [ha, hb]
    | succ d ih =>
      cases hx : ns[a + d]? with
      | none =>
        have h1 : ns.length ≤ a + d := by simpa using hx
        have h2 : ns.length ≤ b + d := by rw [hx] at ih; simpa using ih.symm
        rw [List.getElem?_eq_none (by omega), List.getElem?_eq_none (by omega)]
      | some m =>
        obtain ⟨c, hc, hn⟩ := hp (a + d) m hx
        obtain ⟨c', hc', hn'⟩ := hp (b + d) m (by rw [← ih, hx])
        rw [hc] at hc'
        have : c = c' := by simpa using hc'
        subst this
        rw [Nat.add_succ, Nat.add_succ, ← hn, ← hn']
  have lt : ∀ (a b n : Nat), a < b → ns[a]? = some n → ns[b]? = some n → False := by
    intro a b n hab ha hb
    have hbl : b < ns.length := (List.getElem?_eq_some_iff.mp hb).1
    have := key a b n ha hb (ns.length - b)
    rw [List.getElem?_eq_none (by omega : ns.length ≤ b + (ns.length - b))] at this
    have h2 : ns.length ≤ a + (ns.length - b) := by simpa using this
    omega
  intro a b n ha hb
  rcases Nat.lt_trichotomy a b with h | h | h
  · exact absurd (lt a b n h ha hb) id
  · exact h
  · exact absurd (lt b a n h hb ha) id

theorem exists_items (l : LList α) : ∀ (ns : List Nat), (∀ p ∈ ns, ∃ d, dataOf l p = some d) →
    ∃ items : List α, items.length = ns.length ∧ ∀ (k n : Nat), ns[k]? = some n → dataOf l n = items[k]? := by
  intro ns
  induction ns with
  | nil => intro _; exact ⟨[], rfl, by simp⟩
  | cons p ps ih =>
    intro h
    obtain ⟨d, hd⟩ := h p (by simp)
    obtain ⟨items, hl, hi⟩ := ih (fun q hq => h q (by simp [hq]))
    refine ⟨d :: items, by simp [hl], ?_⟩
    intro k n hk
    cases k with
    | zero => simp at hk; subst hk; simpa using hd
    | succ k' => simp at hk; simpa using hi k' n hk

theorem valid_Valid {l : LList α} (h : valid l = true) : Valid l := by
  unfold LsdList.valid at h
  cases hn : nodes l with
  | none => simp [hn] at h
  | some ns =>
    simp only [hn, Bool.and_eq_true, beq_iff_eq, List.all_eq_true, decide_eq_true_eq, Bool.not_eq_true',
      Option.isSome_iff_exists] at h
    obtain ⟨⟨⟨⟨⟨⟨hcount, htail⟩, hdata⟩, hfn⟩, hfree⟩, hkeys⟩, hplace⟩ := h
    obtain ⟨hhead, hpt⟩ := walk_spec l.cells _ _ _ hn
    have hinj := inj_of_pointwise l.cells ns hpt
    obtain ⟨items, hlen, hitems⟩ := exists_items l ns hdata
    refine ⟨ns, items, ⟨⟨hlen, hhead, ?_, hinj⟩, hcount, ?_, hfn, ?_, hkeys, ?_⟩⟩
    · intro k n hk
      obtain ⟨c, hc, hnx⟩ := hpt k n hk
      have := hitems k n hk
      simp only [LsdList.dataOf, hc] at this
      rw [hc, ← this, ← hnx]
    · rw [htail, fieldsOf_getLast]
    · intro p hp
      refine ⟨(hfree p hp).1, ?_⟩
      intro k hk
      have hm : p ∈ ns := List.mem_iff_getElem?.mpr ⟨k, hk⟩
      have := (hfree p hp).2
      rw [List.contains_iff_mem.mpr hm] at this
      exact absurd this (by simp)
    · intro ki hki
      obtain ⟨⟨j, g⟩, hjg⟩ := hplace ki hki
      unfold LsdList.iterPlace at hjg
      simp only [] at hjg
      split at hjg
      · rename_i hle
        have hlt : (fieldsOf ns).idxOf ki.2.prev < (fieldsOf ns).length := by rw [fieldsOf_length]; omega
        have hprev : ki.2.prev = fieldAt ns ((fieldsOf ns).idxOf ki.2.prev) := by
          have h1 := List.getElem_idxOf hlt
          have h2 := fieldsOf_getElem? ns _ hle
          rw [List.getElem?_eq_getElem hlt, h1] at h2
          exact Option.some.inj h2
        split at hjg
        · rename_i ht
          rw [targetsOf_getElem? ns _ hle] at ht
          refine ⟨_, false, ⟨by simpa using hle, hprev, ?_⟩⟩
          simpa using (Option.some.inj ht).symm
        · split at hjg
          · rename_i ht
            by_cases hlt2 : (fieldsOf ns).idxOf ki.2.prev + 1 ≤ ns.length
            · rw [targetsOf_getElem? ns _ hlt2] at ht
              refine ⟨_, true, ⟨by simpa using hlt2, hprev, ?_⟩⟩
              simpa using (Option.some.inj ht).symm
            · have : (targetsOf ns)[(fieldsOf ns).idxOf ki.2.prev + 1]? = none := by
                apply List.getElem?_eq_none; simp [targetsOf]; omega
              rw [this] at ht; simp at ht
          · simp at hjg
      · simp at hjg

theorem valid_iff (l : LList α) : valid l = true ↔ Valid l := ⟨valid_Valid, Valid.valid⟩

/-! ## every call, and any sequence of calls -/

theorem apply_sim {l : LList α} {ns : List Nat} {a : Abs α} (h : RepA l ns a) : ∀ op : Op α, Refines (a.apply op) (op.apply l)
  | .append x => .withRes _ (append_abs h x)
  | .enqueue x => .withRes _ (append_abs h x)
  | .prepend x => .withRes _ (prepend_abs h x)
  | .push x => .withRes _ (prepend_abs h x)
  | .pop => let ⟨l', ns', e, hr⟩ := pop_abs h; ⟨l', ns', by rw [Op.apply, e]; rfl, hr⟩
  | .dequeue => let ⟨l', ns', e, hr⟩ := pop_abs h; ⟨l', ns', by rw [Op.apply, dequeue, ← pop, e]; rfl, hr⟩
  | .peek => ⟨l, ns, by rw [Op.apply, peek_abs h]; rfl, h⟩
  | .isEmpty => ⟨l, ns, by rw [Op.apply, isEmpty_abs h], h⟩
  | .count => ⟨l, ns, by rw [Op.apply, count_abs h], h⟩
  | .findFirst f => ⟨l, ns, by rw [Op.apply, findFirst_abs h]; rfl, h⟩
  | .forEach f => ⟨l, ns, by rw [Op.apply, forEach_abs h]; rfl, h⟩
  | .deleteAll f => by
    obtain ⟨l', ns', n, del, a', e1, e2, hr⟩ := deleteAll_abs h f
    rw [Abs.apply, Op.apply, e1, e2]
    exact ⟨l', ns', rfl, hr⟩
  | .sort cmp => .withRes _ (sort_abs h cmp)
  | .itCreate k => by
    rw [Abs.apply, Op.apply]
    rcases h.iter k with ⟨hi, hc⟩ | ⟨i, j, g, hi, hc, -⟩
    · rw [hi, hc]; exact ⟨_, ns, rfl, iteratorCreate_abs h k hi⟩
    · rw [hi, hc]; rfl
  | .itReset k => iteratorReset_abs h k _
  | .itDestroy k => iteratorDestroy_abs h k _
  | .next k => (next_abs h k).map _
  | .insert k x => insert_abs h k x _
  | .find k f => (findOp_abs h k f).map _
  | .remove k => (remove_abs h k).map _
  | .delete k => delete_abs h k

/-- **every call refines the list with cursors**: the C function dies only where the abstract call is undefined (misuse of
    an iterator handle); otherwise it returns the abstract answer and the result stands for the abstract result -/
theorem apply_refines {l : LList α} {ns : List Nat} {a : Abs α} (h : RepA l ns a) (op : Op α) :
    (a.apply op = none → op.apply l = none) ∧
    (∀ r a', a.apply op = some (r, a') → ∃ l' ns', op.apply l = some (r, l') ∧ RepA l' ns' a') :=
  refines_iff.mp (apply_sim h op)

theorem run_sim : ∀ (ops : List (Op α)) {l : LList α} {ns : List Nat} {a : Abs α}, RepA l ns a → Refines (a.run ops) (run l ops)
  | [], l, ns, _, h => ⟨l, ns, rfl, h⟩
  | op :: ops, l, _, a, h => by
    have h1 := apply_sim h op
    rw [Abs.run, run]
    cases ha : a.apply op with
    | none => rw [ha] at h1; rw [show op.apply l = none from h1]; rfl
    | some x =>
      obtain ⟨r, a1⟩ := x
      rw [ha] at h1
      obtain ⟨l1, ns1, e1, hr1⟩ := h1
      rw [e1]
      exact (run_sim ops hr1).map (r :: ·)

theorem run_refines : ∀ (ops : List (Op α)) (l : LList α) (ns : List Nat) (a : Abs α), RepA l ns a →
    (a.run ops = none → run l ops = none) ∧
    (∀ rs a', a.run ops = some (rs, a') → ∃ l' ns', run l ops = some (rs, l') ∧ RepA l' ns' a') :=
  fun ops _ _ _ h => refines_iff.mp (run_sim ops h)

end Pm.LsdList
