import Pm.FrameTwo
/-! Helper lemmas for C04: the time-out `_select_loop` hands to `poll` is the minimum of what the devices register in their turns
    of `dev_post_poll` (the fold of the device phase is `Pm/FrameTwo.lean`'s). -/
namespace Pm.Dev2.Timer
open Pm.Dev2 Pm.Daemon

/-- `daemonPass` (the body of `_select_loop`): whatever time-out a device registers in its turn of `dev_post_poll`
    (`stepOut … .2.2` is the fourth component of that device's `postPoll`), the time-out the daemon keeps for the next
    `poll` is set and not later -/
theorem daemonPass_tmo_min (w : W) (p : PassIn) (hex : (cliPostPoll w p.acc p.envs).exited = false)
    (i : Nat) (nd : Bytes × Dev) (t : Nat)
    (hi : (cliPostPoll w p.acc p.envs).devs[i]? = some nd)
    (hd : (accAt p (acc0 (cliPostPoll w p.acc p.envs)) (cliPostPoll w p.acc p.envs).devs i).dead = false)
    (ht : (stepOut p (accAt p (acc0 (cliPostPoll w p.acc p.envs)) (cliPostPoll w p.acc p.envs).devs i) nd).2.2 = some t) :
    ∃ t', (daemonPass w p).1.tmo = some t' ∧ t' ≤ t := by
  rw [daemonPass_world]; unfold devPhase
  simp only [hex, Bool.false_eq_true, ↓reduceIte]
  exact foldl_tmo_le p _ _ i nd t hi hd ht

/-- what `stepOut` is: the device's own `dev_post_poll` share, run on the shared argument store -/
theorem stepOut_eq (p : PassIn) (a : DevAcc) (nd : Bytes × Dev) :
    (stepOut p a nd).2.2 = (postPoll { nd.2 with args := a.w.store } (devEnv p a.w nd) a.oracle).2.2.2 := rfl

end Pm.Dev2.Timer
