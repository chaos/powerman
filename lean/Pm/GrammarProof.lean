import Pm.Grammar
/-! # The grammar model: totality, error index, shape of what is accepted (C18, C17)

Helper module of `Pm/Props/C18.lean`.  About `Pm/Grammar.lean` only (the LL parser on token lists); nothing here is about the
flex or bison automata: the tie to them is the correspondence layer `lib/gramlayer.py`.

The parsing functions are written with explicit `match … | .err i => .err i | .fuel => .fuel` cascades.  Section 1 names that
cascade (`bind`) and restates every function through it; a property of the parser is then shown once for `bind` and carried
through the functions by their equations: "any two sufficient amounts of fuel give the same decent answer" (section 2),
"a successful answer is well-formed and has logged its own post-order walk" (sections 3 to 5). -/
namespace Pm.Grammar.Proof
open Pm.Grammar

/-! ## 1. the parsing functions as sequences of steps -/

/-- the cascade of a function without log: after a success go on with `K`, hand on an error or `fuel` as it is -/
def _root_.Pm.Grammar.R0.bind {α β : Type} (r : R0 α) (K : α → Cur → R0 β) : R0 β :=
  match r with
  | .ok a c => K a c
  | .err i => .err i
  | .fuel => .fuel

/-- a step without actions inside a function that has a log -/
def _root_.Pm.Grammar.R0.bindR {α β : Type} (r : R0 α) (log : List Ev) (K : α → Cur → R β) : R β :=
  match r with
  | .ok a c => K a c
  | .err i => .err i log
  | .fuel => .fuel

/-- the cascade of a function with a log: `K` goes on from the log the step left, an error keeps the log it had -/
def _root_.Pm.Grammar.R.bind {α β : Type} (r : R α) (K : α → Cur → List Ev → R β) : R β :=
  match r with
  | .ok a c log => K a c log
  | .err i log => .err i log
  | .fuel => .fuel

section
/- Each equation holds by unfolding the two sides down to `casesOn`; with smart unfolding `rfl` does not look into a `match`
   whose discriminant is not a constructor. -/
set_option smartUnfolding false

theorem pRegmatch_eq (c : Cur) : pRegmatch c = (pTok .matchpos c).bind fun _ c1 => pNum c1 := rfl

theorem pEqStr_eq (c : Cur) : pEqStr c = (pTok .equals c).bind fun _ c1 => pStr c1 := rfl

theorem pStr2_eq (c : Cur) : pStr2 c = (pStr c).bind fun a c1 => (pStr c1).bind fun b c2 => .ok (a, b) c2 := rfl

theorem pInterps_succ (f : Nat) (c : Cur) (acc : List (Bool × Bytes)) : pInterps (f + 1) c acc =
    match c.toks with
    | .on :: r => (pEqStr ⟨r, c.i + 1⟩).bind fun s c' => pInterps f c' ((true, s) :: acc)
    | .off :: r => (pEqStr ⟨r, c.i + 1⟩).bind fun s c' => pInterps f c' ((false, s) :: acc)
    | _ => .ok acc.reverse c := rfl

theorem pRInterps_succ (f : Nat) (c : Cur) (acc : List Bytes) : pRInterps (f + 1) c acc =
    match c.toks with
    | .success :: r => (pEqStr ⟨r, c.i + 1⟩).bind fun s c' => pRInterps f c' (s :: acc)
    | _ => .ok acc.reverse c := rfl

theorem pSpsTail_eq (f : Nat) (plug mp1 : Option Bytes) (mp2 : Bytes) (c : Cur) : pSpsTail f plug mp1 mp2 c =
    (pInterps f c []).bind fun l c' => .ok (.setplugstate plug mp1 mp2 l (c'.i + 1)) c' := rfl

theorem pSetplugstate_eq (f : Nat) (c : Cur) : pSetplugstate f c =
    match c.toks with
    | .stringVal s :: r => (pRegmatch ⟨r, c.i + 1⟩).bind fun m c1 => pSpsTail f (some s) none m c1
    | _ => (pRegmatch c).bind fun m1 c1 =>
      match c1.toks with
      | .matchpos :: _ => (pRegmatch c1).bind fun m2 c2 => pSpsTail f none (some m1) m2 c2
      | _ => pSpsTail f none none m1 c1 := rfl

theorem pSetresult_eq (f : Nat) (c : Cur) : pSetresult f c =
    (pRegmatch c).bind fun m1 c1 => (pRegmatch c1).bind fun m2 c2 => (pRInterps f c2 []).bind fun l c3 =>
      if l.isEmpty then .err c3.i else .ok (.setresult m1 m2 l (c3.i + 1)) c3 := rfl

theorem pSimple_eq (f : Nat) (c : Cur) : pSimple f c =
    match c.toks with
    | .expect :: r => some ((pStr ⟨r, c.i + 1⟩).bind fun s c' => .ok (.expect s) c')
    | .send :: r => some ((pStr ⟨r, c.i + 1⟩).bind fun s c' => .ok (.send s) c')
    | .delay :: r => some ((pNum ⟨r, c.i + 1⟩).bind fun s c' => .ok (.delay s c'.i) c')
    | .setplugstate :: r => some (pSetplugstate f ⟨r, c.i + 1⟩)
    | .setresult :: r => some (pSetresult f ⟨r, c.i + 1⟩)
    | _ => none := rfl

theorem pBody_succ (f : Nat) (c : Cur) (frames : List Frame) (cur : List PStmt) (log : List Ev) : pBody (f + 1) c frames cur log =
    match c.toks with
    | [] => .err c.i log
    | .end_ :: r =>
      match cur with
      | [] => .err c.i log
      | _ :: _ =>
        match frames with
        | [] => .ok cur.reverse ⟨r, c.i + 1⟩ log
        | fr :: frs => pBody f ⟨r, c.i + 1⟩ frs (.block fr.kind cur.reverse :: fr.acc) (.stmt (.block fr.kind cur.reverse) :: log)
    | t :: r =>
      match blockKind t with
      | some k =>
        match r with
        | .begin_ :: r' => pBody f ⟨r', c.i + 2⟩ (⟨k, cur⟩ :: frames) [] log
        | _ => .err (c.i + 1) log
      | none =>
        match pSimple f c with
        | none => .err c.i log
        | some s => s.bindR log fun s c' => pBody f c' frames (s :: cur) (.stmt s :: log) := rfl

theorem pSpecItem_eq (f : Nat) (c : Cur) (log : List Ev) : pSpecItem f c log =
    match c.toks with
    | .devTimeout :: r =>
      some ((pNum ⟨r, c.i + 1⟩).bindR log fun n c' => .ok (.timeout n c'.i) c' (.specItem (.timeout n c'.i) :: log))
    | .pingPeriod :: r =>
      some ((pNum ⟨r, c.i + 1⟩).bindR log fun n c' => .ok (.pingPeriod n c'.i) c' (.specItem (.pingPeriod n c'.i) :: log))
    | .plugName :: r =>
      some ((pTok .begin_ ⟨r, c.i + 1⟩).bindR log fun _ c1 => (pStrings f c1 []).bindR log fun l c2 =>
        if l.isEmpty then .err c2.i log
        else (pTok .end_ c2).bindR log fun _ c3 => .ok (.plugs l c3.i) c3 (.specItem (.plugs l c3.i) :: log))
    | .script :: r =>
      some (match r with
        | k :: r1 =>
          match scriptKind k with
          | some kind =>
            (pTok .begin_ ⟨r1, c.i + 2⟩).bindR log fun _ c1 => (pBody f c1 [] [] log).bind fun body c2 log' =>
              .ok (.script kind body c2.i) c2 (.specItem (.script kind body c2.i) :: log')
          | none => .err (c.i + 1) log
        | [] => .err (c.i + 1) log)
    | _ => none := rfl

theorem pSpecItems_succ (f : Nat) (c : Cur) (acc : List SpecItem) (log : List Ev) : pSpecItems (f + 1) c acc log =
    match pSpecItem f c log with
    | none => .ok acc.reverse c log
    | some r => r.bind fun s c' log' => pSpecItems f c' (s :: acc) log' := rfl

theorem pSpec_eq (f : Nat) (c : Cur) (log : List Ev) : pSpec f c log =
    (pStr c).bindR log fun name c1 => (pTok .begin_ c1).bindR log fun _ c2 => (pSpecItems f c2 [] log).bind fun items c3 log' =>
      if items.isEmpty then .err c3.i log'
      else (pTok .end_ c3).bindR log' fun _ c4 => .ok (.spec name items c4.i) c4 (.item (.spec name items c4.i) :: log') := rfl

theorem pItem_eq (f : Nat) (c : Cur) (log : List Ev) : pItem f c log =
    match c.toks with
    | .listen :: r => some ((pStr ⟨r, c.i + 1⟩).bindR log fun s c' => R.ofItem (.listen s c'.i) c' log)
    | .plugLogLevel :: r => some ((pStr ⟨r, c.i + 1⟩).bindR log fun s c' => R.ofItem (.plugLogLevel s c'.i) c' log)
    | .tcpWrappers :: r =>
      some (match r with
        | .yes :: r' => R.ofItem (.tcpWrappers (some true) (c.i + 2)) ⟨r', c.i + 2⟩ log
        | .no :: r' => R.ofItem (.tcpWrappers (some false) (c.i + 2)) ⟨r', c.i + 2⟩ log
        | _ => R.ofItem (.tcpWrappers none (c.i + 2)) ⟨r, c.i + 1⟩ log)
    | .alias :: r => some ((pStr2 ⟨r, c.i + 1⟩).bindR log fun p c' => R.ofItem (.alias p.1 p.2 c'.i) c' log)
    | .node :: r =>
      some ((pStr2 ⟨r, c.i + 1⟩).bindR log fun p c' => R.ofItem (.node p.1 p.2 (pOptStr c').1 (pOptStr c').2.2) (pOptStr c').2.1 log)
    | .device :: r =>
      some ((pStr2 ⟨r, c.i + 1⟩).bindR log fun p c1 => (pStr c1).bindR log fun h c2 =>
        R.ofItem (.device p.1 p.2 h (pOptStr c2).1 (pOptStr c2).2.2) (pOptStr c2).2.1 log)
    | .spec :: r => some (pSpec f ⟨r, c.i + 1⟩ log)
    | _ => none := rfl

theorem pItems_succ (f : Nat) (c : Cur) (acc : List Item) (log : List Ev) : pItems (f + 1) c acc log =
    match c.toks with
    | [] => .ok acc.reverse c log
    | _ :: _ =>
      match pItem f c log with
      | none => .err c.i log
      | some r => r.bind fun it c' log' => pItems f c' (it :: acc) log' := rfl

end

/-! ## 2. every parsing function consumes tokens, never runs out of fuel, and does not depend on the fuel -/

/-- `c'` is `c` moved forward by at least `k` tokens, the index with them -/
def Adv (c c' : Cur) (k : Nat) : Prop :=
  c'.toks.length + k ≤ c.toks.length ∧ c'.i + c'.toks.length = c.i + c.toks.length

theorem Adv.refl (c : Cur) : Adv c c 0 := ⟨Nat.le_refl _, rfl⟩

theorem Adv.cons {c : Cur} {t : Token} {r : List Token} (h : c.toks = t :: r) : Adv c ⟨r, c.i + 1⟩ 1 := by
  simp [Adv, h]; omega

theorem Adv.trans {a b c : Cur} {j k : Nat} (h1 : Adv a b j) (h2 : Adv b c k) : Adv a c (j + k) := by
  unfold Adv at *; omega

theorem Adv.lt {c c' : Cur} {k n : Nat} (h : Adv c c' k) (hn : c.toks.length < n) : c'.toks.length < n :=
  Nat.lt_of_le_of_lt (Nat.le_trans (Nat.le_add_right _ _) h.1) hn

theorem Adv.lt_of_le {c c' : Cur} {k n : Nat} (h : Adv c c' (k + 1)) (hn : c.toks.length ≤ n) : c'.toks.length < n := by
  unfold Adv at h; omega

/-- an error index at `c` or behind it, at most at the end of the input -/
def ErrAt (c : Cur) (idx : Nat) : Prop := c.i ≤ idx ∧ idx ≤ c.i + c.toks.length

theorem ErrAt.here (c : Cur) : ErrAt c c.i := ⟨Nat.le_refl _, Nat.le_add_right _ _⟩

theorem ErrAt.of_adv {c c1 : Cur} {k idx : Nat} (h : Adv c c1 k) (he : ErrAt c1 idx) : ErrAt c idx := by
  unfold Adv at h; unfold ErrAt at *; omega

/-- `r` is a decent result of a function started at `c`: not `fuel`; on success at least `k` tokens were consumed and the index
    moved with them; an error index lies inside what was left -/
def Good0 {α : Type} (c : Cur) (k : Nat) : R0 α → Prop
  | .ok _ c' => Adv c c' k
  | .err idx => ErrAt c idx
  | .fuel => False

/-- the same of a result with a log; the two cases are `Adv c c' k` and `ErrAt c idx` written out, so what is proved of those
    applies as it stands -/
def Good {α : Type} (c : Cur) (k : Nat) : R α → Prop
  | .ok _ c' _ => c'.toks.length + k ≤ c.toks.length ∧ c'.i + c'.toks.length = c.i + c.toks.length
  | .err idx _ => c.i ≤ idx ∧ idx ≤ c.i + c.toks.length
  | .fuel => False

theorem Good0.trans {α : Type} {c c1 : Cur} {j k : Nat} {r : R0 α} (h1 : Adv c c1 j) (h2 : Good0 c1 k r) : Good0 c (j + k) r := by
  cases r with
  | ok a c' => exact h1.trans h2
  | err i => exact ErrAt.of_adv h1 h2
  | fuel => exact h2

theorem Good.trans {α : Type} {c c1 : Cur} {j k : Nat} {r : R α} (h1 : Adv c c1 j) (h2 : Good c1 k r) : Good c (j + k) r := by
  cases r with
  | ok a c' l => exact h1.trans h2
  | err i l => exact ErrAt.of_adv h1 h2
  | fuel => exact h2

theorem Good0.weaken {α : Type} {c : Cur} {k k' : Nat} {r : R0 α} (h : Good0 c k r) (hk : k' ≤ k) : Good0 c k' r := by
  cases r with
  | ok a c' => exact ⟨Nat.le_trans (Nat.add_le_add_left hk _) h.1, h.2⟩
  | err i => exact h
  | fuel => exact h

theorem Good.weaken {α : Type} {c : Cur} {k k' : Nat} {r : R α} (h : Good c k r) (hk : k' ≤ k) : Good c k' r := by
  cases r with
  | ok a c' l => exact ⟨Nat.le_trans (Nat.add_le_add_left hk _) h.1, h.2⟩
  | err i l => exact h
  | fuel => exact h

/-- two runs of a function from `c` (think: with different amounts of fuel) give the same decent result -/
def Stable0 {α : Type} (c : Cur) (k : Nat) (r r' : R0 α) : Prop := r = r' ∧ Good0 c k r

def Stable {α : Type} (c : Cur) (k : Nat) (r r' : R α) : Prop := r = r' ∧ Good c k r

theorem Good0.stable {α : Type} {c : Cur} {k : Nat} {r : R0 α} (h : Good0 c k r) : Stable0 c k r r := ⟨rfl, h⟩

theorem Good.stable {α : Type} {c : Cur} {k : Nat} {r : R α} (h : Good c k r) : Stable c k r r := ⟨rfl, h⟩

/-- the continuations need to agree only behind the first step; the progress counted is that of the first step -/
theorem Stable0.bind {α β : Type} {c : Cur} {j k : Nat} {r r' : R0 α} {K K' : α → Cur → R0 β} (h : Stable0 c j r r')
    (hK : ∀ a c1, Adv c c1 j → Stable0 c1 k (K a c1) (K' a c1)) : Stable0 c j (r.bind K) (r'.bind K') := by
  obtain ⟨rfl, h⟩ := h
  cases r with
  | ok a c1 => exact ⟨(hK a c1 h).1, (Good0.trans h (hK a c1 h).2).weaken (Nat.le_add_right j k)⟩
  | err i => exact ⟨rfl, h⟩
  | fuel => exact h.elim

theorem Stable0.bindR {α β : Type} {c : Cur} {j k : Nat} {r r' : R0 α} {log : List Ev} {K K' : α → Cur → R β} (h : Stable0 c j r r')
    (hK : ∀ a c1, Adv c c1 j → Stable c1 k (K a c1) (K' a c1)) : Stable c j (r.bindR log K) (r'.bindR log K') := by
  obtain ⟨rfl, h⟩ := h
  cases r with
  | ok a c1 => exact ⟨(hK a c1 h).1, (Good.trans h (hK a c1 h).2).weaken (Nat.le_add_right j k)⟩
  | err i => exact ⟨rfl, h⟩
  | fuel => exact h.elim

theorem Stable.bind {α β : Type} {c : Cur} {j k : Nat} {r r' : R α} {K K' : α → Cur → List Ev → R β} (h : Stable c j r r')
    (hK : ∀ a c1 l, Adv c c1 j → Stable c1 k (K a c1 l) (K' a c1 l)) : Stable c j (r.bind K) (r'.bind K') := by
  obtain ⟨rfl, h⟩ := h
  cases r with
  | ok a c1 l => exact ⟨(hK a c1 l h).1, (Good.trans h (hK a c1 l h).2).weaken (Nat.le_add_right j k)⟩
  | err i l => exact ⟨rfl, h⟩
  | fuel => exact h.elim

theorem Stable0.ok {α : Type} (a : α) (c : Cur) : Stable0 c 0 (.ok a c) (.ok a c) := ⟨rfl, Adv.refl c⟩

theorem Stable.ok {α : Type} (a : α) (c : Cur) (log : List Ev) : Stable c 0 (.ok a c log) (.ok a c log) := ⟨rfl, Adv.refl c⟩

theorem Stable.of_adv {α : Type} {a : α} {c c1 : Cur} {k : Nat} {log : List Ev} (h : Adv c c1 k) :
    Stable c k (.ok a c1 log) (.ok a c1 log) := ⟨rfl, h⟩

theorem Stable0.err {α : Type} {c : Cur} {i k : Nat} (h : ErrAt c i) : Stable0 (α := α) c k (.err i) (.err i) := ⟨rfl, h⟩

theorem Stable.err {α : Type} {c : Cur} {i k : Nat} (h : ErrAt c i) (log : List Ev) : Stable (α := α) c k (.err i log) (.err i log) :=
  ⟨rfl, h⟩

/-- a function that has consumed tokens and goes on behind them -/
theorem Stable0.adv {α : Type} {c c1 : Cur} {j k : Nat} {r r' : R0 α} (a : Adv c c1 (j + 1)) (h : Stable0 c1 k r r') : Stable0 c 1 r r' :=
  ⟨h.1, (Good0.trans a h.2).weaken (by omega)⟩

theorem Stable.adv {α : Type} {c c1 : Cur} {j k : Nat} {r r' : R α} (a : Adv c c1 (j + 1)) (h : Stable c1 k r r') : Stable c 1 r r' :=
  ⟨h.1, (Good.trans a h.2).weaken (by omega)⟩

theorem Stable0.zero {α : Type} {c : Cur} {k : Nat} {r r' : R0 α} (h : Stable0 c k r r') : Stable0 c 0 r r' :=
  ⟨h.1, h.2.weaken (Nat.zero_le k)⟩

theorem Stable.zero {α : Type} {c : Cur} {k : Nat} {r r' : R α} (h : Stable c k r r') : Stable c 0 r r' :=
  ⟨h.1, h.2.weaken (Nat.zero_le k)⟩

/-- the form in which the functions that answer `none` on a token they do not know are used -/
theorem Stable0.some {α : Type} {c : Cur} {k : Nat} {r r' : R0 α} (h : Stable0 c k r r') :
    some r = some r' ∧ ∀ x, some r = some x → Good0 c k x :=
  ⟨congrArg _ h.1, fun _ hx => Option.some.inj hx ▸ h.2⟩

theorem Stable.some {α : Type} {c : Cur} {k : Nat} {r r' : R α} (h : Stable c k r r') :
    some r = some r' ∧ ∀ x, some r = some x → Good c k x :=
  ⟨congrArg _ h.1, fun _ hx => Option.some.inj hx ▸ h.2⟩

theorem pStr_good (c : Cur) : Good0 c 1 (pStr c) := by
  unfold pStr
  split
  · next h => exact Adv.cons h
  · exact ErrAt.here c

theorem pNum_good (c : Cur) : Good0 c 1 (pNum c) := by
  unfold pNum
  split
  · next h => exact Adv.cons h
  · exact ErrAt.here c

theorem pTok_good (t : Token) (c : Cur) : Good0 c 1 (pTok t c) := by
  unfold pTok
  split
  · next h =>
    split
    · exact Adv.cons h
    · exact ErrAt.here c
  · exact ErrAt.here c

theorem pRegmatch_good (c : Cur) : Good0 c 1 (pRegmatch c) := by
  rw [pRegmatch_eq]
  exact ((pTok_good .matchpos c).stable.bind fun _ c1 _ => (pNum_good c1).stable).2

theorem pEqStr_good (c : Cur) : Good0 c 1 (pEqStr c) := by
  rw [pEqStr_eq]
  exact ((pTok_good .equals c).stable.bind fun _ c1 _ => (pStr_good c1).stable).2

theorem pStr2_good (c : Cur) : Good0 c 1 (pStr2 c) := by
  rw [pStr2_eq]
  exact ((pStr_good c).stable.bind fun _ c1 _ => (pStr_good c1).stable.bind fun _ c2 _ => .ok _ c2).2

theorem pOptStr_adv (c : Cur) : Adv c (pOptStr c).2.1 0 := by
  unfold pOptStr
  split
  · next h => exact ⟨Nat.le_of_lt (Adv.cons h).1, (Adv.cons h).2⟩
  · exact Adv.refl c

/-- induction on two amounts of fuel at once, both above the number of tokens left: the step from `f`, `g` to `f + 1`, `g + 1` may use
    the statement at every cursor with fewer than `min f g` tokens -/
theorem fuel2_induct {motive : Nat → Nat → Cur → Prop}
    (step : ∀ f g c, c.toks.length ≤ min f g → (∀ c', c'.toks.length < min f g → motive f g c') → motive (f + 1) (g + 1) c) :
    ∀ f g c, c.toks.length < min f g → motive f g c
  | 0, _, _, h => by simp at h
  | _ + 1, 0, _, h => by simp at h
  | f + 1, g + 1, c, h => by
    rw [Nat.succ_min_succ] at h
    exact step f g c (Nat.le_of_lt_succ h) fun c' h' => fuel2_induct step f g c' h'

theorem pInterps_stable : ∀ (f g : Nat) (c : Cur), c.toks.length < min f g → ∀ acc : List (Bool × Bytes),
    Stable0 c 0 (pInterps f c acc) (pInterps g c acc) := by
  refine fuel2_induct fun f g c h ih acc => ?_
  rw [pInterps_succ, pInterps_succ]
  split
  · next r hc =>
    exact .zero <| .adv (Adv.cons hc) <| (pEqStr_good _).stable.bind fun s c' h1 =>
      ih c' (((Adv.cons hc).trans h1).lt_of_le h) _
  · next r hc =>
    exact .zero <| .adv (Adv.cons hc) <| (pEqStr_good _).stable.bind fun s c' h1 =>
      ih c' (((Adv.cons hc).trans h1).lt_of_le h) _
  · exact .ok _ c

theorem pRInterps_stable : ∀ (f g : Nat) (c : Cur), c.toks.length < min f g → ∀ acc : List Bytes,
    Stable0 c 0 (pRInterps f c acc) (pRInterps g c acc) := by
  refine fuel2_induct fun f g c h ih acc => ?_
  rw [pRInterps_succ, pRInterps_succ]
  split
  · next r hc =>
    exact .zero <| .adv (Adv.cons hc) <| (pEqStr_good _).stable.bind fun s c' h1 =>
      ih c' (((Adv.cons hc).trans h1).lt_of_le h) _
  · exact .ok _ c

theorem pStrings_stable : ∀ (f g : Nat) (c : Cur), c.toks.length < min f g → ∀ acc : List Bytes,
    Stable0 c 0 (pStrings f c acc) (pStrings g c acc) := by
  refine fuel2_induct fun f g c h ih acc => ?_
  rw [pStrings, pStrings]
  split
  · next s r hc => exact .zero <| .adv (Adv.cons hc) <| ih _ ((Adv.cons hc).lt_of_le h) _
  · exact .ok _ c

theorem pSpsTail_stable (f g : Nat) (plug mp1 : Option Bytes) (mp2 : Bytes) (c : Cur) (h : c.toks.length < min f g) :
    Stable0 c 0 (pSpsTail f plug mp1 mp2 c) (pSpsTail g plug mp1 mp2 c) := by
  rw [pSpsTail_eq, pSpsTail_eq]
  exact (pInterps_stable f g c h []).bind fun l c' _ => .ok _ c'

theorem pSetplugstate_stable (f g : Nat) (c : Cur) (h : c.toks.length < min f g) :
    Stable0 c 0 (pSetplugstate f c) (pSetplugstate g c) := by
  rw [pSetplugstate_eq, pSetplugstate_eq]
  split
  · next s r hc =>
    exact .zero <| .adv (Adv.cons hc) <| (pRegmatch_good _).stable.bind fun m c1 h1 =>
      pSpsTail_stable f g _ _ m c1 (((Adv.cons hc).trans h1).lt h)
  · refine .zero <| (pRegmatch_good c).stable.bind (k := 0) fun m1 c1 h1 => ?_
    split
    · exact .zero <| (pRegmatch_good c1).stable.bind fun m2 c2 h2 => pSpsTail_stable f g _ _ m2 c2 ((h1.trans h2).lt h)
    · exact pSpsTail_stable f g _ _ m1 c1 (h1.lt h)

theorem pSetresult_stable (f g : Nat) (c : Cur) (h : c.toks.length < min f g) : Stable0 c 0 (pSetresult f c) (pSetresult g c) := by
  rw [pSetresult_eq, pSetresult_eq]
  refine .zero <| (pRegmatch_good c).stable.bind fun m1 c1 h1 => (pRegmatch_good c1).stable.bind fun m2 c2 h2 =>
    (pRInterps_stable f g c2 ((h1.trans h2).lt h) []).bind (k := 0) fun l c3 _ => ?_
  split
  · exact .err (ErrAt.here c3)
  · exact .ok _ c3

theorem pSimple_stable (f g : Nat) (c : Cur) (h : c.toks.length ≤ min f g) :
    pSimple f c = pSimple g c ∧ ∀ r, pSimple f c = some r → Good0 c 1 r := by
  rw [pSimple_eq, pSimple_eq]
  split
  · next r hc => exact (Stable0.adv (Adv.cons hc) <| (pStr_good _).stable.bind fun s c' _ => .ok _ c').some
  · next r hc => exact (Stable0.adv (Adv.cons hc) <| (pStr_good _).stable.bind fun s c' _ => .ok _ c').some
  · next r hc => exact (Stable0.adv (Adv.cons hc) <| (pNum_good _).stable.bind fun s c' _ => .ok _ c').some
  · next r hc => exact (Stable0.adv (Adv.cons hc) <| pSetplugstate_stable f g _ ((Adv.cons hc).lt_of_le h)).some
  · next r hc => exact (Stable0.adv (Adv.cons hc) <| pSetresult_stable f g _ ((Adv.cons hc).lt_of_le h)).some
  · exact ⟨rfl, nofun⟩

theorem pBody_stable : ∀ (f g : Nat) (c : Cur), c.toks.length < min f g → ∀ (frames : List Frame) (cur : List PStmt) (log : List Ev),
    Stable c 1 (pBody f c frames cur log) (pBody g c frames cur log) := by
  refine fuel2_induct fun f g c h ih frames cur log => ?_
  rw [pBody_succ, pBody_succ]
  split
  · exact .err (ErrAt.here c) log
  · next r hc =>
    split
    · exact .err (ErrAt.here c) log
    · split
      · exact ⟨rfl, Adv.cons hc⟩
      · exact .adv (Adv.cons hc) <| ih _ ((Adv.cons hc).lt_of_le h) _ _ _
  · next t r _ hc =>
    split
    · split
      · next r' =>
        have a : Adv c ⟨r', c.i + 2⟩ (1 + 1) := by simp [Adv, hc]; omega
        exact .adv a <| ih _ (a.lt_of_le h) _ _ _
      · exact .err ⟨Nat.le_add_right _ _, by simp [hc]⟩ log
    · have hs := pSimple_stable f g c h
      rw [← hs.1]
      cases hr : pSimple f c with
      | none => exact .err (ErrAt.here c) log
      | some s => exact (hs.2 s hr).stable.bindR fun s c' h1 => ih c' (h1.lt_of_le h) _ _ _

theorem pSpecItem_stable (f g : Nat) (c : Cur) (log : List Ev) (h : c.toks.length ≤ min f g) :
    pSpecItem f c log = pSpecItem g c log ∧ ∀ r, pSpecItem f c log = some r → Good c 1 r := by
  rw [pSpecItem_eq, pSpecItem_eq]
  split
  · next r hc => exact (Stable.adv (Adv.cons hc) <| (pNum_good _).stable.bindR fun n c' _ => .ok _ c' _).some
  · next r hc => exact (Stable.adv (Adv.cons hc) <| (pNum_good _).stable.bindR fun n c' _ => .ok _ c' _).some
  · next r hc =>
    refine (Stable.adv (Adv.cons hc) <| (pTok_good _ _).stable.bindR fun _ c1 h1 =>
      (pStrings_stable f g c1 (((Adv.cons hc).trans h1).lt_of_le h) []).bindR (k := 0) fun l c2 _ => ?_).some
    split
    · exact .err (ErrAt.here c2) log
    · exact .zero <| (pTok_good _ c2).stable.bindR fun _ c3 _ => .ok _ c3 _
  · next r hc =>
    refine Stable.some ?_
    split
    · next k r1 =>
      split
      · have a : Adv c ⟨r1, c.i + 2⟩ (1 + 1) := by simp [Adv, hc]; omega
        exact .adv a <| (pTok_good _ _).stable.bindR fun _ c1 h1 =>
          (pBody_stable f g c1 ((a.trans h1).lt_of_le h) [] [] log).bind fun body c2 log' _ => .ok _ c2 _
      · exact .err ⟨Nat.le_add_right _ _, by simp [hc]⟩ log
    · exact .err ⟨Nat.le_add_right _ _, by simp [hc]⟩ log
  · exact ⟨rfl, nofun⟩

theorem pSpecItems_stable : ∀ (f g : Nat) (c : Cur), c.toks.length < min f g → ∀ (acc : List SpecItem) (log : List Ev),
    Stable c 0 (pSpecItems f c acc log) (pSpecItems g c acc log) := by
  refine fuel2_induct fun f g c h ih acc log => ?_
  have hs := pSpecItem_stable f g c log h
  rw [pSpecItems_succ, pSpecItems_succ, ← hs.1]
  cases hr : pSpecItem f c log with
  | none => exact .ok _ c log
  | some r => exact .zero <| (hs.2 r hr).stable.bind fun s c' log' h1 => ih c' (h1.lt_of_le h) _ _

theorem pSpec_stable (f g : Nat) (c : Cur) (log : List Ev) (h : c.toks.length < min f g) : Stable c 0 (pSpec f c log) (pSpec g c log) := by
  rw [pSpec_eq, pSpec_eq]
  refine .zero <| (pStr_good c).stable.bindR fun name c1 h1 => (pTok_good _ c1).stable.bindR fun _ c2 h2 =>
    (pSpecItems_stable f g c2 ((h1.trans h2).lt h) [] log).bind (k := 0) fun items c3 log' _ => ?_
  split
  · exact .err (ErrAt.here c3) log'
  · exact .zero <| (pTok_good _ c3).stable.bindR fun _ c4 _ => .ok _ c4 _

theorem pItem_stable (f g : Nat) (c : Cur) (log : List Ev) (h : c.toks.length ≤ min f g) :
    pItem f c log = pItem g c log ∧ ∀ r, pItem f c log = some r → Good c 1 r := by
  rw [pItem_eq, pItem_eq]
  split
  · next r hc => exact (Stable.adv (Adv.cons hc) <| (pStr_good _).stable.bindR fun s c' _ => .ok _ c' _).some
  · next r hc => exact (Stable.adv (Adv.cons hc) <| (pStr_good _).stable.bindR fun s c' _ => .ok _ c' _).some
  · next r hc =>
    refine Stable.some ?_
    split
    · next r' => exact ⟨rfl, by simp [Good, R.ofItem, hc]; omega⟩
    · next r' => exact ⟨rfl, by simp [Good, R.ofItem, hc]; omega⟩
    · exact ⟨rfl, Adv.cons hc⟩
  · next r hc => exact (Stable.adv (Adv.cons hc) <| (pStr2_good _).stable.bindR fun p c' _ => .ok _ c' _).some
  · next r hc =>
    exact (Stable.adv (Adv.cons hc) <| (pStr2_good _).stable.bindR fun p c' _ => .of_adv (pOptStr_adv c')).some
  · next r hc =>
    exact (Stable.adv (Adv.cons hc) <| (pStr2_good _).stable.bindR fun p c1 _ => (pStr_good c1).stable.bindR fun h c2 _ =>
      .of_adv (pOptStr_adv c2)).some
  · next r hc => exact (Stable.adv (Adv.cons hc) <| pSpec_stable f g _ log ((Adv.cons hc).lt_of_le h)).some
  · exact ⟨rfl, nofun⟩

theorem pItems_stable : ∀ (f g : Nat) (c : Cur), c.toks.length < min f g → ∀ (acc : List Item) (log : List Ev),
    Stable c 0 (pItems f c acc log) (pItems g c acc log) := by
  refine fuel2_induct fun f g c h ih acc log => ?_
  rw [pItems_succ, pItems_succ]
  split
  · exact .ok _ c log
  · have hs := pItem_stable f g c log h
    rw [← hs.1]
    cases hr : pItem f c log with
    | none => exact .err (ErrAt.here c) log
    | some r => exact .zero <| (hs.2 r hr).stable.bind fun it c' log' h1 => ih c' (h1.lt_of_le h) _ _

/-- **Totality with the stated fuel.**  With fuel = number of tokens + 1 (or more) the parser never answers `fuel`; a syntax
    error names an index between 0 and the number of tokens (the latter: unexpected end of input). -/
theorem parseF_good (toks : List Token) (f : Nat) (h : toks.length < f) : Good ⟨toks, 0⟩ 0 (parseF f toks) :=
  (pItems_stable f f ⟨toks, 0⟩ (by simpa using h) [] []).2

/-- **More fuel changes nothing.**  Any amount of fuel above the number of tokens gives the same answer. -/
theorem parseF_fuel (toks : List Token) (f g : Nat) (hf : toks.length < f) (hg : toks.length < g) : parseF f toks = parseF g toks :=
  (pItems_stable f g ⟨toks, 0⟩ (Nat.lt_min.2 ⟨hf, hg⟩) [] []).1

theorem parse_total (toks : List Token) :
    parseConfig toks ≠ .error .fuel ∧ ∀ i, parseConfig toks = .error (.syntax i) → i ≤ toks.length := by
  have h := parseF_good toks (toks.length + 1) (Nat.lt_succ_self _)
  unfold parseConfig
  cases hp : parseF (toks.length + 1) toks with
  | ok a c log => exact ⟨nofun, nofun⟩
  | err i log =>
    rw [hp] at h
    exact ⟨nofun, fun j hj => by cases hj; simpa using h.2⟩
  | fuel => rw [hp] at h; exact h.elim

/-! ## 3. the shape of what is accepted -/

mutual
/-- what the grammar guarantees about one statement, whatever the tokens were: a sub-block is never empty (`stmt_list` has no
    empty production); `setresult` has at least one `success=` interpretation; `setplugstate` has a literal plug name or a plug
    match position or neither, never both -/
def stmtWF : PStmt → Bool
  | .setplugstate plug mp1 _ _ _ => !(plug.isSome && mp1.isSome)
  | .setresult _ _ l _ => !l.isEmpty
  | .block _ body => !body.isEmpty && stmtsWF body
  | _ => true
def stmtsWF : List PStmt → Bool
  | [] => true
  | s :: r => stmtWF s && stmtsWF r
end

theorem stmtsWF_all : ∀ l : List PStmt, stmtsWF l = l.all stmtWF
  | [] => by simp [stmtsWF]
  | s :: r => by simp [stmtsWF, stmtsWF_all r]

/-- the script indices that have a name in the grammar (`PM_RESOLVE` has none) -/
def namedKinds : List Nat :=
  [.login, .logout, .status, .statusAll, .statusTemp, .statusTempAll, .statusBeacon, .statusBeaconAll, .beaconOn, .beaconOnRanged,
   .beaconOff, .beaconOffRanged, .on, .onRanged, .onAll, .off, .offRanged, .offAll, .cycle, .cycleRanged, .cycleAll, .reset,
   .resetRanged, .resetAll, .ping].filterMap scriptKind

def specItemWF : SpecItem → Bool
  | .plugs l _ => !l.isEmpty
  | .script kind body _ => namedKinds.contains kind && !body.isEmpty && stmtsWF body
  | _ => true

def itemWF : Item → Bool
  | .spec _ items _ => !items.isEmpty && items.all specItemWF
  | _ => true

def astWF (a : Ast) : Bool := a.all itemWF

def framesWF : List Frame → Bool
  | [] => true
  | fr :: frs => stmtsWF fr.acc && framesWF frs

theorem scriptKind_named (t : Token) (k : Nat) (h : scriptKind t = some k) : namedKinds.contains k = true := by
  cases t <;> cases h <;> decide

/-! ## 4. the log of action calls is the post-order walk of the tree -/

mutual
/-- the calls of `makePreStmt` for one statement: for a sub-block first those of its body (bison reduces inner rules first) -/
def evStmt : PStmt → List Ev
  | .block k body => evStmts body ++ [.stmt (.block k body)]
  | .expect s => [.stmt (.expect s)]
  | .send s => [.stmt (.send s)]
  | .delay n rd => [.stmt (.delay n rd)]
  | .setplugstate a b c d e => [.stmt (.setplugstate a b c d e)]
  | .setresult a b c d => [.stmt (.setresult a b c d)]
def evStmts : List PStmt → List Ev
  | [] => []
  | s :: r => evStmt s ++ evStmts r
end

def evSpecItem : SpecItem → List Ev
  | .script k body rd => evStmts body ++ [.specItem (.script k body rd)]
  | .timeout n rd => [.specItem (.timeout n rd)]
  | .pingPeriod n rd => [.specItem (.pingPeriod n rd)]
  | .plugs l rd => [.specItem (.plugs l rd)]

def evSpecItems : List SpecItem → List Ev
  | [] => []
  | s :: r => evSpecItem s ++ evSpecItems r

def evItem : Item → List Ev
  | .spec n items rd => evSpecItems items ++ [.item (.spec n items rd)]
  | .listen s rd => [.item (.listen s rd)]
  | .tcpWrappers v rd => [.item (.tcpWrappers v rd)]
  | .plugLogLevel s rd => [.item (.plugLogLevel s rd)]
  | .device a b c d rd => [.item (.device a b c d rd)]
  | .node a b c rd => [.item (.node a b c rd)]
  | .alias a b rd => [.item (.alias a b rd)]

def evAst : Ast → List Ev
  | [] => []
  | i :: r => evItem i ++ evAst r

theorem evStmts_append : ∀ a b : List PStmt, evStmts (a ++ b) = evStmts a ++ evStmts b
  | [], b => by simp [evStmts]
  | s :: r, b => by simp [evStmts, evStmts_append r b]

theorem evSpecItems_append : ∀ a b : List SpecItem, evSpecItems (a ++ b) = evSpecItems a ++ evSpecItems b
  | [], b => by simp [evSpecItems]
  | s :: r, b => by simp [evSpecItems, evSpecItems_append r b]

theorem evAst_append : ∀ a b : Ast, evAst (a ++ b) = evAst a ++ evAst b
  | [], b => by simp [evAst]
  | s :: r, b => by simp [evAst, evAst_append r b]

/-- the calls made so far inside a script body: the completed statements of the open blocks, outermost block first -/
def stateEv : List Frame → List PStmt → List Ev
  | [], cur => evStmts cur.reverse
  | fr :: frs, cur => stateEv frs fr.acc ++ evStmts cur.reverse

theorem stateEv_cons (frs : List Frame) (s : PStmt) (acc : List PStmt) : stateEv frs (s :: acc) = stateEv frs acc ++ evStmt s := by
  cases frs <;> simp [stateEv, evStmts_append, evStmts]

/-! ## 5. what a successful answer looks like -/

/-- `P` holds of the value of a successful result -/
def Ok0 {α : Type} (P : α → Prop) : R0 α → Prop
  | .ok a _ => P a
  | _ => True

/-- `P` holds of the value and the log of a successful result -/
def Ok {α : Type} (P : α → List Ev → Prop) : R α → Prop
  | .ok a _ log => P a log
  | _ => True

theorem Ok0.any {α : Type} {r : R0 α} : Ok0 (fun _ => True) r := by
  cases r <;> trivial

theorem Ok0.bind {α β : Type} {P : β → Prop} {r : R0 α} {K : α → Cur → R0 β} (h : ∀ a c1, Ok0 P (K a c1)) : Ok0 P (r.bind K) := by
  cases r with
  | ok a c => exact h a c
  | err i => trivial
  | fuel => trivial

theorem Ok.bindR {α β : Type} {Q : α → Prop} {P : β → List Ev → Prop} {r : R0 α} {log : List Ev} {K : α → Cur → R β} (hr : Ok0 Q r)
    (h : ∀ a c1, Q a → Ok P (K a c1)) : Ok P (r.bindR log K) := by
  cases r with
  | ok a c => exact h a c hr
  | err i => trivial
  | fuel => trivial

theorem Ok.bind {α β : Type} {Q : α → List Ev → Prop} {P : β → List Ev → Prop} {r : R α} {K : α → Cur → List Ev → R β} (hr : Ok Q r)
    (h : ∀ a c1 l, Q a l → Ok P (K a c1 l)) : Ok P (r.bind K) := by
  cases r with
  | ok a c l => exact h a c l hr
  | err i l => trivial
  | fuel => trivial

theorem Ok.imp {α : Type} {P Q : α → List Ev → Prop} {r : R α} (hr : Ok P r) (h : ∀ a l, P a l → Q a l) : Ok Q r := by
  cases r with
  | ok a c l => exact h a l hr
  | err i l => trivial
  | fuel => trivial

theorem forall_some {β : Type} {p : β → Prop} {x : β} (h : p x) : ∀ r, some x = some r → p r :=
  fun _ e => Option.some.inj e ▸ h

/-- a statement without sub-block: well-formed, and its walk is itself -/
def Leaf (s : PStmt) : Prop := stmtWF s = true ∧ evStmt s = [.stmt s]

theorem pSpsTail_ok (f : Nat) (plug mp1 : Option Bytes) (mp2 : Bytes) (c : Cur) (h : (plug.isSome && mp1.isSome) = false) :
    Ok0 Leaf (pSpsTail f plug mp1 mp2 c) := by
  rw [pSpsTail_eq]
  exact .bind fun l c' => ⟨by simp [stmtWF, h], by simp [evStmt]⟩

theorem pSimple_ok (f : Nat) (c : Cur) : ∀ r, pSimple f c = some r → Ok0 Leaf r := by
  rw [pSimple_eq]
  split
  · exact forall_some <| .bind fun s c' => ⟨rfl, by simp [evStmt]⟩
  · exact forall_some <| .bind fun s c' => ⟨rfl, by simp [evStmt]⟩
  · exact forall_some <| .bind fun s c' => ⟨rfl, by simp [evStmt]⟩
  · refine forall_some ?_
    rw [pSetplugstate_eq]
    split
    · exact .bind fun m c1 => pSpsTail_ok f _ _ m c1 rfl
    · refine .bind fun m1 c1 => ?_
      split
      · exact .bind fun m2 c2 => pSpsTail_ok f _ _ m2 c2 rfl
      · exact pSpsTail_ok f _ _ m1 c1 rfl
  · refine forall_some ?_
    rw [pSetresult_eq]
    refine .bind fun m1 c1 => .bind fun m2 c2 => .bind fun l c3 => ?_
    split
    · trivial
    · next hl => exact ⟨by simpa [stmtWF] using hl, by simp [evStmt]⟩
  · exact nofun

theorem stmtsWF_reverse (l : List PStmt) : stmtsWF l.reverse = stmtsWF l := by
  rw [stmtsWF_all, stmtsWF_all, List.all_reverse]

theorem pBody_ok : ∀ (f : Nat) (c : Cur) (frames : List Frame) (cur : List PStmt) (log base : List Ev),
    stmtsWF cur = true → framesWF frames = true → log = (stateEv frames cur).reverse ++ base →
    Ok (fun body log' => body ≠ [] ∧ stmtsWF body = true ∧ log' = (evStmts body).reverse ++ base) (pBody f c frames cur log)
  | 0, _, _, _, _, _, _, _, _ => trivial
  | f + 1, c, frames, cur, log, base, hcur, hfr, hl => by
    -- the loop invariant is `hl`: above `base` the log holds the calls for what `frames` and `cur` have completed, which is `stateEv`
    rw [pBody_succ]
    split
    · trivial
    · split
      · trivial
      · next x xs =>
        have hrev : stmtsWF (x :: xs).reverse = true := by rw [stmtsWF_reverse]; exact hcur
        split
        · exact ⟨by simp, hrev, by simpa [stateEv] using hl⟩
        · next fr frs =>
          simp only [framesWF, Bool.and_eq_true] at hfr
          refine pBody_ok f _ _ _ _ base ?_ hfr.2 ?_
          · simp only [stmtsWF, stmtWF, Bool.and_eq_true, hfr.1, hrev, and_true]; simp
          · rw [stateEv_cons, hl]; simp [stateEv, evStmt]
    · split
      · split
        · exact pBody_ok f _ _ _ _ base rfl (by simp [framesWF, hcur, hfr]) (by simpa [stateEv, evStmts] using hl)
        · trivial
      · cases hs : pSimple f c with
        | none => trivial
        | some r =>
          refine .bindR (pSimple_ok f c r hs) fun s c' h => pBody_ok f c' _ _ _ base ?_ hfr ?_
          · simp [stmtsWF, hcur, h.1]
          · rw [stateEv_cons, h.2, hl]; simp

/-- the result of a function that parses one thing and logs it behind `log` -/
def Logged {α : Type} (wf : α → Bool) (ev : α → List Ev) (log : List Ev) (a : α) (log' : List Ev) : Prop :=
  wf a = true ∧ log' = (ev a).reverse ++ log

theorem pSpecItem_ok (f : Nat) (c : Cur) (log : List Ev) : ∀ r, pSpecItem f c log = some r → Ok (Logged specItemWF evSpecItem log) r := by
  rw [pSpecItem_eq]
  split
  · exact forall_some <| .bindR .any fun n c' _ => ⟨rfl, rfl⟩
  · exact forall_some <| .bindR .any fun n c' _ => ⟨rfl, rfl⟩
  · refine forall_some <| .bindR .any fun _ c1 _ => .bindR .any fun l c2 _ => ?_
    split
    · trivial
    · next hl => exact .bindR .any fun _ c3 _ => ⟨by simpa [specItemWF] using hl, rfl⟩
  · refine forall_some ?_
    split
    · split
      · next kind hk =>
        refine .bindR .any fun _ c1 _ => .bind (pBody_ok f c1 [] [] log log rfl rfl rfl) fun body c2 log' hb => ⟨?_, ?_⟩
        · cases body with
          | nil => exact absurd rfl hb.1
          | cons _ _ => simp only [specItemWF, scriptKind_named _ _ hk, hb.2.1]; rfl
        · simp [evSpecItem, hb.2.2]
      · trivial
    · trivial
  · exact nofun

theorem pSpecItems_ok : ∀ (f : Nat) (c : Cur) (acc : List SpecItem) (log base : List Ev),
    acc.all specItemWF = true → log = (evSpecItems acc.reverse).reverse ++ base →
    Ok (fun items log' => items.all specItemWF = true ∧ (acc ≠ [] → items ≠ []) ∧ log' = (evSpecItems items).reverse ++ base)
      (pSpecItems f c acc log)
  | 0, _, _, _, _, _, _ => trivial
  | f + 1, c, acc, log, base, hacc, hl => by
    rw [pSpecItems_succ]
    cases hs : pSpecItem f c log with
    | none => exact ⟨by rw [List.all_reverse]; exact hacc, by simp, hl⟩
    | some r =>
      refine .bind (pSpecItem_ok f c log r hs) fun s c' log' h => (pSpecItems_ok f c' (s :: acc) log' base ?_ ?_).imp
        fun items l' hi => ⟨hi.1, fun _ => hi.2.1 (by simp), hi.2.2⟩
      · simp [hacc, h.1]
      · rw [h.2, hl]; simp [evSpecItems_append, evSpecItems]

theorem pSpec_ok (f : Nat) (c : Cur) (log : List Ev) : Ok (Logged itemWF evItem log) (pSpec f c log) := by
  rw [pSpec_eq]
  refine .bindR .any fun name c1 _ => .bindR .any fun _ c2 _ =>
    .bind (pSpecItems_ok f c2 [] log log rfl rfl) fun items c3 log' hi => ?_
  split
  · trivial
  · next hne => exact .bindR .any fun _ c4 _ => ⟨by simpa [itemWF, hi.1] using hne, by simp [evItem, hi.2.2]⟩

theorem pItem_ok (f : Nat) (c : Cur) (log : List Ev) : ∀ r, pItem f c log = some r → Ok (Logged itemWF evItem log) r := by
  rw [pItem_eq]
  split
  · exact forall_some <| .bindR .any fun s c' _ => ⟨rfl, rfl⟩
  · exact forall_some <| .bindR .any fun s c' _ => ⟨rfl, rfl⟩
  · refine forall_some ?_
    split
    · exact ⟨rfl, rfl⟩
    · exact ⟨rfl, rfl⟩
    · exact ⟨rfl, rfl⟩
  · exact forall_some <| .bindR .any fun p c' _ => ⟨rfl, rfl⟩
  · exact forall_some <| .bindR .any fun p c' _ => ⟨rfl, rfl⟩
  · exact forall_some <| .bindR .any fun p c1 _ => .bindR .any fun h c2 _ => ⟨rfl, rfl⟩
  · exact forall_some (pSpec_ok f _ log)
  · exact nofun

theorem pItems_ok : ∀ (f : Nat) (c : Cur) (acc : List Item) (log : List Ev), acc.all itemWF = true → log = (evAst acc.reverse).reverse →
    Ok (fun ast log' => astWF ast = true ∧ log' = (evAst ast).reverse) (pItems f c acc log)
  | 0, _, _, _, _, _ => trivial
  | f + 1, c, acc, log, hacc, hl => by
    rw [pItems_succ]
    split
    · exact ⟨by unfold astWF; rw [List.all_reverse]; exact hacc, hl⟩
    · cases hs : pItem f c log with
      | none => trivial
      | some r =>
        refine .bind (pItem_ok f c log r hs) fun it c' log' h => pItems_ok f c' (it :: acc) log' ?_ ?_
        · simp [hacc, h.1]
        · rw [h.2, hl]; simp [evAst_append, evAst]

theorem parseF_ok (f : Nat) (toks : List Token) : Ok (fun ast log => astWF ast = true ∧ log = (evAst ast).reverse) (parseF f toks) :=
  pItems_ok f ⟨toks, 0⟩ [] [] rfl rfl

/-- **Shape.**  Whatever the tokens: an accepted file is a list of items in which every specification has at least one item,
    every plug list at least one name, every script one of the 25 named kinds and a non-empty body, every sub-block (at any
    depth) at least one statement, every `setresult` at least one interpretation, and no `setplugstate` both a literal plug
    and a plug match position. -/
theorem parse_shape (toks : List Token) (ast : Ast) (h : parseConfig toks = .ok ast) : astWF ast = true := by
  have hp := parseF_ok (toks.length + 1) toks
  unfold parseConfig at h
  cases hr : parseF (toks.length + 1) toks with
  | ok a c log => rw [hr] at h hp; cases h; exact hp.1
  | err i log => rw [hr] at h; cases h
  | fuel => rw [hr] at h; cases h

/-- **The actions see the tree.**  On an accepted file the log of semantic-action calls is the post-order walk of the `Ast`:
    for every item its action, for a specification first the actions of its items in order, for a script first `makePreStmt`
    for every statement (sub-blocks: body first) — the order in which bison's reductions run them. -/
theorem parseLog_ok (toks : List Token) (ast : Ast) (h : parseConfig toks = .ok ast) : parseLog toks = (evAst ast, none) := by
  have hp := parseF_ok (toks.length + 1) toks
  unfold parseConfig at h
  unfold parseLog
  cases hr : parseF (toks.length + 1) toks with
  | ok a c log => rw [hr] at h hp; cases h; simp [hp.2]
  | err i log => rw [hr] at h; cases h
  | fuel => rw [hr] at h; cases h

end Pm.Grammar.Proof
