/-! The sizing arithmetic of liblsd's circular buffer (`liblsd/cbuf.c`) as far as `powermand` exercises it:
    `cbuf_grow`, and the read side `cbuf_write_from_fd (cb, fd, -1, &dropped)` → `cbuf_writer`.

    A cbuf has `size` (starts at `minsize`, never shrinks: `cbuf_shrink` is a stub), `used ≤ size` unread bytes and
    `maxsize`.  The daemon is built with assertions, so `alloc - size` (sentinel byte + two magic cookies) is
    `1 + 2 * sizeof (unsigned long)` = 17.  The overwrite mode is the default `CBUF_WRAP_MANY`. -/
namespace Pm.Cbuf

/-- `CBUF_CHUNK` -/
def chunk : Nat := 1000
/-- `cb->alloc - cb->size`: one sentinel byte and two magic cookies (assertions compiled in) -/
def sizeMeta : Nat := 17

/-- `cbuf_grow (cb, n)`: the size afterwards.  `m = alloc + n`, rounded up to the next multiple of `CBUF_CHUNK`
    *strictly* above (`m + (CHUNK - m % CHUNK)` adds a whole chunk when `m` is a multiple already), capped at
    `maxsize + size_meta`; the new size is `m - size_meta`. -/
def growTo (size n max : Nat) : Nat :=
  if size == max then size else
  let m := size + sizeMeta + n
  let m := m + (chunk - m % chunk)
  min m (max + sizeMeta) - sizeMeta

/-- `cbuf_write_from_fd (cb, fd, -1, &dropped)` when the kernel has `avail` bytes to hand out (0: `EAGAIN`, end of file or
    an error — the buffer is grown all the same, growing comes before reading): `(n, size', dropped)` = the number of bytes
    read, the size afterwards, the number of oldest unread bytes overwritten.
    `len = size - used`, or a chunk when the buffer is full; the buffer grows by `len - nfree` if that is positive and
    `size < maxsize`; `n = min len avail`; `used' = min (used + n) size'`; `dropped = max 0 (n - (size' - used))`. -/
def readPlan (size used max avail : Nat) : Nat × Nat × Nat :=
  let nfree := size - used
  let len := if nfree == 0 then chunk else nfree
  let size' := if len > nfree && size < max then growTo size (len - nfree) max else size
  let n := min len avail
  (n, size', n - (size' - used))

theorem growTo_ge (size n max : Nat) (h : size ≤ max) : size ≤ growTo size n max := by
  unfold growTo sizeMeta chunk
  split
  · exact Nat.le_refl _
  · dsimp only
    have : (size + 17 + n) % 1000 < 1000 := Nat.mod_lt _ (by decide)
    omega

theorem growTo_le (size n max : Nat) (h : size ≤ max) : growTo size n max ≤ max := by
  unfold growTo sizeMeta chunk
  split
  · exact h
  · dsimp only; omega

/-- below the cap the buffer really grows by at least `n` -/
theorem growTo_grows (size n max : Nat) (h : growTo size n max < max) : size + n < growTo size n max := by
  unfold growTo sizeMeta chunk at h ⊢
  split at h
  · rename_i he; simp at he; omega
  · rename_i he
    simp only [he, Bool.false_eq_true, ↓reduceIte]
    dsimp only at h ⊢
    have : (size + 17 + n) % 1000 < 1000 := Nat.mod_lt _ (by decide)
    omega

theorem readPlan_n_le_avail (size used max avail : Nat) : (readPlan size used max avail).1 ≤ avail := by
  unfold readPlan; dsimp only; omega

theorem readPlan_n_eq (size used max avail : Nat) :
    (readPlan size used max avail).1 = min (if size - used = 0 then chunk else size - used) avail := by
  unfold readPlan; simp

/-- never more than a chunk or the free space is asked of the kernel -/
theorem readPlan_n_le_len (size used max avail : Nat) :
    (readPlan size used max avail).1 ≤ Nat.max (size - used) chunk := by
  rw [readPlan_n_eq]
  split <;> simp only [Nat.max_def] <;> split <;> omega

/-- the size after the read does not depend on what the kernel had -/
theorem readPlan_size_indep (size used max avail avail' : Nat) :
    (readPlan size used max avail).2.1 = (readPlan size used max avail').2.1 := by
  unfold readPlan; rfl

theorem readPlan_size_cases (size used max avail : Nat) :
    (readPlan size used max avail).2.1 = size ∨ ∃ n, (readPlan size used max avail).2.1 = growTo size n max := by
  unfold readPlan; dsimp only
  repeat' split
  all_goals first | (left; rfl) | (right; exact ⟨_, rfl⟩)

theorem readPlan_size_ge (size used max avail : Nat) (h : size ≤ max) : size ≤ (readPlan size used max avail).2.1 := by
  rcases readPlan_size_cases size used max avail with h1 | ⟨n, h1⟩ <;> rw [h1]
  · exact Nat.le_refl _
  · exact growTo_ge _ _ _ h

theorem readPlan_size_le (size used max avail : Nat) (h : size ≤ max) : (readPlan size used max avail).2.1 ≤ max := by
  rcases readPlan_size_cases size used max avail with h1 | ⟨n, h1⟩ <;> rw [h1]
  · exact h
  · exact growTo_le _ _ _ h

/-- the buffer only grows when it is full -/
theorem readPlan_size_of_room (size used max avail : Nat) (h : used < size) : (readPlan size used max avail).2.1 = size := by
  unfold readPlan; dsimp only
  have h0 : (size - used == 0) = false := by simp; omega
  simp only [h0, Bool.false_eq_true, ↓reduceIte]
  split
  · rename_i hc; simp at hc
  · rfl

theorem readPlan_dropped_eq (size used max avail : Nat) :
    (readPlan size used max avail).2.2 = (readPlan size used max avail).1 - ((readPlan size used max avail).2.1 - used) := by
  unfold readPlan; rfl

/-- nothing is read, nothing is dropped -/
theorem readPlan_zero (size used max : Nat) : (readPlan size used max 0).1 = 0 ∧ (readPlan size used max 0).2.2 = 0 := by
  unfold readPlan; simp

/-- with room left nothing is dropped -/
theorem readPlan_dropped_of_room (size used max avail : Nat) (h : used < size) : (readPlan size used max avail).2.2 = 0 := by
  rw [readPlan_dropped_eq, readPlan_size_of_room _ _ _ _ h, readPlan_n_eq]
  have : ¬ (size - used = 0) := by omega
  simp only [this, ↓reduceIte]
  omega

/-- bytes are overwritten only by a buffer that has reached its maximal size -/
theorem readPlan_dropped_of_lt_max (size used max avail : Nat) (hu : used ≤ size)
    (h : (readPlan size used max avail).2.1 < max) : (readPlan size used max avail).2.2 = 0 := by
  by_cases hr : used < size
  · exact readPlan_dropped_of_room _ _ _ _ hr
  · have he : size - used = 0 := by omega
    rw [readPlan_dropped_eq, readPlan_n_eq]
    simp only [he, ↓reduceIte]
    unfold readPlan at h ⊢
    simp only [he, BEq.rfl, ↓reduceIte, Nat.sub_zero] at h ⊢
    have hc : 0 < chunk := by decide
    split at h
    · have := growTo_grows size chunk max h
      rename_i hc2
      simp only [hc2, ↓reduceIte]
      omega
    · rename_i hc2
      simp only [gt_iff_lt, hc, decide_true, Bool.true_and, decide_eq_true_eq] at hc2
      omega

theorem readPlan_dropped_le_n (size used max avail : Nat) :
    (readPlan size used max avail).2.2 ≤ (readPlan size used max avail).1 := by
  rw [readPlan_dropped_eq]; omega

/-- `used' = min (used + n) size'`: what is unread afterwards fits -/
theorem readPlan_fits (size used max avail : Nat) (hu : used ≤ size) (hm : size ≤ max) :
    used + (readPlan size used max avail).1 - (readPlan size used max avail).2.2 ≤ (readPlan size used max avail).2.1 := by
  have := readPlan_size_ge size used max avail hm
  rw [readPlan_dropped_eq]; omega

/-- never more is dropped than was unread, as long as a whole chunk fits the buffer (`minsize ≥ CBUF_CHUNK`: 1024 in
    the daemon) -/
theorem readPlan_dropped_le_used (size used max avail : Nat) (hu : used ≤ size) (hm : size ≤ max) (hc : chunk ≤ size) :
    (readPlan size used max avail).2.2 ≤ used := by
  have h1 := readPlan_size_ge size used max avail hm
  have h2 := readPlan_n_le_len size used max avail
  rw [readPlan_dropped_eq]
  simp only [Nat.max_def] at h2
  split at h2 <;> omega

/-- one `read` under the capacity invariant `used ≤ size`, `chunk ≤ size ≤ max`: the size does not decrease and stays within
    the maximum, never more is dropped than was unread, and what is unread afterwards fits -/
theorem readPlan_cap {size used max : Nat} (hu : used ≤ size) (hc : chunk ≤ size) (hm : size ≤ max) (avail : Nat) :
    size ≤ (readPlan size used max avail).2.1 ∧ (readPlan size used max avail).2.1 ≤ max ∧
    (readPlan size used max avail).2.2 ≤ used ∧
    used - (readPlan size used max avail).2.2 + (readPlan size used max avail).1 ≤ (readPlan size used max avail).2.1 := by
  have h1 := readPlan_size_ge size used max avail hm
  have h3 := readPlan_dropped_le_used size used max avail hu hm hc
  have h4 := readPlan_fits size used max avail hu hm
  exact ⟨h1, readPlan_size_le size used max avail hm, h3, by omega⟩

/-- the exact count at the cap: a full buffer at `maxsize` loses as many of its oldest bytes as it reads -/
theorem readPlan_full_at_max (max avail : Nat) :
    readPlan max max max avail = (min chunk avail, max, min chunk avail) := by
  unfold readPlan; simp

/-- a full buffer at its maximal size takes the first chunk of what the kernel has -/
theorem readPlan_full_take {α : Type} (max : Nat) (l : List α) : l.take (readPlan max max max l.length).1 = l.take chunk := by
  rw [readPlan_full_at_max]
  by_cases hl : chunk ≤ l.length
  · rw [Nat.min_eq_left hl]
  · rw [Nat.min_eq_right (by omega), List.take_of_length_le (Nat.le_refl _), List.take_of_length_le (by omega)]

example : growTo 1024 1000 65536 = 2983 := by decide
example : growTo 1024 1000 1048576 = 2983 := by decide
example : growTo 2983 1000 65536 = 4983 := by decide
example : growTo 64983 1000 65536 = 65536 := by decide
example : growTo 65536 1000 65536 = 65536 := by decide
/-- `m` a multiple of the chunk already: a whole chunk more -/
example : growTo 983 1000 65536 = 2983 := by decide
example : readPlan 1024 0 65536 5000 = (1024, 1024, 0) := by decide
example : readPlan 1024 1024 65536 5000 = (1000, 2983, 0) := by decide
example : readPlan 1024 1000 65536 5000 = (24, 1024, 0) := by decide
/-- the last growth is cut by the cap: 553 bytes of room for the 1000 read, 447 of the oldest are lost -/
example : readPlan 64983 64983 65536 5000 = (1000, 65536, 447) := by decide
example : readPlan 65536 65536 65536 5000 = (1000, 65536, 1000) := by decide
example : readPlan 65536 65536 65536 0 = (0, 65536, 0) := by decide

end Pm.Cbuf
