import Pm.Dev2Fd
import Pm.Dev2Login
import Pm.EnqProof
/-! C10 over the pass and over the life of a device: `Reach` (the states the daemon can bring a device to) keeps
    `LoginHead` and `FreshLink` (logged in only while CONNECTED); completions are FIFO, over one pass and over a history of
    enqueues and passes (`runHist`); only the head of the queue speaks, and what it says reaches the output buffer in order and
    does not depend on the queue behind it.  The pass is read as a sequence of moves (`Pm/Dev2Moves.lean`), one iteration of the
    loop through the cut of `postPoll` in `Pm/Dev2Proof.lean`. -/
namespace Pm.Dev2.Login2

theorem handleReady_loginHead (c : CS) (h : LoginHead c.dev) : LoginHead (handleReady c).1.dev :=
  handleReady_keeps Move.loginHead_ready c h

theorem postPoll_loginHead (d : Dev) (env : Env) (o : Oracle) (h : LoginHead d)
    (hna : (postPoll d env o).1.aborted = false) : LoginHead (postPoll d env o).1.dev :=
  ((postPoll_run d env o).keeps (I := fun s => s.1.aborted = true ∨ LoginHead s.1.dev) (fun _ _ _ => Move.loginHead)
    (.inr h)).resolve_left (by rw [hna]; exact Bool.noConfusion)

theorem enqueue_appends (d : Dev) (com : Nat) (targets : List Bytes) (cid : Nat) (tele : Bool) (al : Nat) :
    ∃ l, (Pm.Daemon.enqueue d com targets cid tele al).1.acts = d.acts ++ l ∧
      (Pm.Daemon.enqueue d com targets cid tele al).1.conn = d.conn ∧
      (Pm.Daemon.enqueue d com targets cid tele al).1.loggedIn = d.loggedIn := by
  rw [Pm.Daemon.Enq.enqueue_eq]; exact ⟨_, rfl, rfl, rfl⟩

theorem enqueue_soft (d : Dev) (com : Nat) (targets : List Bytes) (cid : Nat) (tele : Bool) (al : Nat) :
    Fd.Soft d (Pm.Daemon.enqueue d com targets cid tele al).1 := by
  rw [Pm.Daemon.Enq.enqueue_eq]; exact ⟨rfl⟩

theorem enqueue_loginHead (d : Dev) (com : Nat) (targets : List Bytes) (cid : Nat) (tele : Bool) (al : Nat)
    (h : LoginHead d) : LoginHead (Pm.Daemon.enqueue d com targets cid tele al).1 := by
  obtain ⟨l, h1, h2, h3⟩ := enqueue_appends d com targets cid tele al
  exact h.append l h2 h3 h1

/-- `Reach d0 d`: the device states `d` the daemon can produce from the device state `d0`: `dev_initial_connect`
    (`connectDev` on a NOT_CONNECTED device), passes of `dev_post_poll` with any kernel answers and any regex answers, client commands
    (`dev_enqueue_actions` with any command, target list, client), and the two field updates `Pm.Daemon` makes
    around them (`devPass` hands the argument store to the device, `install` clears the retry counter).
    Passes that end in a modelled abort (an assertion of the C program, a missing answer, fuel) end the run. -/
inductive Reach (d0 : Dev) : Dev → Prop
  | init : Reach d0 d0
  | connect (d : Dev) (env : Env) : Reach d0 d → d.conn = 0 →
      (connectDev { dev := d, env := env, sys := [] }).aborted = false →
      Reach d0 (connectDev { dev := d, env := env, sys := [] }).dev
  | pass (d : Dev) (env : Env) (o : Oracle) : Reach d0 d → (postPoll d env o).1.aborted = false →
      Reach d0 (postPoll d env o).1.dev
  | enqueue (d : Dev) (com : Nat) (targets : List Bytes) (cid : Nat) (tele : Bool) (al : Nat) : Reach d0 d →
      Reach d0 (Pm.Daemon.enqueue d com targets cid tele al).1
  | store (d : Dev) (s : List (Nat × List Arg)) : Reach d0 d → Reach d0 { d with args := s }
  | retry (d : Dev) : Reach d0 d → Reach d0 { d with retryCount := 0 }

/-- C10 "login first", the invariant in every reachable state -/
theorem Reach.loginHead {d0 d : Dev} (h : Reach d0 d) (h0 : d0.conn = 0) : LoginHead d := by
  induction h with
  | init => exact LoginHead.of_not_connected (by simp [h0])
  | connect d env _ hc hna _ => exact connectDev_loginHead _ hc hna
  | pass d env o _ hna ih => exact postPoll_loginHead d env o ih hna
  | enqueue d com targets cid tele al _ ih => exact enqueue_loginHead d com targets cid tele al ih
  | store d s _ ih => exact ih
  | retry d _ ih => exact ih

/-- C10 FIFO, one run of `_process_action`: the completions it reports are, in order, the client actions that left
    the front of the queue; what is still queued afterwards is the rest, in the same order — aborted passes included -/
theorem processActionF_fifo (fuel : Nat) (c : CS) (o : Oracle) (out : List Out) (tmo : Option Time) :
    ∃ l, finishesOf (processActionF fuel c o out tmo).2.2.1 = finishesOf out ++ l ∧
         l ++ clientIds (processActionF fuel c o out tmo).1.dev.acts = clientIds c.dev.acts :=
  let ⟨new, h1, h2⟩ := processActionF_served fuel c o out tmo; ⟨_, by rw [h1, finishesOf_append], h2⟩

theorem processActionF_fifo_prefix (fuel : Nat) (c : CS) (o : Oracle) (out : List Out) (tmo : Option Time) :
    ∃ n, finishesOf (processActionF fuel c o out tmo).2.2.1 = finishesOf out ++ (clientIds c.dev.acts).take n := by
  obtain ⟨l, h1, h2⟩ := processActionF_fifo fuel c o out tmo
  exact ⟨l.length, by rw [h1, ← h2]; simp⟩

/-- the payloads of the `send` statements in an output, in order -/
def sentsOf (l : List Out) : List Bytes := l.filterMap fun x => match x with | .sent b => some b | _ => none

@[simp] theorem sentsOf_append (l m : List Out) : sentsOf (l ++ m) = sentsOf l ++ sentsOf m := by simp [sentsOf]
@[simp] theorem sentsOf_nil : sentsOf [] = [] := rfl

theorem sentsOf_headFin (a : Action) (e : ActErr) :
    sentsOf (if a.clientId != 0 then [Out.finish a.clientId e] else []) = [] := by
  split <;> rfl

theorem failAll_sents (rest : List Action) (c : CS) (a : Action) (o : Oracle) (out : List Out) (tmo : Option Time) :
    sentsOf (failAll rest c a o out tmo).2.2.1 = sentsOf out := by
  have h : sentsOf (failFins rest a) = [] := List.filterMap_eq_nil_iff.2 fun x hx => by
    obtain ⟨_, _, rfl⟩ := fail_finish a rest a.errnum x hx; rfl
  rw [failAll_reports, sentsOf_append, h, List.append_nil]

theorem sentsOf_notes (l : List Out) (h : ∀ x ∈ l, isNote x = true) : sentsOf l = [] := by
  refine List.filterMap_eq_nil_iff.2 fun x hx => ?_
  have := h x hx
  cases x <;> first | rfl | cases this

theorem onTimeout_sents (rest : List Action) (c : CS) (a : Action) (o : Oracle) (out : List Out) (tmo : Option Time) :
    sentsOf (onTimeout rest c a o out tmo).2.2.1 = sentsOf out := by
  rw [Fd.onTimeout_eq_failAll, failAll_sents, sentsOf_append, sentsOf_notes _ (timeoutTele_notes c.dev a), List.append_nil]

theorem onRunStep_sents (rest : List Action) (c : CS) (a : Action) (o : Oracle) (out : List Out) (tmo : Option Time) (left : Time) :
    sentsOf (onRunStep rest c a o out tmo left).1.2.2.1 =
      sentsOf out ++ sentsOf (innerLoop c.env.now (loopBound a) { c.dev with wake := none } a o []).out := by
  rcases onRunStep_branches rest c a o out tmo left _ rfl with
    ⟨_, e⟩ | ⟨_, _, e⟩ | ⟨_, _, _, _, e⟩ | ⟨_, _, _, _, e⟩ | ⟨_, _, _, e⟩ <;> rw [e]
  · exact sentsOf_append ..
  · exact sentsOf_append ..
  · rw [sentsOf_append, sentsOf_append, sentsOf_headFin, List.append_nil]
  · exact sentsOf_append ..
  · rw [failAll_sents, sentsOf_append]

/-- what the statement interpreter emits in this iteration: `innerLoop` applied to the speaker -/
def spoken (c : CS) (o : Oracle) : List Out :=
  match speaker c with
  | some a => (innerLoop c.env.now (loopBound a) { c.dev with wake := none } a o []).out
  | none => []

theorem speaker_is_head (c : CS) (a : Action) (h : speaker c = some a) :
    ∃ a0 rest, c.dev.acts = a0 :: rest ∧ a = stamp c.env.now a0 ∧ c.dev.conn = 2 ∧ c.aborted = false := by
  unfold speaker at h
  split at h
  · cases h
  · split at h
    · cases h
    · rename_i a0 rest hacts
      split at h
      · cases h
      · split at h
        · cases h
        · rename_i hc
          exact ⟨a0, rest, hacts, by cases h; rfl, by simpa using hc, by simp_all⟩

theorem spoken_none (c : CS) (o : Oracle) (h : speaker c = none) : spoken c o = [] := by
  unfold spoken; rw [h]
theorem spoken_some (c : CS) (o : Oracle) (a : Action) (h : speaker c = some a) :
    spoken c o = (innerLoop c.env.now (loopBound a) { c.dev with wake := none } a o []).out := by
  unfold spoken; rw [h]

/-- one iteration sends exactly what the interpreter run on the head of the queue sends — nothing else in the
    iteration (time-out telemetry, completions, the error branch, reconnect) sends anything -/
theorem bodyStep_sents (c : CS) (o : Oracle) (out : List Out) (tmo : Option Time) :
    sentsOf (bodyStep c o out tmo).1.2.2.1 = sentsOf out ++ sentsOf (spoken c o) := by
  rcases bodyStep_cases c o out tmo with ⟨h1, e⟩ | ⟨a0, rest, _, h1, e⟩ | ⟨a0, rest, left, _, h1, _, e⟩ | ⟨a0, rest, left, _, h1, _, e⟩ <;>
    rw [e]
  · rw [spoken_none c o h1]; exact (List.append_nil _).symm
  · rw [spoken_none c o h1, onTimeout_sents]; exact (List.append_nil _).symm
  · rw [spoken_none c o h1]; exact (List.append_nil _).symm
  · rw [spoken_some c o _ h1]; exact onRunStep_sents ..

/-- the states in which the iterations of one run of `_process_action` begin -/
def iterStates : Nat → CS → Oracle → List Out → Option Time → List (CS × Oracle)
  | 0, _, _, _, _ => []
  | fuel + 1, c, o, out, tmo =>
    (c, o) :: (if (bodyStep c o out tmo).2 then
      iterStates fuel (bodyStep c o out tmo).1.1 (bodyStep c o out tmo).1.2.1 (bodyStep c o out tmo).1.2.2.1 (bodyStep c o out tmo).1.2.2.2
      else [])

/-- C10 "only the head speaks", one run of `_process_action`: what the run sends is the concatenation, over its
    iterations, of what the statement interpreter sent when applied to the head of the queue of that iteration -/
theorem processActionF_sents (fuel : Nat) (c : CS) (o : Oracle) (out : List Out) (tmo : Option Time) :
    sentsOf (processActionF fuel c o out tmo).2.2.1 =
      sentsOf out ++ (iterStates fuel c o out tmo).flatMap fun s => sentsOf (spoken s.1 s.2) := by
  induction fuel generalizing c o out tmo with
  | zero => simp [processActionF, iterStates, sentsOf]
  | succ n ih =>
    rw [processActionF_succ]
    unfold andThen iterStates
    have hb := bodyStep_sents c o out tmo
    generalize bodyStep c o out tmo = s at *
    cases hs : s.2
    · simp [hb]
    · simp [ih, hb]

theorem iterStates_keeps {I : CS → Prop} (hI : ∀ c o out tmo, I c → I (bodyStep c o out tmo).1.1)
    (fuel : Nat) (c : CS) (o : Oracle) (out : List Out) (tmo : Option Time) (h : I c) :
    ∀ s ∈ iterStates fuel c o out tmo, I s.1 := by
  induction fuel generalizing c o out tmo with
  | zero => exact fun _ hs => nomatch hs
  | succ n ih =>
    intro s hs
    unfold iterStates at hs
    rcases List.mem_cons.1 hs with rfl | hs
    · exact h
    · split at hs
      · exact ih _ _ _ _ (hI c o out tmo h) s hs
      · exact nomatch hs

theorem speaker_login (c : CS) (a : Action) (h : LoginHead c.dev) (hs : speaker c = some a)
    (hl : c.dev.loggedIn = false) : a.com = 0 := by
  obtain ⟨a0, rest, hacts, ha, hc, _⟩ := speaker_is_head c a hs
  obtain ⟨x, r, hx, hx0⟩ := h hc hl
  rw [hacts] at hx; cases hx
  rw [ha, stamp_com]; exact hx0

/-- C10 "login first" for the bytes: in every iteration of a run of `_process_action` that begins on a connection
    that is not logged in, the action whose statements are executed — the only source of sent bytes in that
    iteration (`bodyStep_sents`) — is the login action -/
theorem login_speaks_first (fuel : Nat) (c : CS) (o : Oracle) (out : List Out) (tmo : Option Time)
    (h : LoginHead c.dev) :
    ∀ s ∈ iterStates fuel c o out tmo, ∀ a, speaker s.1 = some a → s.1.dev.loggedIn = false → a.com = 0 := by
  intro s hs a hsp hl
  obtain ⟨_, _, _, _, _, hna⟩ := speaker_is_head s.1 a hsp
  -- every iteration keeps `LoginHead` or aborts, and an aborted state has no speaker
  have hJ := iterStates_keeps (I := fun c => c.aborted = true ∨ LoginHead c.dev)
    (fun c o out tmo => (bodyStep_run c o out tmo).keeps (I := fun s => s.1.aborted = true ∨ LoginHead s.1.dev) fun _ _ => Move.loginHead)
    fuel c o out tmo (.inr h) s hs
  exact speaker_login s.1 a (hJ.resolve_left (by rw [hna]; exact Bool.noConfusion)) hsp hl

/-- a head that did not finish its statement (an `expect` without its reply, a `send` not yet flushed, a `delay`
    not yet over) ends the run: no later action is looked at in this pass, and the head keeps its place -/
theorem bodyStep_stalled (c : CS) (o : Oracle) (out : List Out) (tmo : Option Time) (a : Action)
    (hs : speaker c = some a)
    (hst : (innerLoop c.env.now (loopBound a) { c.dev with wake := none } a o []).finished = false) :
    (bodyStep c o out tmo).2 = false ∧
    (bodyStep c o out tmo).1.1.dev.acts = (innerLoop c.env.now (loopBound a) { c.dev with wake := none } a o []).act :: c.dev.acts.tail := by
  rcases bodyStep_cases c o out tmo with ⟨h, _⟩ | ⟨_, _, _, h, _⟩ | ⟨_, _, _, _, h, _⟩ | ⟨a0, rest, left, ha, h, _, e⟩
  all_goals rw [hs] at h; cases h
  rw [e, ha]
  rcases onRunStep_branches rest c (stamp c.env.now a0) o out tmo left _ rfl with
    ⟨_, e⟩ | ⟨_, _, e⟩ | ⟨_, hf, _⟩ | ⟨_, hf, _⟩ | ⟨_, hf, _⟩
  · rw [e]; exact ⟨rfl, rfl⟩
  · rw [e]; exact ⟨rfl, rfl⟩
  all_goals rw [hst] at hf; cases hf

/-- the bytes of the `send` statements in an output, concatenated in order -/
def sentBytes (l : List Out) : Bytes := (sentsOf l).flatten

@[simp] theorem sentBytes_append (l m : List Out) : sentBytes (l ++ m) = sentBytes l ++ sentBytes m := by
  simp [sentBytes]
@[simp] theorem sentBytes_nil : sentBytes [] = [] := rfl

/-- what a statement does to the output buffer: it queues what it reports as sent behind what is queued, nothing else.
    `dev->to` holds 65536 bytes (`clipTo`: the oldest queued bytes give way beyond that); the buffer the statement finds is
    within the capacity (`C09_device_out_capacity`: every reachable one is) -/
structure BufFrame (d : Dev) (r : StepR) : Prop where
  toBuf : d.toBuf.length ≤ 65536 → r.dev.toBuf = clipTo (d.toBuf ++ sentBytes r.out)
  retry : r.dev.retryCount = d.retryCount

theorem _root_.Pm.Dev2.StmtSpec.bufFrame {d : Dev} {a : Action} {r : StepR} (h : StmtSpec d a r) : BufFrame d r where
  retry := h.writes.retryCount
  toBuf hc := by
    have note : ∀ l : List Out, (∀ x ∈ l, noteTo a.clientId x = true) → sentsOf l = [] :=
      fun l hn => sentsOf_notes l fun x hx => noteTo_note (hn x hx)
    rcases h.out with ⟨hn, hb⟩ | ⟨s, tele, ho, hn, hb⟩
    · rw [hb, sentBytes, note _ hn, List.flatten_nil, List.append_nil, clipTo_of_le _ hc]
    · have e : sentBytes (Out.sent s :: tele) = s ++ (sentsOf tele).flatten := rfl
      rw [hb, ho, e, note _ hn, List.flatten_nil, List.append_nil]

theorem stmtSend_buf (d a o e fmt) : BufFrame d (stmtSend d a o e fmt) := (stmtSend_spec d a o e fmt).bufFrame

theorem processStmt_buf (d : Dev) (a : Action) (o : Oracle) (now : Time) : BufFrame d (processStmt d a o now) :=
  (processStmt_spec d a o now).bufFrame

theorem innerLoop_buf (now : Time) (fuel : Nat) (d : Dev) (a : Action) (o : Oracle) (acc : List Out)
    (hc : d.toBuf.length ≤ 65536) :
    ∃ new, (innerLoop now fuel d a o acc).out = acc ++ new ∧
      (innerLoop now fuel d a o acc).dev.toBuf = clipTo (d.toBuf ++ sentBytes new) ∧
      (innerLoop now fuel d a o acc).dev.retryCount = d.retryCount :=
  innerLoop_induct (now := now) (P := fun d _ _ acc r => d.toBuf.length ≤ 65536 →
      ∃ new, r.out = acc ++ new ∧ r.dev.toBuf = clipTo (d.toBuf ++ sentBytes new) ∧ r.dev.retryCount = d.retryCount)
    (fun d a o _ hc => ⟨_, rfl, (processStmt_buf d a o now).toBuf hc, (processStmt_buf d a o now).retry⟩)
    (fun d a o acc r _ _ ih hc => by
      have hp := processStmt_buf d a o now
      obtain ⟨new, h1, h2, h3⟩ := ih (by rw [hp.toBuf hc]; exact clipTo_length_le _)
      exact ⟨(processStmt d a o now).out ++ new, by rw [h1, List.append_assoc],
        by rw [h2, hp.toBuf hc, clipTo_clipTo_append, sentBytes_append, List.append_assoc], by rw [h3, hp.retry]⟩)
    fuel d a o acc hc

theorem connectOne_buf (c : CS) : (connectOne c).1.dev.toBuf = c.dev.toBuf ∧
    (connectOne c).1.dev.retryCount = c.dev.retryCount := ⟨(connectOne_frame c).dev.toBuf, (connectOne_frame c).dev.retryCount⟩
theorem connectDev_buf (c : CS) : (connectDev c).dev.toBuf = c.dev.toBuf ∧
    (connectDev c).dev.retryCount = c.dev.retryCount + 1 := by
  obtain ⟨d1, hf, _, ⟨e, _⟩ | ⟨e, _⟩⟩ := connectDev_frame c <;> rw [e] <;> exact ⟨hf.toBuf, hf.retryCount⟩

theorem disconnectDev_buf (c : CS) : (disconnectDev c).dev.toBuf = [] ∧ (disconnectDev c).dev.fromBuf = [] ∧
    (disconnectDev c).dev.retryCount = c.dev.retryCount := by
  rw [disconnectDev_cs]; exact ⟨rfl, rfl, rfl⟩

/-- `_reconnect` of a device that is not NOT_CONNECTED goes through `_disconnect`: the output buffer is flushed, and
    either the device stays NOT_CONNECTED (too early to retry) or one more connect attempt is counted -/
theorem reconnectDev_flush (c : CS) (tmo : Option Time) (h : c.dev.conn ≠ 0) :
    (reconnectDev c tmo).1.dev.toBuf = [] ∧
    ((reconnectDev c tmo).1.dev.conn = 0 ∨ (reconnectDev c tmo).1.dev.retryCount = c.dev.retryCount + 1) :=
  reconnectDev_elim (Q := fun c1 => c1.dev.toBuf = [] ∧ c1.dev.retryCount = c.dev.retryCount)
    (P := fun r => r.dev.toBuf = [] ∧ (r.dev.conn = 0 ∨ r.dev.retryCount = c.dev.retryCount + 1)) c tmo
    (fun _ => ⟨(disconnectDev_buf c).1, (disconnectDev_buf c).2.2⟩) (fun h0 => absurd h0 h)
    (fun c1 _ hq => ⟨(connectDev_buf c1).1.trans hq.1, Or.inr ((connectDev_buf c1).2.trans (congrArg (· + 1) hq.2))⟩)
    (fun _ h0 hq => ⟨hq.1, Or.inl h0⟩)

theorem reconnectDev_idle (c : CS) (tmo : Option Time) (h : c.dev.conn = 0) :
    (reconnectDev c tmo).1.dev.toBuf = c.dev.toBuf :=
  reconnectDev_elim (Q := fun c1 => c1.dev.toBuf = c.dev.toBuf) (P := fun r => r.dev.toBuf = c.dev.toBuf) c tmo
    (fun hn => absurd h hn) (fun _ => rfl) (fun c1 _ hq => (connectDev_buf c1).1.trans hq) (fun _ _ hq => hq)

/-- how a piece of `_process_action` may change the output buffer of device `d`, reporting `bytes` as sent:
    either it queued exactly these bytes behind what was queued — `clipTo`: the last 65536 bytes of the two together, the
    capacity of `dev->to` — (and neither the connection state nor the retry counter moved), or the
    device was connected and went through `_disconnect` (the buffer is empty; visible as: no longer CONNECTED, or one
    more connect attempt counted) -/
def BufStep (d : Dev) (bytes : Bytes) (d' : Dev) : Prop :=
  (d'.toBuf = clipTo (d.toBuf ++ bytes) ∧ d'.conn = d.conn ∧ d'.retryCount = d.retryCount) ∨
  (d'.toBuf = [] ∧ d.conn = 2 ∧ (d'.conn ≠ 2 ∨ d'.retryCount = d.retryCount + 1))

theorem failAll_buf (rest : List Action) (c : CS) (a : Action) (o : Oracle) (out : List Out) (tmo : Option Time)
    (hcap : c.dev.toBuf.length ≤ 65536) :
    BufStep c.dev [] (failAll rest c a o out tmo).1.dev := by
  by_cases h2 : c.dev.conn = 2
  · rw [failAll_connected _ _ _ _ _ _ h2]
    have := reconnectDev_flush { c with dev := { c.dev with acts := [], xmStr := none, xmResult := false, xmUsed := false } } tmo
      (by show c.dev.conn ≠ 0; rw [h2]; decide)
    exact .inr ⟨this.1, h2, this.2.imp (fun h => by rw [h]; decide) id⟩
  · rw [failAll_other _ _ _ _ _ _ h2]
    exact .inl ⟨by rw [List.append_nil, clipTo_of_le _ hcap], rfl, rfl⟩

theorem onTimeout_buf (rest : List Action) (c : CS) (a : Action) (o : Oracle) (out : List Out) (tmo : Option Time)
    (hcap : c.dev.toBuf.length ≤ 65536) :
    BufStep c.dev [] (onTimeout rest c a o out tmo).1.dev := by
  rw [Fd.onTimeout_eq_failAll]; exact failAll_buf _ _ _ _ _ _ hcap

/-- `BufStep` for one iteration, with the extra fact that a flush ends the loop -/
def BufStop (d : Dev) (bytes : Bytes) (s : PA × Bool) : Prop :=
  (s.1.1.dev.toBuf = clipTo (d.toBuf ++ bytes) ∧ s.1.1.dev.conn = d.conn ∧ s.1.1.dev.retryCount = d.retryCount) ∨
  (s.2 = false ∧ s.1.1.dev.toBuf = [] ∧ d.conn = 2 ∧ (s.1.1.dev.conn ≠ 2 ∨ s.1.1.dev.retryCount = d.retryCount + 1))

theorem BufStop.of_bufStep {d : Dev} {b : Bytes} {p : PA} (h : BufStep d b p.1.dev) : BufStop d b (p, false) := by
  rcases h with h | h
  · exact Or.inl h
  · exact Or.inr ⟨rfl, h⟩

theorem onRunStep_buf (rest : List Action) (c : CS) (a : Action) (o : Oracle) (out : List Out) (tmo : Option Time) (left : Time)
    (hcap : c.dev.toBuf.length ≤ 65536) :
    BufStop c.dev (sentBytes (innerLoop c.env.now (loopBound a) { c.dev with wake := none } a o []).out)
      (onRunStep rest c a o out tmo left) := by
  obtain ⟨new, hn1, hn2, hn3⟩ := innerLoop_buf c.env.now (loopBound a) { c.dev with wake := none } a o [] hcap
  have hL := (innerLoop_writes c.env.now (loopBound a) { c.dev with wake := none } a o [] (fun _ h => nomatch h)).conn
  have h := onRunStep_branches rest c a o out tmo left _ rfl
  generalize innerLoop c.env.now (loopBound a) { c.dev with wake := none } a o [] = r at *
  have hb : r.dev.toBuf = clipTo (c.dev.toBuf ++ sentBytes r.out) := by rw [hn2, hn1]; rfl
  rcases h with ⟨_, e⟩ | ⟨_, _, e⟩ | ⟨_, _, _, _, e⟩ | ⟨_, _, _, _, e⟩ | ⟨_, _, _, e⟩ <;> rw [e]
  · exact Or.inl ⟨hb, hL, hn3⟩
  · exact Or.inl ⟨hb, hL, hn3⟩
  · exact Or.inl ⟨hb, hL, hn3⟩
  · exact Or.inl ⟨hb, hL, hn3⟩
  · -- the error branch: nothing more is queued, or the device went through `_disconnect`
    have hcr : r.dev.toBuf.length ≤ 65536 := by rw [hb]; exact clipTo_length_le _
    rcases failAll_buf rest { c with dev := r.dev } r.act r.oracle (out ++ r.out) tmo hcr with h | h
    · exact Or.inl ⟨by rw [h.1, List.append_nil, clipTo_of_le _ hcr]; exact hb, h.2.1.trans hL, h.2.2.trans hn3⟩
    · refine Or.inr ⟨rfl, h.1, hL ▸ h.2.1, h.2.2.imp id fun h3 => ?_⟩
      rw [h3]; exact congrArg (· + 1) hn3

theorem bodyStep_buf (c : CS) (o : Oracle) (out : List Out) (tmo : Option Time) (hcap : c.dev.toBuf.length ≤ 65536) :
    BufStop c.dev (sentBytes (spoken c o)) (bodyStep c o out tmo) := by
  rcases bodyStep_cases c o out tmo with ⟨h1, h2⟩ | ⟨a0, rest, _, h1, h2⟩ | ⟨a0, rest, left, _, h1, _, h2⟩ | ⟨a0, rest, left, _, h1, _, h2⟩
  · rw [h2, spoken_none c o h1]; exact Or.inl ⟨by simp [clipTo_of_le _ hcap], rfl, rfl⟩
  · rw [h2, spoken_none c o h1]; exact BufStop.of_bufStep (onTimeout_buf _ _ _ _ _ _ hcap)
  · rw [h2, spoken_none c o h1]; exact Or.inl ⟨by simp [clipTo_of_le _ hcap], rfl, rfl⟩
  · rw [h2, spoken_some c o _ h1]; exact onRunStep_buf _ _ _ _ _ _ _ hcap

/-- the sends of a whole run, iteration by iteration -/
def passSents (fuel : Nat) (c : CS) (o : Oracle) (out : List Out) (tmo : Option Time) : List Bytes :=
  (iterStates fuel c o out tmo).flatMap fun s => sentsOf (spoken s.1 s.2)

/-- C10, output buffer, one run of `_process_action`: afterwards the buffer is the buffer before followed by the
    payloads of this run's `send`s in order (`clipTo`: the last 65536 bytes of that) — unless the run took the error branch
    on a connected device, whose `_disconnect` flushed the buffer (then it is empty, and nothing was sent after the flush) -/
theorem processActionF_buf (fuel : Nat) (c : CS) (o : Oracle) (out : List Out) (tmo : Option Time)
    (hcap : c.dev.toBuf.length ≤ 65536) :
    BufStep c.dev (passSents fuel c o out tmo).flatten (processActionF fuel c o out tmo).1.dev := by
  induction fuel generalizing c o out tmo with
  | zero => exact Or.inl ⟨by simp [passSents, iterStates, processActionF, clipTo_of_le _ hcap], rfl, rfl⟩
  | succ n ih =>
    rw [processActionF_succ]
    unfold passSents iterStates andThen
    have hb := bodyStep_buf c o out tmo hcap
    generalize bodyStep c o out tmo = s at *
    cases hs : s.2
    · simp only [Bool.false_eq_true, ↓reduceIte, List.flatMap_cons, List.flatMap_nil, List.append_nil]
      rcases hb with h | h
      · exact Or.inl h
      · exact Or.inr h.2
    · simp only [↓reduceIte, List.flatMap_cons, List.flatten_append]
      rcases hb with h | h
      · have hcs : s.1.1.dev.toBuf.length ≤ 65536 := by rw [h.1]; exact clipTo_length_le _
        rcases ih s.1.1 s.1.2.1 s.1.2.2.1 s.1.2.2.2 hcs with h2 | h2
        · left
          refine ⟨?_, h2.2.1.trans h.2.1, h2.2.2.trans h.2.2⟩
          rw [h2.1, h.1, clipTo_clipTo_append, List.append_assoc]; rfl
        · right
          exact ⟨h2.1, h.2.1 ▸ h2.2.1, by rw [← h.2.2]; exact h2.2.2⟩
      · rw [hs] at h; cases h.1

theorem processActionF_buf_below (fuel : Nat) (c : CS) (o : Oracle) (out : List Out) (tmo : Option Time)
    (hfit : c.dev.toBuf.length + (passSents fuel c o out tmo).flatten.length ≤ 65536) :
    ((processActionF fuel c o out tmo).1.dev.toBuf = c.dev.toBuf ++ (passSents fuel c o out tmo).flatten ∧
       (processActionF fuel c o out tmo).1.dev.conn = c.dev.conn ∧
       (processActionF fuel c o out tmo).1.dev.retryCount = c.dev.retryCount) ∨
    ((processActionF fuel c o out tmo).1.dev.toBuf = [] ∧ c.dev.conn = 2 ∧
       ((processActionF fuel c o out tmo).1.dev.conn ≠ 2 ∨
        (processActionF fuel c o out tmo).1.dev.retryCount = c.dev.retryCount + 1)) := by
  rcases processActionF_buf fuel c o out tmo (Nat.le_trans (Nat.le_add_right _ _) hfit) with h | h
  · left
    refine ⟨?_, h.2⟩
    rw [h.1]; apply clipTo_of_le; rw [List.length_append]; exact hfit
  · right; exact h

theorem postPollPing_buf (now : Time) (r : CS × Option Time) :
    (postPollPing now r).1.dev.toBuf = r.1.dev.toBuf := by
  rcases postPollPing_cases now r with e | ⟨_, _, e⟩ | e <;> rw [e] <;> rfl

theorem postPollPre_buf (d : Dev) (env : Env) :
    (postPollPre d env).1.dev.toBuf = (postPollReady d env).1.dev.toBuf ∨
    ((postPollPre d env).1.dev.toBuf = [] ∧ (postPollReady d env).2 = true ∧ (postPollReady d env).1.dev.conn ≠ 0) := by
  unfold postPollPre
  rw [postPollPing_buf]
  unfold postPollReconnect
  generalize postPollReady d env = r
  split
  · rename_i hc
    by_cases h0 : r.1.dev.conn = 0
    · left; exact reconnectDev_idle _ _ h0
    · right
      refine ⟨(reconnectDev_flush _ _ h0).1, ?_, h0⟩
      simpa [h0] using hc
  · left; rfl

/-- `logged_in` is only ever true on a CONNECTED device — so every new connection starts logged out, and
    `LoginHead` then puts the login script first -/
def FreshLink (d : Dev) : Prop := d.conn ≠ 2 → d.loggedIn = false

theorem connectOne_loggedIn (c : CS) : (connectOne c).1.dev.loggedIn = c.dev.loggedIn := (connectOne_frame c).dev.loggedIn
theorem connectDev_loggedIn (c : CS) : (connectDev c).dev.loggedIn = c.dev.loggedIn := by
  obtain ⟨d1, hf, _, ⟨e, _⟩ | ⟨e, _⟩⟩ := connectDev_frame c <;> rw [e] <;> exact hf.loggedIn

theorem disconnectDev_loggedIn (c : CS) : (disconnectDev c).dev.loggedIn = false := by rw [disconnectDev_cs]

theorem FreshLink.of_loggedOut {d : Dev} (h : d.loggedIn = false) : FreshLink d := fun _ => h

/-- a connection that comes up, or goes down, starts logged out; while the device stays CONNECTED there is nothing to show -/
theorem _root_.Pm.Dev2.Move.freshLink {k : Stage} {s s' : PA} (h : Move k s s') (hi : FreshLink s.1.dev) : FreshLink s'.1.dev := by
  cases h with
  | assert | write | wait | ping | stamp | note | failIdle | fuel => exact hi
  | read c => rw [read_dev]; exact hi
  | finish c _ _ _ h1 =>
    obtain ⟨c1, hw, ⟨_, e⟩ | ⟨_, e⟩⟩ := readyFinish_dev c h1
    all_goals rw [e]; exact .of_loggedOut (hw.dev.loggedIn.trans (hi (by rw [h1]; decide)))
  | disconnect c | failConn c | runFail c => exact .of_loggedOut (disconnectDev_loggedIn _)
  | connect _ c _ _ _ h0 => exact .of_loggedOut ((connectDev_loggedIn c).trans (hi (by rw [h0]; decide)))
  | runAbort c o _ _ a0 _ _ _ h2 hr | runStall c o _ _ a0 _ _ _ _ h2 hr | runDone c o _ _ a0 _ _ _ h2 hr
  | runNext c o _ _ a0 _ _ _ h2 hr => exact fun hn => absurd ((hr ▸ headRun_writes c o a0).conn.trans h2) hn

theorem postPoll_freshLink (d : Dev) (env : Env) (o : Oracle) (h : FreshLink d) : FreshLink (postPoll d env o).1.dev :=
  (postPoll_run d env o).keeps (I := fun s => FreshLink s.1.dev) (fun _ _ _ => Move.freshLink) h

theorem enqueue_freshLink (d : Dev) (com : Nat) (targets : List Bytes) (cid : Nat) (tele : Bool) (al : Nat)
    (h : FreshLink d) : FreshLink (Pm.Daemon.enqueue d com targets cid tele al).1 := by
  obtain ⟨l, _, h2, h3⟩ := enqueue_appends d com targets cid tele al
  intro hn; rw [h2] at hn; rw [h3]; exact h hn

theorem Reach.freshLink {d0 d : Dev} (h : Reach d0 d) (h0 : d0.loggedIn = false) : FreshLink d := by
  induction h with
  | init => exact FreshLink.of_loggedOut h0
  | connect d env _ hc _ ih =>
    exact FreshLink.of_loggedOut (by rw [connectDev_loggedIn]; exact ih (by simp [hc]))
  | pass d env o _ _ ih => exact postPoll_freshLink d env o ih
  | enqueue d com targets cid tele al _ ih => exact enqueue_freshLink d com targets cid tele al ih
  | store d s _ ih => exact ih
  | retry d _ ih => exact ih

/-- the second sentence of C10 in one statement: in every reachable state a device that is CONNECTED either has
    completed a login on this connection (`logged_in`) or has the login action at the head of its queue; and a
    device that is not CONNECTED is logged out, so the next connection starts with the second alternative -/
theorem Reach.login_first {d0 d : Dev} (h : Reach d0 d) (hc : d0.conn = 0) (hl : d0.loggedIn = false) :
    (d.conn = 2 → d.loggedIn = true ∨ ∃ a r, d.acts = a :: r ∧ a.com = 0) ∧ (d.conn ≠ 2 → d.loggedIn = false) := by
  refine ⟨fun h2 => ?_, h.freshLink hl⟩
  cases hli : d.loggedIn
  · exact Or.inr (h.loginHead hc h2 hli)
  · exact Or.inl rfl

theorem allOf_ne_zero (com c : Nat) (h : Pm.Daemon.allOf com = some c) : c ≠ 0 := by
  unfold Pm.Daemon.allOf at h; split at h <;> simp at h <;> omega
theorem rangedOf_ne_zero (com c : Nat) (h : Pm.Daemon.rangedOf com = some c) : c ≠ 0 := by
  unfold Pm.Daemon.rangedOf at h; split at h <;> simp at h <;> omega

/-- what `dev_enqueue_actions` appends to one device's queue carries the client's id, and no action of a real command has
    script slot `0` (the slot of the login script) -/
theorem enqueue_spec (d : Dev) (com : Nat) (targets : List Bytes) (cid : Nat) (tele : Bool) (al : Nat) :
    ∃ l, (Pm.Daemon.enqueue d com targets cid tele al).1.acts = d.acts ++ l ∧
      (Pm.Daemon.enqueue d com targets cid tele al).2 = l.length ∧
      ∀ a ∈ l, a.clientId = cid ∧ (com ≠ 0 → a.com ≠ 0) := by
  refine ⟨_, Pm.Daemon.Enq.enqueue_acts .., Pm.Daemon.Enq.enqueue_count .., fun a ha => ?_⟩
  obtain ⟨hk, hc, _, _⟩ := Pm.Daemon.Enq.newActs_kind ha
  refine ⟨hc, fun h0 => ?_⟩
  rcases hk with e | e | e
  · rw [e]; exact h0
  · exact allOf_ne_zero com _ e
  · exact rangedOf_ne_zero com _ e

/-- FIFO for a whole `dev_post_poll` pass: what the pass reports as completed is, in order, the client actions that
    left the front of the queue; the client actions still queued are the rest, in the same order (the login and
    ping actions the pass itself puts into the queue have no client) -/
theorem postPoll_fifo (d : Dev) (env : Env) (o : Oracle) (h : NoClientLogin d) :
    NoClientLogin (postPoll d env o).1.dev ∧
    finishesOf (postPoll d env o).2.2.1 ++ clientIds (postPoll d env o).1.dev.acts = clientIds d.acts := by
  obtain ⟨hn, new, h1, h2⟩ := (postPoll_run d env o).served h
  exact ⟨hn, by rw [h1]; exact h2⟩

/-- one event in the life of a device: a pass of `dev_post_poll` (with the kernel's and the regex engine's answers)
    or a client command reaching `dev_enqueue_actions` -/
inductive Ev where
  | pass (env : Env) (o : Oracle)
  | enq (com : Nat) (targets : List Bytes) (cid : Nat) (tele : Bool) (al : Nat)
  | connect (env : Env)                      -- `dev_initial_connect`
  | store (s : List (Nat × List Arg))        -- `Pm.Daemon.devPass` hands the shared argument store to the device
  | retry                                    -- `Pm.Daemon.install` clears the retry counter

/-- a history: the device afterwards, the client ids of the completions reported (in order), the client ids of the
    actions enqueued (in order, one entry per action) -/
def runHist : Dev → List Ev → Dev × List Nat × List Nat
  | d, [] => (d, [], [])
  | d, .pass env o :: r =>
    let p := postPoll d env o
    let h := runHist p.1.dev r
    (h.1, finishesOf p.2.2.1 ++ h.2.1, h.2.2)
  | d, .enq com targets cid tele al :: r =>
    let e := Pm.Daemon.enqueue d com targets cid tele al
    let h := runHist e.1 r
    (h.1, h.2.1, List.replicate e.2 cid ++ h.2.2)
  | d, .connect env :: r => runHist (connectDev { dev := d, env := env, sys := [] }).dev r
  | d, .store s :: r => runHist { d with args := s } r
  | d, .retry :: r => runHist { d with retryCount := 0 } r

/-- the client commands of a history use a real client (`cid ≠ 0`) and a real command (`com ≠ 0`: slot 0 is login) -/
def Ev.ok : Ev → Prop
  | .enq com _ cid _ _ => com ≠ 0 ∧ cid ≠ 0
  | _ => True

theorem clientIds_replicate (l : List Action) (cid : Nat) (hc : cid ≠ 0) (h : ∀ a ∈ l, a.clientId = cid) :
    clientIds l = List.replicate l.length cid := by
  induction l with
  | nil => rfl
  | cons a r ih =>
    have ha := h a (by simp)
    rw [clientIds_cons, ih (fun b hb => h b (by simp [hb])), ha]
    simp [hc, List.replicate_succ]

/-- C10 FIFO over a whole history: at any time, (completions reported so far, in order) followed by (client actions
    still queued, in queue order) is (client actions queued at the start) followed by (client actions enqueued since,
    in request order).  So completions are reported in request order, none is skipped, none is reported twice. -/
theorem runHist_fifo (evs : List Ev) (d : Dev) (h : NoClientLogin d) (hev : ∀ e ∈ evs, e.ok) :
    (runHist d evs).2.1 ++ clientIds (runHist d evs).1.acts = clientIds d.acts ++ (runHist d evs).2.2 := by
  induction evs generalizing d with
  | nil => simp [runHist]
  | cons e r ih =>
    have hr : ∀ e ∈ r, e.ok := fun x hx => hev x (by simp [hx])
    cases e with
    | pass env o =>
      unfold runHist
      dsimp only
      have hp := postPoll_fifo d env o h
      rw [List.append_assoc, ih _ hp.1 hr, ← List.append_assoc, hp.2]
    | enq com targets cid tele al =>
      unfold runHist
      dsimp only
      obtain ⟨hcom, hcid⟩ : com ≠ 0 ∧ cid ≠ 0 := hev (Ev.enq com targets cid tele al) (by simp)
      obtain ⟨l, h1, h2, h3⟩ := enqueue_spec d com targets cid tele al
      have hn : NoClientLogin (Pm.Daemon.enqueue d com targets cid tele al).1 := by
        unfold NoClientLogin; rw [h1]
        intro a ha
        rw [List.mem_append] at ha
        rcases ha with ha | ha
        · exact h a ha
        · intro h0; exact absurd h0 ((h3 a ha).2 hcom)
      rw [ih _ hn hr, h1, clientIds_append, h2, clientIds_replicate l cid hcid (fun a ha => (h3 a ha).1), List.append_assoc]
    | connect env =>
      unfold runHist
      rw [ih _ (connectDev_ncl _ h) hr, connectDev_clientIds]
    | store s => unfold runHist; exact ih _ h hr
    | retry => unfold runHist; exact ih _ h hr

/-! ## what the head sends does not depend on the rest of the queue

The statement interpreter receives the device record, which contains the queue; these lemmas show it never looks
at it: replacing the queue changes nothing but the queue field of the result. -/

def withActs (q : List Action) (r : StepR) : StepR := { r with dev := { r.dev with acts := q } }

theorem subOf_acts (d : Dev) (q : List Action) (i : Int) : subOf { d with acts := q } i = subOf d i := rfl
theorem findPlug_acts (d : Dev) (q : List Action) (n : Bytes) : findPlug { d with acts := q } n = findPlug d n := rfl
theorem getArgs_acts (d : Dev) (q : List Action) (n : Nat) : getArgs { d with acts := q } n = getArgs d n := rfl
theorem setArgs_acts (d : Dev) (q : List Action) (n : Nat) (as) : setArgs { d with acts := q } n as = { setArgs d n as with acts := q } := rfl

/-- no premise of a way out of a statement mentions the queue: the same constructor on the same premises -/
theorem _root_.Pm.Dev2.Interp.Step.acts {d : Dev} {a : Action} {o : Oracle} {now : Time} {e : ExecCtx} {rest : List ExecCtx}
    {s : Stmt} {r : StepR} (h : Interp.Step d a o now e rest s r) (q : List Action) :
    Interp.Step { d with acts := q } a o now e rest s (withActs q r) := by
  cases h <;> constructor <;> assumption

theorem processStmt_acts (d : Dev) (a : Action) (o : Oracle) (now : Time) (q : List Action) :
    processStmt { d with acts := q } a o now = withActs q (processStmt d a o now) :=
  Interp.processStmt_ind d a o now (fun r => processStmt { d with acts := q } a o now = withActs q r)
    (fun hn => Interp.processStmt_null _ a o now hn) fun _ _ _ _ hex hcur h => (h.acts q).sound hex hcur

theorem innerLoop_acts (now : Time) (fuel : Nat) (d : Dev) (a : Action) (o : Oracle) (acc : List Out) (q : List Action) :
    innerLoop now fuel { d with acts := q } a o acc = withActs q (innerLoop now fuel d a o acc) := by
  induction fuel generalizing d a o acc with
  | zero => simp only [innerLoop, processStmt_acts]; rfl
  | succ n ih =>
    unfold innerLoop
    dsimp only
    rw [processStmt_acts]
    split
    · rename_i h
      have h' : ((processStmt d a o now).finished && (processStmt d a o now).act.exec.length > a.exec.length) = true := h
      rw [if_pos h']
      exact ih ..
    · rename_i h
      have h' : ¬ ((processStmt d a o now).finished && (processStmt d a o now).act.exec.length > a.exec.length) = true := h
      rw [if_neg h']
      rfl

/-- what an iteration says depends on the head of the queue only: the actions queued behind it can be replaced by
    anything without changing a byte -/
theorem spoken_rest_indep (c : CS) (o : Oracle) (a0 : Action) (rest rest' : List Action) (h : c.dev.acts = a0 :: rest) :
    spoken { c with dev := { c.dev with acts := a0 :: rest' } } o = spoken c o := by
  have hs : speaker { c with dev := { c.dev with acts := a0 :: rest' } } = speaker c := by
    unfold speaker; simp only [h]
  unfold spoken
  rw [hs]
  cases speaker c with
  | none => rfl
  | some a =>
    show (innerLoop c.env.now (loopBound a) { ({ c.dev with acts := a0 :: rest' } : Dev) with wake := none } a o []).out
      = (innerLoop c.env.now (loopBound a) { c.dev with wake := none } a o []).out
    have e : ({ ({ c.dev with acts := a0 :: rest' } : Dev) with wake := none } : Dev)
        = { ({ c.dev with wake := none } : Dev) with acts := a0 :: rest' } := rfl
    rw [e, innerLoop_acts]; rfl

open Pm.Daemon in
/-- a device pass of the daemon (`devPass`, when the daemon is still alive afterwards) leaves the device in a state
    reachable from the state it had -/
theorem devPass_reach (p : Pm.Daemon.PassIn) (a : Pm.Daemon.DevAcc) (nd : Bytes × Dev) (d0 : Dev) (h : Reach d0 nd.2)
    (hd : (Pm.Daemon.devPass p a nd).dead = false) :
    ∃ d', (Pm.Daemon.devPass p a nd).devs = a.devs ++ [(nd.1, d')] ∧ Reach d0 d' := by
  unfold Pm.Daemon.devPass at hd ⊢
  split
  · exact ⟨nd.2, rfl, h⟩
  · rename_i hdead
    simp only [hdead, Bool.false_eq_true, ↓reduceIte] at hd
    dsimp only at hd ⊢
    generalize hpp : postPoll _ _ _ = r at hd ⊢
    obtain ⟨c, o', outs, tmo⟩ := r
    dsimp only at hd ⊢
    refine ⟨c.dev, rfl, ?_⟩
    have hc : c = (postPoll _ _ _).1 := (congrArg Prod.fst hpp).symm
    rw [hc]
    refine Reach.pass _ _ _ (Reach.store _ _ h) ?_
    rw [← hc]
    simp only [Bool.or_eq_false_iff] at hd
    exact hd.1

/-- the per-device step of `install` -/
def installStep (com : Nat) (bnames : List Bytes) (cid : Nat) (tele : Bool) (al : Nat)
    (acc : List (Bytes × Dev) × Nat) (nd : Bytes × Dev) : List (Bytes × Dev) × Nat :=
  let (d1, n) := Pm.Daemon.enqueue nd.2 com bnames cid tele al
  let d1 := if n > 0 && d1.conn != 2 then { d1 with retryCount := 0 } else d1
  (acc.1 ++ [(nd.1, d1)], acc.2 + n)

open Pm.Daemon in
/-- the per-device step of a client command: the enqueue, then perhaps the reset of `retry_count` -/
theorem installDev_reach (com : Nat) (bnames : List Bytes) (cid : Nat) (tele : Bool) (al : Nat) (nd : Bytes × Dev) (d0 : Dev)
    (h : Reach d0 nd.2) : Reach d0 (Enq.installDev com bnames cid tele al nd).2 := by
  unfold Enq.installDev
  exact ite_cases (P := fun d => Reach d0 d) (fun _ => Reach.retry _ (Reach.enqueue nd.2 com bnames cid tele al h))
    fun _ => Reach.enqueue nd.2 com bnames cid tele al h

open Pm.Daemon in
theorem install_reach (w : W) (c : Cli) (com : Pm.Client.Com) (names : List Pm.Name) :
    ∀ x ∈ (install w c com names).1.devs, ∃ nd ∈ w.devs, x.1 = nd.1 ∧ ∀ d0, Reach d0 nd.2 → Reach d0 x.2 := by
  have keep : ∀ x ∈ w.devs, ∃ nd ∈ w.devs, x.1 = nd.1 ∧ ∀ d0, Reach d0 nd.2 → Reach d0 x.2 :=
    fun x hx => ⟨x, hx, rfl, fun _ h => h⟩
  unfold install
  simp only [Enq.install_fold, List.nil_append, Nat.zero_add]
  split
  · exact keep
  split
  · exact keep
  · intro x hx
    obtain ⟨nd, hnd, rfl⟩ := List.mem_map.1 hx
    exact ⟨nd, hnd, Enq.installDev_fst .., fun d0 h => installDev_reach _ _ _ _ _ nd d0 h⟩

/-! ## concrete values for the non-vacuity examples of `Props/C10` -/
namespace Ex

/-- one plug `1` = node `n1`; login = send "l", expect; on = delay 0 (finishes at once); off = send "o", expect -/
def dev0 : Dev :=
  { plugs := [⟨[49], some [110, 49]⟩],
    scripts := fun n => if n = 0 then some [.send [108], .expect 1] else if n = 7 then some [.delay 0]
                        else if n = 10 then some [.send [111], .expect 2] else none,
    timeout := 10000000, acts := [], toBuf := [], fromBuf := [], xmStr := none, xmOffs := [], xmResult := false,
    xmUsed := false, args := [], nextUid := 0, shortCircuitDelay := false }

/-- a kernel that connects at once and reports nothing ready -/
def env0 : Env := { now := 1000, revents := 0, sockets := [5], connects := [0], soerrs := [0], read := none, writeOk := true }
/-- a kernel whose `connect` answers EINPROGRESS -/
def envSlow : Env := { env0 with connects := [1], soerrs := [] }
/-- the descriptor is writable and the pending connect has succeeded -/
def envOut : Env := { env0 with revents := 2, sockets := [], connects := [] }
/-- the device has sent a telnet `IAC DO SUPPRESS-GO-AHEAD` -/
def envTelnet : Env := { env0 with revents := 1, read := some (some [255, 253, 3]) }
/-- twenty seconds later; a new connect would succeed at once -/
def envLate : Env := { env0 with now := 20000000, sockets := [6] }

/-- `dev_initial_connect` succeeded: CONNECTED, not logged in, login queued -/
def connected : Dev := (connectDev { dev := dev0, env := env0, sys := [] }).dev
/-- `dev_initial_connect` left the device CONNECTING -/
def connecting : Dev := (connectDev { dev := dev0, env := envSlow, sys := [] }).dev
/-- connected and logged in, nothing queued -/
def ready : Dev := { dev0 with conn := 2, loggedIn := true, fd := some 5 }
/-- just connected, a client `off` (client 3) queued behind the login -/
def fresh : Dev := (Pm.Daemon.enqueue connected 10 [[110, 49]] 3 false 0).1

/-- two `on` commands (clients 1, 2), an `off` (client 3), then a pass -/
def hist : List Ev := [.enq 7 [[110, 49]] 1 false 0, .enq 7 [[110, 49]] 2 false 0, .enq 10 [[110, 49]] 3 false 0, .pass env0 ⟨[]⟩]

end Ex

end Pm.Dev2.Login2
