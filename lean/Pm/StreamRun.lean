import Pm.IsolationProof
import Pm.StreamLine
/-! For C15 over whole runs: a client's share of a pass, the loop of `cli_post_poll`, and the ghost history of what was written
    to each descriptor in earlier passes. -/
namespace Pm.Daemon.StreamPf
open Pm Pm.Client Pm.Daemon Pm.Daemon.ClientPf Pm.Daemon.Isolation
open Pm.Dev2 (Dev ActErr)

/-! ### from the outcome of a line to `Ext` -/

theorem termP_term : ∀ c ∈ termCodesP, c ≠ 208 → c ∈ termCodes := by decide

theorem LineOut.ext {cl : Prop} {w : W} {c : Cli} {r : W × Cli} (h : LineOut cl w c r) (hg : cl → Good w) :
    ∃ items, outOf r.1 r.2 = outOf w c ++ render items ∧ Ext cl c r.2 items ∧ (Good w → Good r.1) := by
  cases h with
  | exit h =>
    subst h
    exact ⟨[], by simp [outOf], Ext.refl cl c, fun g => g.congr rfl rfl rfl⟩
  | reply infos code text out hi hc h101 h208 cmd quit clean good _ =>
    refine ⟨_, out, ?_, good⟩
    constructor
    · intro s hs
      exact srun_reply s hs infoCodesP termCodesP _ _ (by decide) (by decide)
        (by intro c hc; simp [promptAfter] at hc; exact hc.1.1) ⟨infos, code, text, rfl, hi, hc⟩
    · intro hq
      have hinf : trun .open infos = some .open := trun_infos infos infoCodesP (by decide) hi
      by_cases h8 : code = 208
      · subst h8
        have : promptAfter r.2.quit 208 = false := by simp [promptAfter]
        rw [this, trun_append, trun_append, hinf]
        simp only [Option.bind_some, trun, tstep_open_info 208 text (Or.inr rfl)]
        rfl
      · have h1 : code ≠ 101 := fun e => by rw [h101 e] at hq; cases hq
        have : promptAfter r.2.quit code = true := by simp [promptAfter, hq, h8, h1]
        rw [this, if_pos rfl, List.append_assoc]
        exact trun_block infos infoCodesP (by decide) hi code text (termP_term code hc h8)
    · exact quit
    · intro items0 _ hc' hq
      have hcc : c.cmd = none := cmd ▸ hc'
      have h8 : code ≠ 208 := fun e => by have := h208 e; rw [hcc] at this; cases this
      have h1 : code ≠ 101 := fun e => by rw [h101 e] at hq; cases hq
      have : promptAfter r.2.quit code = true := by simp [promptAfter, hq, h8, h1]
      rw [this, if_pos rfl]
      exact AtPrompt.of_last (c := r.2) items0 _ (by simp) hc' hq
    · intro hcl hcc
      refine ⟨?_, fun k hk => hcc k (cmd ▸ hk)⟩
      intro i hi'
      rcases List.mem_append.mp hi' with hi' | hi'
      · exact LineOK.of_clean (clean hcl (hg hcl) i hi')
      · split at hi'
        · simp at hi'; subst hi'; exact LineOK.of_clean rfl
        · cases hi'
  | installed k idle cmd out quit names good _ =>
    refine ⟨[], by simp [out], ?_, good⟩
    constructor
    · exact fun s hs => ⟨s, rfl, hs⟩
    · exact fun _ => rfl
    · intro h; rw [quit]; exact h
    · intro items0 _ hc'; rw [cmd] at hc'; cases hc'
    · intro hcl _
      refine ⟨by simp, ?_⟩
      intro k' hk'
      rw [cmd] at hk'; cases hk'
      exact names (hg hcl)

theorem parseLine_ext (cl : Prop) (w : W) (c : Cli) (line : Bytes) (hg : cl → Good w) :
    ∃ items, outOf (parseLine w c line).1 (parseLine w c line).2 = outOf w c ++ render items ∧
      Ext cl c (parseLine w c line).2 items ∧ (Good w → Good (parseLine w c line).1) :=
  (parseLine_out cl w c line).ext hg

/-- a stage of a client's share of the pass extends the client's cumulative output grammatically (and cleanly, the static data being
    clean, which it stays); the descriptor is kept -/
def ExtStep (cl : Prop) (w : W) (c : Cli) (r : W × Cli) : Prop :=
  (cl → Good w) → ∃ items, outOf r.1 r.2 = outOf w c ++ render items ∧ Ext cl c r.2 items ∧ (Good w → Good r.1) ∧ r.2.fd = c.fd

theorem ExtStep.refl (cl : Prop) (w : W) (c : Cli) : ExtStep cl w c (w, c) := fun _ => ⟨[], by simp, Ext.refl cl c, id, rfl⟩

theorem ExtStep.trans {cl : Prop} {w : W} {c : Cli} {r r' : W × Cli} (h1 : ExtStep cl w c r) (h2 : ExtStep cl r.1 r.2 r') :
    ExtStep cl w c r' := by
  intro hg
  obtain ⟨i1, o1, e1, g1, f1⟩ := h1 hg
  obtain ⟨i2, o2, e2, g2, f2⟩ := h2 (fun h => g1 (hg h))
  exact ⟨i1 ++ i2, by rw [o2, o1, render_append, List.append_assoc], e1.trans e2, fun g => g2 (g1 g), f2.trans f1⟩

theorem handleInput_ext (cl : Prop) (w : W) (c : Cli) : ExtStep cl w c (handleInput w c) :=
  handleInput_walk (ExtStep.refl cl) ExtStep.trans
    (fun w c n _ => ⟨[], by simp [outOf], Ext.record cl c _ (fun h => h) rfl, id, rfl⟩)
    (fun w c line hg => by
      obtain ⟨items, ho, he, hgood⟩ := parseLine_ext cl w c line hg
      exact ⟨items, ho, he, hgood, (parseLine_frame w c line).fd⟩) w c

/-! ### the stages before `_handle_input` -/

theorem cpRead_good (w : W) (c : Cli) (e : Option FdEnv) (h : Good w) : Good (cpRead w c e).1 := by
  obtain ⟨sys, e⟩ := cpRead_sys w c e
  rw [e]; exact h.congr rfl rfl rfl

theorem cpTail_good (r : W × Cli) (h : Good r.1) : Good (cpTail r).1 := by
  obtain ⟨sys, e⟩ := cpTail_sys r
  rw [e]; exact h.congr rfl rfl rfl

/-- **a client's whole share of a pass**: if the client survives, its cumulative output grew by a grammatical extension;
    if it is destroyed, the same holds of the record `c3` as it was at that moment (what had not been written stays unsent) -/
theorem clientPass_ext (cl : Prop) (w : W) (c : Cli) (e : Option FdEnv) (hg : cl → Good w) :
    (Good w → Good (clientPass w c e).1) ∧
    (∀ c', (clientPass w c e).2 = some c' →
      ∃ items, outOf (clientPass w c e).1 c' = outOf w c ++ render items ∧ Ext cl c c' items) ∧
    ((clientPass w c e).2 = none →
      ∃ c3 items, written (clientPass w c e).1.sys c.fd ++ c3.toBuf = outOf w c ++ render items ∧ Ext cl c c3 items) := by
  have key := clientPass_stages (w := w) (c := c) (e := e) (ExtStep.refl cl) ExtStep.trans
    (by
      intro w c e _
      obtain ⟨_, hiso, _⟩ := cpRead_iso w (clipC c e) (clipE c e)
      obtain ⟨hout, hfd, _, hcmd⟩ := cpRead_out w (clipC c e) (clipE c e)
      exact ⟨[], by rw [hout]; simp [outOf], Ext.record cl c _ (fun h => hiso.quit (by simpa using h)) (by rw [hcmd]; simp),
        cpRead_good w _ _, by rw [hfd]; simp⟩)
    (by
      intro w c _
      obtain ⟨_, hiso⟩ := handleWrite_iso w c
      obtain ⟨hout, hfd, _, hcmd⟩ := handleWrite_out w c
      exact ⟨[], by rw [hout]; simp, Ext.record cl c _ hiso.quit hcmd, handleWrite_good w c, hfd⟩)
    (handleInput_ext cl)
  rcases key with h | ⟨r3, h3, h⟩
  · rw [h]
    refine ⟨fun g => g.congr rfl rfl rfl, fun c' h => by simp [cpDead] at h, fun _ => ⟨c, [], ?_, Ext.refl cl c⟩⟩
    simp [cpDead, outOf, written]
  · obtain ⟨items, hout, hE, hgood, hfd3⟩ := h3 hg
    rw [h]
    refine ⟨fun g => cpTail_good r3 (hgood g), ?_, ?_⟩
    · intro c' h
      have e1 := (cpTail_alive r3 c' h).symm
      subst e1
      exact ⟨items, by rw [cpTail_world r3 _ h, hout], hE⟩
    · intro h
      refine ⟨r3.2, items, ?_, hE⟩
      rw [← hout]
      unfold cpTail at h ⊢
      split at h
      · cases h
      · split at h
        · rename_i h1' h2'
          rw [if_neg h1', if_pos h2']
          simp [cpDead, outOf, written, hfd3]
        · cases h

/-! ### the ledger through a client's share of a pass -/

/-- what a step of client `c` does to the ledger between commands and device queues: the counts of other clients' queued
    actions are unchanged, and if `c`'s own count was covered by `pending` before, it still is -/
structure LedStep (w : W) (c : Cli) (r : W × Cli) : Prop where
  other : ∀ g, g ≠ c.id → queued r.1.devs g = queued w.devs g
  own : queued w.devs c.id ≤ pend c → queued r.1.devs c.id ≤ pend r.2
  id : r.2.id = c.id

theorem LedStep.same {w : W} {c : Cli} {r : W × Cli} (hd : r.1.devs = w.devs) (hc : r.2.cmd = c.cmd) (hid : r.2.id = c.id) :
    LedStep w c r :=
  ⟨fun g _ => by rw [hd], fun h => by rw [hd]; simpa [pend, hc] using h, hid⟩

theorem LedStep.trans {w : W} {c : Cli} {r r' : W × Cli} (h1 : LedStep w c r) (h2 : LedStep r.1 r.2 r') : LedStep w c r' :=
  ⟨fun g hg => (h2.other g (by rw [h1.id]; exact hg)).trans (h1.other g hg),
   fun h => by have := h2.own (by rw [h1.id]; exact h1.own h); rwa [h1.id] at this, h2.id.trans h1.id⟩

theorem _root_.Pm.Daemon.ClientPf.LineDoes.led {w : W} {c : Cli} {str : Bytes} {r : W × Cli} (h : LineDoes w c str r) : LedStep w c r := by
  cases h with
  | quit _ =>
    obtain ⟨_, hcmd, _, hfr⟩ := plQuit_spec w c
    exact .same (Enq.handleWrite_devs w _) hcmd hfr.id
  | accept com names idle _ _ _ _ =>
    refine ⟨fun g hg => ?_, fun h0 => ?_, rfl⟩
    · show queued (w.devs.map _) g = _
      rw [queued_installDev, if_neg hg]; rfl
    · have h0 : queued w.devs c.id = 0 := by simpa [pend, idle] using h0
      show queued (w.devs.map _) c.id ≤ _
      rw [queued_installDev, if_pos rfl, h0]
      simp [pend, afterAccept]
  | _ => exact .same rfl rfl rfl

theorem handleInput_led (w : W) (c : Cli) : LedStep w c (handleInput w c) :=
  handleInput_walk (R := LedStep) (fun _ _ => .same rfl rfl rfl) LedStep.trans (fun _ _ _ => .same rfl rfl rfl)
    (fun w c l => (parseLine_does w c l).led) w c

theorem clientPass_led (w : W) (c : Cli) (e : Option FdEnv) :
    (∀ g, g ≠ c.id → queued (clientPass w c e).1.devs g = queued w.devs g) ∧
    ∀ c', (clientPass w c e).2 = some c' → queued w.devs c.id ≤ pend c → queued (clientPass w c e).1.devs c.id ≤ pend c' := by
  have key := clientPass_stages (R := LedStep) (fun _ _ => .same rfl rfl rfl) LedStep.trans
    (fun w c e => by
      obtain ⟨sys, hsys⟩ := cpRead_sys w (clipC c e) (clipE c e)
      obtain ⟨_, _, hid, hcmd⟩ := cpRead_out w (clipC c e) (clipE c e)
      exact .same (by rw [hsys]) (by rw [hcmd]; simp) (by rw [hid]; simp))
    (fun w c => by
      obtain ⟨_, _, hid, hcmd⟩ := handleWrite_out w c
      exact .same (Enq.handleWrite_devs _ _) hcmd hid)
    handleInput_led w c e
  rcases key with h | ⟨r3, h3, h⟩
  · rw [h]
    exact ⟨fun g _ => rfl, fun c' h => by simp [cpDead] at h⟩
  · rw [h]
    obtain ⟨sys, hsys⟩ := cpTail_sys r3
    have hdevs : (cpTail r3).1.devs = r3.1.devs := by rw [hsys]
    refine ⟨fun g hg => by rw [hdevs]; exact h3.other g hg, ?_⟩
    intro c' h h0
    have e1 := (cpTail_alive r3 c' h).symm
    subst e1
    rw [hdevs]; exact h3.own h0

/-- ghost: for every descriptor number, the bytes handed to `write(2)` on it in earlier passes (the log `w.sys` of system
    calls is reset at the beginning of every pass) -/
abbrev Hist := Nat → Bytes

/-- everything ever queued for the client: written in earlier passes, written in this pass, still waiting in `to` -/
def total (H : Hist) (w : W) (c : Cli) : Bytes := H c.fd ++ outOf w c

/-- the history after the log of the pass is discarded -/
def histNext (H : Hist) (w : W) : Hist := fun fd => H fd ++ written w.sys fd

/-- Descriptor `fd` was handed out and its client is gone: what was written to it, followed by what the client had queued
    but was not sent when it was destroyed (`rest`), satisfies the per-client invariant for the record `c` of that moment.
    (Descriptor numbers are not reused in the model, so nothing is written to `fd` afterwards.) -/
def Departed (cl : Prop) (H : Hist) (w : W) (fd : Nat) : Prop :=
  ∃ (c : Cli) (rest : Bytes), SInv cl (H fd ++ written w.sys fd ++ rest) c

/-- **the invariant of a run**: ids and descriptors of the live clients are pairwise distinct and below the counters, no
    history is recorded for a descriptor number not handed out yet, the static data is clean (when `cl`), and every client's
    cumulative output satisfies the per-client invariant — and so does, for every descriptor whose client is gone, what was
    written to it (`Departed`); and no client has more actions queued than its command waits for (`ledger`) -/
structure RunInv (cl : Prop) (H : Hist) (w : W) : Prop where
  ids : IdsFresh w
  fds : (w.clients.map (·.fd)).Nodup
  fdFresh : ∀ c ∈ w.clients, c.fd < 1000 + w.nacc
  histFresh : ∀ fd, 1000 + w.nacc ≤ fd → H fd = [] ∧ written w.sys fd = []
  good : cl → Good w
  cli : ∀ c ∈ w.clients, SInv cl (total H w c) c
  gone : ∀ fd, 1000 ≤ fd → fd < 1000 + w.nacc → (∀ c ∈ w.clients, c.fd ≠ fd) → Departed cl H w fd
  ledger : ∀ c ∈ w.clients, queued w.devs c.id ≤ pend c

theorem queued_fresh (devs : List (Bytes × Dev)) (g : Nat) (h : ∀ nd ∈ devs, ∀ a ∈ nd.2.acts, a.clientId ≠ g) : queued devs g = 0 :=
  E2E.totalQ_zero_of h

theorem fds_unique (l : List Cli) (h : (l.map (·.fd)).Nodup) (x y : Cli) (hx : x ∈ l) (hy : y ∈ l) (he : x.fd = y.fd) : x = y := by
  induction l with
  | nil => cases hx
  | cons z r ih =>
    simp only [List.map_cons, List.nodup_cons, List.mem_map, not_exists, not_and] at h
    rcases List.mem_cons.mp hx with rfl | hx' <;> rcases List.mem_cons.mp hy with rfl | hy'
    · rfl
    · exact absurd he.symm (h.1 y hy')
    · exact absurd he (h.1 x hx')
    · exact ih h.2 hx' hy'

/-- **the invariant reads the log of the pass and the history only through their concatenation** (what was ever written to a
    descriptor), and of the world besides only the client table, the devices, the two counters and the static data -/
theorem RunInv.congr {cl : Prop} {H H' : Hist} {w w' : W} (h : RunInv cl H w) (hids : IdsFresh w') (h1 : w'.clients = w.clients)
    (h2 : w'.devs = w.devs) (h4 : w'.nacc = w.nacc) (h5 : ∀ fd, H' fd ++ written w'.sys fd = H fd ++ written w.sys fd)
    (h6 : w'.cfg = w.cfg) (h7 : w'.specs = w.specs) : RunInv cl H' w' where
  ids := hids
  fds := h1 ▸ h.fds
  fdFresh := fun c hc => by rw [h4]; exact h.fdFresh c (h1 ▸ hc)
  histFresh := fun fd hfd => by
    obtain ⟨a, b⟩ := h.histFresh fd (h4 ▸ hfd)
    exact List.append_eq_nil_iff.mp (by rw [h5, a, b]; rfl)
  good := fun hcl => (h.good hcl).congr h6 h2 h7
  cli := fun c hc => by
    have : total H' w' c = total H w c := by simp only [total, outOf, ← List.append_assoc, h5]
    rw [this]; exact h.cli c (h1 ▸ hc)
  gone := fun fd a b c => by
    obtain ⟨cc, rest, hs⟩ := h.gone fd a (h4 ▸ b) (fun x hx => c x (h1 ▸ hx))
    exact ⟨cc, rest, by rw [h5]; exact hs⟩
  ledger := fun c hc => by rw [h2]; exact h.ledger c (h1 ▸ hc)

/-- the start of `cli_post_poll`: the log is discarded (and goes into the history), the capacities are set -/
theorem RunInv.reset {cl : Prop} {H : Hist} {w : W} (h : RunInv cl H w) (caps : List (Nat × Int)) :
    RunInv cl (histNext H w) { w with sys := [], caps := caps } :=
  h.congr (h.ids.congr rfl rfl rfl) rfl rfl rfl (fun _ => List.append_nil _) rfl rfl

/-- `accept`: the new client starts with banner and prompt on a descriptor without history -/
theorem RunInv.accept {cl : Prop} {H : Hist} {w : W} (h : RunInv cl H w) (acc : Nat) : RunInv cl H (cliAccept w acc) := by
  have hids := cliAccept_ids w acc h.ids
  obtain ⟨new, k, n, ev, hnew, hev, e⟩ := cliAccept_shape w acc
  rw [e] at hids ⊢
  -- the calls of `accept` that are logged change no descriptor's output
  have hlog : ∀ fd, H fd ++ written (w.sys ++ ev) fd = H fd ++ written w.sys fd := fun fd => by
    rw [written_append, written_eq_nil ev fd (fun s hs hw => by obtain ⟨x, rfl⟩ := hev s hs; cases hw), List.append_nil]
  rcases hnew with ⟨rfl, rfl⟩ | ⟨rfl, rfl, rfl, rfl⟩
  · exact h.congr hids (List.append_nil _) rfl rfl hlog rfl rfl
  · have hw := h.congr (w' := { w with sys := w.sys ++ [Sys.accept (1000 + w.nacc : Nat)] }) (h.ids.congr rfl rfl rfl) rfl rfl rfl
      hlog rfl rfl
    have hnew : ∀ c ∈ w.clients ++ [newClient w], c ∈ w.clients ∨ c = newClient w := fun c hc =>
      (List.mem_append.mp hc).imp id List.mem_singleton.mp
    refine ⟨hids, ?_, ?_, ?_, fun hcl => (h.good hcl).congr rfl rfl rfl, ?_, ?_, ?_⟩
    · show ((w.clients ++ [newClient w]).map (·.fd)).Nodup
      rw [List.map_append, List.nodup_append]
      refine ⟨h.fds, by simp, ?_⟩
      intro a ha b hb
      obtain ⟨c, hc, rfl⟩ := List.mem_map.mp ha
      cases List.mem_singleton.mp hb
      have := h.fdFresh c hc
      show c.fd ≠ 1000 + w.nacc
      omega
    · intro c hc
      show c.fd < 1000 + (w.nacc + 1)
      rcases hnew c hc with hc | rfl
      · have := h.fdFresh c hc; omega
      · show 1000 + w.nacc < _; omega
    · intro fd hfd
      exact hw.histFresh fd (Nat.le_trans (Nat.le_succ _) hfd)
    · intro c hc
      rcases hnew c hc with hc | rfl
      · exact hw.cli c hc
      · obtain ⟨a, b⟩ := hw.histFresh (1000 + w.nacc) (Nat.le_refl _)
        show SInv cl (H (1000 + w.nacc) ++ (written _ (1000 + w.nacc) ++ (newClient w).toBuf)) _
        rw [a, b]
        exact SInv.banner cl w (fun hcl => (h.good hcl).version)
    · intro fd h1 h2 h3
      have hne : fd ≠ 1000 + w.nacc := fun e => h3 (newClient w) (by simp) (by rw [e]; rfl)
      have h2 : fd < 1000 + (w.nacc + 1) := h2
      exact hw.gone fd h1 (show fd < 1000 + w.nacc by omega) (fun c hc => h3 c (List.mem_append_left _ hc))
    · intro c hc
      show queued w.devs c.id ≤ pend c
      rcases hnew c hc with hc | rfl
      · exact h.ledger c hc
      · rw [queued_fresh w.devs _ (fun nd hnd a ha => by have := h.ids.acts nd hnd a ha; show a.clientId ≠ w.nextId; omega)]
        exact Nat.zero_le _

theorem RunInv.cliStep {cl : Prop} {H : Hist} {w : W} (h : RunInv cl H w) (envs : List FdEnv) (c0 : Cli) (hc0 : c0 ∈ w.clients) :
    RunInv cl H (ClientPf.cliStep envs w c0) := by
  have hids := (cliStep_ids envs w c0 h.ids (h.ids.below c0.id (List.mem_map.mpr ⟨c0, hc0, rfl⟩))).1
  have huniq := h.ids.unique
  rcases cliStep_does envs w c0 with ⟨_, e⟩ | ⟨_, ext, t⟩
  · rw [e]; exact h
  obtain ⟨hgood, hsome, hnone⟩ := clientPass_ext cl w c0 (envs.find? (·.fd == c0.fd)) h.good
  obtain ⟨hlo, hlown⟩ := clientPass_led w c0 (envs.find? (·.fd == c0.fd))
  have hsys : (ClientPf.cliStep envs w c0).sys = (clientPass w c0 (envs.find? (·.fd == c0.fd))).1.sys := t.proj W.sys fun _ => rfl
  have hdevs : (ClientPf.cliStep envs w c0).devs = (clientPass w c0 (envs.find? (·.fd == c0.fd))).1.devs := t.proj W.devs fun _ => rfl
  -- a record of another client has another descriptor, and the calls logged for `c0` do not concern it
  have hother : ∀ y ∈ w.clients, y.id ≠ c0.id → y.fd ≠ c0.fd := fun y hy hne hfd =>
    hne (by rw [fds_unique w.clients h.fds y c0 hy hc0 hfd])
  have hwr : ∀ fd, fd ≠ c0.fd → written (ClientPf.cliStep envs w c0).sys fd = written w.sys fd := fun fd hne => by
    rw [t.sys, written_other w.sys ext fd c0.fd t.sysfd hne]
  refine ⟨hids, List.Nodup.sublist (t.fds fun x hx hid => by rw [huniq x hx c0 hc0 hid]) h.fds, fun x hx => ?_, fun fd hfd => ?_,
    fun hcl => (hgood (h.good hcl)).congr (t.proj W.cfg fun _ => rfl) (t.proj W.devs fun _ => rfl) (t.proj W.specs fun _ => rfl),
    fun x hx => ?_, fun fd h1 h2 h3 => ?_, fun x hx => ?_⟩
  · rw [t.nacc]
    rcases (t.mem hc0 x).mp hx with ⟨hx, _⟩ | hx
    · exact h.fdFresh x hx
    · rw [(t.alive x hx).fd]; exact h.fdFresh c0 hc0
  · rw [t.nacc] at hfd
    exact ⟨(h.histFresh fd hfd).1, by
      rw [hwr fd fun e => by have := h.fdFresh c0 hc0; omega]; exact (h.histFresh fd hfd).2⟩
  · rcases (t.mem hc0 x).mp hx with ⟨hx, hne⟩ | hx
    · rw [show total H (ClientPf.cliStep envs w c0) x = total H w x by simp only [total, outOf, hwr x.fd (hother x hx hne)]]
      exact h.cli x hx
    · obtain ⟨items, hout, hext⟩ := hsome x hx
      rw [show total H (ClientPf.cliStep envs w c0) x = total H w c0 ++ render items by
        simp only [total, outOf, hsys, (t.alive x hx).fd] at hout ⊢; rw [hout]; simp only [List.append_assoc]]
      exact (h.cli c0 hc0).ext hext
  · rw [t.nacc] at h2
    by_cases hfd : fd = c0.fd
    · cases hr : (clientPass w c0 (envs.find? (·.fd == c0.fd))).2 with
      | some c => exact absurd ((t.alive c hr).fd.trans hfd.symm) (h3 c ((t.mem hc0 c).mpr (Or.inr hr)))
      | none =>
        -- the descriptor of the client destroyed in this turn
        obtain ⟨c3, items, hout, hext⟩ := hnone hr
        refine ⟨c3, c3.toBuf, ?_⟩
        rw [hsys, hfd, List.append_assoc, hout]
        have := (h.cli c0 hc0).ext hext
        simpa [total, List.append_assoc] using this
    · obtain ⟨cc, rest, hs⟩ := h.gone fd h1 h2 fun y hy e' => by
        by_cases hyid : y.id = c0.id
        · rw [huniq y hy c0 hc0 hyid] at e'; exact hfd e'.symm
        · exact h3 y ((t.mem hc0 y).mpr (Or.inl ⟨hy, hyid⟩)) e'
      exact ⟨cc, rest, by rw [hwr fd hfd]; exact hs⟩
  · rw [hdevs]
    rcases (t.mem hc0 x).mp hx with ⟨hx, hne⟩ | hx
    · rw [hlo x.id hne]; exact h.ledger x hx
    · rw [(t.alive x hx).id]; exact hlown x hx (h.ledger c0 hc0)

theorem RunInv.cliPostPoll {cl : Prop} {H : Hist} {w : W} (h : RunInv cl H w) (acc : Nat) (envs : List FdEnv) :
    RunInv cl (histNext H w) (cliPostPoll w acc envs) :=
  cliPostPoll_keeps (RunInv cl (histNext H w)) (fun _ hu => hu.ids.nodup) w acc envs
    ((h.reset (envs.map fun (e : FdEnv) => (e.fd, e.cap))).accept acc) (fun _ c0 hu hc0 => hu.cliStep envs c0 hc0)

end Pm.Daemon.StreamPf

/-! axiom audit (expected: at most `propext`, `Classical.choice`, `Quot.sound`) -/
#print axioms Pm.Daemon.StreamPf.RunInv.cliPostPoll
#print axioms Pm.Daemon.StreamPf.clientPass_ext
#print axioms Pm.Daemon.StreamPf.clientPass_led
