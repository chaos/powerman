import Pm.RedfishSt
/-! Consequences of the documented rules (`specStat`, `specPower`). -/
namespace Pm.Redfish

/-- the line `specStat` gives a single target -/
def statLine (c : Cfg) (st : St) (t : Nat) : Line :=
  if (lookup c t).isNone then .unknown t
  else match blocker c st t with
    | some (_, s) => .status t s
    | none => .status t (statOf c st t)

theorem specStat_eq (c : Cfg) (st : St) (ts : List Nat) : specStat c st ts = ts.map (statLine c st) := rfl

/-- first non-`on` entry of a root-first chain under a status assignment -/
def firstOff (f : Nat → Stat) (chain : List Nat) : Option (Nat × Stat) :=
  (chain.map fun a => (a, f a)).find? (·.2 ≠ .on)

theorem blocker_eq (c : Cfg) (st : St) (p : Nat) : blocker c st p = firstOff (statOf c st) (ancUp c p).reverse := rfl

theorem firstOff_none {f : Nat → Stat} {chain : List Nat} : firstOff f chain = none ↔ ∀ a ∈ chain, f a = .on := by
  unfold firstOff
  rw [List.find?_eq_none]
  simp

theorem firstOff_append (f : Nat → Stat) (l1 l2 : List Nat) :
    firstOff f (l1 ++ l2) = (firstOff f l1).or (firstOff f l2) := by
  unfold firstOff; rw [List.map_append, List.find?_append]

theorem firstOff_cons_off (f : Nat → Stat) (a : Nat) (l : List Nat) (h : f a ≠ .on) :
    firstOff f (a :: l) = some (a, f a) := by
  unfold firstOff; simp [h]

theorem firstOff_at {c : Cfg} (hw : WF c = true) (f : Nat → Stat) {t a : Nat} (ha : a ∈ ancUp c t)
    (hoff : f a ≠ .on) (habove : ∀ b ∈ ancUp c a, f b = .on) :
    firstOff f (ancUp c t).reverse = some (a, f a) := by
  obtain ⟨pre, e, _⟩ := ancUp_suffix hw t a ha
  rw [e]
  simp only [List.reverse_append, List.reverse_cons, List.append_assoc]
  rw [firstOff_append]
  have : firstOff f (ancUp c a).reverse = none := firstOff_none.2 (by simpa using habove)
  rw [this]
  simp only [Option.none_or, List.singleton_append]
  exact firstOff_cons_off f a _ hoff

theorem firstOff_some {c : Cfg} (hw : WF c = true) (f : Nat → Stat) {t a : Nat} {s : Stat}
    (h : firstOff f (ancUp c t).reverse = some (a, s)) :
    a ∈ ancUp c t ∧ s = f a ∧ s ≠ .on ∧ ∀ b ∈ ancUp c a, f b = .on := by
  -- find the topmost non-on ancestor by looking at all of them
  have hex : ∃ a' ∈ ancUp c t, f a' ≠ .on := by
    cases hn : firstOff f (ancUp c t).reverse with
    | none => rw [hn] at h; cases h
    | some _ =>
      by_cases hh : ∀ a' ∈ (ancUp c t).reverse, f a' = .on
      · rw [firstOff_none.2 hh] at hn; cases hn
      · simp at hh; obtain ⟨a', h1, h2⟩ := hh; exact ⟨a', h1, h2⟩
  -- take one of least depth
  obtain ⟨a', ha', hoff', hmin⟩ : ∃ a' ∈ ancUp c t, f a' ≠ .on ∧ ∀ b ∈ ancUp c a', f b = .on := by
    obtain ⟨a0, h0, hf0⟩ := hex
    generalize hd : depth c a0 = d
    induction d using Nat.strongRecOn generalizing a0 with
    | _ d ih =>
      by_cases hall : ∀ b ∈ ancUp c a0, f b = .on
      · exact ⟨a0, h0, hf0, hall⟩
      · simp at hall
        obtain ⟨b, hb1, hb2⟩ := hall
        exact ih (depth c b) (by rw [← hd]; exact depth_anc_lt hw hb1) b (anc_trans hw h0 hb1) hb2 rfl
  have := firstOff_at hw f ha' hoff' hmin
  rw [this] at h
  cases h
  exact ⟨ha', rfl, hoff', hmin⟩

/-! ### `stat`: below an ancestor that is not on; with all ancestors on -/
theorem specStat_blocked {c : Cfg} (hw : WF c = true) (st : St) {t a : Nat} (hk : known c t = true)
    (ha : a ∈ ancUp c t) (hoff : statOf c st a ≠ .on) (habove : ∀ b ∈ ancUp c a, statOf c st b = .on) :
    statLine c st t = .status t (statOf c st a) := by
  unfold statLine
  have : (lookup c t).isNone = false := by unfold known at hk; cases h : lookup c t <;> simp_all
  rw [this, blocker_eq, firstOff_at hw _ ha hoff habove]
  simp

theorem specStat_clear {c : Cfg} (st : St) {t : Nat} (hk : known c t = true)
    (hon : ∀ b ∈ ancUp c t, statOf c st b = .on) : statLine c st t = .status t (statOf c st t) := by
  unfold statLine
  have : (lookup c t).isNone = false := by unfold known at hk; cases h : lookup c t <;> simp_all
  rw [this, blocker_eq, firstOff_none.2 (by simpa using hon)]
  simp

def knownT (c : Cfg) (ts : List Nat) : List Nat := ts.filter fun t => (lookup c t).isSome
def unknownLines (c : Cfg) (ts : List Nat) : List Line := (ts.filter fun t => (lookup c t).isNone).map Line.unknown
def specPhased (c : Cfg) (cmd : Cmd) (ts : List Nat) : Bool :=
  cmd == .on && (knownT c ts).any fun a => (knownT c ts).any fun b => isDesc c a b
def specOrder (c : Cfg) (ts : List Nat) : List Nat :=
  (knownT c ts).mergeSort fun a b => (ancUp c a).length ≤ (ancUp c b).length

theorem specPhased_false {c : Cfg} {ts : List Nat} (h : specPhased c .on ts = false) :
    ∀ t ∈ knownT c ts, ∀ a ∈ ancUp c t, a ∉ knownT c ts := by
  intro t ht a ha haT
  unfold specPhased at h
  simp only [beq_self_eq_true, Bool.true_and] at h
  rw [List.any_eq_false] at h
  have := h t ht
  simp only [Bool.not_eq_true] at this
  rw [List.any_eq_false] at this
  exact this a haT (isDesc_iff.2 ha)

/-- the status descendants see for ancestor `a`, given the decisions made so far -/
def seenStat (c : Cfg) (st : St) (seen : List (Nat × Stat)) (a : Nat) : Stat :=
  match seen.lookup a with | some s => s | none => statOf c st a

/-- one step of the fold in `specPower`, verbatim -/
def specStep (c : Cfg) (st : St) (cmd : Cmd) (acc : List (Nat × Stat) × List Line × St) (t : Nat) :
    List (Nat × Stat) × List Line × St :=
  let (seen, lines, cur) := acc
  let chain := (ancUp c t).reverse
  let blk := (chain.map fun a => (a, match seen.lookup a with | some s => s | none => statOf c st a)).find? (·.2 ≠ .on)
  match blk with
  | some (a, s) =>
    if cmd == .off && s == .off then (((t, Stat.off) :: seen), lines ++ [.ok t], cur)
    else (((t, s) :: seen), lines ++ [.dep t cmd s a], cur)
  | none =>
    if hostFails c t then (((t, Stat.error) :: seen), lines ++ [.status t .error], cur)
    else
      let cur' := if cmd == .on then setSt cur t true else descendantsOff c (setSt cur t false) t
      (((t, if cmd == .on then Stat.on else Stat.off) :: seen), lines ++ [.ok t], cur')

theorem specPower_eq (c : Cfg) (st : St) (cmd : Cmd) (ts : List Nat) :
    specPower c st cmd ts =
      if specPhased c cmd ts then (unknownLines c ts ++ (knownT c ts).map Line.phased, st)
      else
        let r := (specOrder c ts).foldl (specStep c st cmd) ([], [], st)
        (unknownLines c ts ++ r.2.1, r.2.2) := by
  rfl

theorem specStep_eq (c : Cfg) (st : St) (cmd : Cmd) (seen : List (Nat × Stat)) (lines : List Line) (cur : St) (t : Nat) :
    specStep c st cmd (seen, lines, cur) t =
      match firstOff (seenStat c st seen) (ancUp c t).reverse with
      | some (a, s) =>
        if cmd == .off && s == .off then (((t, Stat.off) :: seen), lines ++ [.ok t], cur)
        else (((t, s) :: seen), lines ++ [.dep t cmd s a], cur)
      | none =>
        if hostFails c t then (((t, Stat.error) :: seen), lines ++ [.status t .error], cur)
        else (((t, if cmd == .on then Stat.on else Stat.off) :: seen), lines ++ [.ok t], powerSt c cur cmd t) := by
  rfl

theorem specPower_phased (c : Cfg) (st : St) (ts : List Nat) {a b : Nat} (ha : a ∈ ts) (hb : b ∈ ts)
    (hka : known c a = true) (hkb : known c b = true) (hd : isDesc c a b = true) :
    specPower c st .on ts = (unknownLines c ts ++ (knownT c ts).map Line.phased, st) := by
  rw [specPower_eq]
  have : specPhased c .on ts = true := by
    unfold specPhased
    simp only [beq_self_eq_true, Bool.true_and]
    rw [List.any_eq_true]
    refine ⟨a, List.mem_filter.2 ⟨ha, hka⟩, ?_⟩
    rw [List.any_eq_true]
    exact ⟨b, List.mem_filter.2 ⟨hb, hkb⟩, hd⟩
  simp [this]

/-- the line `specPower` gives a single known target -/
def powerLine1 (c : Cfg) (st : St) (cmd : Cmd) (t : Nat) : Line × St :=
  match blocker c st t with
  | some (a, s) => if cmd == .off && s == .off then (.ok t, st) else (.dep t cmd s a, st)
  | none => if hostFails c t then (.status t .error, st) else (.ok t, powerSt c st cmd t)

theorem seenStat_nil (c : Cfg) (st : St) : seenStat c st [] = statOf c st := by
  funext a; rfl

theorem specPower_single {c : Cfg} (hw : WF c = true) (st : St) (cmd : Cmd) {t : Nat} (hk : known c t = true) :
    specPower c st cmd [t] = ([(powerLine1 c st cmd t).1], (powerLine1 c st cmd t).2) := by
  have hk' : (lookup c t).isSome = true := hk
  have hn : (lookup c t).isNone = false := by cases h : lookup c t <;> simp_all
  have hirr : isDesc c t t = false := by
    cases h : isDesc c t t
    · rfl
    · exact absurd (isDesc_iff.1 h) (anc_irrefl hw t)
  have hkn : knownT c [t] = [t] := by simp [knownT, hk']
  have hun : unknownLines c [t] = [] := by simp [unknownLines, hn]
  have hph : specPhased c cmd [t] = false := by simp [specPhased, hkn, hirr]
  have hord : specOrder c [t] = [t] := by simp [specOrder, hkn]
  rw [specPower_eq, hph, hun, hord]
  simp only [Bool.false_eq_true, if_false, List.foldl_cons, List.foldl_nil, List.nil_append]
  rw [specStep_eq, seenStat_nil, ← blocker_eq]
  unfold powerLine1
  cases hb : blocker c st t with
  | none =>
    simp only
    by_cases hf : hostFails c t = true <;> simp [hf]
  | some as =>
    rcases as with ⟨a, s⟩
    simp only
    split <;> simp

/-! ### `on` / `off` of one target below an ancestor that is not on; `off` of a parent -/
theorem specPower_on_blocked {c : Cfg} (hw : WF c = true) (st : St) {t a : Nat} (hk : known c t = true)
    (ha : a ∈ ancUp c t) (hoff : statOf c st a ≠ .on) (habove : ∀ b ∈ ancUp c a, statOf c st b = .on) :
    specPower c st .on [t] = ([.dep t .on (statOf c st a) a], st) := by
  rw [specPower_single hw st .on hk]
  unfold powerLine1
  rw [blocker_eq, firstOff_at hw _ ha hoff habove]
  simp

theorem specPower_off_below_off {c : Cfg} (hw : WF c = true) (st : St) {t a : Nat} (hk : known c t = true)
    (ha : a ∈ ancUp c t) (hoff : statOf c st a = .off) (habove : ∀ b ∈ ancUp c a, statOf c st b = .on) :
    specPower c st .off [t] = ([.ok t], st) := by
  rw [specPower_single hw st .off hk]
  unfold powerLine1
  rw [blocker_eq, firstOff_at hw _ ha (by rw [hoff]; decide) habove, hoff]
  simp

theorem specPower_off_blocked {c : Cfg} (hw : WF c = true) (st : St) {t a : Nat} (hk : known c t = true)
    (ha : a ∈ ancUp c t) (hoff : statOf c st a = .error) (habove : ∀ b ∈ ancUp c a, statOf c st b = .on) :
    specPower c st .off [t] = ([.dep t .off .error a], st) := by
  rw [specPower_single hw st .off hk]
  unfold powerLine1
  rw [blocker_eq, firstOff_at hw _ ha (by rw [hoff]; decide) habove, hoff]
  simp

theorem specPower_off_parent {c : Cfg} (hw : WF c = true) (st : St) {p : Nat} (hk : known c p = true)
    (hon : ∀ b ∈ ancUp c p, statOf c st b = .on) (hf : hostFails c p = false) :
    (specPower c st .off [p]).1 = [.ok p] ∧ isOn (specPower c st .off [p]).2 p = false ∧
    (∀ x, isDesc c x p = true → isOn (specPower c st .off [p]).2 x = false) ∧
    (∀ x, x ≠ p → isDesc c x p = false → isOn (specPower c st .off [p]).2 x = isOn st x) := by
  rw [specPower_single hw st .off hk]
  unfold powerLine1
  rw [blocker_eq, firstOff_none.2 (by simpa using hon)]
  simp only [hf, Bool.false_eq_true, if_false]
  refine ⟨trivial, ?_, ?_, ?_⟩
  · rw [isOn_powerSt_off _ _ _ _ _ (by decide)]; simp
  · intro x hx; rw [isOn_powerSt_off _ _ _ _ _ (by decide)]; simp [hx]
  · intro x h1 h2; rw [isOn_powerSt_off _ _ _ _ _ (by decide)]; simp [h1, h2]

end Pm.Redfish
