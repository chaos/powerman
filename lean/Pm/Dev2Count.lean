import Pm.Dev2Moves
/-! Completions counted per client (C04, device half of C02): `fcount` (completions reported for a client), `qcount` (its actions
    in a queue), `Served.count` (what `Served` says per client), `Move.count` (no move adds to completions + queued actions: the
    connection layer only drops login actions), `completions_conserved` over `_process_action`. -/
namespace Pm.Dev2

/-- completions reported for client `cid` -/
def fcount (cid : Nat) (l : List Out) : Nat := l.countP fun o => match o with | .finish c _ => c == cid | _ => false
/-- actions of client `cid` in a queue -/
def qcount (cid : Nat) (acts : List Action) : Nat := acts.countP fun a => a.clientId == cid

@[simp] theorem fcount_append (cid l m) : fcount cid (l ++ m) = fcount cid l + fcount cid m := by simp [fcount]
@[simp] theorem fcount_nil (cid) : fcount cid [] = 0 := rfl
@[simp] theorem qcount_nil (cid) : qcount cid [] = 0 := rfl
theorem qcount_cons (cid a r) : qcount cid (a :: r) = (if a.clientId == cid then 1 else 0) + qcount cid r := by
  simp [qcount, List.countP_cons]; omega

theorem qcount_append (cid : Nat) (l m : List Action) : qcount cid (l ++ m) = qcount cid l + qcount cid m := by
  simp [qcount, List.countP_append]

theorem qcount_pos_of_mem {cid : Nat} {acts : List Action} {b : Action} (hb : b ∈ acts) (h : b.clientId = cid) :
    0 < qcount cid acts := by
  unfold qcount
  exact List.countP_pos_iff.mpr ⟨b, hb, by simpa using h⟩

theorem qcount_zero_iff {cid : Nat} {acts : List Action} : qcount cid acts = 0 ↔ ∀ b ∈ acts, b.clientId ≠ cid := by
  unfold qcount
  rw [List.countP_eq_zero]
  simp

/-! `fcount` and `qcount` count what `finishesOf` and `clientIds` list: facts about the counts are read off the lists -/

theorem finishesOf_count (cid : Nat) (l : List Out) : (Login2.finishesOf l).count cid = fcount cid l := by
  unfold Login2.finishesOf fcount List.count
  rw [List.countP_filterMap]
  congr 1; funext x; cases x <;> rfl

theorem clientIds_count (cid : Nat) (hc : cid ≠ 0) (l : List Action) : (Login2.clientIds l).count cid = qcount cid l := by
  unfold Login2.clientIds qcount List.count
  rw [List.countP_map, List.countP_filter]
  congr 1; funext a
  by_cases h : a.clientId = cid
  · simp [h, hc]
  · simp [h]

theorem fcount_noFinish (cid : Nat) (l : List Out) (h : ∀ x ∈ l, isFinish x = false) : fcount cid l = 0 := by
  rw [← finishesOf_count, Login2.finishesOf_noFinish l h]; rfl

theorem fcount_failFins (cid : Nat) (hc : cid ≠ 0) (rest : List Action) (a : Action) :
    fcount cid (failFins rest a) = qcount cid (a :: rest) := by
  rw [← finishesOf_count, ← clientIds_count cid hc]
  unfold failFins
  rw [Login2.finishesOf_append, Login2.finishesOf_headFin, Login2.finishesOf_restFin, Login2.clientIds_cons]

theorem enqueueLogin_qcount (cid : Nat) (hc : cid ≠ 0) (d : Dev) : qcount cid (enqueueLogin d).acts = qcount cid d.acts := by
  rw [← clientIds_count cid hc, ← clientIds_count cid hc, Login2.enqueueLogin_clientIds]

theorem connectDev_empty (c : CS) (cid : Nat) (hc : cid ≠ 0) (h : c.dev.acts = []) :
    qcount cid (connectDev c).dev.acts = 0 := by
  rw [← clientIds_count cid hc, Login2.connectDev_clientIds, h]; rfl

theorem reconnectDev_empty (c : CS) (tmo : Option Time) (cid : Nat) (hc : cid ≠ 0) (h : c.dev.acts = []) :
    qcount cid (reconnectDev c tmo).1.dev.acts = 0 :=
  reconnectDev_elim (Q := fun c1 => c1.dev.acts = []) (P := fun r => qcount cid r.dev.acts = 0) c tmo
    (fun _ => disconnectDev_empty c h) (fun _ => h) (fun c1 _ h1 => connectDev_empty c1 cid hc h1)
    (fun c1 _ h1 => by rw [h1]; rfl)

theorem failAll_queue_empty (rest : List Action) (c : CS) (a : Action) (o : Oracle) (out : List Out) (tmo : Option Time)
    (cid : Nat) (hc : cid ≠ 0) : qcount cid (failAll rest c a o out tmo).1.dev.acts = 0 := by
  rw [failAll_state]
  split
  · exact reconnectDev_empty _ tmo cid hc rfl
  · rfl

theorem failAll_count (rest : List Action) (c : CS) (a : Action) (o : Oracle) (out : List Out) (tmo : Option Time)
    (cid : Nat) (hc : cid ≠ 0) :
    fcount cid (failAll rest c a o out tmo).2.2.1 + qcount cid (failAll rest c a o out tmo).1.dev.acts
      = fcount cid out + qcount cid (a :: rest) := by
  rw [failAll_queue_empty _ _ _ _ _ _ cid hc, failAll_reports, fcount_append, Nat.add_zero, fcount_failFins cid hc]

theorem Served.count {s s' : PA} (h : Served s s') (cid : Nat) (hc : cid ≠ 0) :
    fcount cid s'.2.2.1 + qcount cid s'.1.dev.acts = fcount cid s.2.2.1 + qcount cid s.1.dev.acts := by
  obtain ⟨new, h1, h2⟩ := h
  have := congrArg (List.count cid) h2
  rw [List.count_append, finishesOf_count, clientIds_count cid hc, clientIds_count cid hc] at this
  rw [h1, fcount_append, Nat.add_assoc, this]

/-- C04/C02, device half: over one pass of `_process_action`, for every client, (completions reported) + (its actions still
    queued) is conserved — every action that leaves the queue is reported exactly once, none is reported while it stays, none
    is lost; also over a pass that ends in a modelled abort -/
theorem completions_conserved (fuel : Nat) (c : CS) (o : Oracle) (out : List Out) (tmo : Option Time)
    (cid : Nat) (hc : cid ≠ 0) :
    fcount cid (processActionF fuel c o out tmo).2.2.1 + qcount cid (processActionF fuel c o out tmo).1.dev.acts
      = fcount cid out + qcount cid c.dev.acts :=
  (processActionF_served fuel c o out tmo).count cid hc

/-- no move loses a completion or invents an action: for every client, the completions reported plus the actions queued do
    not grow (they stay the same but for `_disconnect`, which drops a queued login action whoever owns it) -/
theorem Move.count {cid : Nat} (hc : cid ≠ 0) : ∀ {k : Stage} {s s' : PA}, Move k s s' →
    fcount cid s'.2.2.1 + qcount cid s'.1.dev.acts ≤ fcount cid s.2.2.1 + qcount cid s.1.dev.acts
  | .loop, _, _, h => Nat.le_of_eq (h.served.count cid hc)
  | .ready, _, _, h => by
    cases h with
    | assert | write => exact Nat.le_refl _
    | read c => exact Nat.le_of_eq (by rw [read_dev])
    | finish c _ _ _ h1 =>
      obtain ⟨c1, hw, ⟨_, e⟩ | ⟨_, e⟩⟩ := readyFinish_dev c h1 <;> rw [e]
      · exact Nat.le_of_eq (by rw [hw.dev.acts])
      · exact Nat.le_of_eq (by rw [enqueueLogin_qcount cid hc, hw.dev.acts])
  | .link, _, _, h => by
    cases h with
    | wait => exact Nat.le_refl _
    | disconnect c =>
      refine Nat.add_le_add_left ?_ _
      rw [Login2.disconnectDev_acts]
      cases c.dev.acts with
      | nil => exact Nat.le_refl _
      | cons a r => exact ite_cases (P := fun l => qcount cid l ≤ qcount cid (a :: r)) (fun _ => by rw [qcount_cons]; omega) fun _ => Nat.le_refl _
    | connect _ c =>
      obtain ⟨d1, hf, _, ⟨e, _⟩ | ⟨e, _⟩⟩ := connectDev_frame c <;> rw [e]
      · exact Nat.le_of_eq (by rw [enqueueLogin_qcount cid hc, hf.acts])
      · exact Nat.le_of_eq (by rw [hf.acts])
    | ping c _ _ _ now =>
      refine Nat.le_of_eq (congrArg _ ?_)
      show qcount cid (c.dev.acts ++ [Login2.pingAction c.dev]) = _
      unfold qcount
      rw [List.countP_append, List.countP_singleton, if_neg (by simp [Login2.pingAction, loginAction]; omega)]; rfl

end Pm.Dev2
