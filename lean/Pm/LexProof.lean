import Pm.LexModel
import Pm.ScanfProof
/-! # Lemmas about `Pm/LexModel.lean` (C18)

Helper module of `Pm/Props/C18.lean`.  Everything here is about the model of the hand-written logic of the configuration
reader (string-literal rules and `_string_buf_add`, include stack, `_strtolong`/`_strtodouble`/`_doubletotv`, acceptance
conditions on mandatory elements).  Nothing here is about the flex or bison automata, `malloc`, or `regcomp`: those are not
modelled; the layer `lib/lexlayer.py` observes them under ASan/UBSan.  The lemmas of this namespace that need the buffer invariant of
the string scanner (`go_inv`, `lexRaw_fill`, `lexString_fill`, `lexString_total`, `outcome_defined`) stand at the end of
`Pm/GrammarLexProof.lean`, behind `strGo_inv`, from which they follow. -/
namespace Pm.LexModel.Proof
open Pm.LexModel

/-! ### string literals: `_string_buf_add` -/

theorem stringBufAdd_cont {buf b : Array UInt8} {c : UInt8} (h : stringBufAdd buf c = .cont b) :
    b = buf.push c ∧ buf.size < STRING_BUF - 1 := by
  unfold stringBufAdd at h
  split at h
  · cases h
  · split at h
    · cases h; exact ⟨rfl, by omega⟩
    · cases h

theorem stringBufAdd_ne_overrun (buf : Array UInt8) (c : UInt8) : stringBufAdd buf c ≠ .overrun := by
  unfold stringBufAdd STRING_BUF
  split
  · intro h; cases h
  · split
    · intro h; cases h
    · omega

theorem go_backslash (rest : List UInt8) (skip : Bool) (buf : Array UInt8) :
    go (0x5c :: rest) 0 skip buf =
      match escTok rest with
      | none => .eof
      | some (v, n) =>
        match stringBufAdd buf v with
        | .cont b => go rest n false b
        | .exitTooLong => .tooLong
        | .overrun => .overrun := by
  simp only [go]
  cases escTok rest with
  | none => simp
  | some p =>
    obtain ⟨v, n⟩ := p
    simp only []
    generalize stringBufAdd buf v = r
    cases r <;> rfl

theorem stringBufAdd_empty (c : UInt8) : stringBufAdd #[] c = .cont #[c] := by
  simp [stringBufAdd, STRING_BUF]

theorem escTok_nondigit (c : UInt8) (rest : List UInt8) (h : isDigit c = false) : escTok (c :: rest) = some (escValue c, 1) := by
  match rest with
  | [] => simp [escTok]
  | [_] => simp [escTok]
  | _ :: _ :: _ => simp [escTok, h]

theorem escTok_quote2 (c : UInt8) (rest : List UInt8) : escTok (c :: 0x22 :: rest) = some (escValue c, 1) := by
  match rest with
  | [] => simp [escTok]
  | _ :: _ => simp [escTok, isDigit]

theorem lexString_escape (c : UInt8) (rest : List UInt8) : lexString (0x5c :: c :: 0x22 :: rest) = .ok (cstr #[escValue c]) := by
  simp [lexString, lexRaw, escTok_quote2, stringBufAdd_empty, go, closeQuote, STRING_BUF, Res.ofRaw]

theorem escTok_octal (d1 d2 d3 : UInt8) (rest : List UInt8) (h1 : isDigit d1 = true) (h2 : isDigit d2 = true) (h3 : isDigit d3 = true) :
    escTok (d1 :: d2 :: d3 :: rest) = some (octByte d1 d2 d3, 3) := by
  simp [escTok, h1, h2, h3]

theorem lexString_octal (d1 d2 d3 : UInt8) (rest : List UInt8) (h1 : isDigit d1 = true) (h2 : isDigit d2 = true) (h3 : isDigit d3 = true) :
    lexString (0x5c :: d1 :: d2 :: d3 :: 0x22 :: rest) = .ok (cstr #[octByte d1 d2 d3]) := by
  simp [lexString, lexRaw, escTok_octal, h1, h2, h3, stringBufAdd_empty, go, closeQuote, STRING_BUF, Res.ofRaw]

/-- a byte matched by the run rule `[^\\\n\"]+` and copied by its action -/
def Plain (c : UInt8) : Prop := c ≠ 0x5c ∧ c ≠ 0x22 ∧ c ≠ 0x0a ∧ c ≠ 0

theorem go_plain_step {c : UInt8} (hc : Plain c) (rest : List UInt8) (buf : Array UInt8) :
    go (c :: rest) 0 false buf =
      if buf.size ≥ STRING_BUF - 1 then .tooLong else go rest 0 false (buf.push c) := by
  obtain ⟨h1, h2, h3, h4⟩ := hc
  simp only [go, h1, h2, h3, h4, if_false, Bool.false_eq_true]
  unfold stringBufAdd
  by_cases h : buf.size ≥ STRING_BUF - 1
  · simp [h]
  · have : buf.size < STRING_BUF := by unfold STRING_BUF at *; omega
    simp [h, this]

theorem go_plain : ∀ (s : List UInt8) (buf : Array UInt8) (rest : List UInt8), (∀ c ∈ s, Plain c) → buf.size + s.length ≤ STRING_BUF - 1 →
    ∃ b, go (s ++ 0x22 :: rest) 0 false buf = .tok b rest ∧ b.toList = buf.toList ++ s := by
  intro s
  induction s with
  | nil =>
    intro buf rest _ hb
    refine ⟨buf, ?_, by simp⟩
    have : buf.size < STRING_BUF := by unfold STRING_BUF at *; simp at hb; omega
    simp [go, closeQuote, this]
  | cons c s ih =>
    intro buf rest hp hb
    have hc : Plain c := hp c (by simp)
    simp only [List.length_cons] at hb
    have hlt : ¬ buf.size ≥ STRING_BUF - 1 := by omega
    rw [List.cons_append, go_plain_step hc, if_neg hlt]
    obtain ⟨b, h1, h2⟩ := ih (buf.push c) rest (fun x hx => hp x (by simp [hx])) (by rw [Array.size_push]; omega)
    exact ⟨b, h1, by simp [h2]⟩

theorem lexString_plain (s rest : List UInt8) (hp : ∀ c ∈ s, Plain c) (hl : s.length < 8192) :
    lexString (s ++ 0x22 :: rest) = .ok s := by
  obtain ⟨b, h1, h2⟩ := go_plain s #[] rest hp (by simp [STRING_BUF]; omega)
  unfold lexString lexRaw
  rw [h1]
  simp only [Res.ofRaw, cstr, h2]
  simp only [List.nil_append]
  exact congrArg Res.ok (LibPmModel.cstr_of_nonul s fun c hc => by obtain ⟨-, -, -, h0⟩ := hp c hc; exact h0)

theorem go_plain_long : ∀ (s : List UInt8) (buf : Array UInt8) (tail : List UInt8), (∀ c ∈ s, Plain c) → buf.size ≤ STRING_BUF - 1 →
    buf.size + s.length ≥ STRING_BUF → go (s ++ tail) 0 false buf = .tooLong := by
  intro s
  induction s with
  | nil => intro buf tail _ hb hl; simp at hl; unfold STRING_BUF at *; omega
  | cons c s ih =>
    intro buf tail hp hb hl
    have hc : Plain c := hp c (by simp)
    rw [List.cons_append, go_plain_step hc]
    by_cases h : buf.size ≥ STRING_BUF - 1
    · simp [h]
    · rw [if_neg h]
      apply ih (buf.push c) tail (fun x hx => hp x (by simp [hx]))
      · rw [Array.size_push]; omega
      · rw [Array.size_push]; simp only [List.length_cons] at hl; omega

theorem lexString_plain_long (s tail : List UInt8) (hp : ∀ c ∈ s, Plain c) (hl : s.length ≥ 8192) :
    lexString (s ++ tail) = .tooLong := by
  unfold lexString lexRaw
  rw [go_plain_long s #[] tail hp (by simp) (by simp [STRING_BUF]; omega)]
  rfl

/-! ### the include stack -/

theorem includeStep_incl (ptr : Nat) : includeStep ptr .incl = if ptr ≥ 9 then .tooDeep else if ptr < 10 ∧ ptr + 1 < 10 then .cont (ptr + 1) else .oob := by
  rfl

theorem includeStep_eof (ptr : Nat) : includeStep ptr .eof = if ptr = 0 then .done else if ptr - 1 < 10 then .cont (ptr - 1) else .oob := by
  rfl

theorem includeStep_inv {ptr : Nat} (h : ptr < MAX_INCLUDE_DEPTH) (e : IncEv) :
    includeStep ptr e ≠ .oob ∧ ∀ p, includeStep ptr e = .cont p → p < MAX_INCLUDE_DEPTH := by
  unfold MAX_INCLUDE_DEPTH at *
  cases e with
  | incl =>
    rw [includeStep_incl]
    split
    · exact ⟨nofun, nofun⟩
    · split
      · refine ⟨nofun, ?_⟩
        intro p hp; cases hp; omega
      · omega
  | eof =>
    rw [includeStep_eof]
    split
    · exact ⟨nofun, nofun⟩
    · split
      · refine ⟨nofun, ?_⟩
        intro p hp; cases hp; omega
      · omega

theorem runInc_inv : ∀ (es : List IncEv) (ptr : Nat), ptr < MAX_INCLUDE_DEPTH →
    runInc ptr es ≠ .oob ∧ ∀ p, runInc ptr es = .cont p → p < MAX_INCLUDE_DEPTH := by
  intro es
  induction es with
  | nil => intro ptr h; simp only [runInc]; refine ⟨nofun, ?_⟩; intro p hp; cases hp; exact h
  | cons e es ih =>
    intro ptr h
    have hs := includeStep_inv h e
    simp only [runInc]
    generalize includeStep ptr e = r at hs
    cases r with
    | cont p => exact ih p (hs.2 p rfl)
    | tooDeep => exact ⟨nofun, nofun⟩
    | done => exact ⟨nofun, nofun⟩
    | oob => exact absurd rfl hs.1

theorem runInc_pushes : ∀ (n ptr : Nat), ptr + n ≤ 9 →
    runInc ptr (List.replicate n .incl) = .cont (ptr + n) := by
  intro n
  induction n with
  | zero => intro ptr _; simp [runInc]
  | succ n ih =>
    intro ptr h
    have h1 : ¬ ptr ≥ 9 := by omega
    have h2 : ptr < 10 ∧ ptr + 1 < 10 := by omega
    simp only [List.replicate_succ, runInc, includeStep_incl, h1, h2, if_false, and_self, if_true]
    rw [ih (ptr + 1) (by omega)]
    congr 1; omega

theorem runInc_append : ∀ (a b : List IncEv) (ptr p : Nat), runInc ptr a = .cont p → runInc ptr (a ++ b) = runInc p b := by
  intro a
  induction a with
  | nil => intro b ptr p h; simp only [runInc] at h; cases h; rfl
  | cons e a ih =>
    intro b ptr p h
    simp only [runInc, List.cons_append] at h ⊢
    generalize includeStep ptr e = r at h ⊢
    cases r with
    | cont q => exact ih b q p h
    | _ => simp at h

theorem runInc_too_deep (n : Nat) (es : List IncEv) (h : n ≥ MAX_INCLUDE_DEPTH) :
    runInc 0 (List.replicate n .incl ++ es) = .tooDeep := by
  unfold MAX_INCLUDE_DEPTH at h
  obtain ⟨m, rfl⟩ : ∃ m, n = 9 + (m + 1) := ⟨n - 10, by omega⟩
  have e : List.replicate (9 + (m + 1)) IncEv.incl ++ es = List.replicate 9 IncEv.incl ++ (IncEv.incl :: (List.replicate m IncEv.incl ++ es)) := by
    rw [← List.replicate_append_replicate]; simp [List.replicate_succ]
  rw [e, runInc_append _ _ 0 9 (by simpa using runInc_pushes 9 0 (by decide))]
  simp [runInc, includeStep_incl]

theorem budget_agrees (ptr : Nat) (h : ptr ≤ MAX_INCLUDE_DEPTH - 1) :
    (includeStep ptr .incl = .tooDeep ↔ MAX_INCLUDE_DEPTH - 1 - ptr = 0) ∧
    (∀ p, includeStep ptr .incl = .cont p → MAX_INCLUDE_DEPTH - 1 - ptr = (MAX_INCLUDE_DEPTH - 1 - p) + 1) := by
  unfold MAX_INCLUDE_DEPTH at *
  rw [includeStep_incl]
  constructor
  · constructor
    · intro h1; split at h1
      · omega
      · split at h1 <;> cases h1
    · intro h1
      have : ptr ≥ 9 := by omega
      simp [this]
  · intro p hp
    split at hp
    · cases hp
    · split at hp
      · cases hp; omega
      · cases hp

/-- the items hold no include directive -/
def noIncl : List Item → Prop
  | [] => True
  | .tok _ :: r => noIncl r
  | .incl _ :: _ => False

/-- the tokens among the items, in order -/
def toksOf : List Item → List Nat
  | [] => []
  | .tok t :: r => t :: toksOf r
  | .incl _ :: r => toksOf r

theorem scanItems_prefix (sub : Nat → List Nat → ScanRes) : ∀ (pre : List Item) (r : List Item) (acc : List Nat), noIncl pre →
    scanItems sub (pre ++ r) acc = scanItems sub r (acc ++ toksOf pre) := by
  intro pre
  induction pre with
  | nil => intro r acc _; simp [toksOf]
  | cons i pre ih =>
    intro r acc h
    cases i with
    | tok t => simp only [List.cons_append, scanItems, toksOf]; rw [ih r _ h]; simp
    | incl f => exact absurd h (by simp [noIncl])

/-- file `f` is regular and its first include directive names a file of `S` -/
def CycleFile (fs : Nat → File) (S : Nat → Prop) (f : Nat) : Prop :=
  ∃ pre g post, fs f = .reg (pre ++ .incl g :: post) ∧ noIncl pre ∧ S g

theorem scanAt_cycle (fs : Nat → File) (S : Nat → Prop) (hS : ∀ f, S f → CycleFile fs S f) :
    ∀ (k : Nat) (f : Nat) (items : List Item) (acc : List Nat), S f → fs f = .reg items → ∃ toks, scanAt fs k items acc = .tooDeep toks := by
  intro k
  induction k with
  | zero =>
    intro f items acc hf hitems
    obtain ⟨pre, g, post, h1, h2, h3⟩ := hS f hf
    rw [hitems] at h1; cases h1
    simp only [scanAt]
    rw [scanItems_prefix _ pre _ acc h2]
    exact ⟨acc ++ toksOf pre, by simp [scanItems]⟩
  | succ k ih =>
    intro f items acc hf hitems
    obtain ⟨pre, g, post, h1, h2, h3⟩ := hS f hf
    rw [hitems] at h1; cases h1
    obtain ⟨pre', g', post', h1', _, _⟩ := hS g h3
    obtain ⟨toks, ht⟩ := ih g _ (acc ++ toksOf pre) h3 h1'
    refine ⟨toks, ?_⟩
    simp only [scanAt]
    rw [scanItems_prefix _ pre _ acc h2]
    simp only [scanItems, h1']
    rw [ht]

/-! ### numeric tokens: `_strtolong`, `_strtodouble` -/

/-- a byte of a numeric token -/
def NumChar (c : UInt8) : Prop := isDigit c = true ∨ c = 0x2e

theorem digitsRun_nul (base : Nat) : ∀ (ds junk : List UInt8) (acc n : Nat),
    digitsRun base (ds ++ 0 :: junk) acc n = digitsRun base (ds ++ [0]) acc n := by
  intro ds
  induction ds with
  | nil => intro junk acc n; simp [digitsRun, digitVal]
  | cons d ds ih =>
    intro junk acc n
    simp only [List.cons_append, digitsRun]
    split
    · split
      · exact ih junk _ _
      · rfl
    · rfl

theorem digitsRun_count (base : Nat) : ∀ (ds junk : List UInt8) (acc n : Nat),
    (digitsRun base (ds ++ 0 :: junk) acc n).2 ≤ n + ds.length := by
  intro ds
  induction ds with
  | nil => intro junk acc n; simp [digitsRun, digitVal]
  | cons d ds ih =>
    intro junk acc n
    simp only [List.cons_append, digitsRun, List.length_cons]
    split
    · split
      · rename_i dv _ _; have := ih junk (acc * base + dv) (n + 1); omega
      · simp
    · simp

/-- `strtol0` where there is no white space, sign or hexadecimal prefix to skip -/
def strtolPlain (mem : List UInt8) : Strtol :=
  let r := if mem.head? = some 0x30 then digitsRun 8 mem 0 0 else digitsRun 10 mem 0 0
  if r.2 = 0 then { value := 0, consumed := 0 } else { value := r.1, consumed := r.2 }

theorem strtol0_plain (c : UInt8) (rest : List UInt8) (h1 : isSpace c = false) (h2 : c ≠ 0x2d) (h3 : c ≠ 0x2b)
    (h4 : isHexPrefix (c :: rest) = false) : strtol0 (c :: rest) = strtolPlain (c :: rest) := by
  unfold strtol0 strtolPlain
  simp only [List.takeWhile_cons, h1, List.length_nil, List.drop_zero, List.head?_cons, Option.some.injEq, h2, h3,
    Bool.false_eq_true, if_false, decide_false, Bool.or_self, h4]
  by_cases h : c = 0x30
  · simp [h]
  · simp [h]

theorem numchar_nat {c : UInt8} (h : NumChar c ∨ c = 0) : (48 ≤ c.toNat ∧ c.toNat ≤ 57) ∨ c.toNat = 46 ∨ c.toNat = 0 := by
  rcases h with (h | h) | h
  · left; simpa [isDigit, UInt8.le_iff_toNat_le] using h
  · right; left; rw [h]; rfl
  · right; right; rw [h]; rfl

theorem numchar_facts {c : UInt8} (h : NumChar c ∨ c = 0) :
    isSpace c = false ∧ c ≠ 0x2d ∧ c ≠ 0x2b ∧ c ≠ 0x78 ∧ c ≠ 0x58 := by
  have hn := numchar_nat h
  refine ⟨?_, ?_, ?_, ?_, ?_⟩
  · simp only [isSpace, Bool.or_eq_false_iff, decide_eq_false_iff_not, Bool.and_eq_false_iff, UInt8.le_iff_toNat_le, ← UInt8.toNat_inj]
    constructor
    · show ¬ c.toNat = 32; omega
    · show ¬ (9 ≤ c.toNat) ∨ ¬ (c.toNat ≤ 13); omega
  all_goals (intro hc; rw [hc] at hn; revert hn; decide)

theorem isHexPrefix_false (c : UInt8) (rest : List UInt8) (h : ∀ x r, rest = x :: r → x ≠ 0x78 ∧ x ≠ 0x58) :
    isHexPrefix (c :: rest) = false := by
  match rest, h with
  | [], _ => simp [isHexPrefix]
  | [_], _ => simp [isHexPrefix]
  | x :: y :: r, h =>
    obtain ⟨h1, h2⟩ := h x (y :: r) rfl
    unfold isHexPrefix
    split
    · rename_i heq; simp at heq; obtain ⟨_, rfl, _⟩ := heq; simp [h1, h2]
    · rfl

theorem token_mem_shape (tok junk : List UInt8) (h : ∀ c ∈ tok, NumChar c) :
    ∃ c rest, tok ++ 0 :: junk = c :: rest ∧ isSpace c = false ∧ c ≠ 0x2d ∧ c ≠ 0x2b ∧ isHexPrefix (c :: rest) = false := by
  cases tok with
  | nil =>
    refine ⟨0, junk, rfl, by decide, by decide, by decide, ?_⟩
    unfold isHexPrefix; split
    · rename_i heq; simp at heq
    · rfl
  | cons c t =>
    obtain ⟨hsp, hminus, hplus, -, -⟩ := numchar_facts (Or.inl (h c (by simp)))
    refine ⟨c, t ++ 0 :: junk, rfl, hsp, hminus, hplus, ?_⟩
    apply isHexPrefix_false
    intro x r hx
    cases t with
    | nil => simp at hx; obtain ⟨-, -, -, hx1, hx2⟩ := numchar_facts (c := x) (Or.inr hx.1.symm); exact ⟨hx1, hx2⟩
    | cons y t' => simp at hx; obtain ⟨-, -, -, hx1, hx2⟩ := numchar_facts (c := x) (Or.inl (hx.1 ▸ h y (by simp))); exact ⟨hx1, hx2⟩

theorem strtol0_token (tok junk : List UInt8) (h : ∀ c ∈ tok, NumChar c) :
    strtol0 (tok ++ 0 :: junk) = strtol0 (tok ++ [0]) ∧ (strtol0 (tok ++ 0 :: junk)).consumed ≤ tok.length := by
  obtain ⟨c, rest, e, s1, s2, s3, s4⟩ := token_mem_shape tok junk h
  obtain ⟨c', rest', e', s1', s2', s3', s4'⟩ := token_mem_shape tok [] h
  have hh : (tok ++ 0 :: junk).head? = (tok ++ [0]).head? := by cases tok <;> simp
  have p1 : strtol0 (tok ++ 0 :: junk) = strtolPlain (tok ++ 0 :: junk) := by rw [e]; exact strtol0_plain c rest s1 s2 s3 s4
  have p2 : strtol0 (tok ++ [0]) = strtolPlain (tok ++ [0]) := by rw [e']; exact strtol0_plain c' rest' s1' s2' s3' s4'
  have q : strtolPlain (tok ++ 0 :: junk) = strtolPlain (tok ++ [0]) := by
    unfold strtolPlain; rw [hh, digitsRun_nul 8, digitsRun_nul 10]
  refine ⟨by rw [p1, p2, q], ?_⟩
  -- what is consumed is 0 or the count of one of the two digit runs, and a run stops at the NUL behind the token at the latest
  rw [p1]
  unfold strtolPlain
  have c8 := digitsRun_count 8 tok junk 0 0
  have c10 := digitsRun_count 10 tok junk 0 0
  rw [Nat.zero_add] at c8 c10
  simp only []
  split
  · split
    · exact Nat.zero_le _
    · exact c8
  · split
    · exact Nat.zero_le _
    · exact c10

theorem strtolong_range {mem : List UInt8} {v : Int} (h : strtolong mem = .val v) : LONG_MIN ≤ v ∧ v ≤ LONG_MAX := by
  unfold strtolong at h
  simp only [] at h
  split at h
  · cases h
  · split at h
    · cases h
    · rename_i hr
      cases h
      simp only [Bool.or_eq_true, decide_eq_true_eq, not_or] at hr
      omega

theorem strtolong_parse {mem : List UInt8} : strtolong mem = .errParse ↔ (strtol0 mem).consumed = 0 := by
  unfold strtolong
  simp only []
  constructor
  · intro h; split at h
    · assumption
    · split at h <;> cases h
  · intro h; simp [h]

/-- every time value `_doubletotv` converts fits a `time_t` -/
theorem strtodouble_defined {t : List UInt8} {b : Bool} (h : strtodouble t = .val b) : b = true := by
  unfold strtodouble at h
  split at h
  · cases h
  · simp only [] at h
    split at h
    · cases h
    · split at h
      · cases h
      · rename_i h2
        cases h
        have hp : 0 < 10 ^ (decOfTok t).scale := Nat.pow_pos (by decide)
        generalize 10 ^ (decOfTok t).scale = P at *
        generalize (decOfTok t).num = N at *
        simp only [decide_eq_true_eq]
        simp only [Nat.reducePow, Nat.reduceMul, Nat.reduceAdd, Nat.reduceSub] at h2 ⊢
        omega

/-! ### mandatory elements of an accepted configuration -/

/-- what `cfgStep` keeps: every specification and every device has a login script, and a node presupposes a device -/
structure CfgInv (c : Cfg) : Prop where
  specs : ∀ s ∈ c.specs, PM_LOG_IN ∈ s.2
  devs : ∀ d ∈ c.devs, PM_LOG_IN ∈ d.2
  nodes : c.nodes ≠ [] → c.devs ≠ []

theorem cfgStep_inv {c c' : Cfg} {i : CfgItem} (hc : CfgInv c) (h : cfgStep c i = .ok c') : CfgInv c' := by
  obtain ⟨h1, h2, h3⟩ := hc
  cases i with
  | spec name scripts =>
    simp only [cfgStep] at h
    split at h
    · cases h
    · split at h
      · cases h
      · split at h
        · cases h
        · rename_i hl
          cases h
          refine ⟨?_, h2, h3⟩
          intro s hs
          simp only [List.mem_append, List.mem_singleton] at hs
          rcases hs with hs | hs
          · exact h1 s hs
          · subst hs; simpa using hl
  | device name spec =>
    simp only [cfgStep] at h
    split at h
    · cases h
    · rename_i s hs
      cases h
      refine ⟨h1, ?_, by simp⟩
      intro d hd
      simp only [List.mem_append, List.mem_singleton] at hd
      rcases hd with hd | hd
      · exact h2 d hd
      · subst hd; exact h1 s (List.mem_of_find?_eq_some hs)
  | node name dev =>
    simp only [cfgStep] at h
    split at h
    · cases h
    · rename_i d hd
      split at h
      · cases h
      · cases h
        refine ⟨h1, h2, ?_⟩
        intro _ he
        have := List.mem_of_find?_eq_some hd
        simp only [] at he
        rw [he] at this; cases this

theorem cfgRun_inv : ∀ (items : List CfgItem) (c c' : Cfg), CfgInv c → cfgRun c items = .ok c' → CfgInv c' := by
  intro items
  induction items with
  | nil => intro c c' hc h; simp only [cfgRun] at h; cases h; exact hc
  | cons i is ih =>
    intro c c' hc h
    simp only [cfgRun] at h
    split at h
    · rename_i c1 h1; exact ih c1 c' (cfgStep_inv hc h1) h
    · cases h

theorem cfgAccept_mandatory {items : List CfgItem} {c : Cfg} (h : cfgAccept items = .ok c) :
    c.nodes ≠ [] ∧ c.devs ≠ [] ∧ ∀ d ∈ c.devs, PM_LOG_IN ∈ d.2 := by
  unfold cfgAccept at h
  split at h
  · rename_i c1 hr
    split at h
    · cases h
    · rename_i hn
      cases h
      have inv := cfgRun_inv items {} c ⟨by simp, by simp, by simp⟩ hr
      have hn' : c.nodes ≠ [] := by simpa using hn
      exact ⟨hn', inv.nodes hn', inv.devs⟩
  · cases h

end Pm.LexModel.Proof
