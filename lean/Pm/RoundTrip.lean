import Pm.HLMore
/-! Helper module for property C14, round trip: `create (rangedString hl)` denotes the same names in the same order
    as `hl` (`roundtrip`, `roundtrip_pushed`), and the bound of 16384 hosts per range is necessary
    (`roundtrip_counterexample`).

    `rangedGroups` prints one token per group `r :: grp`; a printed token holds at most one bracket pair and no separator
    outside it (`GoodTok`), so `_next_tok` gives the tokens back; one token re-parses to ranges with the expansion of its
    group; `hostlist_create` pushes those ranges, and pushing ranges denotes what their list denotes. -/
namespace Pm

/-- characters that neither separate tokens nor open/close a bracket in `_next_tok` -/
def legalChar (c : Char) : Bool := !(c == '[' || c == ']' || c == ',' || c == ' ' || c == '\t')

/-- what the round trip needs of each range -/
structure HostRange.Legal (r : HostRange) : Prop where
  wf : r.single = true ∨ r.lo ≤ r.hi
  chars : ∀ c ∈ r.pfx, legalChar c = true
  nonempty : r.single = true → r.pfx ≠ []
  size : r.cnt ≤ MAX_RANGE          -- `_parse_single_range` refuses more than 16384 hosts in one range

def LegalHL (hl : Hostlist) : Prop := ∀ r ∈ hl, r.Legal

/-- a host name that survives tokenising: not empty, no separator, no bracket -/
def LegalName (n : Name) : Prop := n ≠ [] ∧ ∀ c ∈ n, legalChar c = true

/-! ## `_next_tok` -/

theorem legalChar_spec {c : Char} (h : legalChar c = true) :
    c ≠ '[' ∧ c ≠ ']' ∧ isSep c = false := by
  unfold legalChar at h
  simp only [Bool.not_eq_true', Bool.or_eq_false_iff, beq_eq_false_iff_ne] at h
  obtain ⟨⟨⟨⟨h1, h2⟩, h3⟩, h4⟩, h5⟩ := h
  exact ⟨h1, h2, by unfold isSep; simp [h3, h4, h5]⟩

theorem not_mem_of_illegal {l : List Char} (hl : ∀ c ∈ l, legalChar c = true) {d : Char} (hd : legalChar d = false) :
    d ∉ l := fun h => by rw [hl d h] at hd; cases hd

theorem tokens_go_nil (cur : List Char) (level : Int) (acc : List (List Char)) :
    tokens.go [] cur level acc = if cur.isEmpty then acc.reverse else (cur.reverse :: acc).reverse := by
  rw [tokens.go]

theorem tokens_go_cons (c : Char) (r cur : List Char) (level : Int) (acc : List (List Char)) :
    tokens.go (c :: r) cur level acc =
      if level == 0 && isSep c then
        (if cur.isEmpty then tokens.go r [] 0 acc else tokens.go r [] 0 (cur.reverse :: acc))
      else tokens.go r (c :: cur) (if c == '[' then level + 1 else if c == ']' then level - 1 else level) acc := by
  rw [tokens.go]

/-- level 0, ordinary characters -/
theorem tokens_go_plain (u : List Char) (hu : ∀ c ∈ u, legalChar c = true) :
    ∀ (rest cur : List Char) (acc : List (List Char)),
      tokens.go (u ++ rest) cur 0 acc = tokens.go rest (u.reverse ++ cur) 0 acc := by
  induction u with
  | nil => intro rest cur acc; rfl
  | cons c u ih =>
    intro rest cur acc
    obtain ⟨h1, h2, h3⟩ := legalChar_spec (hu c (by simp))
    rw [List.cons_append, tokens_go_cons]
    simp [h1, h2, h3]
    rw [ih (fun c hc => hu c (by simp [hc]))]

/-- inside one bracket level -/
theorem tokens_go_inner (u : List Char) (hu : ∀ c ∈ u, c ≠ '[' ∧ c ≠ ']') :
    ∀ (rest cur : List Char) (acc : List (List Char)),
      tokens.go (u ++ rest) cur 1 acc = tokens.go rest (u.reverse ++ cur) 1 acc := by
  induction u with
  | nil => intro rest cur acc; rfl
  | cons c u ih =>
    intro rest cur acc
    obtain ⟨h1, h2⟩ := hu c (by simp)
    rw [List.cons_append, tokens_go_cons]
    simp [h1, h2]
    rw [ih (fun c hc => hu c (by simp [hc]))]

/-- the shape of one token printed by `hostlist_ranged_string`: ordinary characters, then optionally one
    bracket pair holding no further bracket -/
structure GoodTok (t : List Char) : Prop where
  ne : t ≠ []
  shape : ∃ p m, (∀ c ∈ p, legalChar c = true) ∧ (∀ c ∈ m, c ≠ '[' ∧ c ≠ ']') ∧
    (t = p ∨ t = p ++ '[' :: (m ++ [']']))

theorem tokens_go_good (t : List Char) (ht : GoodTok t) (rest cur : List Char) (acc : List (List Char)) :
    tokens.go (t ++ rest) cur 0 acc = tokens.go rest (t.reverse ++ cur) 0 acc := by
  obtain ⟨p, m, hp, hm, h | h⟩ := ht.shape
  · rw [h]; exact tokens_go_plain p hp rest cur acc
  · rw [h]
    rw [List.append_assoc, tokens_go_plain p hp, List.cons_append, tokens_go_cons]
    simp only [show isSep '[' = false by decide, Bool.and_false, Bool.false_eq_true, if_false, beq_self_eq_true, if_true]
    rw [show (0 : Int) + 1 = 1 by rfl, List.append_assoc, tokens_go_inner m hm, List.cons_append, tokens_go_cons]
    simp only [show ((1 : Int) == 0) = false by decide, Bool.false_and, Bool.false_eq_true, if_false,
      show ((']' : Char) == '[') = false by decide, beq_self_eq_true, if_true, show (1 : Int) - 1 = 0 by rfl]
    simp

theorem tokens_go_sep (more cur : List Char) (hcur : cur ≠ []) (acc : List (List Char)) :
    tokens.go (',' :: more) cur 0 acc = tokens.go more [] 0 (cur.reverse :: acc) := by
  rw [tokens_go_cons]
  cases cur with
  | nil => exact absurd rfl hcur
  | cons a b => simp [isSep]

theorem tokens_go_intercalate (t : List Char) (ts : List (List Char)) :
    (∀ x ∈ t :: ts, GoodTok x) → ∀ (acc : List (List Char)),
    tokens.go (List.intercalate [','] (t :: ts)) [] 0 acc = acc.reverse ++ t :: ts := by
  induction ts generalizing t with
  | nil =>
    intro h acc
    have ht := h t (by simp)
    have := tokens_go_good t ht [] [] acc
    rw [List.intercalate_singleton]
    simp only [List.append_nil] at this
    rw [this, tokens_go_nil]
    simp [ht.ne]
  | cons t2 ts ih =>
    intro h acc
    have ht := h t (by simp)
    rw [List.intercalate_cons_cons, List.append_assoc, tokens_go_good t ht, List.append_nil]
    rw [show [','] ++ List.intercalate [','] (t2 :: ts) = ',' :: List.intercalate [','] (t2 :: ts) from rfl]
    rw [tokens_go_sep _ _ (by simpa using ht.ne), ih t2 (fun x hx => h x (by simp [hx]))]
    simp

theorem tokens_intercalate (ts : List (List Char)) (h : ∀ x ∈ ts, GoodTok x) :
    tokens (List.intercalate [','] ts) = ts := by
  cases ts with
  | nil => rfl
  | cons t ts =>
    unfold tokens
    rw [tokens_go_intercalate t ts h]
    simp

/-! ## `splitOnFirst`, `splitAll` -/

private theorem takeWhile_all {α} (p : α → Bool) (l : List α) (h : ∀ x ∈ l, p x = true) : l.takeWhile p = l := by
  induction l with
  | nil => rfl
  | cons x l ih =>
    rw [List.takeWhile_cons, h x (by simp)]
    simp only [if_true]
    rw [ih (fun y hy => h y (by simp [hy]))]

private theorem takeWhile_ne_all (c : Char) (a : List Char) (h : c ∉ a) : a.takeWhile (· != c) = a :=
  takeWhile_all _ a fun _ hx => bne_iff_ne.mpr fun e => h (e ▸ hx)

theorem splitOnFirst_miss (c : Char) (a : List Char) (h : c ∉ a) : splitOnFirst c a = (a, none) := by
  unfold splitOnFirst
  simp only [takeWhile_ne_all c a h]
  simp

theorem splitOnFirst_hit (c : Char) (a b : List Char) (h : c ∉ a) :
    splitOnFirst c (a ++ c :: b) = (a, some b) := by
  unfold splitOnFirst
  have : (a ++ c :: b).takeWhile (· != c) = a := by
    rw [List.takeWhile_append_of_pos (by intro x hx; simp; intro e; exact h (e ▸ hx))]
    simp
  simp only [this]
  simp

theorem splitAll_go_nil (c : Char) (cur : List Char) (acc : List (List Char)) :
    splitAll.go c [] cur acc = (cur.reverse :: acc).reverse := by
  rw [splitAll.go]

theorem splitAll_go_cons (c x : Char) (r cur : List Char) (acc : List (List Char)) :
    splitAll.go c (x :: r) cur acc =
      if x == c then splitAll.go c r [] (cur.reverse :: acc) else splitAll.go c r (x :: cur) acc := by
  rw [splitAll.go]

theorem splitAll_go_seg (c : Char) (u : List Char) (hu : c ∉ u) :
    ∀ (rest cur : List Char) (acc : List (List Char)),
      splitAll.go c (u ++ rest) cur acc = splitAll.go c rest (u.reverse ++ cur) acc := by
  induction u with
  | nil => intro rest cur acc; rfl
  | cons x u ih =>
    intro rest cur acc
    have hx : x ≠ c := fun e => hu (by simp [e])
    rw [List.cons_append, splitAll_go_cons]
    simp only [beq_iff_eq, hx, if_false]
    rw [ih (fun hc => hu (by simp [hc]))]
    simp

theorem splitAll_go_intercalate (c : Char) (n : List Char) (ns : List (List Char)) :
    (∀ x ∈ n :: ns, c ∉ x) → ∀ (cur : List Char) (acc : List (List Char)),
    splitAll.go c (List.intercalate [c] (n :: ns)) cur acc = acc.reverse ++ (cur.reverse ++ n) :: ns := by
  induction ns generalizing n with
  | nil =>
    intro h cur acc
    have := splitAll_go_seg c n (h n (by simp)) [] cur acc
    rw [List.intercalate_singleton]
    simp only [List.append_nil] at this
    rw [this, splitAll_go_nil]
    simp
  | cons n2 ns ih =>
    intro h cur acc
    rw [List.intercalate_cons_cons, List.append_assoc, splitAll_go_seg c n (h n (by simp))]
    rw [show [c] ++ List.intercalate [c] (n2 :: ns) = c :: List.intercalate [c] (n2 :: ns) from rfl]
    rw [splitAll_go_cons]
    simp only [beq_self_eq_true, if_true]
    rw [ih n2 (fun x hx => h x (by simp [hx]))]
    simp

theorem splitAll_intercalate (c : Char) (ns : List (List Char)) (hne : ns ≠ []) (h : ∀ x ∈ ns, c ∉ x) :
    splitAll c (List.intercalate [c] ns) = ns := by
  cases ns with
  | nil => exact absurd rfl hne
  | cons n ns =>
    unfold splitAll
    rw [splitAll_go_intercalate c n ns h]
    simp

theorem digit_ne {c d : Char} (h : c.isDigit = true) (hd : d.isDigit = false) : c ≠ d :=
  fun e => by rw [e, hd] at h; cases h

theorem digit_not_cspace (c : Char) (h : c.isDigit = true) : isCSpace c = false := by
  obtain ⟨h1, h2⟩ := digit_bounds c h
  unfold isCSpace
  simp [digit_ne h (d := ' ') rfl]; omega

theorem strtoul_digits (ds : List Char) (hne : ds ≠ []) (hd : ∀ c ∈ ds, c.isDigit = true) :
    strtoul ds = (parseNat ds, ds.length) := by
  cases ds with
  | nil => exact absurd rfl hne
  | cons d tl =>
    have hd0 := hd d (by simp)
    unfold strtoul
    have hws : (d :: tl).takeWhile isCSpace = [] := by rw [List.takeWhile_cons, digit_not_cspace d hd0]; simp
    simp only [hws, List.length_nil, List.drop_zero]
    split
    · rename_i heq; simp at heq; exact absurd heq.1 (digit_ne hd0 rfl)
    · rename_i heq; simp at heq; exact absurd heq.1 (digit_ne hd0 rfl)
    · simp only [takeWhile_all _ _ hd]
      simp

theorem parseSingleRange_one (los : List Char) (hne : los ≠ []) (hd : ∀ c ∈ los, c.isDigit = true) :
    parseSingleRange los = .ok { lo := parseNat los, hi := parseNat los, width := los.length } := by
  have hm : '-' ∉ los := fun hc => digit_ne (hd _ hc) rfl rfl
  have hlen : los.length ≠ 0 := by simpa using hne
  unfold parseSingleRange
  rw [splitOnFirst_miss '-' los hm]
  simp only [strtoul_digits los hne hd]
  simp [hlen, MAX_RANGE]

theorem parseSingleRange_two (los his : List Char) (hne : los ≠ []) (hd : ∀ c ∈ los, c.isDigit = true)
    (hne2 : his ≠ []) (hd2 : ∀ c ∈ his, c.isDigit = true)
    (hle : parseNat los ≤ parseNat his) (hsz : parseNat his - parseNat los + 1 ≤ MAX_RANGE) :
    parseSingleRange (los ++ '-' :: his) = .ok { lo := parseNat los, hi := parseNat his, width := los.length } := by
  have hm : '-' ∉ los := fun hc => digit_ne (hd _ hc) rfl rfl
  have hlen : los.length ≠ 0 := by simpa using hne
  have hlen2 : his.length ≠ 0 := by simpa using hne2
  unfold parseSingleRange
  rw [splitOnFirst_hit '-' los his hm]
  cases his with
  | nil => exact absurd rfl hne2
  | cons h0 htl =>
    have h0m : h0 ≠ '-' := digit_ne (hd2 _ (by simp)) rfl
    simp only
    split
    · rename_i heq; simp at heq; exact absurd heq.1 h0m
    · have h2 := strtoul_digits (h0 :: htl) hne2 hd2
      simp only [strtoul_digits los hne hd]
      simp [hlen, h2]
      rw [if_neg (by omega), if_neg (by omega)]

/-! ## one range inside brackets -/

/-- what `_parse_single_range` reads back from the printed form of a range -/
def specOf (x : HostRange) : RangeSpec := { lo := x.lo, hi := x.hi, width := (fmtNum x.width x.lo).length }

theorem parseSingleRange_numstr (x : HostRange) (hs : x.single = false) (hle : x.lo ≤ x.hi)
    (hsz : x.cnt ≤ MAX_RANGE) : parseSingleRange (numstr x) = .ok (specOf x) := by
  unfold numstr specOf
  unfold HostRange.cnt at hsz
  simp only [hs, Bool.false_eq_true, if_false] at hsz ⊢
  by_cases hlt : x.lo < x.hi
  · simp only [hlt, if_true]
    rw [parseSingleRange_two _ _ (fmtNum_ne_nil _ _) (fmtNum_digits _ _) (fmtNum_ne_nil _ _) (fmtNum_digits _ _)
      (by rw [parseNat_fmtNum, parseNat_fmtNum]; exact hle) (by rw [parseNat_fmtNum, parseNat_fmtNum]; omega)]
    rw [parseNat_fmtNum, parseNat_fmtNum]
  · simp only [hlt, if_false, List.append_nil]
    rw [parseSingleRange_one _ (fmtNum_ne_nil _ _) (fmtNum_digits _ _), parseNat_fmtNum]
    have : x.hi = x.lo := by omega
    rw [this]

theorem numstr_chars (x : HostRange) : ∀ c ∈ numstr x, c.isDigit = true ∨ c = '-' := by
  intro c hc
  unfold numstr at hc
  split at hc
  · simp at hc
  · rcases List.mem_append.mp hc with h | h
    · exact Or.inl (fmtNum_digits _ _ c h)
    · split at h
      · rcases List.mem_cons.mp h with h | h
        · exact Or.inr h
        · exact Or.inl (fmtNum_digits _ _ c h)
      · simp at h

/-- the re-parsed range prints every name as the original did, though its width may differ -/
theorem specOf_expand (x : HostRange) (hs : x.single = false) :
    HostRange.expand { pfx := x.pfx, lo := (specOf x).lo, hi := (specOf x).hi, width := (specOf x).width, single := false }
      = x.expand := by
  rw [HostRange.expand_nonsingle _ rfl, HostRange.expand_nonsingle x hs]
  refine numSeg_width _ _ _ _ _ fun y hy => fmt_of_pad_eq ?_ hy
  show zeroPadded x.lo (fmtNum x.width x.lo).length = zeroPadded x.lo x.width
  rw [fmtNum_length, zeroPadded_eq, zeroPadded_eq]
  omega

theorem mapM_except_ok {ε α β γ : Type} (f : α → Except ε β) (k : γ → α) (g : γ → β) :
    ∀ (l : List γ), (∀ x ∈ l, f (k x) = .ok (g x)) → (l.map k).mapM f = .ok (l.map g) := by
  intro l
  induction l with
  | nil => intro _; rfl
  | cons a l ih =>
    intro h
    rw [List.map_cons, List.mapM_cons, h a (by simp), ih (fun x hx => h x (by simp [hx]))]
    rfl

theorem expand_map {f : HostRange → HostRange} : ∀ (xs : Hostlist), (∀ x ∈ xs, (f x).expand = x.expand) →
    expand (xs.map f) = expand xs
  | [], _ => rfl
  | x :: xs, h => by
    rw [List.map_cons, expand_cons, expand_cons, h x (by simp), expand_map xs fun y hy => h y (by simp [hy])]

/-! ## one group of `hostlist_ranged_string` -/

/-- the token `_get_bracketed_list` prints for the range `r` followed by the ranges `grp` of the same prefix -/
def groupTok (r : HostRange) (grp : Hostlist) : Name :=
  r.pfx ++ (if r.cnt > 1 || !grp.isEmpty then '[' :: (List.intercalate [','] ((r :: grp).map numstr) ++ [']'])
            else numstr r)

theorem rangedGroups_cons (r : HostRange) (rest : Hostlist) :
    rangedGroups (r :: rest) = groupTok r (rest.takeWhile (withinRange r)) ::
      rangedGroups (rest.drop (rest.takeWhile (withinRange r)).length) := by
  rw [rangedGroups]
  rfl

theorem mem_intercalate {α} (sep : List α) (c : α) : ∀ (l : List (List α)), c ∈ List.intercalate sep l →
    c ∈ sep ∨ ∃ x ∈ l, c ∈ x
  | [], h => by simp at h
  | [x], h => by rw [List.intercalate_singleton] at h; exact Or.inr ⟨x, by simp, h⟩
  | x :: y :: l, h => by
    rw [List.intercalate_cons_cons] at h
    rcases List.mem_append.mp h with h | h
    · rcases List.mem_append.mp h with h | h
      · exact Or.inr ⟨x, by simp, h⟩
      · exact Or.inl h
    · rcases mem_intercalate sep c (y :: l) h with h | ⟨z, hz, hc⟩
      · exact Or.inl h
      · exact Or.inr ⟨z, by simp [hz], hc⟩

theorem legalChar_digit (c : Char) (h : c.isDigit = true) : legalChar c = true := by
  unfold legalChar
  simp [digit_ne h (d := '[') rfl, digit_ne h (d := ']') rfl, digit_ne h (d := ',') rfl, digit_ne h (d := ' ') rfl,
    digit_ne h (d := '\t') rfl]

theorem numstr_legal (x : HostRange) : ∀ c ∈ numstr x, legalChar c = true := by
  intro c hc
  rcases numstr_chars x c hc with h | h
  · exact legalChar_digit c h
  · subst h; decide

theorem numstr_no (x : HostRange) : ',' ∉ numstr x ∧ '[' ∉ numstr x ∧ ']' ∉ numstr x :=
  ⟨not_mem_of_illegal (numstr_legal x) rfl, not_mem_of_illegal (numstr_legal x) rfl, not_mem_of_illegal (numstr_legal x) rfl⟩

/-- what holds of each member of a group printed in brackets under the prefix `p` -/
structure InGroup (p : Name) (x : HostRange) : Prop where
  numeric : x.single = false
  le : x.lo ≤ x.hi
  pfx : x.pfx = p
  size : x.cnt ≤ MAX_RANGE

theorem group_members (r : HostRange) (grp : Hostlist) (hr : r.Legal)
    (hg : ∀ x ∈ grp, x.Legal ∧ withinRange r x = true) (hb : (decide (r.cnt > 1) || !grp.isEmpty) = true) :
    ∀ x ∈ r :: grp, InGroup r.pfx x := by
  have hrs : r.single = false := by
    cases hs : r.single with
    | false => rfl
    | true =>
      exfalso
      simp only [HostRange.cnt, hs, if_true, Bool.or_eq_true, decide_eq_true_eq, Bool.not_eq_true'] at hb
      rcases hb with hb | hb
      · omega
      · cases grp with
        | nil => simp at hb
        | cons y ys =>
          have := (hg y (by simp)).2
          simp [withinRange, hs] at this
  intro x hx
  rcases List.mem_cons.mp hx with rfl | hx
  · exact ⟨hrs, HostRange.WF.le hr.wf hrs, rfl, hr.size⟩
  · obtain ⟨hl, hw⟩ := hg x hx
    simp only [withinRange, samePrefix, Bool.and_eq_true, beq_iff_eq, Bool.not_eq_true'] at hw
    exact ⟨hw.2, HostRange.WF.le hl.wf hw.2, hw.1.1.1.symm, hl.size⟩

theorem numstrs_no_bracket (xs : Hostlist) : ∀ c ∈ List.intercalate [','] (xs.map numstr), c ≠ '[' ∧ c ≠ ']' := by
  intro c h
  rcases mem_intercalate _ _ _ h with h | ⟨z, hz, hc⟩
  · simp at h; subst h; decide
  · obtain ⟨x, _, rfl⟩ := List.mem_map.mp hz
    exact ⟨fun e => (numstr_no x).2.1 (e ▸ hc), fun e => (numstr_no x).2.2 (e ▸ hc)⟩

theorem parseRangeList_numstr {p : Name} (xs : Hostlist) (hne : xs ≠ []) (h : ∀ x ∈ xs, InGroup p x) :
    parseRangeList (List.intercalate [','] (xs.map numstr)) = .ok (xs.map specOf) := by
  unfold parseRangeList
  rw [splitAll_intercalate _ _ (by simpa using hne) fun z hz => by
    obtain ⟨x, _, rfl⟩ := List.mem_map.mp hz
    exact (numstr_no x).1]
  exact mapM_except_ok _ _ _ _ fun x hx => parseSingleRange_numstr x (h x hx).numeric (h x hx).le (h x hx).size

theorem tokRanges_bracket (pfx body : List Char) (hp : '[' ∉ pfx) (hb : ']' ∉ body) :
    tokRanges (pfx ++ '[' :: (body ++ [']'])) =
      (parseRangeList body).map fun rs => rs.map fun r => { pfx, lo := r.lo, hi := r.hi, width := r.width, single := false } := by
  unfold tokRanges
  rw [splitOnFirst_hit '[' _ _ hp]
  dsimp only
  rw [splitOnFirst_hit ']' _ _ hb]
  dsimp only
  cases parseRangeList body <;> rfl

theorem tokRanges_plain (t : List Char) (h1 : '[' ∉ t) (h2 : ']' ∉ t) : tokRanges t = .ok [nameRange t] := by
  unfold tokRanges
  rw [splitOnFirst_miss '[' _ h1]
  dsimp only
  rw [if_neg (by simpa using h2)]

theorem expand_lone (r : HostRange) (hwf : r.WF) (hc : ¬ r.cnt > 1) :
    r.expand = [r.pfx ++ numstr r] := by
  unfold HostRange.expand numstr
  unfold HostRange.cnt at hc
  cases hs : r.single with
  | true => simp
  | false =>
    simp only [hs, Bool.false_eq_true, if_false] at hc ⊢
    have := hwf.le hs
    have h1 : r.hi + 1 - r.lo = 1 := by omega
    have h2 : ¬ r.lo < r.hi := by omega
    simp [h1, h2]

theorem tokRanges_group (r : HostRange) (grp : Hostlist) (hr : r.Legal)
    (hg : ∀ x ∈ grp, x.Legal ∧ withinRange r x = true) :
    ∃ rs, tokRanges (groupTok r grp) = .ok rs ∧ HWF rs ∧ expand rs = expand (r :: grp) := by
  have hpl : '[' ∉ r.pfx := not_mem_of_illegal hr.chars rfl
  have hpr : ']' ∉ r.pfx := not_mem_of_illegal hr.chars rfl
  unfold groupTok
  by_cases hb : (decide (r.cnt > 1) || !grp.isEmpty) = true
  · have hmem := group_members r grp hr hg hb
    rw [if_pos hb, tokRanges_bracket _ _ hpl fun h => (numstrs_no_bracket _ _ h).2 rfl,
      parseRangeList_numstr _ (by simp) hmem]
    refine ⟨_, congrArg Except.ok (List.map_map ..), ?_, ?_⟩
    · intro t ht
      obtain ⟨x, hx, rfl⟩ := List.mem_map.mp ht
      exact Or.inr (hmem x hx).le
    · exact expand_map _ fun x hx => (hmem x hx).pfx ▸ specOf_expand x (hmem x hx).numeric
  · have hb' : ¬ r.cnt > 1 ∧ grp = [] := by simpa using hb
    obtain ⟨hc, rfl⟩ := hb'
    rw [if_neg hb, tokRanges_plain _ (fun h => (List.mem_append.mp h).elim hpl (numstr_no r).2.1)
      fun h => (List.mem_append.mp h).elim hpr (numstr_no r).2.2]
    refine ⟨_, rfl, fun t ht => List.mem_singleton.mp ht ▸ (nameRange_WFS _).wf, ?_⟩
    rw [expand_singleton, expand_singleton, nameRange_expand, expand_lone r hr.wf hc]

theorem groupTok_good (r : HostRange) (grp : Hostlist) (hr : r.Legal) : GoodTok (groupTok r grp) := by
  unfold groupTok
  by_cases hb : (decide (r.cnt > 1) || !grp.isEmpty) = true
  · simp only [hb, if_true]
    exact ⟨by simp, r.pfx, List.intercalate [','] ((r :: grp).map numstr), hr.chars, numstrs_no_bracket _, Or.inr rfl⟩
  · simp only [hb, Bool.false_eq_true, if_false]
    refine ⟨?_, r.pfx ++ numstr r, [], ?_, by simp, Or.inl rfl⟩
    · cases hs : r.single with
      | true => have := hr.nonempty hs; simp [this]
      | false =>
        unfold numstr
        simp only [hs, Bool.false_eq_true, if_false]
        have := fmtNum_ne_nil r.width r.lo
        simp [this]
    · intro c hc
      rcases List.mem_append.mp hc with h | h
      · exact hr.chars c h
      · exact numstr_legal r c h

/-! ## all groups -/

theorem rangedGroups_nil : rangedGroups [] = [] := by rw [rangedGroups]

private theorem takeWhile_append_drop {α} (p : α → Bool) : ∀ (l : List α), l.takeWhile p ++ l.drop (l.takeWhile p).length = l
  | [] => rfl
  | x :: l => by
    rw [List.takeWhile_cons]
    split
    · simp only [List.length_cons, List.drop_succ_cons, List.cons_append]
      rw [takeWhile_append_drop p l]
    · rfl

private theorem mem_of_mem_takeWhile' {α} (p : α → Bool) (l : List α) (a : α) (h : a ∈ l.takeWhile p) : a ∈ l :=
  (List.takeWhile_sublist p).subset h

theorem groups_spec : ∀ (hl : Hostlist), LegalHL hl →
    (∀ t ∈ rangedGroups hl, GoodTok t) ∧
    ∃ rss, (rangedGroups hl).mapM tokRanges = .ok rss ∧ HWF rss.flatten ∧ expand rss.flatten = expand hl
  | [], _ => by rw [rangedGroups_nil]; exact ⟨nofun, [], rfl, nofun, rfl⟩
  | r :: rest, hleg => by
    rw [rangedGroups_cons]
    generalize hgrp : rest.takeWhile (withinRange r) = grp
    have hsplit : grp ++ rest.drop grp.length = rest := by rw [← hgrp]; exact takeWhile_append_drop _ _
    have hr : r.Legal := hleg r (by simp)
    have hg : ∀ x ∈ grp, x.Legal ∧ withinRange r x = true := by
      intro x hx
      rw [← hgrp] at hx
      exact ⟨hleg x (by simp [mem_of_mem_takeWhile' _ _ _ hx]), all_of_mem_takeWhile _ _ _ hx⟩
    obtain ⟨ih1, rss, hm, hw, he⟩ := groups_spec (rest.drop grp.length)
      fun x hx => hleg x (by simp [List.mem_of_mem_drop hx])
    obtain ⟨rs, hc, hw1, he1⟩ := tokRanges_group r grp hr hg
    refine ⟨List.forall_mem_cons.mpr ⟨groupTok_good r grp hr, ih1⟩, rs :: rss, by rw [List.mapM_cons, hc, hm]; rfl, ?_, ?_⟩
    · rw [List.flatten_cons]; exact List.forall_mem_append.mpr ⟨hw1, hw⟩
    · rw [List.flatten_cons, expand_append, he, he1, ← expand_append, List.cons_append, hsplit]
termination_by hl => hl.length
decreasing_by simp only [List.length_drop, List.length_cons]; omega

/-- C14 round trip: compressing a list into host-range notation and re-parsing the string yields the same names
    in the same order. -/
theorem roundtrip (hl : Hostlist) (h : LegalHL hl) :
    ∃ hl', create (rangedString hl) = .ok hl' ∧ expand hl' = expand hl := by
  obtain ⟨h1, rss, hm, hw, he⟩ := groups_spec hl h
  refine ⟨_, by rw [create_push, rangedString, tokens_intercalate _ h1, hm]; rfl, ?_⟩
  rw [(expand_foldl_pushRange _ [] HWF_nil hw).1, he]; rfl

theorem roundtrip_HWF (hl hl' : Hostlist) (h : create (rangedString hl) = .ok hl') : HWF hl' := create_HWF _ _ h

/-! ## lists built by pushing names -/

/-- the prefixes of a list built from legal names are legal: each begins a name of the list (`pfx_of_expand`) -/
theorem roundtrip_pushed (names : List Name) (hleg : ∀ n ∈ names, LegalName n)
    (hsz : ∀ r ∈ names.foldl pushHost [], r.cnt ≤ MAX_RANGE) :
    ∃ hl', create (rangedString (names.foldl pushHost [])) = .ok hl' ∧ expand hl' = names := by
  have hwf := foldl_pushHost_HWF names [] HWF_nil
  have he := expand_pushed names
  have hL : LegalHL (names.foldl pushHost []) := fun r hr => by
    obtain ⟨t, ht, hs⟩ := r.pfx_of_expand (hwf r hr)
    have hn := hleg _ (he ▸ mem_expand hr ht)
    exact ⟨hwf r hr, fun c hc => hn.2 c (List.mem_append_left _ hc),
      fun h e => hn.1 (by rw [hs h, e]; rfl), hsz r hr⟩
  obtain ⟨hl', hc, he'⟩ := roundtrip _ hL
  exact ⟨hl', hc, he'.trans he⟩

/-! ## the hypotheses are necessary; non-vacuity -/

instance (r : HostRange) : Decidable r.Legal :=
  if h : (r.single = true ∨ r.lo ≤ r.hi) ∧ (∀ c ∈ r.pfx, legalChar c = true) ∧ (r.single = true → r.pfx ≠ []) ∧
      r.cnt ≤ MAX_RANGE
  then isTrue ⟨h.1, h.2.1, h.2.2.1, h.2.2.2⟩
  else isFalse (fun hl => h ⟨hl.wf, hl.chars, hl.nonempty, hl.size⟩)

instance (n : Name) : Decidable (LegalName n) := by unfold LegalName; exact inferInstance

/-- what pushing `n0 … n16384` builds: one range of 16385 hosts -/
def bigRange : Hostlist := [{ pfx := "n".toList, lo := 0, hi := 16384, width := 1, single := false }]

/-- the pattern on a small scale: consecutive names merge into one range without any bound on its size -/
example : ((List.range 21).map fun i => 'n' :: Nat.toDigits 10 i).foldl pushHost [] =
    [{ pfx := "n".toList, lo := 0, hi := 20, width := 1, single := false }] := by decide +kernel

theorem rangedString_bigRange : rangedString bigRange = "n[0-16384]".toList := by decide +kernel

/-- The `size` hypothesis is necessary.  `hostlist_ranged_string` prints a range of more than 16384 hosts, which
    `hostlist_create` then refuses (`_parse_single_range`: "Too many hosts in range", `ERANGE`): the library cannot
    read back its own output. -/
theorem roundtrip_counterexample : create (rangedString bigRange) = .error .erange := by decide +kernel

/-- every other hypothesis of `roundtrip` holds of `bigRange` -/
example : ∀ r ∈ bigRange, (r.single = true ∨ r.lo ≤ r.hi) ∧ (∀ c ∈ r.pfx, legalChar c = true) ∧
    (r.single = true → r.pfx ≠ []) := by unfold bigRange; decide +kernel

/-- The `chars` hypothesis is necessary: `hostlist_push_host` accepts a name holding a separator, the printed string
    then splits into two names. -/
theorem roundtrip_chars_counterexample :
    expand (pushHost [] "a,b".toList) = ["a,b".toList] ∧
    (create (rangedString (pushHost [] "a,b".toList))).map expand = .ok ["a".toList, "b".toList] := by decide +kernel

/-- The `nonempty` hypothesis is necessary: the empty name prints as the empty string, which holds no name. -/
theorem roundtrip_nonempty_counterexample :
    expand (pushHost [] []) = [[]] ∧ create (rangedString (pushHost [] [])) = .ok [] := by decide +kernel

/-- a list with a bracketed group of two ranges (one padded to width 2, crossing 9 → 10), a single name, and a
    lone padded number -/
def sampleHL : Hostlist :=
  [ { pfx := "n".toList, lo := 8, hi := 10, width := 2, single := false },
    { pfx := "n".toList, lo := 20, hi := 20, width := 2, single := false },
    { pfx := "login".toList, lo := 0, hi := 0, width := 0, single := true },
    { pfx := "gpu".toList, lo := 7, hi := 7, width := 3, single := false } ]

/-- the hypothesis of `roundtrip` is satisfiable on a non-trivial list -/
theorem sampleHL_legal : LegalHL sampleHL := by unfold LegalHL sampleHL; decide +kernel
example : LegalHL sampleHL := sampleHL_legal

theorem rangedString_sampleHL : rangedString sampleHL = "n[08-10,20],login,gpu007".toList := by decide +kernel
example : rangedString sampleHL = "n[08-10,20],login,gpu007".toList := rangedString_sampleHL

example : create (rangedString sampleHL) = .ok
    [ { pfx := "n".toList, lo := 8, hi := 10, width := 2, single := false },
      { pfx := "n".toList, lo := 20, hi := 20, width := 2, single := false },
      { pfx := "login".toList, lo := 0, hi := 0, width := 0, single := true },
      { pfx := "gpu".toList, lo := 7, hi := 7, width := 3, single := false } ] := by decide +kernel

example : (create (rangedString sampleHL)).map expand = .ok (expand sampleHL) := by decide +kernel

/-- the re-parsed list need not be the same list of ranges (here the width 1 comes back as 2, the width of the printed
    `lo`), only the same names: this is why `roundtrip` speaks of `expand` -/
example : create (rangedString [{ pfx := "n".toList, lo := 10, hi := 12, width := 1, single := false }]) =
    .ok [{ pfx := "n".toList, lo := 10, hi := 12, width := 2, single := false }] := by decide +kernel

/-- the hypotheses of `roundtrip_pushed` are satisfiable on a non-trivial list of names -/
def sampleNames : List Name :=
  ["n08".toList, "n09".toList, "n10".toList, "n20".toList, "login".toList, "gpu007".toList, "n21".toList]

theorem sampleNames_legal :
    (∀ n ∈ sampleNames, LegalName n) ∧ (∀ r ∈ sampleNames.foldl pushHost [], r.cnt ≤ MAX_RANGE) := by
  unfold sampleNames; decide +kernel
example : (∀ n ∈ sampleNames, LegalName n) ∧ (∀ r ∈ sampleNames.foldl pushHost [], r.cnt ≤ MAX_RANGE) := sampleNames_legal

example : rangedString (sampleNames.foldl pushHost []) = "n[08-10,20],login,gpu007,n21".toList := by decide +kernel

end Pm
