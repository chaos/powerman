import Pm.QueryCell
import Pm.RunXE2E
/-! # The writes of a run, and what a query's arglist holds when its reply is built

The write events of `Pm/QueryEv.lean` along the device phase of a pass and along a run (`runX` of `Pm/RunX.lean`): each ghost is a
function of exactly the arguments of the model function it shadows, each event is stamped with the name of the device whose turn
produced it.  The store after is the store before with the writes applied in order, and for one arglist only the writes to that
arglist count; a command accepted in the client phase starts from a fresh arglist; every write to an arglist is the write of an
action of the client that owns it. -/
namespace Pm.Daemon.QRun
open Pm Pm.Client Pm.Daemon
open Pm.Daemon.Reply (cliOf withStore entriesOf freshArgs distinctOf ByteName)
open Pm.Daemon.Isolation (Iso IdsFresh ArgScope worldAt ids)
open Pm.Dev2 (Keys)
open Pm.Daemon.E2E
open Pm.Dev2 (Dev Action ActErr Oracle cell RxCall Plug)
open Pm.Dev2.QEv

/-! ## the writes of the device phase -/

/-- the writes of device `nd`'s own share of `dev_post_poll`, stamped with the device's name -/
def devStepEv (p : PassIn) (w : W) (o : Oracle) (nd : Bytes × Dev) : List WEv :=
  (postPollEv { nd.2 with args := w.store } (devEnv p w nd) o).map fun ev => { ev with dev := nd.1 }

/-- the writes of device `nd`'s turn; none once the pass is dead -/
def devPassEv (p : PassIn) (a : DevAcc) (nd : Bytes × Dev) : List WEv := if a.dead then [] else devStepEv p a.w a.oracle nd

theorem devStep_store (p : PassIn) (w : W) (o : Oracle) (nd : Bytes × Dev) :
    (devStep p w o nd).1.dev.args = (devStepEv p w o nd).foldl applyStore w.store := by
  unfold devStep devStepEv
  rw [postPoll_args, foldl_applyStore_dev]

theorem devPass_store (p : PassIn) (a : DevAcc) (nd : Bytes × Dev) :
    (devPass p a nd).w.store = (devPassEv p a nd).foldl applyStore a.w.store := by
  unfold devPassEv
  cases hd : a.dead with
  | true => rw [devPass_dead _ _ _ hd]; rfl
  | false =>
    rw [devPass_store_eq _ _ _ hd, devStep_store]
    rfl

/-- the writes of the device phase, device by device in configuration order -/
def foldEv (p : PassIn) : DevAcc → List (Bytes × Dev) → List WEv
  | _, [] => []
  | a, nd :: r => devPassEv p a nd ++ foldEv p (devPass p a nd) r

theorem foldl_devPass_store (p : PassIn) (l : List (Bytes × Dev)) (a : DevAcc) :
    (l.foldl (devPass p) a).w.store = (foldEv p a l).foldl applyStore a.w.store := by
  induction l generalizing a with
  | nil => rfl
  | cons nd r ih => rw [List.foldl_cons, ih, foldEv, List.foldl_append, devPass_store]

/-- the writes of a pass (all in its device phase: the client phase writes no cell, it only opens fresh arglists) -/
def passEv (w : W) (p : PassIn) : List WEv :=
  if (cliPostPoll w p.acc p.envs).exited then []
  else foldEv p (acc0 (cliPostPoll w p.acc p.envs)) (cliPostPoll w p.acc p.envs).devs

theorem daemonPass_store (w : W) (p : PassIn) :
    (daemonPass w p).1.store = (passEv w p).foldl applyStore (cliPostPoll w p.acc p.envs).store := by
  rw [daemonPass_world]; unfold devPhase
  unfold passEv
  dsimp only
  split
  · rfl
  · exact foldl_devPass_store p _ _

/-! ## the client phase: arglists already opened are not touched -/

theorem cliAccept_store (w : W) (acc : Nat) : (ClientPf.cliAccept w acc).store = w.store ∧ (ClientPf.cliAccept w acc).alNext = w.alNext := by
  obtain ⟨_, _, _, _, _, _, e⟩ := cliAccept_shape w acc
  rw [e]; exact ⟨rfl, rfl⟩

theorem lookup_cons_ne {s : List (Nat × List Pm.Dev2.Arg)} {A id : Nat} {args : List Pm.Dev2.Arg} (h : A ≠ id) : ((id, args) :: s).lookup A = s.lookup A := by
  have : (A == id) = false := by simp [h]
  rw [List.lookup_cons, this]

theorem cliStep_lookup (envs : List FdEnv) (w : W) (c0 : Cli) (A : Nat) (hA : A < w.alNext) :
    (ClientPf.cliStep envs w c0).store.lookup A = w.store.lookup A ∧ A < (ClientPf.cliStep envs w c0).alNext := by
  rcases cliStep_world envs w c0 with ⟨_, h1, h2⟩ | ⟨args, _, _, _, _, h1, h2⟩
  · rw [h1, h2]; exact ⟨rfl, hA⟩
  · rw [h1, h2]; exact ⟨lookup_cons_ne (by omega), by omega⟩

theorem cliPostPoll_lookup (w : W) (acc : Nat) (envs : List FdEnv) (A : Nat) (hA : A < w.alNext) :
    (cliPostPoll w acc envs).store.lookup A = w.store.lookup A ∧ A < (cliPostPoll w acc envs).alNext := by
  refine cliPostPoll_induct (fun x => x.store.lookup A = w.store.lookup A ∧ A < x.alNext) w acc envs ?_ ?_
  · obtain ⟨h1, h2⟩ := cliAccept_store { w with sys := [], caps := envs.map fun (e : FdEnv) => (e.fd, e.cap) } acc
    rw [h1, h2]; exact ⟨rfl, hA⟩
  · intro x hx c0 _
    obtain ⟨h1, h2⟩ := cliStep_lookup envs x c0 A hx.2
    exact ⟨h1.trans hx.1, h2⟩

theorem storeArgs_eq_cell (w : W) (A : Nat) : storeArgs w A = cell w.store A := rfl

theorem daemonPass_cell (w : W) (p : PassIn) (A : Nat) (hA : A < w.alNext) :
    storeArgs (daemonPass w p).1 A = ((passEv w p).filter fun ev => ev.al == A).foldl applyEv (storeArgs w A) := by
  rw [storeArgs_eq_cell, storeArgs_eq_cell, daemonPass_store, cell_foldl_applyStore]
  unfold cell
  rw [(cliPostPoll_lookup w p.acc p.envs A hA).1]

theorem devPhase_cell (w : W) (p : PassIn) (A : Nat) :
    storeArgs (daemonPass w p).1 A = ((passEv w p).filter fun ev => ev.al == A).foldl applyEv (storeArgs (cliPostPoll w p.acc p.envs) A) := by
  rw [storeArgs_eq_cell, storeArgs_eq_cell, daemonPass_store, cell_foldl_applyStore]

/-! ## runs in which every pass brings its regex answers -/

/-- the writes of a run, in order -/
def runEvX : W → List PassX → List WEv
  | _, [] => []
  | w, q :: qs => passEv (feed w q.rx) q.p ++ runEvX (stepX w q) qs

theorem runEvX_append (w : W) (qs rs : List PassX) : runEvX w (qs ++ rs) = runEvX w qs ++ runEvX (runX w qs) rs := by
  induction qs generalizing w with
  | nil => rfl
  | cons q qs ih => rw [List.cons_append, runEvX, runEvX, ih, runX_cons, List.append_assoc]

theorem runX_cell (w : W) (qs : List PassX) (A : Nat) (h : Inv w) (ha : AliveX w qs) (hA : A < w.alNext) :
    storeArgs (runX w qs) A = ((runEvX w qs).filter fun ev => ev.al == A).foldl applyEv (storeArgs w A) := by
  induction qs generalizing w with
  | nil => rfl
  | cons q qs ih =>
    rw [runX_cons, ih _ (stepX_inv w q h ha.1) ha.2 (Nat.lt_of_lt_of_le hA (stepX_alNext w q h)), runEvX, List.filter_append,
      List.foldl_append]
    congr 1
    exact daemonPass_cell (feed w q.rx) q.p A hA

/-! ## a command accepted in the client phase starts from a fresh arglist -/

/-- one turn of the loop of `cli_post_poll`, seen from client `g`: the arglist of `g`'s command is fresh if the command
    was accepted in this turn, and untouched if it was there before -/
theorem cliStep_fresh_cells (envs : List FdEnv) (g : Nat) (lo : Nat) (w : W) (c0 : Cli) (hI : Inv w) (hc0 : c0 ∈ w.clients)
    (hlo : lo ≤ w.alNext)
    (h : ∀ c k, cliRec w g = some c → c.cmd = some k → storeArgs w k.al = freshArgs (k.names.map ofChars) ∧ lo ≤ k.al) :
    lo ≤ (ClientPf.cliStep envs w c0).alNext ∧
    ∀ c k, cliRec (ClientPf.cliStep envs w c0) g = some c → c.cmd = some k →
      storeArgs (ClientPf.cliStep envs w c0) k.al = freshArgs (k.names.map ofChars) ∧ lo ≤ k.al := by
  refine ⟨Nat.le_trans hlo (cliStep_alNext envs w c0), ?_⟩
  intro c k hc hk
  rcases cliStep_view envs g w c0 hI hc0 with e | ⟨_, hrec0, hn | ⟨c1, hc1, hself, hst, _⟩⟩
  · rw [e] at hc
    obtain ⟨h1, h2⟩ := h c k hc hk
    refine ⟨?_, h2⟩
    unfold storeArgs
    rw [(cliStep_lookup envs w c0 k.al (hI.1.2.cmds g c k hc hk)).1]
    exact h1
  · rw [hn] at hc; cases hc
  · rw [hself] at hc; cases hc
    unfold storeArgs
    rw [hst]
    rcases (ClientPf.clientPass_inst w c0 _ c hc1).2 with ⟨_, hstore, _, hcmd⟩ | ⟨_, com, names, tele, _, _, hcmd, _, hstore, _⟩
    · rw [hstore]; exact h c0 k hrec0 (hcmd ▸ hk)
    · rw [hcmd] at hk; cases hk
      rw [hstore]
      simp only [List.lookup_cons, beq_self_eq_true, Option.getD_some]
      exact ⟨trivial, hlo⟩

/-- **a command accepted in this pass starts from nothing**: if client `g` has no command (or is not there yet) when the
    pass begins, then whatever command `k` it has when the client phase is over has an arglist id not yet handed out when the
    pass began, and that arglist holds exactly `freshArgs` of `k`'s own target list — one element per distinct target,
    state unknown, no result, no value -/
theorem cliPostPoll_fresh_cells (w : W) (acc : Nat) (envs : List FdEnv) (g : Nat) (h : Inv w)
    (hidle : ∀ c k, cliRec w g = some c → c.cmd = some k → False) :
    ∀ c k, cliRec (cliPostPoll w acc envs) g = some c → c.cmd = some k →
      storeArgs (cliPostPoll w acc envs) k.al = freshArgs (k.names.map ofChars) ∧ w.alNext ≤ k.al := by
  have := cliPostPoll_with_inv w acc envs (fun x => w.alNext ≤ x.alNext ∧ ∀ c k, cliRec x g = some c → c.cmd = some k →
      storeArgs x k.al = freshArgs (k.names.map ofChars) ∧ w.alNext ≤ k.al) h ?_ ?_
  · exact this.2
  · refine ⟨by rw [(cliAccept_store _ acc).2]; exact Nat.le_refl _, ?_⟩
    intro c k hc hk
    have := cliAccept_rec_cmd _ acc g c k hc hk
    exact (hidle c k this hk).elim
  · intro x c0 hI hx hc0
    exact cliStep_fresh_cells envs g w.alNext x c0 hI hc0 hx.1 hx.2

/-! ## where the writes of a run come from -/

/-- the static part of the device table: names and plug lists (no pass changes it) -/
def plugsOf (devs : List (Bytes × Dev)) : List (Bytes × List Plug) := devs.map fun nd => (nd.1, nd.2.plugs)

/-- the event was produced by the turn of a device of the table `cfg` (it carries that device's name), by a
    `setplugstate` / `setresult` statement executed in a state of that device (its own plug list) for an action whose
    client id and arglist id satisfy `S` -/
def EvAt (cfg : List (Bytes × List Plug)) (S : Nat → Nat → Prop) (ev : WEv) : Prop :=
  ∃ x ∈ cfg, ev.dev = x.1 ∧ EvOK x.2 S { ev with dev := [] }

theorem stmtEv_dev_nil {d : Dev} {a : Action} {o : Oracle} {ev : WEv} (h : ev ∈ stmtEv d a o) : { ev with dev := [] } = ev := by
  obtain ⟨_, _, _, _, hdev, _⟩ := mem_stmtEv h
  cases ev
  cases hdev
  rfl

theorem devStepEv_at (S : Nat → Nat → Prop) (h0 : S 0 0) (p : PassIn) (w : W) (o : Oracle) (nd : Bytes × Dev)
    (hk : Keys S nd.2.acts) : ∀ ev ∈ devStepEv p w o nd, ev.dev = nd.1 ∧ EvOK nd.2.plugs S { ev with dev := [] } := by
  intro ev hev
  unfold devStepEv at hev
  obtain ⟨ev0, h0', rfl⟩ := List.mem_map.mp hev
  refine ⟨rfl, ?_⟩
  obtain ⟨d, a, o', hp, hs, hm⟩ := postPollEv_ok S h0 { nd.2 with args := w.store } (devEnv p w nd) o hk ev0 h0'
  refine ⟨d, a, o', hp, hs, ?_⟩
  have := stmtEv_dev_nil hm
  rw [show ({ ({ ev0 with dev := nd.1 } : WEv) with dev := [] } : WEv) = { ev0 with dev := [] } from rfl, this]
  exact hm

theorem foldEv_at (S : Nat → Nat → Prop) (h0 : S 0 0) (p : PassIn) : ∀ (l : List (Bytes × Dev)) (a : DevAcc),
    (∀ nd ∈ l, Keys S nd.2.acts) → ∀ ev ∈ foldEv p a l, EvAt (plugsOf l) S ev := by
  intro l
  induction l with
  | nil => intro a _ ev hev; cases hev
  | cons nd r ih =>
    intro a hk ev hev
    rw [foldEv] at hev
    rcases List.mem_append.mp hev with h | h
    · unfold devPassEv at h
      split at h
      · cases h
      · obtain ⟨h1, h2⟩ := devStepEv_at S h0 p a.w a.oracle nd (hk nd (by simp)) ev h
        exact ⟨(nd.1, nd.2.plugs), by simp [plugsOf], h1, h2⟩
    · obtain ⟨x, hx, h1, h2⟩ := ih (devPass p a nd) (fun y hy => hk y (by simp [hy])) ev h
      exact ⟨x, by simp only [plugsOf, List.map_cons, List.mem_cons]; exact Or.inr hx, h1, h2⟩

/-- the writes of a pass come from the queues as the client phase left them -/
theorem passEv_at (S : Nat → Nat → Prop) (h0 : S 0 0) (w : W) (p : PassIn)
    (hk : ∀ nd ∈ (cliPostPoll w p.acc p.envs).devs, Keys S nd.2.acts) :
    ∀ ev ∈ passEv w p, EvAt (plugsOf (cliPostPoll w p.acc p.envs).devs) S ev := by
  intro ev hev
  unfold passEv at hev
  split at hev
  · cases hev
  · exact foldEv_at S h0 p _ _ hk ev hev

/-! ### the static part does not change -/

theorem cliAccept_devs (w : W) (acc : Nat) : (ClientPf.cliAccept w acc).devs = w.devs := by
  obtain ⟨_, _, _, _, _, _, e⟩ := cliAccept_shape w acc
  rw [e]

theorem plugsOf_installDev (com : Nat) (bn : List Bytes) (cid : Nat) (tele : Bool) (al : Nat) (devs : List (Bytes × Dev)) :
    plugsOf (devs.map (Enq.installDev com bn cid tele al)) = plugsOf devs := by
  unfold plugsOf
  rw [List.map_map]
  apply List.map_congr_left
  intro nd _
  simp only [Function.comp_apply]
  rw [(Enq.installDev_spec com bn cid tele al nd).1]
  rfl

theorem cliStep_plugsOf (envs : List FdEnv) (w : W) (c0 : Cli) : plugsOf (ClientPf.cliStep envs w c0).devs = plugsOf w.devs := by
  rcases cliStep_world envs w c0 with ⟨h, _⟩ | ⟨_, com, bn, tele, h, _⟩
  · rw [h]
  · rw [h, plugsOf_installDev]

theorem cliPostPoll_plugsOf (w : W) (acc : Nat) (envs : List FdEnv) : plugsOf (cliPostPoll w acc envs).devs = plugsOf w.devs :=
  cliPostPoll_induct (fun x => plugsOf x.devs = plugsOf w.devs) w acc envs (by rw [cliAccept_devs])
    (fun x hx c0 _ => (cliStep_plugsOf envs x c0).trans hx)

theorem daemonPass_plugsOf (w : W) (p : PassIn) : plugsOf (daemonPass w p).1.devs = plugsOf w.devs := by
  refine daemonPass_keeps (fun u => plugsOf u.devs = plugsOf w.devs) (fun a nd rest _ h => ?_) (fun _ _ h => h) w
    (cliPostPoll_plugsOf w p.acc p.envs)
  obtain ⟨d', hdevs, hplugs, _⟩ := devPass_devs p a nd
  show plugsOf ((devPass p a nd).devs ++ rest) = _
  rw [hdevs, ← h]
  simp [plugsOf, worldAt, hplugs]

/-! ### an arglist id stays with its client -/

/-- every queued action that carries the arglist id `A` is an action of client `g` -/
def OwnQ (g A : Nat) (devs : List (Bytes × Dev)) : Prop := ∀ nd ∈ devs, Keys (fun cid al => al = A → cid = g) nd.2.acts

theorem cliStep_ownQ (envs : List FdEnv) (g A : Nat) (w : W) (c0 : Cli) (hA : A < w.alNext) (h : OwnQ g A w.devs) :
    OwnQ g A (ClientPf.cliStep envs w c0).devs := by
  rcases cliStep_world envs w c0 with ⟨e, _⟩ | ⟨_, com, bn, tele, e, _⟩
  · rw [e]; exact h
  · rw [e]
    intro nd' hnd' a ha hal
    obtain ⟨nd, hnd, rfl⟩ := List.mem_map.mp hnd'
    rcases Isolation.installDev_acts com bn c0.id tele w.alNext nd a ha with h1 | ⟨_, h2, _⟩
    · exact h nd hnd a h1 hal
    · omega

theorem cliPostPoll_ownQ (w : W) (acc : Nat) (envs : List FdEnv) (g A : Nat) (hA : A < w.alNext) (h : OwnQ g A w.devs) :
    OwnQ g A (cliPostPoll w acc envs).devs :=
  (cliPostPoll_induct (fun x => A < x.alNext ∧ OwnQ g A x.devs) w acc envs
    (by rw [cliAccept_devs, (cliAccept_store _ acc).2]; exact ⟨hA, h⟩)
    (fun x hx c0 _ => ⟨(cliStep_lookup envs x c0 A hx.1).2, cliStep_ownQ envs g A x c0 hx.1 hx.2⟩)).2

theorem devPhase_ownQ (g A : Nat) (hA : A ≠ 0) (w : W) (p : PassIn) (h : OwnQ g A (cliPostPoll w p.acc p.envs).devs) :
    OwnQ g A (daemonPass w p).1.devs :=
  daemonPass_keeps (fun u => OwnQ g A u.devs)
    (fun a nd rest _ h => Isolation.worldAt_devPass_keys _ (fun e => absurd e.symm hA) p a nd rest h) (fun _ _ h => h) w h

theorem daemonPass_ownQ (g A : Nat) (hA : A ≠ 0) (w : W) (p : PassIn) (hlt : A < w.alNext) (h : OwnQ g A w.devs) :
    OwnQ g A (daemonPass w p).1.devs :=
  devPhase_ownQ g A hA w p (cliPostPoll_ownQ w p.acc p.envs g A hlt h)

theorem ownQ_of_cmd (w : W) (g : Nat) (c : Cli) (k : CmdC) (h : Inv w) (hc : cliRec w g = some c) (hk : c.cmd = some k) :
    OwnQ g k.al w.devs := by
  intro nd hnd a ha hal
  by_cases h0 : a.clientId = 0
  · have := h.1.2.internal nd hnd a ha h0
    have hp := h.2.alpos g c k hc hk
    omega
  · exact h.1.2.owned g c k hc hk nd hnd a ha h0 hal

/-- **every write of a run to arglist `A` is the write of an action of client `g`**, made by a `setplugstate` / `setresult`
    statement in the turn of a device of the configuration — provided `A` has been handed out, and belongs to `g`, when the
    run begins -/
theorem runEvX_at (g A : Nat) (hA : A ≠ 0) : ∀ (qs : List PassX) (w : W), Inv w → AliveX w qs → A < w.alNext → OwnQ g A w.devs →
    ∀ ev ∈ runEvX w qs, EvAt (plugsOf w.devs) (fun cid al => al = A → cid = g) ev := by
  intro qs
  induction qs with
  | nil => intro w _ _ _ _ ev hev; cases hev
  | cons q qs ih =>
    intro w hI ha hlt hown ev hev
    rw [runEvX] at hev
    have hI' := feed_inv q.rx hI
    rcases List.mem_append.mp hev with h | h
    · have := passEv_at (fun cid al => al = A → cid = g) (fun e => absurd e.symm hA) (feed w q.rx) q.p
        (cliPostPoll_ownQ (feed w q.rx) q.p.acc q.p.envs g A hlt hown) ev h
      rw [cliPostPoll_plugsOf] at this
      exact this
    · have := ih (stepX w q) (stepX_inv w q hI ha.1) ha.2 (Nat.lt_of_lt_of_le hlt (stepX_alNext w q hI))
        (daemonPass_ownQ g A hA (feed w q.rx) q.p hlt hown) ev h
      rw [show plugsOf (stepX w q).devs = plugsOf w.devs from daemonPass_plugsOf (feed w q.rx) q.p] at this
      exact this

end Pm.Daemon.QRun

section AxiomChecks
open Pm.Daemon.QRun
/-- info: 'Pm.Daemon.QRun.runEvX_at' depends on axioms: [propext, Classical.choice, Quot.sound] -/
#guard_msgs in #print axioms runEvX_at
/-- info: 'Pm.Daemon.QRun.cliPostPoll_fresh_cells' depends on axioms: [propext, Classical.choice, Quot.sound] -/
#guard_msgs in #print axioms cliPostPoll_fresh_cells
/-- info: 'Pm.Daemon.QRun.runX_cell' depends on axioms: [propext, Classical.choice, Quot.sound] -/
#guard_msgs in #print axioms runX_cell
/-- info: 'Pm.Daemon.QRun.daemonPass_store' depends on axioms: [propext, Classical.choice, Quot.sound] -/
#guard_msgs in #print axioms daemonPass_store
end AxiomChecks
