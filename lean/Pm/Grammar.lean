import Pm.LexModel
import Pm.Generated.Tables
/-! # The configuration grammar (`parse_tab.y`) and the token level of `parse_lex.l` (C18, C17)

Hand-written, executable, total model of

* §1 the `%token` list of `src/powerman/parse_tab.y` (`Token`);
* §2 the token level of `src/powerman/parse_lex.l`: the rules of start condition `INITIAL` (comments, blanks, newlines with the
     line counter, the three numeric token classes, `$`, the keyword rules in rule order, `plug[ \t]+name`, `{ } =`, the
     catch-all `.` → `TOK_UNRECOGNIZED`), flex's longest-match / first-rule choice, start condition `lex_incl` (the include
     directive, with the include stack of `LexModel` §2 as a budget), and start condition `lex_str` by `strGo`, which is
     `LexModel.go` (string bodies) with the buffer kept at the end of the input (`GrammarLexProof.strGo_forget`).  Every token carries the scanner position `scanner_file()::scanner_line()` as it is
     right after the token was matched — what a diagnostic prints while that token is bison's look-ahead;
* §3 the grammar: an LL(1) parser on token lists, fuel = number of tokens + 1, accepting exactly the language of the bison
     grammar (all of it: `config_item`s in any order and number, also none; `spec_item`s in any order and number, at least one;
     non-empty `stmt_list`s, `string_list`s and interpretation lists; the three argument forms of `setplugstate`, each with an
     optional `on=`/`off=` list; `setresult` with its mandatory `success=` list; `tcpwrappers` with optional `yes|no`; `device`
     with 3 or 4 strings; `node` with 2 or 3), reporting the index of the first token that cannot continue a sentence (bison's
     LALR(1) automaton has the correct-prefix property, so that is the token at which `yyerror` is called), and producing the
     `Ast` and — in the order in which bison runs them — the *log* of semantic-action calls with, for each, the number of
     tokens the scanner had delivered when the action ran (`rd`: bison reads a look-ahead token only where a construct has an
     optional continuation — bare `tcpwrappers`, `node` with 2 strings, `device` with 3, every `setplugstate` and `setresult`,
     the end of a script list; everywhere else it reduces without one, which is why a diagnostic of an action names sometimes the line of the
     construct's last token and sometimes the line of the token after it).

Compared with the real flex/bison output (regenerated from the working tree, `harness/u_gramdump.c`) by `lib/gramlayer.py`
through the driver `GrMain.lean` on every run.  An included file that ends inside a string literal or inside an include
directive is modelled (flex keeps the start condition and `string_buf` across the `<<EOF>>` pop: `SC`).  NOT modelled: bison's
parser stack limit (`YYMAXDEPTH` = 10000 entries, two or three per nested block: nesting beyond ≈ 3300-5000 levels is a "parse
error" although the sentence is in the language), and a directory named by an include directive (`fopen` succeeds, the first
read fails: flex exits 2 with "input in flex scanner failed"; here: a missing file). -/
namespace Pm.Grammar
open Pm.LexModel

abbrev Bytes := List UInt8

/-! ## 1. tokens -/

/-- the `%token` list of `parse_tab.y`, in its order; the two tokens with a semantic value carry it -/
inductive Token where
  -- script names
  | login | logout | status | statusAll | statusTemp | statusTempAll | statusBeacon | statusBeaconAll
  | beaconOn | beaconOnRanged | beaconOff | beaconOffRanged
  | on | onRanged | onAll | off | offRanged | offAll | cycle | cycleRanged | cycleAll
  | reset | resetRanged | resetAll | ping | spec
  -- script statements
  | expect | setplugstate | setresult | send | delay | foreachplug | foreachnode | ifoff | ifon
  -- other device configuration stuff (the first four are declared, never produced by the lexer, never used by the grammar)
  | offString | onString | maxPlugCount | timeout | devTimeout | pingPeriod | plugName | script
  -- powerman.conf stuff
  | device | node | alias | tcpWrappers | listen | plugLogLevel
  -- general
  | matchpos | stringVal (s : Bytes) | numericVal (s : Bytes) | yes | no
  | begin_ | end_ | unrecognized | equals | success
deriving DecidableEq, Repr, Inhabited

/-- the name in the `%token` list -/
def Token.name : Token → String
  | .login => "TOK_LOGIN" | .logout => "TOK_LOGOUT" | .status => "TOK_STATUS" | .statusAll => "TOK_STATUS_ALL"
  | .statusTemp => "TOK_STATUS_TEMP" | .statusTempAll => "TOK_STATUS_TEMP_ALL" | .statusBeacon => "TOK_STATUS_BEACON"
  | .statusBeaconAll => "TOK_STATUS_BEACON_ALL" | .beaconOn => "TOK_BEACON_ON" | .beaconOnRanged => "TOK_BEACON_ON_RANGED"
  | .beaconOff => "TOK_BEACON_OFF" | .beaconOffRanged => "TOK_BEACON_OFF_RANGED" | .on => "TOK_ON" | .onRanged => "TOK_ON_RANGED"
  | .onAll => "TOK_ON_ALL" | .off => "TOK_OFF" | .offRanged => "TOK_OFF_RANGED" | .offAll => "TOK_OFF_ALL" | .cycle => "TOK_CYCLE"
  | .cycleRanged => "TOK_CYCLE_RANGED" | .cycleAll => "TOK_CYCLE_ALL" | .reset => "TOK_RESET" | .resetRanged => "TOK_RESET_RANGED"
  | .resetAll => "TOK_RESET_ALL" | .ping => "TOK_PING" | .spec => "TOK_SPEC" | .expect => "TOK_EXPECT"
  | .setplugstate => "TOK_SETPLUGSTATE" | .setresult => "TOK_SETRESULT" | .send => "TOK_SEND" | .delay => "TOK_DELAY"
  | .foreachplug => "TOK_FOREACHPLUG" | .foreachnode => "TOK_FOREACHNODE" | .ifoff => "TOK_IFOFF" | .ifon => "TOK_IFON"
  | .offString => "TOK_OFF_STRING" | .onString => "TOK_ON_STRING" | .maxPlugCount => "TOK_MAX_PLUG_COUNT" | .timeout => "TOK_TIMEOUT"
  | .devTimeout => "TOK_DEV_TIMEOUT" | .pingPeriod => "TOK_PING_PERIOD" | .plugName => "TOK_PLUG_NAME" | .script => "TOK_SCRIPT"
  | .device => "TOK_DEVICE" | .node => "TOK_NODE" | .alias => "TOK_ALIAS" | .tcpWrappers => "TOK_TCP_WRAPPERS" | .listen => "TOK_LISTEN"
  | .plugLogLevel => "TOK_PLUG_LOG_LEVEL" | .matchpos => "TOK_MATCHPOS" | .stringVal _ => "TOK_STRING_VAL"
  | .numericVal _ => "TOK_NUMERIC_VAL" | .yes => "TOK_YES" | .no => "TOK_NO" | .begin_ => "TOK_BEGIN" | .end_ => "TOK_END"
  | .unrecognized => "TOK_UNRECOGNIZED" | .equals => "TOK_EQUALS" | .success => "TOK_SUCCESS"

/-! ## 2. the token level of the lexer -/

/-- the literal rules of `parse_lex.l` between the string rules and `include`, in rule order -/
def kwTable : List (String × Token) :=
  [("listen", .listen), ("tcpwrappers", .tcpWrappers), ("plug_log_level", .plugLogLevel), ("timeout", .devTimeout),
   ("pingperiod", .pingPeriod), ("specification", .spec), ("expect", .expect), ("setplugstate", .setplugstate),
   ("setresult", .setresult), ("foreachnode", .foreachnode), ("foreachplug", .foreachplug), ("ifoff", .ifoff), ("ifon", .ifon),
   ("send", .send), ("delay", .delay), ("login", .login), ("logout", .logout), ("status", .status), ("status_all", .statusAll),
   ("on", .on), ("on_ranged", .onRanged), ("on_all", .onAll), ("off", .off), ("off_ranged", .offRanged), ("off_all", .offAll),
   ("cycle", .cycle), ("cycle_ranged", .cycleRanged), ("cycle_all", .cycleAll), ("reset", .reset), ("reset_ranged", .resetRanged),
   ("reset_all", .resetAll), ("ping", .ping), ("status_temp", .statusTemp), ("status_temp_all", .statusTempAll),
   ("status_beacon", .statusBeacon), ("status_beacon_all", .statusBeaconAll), ("beacon_on", .beaconOn),
   ("beacon_on_ranged", .beaconOnRanged), ("beacon_off", .beaconOff), ("beacon_off_ranged", .beaconOffRanged), ("device", .device),
   -- `plug[ \t]+name` stands here (`Rule.plugName`)
   ("node", .node), ("yes", .yes), ("no", .no), ("success", .success), ("{", .begin_), ("}", .end_), ("=", .equals),
   ("script", .script), ("alias", .alias)]

def kwBytes : List (Bytes × Token) := kwTable.map fun p => (p.1.toUTF8.toList, p.2)

/-- what the action of the matched rule does -/
inductive Rule where
  | comment            -- `#[^\n]*\n`        linenum++
  | blanks             -- `[ \t\r]+`
  | newline            -- `[\n]`             linenum++
  | number             -- `([0-9]+)|([0-9]+"."[0-9]*)|("."[0-9]+)`   return TOK_NUMERIC_VAL
  | dollar             -- `\$`               return TOK_MATCHPOS
  | quote              -- `\"`               BEGIN(lex_str)
  | kw (t : Token)     -- a literal rule     return t
  | incl               -- `include`          BEGIN(lex_incl)
  | any                -- `.`                return TOK_UNRECOGNIZED
deriving Repr

def isBlank (c : UInt8) : Bool := c = 0x20 || c = 0x09 || c = 0x0d
def isSpTab (c : UInt8) : Bool := c = 0x20 || c = 0x09

/-- length of the match of `#[^\n]*\n` (0: no match — in particular a comment that is not ended by a newline) -/
def commentLen (r : Bytes) : Nat :=
  match r with
  | 0x23 :: _ =>
    let k := (r.takeWhile (· != 0x0a)).length
    match r.drop k with
    | [] => 0
    | _ :: _ => k + 1
  | _ => 0

/-- length of the longest match of `([0-9]+)|([0-9]+"."[0-9]*)|("."[0-9]+)` -/
def numLen (r : Bytes) : Nat :=
  let a := (r.takeWhile isDigit).length
  match r.drop a with
  | 0x2e :: f => let b := (f.takeWhile isDigit).length; if a = 0 ∧ b = 0 then 0 else a + 1 + b
  | _ => a

/-- length of the match of `plug[ \t]+name` -/
def plugNameLen (r : Bytes) : Nat :=
  if "plug".toUTF8.toList.isPrefixOf r then
    let b := ((r.drop 4).takeWhile isSpTab).length
    if b > 0 ∧ "name".toUTF8.toList.isPrefixOf (r.drop (4 + b)) then 4 + b + 4 else 0
  else 0

def litLen (k r : Bytes) : Nat := if k.isPrefixOf r then k.length else 0

/-- every rule of start condition `INITIAL` with the length of its match at `r`, in the order of the rules in `parse_lex.l` -/
def candidates (r : Bytes) : List (Nat × Rule) :=
  [(commentLen r, .comment), ((r.takeWhile isBlank).length, .blanks), (litLen [0x0a] r, .newline), (numLen r, .number),
   (litLen [0x24] r, .dollar), (litLen [0x22] r, .quote)]
  ++ (kwBytes.take 41).map (fun p => (litLen p.1 r, Rule.kw p.2))
  ++ [(plugNameLen r, .kw .plugName)]
  ++ (kwBytes.drop 41).map (fun p => (litLen p.1 r, Rule.kw p.2))
  ++ [(litLen "include".toUTF8.toList r, .incl),
      ((match r with | c :: _ => if c = 0x0a then 0 else 1 | [] => 0), .any)]

/-- flex's choice: the longest match; among equally long ones the rule that comes first -/
def best : List (Nat × Rule) → Option (Nat × Rule) → Option (Nat × Rule)
  | [], b => b
  | (n, a) :: rest, none => best rest (if n > 0 then some (n, a) else none)
  | (n, a) :: rest, some (m, b) => best rest (if n > m then some (n, a) else some (m, b))

def matchInit (r : Bytes) : Option (Nat × Rule) := best (candidates r) none

/-- a token with the scanner position right after it was matched -/
structure LTok where
  tok : Token
  file : Bytes
  line : Nat
deriving Repr, Inhabited

/-- the way the token stream ends -/
inductive LexEnd where
  | eof (file : Bytes) (line : Nat)          -- `yyterminate()` at `include_stack_ptr = 0`: the grammar sees end of input
  | errNewline (file : Bytes) (line : Nat)   -- rule `<lex_str>"\n" { yyerror(); }`: "parse error: file::line", exit 1
  | tooLong (file : Bytes) (line : Nat)      -- `_string_buf_add`: "string too long: file::line", exit 1
  | tooDeep                                  -- "Includes nested too deeply", exit 1
  | missing (name : Bytes)                   -- `fopen` of an include file fails: "name: No such file or directory", exit 1
  | unmodelled (why : String)                -- see the header
  | fuel                                     -- never (every step consumes at least one byte: `GrammarLexProof.lexFile_ok`)
deriving Repr, Inhabited, DecidableEq

/-- result of scanning in start condition `lex_str`: `LexModel.Raw`, except that at the end of the input it says what the
    buffer holds (an included file may end inside a literal: flex keeps the start condition and `string_buf` across the
    `<<EOF>>` pop, the literal goes on in the including file) -/
inductive StrEnd where
  | tok (buf : Array UInt8) (rest : List UInt8)
  | errNewline
  | tooLong
  | eof (buf : Array UInt8)
  | overrun
deriving Inhabited

/-- `LexModel.go` with the buffer kept at the end of the input (`strGo_forget`: otherwise the same function) -/
def strGo : List UInt8 → Nat → Bool → Array UInt8 → StrEnd
  | [], _, _, buf => .eof buf
  | _ :: rest, pend + 1, skip, buf => strGo rest pend skip buf
  | c :: rest, 0, skip, buf =>
    if c = 0x22 then (if buf.size < STRING_BUF then .tok buf rest else .overrun)
    else if c = 0x0a then .errNewline
    else if c = 0x5c then
      match escTok rest with
      | none => .eof buf
      | some (v, n) =>
        match stringBufAdd buf v with
        | .cont b => strGo rest n false b
        | .exitTooLong => .tooLong
        | .overrun => .overrun
    else if skip then strGo rest 0 true buf
    else if c = 0 then strGo rest 0 true buf
    else
      match stringBufAdd buf c with
      | .cont b => strGo rest 0 false b
      | .exitTooLong => .tooLong
      | .overrun => .overrun

def StrEnd.forget : StrEnd → Raw
  | .tok b r => .tok b r
  | .errNewline => .errNewline
  | .tooLong => .tooLong
  | .eof _ => .eof
  | .overrun => .overrun

/-- start condition of the scanner, with the content of `string_buf` in `lex_str` -/
inductive SC where
  | init
  | incl
  | str (buf : Array UInt8)
deriving Inhabited

/-- the way the scan of one buffer (file) ends -/
inductive BufEnd where
  | done (sc : SC) (line : Nat)    -- end of the buffer, in this start condition
  | stop (e : LexEnd)
deriving Inhabited

/-- the file name of rule `<lex_incl>[^ \t\n]+`: `yytext[len-1] = '\0'; … yytext + 1` as a C string -/
def inclName (tok : Bytes) : Bytes := (tok.dropLast.drop 1).takeWhile (· != 0)

def isNameByte (c : UInt8) : Bool := !(c = 0x20 || c = 0x09 || c = 0x0a)

/-- one buffer.  `sub name acc` scans the file an include directive names (one level deeper, from start condition `INITIAL`) and
    returns the tokens and either the start condition it ended in (the scan goes on in it, in this buffer) or the way the
    process ended in there. -/
def lexBuf (sub : Bytes → Array LTok → Array LTok × Except LexEnd SC) (file : Bytes) :
    Nat → SC → Bytes → Nat → Array LTok → Array LTok × BufEnd
  | 0, _, _, _, acc => (acc, .stop .fuel)
  | fuel + 1, .incl, r, line, acc =>
    match r with
    | [] => (acc, .done .incl line)
    | c :: r' =>
      if c = 0x0a then lexBuf sub file fuel .incl r' (line + 1) acc
      else if isSpTab c then lexBuf sub file fuel .incl r' line acc
      else
        let tok := r.takeWhile isNameByte
        match sub (inclName tok) acc with
        | (acc', .error e) => (acc', .stop e)
        | (acc', .ok sc) => lexBuf sub file fuel sc (r.drop tok.length) line acc'
  | fuel + 1, .str buf, r, line, acc =>
    match strGo r 0 false buf with
    | .tok b rest' => lexBuf sub file fuel .init rest' line (acc.push ⟨.stringVal (cstr b), file, line⟩)
    | .errNewline => (acc, .stop (.errNewline file line))
    | .tooLong => (acc, .stop (.tooLong file line))
    | .eof b => (acc, .done (.str b) line)
    | .overrun => (acc, .stop (.unmodelled "store outside string_buf"))   -- never: `C18_string_fill`
  | fuel + 1, .init, r, line, acc =>
    match r with
    | [] => (acc, .done .init line)
    | _ :: _ =>
      match matchInit r with
      | none => (acc, .stop (.unmodelled "no rule matches"))          -- never: `.` or `\n` match any byte
      | some (n, rule) =>
        let rest := r.drop n
        match rule with
        | .comment => lexBuf sub file fuel .init rest (line + 1) acc
        | .newline => lexBuf sub file fuel .init rest (line + 1) acc
        | .blanks => lexBuf sub file fuel .init rest line acc
        | .number => lexBuf sub file fuel .init rest line (acc.push ⟨.numericVal (r.take n), file, line⟩)
        | .dollar => lexBuf sub file fuel .init rest line (acc.push ⟨.matchpos, file, line⟩)
        | .kw t => lexBuf sub file fuel .init rest line (acc.push ⟨t, file, line⟩)
        | .any => lexBuf sub file fuel .init rest line (acc.push ⟨.unrecognized, file, line⟩)
        | .incl => lexBuf sub file fuel .incl rest line acc
        | .quote => lexBuf sub file fuel (.str #[]) rest line acc

/-- a file at include budget `k` (`k = MAX_INCLUDE_DEPTH - 1 - include_stack_ptr`), from start condition `INITIAL`
    (`BEGIN(INITIAL)` precedes the switch to the new buffer); the depth test precedes the `fopen`.  The fuel is the length
    of the file plus one: every step consumes at least one byte or ends the buffer. -/
def lexAt (fs : Bytes → Option Bytes) : Nat → Bytes → Bytes → Array LTok → Array LTok × BufEnd
  | 0 => fun file content acc => lexBuf (fun _ a => (a, .error .tooDeep)) file (content.length + 1) .init content 1 acc
  | k + 1 => fun file content acc =>
    lexBuf (fun name a =>
      match fs name with
      | none => (a, .error (.missing name))
      | some c =>
        match lexAt fs k name c a with
        | (a', .done sc _) => (a', .ok sc)
        | (a', .stop e) => (a', .error e)) file (content.length + 1) .init content 1 acc

/-- the whole configuration: `main` at `include_stack_ptr = 0`.  Tokens delivered to the grammar, and how the stream ends.
    End of input inside a string literal or an include directive of the outermost file is plain end of input
    (`yyterminate()`): the unfinished literal is dropped. -/
def lexFile (fs : Bytes → Option Bytes) (main content : Bytes) : List LTok × LexEnd :=
  match lexAt fs (MAX_INCLUDE_DEPTH - 1) main content #[] with
  | (acc, .done _ line) => (acc.toList, .eof main line)
  | (acc, .stop e) => (acc.toList, e)

/-- one file without includes (an include directive ends the scan with `missing`) -/
def lexToks (content : Bytes) : List Token ⊕ LexEnd :=
  match lexFile (fun _ => none) [] content with
  | (ts, .eof _ _) => .inl (ts.map (·.tok))
  | (_, e) => .inr e

/-! ## 3. the grammar -/

/-- `TOK_SCRIPT <name>`: the index `makeScript` is called with (the `PM_*` values are regenerated from `device_private.h`) -/
def scriptKind : Token → Option Nat
  | .login => some Pm.Generated.PM_LOG_IN | .logout => some Pm.Generated.PM_LOG_OUT
  | .status => some Pm.Generated.PM_STATUS_PLUGS | .statusAll => some Pm.Generated.PM_STATUS_PLUGS_ALL
  | .statusTemp => some Pm.Generated.PM_STATUS_TEMP | .statusTempAll => some Pm.Generated.PM_STATUS_TEMP_ALL
  | .statusBeacon => some Pm.Generated.PM_STATUS_BEACON | .statusBeaconAll => some Pm.Generated.PM_STATUS_BEACON_ALL
  | .beaconOn => some Pm.Generated.PM_BEACON_ON | .beaconOnRanged => some Pm.Generated.PM_BEACON_ON_RANGED
  | .beaconOff => some Pm.Generated.PM_BEACON_OFF | .beaconOffRanged => some Pm.Generated.PM_BEACON_OFF_RANGED
  | .on => some Pm.Generated.PM_POWER_ON | .onRanged => some Pm.Generated.PM_POWER_ON_RANGED | .onAll => some Pm.Generated.PM_POWER_ON_ALL
  | .off => some Pm.Generated.PM_POWER_OFF | .offRanged => some Pm.Generated.PM_POWER_OFF_RANGED | .offAll => some Pm.Generated.PM_POWER_OFF_ALL
  | .cycle => some Pm.Generated.PM_POWER_CYCLE | .cycleRanged => some Pm.Generated.PM_POWER_CYCLE_RANGED
  | .cycleAll => some Pm.Generated.PM_POWER_CYCLE_ALL
  | .reset => some Pm.Generated.PM_RESET | .resetRanged => some Pm.Generated.PM_RESET_RANGED | .resetAll => some Pm.Generated.PM_RESET_ALL
  | .ping => some Pm.Generated.PM_PING
  | _ => none

/-- the four statement kinds with a sub-block -/
inductive BK where
  | foreachnode | foreachplug | ifoff | ifon
deriving DecidableEq, Repr

def blockKind : Token → Option BK
  | .foreachnode => some .foreachnode | .foreachplug => some .foreachplug | .ifoff => some .ifoff | .ifon => some .ifon
  | _ => none

/-- a statement as `makePreStmt` receives it: literal strings, numbers as their token text.  `rd` (where a conversion can
    fail): the number of tokens the scanner had delivered when `makePreStmt` ran. -/
inductive PStmt where
  | expect (re : Bytes)
  | send (fmt : Bytes)
  | delay (num : Bytes) (rd : Nat)
  /-- `setplugstate "plug" $mp2 …` (plug = some, mp1 = none), `setplugstate $mp1 $mp2 …`, `setplugstate $mp2 …` (both none);
      interpretations: `true` = `on=`, `false` = `off=` -/
  | setplugstate (plug : Option Bytes) (mp1 : Option Bytes) (mp2 : Bytes) (interps : List (Bool × Bytes)) (rd : Nat)
  | setresult (mp1 mp2 : Bytes) (interps : List Bytes) (rd : Nat)
  | block (k : BK) (body : List PStmt)
deriving Repr, Inhabited

/-- one `spec_item` -/
inductive SpecItem where
  | timeout (num : Bytes) (rd : Nat)
  | pingPeriod (num : Bytes) (rd : Nat)
  | plugs (names : List Bytes) (rd : Nat)
  | script (kind : Nat) (body : List PStmt) (rd : Nat)
deriving Repr, Inhabited

/-- one `config_item` -/
inductive Item where
  | listen (s : Bytes) (rd : Nat)
  | tcpWrappers (v : Option Bool) (rd : Nat)      -- none: without yes|no (warning, then as `yes`)
  | plugLogLevel (s : Bytes) (rd : Nat)
  | device (name spec host : Bytes) (flags : Option Bytes) (rd : Nat)
  | node (nodes dev : Bytes) (plugs : Option Bytes) (rd : Nat)
  | alias (name hosts : Bytes) (rd : Nat)
  | spec (name : Bytes) (items : List SpecItem) (rd : Nat)
deriving Repr, Inhabited

abbrev Ast := List Item

/-- a semantic-action call -/
inductive Ev where
  | stmt (s : PStmt)          -- `makePreStmt`
  | specItem (s : SpecItem)   -- `spec_timeout`, `spec_ping_period`, `spec_plug_list`, `makeScript`
  | item (i : Item)           -- `makeSpec`, `makeDevice`, `makeNode`, `makeAlias`, `conf_*`
deriving Repr, Inhabited

/-- the remaining tokens and the index of the first of them -/
structure Cur where
  toks : List Token
  i : Nat
deriving Repr

/-- result of a parsing function that runs no action -/
inductive R0 (α : Type) where
  | ok (a : α) (c : Cur)
  | err (idx : Nat)
  | fuel

/-- result of a parsing function that runs actions: the log (newest first) survives an error -/
inductive R (α : Type) where
  | ok (a : α) (c : Cur) (log : List Ev)
  | err (idx : Nat) (log : List Ev)
  | fuel

def pStr (c : Cur) : R0 Bytes :=
  match c.toks with
  | .stringVal s :: r => .ok s ⟨r, c.i + 1⟩
  | _ => .err c.i

def pNum (c : Cur) : R0 Bytes :=
  match c.toks with
  | .numericVal s :: r => .ok s ⟨r, c.i + 1⟩
  | _ => .err c.i

def pTok (t : Token) (c : Cur) : R0 Unit :=
  match c.toks with
  | x :: r => if x = t then .ok () ⟨r, c.i + 1⟩ else .err c.i
  | [] => .err c.i

/-- `regmatch : TOK_MATCHPOS TOK_NUMERIC_VAL` -/
def pRegmatch (c : Cur) : R0 Bytes :=
  match pTok .matchpos c with
  | .ok _ c1 => pNum c1
  | .err i => .err i
  | .fuel => .fuel

/-- `= "string"` -/
def pEqStr (c : Cur) : R0 Bytes :=
  match pTok .equals c with
  | .ok _ c1 => pStr c1
  | .err i => .err i
  | .fuel => .fuel

/-- `state_interp_list`, as far as it goes (the caller has seen that it is not empty, or accepts that it is) -/
def pInterps : Nat → Cur → List (Bool × Bytes) → R0 (List (Bool × Bytes))
  | 0, _, _ => .fuel
  | f + 1, c, acc =>
    match c.toks with
    | .on :: r =>
      match pEqStr ⟨r, c.i + 1⟩ with
      | .ok s c' => pInterps f c' ((true, s) :: acc)
      | .err i => .err i
      | .fuel => .fuel
    | .off :: r =>
      match pEqStr ⟨r, c.i + 1⟩ with
      | .ok s c' => pInterps f c' ((false, s) :: acc)
      | .err i => .err i
      | .fuel => .fuel
    | _ => .ok acc.reverse c

/-- `result_interp_list`, as far as it goes -/
def pRInterps : Nat → Cur → List Bytes → R0 (List Bytes)
  | 0, _, _ => .fuel
  | f + 1, c, acc =>
    match c.toks with
    | .success :: r =>
      match pEqStr ⟨r, c.i + 1⟩ with
      | .ok s c' => pRInterps f c' (s :: acc)
      | .err i => .err i
      | .fuel => .fuel
    | _ => .ok acc.reverse c

/-- `string_list`, as far as it goes -/
def pStrings : Nat → Cur → List Bytes → R0 (List Bytes)
  | 0, _, _ => .fuel
  | f + 1, c, acc =>
    match c.toks with
    | .stringVal s :: r => pStrings f ⟨r, c.i + 1⟩ (s :: acc)
    | _ => .ok acc.reverse c

/-- the rest of a `setplugstate` statement after its operands: the optional interpretation list.  In every one of these
    states bison needs the look-ahead token (`on`/`off` continue, anything else reduces): `rd = consumed + 1`. -/
def pSpsTail (f : Nat) (plug mp1 : Option Bytes) (mp2 : Bytes) (c : Cur) : R0 PStmt :=
  match pInterps f c [] with
  | .ok l c' => .ok (.setplugstate plug mp1 mp2 l (c'.i + 1)) c'
  | .err i => .err i
  | .fuel => .fuel

/-- `TOK_SETPLUGSTATE` has been consumed -/
def pSetplugstate (f : Nat) (c : Cur) : R0 PStmt :=
  match c.toks with
  | .stringVal s :: r =>
    match pRegmatch ⟨r, c.i + 1⟩ with
    | .ok m c1 => pSpsTail f (some s) none m c1
    | .err i => .err i
    | .fuel => .fuel
  | _ =>
    match pRegmatch c with
    | .ok m1 c1 =>
      match c1.toks with
      | .matchpos :: _ =>
        match pRegmatch c1 with
        | .ok m2 c2 => pSpsTail f none (some m1) m2 c2
        | .err i => .err i
        | .fuel => .fuel
      | _ => pSpsTail f none none m1 c1
    | .err i => .err i
    | .fuel => .fuel

/-- `TOK_SETRESULT` has been consumed: `regmatch regmatch result_interp_list` (the list is mandatory) -/
def pSetresult (f : Nat) (c : Cur) : R0 PStmt :=
  match pRegmatch c with
  | .ok m1 c1 =>
    match pRegmatch c1 with
    | .ok m2 c2 =>
      match pRInterps f c2 [] with
      | .ok l c3 => if l.isEmpty then .err c3.i else .ok (.setresult m1 m2 l (c3.i + 1)) c3
      | .err i => .err i
      | .fuel => .fuel
    | .err i => .err i
    | .fuel => .fuel
  | .err i => .err i
  | .fuel => .fuel

/-- a statement without sub-block; `none`: the token does not start one -/
def pSimple (f : Nat) (c : Cur) : Option (R0 PStmt) :=
  match c.toks with
  | .expect :: r => some (match pStr ⟨r, c.i + 1⟩ with | .ok s c' => .ok (.expect s) c' | .err i => .err i | .fuel => .fuel)
  | .send :: r => some (match pStr ⟨r, c.i + 1⟩ with | .ok s c' => .ok (.send s) c' | .err i => .err i | .fuel => .fuel)
  | .delay :: r => some (match pNum ⟨r, c.i + 1⟩ with | .ok s c' => .ok (.delay s c'.i) c' | .err i => .err i | .fuel => .fuel)
  | .setplugstate :: r => some (pSetplugstate f ⟨r, c.i + 1⟩)
  | .setresult :: r => some (pSetresult f ⟨r, c.i + 1⟩)
  | _ => none

/-- an open sub-block: its kind and the statements of the enclosing block so far (newest first) -/
structure Frame where
  kind : BK
  acc : List PStmt

/-- the inside of a `stmt_block` after its `{`, up to and including the matching `}`: an LL machine with the open sub-blocks
    on a stack; every step consumes at least one token.  `cur`: the statements of the innermost open block so far (newest
    first).  A `}` closes a block only if the block is not empty (`stmt_list` has no empty production). -/
def pBody : Nat → Cur → List Frame → List PStmt → List Ev → R (List PStmt)
  | 0, _, _, _, _ => .fuel
  | f + 1, c, frames, cur, log =>
    match c.toks with
    | [] => .err c.i log
    | .end_ :: r =>
      match cur with
      | [] => .err c.i log
      | _ :: _ =>
        match frames with
        | [] => .ok cur.reverse ⟨r, c.i + 1⟩ log
        | fr :: frs => pBody f ⟨r, c.i + 1⟩ frs (.block fr.kind cur.reverse :: fr.acc) (.stmt (.block fr.kind cur.reverse) :: log)
    | t :: r =>
      match blockKind t with
      | some k =>
        match r with
        | .begin_ :: r' => pBody f ⟨r', c.i + 2⟩ (⟨k, cur⟩ :: frames) [] log
        | _ => .err (c.i + 1) log
      | none =>
        match pSimple f c with
        | none => .err c.i log
        | some (.ok s c') => pBody f c' frames (s :: cur) (.stmt s :: log)
        | some (.err i) => .err i log
        | some .fuel => .fuel

/-- one `spec_item`; `none`: the token does not start one -/
def pSpecItem (f : Nat) (c : Cur) (log : List Ev) : Option (R SpecItem) :=
  match c.toks with
  | .devTimeout :: r =>
    some (match pNum ⟨r, c.i + 1⟩ with
      | .ok n c' => .ok (.timeout n c'.i) c' (.specItem (.timeout n c'.i) :: log)
      | .err i => .err i log
      | .fuel => .fuel)
  | .pingPeriod :: r =>
    some (match pNum ⟨r, c.i + 1⟩ with
      | .ok n c' => .ok (.pingPeriod n c'.i) c' (.specItem (.pingPeriod n c'.i) :: log)
      | .err i => .err i log
      | .fuel => .fuel)
  | .plugName :: r =>
    some (match pTok .begin_ ⟨r, c.i + 1⟩ with
      | .ok _ c1 =>
        match pStrings f c1 [] with
        | .ok l c2 =>
          if l.isEmpty then .err c2.i log
          else match pTok .end_ c2 with
            | .ok _ c3 => .ok (.plugs l c3.i) c3 (.specItem (.plugs l c3.i) :: log)
            | .err i => .err i log
            | .fuel => .fuel
        | .err i => .err i log
        | .fuel => .fuel
      | .err i => .err i log
      | .fuel => .fuel)
  | .script :: r =>
    some (match r with
      | k :: r1 =>
        match scriptKind k with
        | some kind =>
          match pTok .begin_ ⟨r1, c.i + 2⟩ with
          | .ok _ c1 =>
            match pBody f c1 [] [] log with
            | .ok body c2 log' => .ok (.script kind body c2.i) c2 (.specItem (.script kind body c2.i) :: log')
            | .err i log' => .err i log'
            | .fuel => .fuel
          | .err i => .err i log
          | .fuel => .fuel
        | none => .err (c.i + 1) log
      | [] => .err (c.i + 1) log)
  | _ => none

/-- `spec_item_list`, as far as it goes -/
def pSpecItems : Nat → Cur → List SpecItem → List Ev → R (List SpecItem)
  | 0, _, _, _ => .fuel
  | f + 1, c, acc, log =>
    match pSpecItem f c log with
    | none => .ok acc.reverse c log
    | some (.ok s c' log') => pSpecItems f c' (s :: acc) log'
    | some (.err i log') => .err i log'
    | some .fuel => .fuel

/-- `TOK_SPEC` has been consumed: `TOK_STRING_VAL TOK_BEGIN spec_item_list TOK_END` -/
def pSpec (f : Nat) (c : Cur) (log : List Ev) : R Item :=
  match pStr c with
  | .ok name c1 =>
    match pTok .begin_ c1 with
    | .ok _ c2 =>
      match pSpecItems f c2 [] log with
      | .ok items c3 log' =>
        if items.isEmpty then .err c3.i log'
        else match pTok .end_ c3 with
          | .ok _ c4 => .ok (.spec name items c4.i) c4 (.item (.spec name items c4.i) :: log')
          | .err i => .err i log'
          | .fuel => .fuel
      | .err i log' => .err i log'
      | .fuel => .fuel
    | .err i => .err i log
    | .fuel => .fuel
  | .err i => .err i log
  | .fuel => .fuel

/-- two strings -/
def pStr2 (c : Cur) : R0 (Bytes × Bytes) :=
  match pStr c with
  | .ok a c1 => (match pStr c1 with | .ok b c2 => .ok (a, b) c2 | .err i => .err i | .fuel => .fuel)
  | .err i => .err i
  | .fuel => .fuel

/-- an optional further string: bison reads the look-ahead to decide (`rd = consumed + 1` when it is absent) -/
def pOptStr (c : Cur) : Option Bytes × Cur × Nat :=
  match c.toks with
  | .stringVal s :: r => (some s, ⟨r, c.i + 1⟩, c.i + 1)
  | _ => (none, c, c.i + 1)

def R.ofItem (it : Item) (c : Cur) (log : List Ev) : R Item := .ok it c (.item it :: log)

/-- one `config_item`; `none`: the token does not start one -/
def pItem (f : Nat) (c : Cur) (log : List Ev) : Option (R Item) :=
  match c.toks with
  | .listen :: r =>
    some (match pStr ⟨r, c.i + 1⟩ with | .ok s c' => R.ofItem (.listen s c'.i) c' log | .err i => .err i log | .fuel => .fuel)
  | .plugLogLevel :: r =>
    some (match pStr ⟨r, c.i + 1⟩ with | .ok s c' => R.ofItem (.plugLogLevel s c'.i) c' log | .err i => .err i log | .fuel => .fuel)
  | .tcpWrappers :: r =>
    some (match r with
      | .yes :: r' => R.ofItem (.tcpWrappers (some true) (c.i + 2)) ⟨r', c.i + 2⟩ log
      | .no :: r' => R.ofItem (.tcpWrappers (some false) (c.i + 2)) ⟨r', c.i + 2⟩ log
      | _ => R.ofItem (.tcpWrappers none (c.i + 2)) ⟨r, c.i + 1⟩ log)
  | .alias :: r =>
    some (match pStr2 ⟨r, c.i + 1⟩ with | .ok p c' => R.ofItem (.alias p.1 p.2 c'.i) c' log | .err i => .err i log | .fuel => .fuel)
  | .node :: r =>
    some (match pStr2 ⟨r, c.i + 1⟩ with
      | .ok p c' => (match pOptStr c' with | (o, c'', rd) => R.ofItem (.node p.1 p.2 o rd) c'' log)
      | .err i => .err i log
      | .fuel => .fuel)
  | .device :: r =>
    some (match pStr2 ⟨r, c.i + 1⟩ with
      | .ok p c1 =>
        match pStr c1 with
        | .ok h c2 => (match pOptStr c2 with | (o, c3, rd) => R.ofItem (.device p.1 p.2 h o rd) c3 log)
        | .err i => .err i log
        | .fuel => .fuel
      | .err i => .err i log
      | .fuel => .fuel)
  | .spec :: r => some (pSpec f ⟨r, c.i + 1⟩ log)
  | _ => none

/-- `configuration_file : config_list` — any number of items, then end of input -/
def pItems : Nat → Cur → List Item → List Ev → R Ast
  | 0, _, _, _ => .fuel
  | f + 1, c, acc, log =>
    match c.toks with
    | [] => .ok acc.reverse c log
    | _ :: _ =>
      match pItem f c log with
      | none => .err c.i log
      | some (.ok it c' log') => pItems f c' (it :: acc) log'
      | some (.err i log') => .err i log'
      | some .fuel => .fuel

/-- the parser with explicit fuel -/
def parseF (fuel : Nat) (toks : List Token) : R Ast := pItems fuel ⟨toks, 0⟩ [] []

inductive ParseError where
  /-- the token at this index (the number of tokens: the end of input) cannot continue a sentence of the grammar: the real
      parser calls `yyerror()` with this token as its look-ahead → "parse error: file::line of that token", exit 1 -/
  | syntax (idx : Nat)
  | fuel
deriving DecidableEq, Repr

/-- the fuel is the number of tokens plus one (`Proof.parse_total`: it is never exhausted) -/
def parseConfig (toks : List Token) : Except ParseError Ast :=
  match parseF (toks.length + 1) toks with
  | .ok a _ _ => .ok a
  | .err i _ => .error (.syntax i)
  | .fuel => .error .fuel

/-- the semantic-action calls in the order bison makes them, up to the end of input or the offending token -/
def parseLog (toks : List Token) : List Ev × Option ParseError :=
  match parseF (toks.length + 1) toks with
  | .ok _ _ log => (log.reverse, none)
  | .err i log => (log.reverse, some (.syntax i))
  | .fuel => ([], some .fuel)

end Pm.Grammar
