import Pm.SpecCheck
import Pm.InterpSends
/-! C17, soundness of the static specification rules (`Pm/SpecCheck.lean`) for the interpreter model (`Pm/Dev2.lean`).

* `erase nsub` turns the interpreter's statement trees (`Dev2.Stmt`: an `expect` carries a pattern id, a `setplugstate`
  its literal plug name) into the trees the static check sees (`SStmt`: an `expect` carries `re_nsub`, a `setplugstate`
  only whether it has a literal) — the two dumps `harness/udmn.c` and `harness/u_specdump.c` of the same parser structures.
* `Sound` is an invariant of the machine of execution contexts: every context of the stack passes the static check for
  what is left of its block, with a `last` that is a lower bound of what the match object really holds.
* It holds of a fresh action on a script whose erasure is `scriptOK`, every micro-step `mstep` keeps it, so do
  `_rewind_action` and whatever happens to the device between two statements (except to the match object); and it implies the
  run-time promises of C17 about the statement the action stands at (`StmtSafe`: `SendSafe`, `SetSafe`/`ResSafe`, and the
  plug context of `if`/`foreach`).
* `Reach` generates the configurations of all executions; `reach_safe`: in each of them the statement the action stands at is
  safe (`specOK_sound` of `Pm/Props/C17.lean` is this for the shipped specifications).  The proof is a direct one over
  `processStmt`/`mstep`: the reference program `FOp` of `InterpSim` has already resolved formats into texts and contexts into
  nodes, so the promises about sends and about the plug context cannot be stated over it.  `pass_safe` ties it to one pass of
  `_process_action` through `pass_is_run` of `InterpPass`. -/
namespace Pm.Dev2.SpecSound
open Pm.SpecCheck Pm.Dev2 Pm.Dev2.Interp

/-! ## the information order on `last` -/

/-- `le a b`: `b` promises at least what `a` promises (`none`: no promise; `some n`: the last expect has ≥ `n` groups) -/
def le : Option Nat → Option Nat → Prop
  | none, _ => True
  | some _, none => False
  | some x, some y => x ≤ y

theorem le_refl (a : Option Nat) : le a a := by cases a <;> simp [le]
theorem le_trans {a b c : Option Nat} (h1 : le a b) (h2 : le b c) : le a c := by
  cases a <;> cases b <;> cases c <;> simp_all [le] <;> omega
theorem none_le (a : Option Nat) : le none a := by simp [le]
theorem meet_le_left (a b : Option Nat) : le (meet a b) a := by
  cases a <;> cases b <;> simp [le, meet] <;> omega
theorem meet_le_right (a b : Option Nat) : le (meet a b) b := by
  cases a <;> cases b <;> simp [le, meet] <;> omega
theorem le_meet {a b c : Option Nat} (h1 : le a b) (h2 : le a c) : le a (meet b c) := by
  cases a <;> cases b <;> cases c <;> simp_all [le, meet] <;> omega
theorem meet_mono {a a' b b' : Option Nat} (h1 : le a a') (h2 : le b b') : le (meet a b) (meet a' b') :=
  le_meet (le_trans (meet_le_left a b) h1) (le_trans (meet_le_right a b) h2)
theorem le_antisymm {a b : Option Nat} (h1 : le a b) (h2 : le b a) : a = b := by
  cases a <;> cases b <;> simp_all [le] <;> omega

theorem mpOK_mono {l l' : Option Nat} (h : le l l') (mp : Int) (hm : mpOK l mp = true) : mpOK l' mp = true := by
  unfold mpOK at *
  split
  · rfl
  · rename_i hneg
    simp only [hneg, ↓reduceIte] at hm
    cases l <;> cases l' <;> simp_all [le]
    omega

theorem isSome_mono {l l' : Option Nat} (h : le l l') (hm : l.isSome = true) : l'.isSome = true := by
  cases l <;> cases l' <;> simp_all [le]

/-! ## the static check: equations, monotonicity, shape of the transfer function -/

theorem stmtsOK_nil (pa sg : Bool) (l : Option Nat) : stmtsOK pa sg l [] = (true, l) := by simp [stmtsOK]
theorem stmtsOK_cons (pa sg : Bool) (l : Option Nat) (s : SStmt) (r : List SStmt) :
    stmtsOK pa sg l (s :: r) =
      ((stmtOK pa sg l s).1 && (stmtsOK pa sg (stmtOK pa sg l s).2 r).1, (stmtsOK pa sg (stmtOK pa sg l s).2 r).2) := by
  simp [stmtsOK]

/-- the loop part shared by `foreachplug` and `foreachnode` -/
def eachOK (sg : Bool) (l : Option Nat) (body : List SStmt) : Bool × Option Nat :=
  let r1 := stmtsOK true true l body
  let back := meet l r1.2
  let r2 := stmtsOK true true back body
  (!sg && r1.1 && r2.1, meet l r2.2)

def condOK (pa sg : Bool) (l : Option Nat) (body : List SStmt) : Bool × Option Nat :=
  let r := stmtsOK pa sg l body
  (sg && r.1, meet l r.2)

theorem stmtOK_foreachplug (pa sg l body) : stmtOK pa sg l (.foreachplug body) = eachOK sg l body := by
  simp [stmtOK, eachOK]
theorem stmtOK_foreachnode (pa sg l body) : stmtOK pa sg l (.foreachnode body) = eachOK sg l body := by
  simp [stmtOK, eachOK]
theorem stmtOK_ifon (pa sg l body) : stmtOK pa sg l (.ifon body) = condOK pa sg l body := by
  simp [stmtOK, condOK]
theorem stmtOK_ifoff (pa sg l body) : stmtOK pa sg l (.ifoff body) = condOK pa sg l body := by
  simp [stmtOK, condOK]

/-- monotonicity of the forward analysis: with a `last` that promises more, a block that was ok stays ok and the `last`
    behind it promises more -/
def Mono (f : Option Nat → Bool × Option Nat) : Prop :=
  ∀ l l', le l l' → ((f l).1 = true → (f l').1 = true) ∧ le (f l).2 (f l').2

theorem eachOK_mono_of (body : List SStmt) (sg : Bool) (hb : Mono (fun l => stmtsOK true true l body)) :
    Mono (fun l => eachOK sg l body) := by
  intro l l' h
  have h1 := hb l l' h
  have hback : le (meet l (stmtsOK true true l body).2) (meet l' (stmtsOK true true l' body).2) := meet_mono h h1.2
  have h2 := hb _ _ hback
  refine ⟨?_, meet_mono h h2.2⟩
  simp only [eachOK, Bool.and_eq_true]
  rintro ⟨⟨a, b⟩, c⟩
  exact ⟨⟨a, h1.1 b⟩, h2.1 c⟩

theorem condOK_mono_of (body : List SStmt) (pa sg : Bool) (hb : Mono (fun l => stmtsOK pa sg l body)) :
    Mono (fun l => condOK pa sg l body) := by
  intro l l' h
  have h1 := hb l l' h
  refine ⟨?_, meet_mono h h1.2⟩
  simp only [condOK, Bool.and_eq_true]
  rintro ⟨a, b⟩
  exact ⟨a, h1.1 b⟩

mutual
theorem stmtOK_mono :∀ (s : SStmt) (pa sg : Bool), Mono (fun l => stmtOK pa sg l s)
  | .send fmt, pa, sg => by intro l l' h; simp [stmtOK, h]
  | .expect n, pa, sg => by intro l l' h; simp [stmtOK, le_refl]
  | .delay us, pa, sg => by intro l l' h; simp [stmtOK, h]
  | .setplugstate lit pm sm, pa, sg => by
    intro l l' h
    refine ⟨?_, by simpa [stmtOK] using h⟩
    simp only [stmtOK, Bool.and_eq_true]
    rintro ⟨⟨⟨⟨h1, h2⟩, h3⟩, h4⟩, h5⟩
    exact ⟨⟨⟨⟨isSome_mono h h1, mpOK_mono h _ h2⟩, mpOK_mono h _ h3⟩, h4⟩, h5⟩
  | .setresult pm sm, pa, sg => by
    intro l l' h
    refine ⟨?_, by simpa [stmtOK] using h⟩
    simp only [stmtOK, Bool.and_eq_true]
    rintro ⟨⟨⟨⟨h1, h2⟩, h3⟩, h4⟩, h5⟩
    exact ⟨⟨⟨⟨isSome_mono h h1, mpOK_mono h _ h2⟩, mpOK_mono h _ h3⟩, h4⟩, h5⟩
  | .foreachplug body, pa, sg => by
    intro l l' h
    simp only [stmtOK_foreachplug]
    exact eachOK_mono_of body sg (stmtsOK_mono body true true) l l' h
  | .foreachnode body, pa, sg => by
    intro l l' h
    simp only [stmtOK_foreachnode]
    exact eachOK_mono_of body sg (stmtsOK_mono body true true) l l' h
  | .ifon body, pa, sg => by
    intro l l' h
    simp only [stmtOK_ifon]
    exact condOK_mono_of body pa sg (stmtsOK_mono body pa sg) l l' h
  | .ifoff body, pa, sg => by
    intro l l' h
    simp only [stmtOK_ifoff]
    exact condOK_mono_of body pa sg (stmtsOK_mono body pa sg) l l' h
theorem stmtsOK_mono : ∀ (b : List SStmt) (pa sg : Bool), Mono (fun l => stmtsOK pa sg l b)
  | [], pa, sg => by intro l l' h; simp [stmtsOK_nil, h]
  | s :: r, pa, sg => by
    intro l l' h
    simp only [stmtsOK_cons, Bool.and_eq_true]
    have hs := stmtOK_mono s pa sg l l' h
    have hr := stmtsOK_mono r pa sg _ _ hs.2
    exact ⟨fun ⟨h1, h2⟩ => ⟨hs.1 h1, hr.1 h2⟩, hr.2⟩
end

/-! ### the transfer function of a block on `last` is constant or `meet · c`: two rounds reach the loop's fixed point -/

/-- `meet` with an optional bound (`none`: no bound, the identity) -/
def mt (l : Option Nat) : Option (Option Nat) → Option Nat
  | none => l
  | some c => meet l c

/-- the transfer function `g` on `last` is constant, or meets its argument with a constant (`mt`) -/
def Shape (g : Option Nat → Option Nat) : Prop := (∃ c, ∀ l, g l = c) ∨ (∃ t, ∀ l, g l = mt l t)

theorem meet_idem (a : Option Nat) : meet a a = a := by cases a <;> simp [meet]
theorem meet_assoc (a b c : Option Nat) : meet (meet a b) c = meet a (meet b c) := by
  cases a <;> cases b <;> cases c <;> simp [meet] <;> omega
theorem meet_comm (a b : Option Nat) : meet a b = meet b a := by
  cases a <;> cases b <;> simp [meet] <;> omega
theorem meet_absorb (a b : Option Nat) : meet a (meet a b) = meet a b := by
  rw [← meet_assoc, meet_idem]

theorem shape_comp {f g : Option Nat → Option Nat} (hf : Shape f) (hg : Shape g) : Shape (fun l => g (f l)) := by
  rcases hg with ⟨c, hc⟩ | ⟨t, ht⟩
  · exact Or.inl ⟨c, fun l => hc _⟩
  · rcases hf with ⟨c', hc'⟩ | ⟨t', ht'⟩
    · exact Or.inl ⟨mt c' t, fun l => by dsimp only; rw [ht, hc']⟩
    · refine Or.inr ?_
      cases t with
      | none => exact ⟨t', fun l => by dsimp only; rw [ht, ht']; rfl⟩
      | some c =>
        cases t' with
        | none => exact ⟨some c, fun l => by dsimp only; rw [ht, ht']; rfl⟩
        | some c' => exact ⟨some (meet c' c), fun l => by dsimp only; rw [ht, ht']; simp [mt, meet_assoc]⟩

theorem shape_cond {g : Option Nat → Option Nat} (hg : Shape g) : Shape (fun l => meet l (g l)) := by
  rcases hg with ⟨c, hc⟩ | ⟨t, ht⟩
  · exact Or.inr ⟨some c, fun l => by dsimp only; rw [hc]; rfl⟩
  · cases t with
    | none => exact Or.inr ⟨none, fun l => by dsimp only; rw [ht]; simp [mt, meet_idem]⟩
    | some c => exact Or.inr ⟨some c, fun l => by dsimp only; rw [ht]; simp [mt, meet_absorb]⟩

theorem shape_each {g : Option Nat → Option Nat} (hg : Shape g) : Shape (fun l => meet l (g (meet l (g l)))) := by
  rcases hg with ⟨c, hc⟩ | ⟨t, ht⟩
  · exact Or.inr ⟨some c, fun l => by dsimp only; rw [hc]; rfl⟩
  · cases t with
    | none => exact Or.inr ⟨none, fun l => by dsimp only; rw [ht, ht]; simp [mt, meet_idem]⟩
    | some c =>
      refine Or.inr ⟨some c, fun l => ?_⟩
      dsimp only
      rw [ht, ht]
      simp only [mt]
      rw [meet_absorb, meet_assoc, meet_idem, meet_absorb]

/-- what makes two rounds of the loop analysis enough: `back = meet l (g l)` is below `g back` -/
theorem shape_back {g : Option Nat → Option Nat} (hg : Shape g) (l : Option Nat) :
    le (meet l (g l)) (g (meet l (g l))) := by
  rcases hg with ⟨c, hc⟩ | ⟨t, ht⟩
  · rw [hc, hc]; exact meet_le_right l c
  · cases t with
    | none => rw [ht]; simp only [mt]; rw [ht]; simp only [mt]; exact le_refl _
    | some c =>
      rw [ht]; simp only [mt]; rw [ht]; simp only [mt]
      rw [meet_absorb, meet_assoc, meet_idem]
      exact le_refl _

mutual
theorem stmtOK_shape : ∀ (s : SStmt) (pa sg : Bool), Shape (fun l => (stmtOK pa sg l s).2)
  | .send fmt, pa, sg => Or.inr ⟨none, fun l => by simp [stmtOK, mt]⟩
  | .expect n, pa, sg => Or.inl ⟨some n, fun l => by simp [stmtOK]⟩
  | .delay us, pa, sg => Or.inr ⟨none, fun l => by simp [stmtOK, mt]⟩
  | .setplugstate lit pm sm, pa, sg => Or.inr ⟨none, fun l => by simp [stmtOK, mt]⟩
  | .setresult pm sm, pa, sg => Or.inr ⟨none, fun l => by simp [stmtOK, mt]⟩
  | .foreachplug body, pa, sg => by
    simp only [stmtOK_foreachplug, eachOK]; exact shape_each (stmtsOK_shape body true true)
  | .foreachnode body, pa, sg => by
    simp only [stmtOK_foreachnode, eachOK]; exact shape_each (stmtsOK_shape body true true)
  | .ifon body, pa, sg => by
    simp only [stmtOK_ifon, condOK]; exact shape_cond (stmtsOK_shape body pa sg)
  | .ifoff body, pa, sg => by
    simp only [stmtOK_ifoff, condOK]; exact shape_cond (stmtsOK_shape body pa sg)
theorem stmtsOK_shape : ∀ (b : List SStmt) (pa sg : Bool), Shape (fun l => (stmtsOK pa sg l b).2)
  | [], pa, sg => Or.inr ⟨none, fun l => by simp [stmtsOK_nil, mt]⟩
  | s :: r, pa, sg => by
    simp only [stmtsOK_cons]
    exact shape_comp (stmtOK_shape s pa sg) (stmtsOK_shape r pa sg)
end

/-- **the loop invariant the static check of a `foreach` provides**: a `last` value `b` below the one at the statement,
    from which the body is ok and which the body re-establishes, and which is at least what the check continues with -/
theorem eachOK_inv (sg : Bool) (l : Option Nat) (body : List SStmt) (h : (eachOK sg l body).1 = true) :
    sg = false ∧ ∃ b, le b l ∧ (stmtsOK true true b body).1 = true ∧ le b (stmtsOK true true b body).2 ∧
      le (eachOK sg l body).2 b := by
  simp only [eachOK, Bool.and_eq_true, Bool.not_eq_true'] at h
  obtain ⟨⟨h1, h2⟩, h3⟩ := h
  refine ⟨h1, meet l (stmtsOK true true l body).2, meet_le_left _ _, h3, ?_, ?_⟩
  · exact shape_back (stmtsOK_shape body true true) l
  · simp only [eachOK]
    have hm := (stmtsOK_mono body true true _ _ (meet_le_left l (stmtsOK true true l body).2)).2
    exact meet_mono (le_refl l) hm

/-! ## the erasure: the interpreter's statement trees as the static check sees them -/

mutual
/-- `u_specdump.c` view of a statement of `udmn.c`'s dump: an `expect` keeps only `re_nsub` of its pattern, a
    `setplugstate` only whether it names its plug literally (then the `$N` of the plug is dumped as `-1`, by both), the
    interpretation lists are dropped -/
def erase (nsub : Nat → Nat) : Stmt → SStmt
  | .send fmt => .send fmt
  | .expect pat => .expect (nsub pat)
  | .delay us => .delay us
  | .setplugstate lit pm sm _ => .setplugstate lit.isSome (if lit.isSome then -1 else pm) sm
  | .setresult pm sm _ => .setresult pm sm
  | .foreachplug b => .foreachplug (eraseB nsub b)
  | .foreachnode b => .foreachnode (eraseB nsub b)
  | .ifon b => .ifon (eraseB nsub b)
  | .ifoff b => .ifoff (eraseB nsub b)
def eraseB (nsub : Nat → Nat) : List Stmt → List SStmt
  | [] => []
  | s :: r => erase nsub s :: eraseB nsub r
end

theorem eraseB_nil (nsub : Nat → Nat) : eraseB nsub [] = [] := by simp [eraseB]
theorem eraseB_cons (nsub : Nat → Nat) (s : Stmt) (r : List Stmt) : eraseB nsub (s :: r) = erase nsub s :: eraseB nsub r := by
  simp [eraseB]

theorem stmtOK_erase_each (nsub : Nat → Nat) (pa sg : Bool) (l : Option Nat) (s : Stmt) (n : Bool) (b : List Stmt)
    (hk : s.kind = .each n b) : stmtOK pa sg l (erase nsub s) = eachOK sg l (eraseB nsub b) := by
  rw [kind_each hk]; cases n <;> simp [erase, stmtOK_foreachplug, stmtOK_foreachnode]

theorem stmtOK_erase_cond (nsub : Nat → Nat) (pa sg : Bool) (l : Option Nat) (s : Stmt) (w : Bool) (b : List Stmt)
    (hk : s.kind = .cond w b) : stmtOK pa sg l (erase nsub s) = condOK pa sg l (eraseB nsub b) := by
  rw [kind_cond hk]; cases w <;> simp [erase, stmtOK_ifon, stmtOK_ifoff]

/-! ## what a safe format means for `hsprintf` -/

/-- what goes wrong in `hsprintf(fmt, arg)` — a `vsnprintf` with one optional `char *` argument (`av`: it is there): a
    conversion other than `%s` / `%%`, or a `%s` when no argument is left (the first `%s` uses it up) -/
def fmtBad : Bytes → Bool → Bool
  | [], _ => false
  | a :: r, av =>
    if a == 37 then
      match r with
      | b :: r' =>
        if b == 37 then fmtBad r' av
        else if b == 115 then (!av || fmtBad r' false)
        else true
      | [] => true
    else fmtBad r av
termination_by l => l.length
decreasing_by all_goals simp_wf <;> omega

/-- `hsprintf` formats without fault exactly when the scan finds only `%s`/`%%` and no more `%s` than there are arguments -/
theorem fmtBad_iff_scan : ∀ (n : Nat) (fmt : Bytes) (av : Bool), fmt.length ≤ n →
    (fmtBad fmt av = false ↔ (fmtScan fmt).1 = true ∧ (fmtScan fmt).2 ≤ (if av then 1 else 0)) := by
  intro n
  induction n with
  | zero =>
    intro fmt av hl
    have : fmt = [] := by cases fmt <;> simp_all
    subst this; simp [fmtBad, fmtScan]
  | succ n ih =>
    intro fmt av hl
    cases fmt with
    | nil => simp [fmtBad, fmtScan]
    | cons a r =>
      rw [fmtBad.eq_def, fmtScan.eq_def]
      simp only
      by_cases ha : (a == 37) = true
      · simp only [ha, ↓reduceIte]
        cases r with
        | nil => simp
        | cons b r' =>
          simp only
          have hl' : r'.length ≤ n := by simp at hl; omega
          by_cases hb : (b == 37) = true
          · simp only [hb, ↓reduceIte]; exact ih r' av hl'
          · simp only [hb, Bool.false_eq_true, ↓reduceIte]
            by_cases hs : (b == 115) = true
            · simp only [hs, ↓reduceIte, Bool.or_eq_false_iff, Bool.not_eq_false']
              cases av with
              | false => simp
              | true =>
                have := ih r' false hl'
                simp only [Bool.false_eq_true, ↓reduceIte, Nat.le_zero_eq] at this
                simp only [true_and, ↓reduceIte, this]
                constructor
                · rintro ⟨h1, h2⟩; exact ⟨h1, by omega⟩
                · rintro ⟨h1, h2⟩; exact ⟨h1, by omega⟩
            · simp [hs]
      · simp only [ha, Bool.false_eq_true, ↓reduceIte]
        exact ih r av (by simp at hl; omega)

/-- the promise about a send that is being formatted in a context with plugs `pl`: only `%s`/`%%`, at most one `%s`,
    and a `%s` only where the context supplies a plug name -/
def SendSafe (fmt : Bytes) (pl : Option (List Plug)) : Prop :=
  (fmtScan fmt).1 = true ∧ (fmtScan fmt).2 ≤ 1 ∧ ((fmtScan fmt).2 = 0 ∨ ∃ p l, pl = some (p :: l))

/-- the argument `_process_send` hands to `hsprintf` is there whenever the context holds a plug -/
def argThere : Option (List Plug) → Bool
  | some (_ :: _) => true
  | _ => false

/-- the text `_process_send` queues is `hsprintf(fmt, arg)` with an argument exactly when the context holds a plug -/
theorem sendText_arg (fmt : Bytes) (pl : Option (List Plug)) (t : Bytes) (h : sendText fmt pl = some t) :
    ∃ arg : Option Bytes, t = hsprintf fmt arg ∧ arg.isSome = argThere pl := by
  rcases pl with _ | _ | ⟨p, _ | ⟨q, r⟩⟩
  · exact ⟨none, by simpa [sendText] using h.symm, rfl⟩
  · exact ⟨none, by simpa [sendText] using h.symm, rfl⟩
  · exact ⟨some p.name, by simpa [sendText] using h.symm, rfl⟩
  · simp only [sendText, Option.map_eq_some_iff] at h
    obtain ⟨n, _, hn⟩ := h
    exact ⟨some n, hn.symm, rfl⟩

theorem sendSafe_fmtBad (fmt : Bytes) (pl : Option (List Plug)) (h : SendSafe fmt pl) : fmtBad fmt (argThere pl) = false := by
  obtain ⟨h1, h2, h3⟩ := h
  refine (fmtBad_iff_scan fmt.length fmt _ (Nat.le_refl _)).mpr ⟨h1, ?_⟩
  rcases h3 with h3 | ⟨p, l, rfl⟩
  · rw [h3]; exact Nat.zero_le _
  · simpa [argThere] using h2

/-- a block is ok from `cur`, and what comes after it (`K`) holds for the `last` it leaves -/
def Blk (pa sg : Bool) (cur : Option Nat) (blk : List SStmt) (K : Option Nat → Prop) : Prop :=
  (stmtsOK pa sg cur blk).1 = true ∧ K (stmtsOK pa sg cur blk).2

/-- a continuation that holds of `c` holds of everything above `c`: knowing more about the match object never hurts -/
def KMono (K : Option Nat → Prop) : Prop := ∀ c c', le c c' → K c → K c'

theorem blk_mono {pa sg : Bool} {c c' : Option Nat} {blk : List SStmt} {K : Option Nat → Prop} (hK : KMono K)
    (h : le c c') (hb : Blk pa sg c blk K) : Blk pa sg c' blk K :=
  ⟨(stmtsOK_mono blk pa sg c c' h).1 hb.1, hK _ _ (stmtsOK_mono blk pa sg c c' h).2 hb.2⟩

theorem blk_nil {pa sg : Bool} {cur : Option Nat} {K : Option Nat → Prop} : Blk pa sg cur [] K ↔ K cur := by
  simp [Blk, stmtsOK_nil]

theorem blk_cons {pa sg : Bool} {cur : Option Nat} {s : SStmt} {r : List SStmt} {K : Option Nat → Prop} :
    Blk pa sg cur (s :: r) K ↔ (stmtOK pa sg cur s).1 = true ∧ Blk pa sg (stmtOK pa sg cur s).2 r K := by
  simp [Blk, stmtsOK_cons, and_assoc]

/-- what the flags of the static check mean for the plugs of a context: `sg` — exactly one plug; `pa` — at least one -/
def CtxPlugs (pa sg : Bool) (pl : Option (List Plug)) : Prop :=
  (sg = true → ∃ p, pl = some [p]) ∧ (pa = true → ∃ p l, pl = some (p :: l))

/-- one context: what is left of its block passes the static check from `cur`, and `K` holds behind it.  A context
    standing at a `foreach` (about to fetch the next plug) carries the loop invariant `b`; a context standing at an
    `if` whose body has run (`processing`) only has the rest of the block to go. -/
def ctxS (nsub : Nat → Nat) (pa sg : Bool) (cur : Option Nat) (e : ExecCtx) (K : Option Nat → Prop) : Prop :=
  match e.block.drop e.pos with
  | [] => K cur
  | s :: tail =>
    match s.kind with
    | .leaf => Blk pa sg cur (eraseB nsub (s :: tail)) K
    | .each _ body => sg = false ∧ ∃ b, le b cur ∧ (stmtsOK true true b (eraseB nsub body)).1 = true ∧
        le b (stmtsOK true true b (eraseB nsub body)).2 ∧ Blk pa sg b (eraseB nsub tail) K
    | .cond _ _ =>
      if e.processing then Blk pa sg cur (eraseB nsub tail) K else Blk pa sg cur (eraseB nsub (s :: tail)) K

/-- the flags of a context: the outermost one has those of the script kind, every pushed one (a `foreach` body, or an `if`
    body — which needs a single plug around it) holds exactly one plug -/
def flagsOf (kind : Nat) (rest : List ExecCtx) : Bool × Bool :=
  if rest.isEmpty then (plugArgKinds.contains kind, singletKinds.contains kind) else (true, true)

/-- the whole stack, from the top: each context is ok from the `last` the one above leaves -/
def ContOK (nsub : Nat → Nat) (kind : Nat) : List ExecCtx → Option Nat → Prop
  | [], _ => True
  | e :: rest, cur =>
    CtxPlugs (flagsOf kind rest).1 (flagsOf kind rest).2 e.plugs ∧
    ctxS nsub (flagsOf kind rest).1 (flagsOf kind rest).2 cur e (fun c => ContOK nsub kind rest c)

theorem ctxS_mono (nsub : Nat → Nat) (pa sg : Bool) (c c' : Option Nat) (e : ExecCtx) (K : Option Nat → Prop)
    (hK : KMono K) (h : le c c') (hc : ctxS nsub pa sg c e K) : ctxS nsub pa sg c' e K := by
  unfold ctxS at *
  split
  · rename_i hd; simp only [hd] at hc; exact hK _ _ h hc
  · rename_i s tail hd
    simp only [hd] at hc
    split
    · rename_i hk; simp only [hk] at hc; exact blk_mono hK h hc
    · rename_i n body hk
      simp only [hk] at hc
      obtain ⟨h0, b, hb1, hb2, hb3, hb4⟩ := hc
      exact ⟨h0, b, le_trans hb1 h, hb2, hb3, hb4⟩
    · rename_i w body hk
      simp only [hk] at hc
      split
      · rename_i hp; simp only [hp, ↓reduceIte] at hc; exact blk_mono hK h hc
      · rename_i hp; simp only [hp, Bool.false_eq_true, ↓reduceIte] at hc; exact blk_mono hK h hc

theorem contOK_mono (nsub : Nat → Nat) (kind : Nat) : ∀ (stack : List ExecCtx), KMono (ContOK nsub kind stack)
  | [] => by intro c c' _ _; trivial
  | e :: rest => by
    intro c c' h hc
    exact ⟨hc.1, ctxS_mono nsub _ _ c c' e _ (contOK_mono nsub kind rest) h hc.2⟩

/-- a context whose remaining block passes the check from `cur` is ok — whatever its flags say (a `foreach` gets its
    loop invariant from `eachOK_inv`, a stale `processing` flag on an `if` only skips a body that was ok) -/
theorem ctxS_of_blk (nsub : Nat → Nat) (pa sg : Bool) (cur : Option Nat) (e : ExecCtx) (K : Option Nat → Prop)
    (hK : KMono K) (h : Blk pa sg cur (eraseB nsub (e.block.drop e.pos)) K) : ctxS nsub pa sg cur e K := by
  unfold ctxS
  split
  · rename_i hd; rw [hd, eraseB_nil, blk_nil] at h; exact h
  · rename_i s tail hd
    rw [hd] at h
    split
    · exact h
    · rename_i n body hk
      rw [eraseB_cons, blk_cons, stmtOK_erase_each nsub pa sg cur s n body hk] at h
      obtain ⟨hsg, b, hb1, hb2, hb3, hb4⟩ := eachOK_inv sg cur _ h.1
      exact ⟨hsg, b, hb1, hb2, hb3, blk_mono hK hb4 h.2⟩
    · rename_i w body hk
      split
      · rw [eraseB_cons, blk_cons, stmtOK_erase_cond nsub pa sg cur s w body hk] at h
        exact blk_mono hK (meet_le_left _ _) h.2
      · exact h

/-- the match object holds a successful match: `xm_used`, `xm_result == 0`, and the subject copy `xm_str` is there (what
    `xregex_match_sub_strdup` asserts) -/
def Held (d : Dev) : Prop := d.xmUsed = true ∧ d.xmResult = true ∧ d.xmStr.isSome = true

/-- the match object has not been touched -/
def SameXm (d d' : Dev) : Prop :=
  d'.xmUsed = d.xmUsed ∧ d'.xmResult = d.xmResult ∧ d'.xmStr = d.xmStr ∧ d'.xmOffs = d.xmOffs

theorem held_same {d d' : Dev} (h : SameXm d d') (hh : Held d) : Held d' := by
  obtain ⟨h1, h2, h3, _⟩ := h
  unfold Held; rw [h1, h2, h3]; exact hh

/-- what the match object must hold when the static `last` is `cur`; `g` is the ghost: the pattern of the expect of this
    action that matched last (`none`: none yet, or the match object has been recycled since) -/
def GhostOK (nsub : Nat → Nat) (cur : Option Nat) (d : Dev) (g : Option Nat) : Prop :=
  ∀ n, cur = some n → Held d ∧ ∃ pat, g = some pat ∧ n ≤ nsub pat

/-- **the invariant**: some `last` describes the match object and makes the whole stack pass the static check -/
def Sound (nsub : Nat → Nat) (kind : Nat) (d : Dev) (a : Action) (g : Option Nat) : Prop :=
  ∃ cur, GhostOK nsub cur d g ∧ ContOK nsub kind a.exec cur

theorem ghostOK_none (nsub : Nat → Nat) (d : Dev) (g : Option Nat) : GhostOK nsub none d g := by
  intro n h; cases h

/-- the plugs an action of this kind is created with (`_enqueue_targeted_actions`): the one plug for a singlet script,
    the targeted plugs — at least one, `_command_needs_device` — for a ranged one; anything for the others -/
def KindPlugs (kind : Nat) (pl : Option (List Plug)) : Prop :=
  CtxPlugs (plugArgKinds.contains kind) (singletKinds.contains kind) pl

/-- an action with one context at the first statement of a script that passes the static check for its kind (any flags)
    satisfies the invariant, for any device state -/
theorem sound_start (nsub : Nat → Nat) (kind : Nat) (script : List Stmt) (pl : Option (List Plug)) (d : Dev) (a : Action)
    (hok : scriptOK kind (eraseB nsub script) = true) (hpl : KindPlugs kind pl) (e : ExecCtx) (hex : a.exec = [e])
    (hb : e.block = script) (hp : e.pos = 0) (hpl' : e.plugs = pl) : Sound nsub kind d a none := by
  refine ⟨none, ghostOK_none nsub d none, ?_⟩
  rw [hex]
  refine ⟨by rw [hpl']; exact hpl, ?_⟩
  apply ctxS_of_blk nsub _ _ none _ _ (contOK_mono nsub kind [])
  rw [hb, hp]
  exact ⟨hok, trivial⟩

theorem sound_fresh (nsub : Nat → Nat) (kind : Nat) (script : List Stmt) (pl : Option (List Plug)) (d : Dev) (a : Action)
    (hok : scriptOK kind (eraseB nsub script) = true) (hpl : KindPlugs kind pl) (hex : a.exec = [bodyCtx script pl]) :
    Sound nsub kind d a none :=
  sound_start nsub kind script pl d a hok hpl _ hex rfl rfl rfl

theorem Sound.at {nsub : Nat → Nat} {kind : Nat} {d : Dev} {a : Action} {g : Option Nat} {e : ExecCtx} {rest : List ExecCtx}
    (hS : Sound nsub kind d a g) (hex : a.exec = e :: rest) :
    ∃ cur, GhostOK nsub cur d g ∧ CtxPlugs (flagsOf kind rest).1 (flagsOf kind rest).2 e.plugs ∧
      ctxS nsub (flagsOf kind rest).1 (flagsOf kind rest).2 cur e (fun c => ContOK nsub kind rest c) := by
  obtain ⟨cur, hg, hc⟩ := hS
  rw [hex] at hc
  exact ⟨cur, hg, hc⟩

/-- the ghost after a micro-step: an `expect` that matched sets it, an `expect` that did not clears it (the match object
    has been recycled), nothing else touches it -/
def ghostNext (now : Time) (d : Dev) (a : Action) (o : Oracle) (g : Option Nat) : Option Nat :=
  match (topCtx a).block[(topCtx a).pos]? with
  | some (.expect pat) => if (processStmt d a o now).finished then some pat else none
  | _ => g

/-- what `_process_action` makes of the statement's answer when the action goes on: the stack is the statement's, or
    — the statement finished and pushed nothing — that stack advanced by one statement -/
theorem mstep_cases (now : Time) (d : Dev) (a : Action) (o : Oracle)
    (hs : (mstep now d a o).status = .running ∨ (mstep now d a o).status = .stalled) :
    (mstep now d a o).dev = (processStmt d a o now).dev ∧
    (((mstep now d a o).act = (processStmt d a o now).act ∧
        ((processStmt d a o now).finished = false ∨ (processStmt d a o now).act.exec.length > a.exec.length)) ∨
     ((mstep now d a o).act = advance (processStmt d a o now).act ∧ (processStmt d a o now).finished = true ∧
        (processStmt d a o now).act.exec.length ≤ a.exec.length)) := by
  have h := mstep_does now d a o
  generalize mstep now d a o = m at h hs ⊢
  cases h with
  | pushed _ hl => exact ⟨rfl, .inl ⟨rfl, .inr hl⟩⟩
  | stalled _ hf => exact ⟨rfl, .inl ⟨rfl, .inl hf⟩⟩
  | advanced _ hf hl => exact ⟨rfl, .inr ⟨rfl, hf, hl⟩⟩
  | aborted | failed => rcases hs with h | h <;> cases h

theorem contOK_advance (nsub : Nat → Nat) (kind : Nat) (a : Action) (e : ExecCtx) (rest : List ExecCtx) (cur' : Option Nat)
    (hex : a.exec = e :: rest)
    (hpl : CtxPlugs (flagsOf kind rest).1 (flagsOf kind rest).2 e.plugs)
    (hb : Blk (flagsOf kind rest).1 (flagsOf kind rest).2 cur' (eraseB nsub (e.block.drop (e.pos + 1))) (ContOK nsub kind rest)) :
    ContOK nsub kind (advance a).exec cur' := by
  rw [advance_exec a e rest hex]
  by_cases hlt : e.pos + 1 < e.block.length
  · simp only [hlt, ↓reduceIte]
    exact ⟨hpl, ctxS_of_blk nsub _ _ cur' { e with pos := e.pos + 1 } _ (contOK_mono nsub kind rest) hb⟩
  · simp only [hlt, ↓reduceIte]
    rw [List.drop_eq_nil_of_le (by omega), eraseB_nil, blk_nil] at hb
    exact hb

theorem ctxS_leaf {nsub : Nat → Nat} {pa sg : Bool} {cur : Option Nat} {e : ExecCtx} {K : Option Nat → Prop} {s : Stmt}
    (hcur : e.block[e.pos]? = some s) (hk : s.kind = .leaf) :
    ctxS nsub pa sg cur e K ↔ (stmtOK pa sg cur (erase nsub s)).1 = true ∧
      Blk pa sg (stmtOK pa sg cur (erase nsub s)).2 (eraseB nsub (e.block.drop (e.pos + 1))) K := by
  unfold ctxS
  rw [drop_pos hcur]
  simp only [hk]
  rw [eraseB_cons, blk_cons]

theorem ctxS_each {nsub : Nat → Nat} {pa sg : Bool} {cur : Option Nat} {e : ExecCtx} {K : Option Nat → Prop} {s : Stmt}
    {n : Bool} {body : List Stmt} (hcur : e.block[e.pos]? = some s) (hk : s.kind = .each n body) :
    ctxS nsub pa sg cur e K ↔ sg = false ∧ ∃ b, le b cur ∧ (stmtsOK true true b (eraseB nsub body)).1 = true ∧
      le b (stmtsOK true true b (eraseB nsub body)).2 ∧ Blk pa sg b (eraseB nsub (e.block.drop (e.pos + 1))) K := by
  unfold ctxS
  rw [drop_pos hcur]
  simp only [hk]

theorem ctxS_cond {nsub : Nat → Nat} {pa sg : Bool} {cur : Option Nat} {e : ExecCtx} {K : Option Nat → Prop} {s : Stmt}
    {w : Bool} {body : List Stmt} (hcur : e.block[e.pos]? = some s) (hk : s.kind = .cond w body) :
    ctxS nsub pa sg cur e K ↔
      if e.processing then Blk pa sg cur (eraseB nsub (e.block.drop (e.pos + 1))) K
      else (condOK pa sg cur (eraseB nsub body)).1 = true ∧
        Blk pa sg (condOK pa sg cur (eraseB nsub body)).2 (eraseB nsub (e.block.drop (e.pos + 1))) K := by
  unfold ctxS
  rw [drop_pos hcur]
  simp only [hk]
  rw [eraseB_cons, blk_cons, stmtOK_erase_cond nsub pa sg cur s w body hk]

/-- an action that stands nowhere is the C code's `cur == NULL`: the step stops the daemon model -/
theorem step_null (now : Time) (d : Dev) (a : Action) (o : Oracle) (h : (topCtx a).block[(topCtx a).pos]? = none) :
    (mstep now d a o).status = .aborted := by
  unfold mstep
  simp [processStmt_null d a o now h, hasAbort]

/-- the invariant after the micro-step, with the ghost the step leaves -/
def StepGoal (nsub : Nat → Nat) (kind : Nat) (now : Time) (d : Dev) (a : Action) (o : Oracle) (g : Option Nat) : Prop :=
  Sound nsub kind (mstep now d a o).dev (mstep now d a o).act (ghostNext now d a o g)

theorem ghostOK_same {nsub : Nat → Nat} {cur : Option Nat} {d d' : Dev} {g : Option Nat} (h : SameXm d d')
    (hg : GhostOK nsub cur d g) : GhostOK nsub cur d' g :=
  fun n hn => ⟨held_same h (hg n hn).1, (hg n hn).2⟩

/-- A micro-step on a leaf statement leaves the stack as it is but for the flag of the top, or the action advances.  `H` is what
    the statement does to the match object, in terms of the static `last`: when it finishes, the `last` the check computes behind it
    describes the new match object; when it does not, some `last` does from which the check of the statement comes out the same. -/
theorem step_leaf (nsub : Nat → Nat) (kind : Nat) (now : Time) (d : Dev) (a : Action) (o : Oracle) (g : Option Nat)
    (e : ExecCtx) (rest : List ExecCtx) (s : Stmt) (hex : a.exec = e :: rest) (hcur : e.block[e.pos]? = some s)
    (hk : s.kind = .leaf) (hS : Sound nsub kind d a g)
    (hs : (mstep now d a o).status = .running ∨ (mstep now d a o).status = .stalled)
    (H : ∀ cur, GhostOK nsub cur d g →
      ((processStmt d a o now).finished = true → ∀ pa sg,
        GhostOK nsub (stmtOK pa sg cur (erase nsub s)).2 (processStmt d a o now).dev (ghostNext now d a o g)) ∧
      ((processStmt d a o now).finished = false → ∃ c0, GhostOK nsub c0 (processStmt d a o now).dev (ghostNext now d a o g) ∧
        ∀ pa sg, stmtOK pa sg c0 (erase nsub s) = stmtOK pa sg cur (erase nsub s))) :
    StepGoal nsub kind now d a o g := by
  obtain ⟨cur, hg, hpl, hctx⟩ := hS.at hex
  have hctx := (ctxS_leaf hcur hk).mp hctx
  obtain ⟨p', hexec⟩ := (processStmt_step (d := d) (o := o) (now := now) hex hcur).flag hex (.inl hk)
  obtain ⟨hdev, hact⟩ := mstep_cases now d a o hs
  obtain ⟨hleft, hstay⟩ := H cur hg
  unfold StepGoal
  rw [hdev]
  rcases hact with ⟨ha, hnf | hpush⟩ | ⟨ha, hf, _⟩
  · obtain ⟨c0, hg0, h0⟩ := hstay hnf
    refine ⟨c0, hg0, ?_⟩
    rw [ha, hexec]
    exact ⟨hpl, (ctxS_leaf (e := { e with processing := p' }) hcur hk).mpr (by rw [h0]; exact hctx)⟩
  · rw [hexec, hex] at hpush; simp at hpush
  · refine ⟨_, hleft hf (flagsOf kind rest).1 (flagsOf kind rest).2, ?_⟩
    rw [ha]
    exact contOK_advance nsub kind _ { e with processing := p' } rest _ hexec hpl hctx.2

/-- an `expect` that matches makes the match object hold what the check assumes behind it (`some (nsub pat)`, whatever came
    before); one that does not leaves nothing to rely on, and the check of an `expect` needs nothing -/
theorem step_expect (nsub : Nat → Nat) (kind : Nat) (now : Time) (d : Dev) (a : Action) (o : Oracle) (g : Option Nat)
    (e : ExecCtx) (rest : List ExecCtx) (pat : Nat) (hex : a.exec = e :: rest)
    (hcur : e.block[e.pos]? = some (.expect pat))
    (hS : Sound nsub kind d a g)
    (hs : (mstep now d a o).status = .running ∨ (mstep now d a o).status = .stalled) :
    StepGoal nsub kind now d a o g := by
  have hst : ∀ pa sg l, stmtOK pa sg l (erase nsub (.expect pat)) = (true, some (nsub pat)) := by
    intro pa sg l; simp [erase, stmtOK]
  have hps : processStmt d a o now = stmtExpect d a o pat := processStmt_at d a o now e rest hex _ hcur
  have hgn : ghostNext now d a o g = if (stmtExpect d a o pat).finished then some pat else none := by
    unfold ghostNext; rw [topCtx_of_exec a e rest hex, hcur, hps]
  refine step_leaf nsub kind now d a o g e rest _ hex hcur rfl hS hs fun cur _ => ?_
  rw [hgn, hps]
  refine ⟨fun hfin pa sg => ?_, fun hfin => ⟨none, ghostOK_none nsub _ _, fun pa sg => by rw [hst, hst]⟩⟩
  obtain ⟨hne, hsome⟩ := (stmtExpect_finished_iff d a o pat).mp hfin
  obtain ⟨offs, hoffs⟩ := Option.isSome_iff_exists.mp hsome
  rw [hst, hfin, stmtExpect_match d a o pat offs hne hoffs]
  intro n hn
  cases hn
  exact ⟨⟨rfl, rfl, rfl⟩, pat, rfl, Nat.le_refl _⟩

theorem ghostNext_other (now : Time) (d : Dev) (a : Action) (o : Oracle) (g : Option Nat) (e : ExecCtx)
    (rest : List ExecCtx) (s : Stmt) (hex : a.exec = e :: rest) (hcur : e.block[e.pos]? = some s)
    (hk : s.kind ≠ .leaf) : ghostNext now d a o g = g := by
  unfold ghostNext; rw [topCtx_of_exec a e rest hex, hcur]
  cases s <;> first | rfl | exact absurd rfl hk

/-- every singlet kind takes a plug argument: a fact about the two tables of `Pm/SpecCheck.lean` -/
theorem singlet_plugArg (k : Nat) (h : singletKinds.contains k = true) : plugArgKinds.contains k = true :=
  List.all_eq_true.mp (by decide : singletKinds.all (plugArgKinds.contains ·) = true) k (List.contains_iff_mem.mp h)

theorem flags_single (kind : Nat) (rest : List ExecCtx) (h : (flagsOf kind rest).2 = true) : (flagsOf kind rest).1 = true := by
  unfold flagsOf at *
  split
  · rename_i hr; simp only [hr, ↓reduceIte] at h; exact singlet_plugArg kind h
  · rfl

theorem step_block (nsub : Nat → Nat) (kind : Nat) (now : Time) (d : Dev) (a : Action) (o : Oracle) (g : Option Nat)
    (e : ExecCtx) (rest : List ExecCtx) (s : Stmt) (hex : a.exec = e :: rest)
    (hcur : e.block[e.pos]? = some s) (hk : s.kind ≠ .leaf)
    (hS : Sound nsub kind d a g)
    (hs : (mstep now d a o).status = .running ∨ (mstep now d a o).status = .stalled) :
    StepGoal nsub kind now d a o g := by
  obtain ⟨cur, hg, hpl, hctx⟩ := hS.at hex
  obtain ⟨a', st, ht, hm⟩ := mstep_turn (now := now) (d := d) (o := o) hex hcur hk
  have hm := hm.resolve_right fun ⟨_, hf⟩ => by rw [hf] at hs; rcases hs with h | h <;> cases h
  unfold StepGoal
  rw [hm] at hs
  rw [ghostNext_other now d a o g e rest s hex hcur hk, hm]
  refine ⟨cur, hg, ?_⟩
  have hK := contOK_mono nsub kind rest
  have hff := foreachCtx_fields a e
  -- the statement is left: the action advances from a context `x` with the block, position and plugs of `e`
  have leave : ∀ (a1 : Action) (x : ExecCtx), a1.exec = x :: rest → x.block = e.block → x.pos = e.pos → x.plugs = e.plugs →
      Blk (flagsOf kind rest).1 (flagsOf kind rest).2 cur (eraseB nsub (e.block.drop (e.pos + 1))) (fun c => ContOK nsub kind rest c) →
      ContOK nsub kind (advance a1).exec cur := by
    intro a1 x h0 h1 h2 h3 hb
    exact contOK_advance nsub kind a1 x rest cur h0 (by rw [h3]; exact hpl) (by rw [h1, h2]; exact hb)
  -- the body is pushed on a context `x` that stands at `s` as `e` does
  have enter : ∀ (b : List Stmt) (p : Option (List Plug)) (x : ExecCtx), (∃ q, p = some [q]) → x.plugs = e.plugs →
      Blk true true cur (eraseB nsub b) (fun c => ctxS nsub (flagsOf kind rest).1 (flagsOf kind rest).2 c x (fun c => ContOK nsub kind rest c)) →
      ContOK nsub kind (bodyCtx b p :: x :: rest) cur := by
    intro b p x ⟨q, hq⟩ hx hb
    refine ⟨⟨fun _ => ⟨q, hq⟩, fun _ => ⟨q, [], hq⟩⟩, ?_⟩
    apply ctxS_of_blk nsub true true cur (bodyCtx b p) _ (contOK_mono nsub kind _)
    exact ⟨hb.1, by rw [hx]; exact hpl, hb.2⟩
  generalize hk' : s.kind = k at ht
  cases ht with
  | @eachNext n body p k hnp =>
    obtain ⟨hsg, b, hb1, hb2, hb3, hb4⟩ := (ctxS_each hcur hk').mp hctx
    have hm := stmtsOK_mono (eraseB nsub body) true true b cur hb1
    refine enter _ _ _ ⟨p, rfl⟩ hff.plugs ⟨hm.1 hb2, ?_⟩
    refine (ctxS_each (e := { foreachCtx a e with plugItr := some k }) (by simp only [hff.block, hff.pos]; exact hcur) hk').mpr ?_
    refine ⟨hsg, b, le_trans hb3 hm.2, hb2, hb3, ?_⟩
    simp only [hff.block, hff.pos]; exact hb4
  | eachDone hnp =>
    obtain ⟨hsg, b, hb1, hb2, hb3, hb4⟩ := (ctxS_each hcur hk').mp hctx
    exact leave _ _ rfl hff.block hff.pos hff.plugs (blk_mono hK hb1 hb4)
  | ifUnknown => rcases hs with h | h <;> cases h
  | ifReturn hp =>
    have hctx := (ctxS_cond hcur hk').mp hctx
    rw [if_pos hp] at hctx
    exact leave _ _ rfl rfl rfl rfl hctx
  | ifOther hp hc hu =>
    have hctx := (ctxS_cond hcur hk').mp hctx
    rw [if_neg (by simp [hp])] at hctx
    exact leave a e hex rfl rfl rfl (blk_mono hK (meet_le_left _ _) hctx.2)
  | ifTaken hp hc =>
    have hctx := (ctxS_cond hcur hk').mp hctx
    rw [if_neg (by simp [hp])] at hctx
    obtain ⟨hcond, htail⟩ := hctx
    simp only [condOK, Bool.and_eq_true] at hcond htail
    have hpa := flags_single kind rest hcond.1
    obtain ⟨q, hq⟩ := hpl.1 hcond.1
    have hbody := hcond.2
    rw [hpa, hcond.1] at hbody
    refine enter _ _ { e with processing := true } ⟨q, by rw [hq]; rfl⟩ rfl ⟨hbody, ?_⟩
    refine (ctxS_cond (e := { e with processing := true }) hcur hk').mpr ?_
    rw [if_pos rfl]
    have := blk_mono hK (meet_le_right cur _) htail
    rw [hpa, hcond.1] at this ⊢
    exact this

/-- **every micro-step keeps the invariant** — whatever the device state, the oracle's answers, the time — as long as the
    action goes on (`running`: next statement in the same pass; `stalled`: it waits for the next pass) -/
theorem sound_mstep (nsub : Nat → Nat) (kind : Nat) (now : Time) (d : Dev) (a : Action) (o : Oracle) (g : Option Nat)
    (hne : a.exec ≠ []) (hS : Sound nsub kind d a g)
    (hs : (mstep now d a o).status = .running ∨ (mstep now d a o).status = .stalled) :
    Sound nsub kind (mstep now d a o).dev (mstep now d a o).act (ghostNext now d a o g) := by
  cases hex : a.exec with
  | nil => exact absurd hex hne
  | cons e rest =>
    cases hcur : e.block[e.pos]? with
    | none =>
      rw [step_null now d a o (by rw [topCtx_of_exec a e rest hex]; exact hcur)] at hs
      rcases hs with h | h <;> cases h
    | some s =>
      cases s with
      | expect pat => exact step_expect nsub kind now d a o g e rest pat hex hcur hS hs
      | send fmt | delay us | setplugstate lit pm sm is | setresult pm sm is =>
        -- these leave the match object, the ghost and the `last` alone
        have hsame := (processStmt_step (d := d) (o := o) (now := now) hex hcur).sameXm (by intro pat h; cases h)
        have hgn : ghostNext now d a o g = g := by unfold ghostNext; rw [topCtx_of_exec a e rest hex, hcur]
        refine step_leaf nsub kind now d a o g e rest _ hex hcur rfl hS hs fun cur hg => ?_
        rw [hgn]
        exact ⟨fun _ pa sg => by simp only [erase, stmtOK]; exact ghostOK_same hsame hg,
          fun _ => ⟨cur, ghostOK_same hsame hg, fun _ _ => rfl⟩⟩
      | foreachplug b | foreachnode b | ifon b | ifoff b =>
        exact step_block nsub kind now d a o g e rest _ hex hcur (by simp [Stmt.kind]) hS hs

/-! ## what the invariant promises at the statement the action stands at -/

/-- reading `$mp` (`mp ≥ 0`; `-1` stands for "no `$N` given") stays within the groups of the expect that matched last
    (pattern `pat`) and within the match object -/
def ReadOK (nsub : Nat → Nat) (pat : Nat) (mp : Int) : Prop := 0 ≤ mp → mp.toNat ≤ nsub pat ∧ mp.toNat ≤ MAX_MATCH_POS

/-- the promise about a `setplugstate` that is executed: the match object holds a successful match, made by an expect of
    this action (pattern `pat`, the ghost); the `$N` it reads are groups of that pattern and fit the match object; a status
    group is given; and the plug has a source: literal, group, or the context -/
def SetSafe (nsub : Nat → Nat) (d : Dev) (g : Option Nat) (pl : Option (List Plug)) (lit : Option Bytes) (pm sm : Int) : Prop :=
  Held d ∧ ∃ pat, g = some pat ∧ (lit = none → ReadOK nsub pat pm) ∧ ReadOK nsub pat sm ∧
    0 ≤ sm ∧ (lit.isSome = true ∨ 0 ≤ pm ∨ ∃ p l, pl = some (p :: l))

/-- … and about a `setresult` -/
def ResSafe (nsub : Nat → Nat) (d : Dev) (g : Option Nat) (pm sm : Int) : Prop :=
  Held d ∧ ∃ pat, g = some pat ∧ ReadOK nsub pat pm ∧ ReadOK nsub pat sm ∧ 0 ≤ pm ∧ 0 ≤ sm

theorem readOK_of_mpOK (nsub : Nat → Nat) (n pat : Nat) (mp : Int) (hn : n ≤ nsub pat) (h : mpOK (some n) mp = true) :
    ReadOK nsub pat mp := by
  intro h0
  unfold mpOK at h
  have : ¬ mp < 0 := by omega
  simp only [this, ↓reduceIte, Bool.and_eq_true, decide_eq_true_eq] at h
  exact ⟨by omega, h.2⟩

/-- the promise about a send is exactly "`hsprintf` formats it without fault with the argument the context gives" -/
theorem sendSafe_iff (fmt : Bytes) (pl : Option (List Plug)) : SendSafe fmt pl ↔ fmtBad fmt (argThere pl) = false := by
  constructor
  · exact sendSafe_fmtBad fmt pl
  · intro h
    obtain ⟨h1, h2⟩ := (fmtBad_iff_scan fmt.length fmt _ (Nat.le_refl _)).mp h
    refine ⟨h1, by split at h2 <;> omega, ?_⟩
    rcases pl with _ | _ | ⟨p, l⟩
    · left; simpa [argThere] using h2
    · left; simpa [argThere] using h2
    · right; exact ⟨p, l, rfl⟩

theorem sound_top_leaf (nsub : Nat → Nat) (kind : Nat) (d : Dev) (a : Action) (g : Option Nat) (e : ExecCtx)
    (rest : List ExecCtx) (s : Stmt) (hS : Sound nsub kind d a g) (hex : a.exec = e :: rest)
    (hcur : e.block[e.pos]? = some s) (hk : s.kind = .leaf) :
    ∃ cur, GhostOK nsub cur d g ∧ CtxPlugs (flagsOf kind rest).1 (flagsOf kind rest).2 e.plugs ∧
      (stmtOK (flagsOf kind rest).1 (flagsOf kind rest).2 cur (erase nsub s)).1 = true := by
  obtain ⟨cur, hg, hpl, hctx⟩ := hS.at hex
  exact ⟨cur, hg, hpl, ((ctxS_leaf hcur hk).mp hctx).1⟩

/-- (a) the send the action stands at is safe to format in its context -/
theorem sound_send (nsub : Nat → Nat) (kind : Nat) (d : Dev) (a : Action) (g : Option Nat) (e : ExecCtx)
    (rest : List ExecCtx) (fmt : Bytes) (hS : Sound nsub kind d a g) (hex : a.exec = e :: rest)
    (hcur : e.block[e.pos]? = some (.send fmt)) : SendSafe fmt e.plugs := by
  obtain ⟨cur, _, hpl, hok⟩ := sound_top_leaf nsub kind d a g e rest _ hS hex hcur rfl
  simp only [erase, stmtOK, sendSafe, Bool.and_eq_true, Bool.or_eq_true, decide_eq_true_eq, beq_iff_eq] at hok
  obtain ⟨⟨h1, h2⟩, h3⟩ := hok
  refine ⟨h1, h2, ?_⟩
  rcases h3 with h3 | h3
  · exact Or.inl h3
  · exact Or.inr (hpl.2 h3)

/-- (b) the `setplugstate` the action stands at reads only what the last matching expect provides -/
theorem sound_setplugstate (nsub : Nat → Nat) (kind : Nat) (d : Dev) (a : Action) (g : Option Nat) (e : ExecCtx)
    (rest : List ExecCtx) (lit : Option Bytes) (pm sm : Int) (is : List (PState × Nat))
    (hS : Sound nsub kind d a g) (hex : a.exec = e :: rest)
    (hcur : e.block[e.pos]? = some (.setplugstate lit pm sm is)) : SetSafe nsub d g e.plugs lit pm sm := by
  obtain ⟨cur, hg, hpl, hok⟩ := sound_top_leaf nsub kind d a g e rest _ hS hex hcur rfl
  simp only [erase, stmtOK, Bool.and_eq_true, Bool.or_eq_true, decide_eq_true_eq] at hok
  obtain ⟨⟨⟨⟨h1, h2⟩, h3⟩, h4⟩, h5⟩ := hok
  obtain ⟨n, hn⟩ := Option.isSome_iff_exists.mp h1
  obtain ⟨hheld, pat, hgp, hnp⟩ := hg n hn
  subst hn
  refine ⟨hheld, pat, hgp, ?_, readOK_of_mpOK nsub n pat sm hnp h3, h5, ?_⟩
  · intro hl
    subst hl
    simp only [Option.isSome_none, Bool.false_eq_true, ↓reduceIte] at h2
    exact readOK_of_mpOK nsub n pat pm hnp h2
  · rcases h4 with (h4 | h4) | h4
    · exact Or.inl h4
    · cases lit with
      | none => simp only [Option.isSome_none, Bool.false_eq_true, ↓reduceIte] at h4; exact Or.inr (Or.inl h4)
      | some x => exact Or.inl rfl
    · exact Or.inr (Or.inr (hpl.2 h4))

theorem sound_setresult (nsub : Nat → Nat) (kind : Nat) (d : Dev) (a : Action) (g : Option Nat) (e : ExecCtx)
    (rest : List ExecCtx) (pm sm : Int) (is : List (PResult × Nat))
    (hS : Sound nsub kind d a g) (hex : a.exec = e :: rest)
    (hcur : e.block[e.pos]? = some (.setresult pm sm is)) : ResSafe nsub d g pm sm := by
  obtain ⟨cur, hg, hpl, hok⟩ := sound_top_leaf nsub kind d a g e rest _ hS hex hcur rfl
  simp only [erase, stmtOK, Bool.and_eq_true, decide_eq_true_eq] at hok
  obtain ⟨⟨⟨⟨h1, h2⟩, h3⟩, h4⟩, h5⟩ := hok
  obtain ⟨n, hn⟩ := Option.isSome_iff_exists.mp h1
  obtain ⟨hheld, pat, hgp, hnp⟩ := hg n hn
  subst hn
  exact ⟨hheld, pat, hgp, readOK_of_mpOK nsub n pat pm hnp h2, readOK_of_mpOK nsub n pat sm hnp h3, h4, h5⟩

/-- (c) an `ifon`/`ifoff` that is evaluated (not: returned to from its body) has exactly one plug in its context -/
theorem sound_if (nsub : Nat → Nat) (kind : Nat) (d : Dev) (a : Action) (g : Option Nat) (e : ExecCtx)
    (rest : List ExecCtx) (s : Stmt) (w : Bool) (body : List Stmt) (hS : Sound nsub kind d a g) (hex : a.exec = e :: rest)
    (hcur : e.block[e.pos]? = some s) (hk : s.kind = .cond w body) (hp : e.processing = false) :
    ∃ p, e.plugs = some [p] := by
  obtain ⟨cur, hg, hpl, hctx⟩ := hS.at hex
  have hctx := (ctxS_cond hcur hk).mp hctx
  rw [if_neg (by simp [hp])] at hctx
  have := hctx.1
  simp only [condOK, Bool.and_eq_true] at this
  exact hpl.1 this.1

/-- (c) a `foreachplug`/`foreachnode` is only ever executed in the outermost context of an action whose kind is not a
    singlet kind — never inside a `foreach` body, an `if` body or a singlet script, the contexts that hold one plug -/
theorem sound_foreach (nsub : Nat → Nat) (kind : Nat) (d : Dev) (a : Action) (g : Option Nat) (e : ExecCtx)
    (rest : List ExecCtx) (s : Stmt) (n : Bool) (body : List Stmt) (hS : Sound nsub kind d a g) (hex : a.exec = e :: rest)
    (hcur : e.block[e.pos]? = some s) (hk : s.kind = .each n body) :
    rest = [] ∧ singletKinds.contains kind = false := by
  obtain ⟨cur, hg, hpl, hctx⟩ := hS.at hex
  have hsg := ((ctxS_each hcur hk).mp hctx).1
  unfold flagsOf at hsg
  cases rest with
  | nil => simpa using hsg
  | cons x xs => simp at hsg

/-- The configurations — device state, action, ghost — an action that runs `script` with context plugs `pl` can be in.
    `start`: the action as `_create_action` makes it, or as `_rewind_action` leaves it (one context at the first statement
    of the script; any flags), whatever the device state.  `step`: one micro-step (`_process_stmt` and the bookkeeping of
    `_process_action`) with any oracle and at any time, as long as the action goes on.  `env`: anything that happens
    to the device or to the other fields of the action between two statements — input arriving, output draining, other
    actions being queued, reconnects, time stamps — except to the match object while a match is held. -/
inductive Reach (script : List Stmt) (pl : Option (List Plug)) : Dev → Action → Option Nat → Prop where
  | start (d : Dev) (a : Action) (e : ExecCtx) : a.exec = [e] → e.block = script → e.pos = 0 → e.plugs = pl →
      Reach script pl d a none
  | step (now : Time) (d : Dev) (a : Action) (o : Oracle) (g : Option Nat) : Reach script pl d a g → a.exec ≠ [] →
      ((mstep now d a o).status = .running ∨ (mstep now d a o).status = .stalled) →
      Reach script pl (mstep now d a o).dev (mstep now d a o).act (ghostNext now d a o g)
  | env (d d' : Dev) (a a' : Action) (g : Option Nat) : Reach script pl d a g → a'.exec = a.exec →
      (g = none ∨ SameXm d d') → Reach script pl d' a' g

/-- **`specOK_sound`, the invariant form**: every configuration an action can reach on a script whose erasure passes the
    static check for the action's kind — created with the plugs that kind is created with — satisfies the invariant -/
theorem reach_sound (nsub : Nat → Nat) (kind : Nat) (script : List Stmt) (pl : Option (List Plug))
    (hok : scriptOK kind (eraseB nsub script) = true) (hpl : KindPlugs kind pl)
    (d : Dev) (a : Action) (g : Option Nat) (h : Reach script pl d a g) : Sound nsub kind d a g := by
  induction h with
  | start d a e hex hb hp hpl' => exact sound_start nsub kind script pl d a hok hpl e hex hb hp hpl'
  | step now d a o g _ hne hs ih => exact sound_mstep nsub kind now d a o g hne ih hs
  | env d d' a a' g _ hex hm ih =>
    obtain ⟨cur, hg, hc⟩ := ih
    refine ⟨cur, ?_, by rw [hex]; exact hc⟩
    intro n hn
    obtain ⟨h1, pat, h3, h4⟩ := hg n hn
    rcases hm with hm | hm
    · rw [hm] at h3; cases h3
    · exact ⟨held_same hm h1, pat, h3, h4⟩

/-! ### `_rewind_action`: the outermost context is always the script's -/

/-- the outermost context of the stack (if any) runs `script` with the plugs `pl` -/
def Bottom (script : List Stmt) (pl : Option (List Plug)) : List ExecCtx → Prop
  | [] => True
  | [e] => e.block = script ∧ e.plugs = pl
  | _ :: x :: r => Bottom script pl (x :: r)

theorem bottom_same (script : List Stmt) (pl : Option (List Plug)) (e x : ExecCtx) (rest : List ExecCtx)
    (h1 : x.block = e.block) (h2 : x.plugs = e.plugs) (h : Bottom script pl (e :: rest)) : Bottom script pl (x :: rest) := by
  cases rest with
  | nil => simp only [Bottom] at h ⊢; rw [h1, h2]; exact h
  | cons y ys => simpa only [Bottom] using h

theorem bottom_tail (script : List Stmt) (pl : Option (List Plug)) (e : ExecCtx) (rest : List ExecCtx)
    (h : Bottom script pl (e :: rest)) : Bottom script pl rest := by
  cases rest with
  | nil => trivial
  | cons y ys => simpa only [Bottom] using h

theorem bottom_getLast (script : List Stmt) (pl : Option (List Plug)) : ∀ (stack : List ExecCtx) (outer : ExecCtx),
    Bottom script pl stack → stack.getLast? = some outer → outer.block = script ∧ outer.plugs = pl
  | [], _, _, h => by simp at h
  | [e], outer, hb, h => by simp at h; subst h; exact hb
  | _ :: x :: r, outer, hb, h => by
    have : (x :: r).getLast? = some outer := by simpa [List.getLast?_cons_cons] using h
    exact bottom_getLast script pl (x :: r) outer (by simpa only [Bottom] using hb) this

theorem bottom_mstep (script : List Stmt) (pl : Option (List Plug)) (now : Time) (d : Dev) (a : Action) (o : Oracle)
    (hb : Bottom script pl a.exec)
    (hs : (mstep now d a o).status = .running ∨ (mstep now d a o).status = .stalled) :
    Bottom script pl (mstep now d a o).act.exec := by
  rcases located a with hn | ⟨e, rest, s, hex, hcur⟩
  · rw [step_null now d a o hn] at hs; rcases hs with h | h <;> cases h
  · rw [hex] at hb
    obtain ⟨e', hsh, h1, h2, _⟩ := (processStmt_step (d := d) (o := o) (now := now) hex hcur).shape hex
    have hb' : Bottom script pl (e' :: rest) := bottom_same script pl e e' rest h1 h2 hb
    obtain ⟨_, hact⟩ := mstep_cases now d a o hs
    rcases hact with ⟨ha, _⟩ | ⟨ha, _, hlen⟩
    · rw [ha]
      rcases hsh with h | ⟨new, h, _⟩
      · rw [h]; exact hb'
      · rw [h]; simpa only [Bottom] using hb'
    · rw [ha]
      rcases hsh with h | ⟨new, h, _⟩
      · rw [advance_exec _ e' rest h]
        split
        · exact bottom_same script pl e' { e' with pos := e'.pos + 1 } rest rfl rfl hb'
        · exact bottom_tail script pl e' rest hb'
      · rw [h, hex] at hlen; simp at hlen; omega

theorem reach_bottom (script : List Stmt) (pl : Option (List Plug)) (d : Dev) (a : Action) (g : Option Nat)
    (h : Reach script pl d a g) : Bottom script pl a.exec := by
  induction h with
  | start d a e hex hb hp hpl' => rw [hex]; exact ⟨hb, hpl'⟩
  | step now d a o g _ _ hs ih => exact bottom_mstep script pl now d a o ih hs
  | env d d' a a' g _ hex _ ih => rw [hex]; exact ih

/-- **pre-emption by a login**: `_rewind_action` on an action in any reachable configuration yields a configuration
    from which the action can start over — in whatever state the device then is (the login script runs its own
    expects on the shared match object in between) -/
theorem reach_rewind (script : List Stmt) (pl : Option (List Plug)) (d d' : Dev) (a : Action) (g : Option Nat)
    (h : Reach script pl d a g) (hne : a.exec ≠ []) : Reach script pl d' (rewind a) none := by
  obtain ⟨outer, hl, hr⟩ := rewind_eq a hne
  obtain ⟨h1, h2⟩ := bottom_getLast script pl a.exec outer (reach_bottom script pl d a g h) hl
  exact Reach.start d' (rewind a) _ (congrArg Action.exec hr) h1 rfl h2

theorem mstep_ne_done (now : Time) (d : Dev) (a : Action) (o : Oracle) : (mstep now d a o).status ≠ .done := by
  have h := mstep_does now d a o
  generalize mstep now d a o = m at h ⊢
  cases h <;> nofun

/-- a run of micro-steps (`mrun`: one pass of `_process_action` over the head action, `C08_pass_is_run`) leads from
    reachable configurations to reachable configurations -/
theorem reach_mrun (script : List Stmt) (pl : Option (List Plug)) (now : Time) : ∀ (n : Nat) (d : Dev) (a : Action)
    (o : Oracle) (acc : List Out) (g : Option Nat), Reach script pl d a g →
    ((mrun now n d a o acc).status = .running ∨ (mrun now n d a o acc).status = .stalled ∨
      (mrun now n d a o acc).status = .done) →
    ∃ g', Reach script pl (mrun now n d a o acc).dev (mrun now n d a o acc).act g' := by
  intro n
  induction n with
  | zero => intro d a o acc g h _; exact ⟨g, by simpa [mrun] using h⟩
  | succ n ih =>
    intro d a o acc g h hs
    rw [mrun] at hs ⊢
    by_cases hemp : a.exec.isEmpty = true
    · simp only [hemp, ↓reduceIte]; exact ⟨g, h⟩
    · have hne : a.exec ≠ [] := by simpa using hemp
      simp only [hemp, Bool.false_eq_true, ↓reduceIte] at hs ⊢
      by_cases hrun : (mstep now d a o).status = .running
      · simp only [hrun, ↓reduceIte] at hs ⊢
        exact ih _ _ _ _ _ (Reach.step now d a o g h hne (Or.inl hrun)) hs
      · simp only [hrun, ↓reduceIte] at hs ⊢
        rcases hs with hs | hs | hs
        · first | exact absurd hs hrun | exact hs.elim
        · exact ⟨_, Reach.step now d a o g h hne (Or.inr hs)⟩
        · exact absurd hs (mstep_ne_done now d a o)

/-- what C17 promises about the statement the action stands at, by statement kind -/
def StmtSafe (nsub : Nat → Nat) (kind : Nat) (d : Dev) (a : Action) (g : Option Nat) : Prop :=
  ∀ (e : ExecCtx) (rest : List ExecCtx) (s : Stmt), a.exec = e :: rest → e.block[e.pos]? = some s →
    match s with
    | .send fmt => SendSafe fmt e.plugs
    | .setplugstate lit pm sm _ => SetSafe nsub d g e.plugs lit pm sm
    | .setresult pm sm _ => ResSafe nsub d g pm sm
    | .ifon _ => e.processing = false → ∃ p, e.plugs = some [p]
    | .ifoff _ => e.processing = false → ∃ p, e.plugs = some [p]
    | .foreachplug _ => rest = [] ∧ singletKinds.contains kind = false
    | .foreachnode _ => rest = [] ∧ singletKinds.contains kind = false
    | _ => True

theorem sound_safe (nsub : Nat → Nat) (kind : Nat) (d : Dev) (a : Action) (g : Option Nat) (hS : Sound nsub kind d a g) :
    StmtSafe nsub kind d a g := by
  intro e rest s hex hcur
  cases s with
  | send fmt => exact sound_send nsub kind d a g e rest fmt hS hex hcur
  | expect pat => trivial
  | delay us => trivial
  | setplugstate lit pm sm is => exact sound_setplugstate nsub kind d a g e rest lit pm sm is hS hex hcur
  | setresult pm sm is => exact sound_setresult nsub kind d a g e rest pm sm is hS hex hcur
  | foreachplug b => exact sound_foreach nsub kind d a g e rest _ false b hS hex hcur rfl
  | foreachnode b => exact sound_foreach nsub kind d a g e rest _ true b hS hex hcur rfl
  | ifon b => exact sound_if nsub kind d a g e rest _ true b hS hex hcur rfl
  | ifoff b => exact sound_if nsub kind d a g e rest _ false b hS hex hcur rfl

/-- **`specOK_sound`**: in every configuration an action can reach, the statement it stands at is safe -/
theorem reach_safe (nsub : Nat → Nat) (kind : Nat) (script : List Stmt) (pl : Option (List Plug))
    (hok : scriptOK kind (eraseB nsub script) = true) (hpl : KindPlugs kind pl)
    (d : Dev) (a : Action) (g : Option Nat) (h : Reach script pl d a g) : StmtSafe nsub kind d a g :=
  sound_safe nsub kind d a g (reach_sound nsub kind script pl hok hpl d a g h)

/-- **one pass of `_process_action`** over a queue whose head is such an action (in the running situation `HeadOK` of
    `C08_pass_is_run`): the pass is a run `mrun` of micro-steps, and every configuration that run goes through —
    `mrun … k` for every `k`, i.e. before each statement the pass executes, and where it leaves the action — is reachable,
    hence safe -/
theorem pass_safe (nsub : Nat → Nat) (kind : Nat) (script : List Stmt) (pl : Option (List Plug))
    (hok : scriptOK kind (eraseB nsub script) = true) (hpl : KindPlugs kind pl)
    (R : Bool) (dp : List Plug) (fuel : Nat) (c : CS) (a : Action) (rest : List Action) (o : Oracle)
    (out : List Out) (tmo : Option Time) (h : HeadOK R dp c a) (hacts : c.dev.acts = a :: rest)
    (g : Option Nat) (hr : Reach script pl c.dev a g) :
    (∃ N fuel', processActionF fuel c o out tmo =
      headResult rest c tmo (timeLeft c a) fuel' (mrun c.env.now N c.dev a o out)) ∧
    ∀ k, ((mrun c.env.now k c.dev a o out).status = .running ∨ (mrun c.env.now k c.dev a o out).status = .stalled ∨
          (mrun c.env.now k c.dev a o out).status = .done) →
      ∃ g', Reach script pl (mrun c.env.now k c.dev a o out).dev (mrun c.env.now k c.dev a o out).act g' ∧
        StmtSafe nsub kind (mrun c.env.now k c.dev a o out).dev (mrun c.env.now k c.dev a o out).act g' := by
  refine ⟨pass_is_run R dp fuel c a rest o out tmo h hacts, ?_⟩
  intro k hk
  obtain ⟨g', hg'⟩ := reach_mrun script pl c.env.now k c.dev a o out g hr hk
  exact ⟨g', hg', reach_safe nsub kind script pl hok hpl _ _ _ hg'⟩

/-- `KindPlugs` cannot be dropped: `send "%s"` passes the static check for the ranged kind 8, but an action of that kind
    created with an *empty* plug list formats it without an argument (`hsprintf` prints `(null)`).  `_enqueue_targeted_actions`
    never does that: it is only called for a device that `_command_needs_device`, so `ranged_plugs` holds a plug. -/
theorem send_needs_plugs_counterexample :
    scriptOK 8 (eraseB (fun _ => 0) [.send [37, 115]]) = true ∧ ¬ SendSafe [37, 115] (some []) ∧
    sendText [37, 115] (some []) = some [40, 110, 117, 108, 108, 41] := by
  refine ⟨by decide +kernel, ?_, by decide +kernel⟩
  rintro ⟨_, _, h | ⟨p, l, h⟩⟩
  · revert h; decide +kernel
  · cases h

#print axioms reach_safe
#print axioms pass_safe
#print axioms reach_rewind
#print axioms sendSafe_fmtBad
#print axioms send_needs_plugs_counterexample

end Pm.Dev2.SpecSound
