import Pm.FrameProof
import Pm.Dev2Timer
import Pm.InterpPass
/-! Helper lemmas for C05: a pass that brings nothing for a connected device stalled in an `expect` leaves it alone. -/
namespace Pm.Dev2

/-- connected, head action stamped and within its deadline, waiting in an `expect` with an empty input buffer and a
    recycled match record (the state an earlier stalled pass left), no scripted delay pending, no ping due -/
structure Stalled (d : Dev) (now : Time) : Prop where
  conn : d.conn = 2
  acts : ∃ a rest pat t0, d.acts = a :: rest ∧ a.timeStamp = some t0 ∧ now < t0 + d.timeout ∧
    (topCtx a).block[(topCtx a).pos]? = some (.expect pat)
  buf : d.fromBuf = []
  xm : d.xmStr = none ∧ d.xmResult = false ∧ d.xmUsed = false
  wake : d.wake = none
  ping : (d.conn == 2 && (d.scripts 6).isSome && d.pingPeriod > 0) = false ∨ ∃ t, d.lastPing = some t ∧ now < t + d.pingPeriod

theorem ppReady_quiet (d : Dev) (env : Env) (hev : d.fd.isSome = true → env.revents = 0) :
    ppReady d env = ({ dev := d, env := env, sys := [] }, false) := by
  have h0 : Tel.ppFlags d env = 0 := by
    unfold Tel.ppFlags
    split
    · rename_i h; exact hev h
    · rfl
  rw [ppReady_eq, h0]
  rfl

theorem ppReconnect_quiet (c : CS) (h : c.dev.conn = 2) : ppReconnect c false = (c, none) := by
  unfold ppReconnect
  simp [h]

theorem ppPing_quiet (c : CS) (now : Time) (h : (c.dev.conn == 2 && (c.dev.scripts 6).isSome && c.dev.pingPeriod > 0) = false ∨
    ∃ t, c.dev.lastPing = some t ∧ now < t + c.dev.pingPeriod) : ∃ tmo, ppPing c now none = (c, tmo) := by
  unfold ppPing
  rcases h with h | ⟨t, h1, h2⟩
  · rw [h]; exact ⟨none, rfl⟩
  · split
    · rw [h1]
      dsimp only
      have : ¬ now ≥ t + c.dev.pingPeriod := by unfold Time at *; omega
      simp only [this, ↓reduceIte]
      exact ⟨_, rfl⟩
    · exact ⟨none, rfl⟩

/-- a clean match record is what `xregex_match_recycle` leaves: recycling it changes nothing -/
theorem recycle_self {d : Dev} (hx : d.xmStr = none ∧ d.xmResult = false ∧ d.xmUsed = false) : recycle d = d := by
  cases d; simp_all [recycle]

theorem innerLoop_stutter (now : Time) (n : Nat) (d : Dev) (a : Action) (o : Oracle) (pat : Nat)
    (hs : (topCtx a).block[(topCtx a).pos]? = some (.expect pat)) (hb : d.fromBuf = [])
    (hx : d.xmStr = none ∧ d.xmResult = false ∧ d.xmUsed = false) :
    innerLoop now (n + 1) d a o [] = ⟨d, a, o, [], false⟩ := by
  have hp : processStmt d a o now = ⟨d, a, o, [], false⟩ := by
    rcases Interp.located a with hn | ⟨e, rest, s, hex, hcur⟩
    · rw [hn] at hs; cases hs
    · rw [Interp.topCtx_of_exec a e rest hex, hcur] at hs
      cases hs
      rw [(Interp.Step.expectEmpty pat hb).sound hex hcur, recycle_self hx]
  rw [innerLoop_succ, hp]
  unfold innerStep
  simp

theorem processAction_stutter (c : CS) (o : Oracle) (tmo : Option Time) (hab : c.aborted = false)
    (h : Stalled c.dev c.env.now) : ∃ t, processAction c o [] tmo = (c, o, [], some t) := by
  obtain ⟨n, hn⟩ := Timer.passFuel_pos c.dev
  obtain ⟨a, rest, pat, t0, hacts, hts, hdl, hst⟩ := h.acts
  unfold processAction
  rw [hn]
  unfold processActionF processActionBody
  simp only [hab, Bool.false_eq_true, ↓reduceIte]
  rw [hacts]
  dsimp only
  have hstamp : stamp c.env.now a = a := by unfold stamp; simp [hts]
  rw [hstamp, hts]
  have hnd : ¬ c.env.now ≥ (some t0).getD c.env.now + c.dev.timeout := by
    simp only [Option.getD_some]; unfold Time at *; omega
  simp only [hnd, ↓reduceIte, h.conn, bne_self_eq_false, Bool.false_eq_true]
  rw [onRun_eq]
  have hil := innerLoop_stutter c.env.now (depthB (topCtx a).block) { c.dev with wake := none } a o pat hst h.buf h.xm
  rw [show loopBound a = depthB (topCtx a).block + 1 from rfl, hil]
  unfold onRunTail
  simp only [hasAbort, List.any_nil, Bool.false_eq_true, ↓reduceIte, Bool.not_false, List.append_nil]
  have hu : ∀ (x : Option Time) (l : Time), ∃ t, upd x l = some t := by
    intro x l; cases x <;> exact ⟨_, rfl⟩
  obtain ⟨t, ht⟩ := hu tmo (t0 + c.dev.timeout - c.env.now)
  refine ⟨t, ?_⟩
  rw [← ht]
  -- the device is as it was: `wake` was clear and the queue is put back as it stood
  have hdev : ({ c.dev with wake := none, acts := a :: rest } : Dev) = c.dev :=
    (congrArg (fun d : Dev => { d with acts := a :: rest }) (Interp.wake_none_eq c.dev h.wake)).trans (Interp.acts_self c.dev _ hacts)
  show (({ c with dev := { c.dev with wake := none, acts := a :: rest } } : CS), o, ([] : List Out), _) = _
  rw [hdev]
  rfl

/-- **stutter**: no event on the device's descriptor, and the device connected and stalled in an `expect` inside its
    deadline: `dev_post_poll` leaves the device exactly as it is, makes no system call, asks the oracle nothing, fires no
    callback — and registers a wake-up time -/
theorem postPoll_stutter (d : Dev) (env : Env) (o : Oracle) (h : Stalled d env.now) (hev : d.fd.isSome = true → env.revents = 0) :
    ∃ t, postPoll d env o = ({ dev := d, env := env, sys := [] }, o, [], some t) := by
  rw [postPoll_eq]
  unfold postPoll'
  rw [ppReady_quiet d env hev]
  dsimp only
  rw [ppReconnect_quiet _ h.conn]
  obtain ⟨tmo, hp⟩ := ppPing_quiet { dev := d, env := env, sys := [] } env.now h.ping
  simp only [Bool.false_eq_true, ↓reduceIte]
  rw [hp]
  exact processAction_stutter { dev := d, env := env, sys := [] } o tmo rfl h

end Pm.Dev2

namespace Pm.Daemon
open Pm Pm.Client
open Pm.Dev2 (Oracle CS Env Dev Action Stalled)

/-- no event for the device's descriptor in this pass -/
def NoEvent (p : PassIn) (d : Dev) : Prop :=
  ∀ fd, d.fd = some fd → ∀ e, p.envs.find? (fun x => x.fd == fd) = some e → e.rev = 0

theorem devEnv_noEvent (p : PassIn) (w : W) (nd : Bytes × Dev) (h : NoEvent p nd.2) :
    (devEnv p w nd).now = p.now ∧ (devEnv p w nd).revents = 0 := by
  unfold devEnv
  dsimp only
  have hz : (mkDevEnv w { nd.2 with args := w.store } p.now p.con p.soe p.envs).revents = 0 := by
    unfold mkDevEnv
    dsimp only
    cases hfd : nd.2.fd with
    | none => rfl
    | some fd =>
      dsimp only
      cases he : p.envs.find? (fun x => x.fd == fd) with
      | none => rfl
      | some e => exact h fd hfd e he
  split
  · exact ⟨rfl, by dsimp only; rw [hz]; simp⟩
  · exact ⟨rfl, rfl⟩

theorem showSys_nil (dfd : Nat) : showSys [] [] dfd = [] := by
  simp [showSys]

/-- **stutter at pass level**: device `nd` gets no event and is stalled in an `expect` inside its deadline: its share of
    the pass changes nothing at all — the world, the messages, the oracle are as before, and the entry it leaves is
    itself (with the current store plugged in) -/
theorem devPass_stutter (p : PassIn) (a : DevAcc) (nd : Bytes × Dev) (hd : a.dead = false)
    (h : Stalled nd.2 p.now) (hev : NoEvent p nd.2) :
    ∃ t, devPass p a nd = { a with devs := a.devs ++ [(nd.1, { nd.2 with args := a.w.store })], tmo := minOpt a.tmo (some t) } := by
  obtain ⟨hnow, hrev⟩ := devEnv_noEvent p a.w nd hev
  have hs : Stalled { nd.2 with args := a.w.store } (devEnv p a.w nd).now := by
    rw [hnow]
    exact ⟨h.conn, h.acts, h.buf, h.xm, h.wake, h.ping⟩
  obtain ⟨t, ht⟩ := Pm.Dev2.postPoll_stutter { nd.2 with args := a.w.store } (devEnv p a.w nd) a.oracle hs (fun _ => hrev)
  refine ⟨t, ?_⟩
  rw [devPass_alive _ _ _ hd]
  unfold devStep
  rw [ht]
  dsimp only
  obtain ⟨w, yl, ms, tm, orc, dv, dd⟩ := a
  cases hd
  simp only [applyOuts, List.foldl_nil, afterStep, countSock, countPair, countFork, List.filter_nil, List.length_nil,
    Nat.add_zero, showSys_nil, List.append_nil, isAbortMsg, List.any_nil, Bool.or_false]

end Pm.Daemon
