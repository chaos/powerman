/- C09 on a small stand-alone model: the telnet filter.  `idealRead` filters the new bytes only, which is what `_telnet_preprocess`
   in /repo does (the mirror is `telnetFilter` in `Pm/Dev2.lean`, its proofs are in `Pm/TelnetProof.lean`); `implRead` is the
   variant that filters the unconsumed bytes again on every read (F4).  The two counterexamples and `C09_read_side_partial` are
   about `implRead`, `ideal_segmentation` is about `idealRead`. -/
namespace Pm.Telnet

inductive TState where
  | none | cmd | opt (c : UInt8)
deriving Repr, DecidableEq

def IAC : UInt8 := 255
def isOptCmd (b : UInt8) : Bool := b == 254 || b == 253 || b == 252 || b == 251   -- DONT DO WONT WILL

/-- one byte through the state machine of `_telnet_preprocess`: new state, bytes kept -/
def tstep (s : TState) (b : UInt8) : TState × List UInt8 :=
  match s with
  | .none => if b == IAC then (.cmd, []) else (.none, [b])
  | .cmd => if b == IAC then (.none, [b]) else if isOptCmd b then (.opt b, []) else (.none, [])
  | .opt _ => (.none, [])

def tfilter : TState → List UInt8 → TState × List UInt8
  | s, [] => (s, [])
  | s, b :: bs =>
    let r1 := tstep s b
    let r2 := tfilter r1.1 bs
    (r2.1, r1.2 ++ r2.2)

theorem tfilter_append (s : TState) (a b : List UInt8) :
    tfilter s (a ++ b) = ((tfilter (tfilter s a).1 b).1, (tfilter s a).2 ++ (tfilter (tfilter s a).1 b).2) := by
  induction a generalizing s with
  | nil => simp [tfilter]
  | cons x xs ih => simp [tfilter, ih, List.append_assoc]

theorem tfilter_clean (l : List UInt8) (h : ∀ b ∈ l, b ≠ IAC) : tfilter .none l = (.none, l) := by
  induction l with
  | nil => rfl
  | cons x xs ih =>
    have hx : (x == IAC) = false := by simpa using h x (by simp)
    have := ih (fun b hb => h b (by simp [hb]))
    simp [tfilter, tstep, hx, this]

/-- connection state relevant here: decoder state + unconsumed filtered bytes in `dev->from` -/
structure Conn where
  ts : TState
  buf : List UInt8

/-- what the decoder *should* do on a read: filter the new bytes only -/
def idealRead (c : Conn) (chunk : List UInt8) : Conn :=
  let r := tfilter c.ts chunk
  { ts := r.1, buf := c.buf ++ r.2 }

/-- `_telnet_preprocess` without the offset `len - newlen` (F4): peek the whole pending buffer (already filtered bytes
    followed by the new ones), filter all of it starting in the carried-over state, write it back -/
def implRead (c : Conn) (chunk : List UInt8) : Conn :=
  let r := tfilter c.ts (c.buf ++ chunk)
  { ts := r.1, buf := r.2 }

/-- an `expect` takes `k` bytes out of `dev->from` -/
def consume (c : Conn) (k : Nat) : Conn := { c with buf := c.buf.drop k }

/-- C09 (read side) as the property states it fails for `implRead`: the device sends
    `a b IAC | DO ECHO c \n`, nothing consumed in between; the script must see `a b c \n`. -/
theorem C09_read_side_counterexample :
    (implRead (implRead ⟨.none, []⟩ [97, 98, 255]) [253, 1, 99, 10]).buf ≠
    (idealRead (idealRead ⟨.none, []⟩ [97, 98, 255]) [253, 1, 99, 10]).buf := by decide

example : (implRead (implRead ⟨.none, []⟩ [97, 98, 255]) [253, 1, 99, 10]).buf = [98, 253, 1, 99, 10] := by decide
example : (idealRead (idealRead ⟨.none, []⟩ [97, 98, 255]) [253, 1, 99, 10]).buf = [97, 98, 99, 10] := by decide

/-- second witness: an escaped 0xFF that is still unconsumed is eaten together with its successor -/
theorem C09_read_side_counterexample2 :
    (implRead (implRead ⟨.none, []⟩ [120, 255, 255, 121]) [122]).buf = [120, 122] := by decide

/-- what does hold of `implRead`: whenever nothing is pending, or the decoder is at rest
    and the pending bytes contain no 0xFF, a read behaves ideally -/
theorem C09_read_side_partial (c : Conn) (chunk : List UInt8)
    (h : c.buf = [] ∨ (c.ts = .none ∧ ∀ b ∈ c.buf, b ≠ IAC)) :
    implRead c chunk = idealRead c chunk := by
  cases h with
  | inl h => simp [implRead, idealRead, h]
  | inr h =>
    obtain ⟨hts, hclean⟩ := h
    unfold implRead idealRead
    rw [tfilter_append, hts, tfilter_clean c.buf hclean]

/-- for the ideal decoder the bytes a script can ever see on one connection are a function of the
    byte stream alone — independent of segmentation and of when expects consumed -/
theorem ideal_segmentation (c : Conn) (a b : List UInt8) :
    idealRead (idealRead c a) b = idealRead c (a ++ b) := by
  simp [idealRead, tfilter_append, List.append_assoc]

end Pm.Telnet

