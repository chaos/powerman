import Pm.Daemon
/-! # Runs of passes that carry the answers of the regex engine

In the model the answers of the regex oracle for the coming pass live in the field `pendingX` of the world.  `daemonPass`
hands them to the device phase and clears the field; the driver (`lean/DmMain.lean`, the lines `X …`) *appends* the answers
recorded for the next pass **between** passes.  A plain fold of `daemonPass` over pass inputs (`Isolation.runPasses`,
`ClientPf.runPasses`) therefore describes only the runs in which, from the second pass on, every `expect` sees "no match".

`runX` is the fold in which every pass brings its own answers (`feed`, then `daemonPass`); `runX_plain` gives the plain fold
back.  `runX_inv_of` and `runX_rel` carry an invariant, and a relation between two runs under per-pass hypotheses (`AlongX`),
along a run; `alongB` and `everyB` decide such hypotheses along a concrete run, so that the run is evaluated once.
 -/
namespace Pm.Daemon
open Pm.Dev2 (RxCall)

/-- the input of one pass of a run: the kernel's answers and the recorded `regexec` answers the device phase will consume -/
structure PassX where
  p : PassIn
  rx : List RxCall := []

/-- a pass that brings no regex answer: every `expect` of its device phase sees "no match" (unless answers are still pending) -/
def PassX.plain (p : PassIn) : PassX := ⟨p, []⟩

/-- the driver hands the recorded `regexec` answers to the daemon before the pass (`DmMain`: the `X` lines append to `pendingX`) -/
def feed (w : W) (rx : List RxCall) : W := { w with pendingX := w.pendingX ++ rx }

/-- one pass of a run: the answers are handed over, then the body of `_select_loop` runs -/
def stepX (w : W) (q : PassX) : W := (daemonPass (feed w q.rx) q.p).1

/-- the world after a run of passes, each with its own regex answers -/
def runX (w : W) (qs : List PassX) : W := qs.foldl stepX w

theorem feed_nil (w : W) : feed w [] = w := by cases w; simp [feed]

theorem feed_feed (w : W) (a b : List RxCall) : feed (feed w a) b = feed w (a ++ b) := by
  cases w; simp [feed, List.append_assoc]

theorem feed_fields (w : W) (rx : List RxCall) :
    (feed w rx).cfg = w.cfg ∧ (feed w rx).clients = w.clients ∧ (feed w rx).devs = w.devs ∧ (feed w rx).specs = w.specs ∧
    (feed w rx).store = w.store ∧ (feed w rx).nextId = w.nextId ∧ (feed w rx).nacc = w.nacc ∧ (feed w rx).nsock = w.nsock ∧
    (feed w rx).npair = w.npair ∧ (feed w rx).nfork = w.nfork ∧ (feed w rx).alNext = w.alNext ∧ (feed w rx).sys = w.sys ∧
    (feed w rx).caps = w.caps ∧ (feed w rx).exited = w.exited ∧ (feed w rx).tmo = w.tmo ∧
    (feed w rx).pendingX = w.pendingX ++ rx :=
  ⟨rfl, rfl, rfl, rfl, rfl, rfl, rfl, rfl, rfl, rfl, rfl, rfl, rfl, rfl, rfl, rfl⟩

theorem runX_nil (w : W) : runX w [] = w := rfl
theorem runX_cons (w : W) (q : PassX) (qs : List PassX) : runX w (q :: qs) = runX (stepX w q) qs := rfl
theorem runX_append (w : W) (qs rs : List PassX) : runX w (qs ++ rs) = runX (runX w qs) rs := by
  unfold runX; rw [List.foldl_append]
theorem runX_snoc (w : W) (qs : List PassX) (q : PassX) : runX w (qs ++ [q]) = stepX (runX w qs) q := by
  rw [runX_append]; rfl

theorem stepX_plain (w : W) (p : PassIn) : stepX w (.plain p) = (daemonPass w p).1 := by
  unfold stepX PassX.plain; rw [feed_nil]

/-- **a run whose passes bring no regex answer is the plain fold of `daemonPass`** (`Isolation.runPasses`, `ClientPf.runPasses`) -/
theorem runX_plain (w : W) (ps : List PassIn) : runX w (ps.map PassX.plain) = ps.foldl (fun w p => (daemonPass w p).1) w := by
  induction ps generalizing w with
  | nil => rfl
  | cons p r ih => rw [List.map_cons, runX_cons, ih, stepX_plain]; rfl

/-- **an invariant kept by `feed` and by a pass is kept by a run** (`hpass` may use the regex answers: it is asked of the world
    the pass starts from, answers included) -/
theorem runX_inv_of (P : W → Prop) (hfeed : ∀ w rx, P w → P (feed w rx)) (hpass : ∀ w p, P w → P (daemonPass w p).1)
    (w : W) (qs : List PassX) (h : P w) : P (runX w qs) := by
  induction qs generalizing w with
  | nil => exact h
  | cons q r ih => rw [runX_cons]; exact ih _ (hpass _ _ (hfeed _ _ h))

/-- the per-pass hypotheses `H` hold along two runs: for every pair of pass inputs, on the worlds the two runs have reached -/
def AlongX (H : W → W → PassX → PassX → Prop) : W → W → List (PassX × PassX) → Prop
  | _, _, [] => True
  | w, w', x :: r => H w w' x.1 x.2 ∧ AlongX H (stepX w x.1) (stepX w' x.2) r

theorem AlongX.take {H : W → W → PassX → PassX → Prop} : ∀ (pp : List (PassX × PassX)) (n : Nat) (w w' : W),
    AlongX H w w' pp → AlongX H w w' (pp.take n) := by
  intro pp
  induction pp with
  | nil => intro n w w' h; simpa using h
  | cons x r ih =>
    intro n w w' h
    cases n with
    | zero => trivial
    | succ n => exact ⟨h.1, ih n _ _ h.2⟩

/-- the hypothesis about pass number `n`, stated on the worlds the two runs have reached by then -/
theorem AlongX.nth {H : W → W → PassX → PassX → Prop} : ∀ (pp : List (PassX × PassX)) (n : Nat) (w w' : W) (x : PassX × PassX),
    AlongX H w w' pp → pp[n]? = some x → H (runX w ((pp.take n).map (·.1))) (runX w' ((pp.take n).map (·.2))) x.1 x.2 := by
  intro pp
  induction pp with
  | nil => intro n w w' x _ hx; simp at hx
  | cons y r ih =>
    intro n w w' x h hx
    cases n with
    | zero =>
      simp only [List.getElem?_cons_zero, Option.some.injEq] at hx
      subst hx
      exact h.1
    | succ n =>
      simp only [List.getElem?_cons_succ] at hx
      rw [List.take_succ_cons, List.map_cons, List.map_cons, runX_cons, runX_cons]
      exact ih n _ _ x h.2 hx

theorem AlongX.append {H : W → W → PassX → PassX → Prop} : ∀ (pp qq : List (PassX × PassX)) (w w' : W),
    AlongX H w w' pp → AlongX H (runX w (pp.map (·.1))) (runX w' (pp.map (·.2))) qq → AlongX H w w' (pp ++ qq) := by
  intro pp
  induction pp with
  | nil => intro qq w w' _ h; exact h
  | cons x r ih => intro qq w w' h h2; exact ⟨h.1, ih qq _ _ h.2 h2⟩

theorem AlongX.mono {H H' : W → W → PassX → PassX → Prop} (hm : ∀ w w' q q', H w w' q q' → H' w w' q q') :
    ∀ (pp : List (PassX × PassX)) (w w' : W), AlongX H w w' pp → AlongX H' w w' pp := by
  intro pp
  induction pp with
  | nil => intro _ _ _; trivial
  | cons x r ih => intro w w' h; exact ⟨hm _ _ _ _ h.1, ih _ _ h.2⟩

/-- **a relation kept by one pass of the two runs under the per-pass hypotheses is kept by the two runs** -/
theorem runX_rel (R : W → W → Prop) (H : W → W → PassX → PassX → Prop)
    (hstep : ∀ w w' q q', R w w' → H w w' q q' → R (stepX w q) (stepX w' q')) :
    ∀ (pp : List (PassX × PassX)) (w w' : W), R w w' → AlongX H w w' pp → R (runX w (pp.map (·.1))) (runX w' (pp.map (·.2))) := by
  intro pp
  induction pp with
  | nil => intro w w' h _; exact h
  | cons x r ih =>
    intro w w' h hs
    rw [List.map_cons, List.map_cons, runX_cons, runX_cons]
    exact ih _ _ (hstep _ _ _ _ h hs.1) hs.2

theorem runX_rel_take (R : W → W → Prop) (H : W → W → PassX → PassX → Prop)
    (hstep : ∀ w w' q q', R w w' → H w w' q q' → R (stepX w q) (stepX w' q'))
    (pp : List (PassX × PassX)) (w w' : W) (hr : R w w') (hs : AlongX H w w' pp) (n : Nat) :
    R (runX w ((pp.take n).map (·.1))) (runX w' ((pp.take n).map (·.2))) :=
  runX_rel R H hstep (pp.take n) w w' hr (hs.take pp n w w')

/-! ### concrete runs: hypotheses along a run decided in one evaluation of the run -/

/-- `AlongX`, decided: `hB` decides the per-pass hypothesis -/
def alongB (hB : W → W → PassX → PassX → Bool) : W → W → List (PassX × PassX) → Bool
  | _, _, [] => true
  | w, w', x :: r => hB w w' x.1 x.2 && alongB hB (stepX w x.1) (stepX w' x.2) r

theorem AlongX.ofB {H : W → W → PassX → PassX → Prop} {hB : W → W → PassX → PassX → Bool}
    (hs : ∀ w w' q q', hB w w' q q' = true → H w w' q q') :
    ∀ (pp : List (PassX × PassX)) (w w' : W), alongB hB w w' pp = true → AlongX H w w' pp := by
  intro pp
  induction pp with
  | nil => intro _ _ _; trivial
  | cons x r ih =>
    intro w w' h
    simp only [alongB, Bool.and_eq_true] at h
    exact ⟨hs _ _ _ _ h.1, ih _ _ h.2⟩

/-- `P` holds of every world a run passes through, decided along the run -/
def everyB (P : W → Bool) : W → List PassX → Bool
  | w, [] => P w
  | w, q :: r => P w && everyB P (stepX w q) r

theorem everyB_take {P : W → Bool} : ∀ (qs : List PassX) (w : W), everyB P w qs = true → ∀ n, P (runX w (qs.take n)) = true := by
  intro qs
  induction qs with
  | nil => intro w h n; rw [List.take_nil]; exact h
  | cons q r ih =>
    intro w h n
    simp only [everyB, Bool.and_eq_true] at h
    cases n with
    | zero => exact h.1
    | succ n => rw [List.take_succ_cons, runX_cons]; exact ih _ h.2 n

/-! ### the plain fold of `daemonPass` -/

namespace Isolation

/-- any number of passes -/
def runPasses (w : W) (ps : List PassIn) : W := ps.foldl (fun w p => (daemonPass w p).1) w

end Isolation

theorem runX_runPasses (w : W) (ps : List PassIn) : runX w (ps.map PassX.plain) = Isolation.runPasses w ps :=
  runX_plain w ps

end Pm.Daemon

section AxiomChecks
open Pm.Daemon
/-- info: 'Pm.Daemon.runX_plain' depends on axioms: [propext, Classical.choice, Quot.sound] -/
#guard_msgs in #print axioms runX_plain
/-- info: 'Pm.Daemon.runX_rel' depends on axioms: [propext, Classical.choice, Quot.sound] -/
#guard_msgs in #print axioms runX_rel
/-- info: 'Pm.Daemon.AlongX.nth' depends on axioms: [propext, Classical.choice, Quot.sound] -/
#guard_msgs in #print axioms AlongX.nth
end AxiomChecks
