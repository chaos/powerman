import Pm.QueryRun
/-! # From the accepted request to the reply: what a query's reply shows is what this command's own actions wrote

Composition of `Pm/QueryRun.lean` (the writes of a run; fresh arglist at acceptance; tracking), `Pm/QueryCell.lean` (the last
write decides) and `Pm/EndToEnd.lean` (the invariant; the pass that answers). -/
namespace Pm.Daemon.QRun
open Pm Pm.Client Pm.Daemon
open Pm.Daemon.Reply (cliOf withStore entriesOf freshArgs distinctOf ByteName)
open Pm.Daemon.Isolation (Iso IdsFresh ArgScope worldAt ids)
open Pm.Dev2 (Keys)
open Pm.Daemon.E2E
open Pm.Dev2 (Dev Action ActErr Oracle cell RxCall Plug)
open Pm.Dev2.QEv

/-- **the history of an arglist**: the writes of the run to arglist `A`, oldest first -/
def hist (w : W) (qs : List PassX) (A : Nat) : List WEv := (runEvX w qs).filter fun ev => ev.al == A

/-- the command as the reply functions see it: `k`'s targets, the error flag `err`, and the arglist a fresh one for `k`'s
    targets becomes under the writes `H` -/
def replyCmd (k : CmdC) (err : Bool) (H : List WEv) : CmdC :=
  { k with error := err, args := (H.foldl applyEv (freshArgs (k.names.map ofChars))).map argC }

/-- the write belongs to client `g`'s command with arglist id `A` and was made in the turn of a device of `cfg` -/
def Mine (cfg : List (Bytes × List Plug)) (g A : Nat) (ev : WEv) : Prop :=
  ev.cid = g ∧ ev.al = A ∧ EvAt cfg (fun cid al => al = A → cid = g) ev

theorem evAt_cid {cfg : List (Bytes × List Plug)} {g A : Nat} {ev : WEv} (h : EvAt cfg (fun cid al => al = A → cid = g) ev)
    (hal : ev.al = A) : ev.cid = g := by
  obtain ⟨x, _, _, d, a, o, _, hs, hm⟩ := h
  obtain ⟨h1, h2, _⟩ := mem_stmtEv hm
  have h1' : ev.cid = a.clientId := h1
  have h2' : ev.al = a.arglist := h2
  rw [h1']; exact hs (by rw [← h2', hal])

/-- what holds when the client phase of the accepting pass is over -/
theorem accept_facts (w : W) (p : PassIn) (g : Nat) (c1 : Cli) (k : CmdC) (hI : Inv w)
    (hidle0 : ∀ c k, cliRec w g = some c → c.cmd = some k → False)
    (hc1 : cliRec (cliPostPoll w p.acc p.envs) g = some c1) (hk : c1.cmd = some k) :
    storeArgs (cliPostPoll w p.acc p.envs) k.al = freshArgs (k.names.map ofChars) ∧ w.alNext ≤ k.al ∧ k.error = false ∧
    k.al ≠ 0 ∧ OwnQ g k.al (cliPostPoll w p.acc p.envs).devs ∧ k.al < (daemonPass w p).1.alNext := by
  obtain ⟨h1, h2⟩ := cliPostPoll_fresh_cells w p.acc p.envs g hI hidle0 c1 k hc1 hk
  have hI1 := cliPostPoll_inv w p.acc p.envs hI
  refine ⟨h1, h2, cliPostPoll_fresh w p.acc p.envs g hI hidle0 c1 k hc1 hk, Nat.ne_of_gt (hI1.2.alpos g c1 k hc1 hk),
    ownQ_of_cmd _ g c1 k hI1 hc1 hk, ?_⟩
  rw [devPhase_alNext]
  exact hI1.1.2.cmds g c1 k hc1 hk

theorem hist_mine (w0 : W) (q0 : PassX) (qs : List PassX) (g A : Nat) (hA : A ≠ 0) (hinv : Inv w0) (ha : AliveX w0 (q0 :: qs))
    (hown : OwnQ g A (cliPostPoll (feed w0 q0.rx) q0.p.acc q0.p.envs).devs) (hlt : A < (stepX w0 q0).alNext) :
    ∀ ev ∈ hist w0 (q0 :: qs) A, Mine (plugsOf w0.devs) g A ev := by
  intro ev hev
  obtain ⟨hm, hal⟩ := List.mem_filter.mp hev
  have hal : ev.al = A := by simpa using hal
  have hI0 := feed_inv q0.rx hinv
  have key : EvAt (plugsOf w0.devs) (fun cid al => al = A → cid = g) ev := by
    rw [runEvX] at hm
    rcases List.mem_append.mp hm with h | h
    · have := passEv_at (fun cid al => al = A → cid = g) (fun e => absurd e.symm hA) (feed w0 q0.rx) q0.p hown ev h
      rw [cliPostPoll_plugsOf] at this
      exact this
    · have := runEvX_at g A hA qs (stepX w0 q0) (stepX_inv w0 q0 hinv ha.1) ha.2 hlt
        (devPhase_ownQ g A hA (feed w0 q0.rx) q0.p hown) ev h
      rw [show plugsOf (stepX w0 q0).devs = plugsOf w0.devs from daemonPass_plugsOf (feed w0 q0.rx) q0.p] at this
      exact this
  exact ⟨evAt_cid key hal, hal, key⟩

/-- **from the accepted request to the reply.**  Client `g` has no command in `w0`; in the client phase of pass `q0` a
    request of `g` is accepted: `k` is its command (`c1` its record) when that phase is over.  Passes `qs` follow, then
    pass `q`; no pass ends in an assertion; before `q` the command is still in progress, after it the client is there and
    idle.  With `H` the writes of the whole run to the arglist of `k` and `F` the completions the run reported for `g`:
    `F` has `k.pending` elements; in pass `q` the client was sent the lines of that pass, the reply `r`, the prompt; `r` is
    `finalReply` of `replyCmd k (some completion failed) H` — `k`'s targets, and a *fresh* arglist with the writes `H`
    applied; its entries are `entryOf H n` for the targets `n` in order; and every write of `H` belongs to this command. -/
theorem query_answer (w0 : W) (q0 : PassX) (qs : List PassX) (q : PassX) (g : Nat) (c1 : Cli) (k : CmdC) (c' : Cli)
    (hinv : Inv w0) (ha : AliveX w0 (q0 :: (qs ++ [q])))
    (hidle0 : ∀ c k, cliRec w0 g = some c → c.cmd = some k → False)
    (hc1 : cliRec (cliPostPoll (feed w0 q0.rx) q0.p.acc q0.p.envs) g = some c1) (hk : c1.cmd = some k)
    (hb : ∀ n ∈ k.names, ByteName n)
    (hbusy : ∃ c k', cliRec (runX w0 (q0 :: qs)) g = some c ∧ c.cmd = some k' ∧ k'.al = k.al)
    (hidle : cliRec (runX w0 (q0 :: (qs ++ [q]))) g = some c') (hnone : c'.cmd = none) :
    (runFinsX w0 (q0 :: (qs ++ [q])) g).length = k.pending ∧
    (∃ c2 r, cliRec (cliPostPoll (feed (runX w0 (q0 :: qs)) q.rx) q.p.acc q.p.envs) g = some c2 ∧
      finalReply c2.exprange (replyCmd k ((runFinsX w0 (q0 :: (qs ++ [q])) g).any failed) (hist w0 (q0 :: (qs ++ [q])) k.al)) = some r ∧
      c'.toBuf = c2.toBuf ++ passText (feed (runX w0 (q0 :: qs)) q.rx) q.p g ++ r ++ prompt) ∧
    entriesOf (replyCmd k ((runFinsX w0 (q0 :: (qs ++ [q])) g).any failed) (hist w0 (q0 :: (qs ++ [q])) k.al)) =
      k.names.map (entryOf (hist w0 (q0 :: (qs ++ [q])) k.al)) ∧
    (∀ ev ∈ hist w0 (q0 :: (qs ++ [q])) k.al, Mine (plugsOf w0.devs) g k.al ev) := by
  have hI0 := feed_inv q0.rx hinv
  obtain ⟨ha0, harest⟩ := ha
  obtain ⟨hfresh, _, herr, hal0, hown1, hlt1⟩ := accept_facts (feed w0 q0.rx) q0.p g c1 k hI0 hidle0 hc1 hk
  obtain ⟨_, hview⟩ := devPhase_view (feed w0 q0.rx) q0.p g c1 k hI0 ha0 hc1 hk
  have hI' := stepX_inv w0 q0 hinv ha0
  refine ⟨?_, ?_, entriesOf_hist k _ _ hb, hist_mine w0 q0 (qs ++ [q]) g k.al hal0 hinv ⟨ha0, harest⟩ hown1 hlt1⟩
  all_goals
    rcases hview with ⟨hlt, hrec⟩ | ⟨_, r0, _, hrec⟩
    case inr =>
      exfalso
      have ho : Over g k.al (stepX w0 q0) := by
        refine ⟨hlt1, ?_⟩
        intro c2 k2 h1 h2
        have hrec' : cliRec (stepX w0 q0) g = _ := hrec
        rw [hrec'] at h1; cases h1; cases h2
      obtain ⟨c, k', h1, h2, h3⟩ := hbusy
      exact (runX_over g k.al _ qs hI' harest.append.1 ho).2 c k' h1 h2 h3
  all_goals
    have hrec' : cliRec (stepX w0 q0) g = _ := hrec
    obtain ⟨hlen, c2, r, h2, hr, hbuf⟩ := run_answerX (stepX w0 q0) qs q g _ _ c' hI' harest hrec' rfl hbusy hidle hnone
    have hF : runFinsX w0 (q0 :: (qs ++ [q])) g = passFins (feed w0 q0.rx) q0.p g ++ runFinsX (stepX w0 q0) (qs ++ [q]) g := rfl
  · rw [hF, List.length_append, hlen]
    simp only
    omega
  · refine ⟨c2, r, h2, ?_, hbuf⟩
    rw [← hr]
    have hcell : storeArgs (runX (stepX w0 q0) (qs ++ [q])) k.al =
        (hist w0 (q0 :: (qs ++ [q])) k.al).foldl applyEv (freshArgs (k.names.map ofChars)) := by
      rw [runX_cell (stepX w0 q0) (qs ++ [q]) k.al hI' harest hlt1,
        show storeArgs (stepX w0 q0) k.al = _ from devPhase_cell (feed w0 q0.rx) q0.p k.al, hfresh, ← List.foldl_append,
        ← List.filter_append]
      rfl
    apply Reply.finalReply_congr
    · rfl
    · rfl
    · simp only [replyCmd, hF, List.any_append, herr, Bool.false_or]
    · simp only [replyCmd]
      rw [← hcell]

/-- the same when the pass that accepts the request also answers it -/
theorem query_answer_one_pass (w0 : W) (q0 : PassX) (g : Nat) (c1 : Cli) (k : CmdC) (c' : Cli)
    (hinv : Inv w0) (ha : AliveX w0 [q0])
    (hidle0 : ∀ c k, cliRec w0 g = some c → c.cmd = some k → False)
    (hc1 : cliRec (cliPostPoll (feed w0 q0.rx) q0.p.acc q0.p.envs) g = some c1) (hk : c1.cmd = some k)
    (hb : ∀ n ∈ k.names, ByteName n)
    (hidle : cliRec (runX w0 [q0]) g = some c') (hnone : c'.cmd = none) :
    (runFinsX w0 [q0] g).length = k.pending ∧
    (∃ r, finalReply c1.exprange (replyCmd k ((runFinsX w0 [q0] g).any failed) (hist w0 [q0] k.al)) = some r ∧
      c'.toBuf = c1.toBuf ++ passText (feed w0 q0.rx) q0.p g ++ r ++ prompt) ∧
    entriesOf (replyCmd k ((runFinsX w0 [q0] g).any failed) (hist w0 [q0] k.al)) = k.names.map (entryOf (hist w0 [q0] k.al)) ∧
    (∀ ev ∈ hist w0 [q0] k.al, Mine (plugsOf w0.devs) g k.al ev) := by
  have hI0 := feed_inv q0.rx hinv
  obtain ⟨ha0, _⟩ := ha
  obtain ⟨hfresh, _, herr, hal0, hown1, hlt1⟩ := accept_facts (feed w0 q0.rx) q0.p g c1 k hI0 hidle0 hc1 hk
  obtain ⟨_, hview⟩ := devPhase_view (feed w0 q0.rx) q0.p g c1 k hI0 ha0 hc1 hk
  have hF : runFinsX w0 [q0] g = passFins (feed w0 q0.rx) q0.p g := by simp [runFinsX]
  have hidle' : cliRec (daemonPass (feed w0 q0.rx) q0.p).1 g = some c' := hidle
  refine ⟨?_, ?_, entriesOf_hist k _ _ hb, hist_mine w0 q0 [] g k.al hal0 hinv ⟨ha0, trivial⟩ hown1 hlt1⟩
  all_goals
    rcases hview with ⟨_, hrec⟩ | ⟨hn, r, hr, hrec⟩
    case inl => rw [hrec] at hidle'; cases hidle'; cases hnone
  · rw [hF]; exact hn
  · rw [hrec] at hidle'
    simp only [Option.some.injEq] at hidle'
    subst hidle'
    refine ⟨r, ?_, rfl⟩
    rw [← hr]
    have hcell : storeArgs (daemonPass (feed w0 q0.rx) q0.p).1 k.al = (hist w0 [q0] k.al).foldl applyEv (freshArgs (k.names.map ofChars)) := by
      rw [devPhase_cell (feed w0 q0.rx) q0.p k.al, hfresh]
      simp [hist, runEvX]
    apply Reply.finalReply_congr
    · rfl
    · rfl
    · simp only [replyCmd, hF, herr, Bool.false_or]
    · simp only [replyCmd]
      rw [← hcell]

/-! ## reading the reply off the history -/

section Reading
open Pm.Daemon.Reply (onNodes offNodes unkNodes Covered qTerm isQueryCom tempValued tempMissing)

theorem entryOf_node (H : List WEv) (n : Name) (hn : ByteName n) : (entryOf H n).node = n :=
  Pm.Daemon.Reply.toChars_ofChars n hn

theorem entryOf_state_on {H : List WEv} {n : Name} : (entryOf H n).state = 2 ↔ lastState H (ofChars n) = some .on := by
  show psNum ((lastState H (ofChars n)).getD .unknown) = 2 ↔ _
  cases lastState H (ofChars n) with
  | none => simp [psNum]
  | some s => cases s <;> simp [psNum]

theorem entryOf_state_off {H : List WEv} {n : Name} : (entryOf H n).state = 1 ↔ lastState H (ofChars n) = some .off := by
  show psNum ((lastState H (ofChars n)).getD .unknown) = 1 ↔ _
  cases lastState H (ofChars n) with
  | none => simp [psNum]
  | some s => cases s <;> simp [psNum]

theorem entryOf_state_unk {H : List WEv} {n : Name} :
    (entryOf H n).state = 0 ↔ (lastState H (ofChars n) = none ∨ lastState H (ofChars n) = some .unknown) := by
  show psNum ((lastState H (ofChars n)).getD .unknown) = 0 ↔ _
  cases lastState H (ofChars n) with
  | none => simp [psNum]
  | some s => cases s <;> simp [psNum]

theorem replyCmd_entries (k : CmdC) (e : Bool) (H : List WEv) (hb : ∀ n ∈ k.names, ByteName n) :
    entriesOf (replyCmd k e H) = k.names.map (entryOf H) := entriesOf_hist k H e hb

/-- **a target no write concerns has one entry among those of the reply, the fresh one** — whatever the history holds for other
    nodes (entries for one node are equal: a repeated target is looked up twice) -/
theorem entries_untouched (H : List WEv) (names : List Name) (hb : ∀ n ∈ names, ByteName n) (n : Name) (hn : n ∈ names)
    (h : ∀ ev ∈ H, ev.node ≠ ofChars n) :
    ∃ e ∈ names.map (entryOf H), e.node = n ∧ e.state = 0 ∧ e.val = none ∧ ∀ e' ∈ names.map (entryOf H), e'.node = n → e' = e := by
  obtain ⟨h1, _, h3⟩ := entryOf_untouched h
  refine ⟨entryOf H n, List.mem_map.mpr ⟨n, hn, rfl⟩, entryOf_node H n (hb n hn), h1, h3, fun e' he' hen => ?_⟩
  obtain ⟨m, hm, rfl⟩ := List.mem_map.mp he'
  rw [← hen, entryOf_node H m (hb m hm)]

theorem replyCmd_covered (k : CmdC) (e : Bool) (H : List WEv) (hb : ∀ n ∈ k.names, ByteName n) : Covered (replyCmd k e H) := by
  unfold replyCmd
  apply Pm.Daemon.Reply.covered_of_nodes k _ hb
  intro n hn
  rw [foldl_applyEv_fresh]
  exact ⟨cellOf H (ofChars n), List.mem_map.mpr ⟨ofChars n,
    (Pm.Daemon.Reply.mem_distinctOf _ _).mpr (List.mem_map.mpr ⟨n, hn, rfl⟩), rfl⟩, rfl⟩

theorem replyCmd_states (k : CmdC) (e : Bool) (H : List WEv) : ∀ a ∈ (replyCmd k e H).args, a.state ≤ 2 := by
  intro a ha
  simp only [replyCmd, List.mem_map] at ha
  obtain ⟨x, _, rfl⟩ := ha
  exact Pm.Daemon.Reply.argC_state_le x

theorem filter_map_entry (H : List WEv) (names : List Name) (hb : ∀ n ∈ names, ByteName n) (p : ArgC → Bool) :
    ((names.map (entryOf H)).filter p).map (·.node) = names.filter fun n => p (entryOf H n) := by
  induction names with
  | nil => rfl
  | cons n r ih =>
    have ih' := ih (fun x hx => hb x (by simp [hx]))
    rw [List.map_cons, List.filter_cons, List.filter_cons]
    cases hp : p (entryOf H n)
    · simpa using ih'
    · simp only [if_true, List.map_cons, ih', entryOf_node H n (hb n (by simp))]

theorem replyCmd_lists (k : CmdC) (e : Bool) (H : List WEv) (hb : ∀ n ∈ k.names, ByteName n) :
    onNodes (replyCmd k e H) = k.names.filter (fun n => lastState H (ofChars n) == some .on) ∧
    offNodes (replyCmd k e H) = k.names.filter (fun n => lastState H (ofChars n) == some .off) ∧
    unkNodes (replyCmd k e H) = k.names.filter (fun n => (lastState H (ofChars n)).getD .unknown == .unknown) ∧
    tempValued (replyCmd k e H) = k.names.filter (fun n => (lastText H (ofChars n)).isSome) ∧
    tempMissing (replyCmd k e H) = k.names.filter (fun n => (lastText H (ofChars n)).isNone) := by
  unfold onNodes offNodes unkNodes tempValued tempMissing
  rw [replyCmd_entries k e H hb]
  refine ⟨?_, ?_, ?_, ?_, ?_⟩
  · rw [filter_map_entry H _ hb]
    apply List.filter_congr
    intro n _
    show (psNum ((lastState H (ofChars n)).getD .unknown) == 2) = (lastState H (ofChars n) == some .on)
    cases lastState H (ofChars n) with
    | none => decide
    | some s => cases s <;> decide
  · rw [filter_map_entry H _ hb]
    apply List.filter_congr
    intro n _
    show (psNum ((lastState H (ofChars n)).getD .unknown) == 1) = (lastState H (ofChars n) == some .off)
    cases lastState H (ofChars n) with
    | none => decide
    | some s => cases s <;> decide
  · rw [filter_map_entry H _ hb]
    apply List.filter_congr
    intro n _
    show (psNum ((lastState H (ofChars n)).getD .unknown) == 0) = ((lastState H (ofChars n)).getD .unknown == .unknown)
    cases lastState H (ofChars n) with
    | none => decide
    | some s => cases s <;> decide
  · rw [filter_map_entry H _ hb]; rfl
  · rw [filter_map_entry H _ hb]; rfl

theorem replyCmd_unknown (k : CmdC) (e : Bool) (H : List WEv) (hb : ∀ n ∈ k.names, ByteName n) (n : Name) (hn : n ∈ k.names)
    (h : ∀ ev ∈ H, stateOn (ofChars n) ev = none) :
    n ∈ unkNodes (replyCmd k e H) ∧ n ∉ onNodes (replyCmd k e H) ∧ n ∉ offNodes (replyCmd k e H) := by
  obtain ⟨l1, l2, l3, _⟩ := replyCmd_lists k e H hb
  rw [l1, l2, l3]
  simp [List.mem_filter, hn, lastState_none h]

theorem replyCmd_perm (k : CmdC) (e : Bool) (H : List WEv) (hb : ∀ n ∈ k.names, ByteName n) :
    (onNodes (replyCmd k e H) ++ offNodes (replyCmd k e H) ++ unkNodes (replyCmd k e H)).Perm k.names := by
  have := Pm.Daemon.Reply.partition_perm (replyCmd k e H) (replyCmd_states k e H)
  rwa [Pm.Daemon.Reply.entriesOf_nodes_covered _ (replyCmd_covered k e H hb)] at this

theorem any_failed_true {F : List (Bytes × ActErr)} : F.any failed = true ↔ ∃ x ∈ F, x.2 ≠ .success := by
  rw [List.any_eq_true]
  constructor
  · rintro ⟨x, hx, h⟩; exact ⟨x, hx, by simpa [failed] using h⟩
  · rintro ⟨x, hx, h⟩; exact ⟨x, hx, by simpa [failed] using h⟩

theorem replyCmd_terminal (ex : Bool) (k : CmdC) (F : List (Bytes × ActErr)) (H : List WEv) (r : Bytes)
    (hq : k.com ∈ [Com.status, .beacon, .temp]) (hr : finalReply ex (replyCmd k (F.any failed) H) = some r) :
    ((bstr "211 Query completed with errors" ++ crlf) <:+ r ↔ ∃ x ∈ F, x.2 ≠ .success) ∧
    ((bstr "103 Query complete" ++ crlf) <:+ r ↔ ∀ x ∈ F, x.2 = .success) := by
  have h := Pm.Daemon.Reply.qTerm_suffix_iff r (replyCmd k (F.any failed) H).error
    (Pm.Daemon.Reply.finalReply_query_suffix ex (replyCmd k (F.any failed) H) ((Pm.Daemon.Reply.isQueryCom_iff k.com).mpr hq) r hr)
  have e : (replyCmd k (F.any failed) H).error = F.any failed := rfl
  rw [e] at h
  exact ⟨h.1.trans any_failed_true, h.2.trans any_failed_false⟩

open Pm.Dev2.Interp (chosenName ctxName) in
open Pm.Dev2 (topCtx subOf findPlug pickState pickResult askRx Stmt) in
/-- **what `Mine` says, spelled out** (in plain words at `C03_write_spelled`) -/
theorem mine_spelled {cfg : List (Bytes × List Plug)} {g A : Nat} {ev : WEv} (h : Mine cfg g A ev) :
    ev.cid = g ∧ ev.al = A ∧
    ∃ x ∈ cfg, ev.dev = x.1 ∧ ∃ (d : Dev) (a : Action) (o : Oracle) (plug : Plug),
      d.plugs = x.2 ∧ a.clientId = g ∧ a.arglist = A ∧ ev.com = a.com ∧
      plug ∈ x.2 ∧ plug.name = ev.plug ∧ plug.node = some ev.node ∧ ev.subject = d.xmStr ∧
      (∃ subj, d.xmStr = some subj ∧ ev.text <:+: subj) ∧
      ((∃ lit pm sm is pn, (topCtx a).block[(topCtx a).pos]? = some (Stmt.setplugstate lit pm sm is) ∧
          chosenName d lit pm (ctxName (topCtx a).plugs) = some pn ∧ findPlug d pn = some plug ∧
          subOf d sm = some ev.text ∧ ev.kind = .state (pickState askRx ev.text is o []).2.1) ∨
       (∃ pm sm is pn, (topCtx a).block[(topCtx a).pos]? = some (Stmt.setresult pm sm is) ∧
          subOf d pm = some pn ∧ findPlug d pn = some plug ∧
          subOf d sm = some ev.text ∧ ev.kind = .result (pickResult askRx ev.text is o []).2.1)) := by
  obtain ⟨hcid, hal, x, hx, hdev, d, a, o, hp, hs, hm⟩ := h
  obtain ⟨h1, h2, h3, h4, _, plug, hpm, hpn, hnode, halt⟩ := mem_stmtEv hm
  have h1' : ev.cid = a.clientId := h1
  have h2' : ev.al = a.arglist := h2
  refine ⟨hcid, hal, x, hx, hdev, d, a, o, plug, hp, by rw [← h1', hcid], by rw [← h2', hal], h3, hp ▸ hpm, hpn, hnode, h4, ?_, halt⟩
  rcases halt with ⟨_, _, sm, _, _, _, _, _, hs', _⟩ | ⟨_, sm, _, _, _, _, _, hs', _⟩
  · exact (subOf_infix hs').2.2
  · exact (subOf_infix hs').2.2

end Reading

end Pm.Daemon.QRun

section AxiomChecks
open Pm.Daemon.QRun
/-- info: 'Pm.Daemon.QRun.query_answer' depends on axioms: [propext, Classical.choice, Quot.sound] -/
#guard_msgs in #print axioms query_answer
/-- info: 'Pm.Daemon.QRun.query_answer_one_pass' depends on axioms: [propext, Classical.choice, Quot.sound] -/
#guard_msgs in #print axioms query_answer_one_pass
/-- info: 'Pm.Daemon.QRun.mine_spelled' depends on axioms: [propext, Quot.sound] -/
#guard_msgs in #print axioms mine_spelled
/-- info: 'Pm.Daemon.QRun.replyCmd_lists' depends on axioms: [propext, Classical.choice, Quot.sound] -/
#guard_msgs in #print axioms replyCmd_lists
/-- info: 'Pm.Daemon.QRun.replyCmd_terminal' depends on axioms: [propext, Quot.sound] -/
#guard_msgs in #print axioms replyCmd_terminal
end AxiomChecks
