import Pm.FrameDev
/-! Helper lemmas for C05, two runs: one device's share of `dev_post_poll` depends on the shared arglist store only
    through the entries of its own nodes.  Two stores that agree on the entries a node predicate `Q` selects — `Q`
    containing all nodes of the device's plugs and of the plugs its actions carry — give the same new device state,
    the same callbacks, the same oracle consumption and the same timeout, and the new stores agree on `Q` again. -/
namespace Pm.Dev2

/-- the device with `s` in place of its copy of the arglist store (likewise for a statement result and a pass state) -/
def withArgs (d : Dev) (s : Store) : Dev := { d with args := s }
def StepR.withArgs (r : StepR) (s : Store) : StepR := { r with dev := Pm.Dev2.withArgs r.dev s }
def CS.withArgs (c : CS) (s : Store) : CS := { c with dev := Pm.Dev2.withArgs c.dev s }

@[simp] theorem withArgs_args (d : Dev) (s : Store) : (withArgs d s).args = s := rfl
@[simp] theorem withArgs_withArgs (d : Dev) (s t : Store) : withArgs (withArgs d s) t = withArgs d t := rfl
@[simp] theorem withArgs_self (d : Dev) : withArgs d d.args = d := rfl

/-- the two stores agree on the entries of `Q`-nodes, in every arglist -/
def SAgree (Q : Bytes → Bool) (s s' : Store) : Prop :=
  ∀ al, (cell s al).filter (fun g => Q g.node) = (cell s' al).filter (fun g => Q g.node)

theorem find?_filter_of_imp {α} (p q : α → Bool) (h : ∀ x, p x = true → q x = true) (l : List α) :
    (l.filter q).find? p = l.find? p := by
  induction l with
  | nil => rfl
  | cons x r ih =>
    by_cases hq : q x = true
    · simp [hq, List.find?_cons, ih]
    · have hp : p x = false := by
        cases hpx : p x with
        | false => rfl
        | true => exact absurd (h x hpx) hq
      simp [hq, hp, ih]

theorem any_filter_of_imp {α} (p q : α → Bool) (h : ∀ x, p x = true → q x = true) (l : List α) :
    (l.filter q).any p = l.any p := by
  induction l with
  | nil => rfl
  | cons x r ih =>
    by_cases hq : q x = true
    · simp [hq, ih]
    · have hp : p x = false := by
        cases hpx : p x with
        | false => rfl
        | true => exact absurd (h x hpx) hq
      simp [hq, hp, ih]

theorem SAgree.find {Q : Bytes → Bool} {s s' : Store} (h : SAgree Q s s') (al : Nat) (n : Bytes) (hn : Q n = true) :
    (cell s al).find? (fun g => g.node == n) = (cell s' al).find? (fun g => g.node == n) := by
  have hi : ∀ x : Arg, (x.node == n) = true → Q x.node = true := by
    intro x hx; have : x.node = n := by simpa using hx
    rw [this]; exact hn
  rw [← find?_filter_of_imp _ (fun g => Q g.node) hi, ← find?_filter_of_imp _ (fun g => Q g.node) hi (cell s' al), h al]

theorem SAgree.any {Q : Bytes → Bool} {s s' : Store} (h : SAgree Q s s') (al : Nat) (n : Bytes) (hn : Q n = true) :
    (cell s al).any (fun g => g.node == n) = (cell s' al).any (fun g => g.node == n) := by
  have hi : ∀ x : Arg, (x.node == n) = true → Q x.node = true := by
    intro x hx; have : x.node = n := by simpa using hx
    rw [this]; exact hn
  rw [← any_filter_of_imp _ (fun g => Q g.node) hi, ← any_filter_of_imp _ (fun g => Q g.node) hi (cell s' al), h al]

/-- the plugs an execution context carries are wired to `Q`-nodes only -/
def CtxOK (Q : Bytes → Bool) (e : ExecCtx) : Prop :=
  (∀ p ∈ e.plugs.getD [], ∀ n, p.node = some n → Q n = true) ∧ (∀ p ∈ e.plugCopy.getD [], ∀ n, p.node = some n → Q n = true)

/-- the state `_process_ifonoff` looks up is that of a `Q`-node: the same in both stores -/
theorem nodeState_agree (Q : Bytes → Bool) (d : Dev) (al : Nat) (e : ExecCtx) (s' : Store)
    (hS : SAgree Q d.args s') (he : CtxOK Q e) :
    Interp.nodeState (withArgs d s') al (Interp.ctxNode e.plugs) = Interp.nodeState d al (Interp.ctxNode e.plugs) := by
  cases hn : Interp.ctxNode e.plugs with
  | none => rfl
  | some n =>
    have hq : Q n = true := by
      rcases hp : e.plugs with _ | _ | ⟨p, t⟩ <;> rw [hp] at hn
      · cases hn
      · cases hn
      · exact he.1 p (by rw [hp]; exact List.mem_cons_self ..) n hn
    unfold Interp.nodeState
    dsimp only
    rw [getArgs_eq, getArgs_eq, withArgs_args, hS.find al n hq]

/-- the device's own plugs are wired to `Q`-nodes only -/
def QOn (Q : Bytes → Bool) (d : Dev) : Prop := ∀ p ∈ d.plugs, ∀ n, p.node = some n → Q n = true

theorem findPlug_QOn (Q : Bytes → Bool) (d : Dev) (hQ : QOn Q d) (pn : Bytes) (plug : Plug) (h : findPlug d pn = some plug) :
    Q (plug.node.getD []) = true := by
  obtain ⟨hm, n, hn⟩ := findPlug_node d pn plug h
  rw [hn]; exact hQ plug hm n hn

theorem setArgs_upd_agree (Q : Bytes → Bool) (d : Dev) (s' : Store) (al : Nat) (node : Bytes) (upd : Arg → Arg)
    (hupd : ∀ g, (upd g).node = g.node) (hS : SAgree Q d.args s') :
    SAgree Q (setArgs d al ((getArgs d al).map fun g => if g.node == node then upd g else g)).args
      (setArgs (withArgs d s') al ((getArgs (withArgs d s') al).map fun g => if g.node == node then upd g else g)).args := by
  intro al'
  by_cases h : al' = al
  · subst h
    rw [setArgs_cell_self, setArgs_cell_self, getArgs_eq, getArgs_eq, withArgs_args,
      filter_map_upd Q node upd hupd, filter_map_upd Q node upd hupd, hS al']
  · rw [setArgs_cell_ne _ _ _ _ h, setArgs_cell_ne _ _ _ _ h]; exact hS al'

/-- the shape of the two-run statement lemmas: run on a store `s'` that agrees with the device's own on `Q`, the
    statement does the same, and the stores agree on `Q` afterwards -/
def StmtRel (Q : Bytes → Bool) (r r' : StepR) : Prop := ∃ t', r' = r.withArgs t' ∧ SAgree Q r.dev.args t'

/-- **the second run takes the way out the first run took**: on a store that agrees with the device's own on `Q` every premise of
    the constructor reads the same (the plug an `if` looks at is a `Q`-plug of its context, the plug a `setresult` reports on one of
    the device's own), the result is the same with the other store plugged in, and after a write the stores agree on `Q` again -/
theorem Interp.Step.rel {Q : Bytes → Bool} {d : Dev} {a : Action} {o : Oracle} {now : Time} {e : ExecCtx} {rest : List ExecCtx}
    {s : Stmt} {r : StepR} (h : Interp.Step d a o now e rest s r) (s' : Store) (hS : SAgree Q d.args s') (hQ : QOn Q d)
    (he : Pm.Dev2.CtxOK Q e) : ∃ t', SAgree Q r.dev.args t' ∧ Interp.Step (withArgs d s') a o now e rest s (r.withArgs t') := by
  have hn := nodeState_agree Q d a.arglist e s' hS he
  cases h with
  | setWrite lit pm sm is pn t plug hc hs hf =>
    exact ⟨_, setArgs_upd_agree Q d s' a.arglist (plug.node.getD [])
      (fun g => { g with state := (pickState askRx t is o []).2.1, val := some t }) (fun _ => rfl) hS, .setWrite lit pm sm is pn t plug hc hs hf⟩
  | resWrite pm sm is pn t plug hc hs hf =>
    have hd : Interp.resultDiag (withArgs d s') a (plug.node.getD []) (pickResult askRx t is o []).2.1 t =
        Interp.resultDiag d a (plug.node.getD []) (pickResult askRx t is o []).2.1 t := by
      unfold Interp.resultDiag
      rw [getArgs_eq, getArgs_eq, withArgs_args, hS.any a.arglist _ (findPlug_QOn Q d hQ pn plug hf)]
    exact ⟨_, setArgs_upd_agree Q d s' a.arglist (plug.node.getD [])
      (fun g => { g with result := (pickResult askRx t is o []).2.1, val := some t }) (fun _ => rfl) hS,
      hd ▸ .resWrite pm sm is pn t plug hc hs hf⟩
  | ifTaken s w b hk hp hc => exact ⟨s', hS, .ifTaken s w b hk hp (by rw [hn]; exact hc)⟩
  | ifUnknown s w b hk hp hc hu => exact ⟨s', hS, .ifUnknown s w b hk hp (by rw [hn]; exact hc) (by rw [hn]; exact hu)⟩
  | ifOther s w b hk hp hc hu => exact ⟨s', hS, .ifOther s w b hk hp (by rw [hn]; exact hc) (by rw [hn]; exact hu)⟩
  -- no other premise reads the store: the same constructor on the same premises
  | _ => exact ⟨s', hS, by constructor <;> assumption⟩

/-- every context of the action carries `Q`-plugs only -/
def ActOK (Q : Bytes → Bool) (a : Action) : Prop := ∀ e ∈ a.exec, CtxOK Q e

theorem CtxOK.dflt (Q : Bytes → Bool) : CtxOK Q (default : ExecCtx) := by
  have h1 : (default : ExecCtx).plugs = none := rfl
  have h2 : (default : ExecCtx).plugCopy = none := rfl
  constructor
  · intro p hp; rw [h1] at hp; simp at hp
  · intro p hp; rw [h2] at hp; simp at hp

theorem ActOK.top {Q : Bytes → Bool} {a : Action} (h : ActOK Q a) : CtxOK Q (topCtx a) := by
  unfold topCtx
  cases hq : a.exec with
  | nil => exact CtxOK.dflt Q
  | cons e r => exact h e (by simp [hq])

theorem ActOK.setTop {Q : Bytes → Bool} {a : Action} (h : ActOK Q a) (e : ExecCtx) (he : CtxOK Q e) : ActOK Q (setTop a e) := by
  intro x hx
  simp only [Pm.Dev2.setTop, List.mem_cons] at hx
  rcases hx with hx | hx
  · subst hx; exact he
  · exact h x (List.mem_of_mem_drop hx)

theorem processStmt_rel (Q : Bytes → Bool) (d : Dev) (a : Action) (o : Oracle) (now : Time) (s' : Store)
    (hS : SAgree Q d.args s') (hQ : QOn Q d) (ha : ActOK Q a) :
    StmtRel Q (processStmt d a o now) (processStmt (withArgs d s') a o now) :=
  Interp.processStmt_ind d a o now (fun r => StmtRel Q r (processStmt (withArgs d s') a o now))
    (fun hn => ⟨s', Interp.processStmt_null (withArgs d s') a o now hn, hS⟩) fun e rest s r hex hcur h =>
      let ⟨t', hS', h'⟩ := h.rel s' hS hQ (ha e (by rw [hex]; exact List.mem_cons_self ..))
      ⟨t', h'.sound hex hcur, hS'⟩

/-! ### the contexts keep carrying `Q`-plugs (single run) -/

theorem CtxOK.congr {Q : Bytes → Bool} {e e' : ExecCtx} (h : CtxOK Q e) (h1 : e'.plugs = e.plugs) (h2 : e'.plugCopy = e.plugCopy) :
    CtxOK Q e' := by
  unfold CtxOK; rw [h1, h2]; exact h

theorem ActOK.of_exec {Q : Bytes → Bool} {a a' : Action} (h : ActOK Q a) (he : a'.exec = a.exec) : ActOK Q a' := by
  unfold ActOK; rw [he]; exact h

theorem nextPlug_mem (isNode : Bool) (lst : List Plug) (k f : Nat) (p : Plug) (k' : Nat)
    (h : nextPlug isNode lst k f = some (p, k')) : p ∈ lst := by
  induction f generalizing k with
  | zero => simp [nextPlug] at h
  | succ n ih =>
    unfold nextPlug at h
    split at h
    · simp at h
    · rename_i q hq
      split at h
      · exact ih _ h
      · simp at h; rw [← h.1]; exact List.mem_of_getElem? hq

/-- the list a `foreach` runs over holds `Q`-plugs: the device's own, or those the context carries -/
theorem foreachList_ok (Q : Bytes → Bool) (d : Dev) (a : Action) (e : ExecCtx) (hQ : QOn Q d) (he : CtxOK Q e) :
    ∀ p ∈ Interp.foreachList d a e, ∀ n, p.node = some n → Q n = true := by
  unfold Interp.foreachList
  split
  · split
    · cases hc : e.plugCopy with
      | none => exact he.1
      | some l => have := he.2; rw [hc] at this; exact this
    · exact he.2
  · exact hQ

theorem foreachCtx_ok (Q : Bytes → Bool) (a : Action) (e : ExecCtx) (he : CtxOK Q e) : CtxOK Q (Interp.foreachCtx a e) := by
  unfold Interp.foreachCtx
  split
  · refine ⟨he.1, ?_⟩
    cases hc : e.plugCopy with
    | none => exact he.1
    | some l => have := he.2; rw [hc] at this; exact this
  · split
    · exact he.congr rfl rfl
    · exact he

/-- every way out of a statement leaves `Q`-plugs in the contexts: the top context keeps its plugs (`foreach` may fix its copy of
    them), and a pushed body gets a plug of the list the `foreach` runs over, or the plugs of the `if`'s context -/
theorem step_actOK {Q : Bytes → Bool} {d : Dev} {a : Action} {o : Oracle} {now : Time} {e : ExecCtx} {rest : List ExecCtx}
    {s : Stmt} {r : StepR} (h : Interp.Step d a o now e rest s r) (hQ : QOn Q d) (hex : a.exec = e :: rest) (ha : ActOK Q a) :
    ActOK Q r.act := by
  have he : CtxOK Q e := ha e (by rw [hex]; exact List.mem_cons_self ..)
  have hrest : ∀ x ∈ rest, CtxOK Q x := fun x hx => ha x (by rw [hex]; exact List.mem_cons_of_mem _ hx)
  have one : ∀ x : ExecCtx, CtxOK Q x → ∀ y ∈ x :: rest, CtxOK Q y := fun x hx y hy => by
    rcases List.mem_cons.1 hy with rfl | hy
    · exact hx
    · exact hrest y hy
  have two : ∀ new x : ExecCtx, CtxOK Q new → CtxOK Q x → ∀ y ∈ new :: x :: rest, CtxOK Q y := fun new x hn hx y hy => by
    rcases List.mem_cons.1 hy with rfl | hy
    · exact hn
    · exact one x hx y hy
  cases h with
  | sendFresh | sendAgain | delayDone | delayWait | ifReturn => exact one _ (he.congr rfl rfl)
  | eachDone => exact one _ ((foreachCtx_ok Q a e he).congr rfl rfl)
  | eachNext s n b p k _ hnp =>
    refine two _ _ ⟨fun q hq => ?_, fun _ hq => nomatch hq⟩ ((foreachCtx_ok Q a e he).congr rfl rfl)
    cases List.mem_singleton.1 hq
    exact foreachList_ok Q d a e hQ he p (nextPlug_mem _ _ _ _ _ _ hnp)
  | ifTaken => exact two _ _ ⟨he.1, fun _ hq => nomatch hq⟩ (he.congr rfl rfl)
  | _ => exact ha

theorem processStmt_actOK (Q : Bytes → Bool) (d : Dev) (a : Action) (o : Oracle) (now : Time) (hQ : QOn Q d) (h : ActOK Q a) :
    ActOK Q (processStmt d a o now).act :=
  Interp.processStmt_ind d a o now (fun r => ActOK Q r.act) (fun _ => h) fun _ _ _ _ hex _ hst => step_actOK hst hQ hex h

theorem QOn.congr {Q : Bytes → Bool} {d d' : Dev} (hQ : QOn Q d) (h : d'.plugs = d.plugs) : QOn Q d' := by
  unfold QOn; rw [h]; exact hQ

theorem innerLoop_rel (Q : Bytes → Bool) (now : Time) (fuel : Nat) (d : Dev) (a : Action) (o : Oracle) (acc : List Out) (s' : Store)
    (hS : SAgree Q d.args s') (hQ : QOn Q d) (ha : ActOK Q a) :
    StmtRel Q (innerLoop now fuel d a o acc) (innerLoop now fuel (withArgs d s') a o acc) ∧
    ActOK Q (innerLoop now fuel d a o acc).act := by
  induction fuel generalizing d a o acc s' with
  | zero =>
    obtain ⟨t', h1, h2⟩ := processStmt_rel Q d a o now s' hS hQ ha
    have h3 := processStmt_actOK Q d a o now hQ ha
    unfold innerLoop
    dsimp only
    rw [h1]
    exact ⟨⟨t', rfl, h2⟩, h3⟩
  | succ n ih =>
    obtain ⟨t', h1, h2⟩ := processStmt_rel Q d a o now s' hS hQ ha
    have h3 := processStmt_actOK Q d a o now hQ ha
    have hp := processStmt_plugs d a o now
    rw [innerLoop_succ, innerLoop_succ, h1]
    generalize processStmt d a o now = q at *
    unfold innerStep StepR.withArgs
    dsimp only
    by_cases hc : (q.finished && decide (q.act.exec.length > a.exec.length)) = true
    · rw [if_pos hc, if_pos hc]
      exact ih q.dev q.act q.oracle (acc ++ q.out) t' h2 (hQ.congr hp) h3
    · rw [if_neg hc, if_neg hc]
      exact ⟨⟨t', rfl, h2⟩, h3⟩

end Pm.Dev2
