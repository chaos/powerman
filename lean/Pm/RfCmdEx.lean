import Pm.RfCmdLink
/-! # Concrete sessions of the redfishpower command layer: exact input lines and what they do

`runLines` / `stateAfter` run the model `Pm/RfCmd.lean` on whole sessions, evaluated by the kernel (`decide +kernel`); the
same lines were fed to the real helper by hand and are produced by the scenario generator of `lib/redfish.py`.  Here: the
example configuration `exLines` / `exState`; the sessions that end or wedge the helper are stated in `Props/C19`. -/
namespace Pm.RfCmd
open Pm

/-- the helper started as `redfishpower -h <hosts> --test-mode`, fed these lines: what each line printed, and how the
    session ended (`none` = the command line itself is refused) -/
def runLines (hosts : String) (lines : List String) : Option (List (List Name) × Ctl) :=
  (init [lit hosts] [] 1800000000).map fun s => (session s (lines.map fun l => lit l ++ ['\n'])).2

/-- the state after these lines -/
def stateAfter (hosts : String) (lines : List String) : Option State :=
  (init [lit hosts] [] 1800000000).map fun s => (session s (lines.map fun l => lit l ++ ['\n'])).1

/-- a string literal spelt out as its characters.  `rw [lit_chars]` matches a literal; used before `decide +kernel` on
    sessions with long texts, because the kernel decodes the UTF-8 of every literal it meets and is slow at it: the
    expected lines then cost nothing, and only the literals inside the model are decoded -/
theorem lit_chars (cs : List Char) : lit (String.ofList cs) = cs := String.toList_ofList

/-- a configuration by ranges and a few commands on it -/
def exLines : List String :=
  ["setstatpath redfish/{{plug}}", "setonpath on", "setoffpath off", "setplugs Blade[0-1] [0-1]",
   "setplugs Node[0-3] [0-3] Blade0", "setplugs Node[4-5] 2 Blade1"]

theorem ex_session : runLines "h[0-3]" (exLines ++ ["on Blade0", "on Node[2-5],zz", "stat Node[0-2],Blade0"]) =
    some ([[], [], [], [], [], [], [lit "Blade0: ok"],
      [lit "unknown plug specified: zz", lit "Node4: cannot perform on, dependency off (host=h1 plug=Blade1)",
       lit "Node5: cannot perform on, dependency off (host=h1 plug=Blade1)", lit "Node2: ok", lit "Node3: ok"],
      [lit "Blade0: on", lit "Node0: off", lit "Node1: off", lit "Node2: on"]], .cont) := by
  unfold runLines exLines
  simp only [List.cons_append, List.nil_append, List.map_cons, List.map_nil]
  repeat rw [lit_chars]
  decide +kernel

def emptyState : State :=
  { hosts := [], failHosts := [], plugs := [], plugMap := [], initial := false, header := none, userpwd := none,
    userpwdCmdline := false, statpath := none, onpath := none, onpost := none, offpath := none, offpost := none,
    cmdTimeout := 60, now := 0, status := [] }

/-- the state after the configuration `exLines`: two blades, four nodes below blade 0, two below blade 1 -/
def exState : State := (stateAfter "h[0-3]" exLines).getD emptyState

/-- all that is used of `exState`: the plug names, the invariants of the command layer, that the default `on` path is set,
    and what the helper answers to some lines in it (the non-vacuity examples of `Props/C19`) -/
structure ExStateFacts : Prop where
  names : exState.plugMap.map (·.1) =
    [lit "Blade0", lit "Blade1", lit "Node0", lit "Node1", lit "Node2", lit "Node3", lit "Node4", lit "Node5"]
  safe : Safe exState
  tinv : TInv exState
  timeoutOK : TimeoutOK exState
  link : Link exState
  onpath : exState.onpath.isSome = true
  malformed : (step exState (lit "stat Node[0-9],zz P[3-1\n")).ctl = .cont
  quit : (step exState (lit "\x00quit\n")).ctl = .cont ∧ (step exState (lit " \t quit now\n")).ctl = .exit 0
  noWords : (step exState (lit "  \t\r\n")).out = [] ∧ (step exState (lit "\x00stat\n")).out = [] ∧
    (step exState (lit "STAT Node0\n")).out = [lit "type \"help\" for a list of commands"]
  target : hlArgOK (lit "Node[2-5],zz,Node2") = true ∧ (hlCreate (lit "Node[2-5],zz,Node2")).isSome = true
  slots : (setplugs exState [lit "Slot[1-3]", lit "3,0,1", lit "Node5"]).st.plugMap.lookup (lit "Slot2") =
      some (pairData (lit "Slot2") (lit "0") (lit "h0") (some (lit "Node5"))) ∧
    (setplugs exState [lit "Slot[1-3]", lit "3,0,1", lit "Node5"]).out = []
  powerOn : (powerCmd exState .on [lit "Node[2-5],zz,Node2"]).out =
    [lit "unknown plug specified: zz", lit "Node2: cannot perform on, dependency off (host=h0 plug=Blade0)",
     lit "Node3: cannot perform on, dependency off (host=h0 plug=Blade0)",
     lit "Node2: cannot perform on, dependency off (host=h0 plug=Blade0)",
     lit "Node4: cannot perform on, dependency off (host=h1 plug=Blade1)",
     lit "Node5: cannot perform on, dependency off (host=h1 plug=Blade1)"]

/-- one evaluation of the six lines of `exLines` for all the fields (the kernel shares the work inside one declaration) -/
theorem exState_facts : ExStateFacts := by
  suffices h : _ ∧ _ ∧ _ ∧ _ ∧ _ ∧ _ ∧ _ ∧ _ ∧ _ ∧ _ ∧ _ ∧ _ by
    obtain ⟨a, b, c, d, e, f, g, h, i, j, k, l⟩ := h
    exact ⟨a, b, c, d, e, f, g, h, i, j, k, l⟩
  repeat rw [lit_chars]
  decide +kernel

theorem exState_names : exState.plugMap.map (·.1) =
    [lit "Blade0", lit "Blade1", lit "Node0", lit "Node1", lit "Node2", lit "Node3", lit "Node4", lit "Node5"] :=
  exState_facts.names

theorem exState_safe : Safe exState := exState_facts.safe
theorem exState_TInv : TInv exState := exState_facts.tinv
theorem exState_TimeoutOK : TimeoutOK exState := exState_facts.timeoutOK
theorem exState_Link : Link exState := exState_facts.link

/-- `on` has a path for every plug of `exState`.  The step through a variable state keeps the kernel from comparing
    `match Cmd.on with …` with `exState.onpath` by evaluating `exState` once more -/
theorem exState_PathsFor_on : PathsFor exState .on :=
  have on (s : State) (h : s.onpath.isSome = true) : PathsFor s .on := PathsFor_of_default s .on h
  on exState exState_facts.onpath

/-- a state that is not `Safe`: a parent that is not defined -/
theorem unsafe_state : ¬ Safe ((stateAfter "h[0-3]" ["setstatpath s", "setplugs B 0 A"]).getD emptyState) := by
  decide +kernel

theorem exLines_legal : ∀ b ∈ exLines.map (fun l => lit l ++ ['\n']), LegalSetplugs (argvCreate (cstr b)) := by
  intro b hb
  apply legalSetplugsB_sound
  revert b
  decide +kernel

end Pm.RfCmd
