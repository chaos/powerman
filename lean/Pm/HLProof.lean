import Pm.HL
import Pm.Digits
namespace Pm

theorem HostRange.WF.le {r : HostRange} (h : r.WF) (hs : r.single = false) : r.lo ≤ r.hi :=
  h.resolve_left (by simp [hs])

theorem expand_nil : expand [] = [] := rfl

theorem expand_cons (r : HostRange) (rs : Hostlist) : expand (r :: rs) = r.expand ++ expand rs := by
  simp [expand]

theorem expand_append (a b : Hostlist) : expand (a ++ b) = expand a ++ expand b := by
  simp [expand, List.flatMap_append]

theorem expand_singleton (r : HostRange) : expand [r] = r.expand := by
  simp [expand]

/-- the name a number stands for under a prefix and a width -/
def nameOf (pfx : Name) (w x : Nat) : Name := pfx ++ fmtNum w x

/-- `len` consecutive numbered names starting at `lo`: what a numeric range expands to -/
def numSeg (p : Name) (w lo len : Nat) : List Name := (List.range' lo len).map (nameOf p w)

theorem HostRange.expand_nonsingle (r : HostRange) (h : r.single = false) :
    r.expand = numSeg r.pfx r.width r.lo (r.hi + 1 - r.lo) := by
  simp [HostRange.expand, h, numSeg, List.range'_eq_map_range, Function.comp_def, nameOf]

theorem numSeg_length (p : Name) (w lo len : Nat) : (numSeg p w lo len).length = len := by simp [numSeg]

theorem numSeg_add (p : Name) (w lo a b : Nat) :
    numSeg p w lo (a + b) = numSeg p w lo a ++ numSeg p w (lo + a) b := by
  simp [numSeg, ← List.range'_append_1]

theorem numSeg_get (p : Name) (w lo len k : Nat) (h : k < len) :
    (numSeg p w lo len)[k]? = some (nameOf p w (lo + k)) := by
  simp [numSeg, h]

/-- the numbers `lo … hi` cut at `mid` -/
theorem numSeg_span (p : Name) (w lo mid hi : Nat) (h1 : lo ≤ mid) (h2 : mid ≤ hi + 1) :
    numSeg p w lo (hi + 1 - lo) = numSeg p w lo (mid - lo) ++ numSeg p w mid (hi + 1 - mid) := by
  obtain ⟨a, rfl⟩ := Nat.exists_eq_add_of_le h1
  obtain ⟨b, hb⟩ := Nat.exists_eq_add_of_le h2
  rw [hb, Nat.add_sub_cancel_left, Nat.add_sub_cancel_left, Nat.add_assoc, Nat.add_sub_cancel_left, numSeg_add]

theorem mem_numSeg {p : Name} {w lo len : Nat} {n : Name} :
    n ∈ numSeg p w lo len ↔ ∃ x, lo ≤ x ∧ x < lo + len ∧ n = nameOf p w x := by
  simp [numSeg, List.mem_range'_1, and_assoc, eq_comm]

/-- only the names matter: a width that prints every number from `lo` on alike gives the same segment -/
theorem numSeg_width (p : Name) (w w' lo len : Nat) (h : ∀ x, lo ≤ x → fmtNum w' x = fmtNum w x) :
    numSeg p w' lo len = numSeg p w lo len := by
  unfold numSeg nameOf
  exact List.map_congr_left fun x hx => by rw [h x (List.mem_range'_1.mp hx).1]

/-- `hostlist_push_range`: the range is appended, or it extends the last range `t` (same prefix, both numeric, adjacent,
    widths reconciled by `_width_equiv`) -/
theorem pushRange_cases (hl : Hostlist) (r : HostRange) :
    pushRange hl r = hl ++ [r] ∨
    ∃ init t w w', hl = init ++ [t] ∧ t.pfx = r.pfx ∧ t.single = false ∧ r.single = false ∧ t.hi + 1 = r.lo ∧
      widthEquiv t.lo t.width r.lo r.width = some (w, w') ∧
      pushRange hl r = init ++ [{ t with hi := r.hi, width := w }] := by
  unfold pushRange
  cases hlast : hl.getLast? with
  | none => exact Or.inl (by simp [List.getLast?_eq_none_iff.mp hlast])
  | some t =>
    simp only
    split
    · rename_i hc
      obtain ⟨hp, hs, hts, hadj⟩ := hc
      have hts : t.single = false := by simpa using hts
      cases hwe : widthEquiv t.lo t.width r.lo r.width with
      | none => exact Or.inl rfl
      | some p =>
        obtain ⟨init, rfl⟩ := List.getLast?_eq_some_iff.mp hlast
        exact Or.inr ⟨init, t, p.1, p.2, rfl, hp, hts, hs ▸ hts, hadj, hwe, by simp⟩
    · exact Or.inl rfl

/-- a property of ranges that survives the extension of a numeric range by an adjacent one survives `hostlist_push_range` -/
theorem pushRange_forall {P : HostRange → Prop} {hl : Hostlist} {r : HostRange} (h : ∀ t ∈ hl, P t) (hr : P r)
    (hext : ∀ t w, P t → t.single = false → r.single = false → t.hi + 1 = r.lo → P { t with hi := r.hi, width := w }) :
    ∀ x ∈ pushRange hl r, P x := by
  rcases pushRange_cases hl r with e | ⟨init, t, w, _, rfl, _, hts, hrs, hadj, _, e⟩ <;> rw [e]
  · exact List.forall_mem_append.mpr ⟨h, by simpa using hr⟩
  · rw [List.forall_mem_append] at h ⊢
    exact ⟨h.1, by simpa using hext t w (h.2 t (by simp)) hts hrs hadj⟩

/-- a numeric range followed by an adjacent one of the same prefix prints like the one range that spans both, at any
    width that prints the numbers of each as its own width does -/
theorem HostRange.expand_extend (t r : HostRange) (w : Nat) (hts : t.single = false) (hrs : r.single = false)
    (hp : t.pfx = r.pfx) (hadj : t.hi + 1 = r.lo) (ht : t.lo ≤ t.hi) (hr : r.lo ≤ r.hi)
    (hT : ∀ x, t.lo ≤ x → fmtNum w x = fmtNum t.width x) (hR : ∀ y, r.lo ≤ y → fmtNum w y = fmtNum r.width y) :
    ({ t with hi := r.hi, width := w } : HostRange).expand = t.expand ++ r.expand := by
  rw [HostRange.expand_nonsingle t hts, HostRange.expand_nonsingle r hrs,
    HostRange.expand_nonsingle { t with hi := r.hi, width := w } hts, ← numSeg_width _ _ w _ _ hT,
    ← numSeg_width _ _ w _ _ hR, ← hp, ← hadj]
  exact numSeg_span _ _ _ _ _ (Nat.le_succ_of_le ht) (hadj ▸ Nat.le_succ_of_le hr)

theorem expand_pushRange' (hl : Hostlist) (r : HostRange) (hwf : r.WF) (hall : ∀ t ∈ hl, t.WF) :
    expand (pushRange hl r) = expand hl ++ r.expand := by
  rcases pushRange_cases hl r with e | ⟨init, t, w, w', rfl, hp, hts, hrs, hadj, hwe, e⟩ <;>
    rw [e, expand_append, expand_singleton]
  obtain ⟨hEq, hT, hR⟩ := widthEquiv_sound hwe
  rw [expand_append, expand_singleton, List.append_assoc,
    HostRange.expand_extend t r w hts hrs hp hadj ((hall t (by simp)).le hts) (hwf.le hrs) hT (hEq ▸ hR)]

/-- the range `hostlist_push_host` makes of a name (`hostrange_create_single`, or `hostrange_create` when
    `hostname_create` found a valid numeric suffix) before it hands it to `hostlist_push_range` -/
def nameRange (n : Name) : HostRange :=
  match (HostName.ofName n).suffix with
  | some ds => { pfx := (HostName.ofName n).pfx, lo := (HostName.ofName n).num, hi := (HostName.ofName n).num,
                 width := ds.length, single := false }
  | none => { pfx := n, lo := 0, hi := 0, width := 0, single := true }

theorem pushHost_eq (hl : Hostlist) (n : Name) : pushHost hl n = pushRange hl (nameRange n) := by
  unfold pushHost nameRange
  split <;> rename_i h <;> simp only [h]

theorem all_of_mem_takeWhile {α} (p : α → Bool) (l : List α) (a : α) (h : a ∈ l.takeWhile p) : p a = true :=
  List.all_eq_true.mp List.all_takeWhile a h

theorem splitDigits_spec (n : Name) :
    (splitDigits n).1 ++ (splitDigits n).2 = n ∧ ∀ c ∈ (splitDigits n).2, c.isDigit = true := by
  unfold splitDigits
  refine ⟨?_, fun c hc => all_of_mem_takeWhile _ _ c (List.mem_reverse.mp hc)⟩
  rw [← List.reverse_append, List.takeWhile_append_dropWhile, List.reverse_reverse]

/-- a single name, or prefix and number cut at the trailing digits, which then stand for a number up to `MAX_HOST_SUFFIX` -/
theorem nameRange_cases (n : Name) :
    nameRange n = { pfx := n, lo := 0, hi := 0, width := 0, single := true } ∨
    ((splitDigits n).2 ≠ [] ∧ parseNat (splitDigits n).2 ≤ MAX_HOST_SUFFIX ∧
      nameRange n = { pfx := (splitDigits n).1, lo := parseNat (splitDigits n).2, hi := parseNat (splitDigits n).2,
                      width := (splitDigits n).2.length, single := false }) := by
  unfold nameRange HostName.ofName
  by_cases hemp : (splitDigits n).2.isEmpty = true
  · simp [hemp]
  · by_cases hmax : parseNat (splitDigits n).2 ≤ MAX_HOST_SUFFIX
    · exact Or.inr ⟨by simpa using hemp, hmax, by simp [hemp, hmax]⟩
    · simp [hemp, hmax]

theorem nameRange_expand (n : Name) : (nameRange n).expand = [n] := by
  obtain ⟨hcat, hdig⟩ := splitDigits_spec n
  rcases nameRange_cases n with e | ⟨hne, _, e⟩ <;> rw [e]
  · rfl
  · simp [HostRange.expand, fmtNum_parse _ hne hdig, hcat]

theorem expand_pushHost' (hl : Hostlist) (n : Name) (hall : ∀ t ∈ hl, t.WF) :
    expand (pushHost hl n) = expand hl ++ [n] := by
  rw [pushHost_eq, expand_pushRange' hl _ _ hall, nameRange_expand]
  rcases nameRange_cases n with e | ⟨_, _, e⟩ <;> rw [e]
  · exact Or.inl rfl
  · exact Or.inr (Nat.le_refl _)

end Pm
