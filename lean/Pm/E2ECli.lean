import Pm.ClientLine
import Pm.ReplyProof
import Pm.Dev2Count
/-! Client half of the end-to-end composition for C02 (`Pm/EndToEnd.lean`): what one client's share of `cli_post_poll` does
    to the device queues and to the client's command record — nothing, or exactly one accepted request, whose record
    waits for exactly the actions `dev_enqueue_actions` appended (`Req`; the relation `Isolation.Enq` of C11 says which
    arglist the request gets but not what `pending` is). -/
namespace Pm.Daemon.E2E
open Pm Pm.Client Pm.Daemon
open Pm.Daemon.Enq (installDev installTotal newActs)
open Pm.Dev2 (Dev Action Plug qcount)

/-- what a stage of one client's request processing does to the queues and to the client's command: nothing; or — only
    when the client had no command — one accepted request: every device went through `dev_enqueue_actions`, and the new
    command record carries the request, a clear error flag and `pending` = the number of actions created (positive) -/
def Req (cid : Nat) (devs devs' : List (Bytes × Dev)) (cmd cmd' : Option CmdC) : Prop :=
  (devs' = devs ∧ cmd' = cmd) ∨
  (cmd = none ∧ ∃ (cm : Com) (names : List Name) (tele : Bool) (al : Nat),
    cmd' = some { com := cm, names, error := false, al,
                  pending := installTotal (comIdx cm) (names.map ofChars) cid tele al devs } ∧
    0 < installTotal (comIdx cm) (names.map ofChars) cid tele al devs ∧
    (∀ nd ∈ devs, needsDev nd.2 (names.map ofChars) = true → handles nd.2 (comIdx cm) (names.map ofChars) = true) ∧
    devs' = devs.map (installDev (comIdx cm) (names.map ofChars) cid tele al))

theorem _root_.Pm.Daemon.ClientPf.Inst.req {w : W} {c : Cli} {r : W × Cli} (h : ClientPf.Inst w c r) :
    Req c.id w.devs r.1.devs c.cmd r.2.cmd := by
  rcases h.2 with ⟨a1, _, _, a4⟩ | ⟨idle, com, names, tele, b1, b2, b3, b4, _⟩
  · exact .inl ⟨a1, a4⟩
  · exact .inr ⟨idle, com, names, tele, w.alNext, b3, b2, b1, b4⟩

theorem parseLine_req (w : W) (c : Cli) (line : Bytes) :
    Req c.id w.devs (parseLine w c line).1.devs c.cmd (parseLine w c line).2.cmd :=
  (ClientPf.parseLine_does w c line).inst.req

theorem clientPass_req (w : W) (c : Cli) (e : Option FdEnv) (c' : Cli) (h : (clientPass w c e).2 = some c') :
    Req c.id w.devs (clientPass w c e).1.devs c.cmd c'.cmd :=
  (ClientPf.clientPass_inst w c e c' h).req

/-! ### counting over all queues -/

/-- the number of actions of client `g` in all queues -/
def totalQ (g : Nat) (devs : List (Bytes × Dev)) : Nat := (devs.map fun nd => qcount g nd.2.acts).sum

@[simp] theorem totalQ_nil (g : Nat) : totalQ g [] = 0 := rfl
@[simp] theorem totalQ_cons (g : Nat) (nd : Bytes × Dev) (r : List (Bytes × Dev)) :
    totalQ g (nd :: r) = qcount g nd.2.acts + totalQ g r := by simp [totalQ]
@[simp] theorem totalQ_append (g : Nat) (l m : List (Bytes × Dev)) : totalQ g (l ++ m) = totalQ g l + totalQ g m := by
  simp [totalQ]

theorem qcount_append (cid : Nat) (l m : List Action) : qcount cid (l ++ m) = qcount cid l + qcount cid m := by
  simp [qcount, List.countP_append]

theorem qcount_all {cid : Nat} {l : List Action} (h : ∀ a ∈ l, a.clientId = cid) : qcount cid l = l.length := by
  unfold qcount
  rw [List.countP_eq_length]
  intro a ha; simpa using h a ha

theorem qcount_none {g : Nat} {l : List Action} (h : ∀ a ∈ l, a.clientId ≠ g) : qcount g l = 0 := by
  unfold qcount
  rw [List.countP_eq_zero]
  intro a ha; simpa using h a ha

theorem qcount_installDev (com : Nat) (bn : List Bytes) (cid : Nat) (tele : Bool) (al : Nat) (nd : Bytes × Dev) (g : Nat) :
    qcount g (installDev com bn cid tele al nd).2.acts =
      qcount g nd.2.acts + (if g = cid then (newActs nd.2.plugs nd.2.scripts com bn cid tele al).length else 0) := by
  rw [(Enq.installDev_spec com bn cid tele al nd).2.2.1, qcount_append]
  congr 1
  split
  · rename_i hg; subst hg
    exact qcount_all fun a ha => (Enq.newActs_kind ha).2.1
  · rename_i hg
    exact qcount_none fun a ha => by rw [(Enq.newActs_kind ha).2.1]; exact fun e => hg e.symm

theorem totalQ_zero_of {g : Nat} {devs : List (Bytes × Dev)} (h : ∀ nd ∈ devs, ∀ a ∈ nd.2.acts, a.clientId ≠ g) :
    totalQ g devs = 0 := by
  induction devs with
  | nil => rfl
  | cons nd r ih =>
    rw [totalQ_cons, ih (fun x hx => h x (by simp [hx])), qcount_none (h nd (by simp))]

theorem totalQ_install (com : Nat) (bn : List Bytes) (cid : Nat) (tele : Bool) (al : Nat) (devs : List (Bytes × Dev)) (g : Nat) :
    totalQ g (devs.map (installDev com bn cid tele al)) =
      totalQ g devs + (if g = cid then installTotal com bn cid tele al devs else 0) := by
  induction devs with
  | nil => simp [installTotal]
  | cons nd r ih =>
    rw [List.map_cons, totalQ_cons, totalQ_cons, ih, qcount_installDev]
    unfold installTotal
    split <;> simp <;> omega

open Pm.Daemon.Enq (tgt chosenActs singletActs mkAct hasS hasO) in
/-- **coverage**: a device the request involves and that passed the capability check gets, for each of its plugs mapped
    to a named node, an action that commands that plug -/
theorem newActs_covers {d : Dev} {com : Nat} {targets : List Bytes} {cid : Nat} {tele : Bool} {al : Nat}
    (hh : handles d com targets = true) {p : Plug} (hp : p ∈ d.plugs) (ht : tgt targets p = true) :
    ∃ a ∈ newActs d.plugs d.scripts com targets cid tele al, p ∈ a.commanded d := by
  have hpf : p ∈ d.plugs.filter (tgt targets) := List.mem_filter.mpr ⟨hp, ht⟩
  have htp : d.plugs.filter (tgt targets) ≠ [] := List.ne_nil_of_mem hpf
  rw [Enq.newActs_handled cid tele al hh htp]
  unfold chosenActs
  have hsing : hasS d.scripts com = true → ∃ a ∈ singletActs d.plugs d.scripts com targets cid tele al, p ∈ a.commanded d := by
    intro hs
    refine ⟨mkAct d.scripts com (some [p]) cid tele al, ?_, by simp [Action.commanded]⟩
    unfold singletActs; rw [if_pos hs]
    exact List.mem_map.mpr ⟨p, hpf, rfl⟩
  split
  · rename_i h1; exact hsing (Bool.and_eq_true_iff.mp h1).1
  · split
    · exact ⟨_, List.mem_singleton.mpr rfl, by simpa [Action.commanded] using hp⟩
    · split
      · exact ⟨_, List.mem_singleton.mpr rfl, by simpa [Action.commanded] using ⟨hp, ht⟩⟩
      · rename_i h2 h3
        exact hsing (Enq.handles_singlet hh h2 h3)

end Pm.Daemon.E2E

section AxiomChecks
open Pm.Daemon.E2E
/-- info: 'Pm.Daemon.E2E.clientPass_req' depends on axioms: [propext, Classical.choice, Quot.sound] -/
#guard_msgs in #print axioms clientPass_req
/-- info: 'Pm.Daemon.E2E.totalQ_install' depends on axioms: [propext, Classical.choice, Quot.sound] -/
#guard_msgs in #print axioms totalQ_install
/-- info: 'Pm.Daemon.E2E.newActs_covers' depends on axioms: [propext, Quot.sound] -/
#guard_msgs in #print axioms newActs_covers
end AxiomChecks
