import Pm.SortF
/-! `hostlist_sort` as modelled in `Pm/Sort2.lean` (`sortHL`) never adds, drops or renames a node.  The argument does not
    depend on the order the merge sort produces: the coalesce and collapse lemmas are stated for an arbitrary list of ids
    satisfying `Inv`.  One iteration of `hostlist_coalesce` is gone through once (`coalesceStep_step`): it keeps `Inv` and the
    names, and is of one of the three kinds (`StepKind`) from which `Pm/SortFuel.lean` gets the bound on the iterations. -/
namespace Pm
open List

/-! ## array accessors -/

theorem Store.get_set (st : Store) (i j : Nat) (v : HostRange) :
    (st.set! i v)[j]! = if i = j ∧ i < st.size then v else st[j]! := by
  grind

theorem Store.size_set (st : Store) (i : Nat) (v : HostRange) : (st.set! i v).size = st.size := by
  grind

theorem Store.get_set2 (st : Store) {p q : Nat} (a b : HostRange) (hp : p < st.size) (hq : q < st.size)
    (k : Nat) : ((st.set! p a).set! q b)[k]! = if k = q then b else if k = p then a else st[k]! := by
  rw [Store.get_set, Store.get_set, Store.size_set]
  by_cases h1 : k = q
  · rw [if_pos ⟨h1.symm, hq⟩, if_pos h1]
  · rw [if_neg (fun h => h1 h.1.symm), if_neg h1]
    by_cases h2 : k = p
    · rw [if_pos ⟨h2.symm, hp⟩, if_pos h2]
    · rw [if_neg (fun h => h2 h.1.symm), if_neg h2]

theorem Store.get_push (st : Store) (v : HostRange) (j : Nat) :
    (st.push v)[j]! = if j < st.size then st[j]! else if j = st.size then v else default := by
  grind

theorem Store.size_push (st : Store) (v : HostRange) : (st.push v).size = st.size + 1 := by
  grind

/-- two ranges that differ at most in a width that prints every element alike -/
def REq (r r' : HostRange) : Prop :=
  r'.pfx = r.pfx ∧ r'.lo = r.lo ∧ r'.hi = r.hi ∧ r'.single = r.single ∧ r'.expand = r.expand

theorem REq.refl (r : HostRange) : REq r r := ⟨rfl, rfl, rfl, rfl, rfl⟩

theorem REq.pfx {r r' : HostRange} (h : REq r r') : r'.pfx = r.pfx := h.1
theorem REq.lo {r r' : HostRange} (h : REq r r') : r'.lo = r.lo := h.2.1
theorem REq.hi {r r' : HostRange} (h : REq r r') : r'.hi = r.hi := h.2.2.1
theorem REq.single {r r' : HostRange} (h : REq r r') : r'.single = r.single := h.2.2.2.1
theorem REq.expand {r r' : HostRange} (h : REq r r') : r'.expand = r.expand := h.2.2.2.2

theorem REq.trans {a b c : HostRange} (h1 : REq a b) (h2 : REq b c) : REq a c := by
  obtain ⟨a1, a2, a3, a4, a5⟩ := h1
  obtain ⟨b1, b2, b3, b4, b5⟩ := h2
  exact ⟨b1.trans a1, b2.trans a2, b3.trans a3, b4.trans a4, b5.trans a5⟩

theorem REq_width (r : HostRange) (w' : Nat) (h : ∀ x, r.lo ≤ x → fmtNum w' x = fmtNum r.width x) :
    REq r { r with width := w' } := by
  refine ⟨rfl, rfl, rfl, rfl, ?_⟩
  cases hs : r.single
  · rw [HostRange.expand_nonsingle _ hs, HostRange.expand_nonsingle _ rfl]
    exact numSeg_width _ _ _ _ _ h
  · simp [HostRange.expand, hs]

/-- the stores agree up to widths that print alike -/
def SEq (st st' : Store) : Prop := st'.size = st.size ∧ ∀ k : Nat, REq st[k]! st'[k]!

theorem SEq.refl (st : Store) : SEq st st := ⟨rfl, fun _ => REq.refl _⟩

theorem SEq.size {st st' : Store} (h : SEq st st') : st'.size = st.size := h.1
theorem SEq.get {st st' : Store} (h : SEq st st') (k : Nat) : REq st[k]! st'[k]! := h.2 k

theorem SEq.trans {a b c : Store} (h1 : SEq a b) (h2 : SEq b c) : SEq a c :=
  ⟨h2.size.trans h1.size, fun k => (h1.get k).trans (h2.get k)⟩

/-- `hostrange_width_combine` succeeds -/
def combOk (a b : HostRange) : Bool := a.width == b.width || (widthEquiv a.lo a.width b.lo b.width).isSome

theorem combineM_eq (st : Store) (i j : Nat) : combineM st i j =
    if (st[i]!).width = (st[j]!).width then (true, st) else
    match widthEquiv (st[i]!).lo (st[i]!).width (st[j]!).lo (st[j]!).width with
    | some (wa, wb) => (true, (st.set! i { st[i]! with width := wa }).set! j { st[j]! with width := wb })
    | none => (false, (st.set! i { st[i]! with width := (st[i]!).width }).set! j { st[j]! with width := (st[j]!).width }) := by
  unfold combineM widthEquivM
  simp only [beq_iff_eq]
  split
  · rfl
  · cases widthEquiv (st[i]!).lo (st[i]!).width (st[j]!).lo (st[j]!).width <;> rfl

theorem combineM_fst (st : Store) (i j : Nat) : (combineM st i j).1 = combOk st[i]! st[j]! := by
  rw [combineM_eq]; unfold combOk
  split
  · simp_all
  · cases h : widthEquiv (st[i]!).lo (st[i]!).width (st[j]!).lo (st[j]!).width <;> simp_all

theorem combineM_SEq (st : Store) (i j : Nat) : SEq st (combineM st i j).2 := by
  rw [combineM_eq]
  split
  · exact SEq.refl _
  · cases h : widthEquiv (st[i]!).lo (st[i]!).width (st[j]!).lo (st[j]!).width with
    | none =>
      refine ⟨by simp, fun k => ?_⟩
      simp only [Store.get_set, Store.size_set]
      split
      · rename_i hh; rw [← hh.1]; exact REq.refl _
      · split
        · rename_i hh; rw [← hh.1]; exact REq.refl _
        · exact REq.refl _
    | some p =>
      obtain ⟨wa, wb⟩ := p
      obtain ⟨_, hA, hB⟩ := widthEquiv_sound h
      refine ⟨by simp, fun k => ?_⟩
      simp only [Store.get_set, Store.size_set]
      split
      · rename_i hh; rw [← hh.1]; exact REq_width _ _ hB
      · split
        · rename_i hh; rw [← hh.1]; exact REq_width _ _ hA
        · exact REq.refl _

theorem combineM_false (st : Store) (i j : Nat) (h : (combineM st i j).1 = false) (k : Nat) :
    (combineM st i j).2[k]! = st[k]! := by
  rw [combineM_eq] at h ⊢
  split
  · rfl
  · rename_i hne
    simp only [hne, if_false] at h
    cases hw : widthEquiv (st[i]!).lo (st[i]!).width (st[j]!).lo (st[j]!).width with
    | none =>
      simp only [Store.get_set, Store.size_set]
      split
      · rename_i hh; rw [← hh.1]
      · split
        · rename_i hh; rw [← hh.1]
        · rfl
    | some p => simp [hw] at h

theorem combineM_true (st : Store) (i j : Nat) (h : (combineM st i j).1 = true) (hij : i ≠ j)
    (hi : i < st.size) (hj : j < st.size) :
    ((combineM st i j).2[i]!).width = ((combineM st i j).2[j]!).width := by
  rw [combineM_eq] at h ⊢
  split
  · rename_i he; exact he
  · rename_i hne
    simp only [hne, if_false] at h
    cases hw : widthEquiv (st[i]!).lo (st[i]!).width (st[j]!).lo (st[j]!).width with
    | none => simp [hw] at h
    | some p =>
      obtain ⟨wa, wb⟩ := p
      obtain ⟨hE, _, _⟩ := widthEquiv_sound hw
      simp only [Store.get_set, Store.size_set]
      simp [hi, hj, hE, Ne.symm hij]

theorem cmpM_SEq (st : Store) (i j : Nat) : SEq st (cmpM st i j).2 := by
  unfold cmpM
  simp only
  split
  · exact SEq.refl _
  · exact combineM_SEq st i j

/-! ## denotation of a (store, ids) pair and the invariant -/

/-- the names a list of ids stands for -/
def den (st : Store) (ids : List Nat) : List Name := ids.flatMap fun i => (st[i]!).expand

/-- ids are distinct live objects of the store, each one a well-formed range -/
def Inv (st : Store) (ids : List Nat) : Prop :=
  ids.Nodup ∧ (∀ i ∈ ids, i < st.size) ∧ ∀ i ∈ ids, (st[i]!).WFS

theorem Inv.nodup {st : Store} {ids : List Nat} (h : Inv st ids) : ids.Nodup := h.1
theorem Inv.lt {st : Store} {ids : List Nat} (h : Inv st ids) (i : Nat) (hi : i ∈ ids) : i < st.size := h.2.1 i hi
theorem Inv.wfs {st : Store} {ids : List Nat} (h : Inv st ids) (i : Nat) (hi : i ∈ ids) : (st[i]!).WFS := h.2.2 i hi

theorem REq.wfs {r r' : HostRange} (h : REq r r') (hw : r.WFS) : r'.WFS := by
  obtain ⟨_, h2, h3, h4, _⟩ := h
  unfold HostRange.WFS at *
  rw [h2, h3, h4]; exact hw

theorem den_SEq {st st' : Store} (h : SEq st st') (ids : List Nat) : den st' ids = den st ids := by
  unfold den
  congr 1
  funext i
  exact (h.get i).expand

theorem Inv_SEq {st st' : Store} (h : SEq st st') {ids : List Nat} (hi : Inv st ids) : Inv st' ids := by
  obtain ⟨h1, h2, h3⟩ := hi
  exact ⟨h1, fun i hi => by rw [h.size]; exact h2 i hi, fun i hi => (h.get i).wfs (h3 i hi)⟩

theorem den_perm (st : Store) {ids ids' : List Nat} (h : ids.Perm ids') : (den st ids).Perm (den st ids') :=
  List.Perm.flatMap_right _ h

theorem Inv_perm {st : Store} {ids ids' : List Nat} (h : ids.Perm ids') (hi : Inv st ids) : Inv st ids' := by
  obtain ⟨h1, h2, h3⟩ := hi
  exact ⟨h.nodup_iff.mp h1, fun i hi => h2 i (h.mem_iff.mpr hi), fun i hi => h3 i (h.mem_iff.mpr hi)⟩

theorem den_congr {st st' : Store} {ids : List Nat} (h : ∀ k ∈ ids, st'[k]! = st[k]!) : den st' ids = den st ids := by
  induction ids with
  | nil => rfl
  | cons a l ih =>
    simp only [den, List.flatMap_cons] at ih ⊢
    rw [h a (by simp), ih (fun k hk => h k (by simp [hk]))]

theorem den_cons (st : Store) (i : Nat) (ids : List Nat) : den st (i :: ids) = (st[i]!).expand ++ den st ids := by
  simp [den]

theorem den_append (st : Store) (a b : List Nat) : den st (a ++ b) = den st a ++ den st b := by
  simp [den, flatMap_append]

/-! ## the merge sort returns a permutation of the ids, whatever the comparisons answer -/

/-- the merge loop either runs out of fuel, which takes a fuel of at most `|l| + |r|`, or returns a permutation of what it
    was given; there is no third outcome -/
theorem mergeF_run : ∀ (f : Nat) (st : Store) (l r acc : List Nat),
    (mergeF f st l r acc = .fuel ∧ f ≤ l.length + r.length) ∨
    ∃ res st', mergeF f st l r acc = .ok (res, st') ∧ res.Perm (acc ++ (l ++ r)) ∧ SEq st st'
  | 0, _, _, _, _ => Or.inl ⟨rfl, Nat.zero_le _⟩
  | f + 1, st, l, r, acc => by
    unfold mergeF
    split
    · exact Or.inr ⟨_, _, rfl, by simpa using (List.reverse_perm acc).append_right _, SEq.refl _⟩
    · exact Or.inr ⟨_, _, rfl, by simpa using (List.reverse_perm acc).append_right _, SEq.refl _⟩
    · rename_i a l' b r'
      split
      · rcases mergeF_run f (cmpM st a b).2 l' (b :: r') (a :: acc) with ⟨h, hf⟩ | ⟨res, st', h, hp, hs⟩
        · exact Or.inl ⟨h, by simp only [List.length_cons] at hf ⊢; omega⟩
        · refine Or.inr ⟨res, st', h, hp.trans ?_, (cmpM_SEq st a b).trans hs⟩
          simpa using (List.perm_middle (a := a) (l₁ := acc) (l₂ := l' ++ b :: r')).symm
      · rcases mergeF_run f (cmpM st a b).2 (a :: l') r' (b :: acc) with ⟨h, hf⟩ | ⟨res, st', h, hp, hs⟩
        · exact Or.inl ⟨h, by simp only [List.length_cons] at hf ⊢; omega⟩
        · refine Or.inr ⟨res, st', h, hp.trans ?_, (cmpM_SEq st a b).trans hs⟩
          have h2 : (acc ++ (a :: l' ++ b :: r')).Perm (b :: (acc ++ (a :: l' ++ r'))) := by
            rw [← List.append_assoc, ← List.append_assoc]
            exact List.perm_middle
          simpa using h2.symm

/-- the merge sort either runs out of its recursion depth `f`, which takes `f = 0` or `f < |ids|`, or returns a
    permutation of the ids, leaving every stored range with the same names -/
theorem msort_run : ∀ (f : Nat) (st : Store) (ids : List Nat),
    (msort f st ids = .fuel ∧ (f = 0 ∨ f < ids.length)) ∨
    ∃ res st', msort f st ids = .ok (res, st') ∧ res.Perm ids ∧ SEq st st'
  | 0, _, _ => Or.inl ⟨rfl, Or.inl rfl⟩
  | f + 1, st, ids => by
    unfold msort
    split
    · exact Or.inr ⟨_, _, rfl, List.Perm.refl _, SEq.refl _⟩
    · have hlen : 2 ≤ ids.length := by omega
      rcases msort_run f st (ids.take (ids.length / 2)) with ⟨h1, hf⟩ | ⟨l, st1, h1, p1, s1⟩ <;> simp only [h1]
      · exact Or.inl ⟨trivial, Or.inr (by rw [List.length_take] at hf; omega)⟩
      · rcases msort_run f st1 (ids.drop (ids.length / 2)) with ⟨h2, hf⟩ | ⟨r, st2, h2, p2, s2⟩ <;> simp only [h2]
        · exact Or.inl ⟨trivial, Or.inr (by rw [List.length_drop] at hf; omega)⟩
        · rcases mergeF_run (l.length + r.length + 1) st2 l r [] with ⟨_, hf⟩ | ⟨res, st3, h3, p3, s3⟩
          · omega
          · refine Or.inr ⟨res, st3, h3, ?_, (s1.trans s2).trans s3⟩
            exact (by simpa using p3 : res.Perm (l ++ r)).trans (List.take_append_drop _ ids ▸ p1.append p2)

theorem msort_perm (f : Nat) (st : Store) (ids res : List Nat) (st' : Store) (h : msort f st ids = .ok (res, st')) :
    res.Perm ids ∧ SEq st st' := by
  rcases msort_run f st ids with ⟨h', _⟩ | ⟨_, _, h', hp, hs⟩ <;> rw [h'] at h <;> cases h
  exact ⟨hp, hs⟩

theorem msort_ne_fuel (f : Nat) (st : Store) (ids : List Nat) (hlen : ids.length ≤ f) (hf : 0 < f) :
    msort f st ids ≠ .fuel := by
  rcases msort_run f st ids with ⟨_, h⟩ | ⟨_, _, h, _⟩
  · omega
  · rw [h]; exact fun e => nomatch e

theorem msort_ne_abort (f : Nat) (st : Store) (ids : List Nat) : msort f st ids ≠ .abort := by
  rcases msort_run f st ids with ⟨h, _⟩ | ⟨_, _, h, _⟩ <;> rw [h] <;> exact fun e => nomatch e

/-! ## facts about `hostrange_prefix_cmp`, adjacent ids -/

theorem prefixCmp_zero {a b : HostRange} (h : prefixCmp a b = 0) : a.pfx = b.pfx ∧ a.single = b.single := by
  unfold prefixCmp at h
  split at h
  · omega
  · split at h
    · omega
    · rename_i h1 h2
      refine ⟨List.le_antisymm (List.not_lt.mp h2) (List.not_lt.mp h1), ?_⟩
      revert h; cases a.single <;> cases b.single <;> simp

theorem split_at_adj {l : List Nat} {i : Nat} (h0 : i ≠ 0) (hi : i < l.length) :
    l = l.take (i - 1) ++ l[i-1]! :: l[i]! :: l.drop (i + 1) := by
  have h1 : i - 1 < l.length := by omega
  rw [getElem!_pos l i hi, getElem!_pos l (i-1) h1]
  have e1 : l.drop i = l[i] :: l.drop (i + 1) := drop_eq_getElem_cons hi
  have e2 : l.drop (i - 1) = l[i-1] :: l.drop (i - 1 + 1) := drop_eq_getElem_cons h1
  have e3 : i - 1 + 1 = i := by omega
  rw [e3] at e2
  rw [← e1, ← e2, take_append_drop]

theorem cells_nodup {l1 l2 : List Nat} {p q : Nat} (hn : (l1 ++ p :: q :: l2).Nodup) :
    p ≠ q ∧ p ∉ l1 ∧ p ∉ l2 ∧ q ∉ l1 ∧ q ∉ l2 := by
  have hn' : (p :: q :: (l1 ++ l2)).Nodup :=
    (Perm.nodup_iff ((perm_middle (l₁ := l1)).trans (perm_middle.cons p))).mp hn
  simp only [nodup_cons, mem_cons, mem_append, not_or] at hn'
  exact ⟨hn'.1.1, hn'.1.2.1, hn'.1.2.2, hn'.2.1.1, hn'.2.1.2⟩

theorem adj_mem {ids : List Nat} {i : Nat} (hi : i < ids.length) : ids[i-1]! ∈ ids ∧ ids[i]! ∈ ids := by
  rw [getElem!_pos ids i hi, getElem!_pos ids (i-1) (by omega)]
  exact ⟨getElem_mem _, getElem_mem _⟩

/-- the two neighbours `ids[i-1]`, `ids[i]` an iteration of the outer loops looks at, with what stands left and right
    of them: the form in which the effect of an iteration on the list is read off -/
theorem adj_cells {ids : List Nat} {i : Nat} (hn : ids.Nodup) (h0 : i ≠ 0) (hi : i < ids.length) :
    ∃ l1 l2, ids = l1 ++ ids[i-1]! :: ids[i]! :: l2 ∧ ids.eraseIdx i = l1 ++ ids[i-1]! :: l2 ∧
      ids[i-1]! ≠ ids[i]! ∧ ids[i-1]! ∉ l1 ∧ ids[i-1]! ∉ l2 ∧ ids[i]! ∉ l1 ∧ ids[i]! ∉ l2 := by
  have hs := split_at_adj h0 hi
  have hl : i = (ids.take (i - 1)).length + 1 := by rw [length_take]; omega
  refine ⟨ids.take (i - 1), ids.drop (i + 1), hs, ?_⟩
  generalize ids[i-1]! = p at *
  generalize ids[i]! = q at *
  generalize ids.take (i - 1) = l1 at *
  generalize ids.drop (i + 1) = l2 at *
  subst hs hl
  refine ⟨?_, cells_nodup hn⟩
  rw [eraseIdx_append_of_length_le (Nat.le_succ _), Nat.succ_sub (Nat.le_refl _), Nat.sub_self]
  rfl

theorem prefixCmp_congr {a b a' b' : HostRange} (ha : REq a a') (hb : REq b b') : prefixCmp a' b' = prefixCmp a b := by
  unfold prefixCmp
  rw [ha.pfx, hb.pfx, ha.single, hb.single]

/-- what `hostlist_collapse` joins: two adjacent ranges of one prefix and one width.  Both are numeric — two single names
    of one prefix are never adjacent, because `hostrange_create_single` stores `lo = hi = 0` (`WFS`; with arbitrary `lo`/`hi`
    on single names, `HWF` only, a duplicate name could be lost here) — and the join prints what the two print. -/
theorem join_spec {a b : HostRange} (ha : a.WFS) (hb : b.WFS) (hpc : prefixCmp a b = 0) (hadj : a.hi + 1 = b.lo)
    (hw : a.width = b.width) :
    ({ a with hi := b.hi } : HostRange).WFS ∧ ({ a with hi := b.hi } : HostRange).expand = a.expand ++ b.expand := by
  obtain ⟨hpfx, hsing⟩ := prefixCmp_zero hpc
  have has : a.single = false := by
    rcases ha with ⟨h1, _, h3⟩ | ⟨h1, _⟩
    · rcases hb with ⟨_, h2, _⟩ | ⟨h1', _⟩
      · omega
      · rw [h1, h1'] at hsing; cases hsing
    · exact h1
  have hbs : b.single = false := hsing ▸ has
  have hawf := ha.le has
  have hbwf := hb.le hbs
  exact ⟨Or.inr ⟨has, show a.lo ≤ b.hi by omega⟩,
    HostRange.expand_extend a b a.width has hbs hpfx hadj hawf hbwf (fun _ _ => rfl) (fun _ _ => hw ▸ rfl)⟩

/-! ## `hostlist_collapse` -/

/-- an iteration of `hostlist_collapse` finishes at `i = 0` with the state as it is, and else goes on at `i - 1`: nothing
    in it asserts -/
theorem collapseStep_cases (st : Store) (ids : List Nat) (i : Nat) :
    (i = 0 ∧ collapseStep st ids i = .done st ids) ∨
    (i ≠ 0 ∧ ∃ st' ids', collapseStep st ids i = .cont st' ids' (i - 1)) := by
  unfold collapseStep
  by_cases h0 : i = 0
  · exact Or.inl ⟨h0, if_pos (by simpa using h0)⟩
  · refine Or.inr ⟨h0, ?_⟩
    rw [if_neg (by simpa using h0)]
    split
    · split <;> exact ⟨_, _, rfl⟩
    · exact ⟨_, _, rfl⟩

/-- the merging branch of `hostlist_collapse`, after `hostrange_width_combine`: `p = ids[i-1]` takes over the upper end of
    its right neighbour `q = ids[i]`, which leaves the list -/
theorem collapse_merge {st : Store} {ids : List Nat} {i p q : Nat} (hinv : Inv st ids) (h0 : i ≠ 0) (hi : i < ids.length)
    (hpe : ids[i-1]! = p) (hqe : ids[i]! = q) (hpc : prefixCmp st[p]! st[q]! = 0) (hadj : (st[p]!).hi + 1 = (st[q]!).lo)
    (hw : (st[p]!).width = (st[q]!).width) :
    Inv (st.set! p { st[p]! with hi := (st[q]!).hi }) (ids.eraseIdx i) ∧
    den (st.set! p { st[p]! with hi := (st[q]!).hi }) (ids.eraseIdx i) = den st ids := by
  subst hpe hqe
  obtain ⟨l1, l2, hids, hers, -, hp1, hp2, -, -⟩ := adj_cells hinv.nodup h0 hi
  obtain ⟨hp, hq⟩ := adj_mem hi
  generalize ids[i-1]! = p at *
  generalize ids[i]! = q at *
  have hsub : ∀ k ∈ ids.eraseIdx i, k ∈ ids := fun k hk => mem_of_mem_eraseIdx hk
  obtain ⟨hwfs, hexp⟩ := join_spec (hinv.wfs p hp) (hinv.wfs q hq) hpc hadj hw
  have hfr : ∀ (l : List Nat), p ∉ l → ∀ k ∈ l, (st.set! p { st[p]! with hi := (st[q]!).hi })[k]! = st[k]! :=
    fun l hl k hk => by rw [Store.get_set, if_neg fun h : p = k ∧ _ => hl (h.1 ▸ hk)]
  constructor
  · refine ⟨hinv.nodup.eraseIdx i, fun k hk => ?_, fun k hk => ?_⟩
    · rw [Store.size_set]; exact hinv.lt k (hsub k hk)
    · rw [Store.get_set]
      split
      · exact hwfs
      · exact hinv.wfs k (hsub k hk)
  · rw [hers, hids, den_append, den_append, den_cons, den_cons, den_cons, Store.get_set, if_pos ⟨rfl, hinv.lt p hp⟩, hexp,
      den_congr (hfr l1 hp1), den_congr (hfr l2 hp2), append_assoc]

theorem collapseStep_cont {st : Store} {ids : List Nat} {i : Nat} {st' : Store} {ids' : List Nat} {i' : Nat}
    (hinv : Inv st ids) (hi : i = 0 ∨ i < ids.length) (h : collapseStep st ids i = .cont st' ids' i') :
    Inv st' ids' ∧ (den st' ids').Perm (den st ids) ∧ (i' = 0 ∨ i' < ids'.length) := by
  unfold collapseStep at h
  split at h
  · cases h
  · rename_i h0
    have h0 : i ≠ 0 := by simpa using h0
    have hi : i < ids.length := by omega
    have hseq := combineM_SEq st ids[i-1]! ids[i]!
    split at h
    · rename_i hc
      split at h
      · rename_i hok
        simp only [StepRes.cont.injEq] at h
        obtain ⟨rfl, rfl, rfl⟩ := h
        obtain ⟨hp, hq⟩ := adj_mem hi
        obtain ⟨-, -, -, -, hpq, -⟩ := adj_cells hinv.nodup h0 hi
        have hw := combineM_true st _ _ hok hpq (hinv.lt _ hp) (hinv.lt _ hq)
        simp only [Bool.and_eq_true, beq_iff_eq] at hc
        rw [← prefixCmp_congr (hseq.get _) (hseq.get _), ← (hseq.get _).hi, ← (hseq.get _).lo] at hc
        obtain ⟨h1, h2⟩ := collapse_merge (Inv_SEq hseq hinv) h0 hi rfl rfl hc.1 hc.2 hw
        refine ⟨h1, by rw [h2, den_SEq hseq], Or.inr ?_⟩
        rw [List.length_eraseIdx_of_lt hi]; omega
      · simp only [StepRes.cont.injEq] at h
        obtain ⟨rfl, rfl, rfl⟩ := h
        exact ⟨Inv_SEq hseq hinv, by rw [den_SEq hseq], Or.inr (by omega)⟩
    · simp only [StepRes.cont.injEq] at h
      obtain ⟨rfl, rfl, rfl⟩ := h
      exact ⟨hinv, List.Perm.refl _, Or.inr (by omega)⟩

/-- `hostlist_collapse` always returns: `i` goes down by one per iteration and nothing in it asserts; from a state
    satisfying `Inv` it keeps the invariant and the multiset of names -/
theorem collapseLoopF_run : ∀ (f : Nat) (st : Store) (ids : List Nat) (i : Nat), i < f →
    ∃ ids' st', collapseLoopF f st ids i = .ok (ids', st') ∧
      (Inv st ids → (i = 0 ∨ i < ids.length) → Inv st' ids' ∧ (den st' ids').Perm (den st ids))
  | 0, _, _, _, h => by omega
  | f + 1, st, ids, i, h => by
    unfold collapseLoopF
    rcases collapseStep_cases st ids i with ⟨_, hs⟩ | ⟨h0, st1, ids1, hs⟩
    · rw [hs]
      exact ⟨_, _, rfl, fun hinv _ => ⟨hinv, List.Perm.refl _⟩⟩
    · obtain ⟨ids', st', h', hspec⟩ := collapseLoopF_run f st1 ids1 (i - 1) (by omega)
      rw [hs]
      refine ⟨ids', st', h', fun hinv hi => ?_⟩
      obtain ⟨h1, h2, h3⟩ := collapseStep_cont hinv hi hs
      obtain ⟨h4, h5⟩ := hspec h1 h3
      exact ⟨h4, h5.trans h2⟩

theorem collapse_run (st : Store) (ids : List Nat) : ∃ ids' st', collapse st ids = .ok (ids', st') ∧
    (Inv st ids → Inv st' ids' ∧ (den st' ids').Perm (den st ids)) := by
  obtain ⟨ids', st', h, hs⟩ := collapseLoopF_run (ids.length + 1) st ids (ids.length - 1) (by omega)
  exact ⟨ids', st', h, fun hinv => hs hinv (by omega)⟩

theorem collapse_spec {st : Store} {ids : List Nat} {st' : Store} {ids' : List Nat}
    (hinv : Inv st ids) (h : collapse st ids = .ok (ids', st')) :
    Inv st' ids' ∧ (den st' ids').Perm (den st ids) := by
  obtain ⟨_, _, h', hs⟩ := collapse_run st ids
  rw [h'] at h; cases h
  exact hs hinv

theorem collapse_ne_fuel (st : Store) (ids : List Nat) : collapse st ids ≠ .fuel := by
  obtain ⟨_, _, h, _⟩ := collapse_run st ids
  rw [h]; exact fun e => nomatch e

/-! ## `hostlist_coalesce` -/

/-- the numbers of the ranges `insOne` inserts for `x` -/
def insOneNums (a2hi b2lo x : Nat) : List Nat := (if x > a2hi then [x] else []) ++ (if x < b2lo then [x] else [])

/-- the numbers of the ranges `insF` inserts from `x` on, in order -/
def insNums (a2hi b2lo newHi : Nat) : Nat → Nat → List Nat
  | 0, _ => []
  | f + 1, x => if x > newHi then [] else insOneNums a2hi b2lo x ++ insNums a2hi b2lo newHi f (x + 1)

/-- `1` on the interval `[lo, hi)`, `0` elsewhere: how often a number occurs in `range' lo (hi - lo)` -/
def inIvl (lo hi a : Nat) : Nat := if lo ≤ a ∧ a < hi then 1 else 0

theorem inIvl_empty {lo hi : Nat} (h : hi ≤ lo) (a : Nat) : inIvl lo hi a = 0 := if_neg (by omega)

theorem inIvl_add {lo mid hi : Nat} (h1 : lo ≤ mid) (h2 : mid ≤ hi) (a : Nat) :
    inIvl lo mid a + inIvl mid hi a = inIvl lo hi a := by
  unfold inIvl
  by_cases h : a < mid
  · rw [if_neg (show ¬ (mid ≤ a ∧ a < hi) by omega)]
    by_cases h' : lo ≤ a
    · rw [if_pos ⟨h', h⟩, if_pos ⟨h', by omega⟩]
    · rw [if_neg (fun x => h' x.1), if_neg (fun x => h' x.1)]
  · rw [if_neg (fun x => h x.2)]
    by_cases h' : a < hi
    · rw [if_pos ⟨by omega, h'⟩, if_pos ⟨by omega, h'⟩]
    · rw [if_neg (fun x => h' x.2), if_neg (fun x => h' x.2)]

theorem count_range'_inIvl (a s n : Nat) : count a (range' s n) = inIvl s (s + n) a := count_range_1' ..

/-- past `blo` every number up to `m` is inserted once as `x > blo`, and every number below `m` once more as `x < m` -/
theorem count_insNums (blo m a : Nat) : ∀ (f x : Nat), blo < x → x + f = m + 2 →
    count a (insNums blo m m f x) = inIvl x (m + 1) a + inIvl x m a
  | 0, x, _, hf => by rw [insNums, count_nil, inIvl_empty (by omega), inIvl_empty (by omega)]
  | f + 1, x, hx, hf => by
    unfold insNums
    by_cases hxm : x > m
    · rw [if_pos hxm, count_nil, inIvl_empty (by omega), inIvl_empty (by omega)]
    · have c1 : count a [x] = inIvl x (x + 1) a := count_range'_inIvl a x 1
      have e1 := inIvl_add (Nat.le_add_right x 1) (show x + 1 ≤ m + 1 by omega) a
      rw [if_neg hxm, count_append, count_insNums blo m a f (x + 1) (by omega) (by omega), insOneNums, if_pos hx,
        count_append, c1]
      by_cases hlt : x < m
      · have e2 := inIvl_add (Nat.le_add_right x 1) (show x + 1 ≤ m from hlt) a
        rw [if_pos hlt, c1]; omega
      · rw [if_neg hlt, count_nil, inIvl_empty (show m ≤ x + 1 by omega), inIvl_empty (show m ≤ x by omega)]; omega

/-- the insertion loop of `splitStep`, which starts at `blo` itself -/
theorem count_insNums_from (blo m a : Nat) (h : blo ≤ m) :
    count a (insNums blo m m (m + 2 - blo) blo) = inIvl (blo + 1) (m + 1) a + inIvl blo m a := by
  obtain ⟨k, rfl⟩ := Nat.exists_eq_add_of_le h
  rw [Nat.add_assoc, Nat.add_sub_cancel_left, insNums, if_neg (by omega), count_append,
    count_insNums blo (blo + k) a (k + 1) (blo + 1) (Nat.lt_succ_self _) (by omega), insOneNums, if_neg (Nat.lt_irrefl _),
    nil_append]
  by_cases hlt : blo < blo + k
  · have e := inIvl_add (Nat.le_add_right blo 1) (show blo + 1 ≤ blo + k from hlt) a
    rw [if_pos hlt, show count a [blo] = inIvl blo (blo + 1) a from count_range'_inIvl a blo 1]; omega
  · rw [if_neg hlt, count_nil, inIvl_empty (show blo + k ≤ blo + 1 by omega), inIvl_empty (show blo + k ≤ blo by omega),
      Nat.zero_add]

/-- after the split the numbers are those of `[alo, m]` and `[blo, X]` -/
theorem count_split (alo blo m X a : Nat) (h1 : alo ≤ blo) (h2 : blo ≤ m) (h3 : m ≤ X + 1) :
    count a (insNums blo m m (m + 2 - blo) blo ++ (range' alo (blo + 1 - alo) ++ range' m (X + 1 - m))) =
      inIvl alo (m + 1) a + inIvl blo (X + 1) a := by
  have e1 := inIvl_add (show alo ≤ blo + 1 by omega) (show blo + 1 ≤ m + 1 by omega) a
  have e2 := inIvl_add h2 h3 a
  rw [count_append, count_append, count_range'_inIvl, count_range'_inIvl, count_insNums_from blo m a h2,
    Nat.add_sub_cancel' (show alo ≤ blo + 1 by omega), Nat.add_sub_cancel' h3]
  omega

/-- … which are the numbers of `[alo, ahi]` and `[blo, bhi]`: the two ranges have at most exchanged their upper ends -/
theorem split_nums_perm (alo ahi blo bhi : Nat) (h1 : alo ≤ blo) (h2 : blo < ahi) (h3 : blo ≤ bhi) :
    (insNums blo (min bhi ahi) (min bhi ahi) (min bhi ahi + 2 - blo) blo ++
      (range' alo (blo + 1 - alo) ++
        range' (min bhi ahi) ((if min bhi ahi < ahi then ahi else bhi) + 1 - min bhi ahi))).Perm
    (range' alo (ahi + 1 - alo) ++ range' blo (bhi + 1 - blo)) := by
  rw [perm_iff_count]
  intro a
  rw [count_append (l₁ := range' alo _), count_range'_inIvl, count_range'_inIvl,
    Nat.add_sub_cancel' (show alo ≤ ahi + 1 by omega), Nat.add_sub_cancel' (show blo ≤ bhi + 1 by omega)]
  by_cases hm : bhi < ahi
  · have e3 := inIvl_add (show alo ≤ bhi + 1 by omega) (show bhi + 1 ≤ ahi + 1 by omega) a
    have e4 := inIvl_add (show blo ≤ bhi + 1 by omega) (show bhi + 1 ≤ ahi + 1 by omega) a
    rw [Nat.min_eq_left (Nat.le_of_lt hm), if_pos hm, count_split _ _ _ _ _ h1 h3 (by omega)]
    omega
  · rw [Nat.min_eq_right (Nat.le_of_not_lt hm), if_neg (Nat.lt_irrefl _),
      count_split _ _ _ _ _ h1 (Nat.le_of_lt h2) (by omega)]

/-- `hostlist_insert_range` of a fresh copy adds exactly the names of the copy, wherever it is put -/
theorem insertAt_spec {st : Store} {ids : List Nat} (j : Nat) {mk : HostRange} (hinv : Inv st ids) (hmk : mk.WFS) :
    Inv (insertAt st ids j mk).2 (insertAt st ids j mk).1 ∧
    (den (insertAt st ids j mk).2 (insertAt st ids j mk).1).Perm (mk.expand ++ den st ids) := by
  unfold insertAt
  simp only
  have hperm : (st.size :: ids).Perm (ids.take j ++ [st.size] ++ ids.drop j) := by
    have : (ids.take j ++ [st.size] ++ ids.drop j).Perm (st.size :: (ids.take j ++ ids.drop j)) := by
      simp only [append_assoc, singleton_append]; exact perm_middle
    rw [take_append_drop] at this
    exact this.symm
  have hfresh : st.size ∉ ids := fun h => Nat.lt_irrefl _ (hinv.lt _ h)
  have hinv' : Inv (st.push mk) (st.size :: ids) := by
    refine ⟨nodup_cons.mpr ⟨hfresh, hinv.nodup⟩, fun k hk => ?_, fun k hk => ?_⟩
    · rw [Store.size_push]
      rcases mem_cons.mp hk with rfl | hk
      · omega
      · have := hinv.lt k hk; omega
    · rw [Store.get_push]
      rcases mem_cons.mp hk with rfl | hk
      · simpa using hmk
      · simp only [hinv.lt k hk, if_true]; exact hinv.wfs k hk
  refine ⟨Inv_perm hperm hinv', (den_perm _ hperm.symm).trans ?_⟩
  rw [den_cons, Store.get_push]
  simp only [Nat.lt_irrefl, if_false, if_true]
  rw [den_congr (st := st) (fun k hk => by rw [Store.get_push]; simp [hinv.lt k hk])]

theorem mk_expand (pfx : Name) (w x : Nat) :
    ({ pfx := pfx, lo := x, hi := x, width := w, single := false } : HostRange).expand = [nameOf pfx w x] := by
  simp [HostRange.expand, nameOf]

theorem mk_WFS (pfx : Name) (w x : Nat) :
    ({ pfx := pfx, lo := x, hi := x, width := w, single := false } : HostRange).WFS :=
  Or.inr ⟨rfl, Nat.le_refl _⟩

theorem insOne_spec (pfx : Name) (w a2hi b2lo : Nat) {st : Store} {ids : List Nat} (x j : Nat) (hinv : Inv st ids) :
    Inv (insOne pfx w a2hi b2lo st ids x j).2.1 (insOne pfx w a2hi b2lo st ids x j).1 ∧
    (den (insOne pfx w a2hi b2lo st ids x j).2.1 (insOne pfx w a2hi b2lo st ids x j).1).Perm
      ((insOneNums a2hi b2lo x).map (nameOf pfx w) ++ den st ids) := by
  unfold insOne insOneNums
  simp only
  by_cases h1 : x > a2hi
  · obtain ⟨i1, d1⟩ := insertAt_spec j hinv (mk_WFS pfx w x)
    rw [mk_expand] at d1
    by_cases h2 : x < b2lo
    · simp only [h1, h2, if_true]
      obtain ⟨i2, d2⟩ := insertAt_spec (j + 1) i1 (mk_WFS pfx w x)
      rw [mk_expand] at d2
      exact ⟨i2, d2.trans (by simpa using d1)⟩
    · simp only [h1, h2, if_true, if_false]
      exact ⟨i1, by simpa using d1⟩
  · by_cases h2 : x < b2lo
    · simp only [h1, h2, if_true, if_false]
      obtain ⟨i2, d2⟩ := insertAt_spec j hinv (mk_WFS pfx w x)
      rw [mk_expand] at d2
      exact ⟨i2, by simpa using d2⟩
    · simp only [h1, h2, if_false]
      exact ⟨hinv, by simp⟩

theorem insF_spec (pfx : Name) (w a2hi b2lo newHi : Nat) : ∀ (f : Nat) (st : Store) (ids : List Nat) (x j : Nat),
    Inv st ids →
    Inv (insF pfx w a2hi b2lo newHi f st ids x j).2 (insF pfx w a2hi b2lo newHi f st ids x j).1 ∧
    (den (insF pfx w a2hi b2lo newHi f st ids x j).2 (insF pfx w a2hi b2lo newHi f st ids x j).1).Perm
      ((insNums a2hi b2lo newHi f x).map (nameOf pfx w) ++ den st ids)
  | 0, st, ids, x, j, hinv => by simp [insF, insNums, hinv]
  | f + 1, st, ids, x, j, hinv => by
    unfold insF insNums
    split
    · simp [hinv]
    · obtain ⟨i1, d1⟩ := insOne_spec pfx w a2hi b2lo x j hinv
      obtain ⟨i2, d2⟩ := insF_spec pfx w a2hi b2lo newHi f _ _ (x + 1) (insOne pfx w a2hi b2lo st ids x j).2.2 i1
      refine ⟨i2, d2.trans ?_⟩
      rw [map_append, append_assoc]
      exact (d1.append_left _).trans (perm_append_comm_assoc _ _ _)

/-- the `if (new) { … }` body of `hostlist_coalesce` keeps the multiset of names: the overlap `[newLo..newHi]` is
    counted twice before and after -/
theorem splitStep_spec {st : Store} {ids l1 l2 : List Nat} (i : Nat) {p q : Nat} (hinv : Inv st ids)
    (hids : ids = l1 ++ p :: q :: l2)
    (has : (st[p]!).single = false) (hbs : (st[q]!).single = false) (hpfx : (st[p]!).pfx = (st[q]!).pfx)
    (hw : (st[p]!).width = (st[q]!).width) (hlo : (st[p]!).lo ≤ (st[q]!).lo) (hov : (st[q]!).lo < (st[p]!).hi) :
    Inv (splitStep st ids i p q).2 (splitStep st ids i p q).1 ∧
    (den (splitStep st ids i p q).2 (splitStep st ids i p q).1).Perm (den st ids) := by
  obtain ⟨hpq, hp1, hp2, hq1, hq2⟩ := cells_nodup (hids ▸ hinv.nodup)
  have hp : p ∈ ids := by rw [hids]; simp
  have hq : q ∈ ids := by rw [hids]; simp
  have hbwf := (hinv.wfs q hq).le hbs
  have hps := hinv.lt p hp
  have hqs := hinv.lt q hq
  have den0 : den st ids = den st l1 ++ ((st[p]!).expand ++ ((st[q]!).expand ++ den st l2)) := by
    rw [hids, den_append, den_cons, den_cons]
  unfold splitStep
  simp only
  generalize st[p]! = a at *
  generalize st[q]! = b at *
  generalize hb1 : (if min b.hi a.hi < a.hi then ({ b with hi := a.hi } : HostRange) else b) = b1
  have hb1' : b1.pfx = b.pfx ∧ b1.width = b.width ∧ b1.single = b.single ∧ b1.lo = b.lo ∧
      b1.hi = if min b.hi a.hi < a.hi then a.hi else b.hi := by
    rw [← hb1]; split <;> simp
  obtain ⟨e1, e2, e3, _, e5⟩ := hb1'
  -- the two shrunk ranges, written to their cells
  have hget := Store.get_set2 st { a with hi := b.lo } { b1 with lo := min b.hi a.hi } hps hqs
  have inv3 : Inv ((st.set! p { a with hi := b.lo }).set! q { b1 with lo := min b.hi a.hi }) ids := by
    refine ⟨hinv.nodup, fun k hk => by simpa [Store.size_set] using hinv.lt k hk, fun k hk => ?_⟩
    rw [hget]
    split
    · exact Or.inr ⟨by simp [e3, hbs], by simp only [e5]; split <;> omega⟩
    · split
      · exact Or.inr ⟨has, hlo⟩
      · exact hinv.wfs k hk
  have hfr : ∀ (l : List Nat), p ∉ l → q ∉ l → ∀ k ∈ l,
      ((st.set! p { a with hi := b.lo }).set! q { b1 with lo := min b.hi a.hi })[k]! = st[k]! :=
    fun l h1 h2 k hk => by rw [hget, if_neg (ne_of_mem_of_not_mem hk h2), if_neg (ne_of_mem_of_not_mem hk h1)]
  obtain ⟨i4, d4⟩ := insF_spec a.pfx a.width b.lo (min b.hi a.hi) (min b.hi a.hi)
    (min b.hi a.hi + 2 - b.lo) _ _ b.lo i inv3
  refine ⟨i4, d4.trans ?_⟩
  rw [den0, hids, den_append, den_cons, den_cons, hget, hget, if_neg hpq, if_pos rfl, if_pos rfl,
    den_congr (hfr l1 hp1 hq1), den_congr (hfr l2 hp2 hq2)]
  refine (perm_append_comm_assoc _ _ _).trans (Perm.append_left _ ?_)
  rw [HostRange.expand_nonsingle a has, HostRange.expand_nonsingle b hbs,
    HostRange.expand_nonsingle { a with hi := b.lo } has,
    HostRange.expand_nonsingle { b1 with lo := min b.hi a.hi } (e3 ▸ hbs)]
  unfold numSeg
  simp only [e1, e2, e5, ← hpfx, ← hw]
  rw [← append_assoc, ← append_assoc, ← append_assoc, ← map_append, ← map_append, ← map_append]
  apply Perm.append_right
  apply Perm.map
  rw [append_assoc]
  exact split_nums_perm _ _ _ _ hlo hov hbwf

/-! ### inversions of the sequence of `hi` fields: what a split whose right range is a point removes -/

/-- number of pairs of positions `i < j` with `l[i] > l[j]` -/
def invCount : List Nat → Nat
  | [] => 0
  | a :: l => l.countP (· < a) + invCount l

theorem inv_swap (x y : Nat) (hxy : y < x) (l2 : List Nat) : ∀ (l1 : List Nat),
    invCount (l1 ++ y :: x :: l2) + 1 = invCount (l1 ++ x :: y :: l2)
  | [] => by
    simp only [nil_append, invCount, countP_cons]
    have h1 : decide (y < x) = true := by simpa using hxy
    have h2 : decide (x < y) = false := by simp; omega
    simp only [h1, h2, if_true]
    simp
    omega
  | a :: l1 => by
    have ih := inv_swap x y hxy l2 l1
    simp only [cons_append, invCount]
    have : countP (· < a) (l1 ++ y :: x :: l2) = countP (· < a) (l1 ++ x :: y :: l2) := by
      simp only [countP_append, countP_cons]; omega
    omega

/-- inversions of the sequence of `hi` fields, in list order -/
def invHi (st : Store) (ids : List Nat) : Nat := invCount (ids.map fun i => (st[i]!).hi)

theorem invHi_SEq {st st' : Store} (h : SEq st st') (ids : List Nat) : invHi st' ids = invHi st ids := by
  unfold invHi
  congr 1
  exact map_congr_left (fun k _ => (h.get k).hi)

/-! ### the insertion loop never shortens the list; the two shapes of a split -/

theorem insertAt_length (st : Store) (ids : List Nat) (j : Nat) (mk : HostRange) :
    (insertAt st ids j mk).1.length = ids.length + 1 := by
  unfold insertAt
  simp only [length_append, length_take, length_drop, length_cons, length_nil]
  omega

theorem insOne_length_ge (pfx : Name) (w a2hi b2lo : Nat) (st : Store) (ids : List Nat) (x j : Nat) :
    ids.length ≤ (insOne pfx w a2hi b2lo st ids x j).1.length := by
  unfold insOne
  simp only
  split <;> split <;> simp only [insertAt_length] <;> omega

theorem insOne_length_lt (pfx : Name) (w a2hi b2lo : Nat) (st : Store) (ids : List Nat) (x j : Nat) (h : x < b2lo) :
    ids.length < (insOne pfx w a2hi b2lo st ids x j).1.length := by
  unfold insOne
  simp only [h, if_true]
  split <;> simp only [insertAt_length] <;> omega

theorem insOne_none (pfx : Name) (w a2hi b2lo : Nat) (st : Store) (ids : List Nat) (x j : Nat)
    (h1 : ¬ x > a2hi) (h2 : ¬ x < b2lo) : insOne pfx w a2hi b2lo st ids x j = (ids, st, j) := by
  unfold insOne
  simp only [h1, h2, if_false]

theorem insF_length_ge (pfx : Name) (w a2hi b2lo newHi : Nat) : ∀ (f : Nat) (st : Store) (ids : List Nat) (x j : Nat),
    ids.length ≤ (insF pfx w a2hi b2lo newHi f st ids x j).1.length
  | 0, _, _, _, _ => by simp [insF]
  | f + 1, st, ids, x, j => by
    unfold insF
    split
    · exact Nat.le_refl _
    · exact Nat.le_trans (insOne_length_ge pfx w a2hi b2lo st ids x j) (insF_length_ge pfx w a2hi b2lo newHi f _ _ _ _)

/-- a split whose overlap `[b.lo .. min b.hi a.hi]` has more than one element adds at least one range -/
theorem splitStep_grow (st : Store) (ids : List Nat) (i p q : Nat) (h : (st[q]!).lo < min (st[q]!).hi (st[p]!).hi) :
    ids.length < (splitStep st ids i p q).1.length := by
  unfold splitStep
  simp only
  generalize st[p]! = a at *
  generalize st[q]! = b at *
  have hf : min b.hi a.hi + 2 - b.lo = (min b.hi a.hi + 1 - b.lo) + 1 := by omega
  rw [hf]
  unfold insF
  simp only [show ¬ b.lo > min b.hi a.hi by omega, if_false]
  exact Nat.lt_of_lt_of_le (insOne_length_lt _ _ _ _ _ _ _ _ h) (insF_length_ge _ _ _ _ _ _ _ _ _ _)

/-- a split whose right range is the point `[b.lo-b.lo]` adds nothing: the two ranges exchange their upper ends -/
theorem splitStep_point (st : Store) (ids : List Nat) (i p q : Nat) (hb : (st[q]!).hi = (st[q]!).lo)
    (hov : (st[q]!).lo < (st[p]!).hi) :
    splitStep st ids i p q =
      (ids, (st.set! p { st[p]! with hi := (st[q]!).lo }).set! q { st[q]! with hi := (st[p]!).hi }) := by
  unfold splitStep
  simp only
  generalize st[p]! = a at *
  generalize st[q]! = b at *
  have hm : min b.hi a.hi = b.lo := by omega
  rw [hm]
  have hf : b.lo + 2 - b.lo = 1 + 1 := by omega
  rw [hf]
  unfold insF
  simp only [show ¬ b.lo > b.lo by omega, if_false]
  rw [insOne_none _ _ _ _ _ _ _ _ (by omega) (by omega)]
  unfold insF
  simp only [show b.lo + 1 > b.lo by omega, if_true, hov]

/-! ### the point split exchanges two neighbouring `hi` values -/

theorem inv_map_swap (h h' : Nat → Nat) (l1 l2 : List Nat) (p q : Nat)
    (e1 : ∀ k ∈ l1, h' k = h k) (e2 : ∀ k ∈ l2, h' k = h k) (ep : h' p = h q) (eq : h' q = h p) (hlt : h q < h p) :
    invCount ((l1 ++ p :: q :: l2).map h') + 1 = invCount ((l1 ++ p :: q :: l2).map h) := by
  simp only [map_append, map_cons, ep, eq, map_congr_left e1, map_congr_left e2]
  exact inv_swap (h p) (h q) hlt _ _

theorem invHi_point {st : Store} {ids : List Nat} {i : Nat} (hn : ids.Nodup) (h0 : i ≠ 0) (hi : i < ids.length)
    (hps : ids[i-1]! < st.size) (hqs : ids[i]! < st.size)
    (hb : (st[ids[i]!]!).hi = (st[ids[i]!]!).lo) (hov : (st[ids[i]!]!).lo < (st[ids[i-1]!]!).hi) :
    invHi ((st.set! ids[i-1]! { st[ids[i-1]!]! with hi := (st[ids[i]!]!).lo }).set! ids[i]!
            { st[ids[i]!]! with hi := (st[ids[i-1]!]!).hi }) ids + 1 = invHi st ids := by
  obtain ⟨l1, l2, hids, -, hpq, hp1, hp2, hq1, hq2⟩ := adj_cells hn h0 hi
  generalize ids[i-1]! = p at *
  generalize ids[i]! = q at *
  subst hids
  unfold invHi
  refine inv_map_swap (fun k => (st[k]!).hi) _ l1 l2 p q (fun k hk => ?_) (fun k hk => ?_) ?_ ?_ (by omega)
  · rw [Store.get_set2 st _ _ hps hqs, if_neg (ne_of_mem_of_not_mem hk hq1), if_neg (ne_of_mem_of_not_mem hk hp1)]
  · rw [Store.get_set2 st _ _ hps hqs, if_neg (ne_of_mem_of_not_mem hk hq2), if_neg (ne_of_mem_of_not_mem hk hp2)]
  · rw [Store.get_set2 st _ _ hps hqs, if_neg hpq, if_pos rfl]; exact hb.symm
  · rw [Store.get_set2 st _ _ hps hqs, if_pos rfl]

/-! ### one iteration of the outer loop -/

/-- the three kinds of iteration: no split (`i` goes down), point split (one inversion of the `hi` sequence less,
    same list), any other split (a longer list) -/
def StepKind (st : Store) (ids : List Nat) (i : Nat) (st' : Store) (ids' : List Nat) (i' : Nat) : Prop :=
  (ids' = ids ∧ invHi st' ids = invHi st ids ∧ i' + 1 = i) ∨
  (ids' = ids ∧ invHi st' ids + 1 = invHi st ids) ∨
  ids.length < ids'.length

theorem cmpM_eq (st : Store) (i j : Nat) : cmpM st i j =
    if prefixCmp st[i]! st[j]! != 0 then (prefixCmp st[i]! st[j]!, st) else
    (if (combineM st i j).1 then (((combineM st i j).2[i]!).lo : Int) - ((combineM st i j).2[j]!).lo
      else (((combineM st i j).2[i]!).width : Int) - ((combineM st i j).2[j]!).width, (combineM st i j).2) := by
  unfold cmpM
  simp only

/-- what `assert(hostrange_cmp(h1, h2) <= 0)` guarantees when `hostrange_intersect` goes on to build a range:
    a failed width combination stays failed, a successful one compared the `lo` fields -/
theorem cmpM_le {st : Store} {p q : Nat} (hc : ¬ (cmpM st p q).1 > 0)
    (hpc : prefixCmp (cmpM st p q).2[p]! (cmpM st p q).2[q]! = 0)
    (hok : combOk (cmpM st p q).2[p]! (cmpM st p q).2[q]! = true) :
    ((cmpM st p q).2[p]!).lo ≤ ((cmpM st p q).2[q]!).lo := by
  have hseq := cmpM_SEq st p q
  have h0 : prefixCmp st[p]! st[q]! = 0 := by rw [← prefixCmp_congr (hseq.get p) (hseq.get q)]; exact hpc
  rw [cmpM_eq] at hc hok ⊢
  simp only [h0, bne_self_eq_false, Bool.false_eq_true, if_false] at hc hok ⊢
  cases hcm : (combineM st p q).1
  · rw [combineM_false st p q hcm, combineM_false st p q hcm, ← combineM_fst, hcm] at hok
    cases hok
  · simp only [hcm, if_true] at hc
    omega

theorem coalesceTail_ne {st : Store} {ids : List Nat} {i p q : Nat} :
    coalesceTail st ids i p q ≠ .abort ∧ ∀ s l, coalesceTail st ids i p q ≠ .done s l := by
  unfold coalesceTail
  split
  · simp
  · split <;> simp

theorem coalesceStep_done {st : Store} {ids : List Nat} {i : Nat} {st' : Store} {ids' : List Nat}
    (h : coalesceStep st ids i = .done st' ids') : st' = st ∧ ids' = ids := by
  unfold coalesceStep at h
  split at h
  · cases h; exact ⟨rfl, rfl⟩
  · split at h
    · cases h
    · split at h
      · cases h
      · exact absurd h (coalesceTail_ne.2 _ _)

/-- one iteration that goes on: invariant, names, scan position, and which of the three kinds it was -/
theorem coalesceTail_step {st : Store} {ids : List Nat} {i : Nat} {st' : Store} {ids' : List Nat} {i' : Nat}
    {p q : Nat} (hinv : Inv st ids) (h0 : i ≠ 0) (hi : i < ids.length) (hpe : ids[i-1]! = p) (hqe : ids[i]! = q)
    (has : (st[p]!).single = false) (hbs : (st[q]!).single = false)
    (hord : prefixCmp st[p]! st[q]! = 0 → combOk st[p]! st[q]! = true → (st[p]!).lo ≤ (st[q]!).lo)
    (h : coalesceTail st ids i p q = .cont st' ids' i') :
    Inv st' ids' ∧ (den st' ids').Perm (den st ids) ∧ (i' = 0 ∨ i' < ids'.length) ∧ StepKind st ids i st' ids' i' := by
  obtain ⟨l1, l2, hids, -, hpq, -⟩ := adj_cells hinv.nodup h0 hi
  rw [hpe, hqe] at hids hpq
  have hp : p ∈ ids := by rw [hids]; simp
  have hq : q ∈ ids := by rw [hids]; simp
  unfold coalesceTail at h
  split at h
  · simp only [StepRes.cont.injEq] at h
    obtain ⟨rfl, rfl, rfl⟩ := h
    exact ⟨hinv, Perm.refl _, Or.inr (by omega), Or.inl ⟨rfl, rfl, by omega⟩⟩
  · rename_i hc
    have hseq := combineM_SEq st p q
    split at h
    · simp only [StepRes.cont.injEq] at h
      obtain ⟨rfl, rfl, rfl⟩ := h
      exact ⟨Inv_SEq hseq hinv, by rw [den_SEq hseq], Or.inr (by omega), Or.inl ⟨rfl, invHi_SEq hseq ids, by omega⟩⟩
    · rename_i hok
      have hok : (combineM st p q).1 = true := by simpa using hok
      have hc : prefixCmp st[p]! st[q]! = 0 ∧ (st[q]!).lo < (st[p]!).hi := by simpa using hc
      obtain ⟨hpc, hov⟩ := hc
      simp only [StepRes.cont.injEq] at h
      obtain ⟨rfl, rfl, rfl⟩ := h
      have hw := combineM_true st _ _ hok hpq (hinv.lt _ hp) (hinv.lt _ hq)
      have hle := hord hpc (by rw [← combineM_fst]; exact hok)
      obtain ⟨hpfx, _⟩ := prefixCmp_zero hpc
      have ea := hseq.get p
      have eb := hseq.get q
      have hinv2 := Inv_SEq hseq hinv
      have hi2 := invHi_SEq hseq ids
      have hd2 := den_SEq hseq ids
      generalize (combineM st p q).2 = st2 at *
      have hov2 : (st2[q]!).lo < (st2[p]!).hi := by rw [eb.lo, ea.hi]; exact hov
      obtain ⟨h1, h2⟩ := splitStep_spec i hinv2 hids (by rw [ea.single]; exact has) (by rw [eb.single]; exact hbs)
        (by rw [ea.pfx, eb.pfx]; exact hpfx) hw (by rw [ea.lo, eb.lo]; exact hle) hov2
      refine ⟨h1, by rw [← hd2]; exact h2, by omega, ?_⟩
      -- more than one host in the overlap: ranges are added; else the point split
      by_cases hg : (st2[q]!).lo < min (st2[q]!).hi (st2[p]!).hi
      · exact Or.inr (Or.inr (splitStep_grow st2 ids i _ _ hg))
      · have hb : (st2[q]!).hi = (st2[q]!).lo := by
          have := (hinv2.wfs _ hq).le (by rw [eb.single]; exact hbs); omega
        rw [splitStep_point st2 ids i _ _ hb hov2]
        refine Or.inr (Or.inl ⟨rfl, ?_⟩)
        rw [← hi2]
        subst hpe hqe
        exact invHi_point hinv2.nodup h0 hi (hinv2.lt _ hp) (hinv2.lt _ hq) hb hov2

theorem coalesceStep_step {st : Store} {ids : List Nat} {i : Nat} {st' : Store} {ids' : List Nat} {i' : Nat}
    (hinv : Inv st ids) (hi : i = 0 ∨ i < ids.length) (h : coalesceStep st ids i = .cont st' ids' i') :
    Inv st' ids' ∧ (den st' ids').Perm (den st ids) ∧ (i' = 0 ∨ i' < ids'.length) ∧ StepKind st ids i st' ids' i' := by
  unfold coalesceStep at h
  split at h
  · cases h
  · rename_i h0
    have h0 : i ≠ 0 := by simpa using h0
    have hi : i < ids.length := by omega
    split at h
    · simp only [StepRes.cont.injEq] at h
      obtain ⟨rfl, rfl, rfl⟩ := h
      exact ⟨hinv, Perm.refl _, Or.inr (by omega), Or.inl ⟨rfl, rfl, by omega⟩⟩
    · rename_i hsing
      simp only [Bool.or_eq_true, not_or, Bool.not_eq_true] at hsing
      split at h
      · cases h
      · rename_i hc
        have hseq := cmpM_SEq st ids[i-1]! ids[i]!
        obtain ⟨h1, h2, h3, h4⟩ := coalesceTail_step (Inv_SEq hseq hinv) h0 hi rfl rfl
          (by rw [(hseq.get _).single]; exact hsing.1) (by rw [(hseq.get _).single]; exact hsing.2)
          (fun hpc hok => cmpM_le hc hpc hok) h
        refine ⟨h1, by rw [← den_SEq hseq]; exact h2, h3, ?_⟩
        unfold StepKind at h4 ⊢
        rwa [invHi_SEq hseq ids] at h4

theorem coalesceLoopF_spec : ∀ (f : Nat) (st : Store) (ids : List Nat) (i : Nat) (st' : Store) (ids' : List Nat),
    Inv st ids → (i = 0 ∨ i < ids.length) → coalesceLoopF f st ids i = .ok (ids', st') →
    Inv st' ids' ∧ (den st' ids').Perm (den st ids)
  | 0, _, _, _, _, _, _, _, h => by simp [coalesceLoopF] at h
  | f + 1, st, ids, i, st', ids', hinv, hi, h => by
    unfold coalesceLoopF at h
    split at h
    · rename_i st1 ids1 hs
      obtain ⟨rfl, rfl⟩ := coalesceStep_done hs
      simp only [RF.ok.injEq, Prod.mk.injEq] at h
      obtain ⟨rfl, rfl⟩ := h
      exact ⟨hinv, Perm.refl _⟩
    · cases h
    · rename_i st1 ids1 i1 hs
      obtain ⟨h1, h2, h3, _⟩ := coalesceStep_step hinv hi hs
      obtain ⟨h4, h5⟩ := coalesceLoopF_spec f _ _ _ _ _ h1 h3 h
      exact ⟨h4, h5.trans h2⟩

theorem coalesce_spec {st : Store} {ids : List Nat} {st' : Store} {ids' : List Nat}
    (hinv : Inv st ids) (h : coalesce st ids = .ok (ids', st')) :
    Inv st' ids' ∧ (den st' ids').Perm (den st ids) := by
  unfold coalesce at h
  exact coalesceLoopF_spec _ _ _ _ _ _ hinv (by omega) h

/-! ## `hostlist_sort` -/

theorem map_range_getElem! (l : List HostRange) : (range l.length).map (fun i => l.toArray[i]!) = l := by
  apply ext_getElem
  · simp
  · intro i h1 h2
    simp only [length_map, length_range] at h1
    simp [h1]

theorem den_init (hl : Hostlist) : den hl.toArray (range hl.length) = expand hl := by
  unfold den expand
  conv => rhs; rw [← map_range_getElem! hl]
  rw [flatMap_map]

theorem Inv_init (hl : Hostlist) (hwf : HWFS hl) : Inv hl.toArray (range hl.length) := by
  refine ⟨nodup_range, fun i hi => by simpa using hi, fun i hi => ?_⟩
  have hi : i < hl.length := by simpa using hi
  apply hwf
  have : hl.toArray[i]! = hl[i] := by simp [hi]
  rw [this]
  exact getElem_mem _

theorem finish_spec {st : Store} {ids : List Nat} (hinv : Inv st ids) :
    expand (ids.map fun i => st[i]!) = den st ids ∧ HWFS (ids.map fun i => st[i]!) := by
  constructor
  · unfold expand den
    rw [flatMap_map]
  · intro t ht
    obtain ⟨i, hi, rfl⟩ := mem_map.mp ht
    exact hinv.wfs i hi

/-- `hostlist_collapse` always returns, so what comes of `hostlist_sort` after `hostlist_coalesce` is decided there -/
theorem afterCoalesceF_cases (r : RF (List Nat × Store)) :
    (∃ ids st ids' st', r = .ok (ids, st) ∧ collapse st ids = .ok (ids', st') ∧
        afterCoalesceF r = .ok (ids'.map fun i => st'[i]!)) ∨
    (r = .abort ∧ afterCoalesceF r = .abort) ∨ (r = .fuel ∧ afterCoalesceF r = .fuel) := by
  rcases r with ⟨ids, st⟩ | _ | _
  · obtain ⟨ids', st', h, _⟩ := collapse_run st ids
    exact Or.inl ⟨ids, st, ids', st', rfl, h, by simp only [afterCoalesceF, h, finishF]⟩
  · exact Or.inr (Or.inl ⟨rfl, rfl⟩)
  · exact Or.inr (Or.inr ⟨rfl, rfl⟩)

/-- the merge sort always returns within the depth `sortHL` gives it, with some permutation of the ids -/
theorem sortHL_stages (hl : Hostlist) (h : ¬ hl.length ≤ 1) :
    ∃ ids st, msort (hl.length + 1) hl.toArray (List.range hl.length) = .ok (ids, st) ∧
      ids.Perm (List.range hl.length) ∧ SEq hl.toArray st ∧ sortHL hl = afterCoalesceF (coalesce st ids) := by
  rcases msort_run (hl.length + 1) hl.toArray (List.range hl.length) with ⟨_, hf⟩ | ⟨ids, st, hm, hp, hs⟩
  · rw [List.length_range] at hf; omega
  · exact ⟨ids, st, hm, hp, hs, by unfold sortHL; rw [if_neg h, hm]; rfl⟩

/-- `hostlist_sort` (merge sort by `hostrange_cmp`, `hostlist_coalesce`, `hostlist_collapse`) never adds, drops or
    renames a node, and keeps the list well formed -/
theorem sortHL_spec (hl hl' : Hostlist) (hwf : HWFS hl) (h : sortHL hl = .ok hl') :
    (expand hl').Perm (expand hl) ∧ HWFS hl' := by
  by_cases hlen : hl.length ≤ 1
  · unfold sortHL at h; rw [if_pos hlen] at h; cases h
    exact ⟨Perm.refl _, hwf⟩
  · obtain ⟨ids1, st1, _, p1, s1, e⟩ := sortHL_stages hl hlen
    have inv1 : Inv st1 ids1 := Inv_perm p1.symm (Inv_SEq s1 (Inv_init hl hwf))
    have d1 : (den st1 ids1).Perm (expand hl) := by
      rw [← den_init hl, ← den_SEq s1]; exact den_perm _ p1
    rw [e] at h
    rcases afterCoalesceF_cases (coalesce st1 ids1) with ⟨ids2, st2, ids3, st3, hco, hcl, e2⟩ | ⟨_, e2⟩ | ⟨_, e2⟩ <;>
      rw [e2] at h <;> cases h
    obtain ⟨inv2, d2⟩ := coalesce_spec inv1 hco
    obtain ⟨inv3, d3⟩ := collapse_spec inv2 hcl
    obtain ⟨e3, w⟩ := finish_spec inv3
    exact ⟨e3 ▸ (d3.trans d2).trans d1, w⟩

/-- when `hostlist_sort` does not return, that was decided in `hostlist_coalesce`: the merge sort and
    `hostlist_collapse` neither assert nor exceed their bounds -/
theorem sortHL_died_in_coalesce (hl : Hostlist) : (∃ r, sortHL hl = .ok r) ∨
    ∃ ids st, msort (hl.length + 1) hl.toArray (List.range hl.length) = .ok (ids, st) ∧
      ((coalesce st ids = .abort ∧ sortHL hl = .abort) ∨ (coalesce st ids = .fuel ∧ sortHL hl = .fuel)) := by
  by_cases hlen : hl.length ≤ 1
  · exact Or.inl ⟨hl, by unfold sortHL; rw [if_pos hlen]⟩
  · obtain ⟨ids, st, hm, _, _, e⟩ := sortHL_stages hl hlen
    rcases afterCoalesceF_cases (coalesce st ids) with ⟨_, _, _, _, _, _, e2⟩ | h | h
    · exact Or.inl ⟨_, e.trans e2⟩
    · exact Or.inr ⟨ids, st, hm, Or.inl (e ▸ h)⟩
    · exact Or.inr ⟨ids, st, hm, Or.inr (e ▸ h)⟩

theorem sortHL_perm (hl hl' : Hostlist) (hwf : HWFS hl) (h : sortHL hl = .ok hl') : (expand hl').Perm (expand hl) :=
  (sortHL_spec hl hl' hwf h).1

theorem sortHL_wfs (hl hl' : Hostlist) (hwf : HWFS hl) (h : sortHL hl = .ok hl') : HWFS hl' :=
  (sortHL_spec hl hl' hwf h).2

/-! ## the hypotheses are satisfiable, and `HWFS` cannot be weakened to `HWF` -/

/-- premises of `sortHL_perm` on a non-trivial list (`b2,a[1-3],a[2-5],b1`): two prefixes, an overlap that is split,
    two singletons that are collapsed -/
example :
    HWFS [⟨['b'], 2, 2, 1, false⟩, ⟨['a'], 1, 3, 1, false⟩, ⟨['a'], 2, 5, 1, false⟩, ⟨['b'], 1, 1, 1, false⟩] ∧
    sortHL [⟨['b'], 2, 2, 1, false⟩, ⟨['a'], 1, 3, 1, false⟩, ⟨['a'], 2, 5, 1, false⟩, ⟨['b'], 1, 1, 1, false⟩] =
      .ok [⟨['a'], 1, 2, 1, false⟩, ⟨['a'], 2, 3, 1, false⟩, ⟨['a'], 3, 5, 1, false⟩, ⟨['b'], 1, 2, 1, false⟩] :=
  ⟨by unfold HWFS; decide, sortHL_b2⟩

/-- with single names whose unused `lo`/`hi` fields are not zero (allowed by `HWF`, never built by the library, excluded
    by `HWFS`) `hostlist_collapse` would merge two copies of the same name into one: the duplicate is lost -/
theorem sortHL_HWF_counterexample :
    HWF [⟨['x'], 0, 0, 0, true⟩, ⟨['x'], 1, 1, 0, true⟩] ∧
    sortHL [⟨['x'], 0, 0, 0, true⟩, ⟨['x'], 1, 1, 0, true⟩] = .ok [⟨['x'], 0, 1, 0, true⟩] ∧
    expand [⟨['x'], 0, 0, 0, true⟩, ⟨['x'], 1, 1, 0, true⟩] = [['x'], ['x']] ∧
    expand [⟨['x'], 0, 1, 0, true⟩] = [['x']] := by
  unfold HWF; decide +kernel

/-! ## when `hostlist_sort` does not return (that the bound of `hostlist_coalesce` is never exceeded either is proved in
    `Pm/SortFuel.lean`: `coalesce_ne_fuel`, `sortHL_ne_fuel`) -/

/-- `hostlist_sort` reports `.fuel` only if the outer loop of `hostlist_coalesce` exceeds its computed bound
    `coalesceFuel` — the merge sort and `hostlist_collapse` provably never do -/
theorem sortHL_fuel_only_coalesce (hl : Hostlist) (h : sortHL hl = .fuel) :
    ∃ ids st, msort (hl.length + 1) hl.toArray (List.range hl.length) = .ok (ids, st) ∧ coalesce st ids = .fuel := by
  rcases sortHL_died_in_coalesce hl with ⟨_, e⟩ | ⟨ids, st, hm, ⟨_, e⟩ | ⟨hco, _⟩⟩
  · rw [e] at h; cases h
  · rw [e] at h; cases h
  · exact ⟨ids, st, hm, hco⟩

/-- … and aborts only in the assert of `hostrange_intersect` reached from `hostlist_coalesce` -/
theorem sortHL_abort_only_coalesce (hl : Hostlist) (h : sortHL hl = .abort) :
    ∃ ids st, msort (hl.length + 1) hl.toArray (List.range hl.length) = .ok (ids, st) ∧ coalesce st ids = .abort := by
  rcases sortHL_died_in_coalesce hl with ⟨_, e⟩ | ⟨ids, st, hm, ⟨hco, _⟩ | ⟨_, e⟩⟩
  · rw [e] at h; cases h
  · exact ⟨ids, st, hm, hco⟩
  · rw [e] at h; cases h

end Pm
