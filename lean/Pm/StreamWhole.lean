import Pm.StreamRun
import Pm.StreamDev
import Pm.Dev2Ledger
import Pm.RunX
/-! For C15 over whole runs: the callbacks of the device phase, a whole pass, any number of passes. -/
namespace Pm.Daemon.StreamPf
open Pm Pm.Client Pm.Daemon Pm.Daemon.ClientPf Pm.Daemon.Isolation
open Pm.Dev2 (Dev ActErr fcount qcount Fwd isStray)

/-! ### the final reply is clean when the target names are -/

theorem stateName_clean (st : Nat) : cleanText (bstr (stateName st)) = true := by
  unfold stateName
  split
  · exact cleanText_lit (by decide +kernel)
  · split <;> exact cleanText_lit (by decide +kernel)

theorem finalInfos_clean (ex : Bool) (k : CmdC) (infos : List Item) (h : finalInfos ex k = some infos)
    (hn : ∀ n ∈ k.names, cleanName n = true) : ∀ i ∈ infos, i.clean = true := by
  -- every info line is a literal and names of the command's own targets: one name, or a ranged list of them, and ranging keeps
  -- names free of CR/LF (`hsr`)
  have hent : ∀ a ∈ entriesOf k, cleanName a.node = true := fun a ha => hn _ (Reply.entriesOf_sub ha).2
  have hsr : ∀ (p : ArgC → Bool) (r : Bytes), sortedRanged (((entriesOf k).filter p).map (·.node)) = some r → cleanText r = true := by
    intro p r hr
    apply sortedRanged_clean _ _ r hr
    intro n hn'
    simp only [List.mem_map, List.mem_filter] at hn'
    obtain ⟨a, ⟨ha, _⟩, rfl⟩ := hn'
    exact hent a ha
  cases hcom : k.com
  case temp =>
    exact finalInfos_temp_clean ex k infos hcom h (fun a ha => by rw [cleanText_ofChars]; exact hent a ha) (fun r hr => hsr _ r hr)
  case status | beacon =>
    unfold finalInfos at h
    simp only [hcom] at h
    split at h
    · cases h
      intro i hi
      simp only [List.mem_map] at hi
      obtain ⟨a, ha, rfl⟩ := hi
      simp only [Item.clean, cleanText_append, cleanText_ofChars, hent a ha, bstr_colon_clean, stateName_clean, Bool.and_self]
    · simp only [Option.bind_eq_bind, Option.pure_def, Option.bind_eq_some_iff] at h
      obtain ⟨unk, hu, on, ho, off, hf, h⟩ := h
      cases h
      have c1 : cleanText (bstr "on:      ") = true := cleanText_lit (by decide +kernel)
      have c2 : cleanText (bstr "off:     ") = true := cleanText_lit (by decide +kernel)
      have c3 : cleanText (bstr "unknown: ") = true := cleanText_lit (by decide +kernel)
      intro i hi
      simp only [List.mem_cons, List.not_mem_nil, or_false] at hi
      rcases hi with rfl | rfl | rfl
      · simp only [Item.clean, cleanText_append, c1, hsr _ _ ho, Bool.and_self]
      · simp only [Item.clean, cleanText_append, c2, hsr _ _ hf, Bool.and_self]
      · simp only [Item.clean, cleanText_append, c3, hsr _ _ hu, Bool.and_self]
  all_goals
    unfold finalInfos at h
    simp only [hcom] at h
    cases h
    intro i hi; cases hi

theorem finishText_clean (err : ActErr) (name : Bytes) (h : cleanText name = true) : cleanText (finishText err name) = true := by
  unfold finishText
  cases err
  case success => rfl
  all_goals
    dsimp only
    rw [cleanText_append, h, Bool.true_and]
    exact cleanText_lit (by decide +kernel)

theorem finishPre_clean (err : ActErr) (name : Bytes) (h : cleanText name = true) : ∀ i ∈ finishPre err name, i.clean = true := by
  unfold finishPre
  split
  · intro i hi; simp only [List.mem_singleton] at hi; subst hi; exact finishText_clean err name h
  · intro i hi; cases hi

/-! ### callbacks as extensions of the clients' streams -/

/-- `w'` is `w` with every client's record extended by an `Ext` step (descriptor, id, flags kept); `n cid` bounds the number
    of completions by which `pending` of client `cid` went down -/
def CliExt (cl : Prop) (n : Nat → Nat) (w w' : W) : Prop :=
  { w' with clients := w.clients } = w ∧
  ∃ G : Cli → Cli, w'.clients = w.clients.map G ∧
    ∀ x ∈ w.clients, ∃ items, Appends x (G x) items ∧ Ext cl x (G x) items ∧ pend x ≤ pend (G x) + n x.id

theorem CliExt.refl (cl : Prop) (n : Nat → Nat) (w : W) : CliExt cl n w w :=
  ⟨rfl, id, by simp, fun x _ => ⟨[], .refl x, Ext.refl cl x, Nat.le_add_right _ _⟩⟩

theorem CliExt.trans {cl : Prop} {n1 n2 : Nat → Nat} {a b c : W} (h1 : CliExt cl n1 a b) (h2 : CliExt cl n2 b c) :
    CliExt cl (fun cid => n1 cid + n2 cid) a c := by
  obtain ⟨e1, G1, hg1, hG1⟩ := h1
  obtain ⟨e2, G2, hg2, hG2⟩ := h2
  refine ⟨by rw [← e1, ← e2], G2 ∘ G1, by rw [hg2, hg1, List.map_map], fun x hx => ?_⟩
  obtain ⟨i1, a1, c1, p1⟩ := hG1 x hx
  obtain ⟨i2, a2, c2, p2⟩ := hG2 (G1 x) (by rw [hg1]; exact List.mem_map_of_mem hx)
  refine ⟨i1 ++ i2, a1.trans a2, c1.trans c2, ?_⟩
  rw [a1.id] at p2
  show pend x ≤ pend (G2 (G1 x)) + (n1 x.id + n2 x.id)
  omega

theorem CliExt.unique {cl : Prop} {n : Nat → Nat} {w w' : W} (h : CliExt cl n w w') (hu : UniqueIds w.clients) : UniqueIds w'.clients := by
  obtain ⟨_, G, hg, hG⟩ := h
  rw [hg]
  intro x hx y hy hxy
  simp only [List.mem_map] at hx hy
  obtain ⟨x0, hx0, rfl⟩ := hx
  obtain ⟨y0, hy0, rfl⟩ := hy
  obtain ⟨_, ax, _⟩ := hG x0 hx0
  obtain ⟨_, ay, _⟩ := hG y0 hy0
  rw [hu x0 hx0 y0 hy0 (by rw [← ax.id, ← ay.id]; exact hxy)]

theorem updCli_ext (cl : Prop) (n : Nat → Nat) (w : W) (id : Nat) (f : Cli → Cli) (items : List Item)
    (hf : ∀ x ∈ w.clients, x.id = id → Appends x (f x) items ∧ Ext cl x (f x) items ∧ pend x ≤ pend (f x) + n id) :
    CliExt cl n w (updCli w id f) := by
  refine ⟨rfl, fun x => if x.id == id then f x else x, rfl, fun x hx => ?_⟩
  dsimp only
  split
  · rename_i h
    have hid : x.id = id := by simpa using h
    obtain ⟨a, b, c⟩ := hf x hx hid
    exact ⟨items, a, b, by rw [hid]; exact c⟩
  · exact ⟨[], .refl x, Ext.refl cl x, Nat.le_add_right _ _⟩

/-- a `308` line of `_act_finish` while more actions are outstanding: the command stays -/
theorem Ext.busy (cl : Prop) (x y : Cli) (items : List Item) (hp : Progress items) (hq : y.quit = x.quit)
    (hcmd : y.cmd.isSome = true) (hnames : ∀ k, y.cmd = some k → ∃ k0, x.cmd = some k0 ∧ k.names = k0.names)
    (hclean : cl → ∀ i ∈ items, LineOK i) : Ext cl x y items where
  lax := fun s hs => srun_progress s hs items hp
  strict := fun _ => trun_progress items hp
  quit := fun h => by rw [hq]; exact h
  prompted := by intro items0 _ hc; rw [hc] at hcmd; cases hcmd
  clean := by
    intro hcl hcc
    refine ⟨hclean hcl, ?_⟩
    intro k hk n hn
    obtain ⟨k0, hk0, e⟩ := hnames k hk
    exact hcc k0 hk0 n (e ▸ hn)

/-- the final reply: `308? (302|303)* terminal prompt`, the command is gone -/
theorem Ext.final (cl : Prop) (x y : Cli) (items : List Item) (hf : FinalReply items) (hq : y.quit = x.quit) (hcmd : y.cmd = none)
    (hclean : cl → CmdClean x → ∀ i ∈ items, i.clean = true) : Ext cl x y items where
  lax := fun s hs => ⟨.noPrompt, srun_final s hs items hf, rfl⟩
  strict := fun _ => trun_final items hf
  quit := fun h => by rw [hq]; exact h
  prompted := by
    intro items0 _
    obtain ⟨pre, infos, code, text, rfl, _⟩ := hf
    exact AtPrompt.of_last items0 _ (by simp)
  clean := fun hcl hcc => ⟨fun i hi => LineOK.of_clean (hclean hcl hcc i hi), fun k hk => by rw [hcmd] at hk; cases hk⟩

theorem fcount_one (id cid : Nat) (e : ActErr) : fcount cid [Pm.Dev2.Out.finish id e] = if id = cid then 1 else 0 := by
  by_cases h : id = cid <;> simp [fcount, h]

/-- **`_act_finish`** as an extension of the clients' streams (ids being pairwise distinct, the callback reaches one record) -/
theorem actFinish_ext (cl : Prop) (w : W) (id : Nat) (err : ActErr) (name : Bytes) (hu : UniqueIds w.clients)
    (hname : cl → cleanText name = true) :
    CliExt cl (fun cid => fcount cid [Pm.Dev2.Out.finish id err]) w (actFinish w id err name).1 := by
  rw [actFinish_eq]
  cases hf : List.find? (fun x => x.id == id) w.clients with
  | none => exact .refl cl _ w
  | some c =>
    have hid : c.id = id := by have := List.find?_some hf; simpa using this
    have hc : c ∈ w.clients := List.mem_of_find?_eq_some hf
    have hn1 : fcount c.id [Pm.Dev2.Out.finish id err] = 1 := by rw [fcount_one, if_pos hid.symm]
    dsimp only
    cases hk : c.cmd with
    | none => exact .refl cl _ w
    | some k =>
      dsimp only
      split
      · rename_i hp1
        have hp1 : k.pending = 1 := by simpa using hp1
        cases hi : finalInfos c.exprange (finishCmd w k err) with
        | none => exact .refl cl _ w
        | some infos =>
          dsimp only
          obtain ⟨code, text, ht, hcode, hclean⟩ := finalTerm_spec (finishCmd w k err)
          apply updCli_ext cl _ w c.id _ (finishPre err name ++ infos ++ [finalTerm (finishCmd w k err), Item.prompt])
          intro x hx hxid
          have hxc : x = c := hu x hx c hc hxid
          subst hxc
          refine ⟨put_appends x _ _, Ext.final cl x _ _ ?_ rfl rfl ?_, ?_⟩
          · exact ⟨finishPre err name, infos, code, text, by rw [← ht], finishPre_308 err name, finalInfos_info _ _ _ hi, hcode, hclean⟩
          · intro hcl hcc i hi'
            simp only [List.mem_append, List.mem_cons, List.not_mem_nil, or_false] at hi'
            rcases hi' with (hi' | hi') | rfl | rfl
            · exact finishPre_clean err name (hname hcl) i hi'
            · exact finalInfos_clean _ _ infos hi (hcc k hk) i hi'
            · rw [ht]; exact hclean
            · rfl
          · rw [hn1]; simp [pend, hk, hp1, put]
      · apply updCli_ext cl _ w c.id _ (finishPre err name)
        intro x hx hxid
        have hxc : x = c := hu x hx c hc hxid
        subst hxc
        refine ⟨put_appends x _ _, Ext.busy cl x _ _ ?_ rfl rfl ?_ ?_, ?_⟩
        · exact fun i hi => lineIn_mono (by decide) i (finishPre_308 err name i hi)
        · intro k' hk'
          simp only [put, Option.some.injEq] at hk'
          exact ⟨k, hk, by rw [← hk']⟩
        · exact fun hcl i hi => LineOK.of_clean (finishPre_clean err name (hname hcl) i hi)
        · rw [hn1]; simp only [pend, hk, put]; omega

/-- a telemetry or diagnostic line for a client whose command is in progress -/
theorem stray_ext (cl : Prop) (x : Cli) (i : Item) (hi : i.lineIn strayCodes = true) (hcmd : x.cmd.isSome = true)
    (hclean : cl → LineOK i) : Ext cl x (put x (render [i])) [i] :=
  Ext.busy cl x _ [i] (by intro j hj; simp only [List.mem_singleton] at hj; subst hj; exact lineIn_mono (by decide) _ hi) rfl hcmd
    (fun k hk => ⟨k, hk, rfl⟩) (fun hcl j hj => by simp only [List.mem_singleton] at hj; subst hj; exact hclean hcl)

/-- one callback.  `hs`: a telemetry / diagnostic callback is addressed to clients whose command is in progress (the
    ledger provides this) -/
theorem applyOut_ext (cl : Prop) (name : Bytes) (acc : W × List String) (o : Pm.Dev2.Out) (hu : UniqueIds acc.1.clients)
    (hname : cl → cleanText name = true) (ho : cl → OutClean o)
    (hs : ∀ cid, isStray cid o = true → ∀ x ∈ acc.1.clients, x.id = cid → x.cmd.isSome = true) :
    CliExt cl (fun cid => fcount cid [o]) acc.1 (applyOut name acc o).1 := by
  cases o with
  | finish cid e => obtain ⟨w, msgs⟩ := acc; exact actFinish_ext cl w cid e name hu hname
  | telemetry cid t =>
    rw [applyOut_telemetry]
    apply updCli_ext cl _ acc.1 cid _ [Item.line 305 (teleText name t)]
    intro x hx hxid
    exact ⟨put_appends x x.cmd _, stray_ext cl x _ rfl (hs cid (by simp [isStray]) x hx hxid)
      (fun hcl => LineOK.tele (fun hrep => hrep name t (hname hcl) (ho hcl))), Nat.le_add_right _ _⟩
  | diag cid t =>
    rw [applyOut_diag]
    apply updCli_ext cl _ acc.1 cid _ [Item.line 309 t]
    intro x hx hxid
    exact ⟨put_appends x x.cmd _, stray_ext cl x _ rfl (hs cid (by simp [isStray]) x hx hxid)
      (fun hcl => LineOK.of_clean (ho hcl)), Nat.le_add_right _ _⟩
  | _ => obtain ⟨w, msgs⟩ := acc; exact .refl cl _ _

theorem pend_pos_isSome (x : Cli) (h : 0 < pend x) : x.cmd.isSome = true := by
  unfold pend at h
  cases hc : x.cmd with
  | none => rw [hc] at h; cases h
  | some k => rfl

/-- **the callbacks of one device's share of a pass** extend every client's stream grammatically (and cleanly).  `q cid`:
    a number of completions for `cid` that `pending` covers and before which every text callback for `cid` comes (`Fwd`) -/
theorem applyOuts_ext (cl : Prop) (w : W) (name : Bytes) (outs : List Pm.Dev2.Out) (hu : UniqueIds w.clients)
    (hname : cl → cleanText name = true) (houts : cl → OutsClean outs)
    (q : Nat → Nat) (hq : ∀ x ∈ w.clients, q x.id ≤ pend x) (hfwd : ∀ x ∈ w.clients, Fwd x.id (q x.id) outs) :
    CliExt cl (fun cid => fcount cid outs) w (applyOuts w name outs).1 := by
  refine applyOuts_keeps_pre (fun pre w' => CliExt cl (fun cid => fcount cid pre) w w') name outs ?_ w (.refl cl _ w)
  intro pre acc o post he hP
  have h1 := applyOut_ext cl name acc o (hP.unique hu) hname (fun hcl => houts hcl o (by rw [he]; simp)) (by
    -- the record is the image of one of `w`; its `pending` went down by at most the completions delivered so far, fewer than `q`
    obtain ⟨_, G, hG, hGx⟩ := hP
    intro cid hst y hy hyid
    rw [hG] at hy
    obtain ⟨x, hx, rfl⟩ := List.mem_map.mp hy
    obtain ⟨_, a, _, p⟩ := hGx x hx
    have p : pend x ≤ pend (G x) + fcount x.id pre := p
    have := hfwd x hx pre o post he (by rw [← a.id, hyid]; exact hst)
    have := hq x hx
    exact pend_pos_isSome _ (by omega))
  have e : (fun cid => fcount cid pre + fcount cid [o]) = fun cid => fcount cid (pre ++ [o]) := by
    funext cid; rw [Pm.Dev2.fcount_append]
  exact e ▸ hP.trans h1

/-- the invariant survives a step that extends the clients' records and otherwise leaves log, descriptor counter and
    (up to `Good`) the static data alone -/
theorem RunInv.step {cl : Prop} {H : Hist} {w w' : W} (h : RunInv cl H w) (hids : IdsFresh w') (G : Cli → Cli)
    (hcl : w'.clients = w.clients.map G) (hG : ∀ x ∈ w.clients, ∃ items, Appends x (G x) items ∧ Ext cl x (G x) items)
    (hs : w'.sys = w.sys) (hn : w'.nacc = w.nacc) (hg : cl → Good w → Good w')
    (hl : ∀ y ∈ w'.clients, queued w'.devs y.id ≤ pend y) : RunInv cl H w' := by
  have hfd : w'.clients.map (·.fd) = w.clients.map (·.fd) := by
    rw [hcl, List.map_map]
    apply List.map_congr_left
    intro x hx
    obtain ⟨_, a, _⟩ := hG x hx
    exact a.fd
  refine ⟨hids, by rw [hfd]; exact h.fds, ?_, ?_, fun c => hg c (h.good c), ?_, ?_, hl⟩
  · intro y hy
    rw [hcl] at hy
    simp only [List.mem_map] at hy
    obtain ⟨x, hx, rfl⟩ := hy
    obtain ⟨_, a, _⟩ := hG x hx
    rw [a.fd, hn]; exact h.fdFresh x hx
  · intro fd hfd'
    rw [hn] at hfd'
    rw [hs]; exact h.histFresh fd hfd'
  · intro y hy
    rw [hcl] at hy
    simp only [List.mem_map] at hy
    obtain ⟨x, hx, rfl⟩ := hy
    obtain ⟨items, a, e⟩ := hG x hx
    have : total H w' (G x) = total H w x ++ render items := by
      simp only [total, outOf, a.fd, a.buf, hs, List.append_assoc]
    rw [this]
    exact (h.cli x hx).ext e
  · intro fd h1 h2 h3
    rw [hn] at h2
    obtain ⟨c, rest, hsv⟩ := h.gone fd h1 h2 (by
      intro x hx e
      have : x.fd ∈ w'.clients.map (·.fd) := by rw [hfd]; exact List.mem_map_of_mem hx
      simp only [List.mem_map] at this
      obtain ⟨y, hy, hyx⟩ := this
      exact h3 y hy (hyx.trans e))
    exact ⟨c, rest, by rw [hs]; exact hsv⟩

theorem goodDevs_iff (l : List (Bytes × Dev)) : GoodDevs l ↔ ∀ nd ∈ l, cleanText nd.1 = true ∧ PlugsClean nd.2 :=
  ⟨fun h nd hnd => ⟨h.1 nd hnd, h.2 nd hnd⟩, fun h => ⟨fun nd hnd => (h nd hnd).1, fun nd hnd => (h nd hnd).2⟩⟩

theorem goodDevs_replace (pre rest : List (Bytes × Dev)) (nd : Bytes × Dev) (d' : Dev) (hp : PlugsClean d')
    (h : GoodDevs (pre ++ nd :: rest)) : GoodDevs (pre ++ (nd.1, d') :: rest) := by
  rw [goodDevs_iff, List.forall_mem_append, List.forall_mem_cons] at h ⊢
  exact ⟨h.1, ⟨h.2.1.1, hp⟩, h.2.2⟩

/-- **one device's share of `dev_post_poll`**, callbacks delivered, keeps the invariant (in a pass that is alive) -/
theorem RunInv.ofDevPass {cl : Prop} {H : Hist} (p : PassIn) (a : DevAcc) (nd : Bytes × Dev) (rest : List (Bytes × Dev))
    (hd : a.dead = false) (h : RunInv cl H (worldAt a (nd :: rest))) : RunInv cl H (worldAt (devPass p a nd) rest) := by
  have hids := devPass_idsFresh p a nd rest h.ids
  have hgd : cl → GoodDevs (a.devs ++ nd :: rest) := fun hcl => (h.good hcl).devs
  have hpl := fun hcl => postPoll_clean { nd.2 with args := a.w.store } (devEnv p a.w nd) a.oracle ((hgd hcl).2 nd (by simp))
  have hpos : ∀ x ∈ a.w.clients, x.id ≠ 0 := fun x hx => Nat.pos_iff_ne_zero.mp (h.ids.pos x.id (List.mem_map.mpr ⟨x, hx, rfl⟩))
  have hled : ∀ x ∈ a.w.clients, queued a.devs x.id + qcount x.id nd.2.acts + queued rest x.id ≤ pend x := by
    intro x hx
    rw [← queued_mid]; exact h.ledger x hx
  have hpp := fun cid hc => Pm.Dev2.postPoll_ledger { nd.2 with args := a.w.store } (devEnv p a.w nd) a.oracle cid hc
  have hext := applyOuts_ext cl (afterStep a.w (devStep p a.w a.oracle nd).1) nd.1 (devStep p a.w a.oracle nd).2.2.1
    h.ids.unique (fun hcl => (hgd hcl).1 nd (by simp)) (fun hcl => (hpl hcl).2)
    (fun cid => qcount cid nd.2.acts) (fun x hx => by have := hled x hx; omega)
    (fun x hx => (hpp x.id (hpos x hx)).2)
  have hw := devPass_w p a nd hd
  obtain ⟨hsame, G, hG, hGx⟩ := hext
  rw [← hw] at hsame hG
  have hdevs : (worldAt (devPass p a nd) rest).devs = a.devs ++ (nd.1, (devStep p a.w a.oracle nd).1.dev) :: rest := by
    rw [worldAt_devPass_devs]; simp [stepped, hd]
  refine h.step hids G hG (fun x hx => by obtain ⟨i, a1, a2, _⟩ := hGx x hx; exact ⟨i, a1, a2⟩) ?_ ?_ ?_ ?_
  · have := congrArg W.sys hsame; exact this
  · have := congrArg W.nacc hsame; exact this
  · intro hcl g
    refine g.of_devs (congrArg W.cfg hsame :) (congrArg W.specs hsame :) ?_
    rw [hdevs]; exact goodDevs_replace a.devs rest nd _ (hpl hcl).1 (hgd hcl)
  · -- the ledger: the completions delivered plus what stays queued on the device are at most what was queued on it (`h2`), and
    -- `pending` went down by at most the completions delivered (`pp`), so it covers the queues as before (`h1`)
    intro y hy
    have hy : y ∈ (devPass p a nd).w.clients := hy
    rw [hG] at hy
    simp only [List.mem_map] at hy
    obtain ⟨x, hx, rfl⟩ := hy
    obtain ⟨_, a1, _, pp⟩ := hGx x hx
    have pp : pend x ≤ pend (G x) + fcount x.id (devStep p a.w a.oracle nd).2.2.1 := pp
    have h1 := hled x hx
    have h2 := (hpp x.id (hpos x hx)).1
    have h2 : fcount x.id (devStep p a.w a.oracle nd).2.2.1 + qcount x.id (devStep p a.w a.oracle nd).1.dev.acts ≤ qcount x.id nd.2.acts := h2
    rw [hdevs, a1.id, queued_mid]
    dsimp only
    omega

/-- … and in any pass: after an assertion the turn only moves the device to the processed ones -/
theorem RunInv.ofDevTurn {cl : Prop} {H : Hist} (p : PassIn) (a : DevAcc) (nd : Bytes × Dev) (rest : List (Bytes × Dev))
    (h : RunInv cl H (worldAt a (nd :: rest))) : RunInv cl H (worldAt (devPass p a nd) rest) := by
  cases hd : a.dead with
  | false => exact h.ofDevPass p a nd rest hd
  | true => rw [worldAt_dead p a nd rest hd]; exact h

theorem RunInv.ofDaemonPass {cl : Prop} {H : Hist} {w : W} (h : RunInv cl H w) (p : PassIn) :
    RunInv cl (histNext H w) (Pm.Daemon.daemonPass w p).1 :=
  daemonPass_keeps (RunInv cl (histNext H w)) (fun a nd rest hd h => h.ofDevPass p a nd rest hd)
    (fun _ _ h => h.congr (h.ids.congr rfl rfl rfl) rfl rfl rfl (fun _ => rfl) rfl rfl) w (h.cliPostPoll p.acc p.envs)

/-- what the world gets before a pass: the kernel's answers for the pass, and the regex engine's answers to the calls the pass
    will make (the `X` lines of the driver: appended to the pending oracle answers) -/
abbrev Step := PassX

/-- the answers are supplied, the pass runs (`Pm.Daemon.stepX`) -/
abbrev passX (w : W) (s : Step) : W := stepX w s

/-- a run with its ghost history -/
def runHist : W × Hist → List Step → W × Hist
  | s, [] => s
  | (w, H), st :: ss => runHist (passX w st, histNext H w) ss

theorem runHist_fst (w : W) (H : Hist) (ss : List Step) : (runHist (w, H) ss).1 = runX w ss := by
  induction ss generalizing w H with
  | nil => rfl
  | cons p r ih => simp only [runHist, runX, List.foldl_cons]; exact ih _ _

theorem RunInv.passX {cl : Prop} {H : Hist} {w : W} (h : RunInv cl H w) (st : Step) : RunInv cl (histNext H w) (passX w st) := by
  have h' : RunInv cl H (feed w st.rx) := h.congr (h.ids.congr rfl rfl rfl) rfl rfl rfl (fun _ => rfl) rfl rfl
  exact h'.ofDaemonPass st.p

theorem RunInv.run {cl : Prop} (ss : List Step) : ∀ (w : W) (H : Hist), RunInv cl H w →
    RunInv cl (runHist (w, H) ss).2 (runHist (w, H) ss).1 := by
  induction ss with
  | nil => intro w H h; exact h
  | cons p r ih => intro w H h; exact ih _ _ (h.passX p)

/-- the daemon at start-up: no client, no client's action queued (at most the login actions of `dev_initial_connect`), the
    id counter positive, an empty system-call log, no connection accepted yet -/
structure Startup (w0 : W) : Prop where
  clients : w0.clients = []
  acts : ∀ nd ∈ w0.devs, ∀ a ∈ nd.2.acts, a.clientId = 0
  nextId : 0 < w0.nextId
  sys : w0.sys = []
  nacc : w0.nacc = 0

theorem RunInv.init (cl : Prop) (w : W) (hs : Startup w) (hg : cl → Good w) : RunInv cl (fun _ => []) w := by
  obtain ⟨hc, hq, hn, hs, ha⟩ := hs
  have hids : Isolation.ids w = [] := by unfold Isolation.ids; rw [hc]; rfl
  have hi : IdsFresh w := by
    refine ⟨?_, ?_, ?_, ?_, hn⟩
    · rw [hids]; exact List.nodup_nil
    · intro i hi; rw [hids] at hi; cases hi
    · intro i hi; rw [hids] at hi; cases hi
    · intro nd hnd a ha; rw [hq nd hnd a ha]; exact hn
  refine ⟨hi, by simp [hc], by simp [hc], fun _ _ => ⟨rfl, by rw [hs]; rfl⟩, hg, by simp [hc], ?_, by simp [hc]⟩
  intro fd h1 h2 _
  rw [ha] at h2; omega

theorem runHist_snoc (s : W × Hist) (ss : List Step) (p : Step) :
    runHist s (ss ++ [p]) = (passX (runHist s ss).1 p, histNext (runHist s ss).2 (runHist s ss).1) := by
  induction ss generalizing s with
  | nil => obtain ⟨w, H⟩ := s; rfl
  | cons q r ih => obtain ⟨w, H⟩ := s; simp only [List.cons_append, runHist]; exact ih _

theorem foldl_icStep_frame (now : Nat) (con soe : List Nat) (l : List (Bytes × Dev)) (acc : W × List String × List (Bytes × Dev)) :
    (l.foldl (icStep now con soe) acc).1.sys = acc.1.sys ∧ (l.foldl (icStep now con soe) acc).1.nacc = acc.1.nacc ∧
    (l.foldl (icStep now con soe) acc).1.cfg = acc.1.cfg ∧ (l.foldl (icStep now con soe) acc).1.specs = acc.1.specs ∧
    (GoodDevs l → GoodDevs acc.2.2 → GoodDevs (l.foldl (icStep now con soe) acc).2.2) := by
  induction l generalizing acc with
  | nil => exact ⟨rfl, rfl, rfl, rfl, fun _ h => h⟩
  | cons nd r ih =>
    rw [List.foldl_cons]
    obtain ⟨w, lines, devs⟩ := acc
    obtain ⟨a, b, c, d, e⟩ := ih (icStep now con soe (w, lines, devs) nd)
    refine ⟨a, b, c, d, ?_⟩
    intro h1 h2
    rw [goodDevs_iff, List.forall_mem_cons] at h1
    refine e ((goodDevs_iff r).mpr h1.2) ?_
    have hp := (Pm.Dev2.connectDev_devFrame { dev := nd.2, env := mkDevEnv w nd.2 now con soe [], sys := [] }).plugs
    rw [goodDevs_iff] at h2 ⊢
    show ∀ x ∈ devs ++ [(nd.1, _)], _
    rw [List.forall_mem_append, List.forall_mem_singleton]
    exact ⟨h2, h1.1.1, h1.1.2.congr hp⟩

/-- `dev_initial_connect` keeps the start-up conditions: it only queues login actions -/
theorem Startup.initialConnect {w : W} (h : Startup w) (now : Nat) (con soe : List Nat) : Startup (Pm.Daemon.initialConnect w now con soe).1 := by
  rw [initialConnect_eq]
  obtain ⟨h1, h2, _, h4⟩ := foldl_icStep (fun cid _ => cid = 0) rfl now con soe w.devs (w, [], [])
    (fun nd hnd a ha => h.acts nd hnd a ha) (by intro nd hnd; cases hnd)
  obtain ⟨f1, f2, _, _, _⟩ := foldl_icStep_frame now con soe w.devs (w, [], [])
  exact ⟨h1.trans h.clients, fun nd hnd a ha => h4 nd hnd a ha, by rw [show _ = w.nextId from h2]; exact h.nextId,
    f1.trans h.sys, f2.trans h.nacc⟩

theorem Good.initialConnect {w : W} (h : Good w) (now : Nat) (con soe : List Nat) : Good (Pm.Daemon.initialConnect w now con soe).1 := by
  rw [initialConnect_eq]
  obtain ⟨_, _, f3, f4, f5⟩ := foldl_icStep_frame now con soe w.devs (w, [], [])
  exact h.of_devs f3 f4 (f5 h.devs ((goodDevs_iff []).mpr fun _ hx => nomatch hx))

/-- ghost record: the bytes handed to `write(2)` on descriptor `fd` during the passes `ss` *before the last one* (the log of
    the last pass is still in the world: `written w.sys fd`) -/
def histOf (w0 : W) (ss : List Step) : Hist := (runHist (w0, fun _ => []) ss).2

theorem histOf_nil (w0 : W) (fd : Nat) : histOf w0 [] fd = [] := rfl

theorem histOf_snoc (w0 : W) (ss : List Step) (p : Step) (fd : Nat) :
    histOf w0 (ss ++ [p]) fd = histOf w0 ss fd ++ written (runX w0 ss).sys fd := by
  unfold histOf
  rw [runHist_snoc]
  simp only [histNext, runHist_fst]

/-- everything ever queued for client `c` in the run `ss` from `w0` -/
def streamOf (w0 : W) (ss : List Step) (c : Cli) : Bytes := histOf w0 ss c.fd ++ outOf (runX w0 ss) c

theorem RunInv.reached (cl : Prop) (w0 : W) (hs : Startup w0) (hg : cl → Good w0) (ss : List Step) :
    RunInv cl (histOf w0 ss) (runX w0 ss) := by
  have h := RunInv.run ss w0 (fun _ => []) (RunInv.init cl w0 hs hg)
  rw [runHist_fst] at h
  exact h

/-- **C15 over whole runs**: from start-up, after any number of passes with any inputs, every client's cumulative output
    satisfies the per-client invariant -/
theorem stream_run (cl : Prop) (w0 : W) (hs : Startup w0) (hg : cl → Good w0) (ss : List Step) :
    ∀ c ∈ (runX w0 ss).clients, SInv cl (streamOf w0 ss c) c :=
  (RunInv.reached cl w0 hs hg ss).cli

/-- **the ledger over whole runs**: no client has more actions queued on the devices than its command waits for — in
    particular an idle client has none, so no device callback is addressed to it -/
theorem ledger_run (w0 : W) (hs : Startup w0) (ss : List Step) :
    ∀ c ∈ (runX w0 ss).clients, queued (runX w0 ss).devs c.id ≤ pend c :=
  (RunInv.reached False w0 hs (fun h => h.elim) ss).ledger

/-- everything ever written to descriptor `fd` in the run `ss` from `w0` -/
def writtenOf (w0 : W) (ss : List Step) (fd : Nat) : Bytes := histOf w0 ss fd ++ written (runX w0 ss).sys fd

/-- … and for a descriptor whose client is gone: what was written to it is the beginning of a stream that satisfies the
    per-client invariant — the rest is what the client had not been sent when it was destroyed -/
theorem departed_run (cl : Prop) (w0 : W) (hs : Startup w0) (hg : cl → Good w0) (ss : List Step) (fd : Nat) (h1 : 1000 ≤ fd)
    (h2 : fd < 1000 + (runX w0 ss).nacc) (h3 : ∀ c ∈ (runX w0 ss).clients, c.fd ≠ fd) :
    ∃ (c : Cli) (rest : Bytes), SInv cl (writtenOf w0 ss fd ++ rest) c :=
  (RunInv.reached cl w0 hs hg ss).gone fd h1 h2 h3

/-- `Good` from the names the node list stands for (instead of the stored prefixes) -/
theorem Good.of_names (w : W) (hv : cleanText w.cfg.version = true) (hwf : HWFS w.cfg.nodes)
    (hn : ∀ n ∈ expand w.cfg.nodes, cleanName n = true) (ha : ∀ a ∈ w.cfg.aliases, ∀ n ∈ a.2, cleanName n = true)
    (hd : GoodDevs w.devs) (hs : ∀ p ∈ w.specs, cleanText p.2 = true) : Good w :=
  ⟨hv, hwf, HLClean_of_expand _ hwf.toHWF hn, ha, hd, hs⟩

/-- `Good` for a node list built the way the configuration parser builds it (`hostlist_push_host` / `hostlist_delete_host`
    from the empty list: `Built`, `ConfigProof.Inv.built`) -/
theorem Good.of_built (w : W) (hv : cleanText w.cfg.version = true) (hb : Built w.cfg.nodes)
    (hn : ∀ n ∈ expand w.cfg.nodes, cleanName n = true) (ha : ∀ a ∈ w.cfg.aliases, ∀ n ∈ a.2, cleanName n = true)
    (hd : GoodDevs w.devs) (hs : ∀ p ∈ w.specs, cleanText p.2 = true) : Good w :=
  Good.of_names w hv hb.inv.1 hn ha hd hs

/-! ### a concrete run for the non-vacuity examples in `Props/C15` -/
namespace Ex
open Pm.Daemon.Isolation

/-- the start-up world of `IsolationProof.Two`: one device `A`, plug `1` ↦ node `a1`, a `status` script -/
abbrev w0 : W := Two.w0
/-- pass 1: client 1 connects -/
abbrev p1 : PassIn := Two.p1
/-- pass 2: client 2 connects; client 1 is writable (the banner goes out) and sends `nodes` and `help` in one read -/
def p2 : PassIn :=
  { now := 2000, acc := 1, con := [0], soe := [0], envs := [{ fd := 1000, rev := 3, rk := 0, data := bstr "nodes\nhelp\n", cap := 100 }] }
/-- pass 3: client 1's replies go out; client 2 — whose descriptor takes 7 bytes only — sends `status a1`, `quit`, `nodes` -/
def p3 : PassIn :=
  { now := 3000, acc := 0, con := [0], soe := [0],
    envs := [{ fd := 1000, rev := 2, rk := 0, data := [], cap := 1000 },
             { fd := 1001, rev := 3, rk := 0, data := bstr "status a1\nquit\nnodes\n", cap := 7 }] }

def run : List Step := [⟨p1, []⟩, ⟨p2, []⟩, ⟨p3, []⟩]

/-- the run of `IsolationProof.Two`: both clients ask `status a1`; in pass 4 the device answers client 1's action and the
    regex engine's answers make the `expect` and the `setplugstate` succeed -/
def run2 : List Step := [⟨Two.p1, []⟩, ⟨Two.p2, []⟩, ⟨Two.p3, []⟩, ⟨Two.p4, Two.xs4⟩]

/-- instead of pass 2: client 1 is writable and sends `nodes`, `quit` and once more `nodes` in one read -/
def pq : PassIn :=
  { now := 2000, acc := 0, con := [0], soe := [0], envs := [{ fd := 1000, rev := 3, rk := 0, data := bstr "nodes\nquit\nnodes\n", cap := 1000 }] }

theorem startup : Startup w0 :=
  ⟨rfl, (by
    intro nd hnd a ha
    simp [w0, Two.w0] at hnd; subst hnd
    simp [Two.devA] at ha), by decide, rfl, rfl⟩

theorem good : Good w0 := by
  refine ⟨by decide, pushHost_HWFS [] ['a', '1'] HWFS_nil, pushHost_clean [] ['a', '1'] (by decide) HLClean_nil, ?_, ⟨?_, ?_⟩, ?_⟩
  · intro a ha; cases ha
  · intro nd hnd; simp [w0, Two.w0] at hnd; subst hnd; decide
  · intro nd hnd p hp n hn
    simp [w0, Two.w0] at hnd; subst hnd
    simp [Two.devA] at hp; subst hp
    simp [Two.plugA] at hn; subst hn; decide
  · intro p hp; cases hp

end Ex

end Pm.Daemon.StreamPf

/-! axiom audit (expected: at most `propext`, `Classical.choice`, `Quot.sound`) -/
section AxiomChecks
open Pm.Daemon.StreamPf
#print axioms stream_run
#print axioms ledger_run
#print axioms departed_run
#print axioms RunInv.ofDaemonPass
#print axioms RunInv.cliPostPoll
#print axioms applyOuts_ext
#print axioms postPoll_clean
#print axioms parseLine_out
#print axioms histOf_snoc
#print axioms Ex.good
#print axioms Ex.startup
end AxiomChecks
