import Pm.Dev2Fd
import Pm.Dev2Login2
/-! Helper lemmas for C04 (timer coverage: no wedge, tenure; the minimum over the devices is in `Pm/TimerMin.lean`) and
    C12 (i/o error, restart after a connect, what a time-out reports, recovery) on the mirror `Pm/Dev2.lean` (`device.c`);
    the C20 part (shutdown, the clients' descriptor ledger) is in `Pm/Shutdown.lean`. -/
namespace Pm.Dev2.Timer
open Pm.Dev2 Pm.Dev2.Login2

/-! ## script statements and the timers: what they leave alone, and the one wake-up they register -/

/-- the device time-out and the retry bookkeeping are the same -/
structure SameTimer (d d' : Dev) : Prop where
  timeout : d'.timeout = d.timeout
  retryCount : d'.retryCount = d.retryCount
  lastRetry : d'.lastRetry = d.lastRetry

theorem SameTimer.trans {a b c : Dev} (h1 : SameTimer a b) (h2 : SameTimer b c) : SameTimer a c :=
  ⟨h2.timeout.trans h1.timeout, h2.retryCount.trans h1.retryCount, h2.lastRetry.trans h1.lastRetry⟩

/-- the wake-up a `delay` has registered is not zero.  (In C a `struct timeval` of zero means "no time-out registered":
    `_update_timeout` tests `timerisset`, `_select_loop` passes `NULL` to `poll`; the mirror uses `none`.  The two readings
    agree because no zero is ever registered: `postPoll_passKeeps`.) -/
def WakeOK (d : Dev) : Prop := ∀ w, d.wake = some w → 0 < w

/-- a statement leaves the device time-out, the retry bookkeeping and the action's time stamp alone, and keeps `WakeOK` -/
structure StmtTimer (d : Dev) (a : Action) (r : StepR) : Prop where
  timer : SameTimer d r.dev
  stamp : r.act.timeStamp = a.timeStamp
  wake : WakeOK d → WakeOK r.dev

/-- every statement but `delay`: the wake-up is not touched either -/
theorem StmtTimer.same {d : Dev} {a : Action} {r : StepR} (h1 : r.dev.timeout = d.timeout) (h2 : r.dev.retryCount = d.retryCount)
    (h3 : r.dev.lastRetry = d.lastRetry) (h4 : r.dev.wake = d.wake) (h5 : r.act.timeStamp = a.timeStamp) : StmtTimer d a r :=
  ⟨⟨h1, h2, h3⟩, h5, fun h w hw => h w (h4 ▸ hw)⟩

theorem StmtTimer.trans {d : Dev} {a : Action} {r r' : StepR} (h1 : StmtTimer d a r) (h2 : StmtTimer r.dev r.act r') :
    StmtTimer d a r' :=
  ⟨h1.timer.trans h2.timer, h2.stamp.trans h1.stamp, fun h => h2.wake (h1.wake h)⟩

theorem processStmt_timer (d : Dev) (a : Action) (o : Oracle) (now : Time) : StmtTimer d a (processStmt d a o now) :=
  Interp.processStmt_ind d a o now _ (fun _ => .same rfl rfl rfl rfl rfl) fun _ _ _ _ _ _ h => by
    cases h with
    | delayWait us hs hlt =>
      -- what is left of the delay is registered, and that is positive
      exact ⟨⟨rfl, rfl, rfl⟩, rfl, fun _ w hw => by cases hw; unfold Time at *; omega⟩
    | _ => exact .same rfl rfl rfl rfl rfl

theorem innerLoop_timer (now : Time) (fuel : Nat) (d : Dev) (a : Action) (o : Oracle) (acc : List Out) :
    StmtTimer d a (innerLoop now fuel d a o acc) :=
  innerLoop_induct (now := now) (P := fun d a _ _ r => StmtTimer d a r)
    (fun d a o _ => ⟨(processStmt_timer d a o now).timer, (processStmt_timer d a o now).stamp, (processStmt_timer d a o now).wake⟩)
    (fun d a o _ _ _ _ ih => (processStmt_timer d a o now).trans ih) fuel d a o acc

/-! ## what the connection layer leaves alone: the clock of the pass, the device time-out, the scripts -/

/-- the clock of the pass, the device time-out and the scripts are the same -/
structure SameClock (c c' : CS) : Prop where
  now : c'.env.now = c.env.now
  timeout : c'.dev.timeout = c.dev.timeout
  scripts : c'.dev.scripts = c.dev.scripts

/-- the retry bookkeeping (`retry_count`, `last_retry`) is left alone as well -/
structure SameRetry (c c' : CS) : Prop extends SameClock c c' where
  retryCount : c'.dev.retryCount = c.dev.retryCount
  lastRetry : c'.dev.lastRetry = c.dev.lastRetry

theorem SameRetry.flat {c c' : CS} (h : SameRetry c c') : c'.env.now = c.env.now ∧ c'.dev.timeout = c.dev.timeout ∧
    c'.dev.scripts = c.dev.scripts ∧ c'.dev.retryCount = c.dev.retryCount ∧ c'.dev.lastRetry = c.dev.lastRetry :=
  ⟨h.now, h.timeout, h.scripts, h.retryCount, h.lastRetry⟩

theorem _root_.Pm.Dev2.WalkFrame.sameRetry {c c' : CS} (h : WalkFrame c c') : SameRetry c c' :=
  ⟨⟨h.now, h.dev.timeout, h.dev.scripts⟩, h.dev.retryCount, h.dev.lastRetry⟩

theorem connectOne_retry (c : CS) : SameRetry c (connectOne c).1 := (connectOne_frame c).sameRetry

theorem disconnectDev_retry (c : CS) : SameRetry c (disconnectDev c) := by
  rw [disconnectDev_cs]; exact ⟨⟨rfl, rfl, rfl⟩, rfl, rfl⟩

theorem enqueueLogin_scripts (d : Dev) : (enqueueLogin d).scripts = d.scripts := rfl

/-- what `_connect` does, seen from the queue: the clock, time-out and scripts stay; `last_retry` becomes the time of the
    pass and `retry_count` goes up by one; and unless the pass is aborted either the device is not CONNECTED afterwards
    and the queue is untouched, or it is CONNECTED and the login action has been put in front of the queue with the
    former head rewound -/
structure AfterConnect (c : CS) : Prop where
  clock : SameClock c (connectDev c)
  lastRetry : (connectDev c).dev.lastRetry = c.env.now
  retryCount : (connectDev c).dev.retryCount = c.dev.retryCount + 1
  loggedIn : (connectDev c).dev.loggedIn = c.dev.loggedIn
  queue : (connectDev c).aborted = false →
    ((connectDev c).dev.conn ≠ 2 ∧ (connectDev c).dev.acts = c.dev.acts) ∨
    ((connectDev c).dev.conn = 2 ∧ (connectDev c).dev.acts = (enqueueLogin c.dev).acts)

theorem connectDev_cases (c : CS) (h0 : c.dev.conn = 0) : AfterConnect c := by
  obtain ⟨d1, hf, hnow, he⟩ := connectDev_frame c
  have hd : (connectDev c).dev.timeout = c.dev.timeout ∧ (connectDev c).dev.scripts = c.dev.scripts ∧
      (connectDev c).dev.lastRetry = c.env.now ∧ (connectDev c).dev.retryCount = c.dev.retryCount + 1 ∧
      (connectDev c).dev.loggedIn = c.dev.loggedIn := by
    rcases he with ⟨e, _⟩ | ⟨e, _⟩ <;> rw [e] <;> exact ⟨hf.timeout, hf.scripts, hf.lastRetry, hf.retryCount, hf.loggedIn⟩
  obtain ⟨t1, t2, t3, t4, t5⟩ := hd
  refine ⟨⟨hnow, t1, t2⟩, t3, t4, t5, fun hna => ?_⟩
  rcases he with ⟨e, h2⟩ | ⟨e, h2⟩ <;> rw [e]
  · refine .inr ⟨h2 h0, ?_⟩
    unfold enqueueLogin loginAction
    simp only [hf.acts, hf.scripts]
  · exact .inl ⟨(h2 h0).resolve_right (by rw [hna]; exact Bool.noConfusion), hf.acts⟩

/-- a time-out is registered and is at most `b` -/
def Covers (tmo : Option Time) (b : Time) : Prop := ∃ t, tmo = some t ∧ t ≤ b

theorem covers_upd_self (tmo : Option Time) (left : Time) : Covers (upd tmo left) left := by
  unfold upd Covers; cases tmo with
  | none => exact ⟨left, rfl, Nat.le_refl _⟩
  | some x => exact ⟨min x left, rfl, Nat.min_le_right _ _⟩

theorem covers_upd (tmo : Option Time) (left b : Time) (h : Covers tmo b) : Covers (upd tmo left) b := by
  obtain ⟨t, rfl, ht⟩ := h
  exact ⟨min t left, rfl, Nat.le_trans (Nat.min_le_left _ _) ht⟩

theorem Covers.mono {tmo : Option Time} {b b' : Time} (h : Covers tmo b) (hb : b ≤ b') : Covers tmo b' := by
  obtain ⟨t, rfl, ht⟩ := h
  exact ⟨t, rfl, Nat.le_trans ht hb⟩

/-- the back-off of a device that is not connected is covered by the registered time-out — or the last attempt was
    made at the very instant of this pass (and then, as coded, nothing is registered for it) -/
def BackCov (c : CS) (tmo : Option Time) : Prop :=
  c.dev.conn = 0 → 0 < c.dev.retryCount →
    (c.env.now < backoffEnd c.dev ∧ Covers tmo (backoffEnd c.dev - c.env.now)) ∨ c.dev.lastRetry = c.env.now

theorem reconnectDev_backCov (c : CS) (tmo : Option Time) : BackCov (reconnectDev c tmo).1 (reconnectDev c tmo).2 := by
  obtain ⟨c1, _, h0, ⟨_, e⟩ | ⟨_, hlt, e⟩⟩ := reconnectDev_cases c tmo <;> rw [e]
  · intro _ _
    exact Or.inr (by rw [(connectDev_cases c1 h0).lastRetry, (connectDev_cases c1 h0).clock.now])
  · intro _ _
    exact Or.inl ⟨hlt, covers_upd_self _ _⟩

/-- the head of the queue is covered: it carries a time stamp, its deadline lies ahead and the registered time-out is
    no later than that deadline — or it is a login action that `_reconnect`, called from the error branch, has just put
    into the (otherwise empty) queue of the freshly connected device, and that has not been looked at yet -/
def HeadCov (c : CS) (tmo : Option Time) : Prop :=
  ∀ h rest, c.dev.acts = h :: rest →
    (∃ ts, h.timeStamp = some ts ∧ c.env.now < ts + c.dev.timeout ∧ Covers tmo (ts + c.dev.timeout - c.env.now)) ∨
    (h.timeStamp = none ∧ rest = [] ∧ h.com = 0 ∧ h.clientId = 0 ∧ c.dev.conn = 2 ∧ c.dev.loggedIn = false)

/-- what holds of the pass state `r` (its fourth component is the registered time-out) at the end of `_process_action` unless the
    pass aborted: the head of the queue is covered, and so is the back-off -/
def TimerPost (r : PA) : Prop := r.1.aborted = false → HeadCov r.1 r.2.2.2 ∧ BackCov r.1 r.2.2.2

theorem BackCov.transport {c c' : CS} {tmo tmo' : Option Time} (h : BackCov c tmo)
    (h1 : c'.dev.conn = c.dev.conn) (h2 : c'.dev.retryCount = c.dev.retryCount) (h3 : c'.dev.lastRetry = c.dev.lastRetry)
    (h4 : c'.env.now = c.env.now) (hm : ∀ b, Covers tmo b → Covers tmo' b) : BackCov c' tmo' := by
  unfold BackCov backoffEnd at *
  rw [h1, h2, h3, h4]
  intro a b
  rcases h a b with ⟨x, y⟩ | x
  · exact Or.inl ⟨x, hm _ y⟩
  · exact Or.inr x

theorem reconnectDev_queue (c : CS) (tmo : Option Time) (ha : c.dev.acts = []) (h2 : c.dev.conn ≠ 0)
    (hna : (reconnectDev c tmo).1.aborted = false) :
    (reconnectDev c tmo).1.dev.acts = [] ∨
    ((reconnectDev c tmo).1.dev.acts = [loginAction c.dev] ∧ (reconnectDev c tmo).1.dev.conn = 2 ∧
      (reconnectDev c tmo).1.dev.loggedIn = false) := by
  obtain ⟨c1, hc1, h0, h⟩ := reconnectDev_cases c tmo
  have hne : (c.dev.conn != 0) = true := by simpa using h2
  rw [if_pos hne] at hc1
  subst hc1
  have hd := disconnectDev_empty c ha
  rcases h with ⟨_, e⟩ | ⟨_, _, e⟩ <;> rw [e] at hna ⊢
  · have hcon := connectDev_cases (disconnectDev c) h0
    rcases hcon.queue hna with ⟨_, hq⟩ | ⟨hc, hq⟩
    · exact Or.inl (hq.trans hd)
    · refine Or.inr ⟨?_, hc, hcon.loggedIn⟩
      rw [hq]; unfold enqueueLogin loginAction
      simp only [hd, (disconnectDev_retry c).scripts]
  · exact Or.inl hd

theorem failAll_queue (rest : List Action) (c : CS) (a : Action) (o : Oracle) (out : List Out) (tmo : Option Time)
    (hna : (failAll rest c a o out tmo).1.aborted = false) :
    (failAll rest c a o out tmo).1.dev.acts = [] ∨
    ((failAll rest c a o out tmo).1.dev.acts = [loginAction c.dev] ∧ (failAll rest c a o out tmo).1.dev.conn = 2 ∧
      (failAll rest c a o out tmo).1.dev.loggedIn = false) := by
  by_cases h2 : c.dev.conn = 2
  · rw [failAll_connected _ _ _ _ _ _ h2] at hna ⊢
    exact reconnectDev_queue _ tmo rfl (by rw [h2]; decide) hna
  · rw [failAll_other _ _ _ _ _ _ h2]
    exact Or.inl rfl

theorem failAll_timer (rest : List Action) (c : CS) (a : Action) (o : Oracle) (out : List Out) (tmo : Option Time)
    (hb : BackCov c tmo) : TimerPost (failAll rest c a o out tmo) := by
  intro hna
  refine ⟨fun h r hh => ?_, ?_⟩
  · rcases failAll_queue rest c a o out tmo hna with h1 | ⟨h1, h2, h3⟩
    · cases h1.symm.trans hh
    · cases h1.symm.trans hh
      exact Or.inr ⟨rfl, rfl, rfl, rfl, h2, h3⟩
  · by_cases h2 : c.dev.conn = 2
    · rw [failAll_connected _ _ _ _ _ _ h2]; exact reconnectDev_backCov _ _
    · rw [failAll_other _ _ _ _ _ _ h2]; exact hb.transport rfl rfl rfl rfl (fun _ h => h)

theorem onRunStep_timer (rest : List Action) (c : CS) (a : Action) (o : Oracle) (out : List Out) (tmo : Option Time)
    (left ts : Time) (hb : BackCov c tmo) (hts : a.timeStamp = some ts) (hlt : c.env.now < ts + c.dev.timeout)
    (hleft : left = ts + c.dev.timeout - c.env.now) :
    ((onRunStep rest c a o out tmo left).2 = false → TimerPost (onRunStep rest c a o out tmo left).1) ∧
    ((onRunStep rest c a o out tmo left).2 = true →
      BackCov (onRunStep rest c a o out tmo left).1.1 (onRunStep rest c a o out tmo left).1.2.2.2) := by
  have hT := innerLoop_timer c.env.now (loopBound a) { c.dev with wake := none } a o []
  have hL := (innerLoop_writes c.env.now (loopBound a) { c.dev with wake := none } a o [] fun _ h => nomatch h).conn
  have hC := onRunStep_branches rest c a o out tmo left _ rfl
  generalize innerLoop c.env.now (loopBound a) { c.dev with wake := none } a o [] = r at *
  -- the interpreter has left alone what `BackCov` reads, and so does putting a queue back
  have hbr : ∀ (q : List Action) (tmo' : Option Time), (∀ b, Covers tmo b → Covers tmo' b) →
      BackCov { c with dev := { r.dev with acts := q } } tmo' :=
    fun _ _ hm => hb.transport hL hT.timer.retryCount hT.timer.lastRetry rfl hm
  rcases hC with ⟨_, e⟩ | ⟨_, _, e⟩ | ⟨_, _, _, _, e⟩ | ⟨_, _, _, _, e⟩ | ⟨_, _, _, e⟩ <;> rw [e]
  · exact ⟨fun _ hna => Bool.noConfusion hna, fun h => Bool.noConfusion h⟩
  · refine ⟨fun _ _ => ⟨?_, hbr _ _ fun b hc => ?_⟩, fun h => Bool.noConfusion h⟩
    · intro h rr hh
      cases hh
      refine Or.inl ⟨ts, hT.stamp.trans hts, hT.timer.timeout ▸ hlt, ?_⟩
      rw [show ({ c with dev := { r.dev with acts := r.act :: rest } } : CS).dev.timeout = c.dev.timeout from hT.timer.timeout,
        ← hleft]
      exact covers_upd_self _ _
    · apply covers_upd
      split
      · exact covers_upd _ _ _ hc
      · exact hc
  · exact ⟨fun h => Bool.noConfusion h, fun _ => hb.transport hL hT.timer.retryCount hT.timer.lastRetry rfl (fun _ h => h)⟩
  · exact ⟨fun h => Bool.noConfusion h, fun _ => hbr _ _ (fun _ h => h)⟩
  · exact ⟨fun _ => failAll_timer _ _ _ _ _ _ (hb.transport hL hT.timer.retryCount hT.timer.lastRetry rfl (fun _ h => h)),
      fun h => Bool.noConfusion h⟩

theorem bodyStep_timer (c : CS) (o : Oracle) (out : List Out) (tmo : Option Time) (hb : BackCov c tmo) :
    ((bodyStep c o out tmo).2 = false → TimerPost (bodyStep c o out tmo).1) ∧
    ((bodyStep c o out tmo).2 = true → BackCov (bodyStep c o out tmo).1.1 (bodyStep c o out tmo).1.2.2.2) := by
  rcases bodyStep_branches c o out tmo with ⟨hstop, e⟩ | ⟨a0, rest, ts, _, _, hts, h⟩
  · rw [e]
    refine ⟨fun _ hna => ⟨fun h r hh => ?_, hb⟩, fun h => Bool.noConfusion h⟩
    rcases hstop with hab | hnil
    · exact Bool.noConfusion (hab.symm.trans hna)
    · cases hnil.symm.trans hh
  · rcases h with ⟨_, e⟩ | ⟨hlt, _, e⟩ | ⟨hlt, _, e⟩ <;> rw [e]
    · rw [Fd.onTimeout_eq_failAll]
      exact ⟨fun _ => failAll_timer _ _ _ _ _ _ hb, fun h => Bool.noConfusion h⟩
    · refine ⟨fun _ _ => ⟨fun h r hh => ?_, hb.transport rfl rfl rfl rfl (fun _ h => covers_upd _ _ _ h)⟩,
        fun h => Bool.noConfusion h⟩
      cases hh
      exact Or.inl ⟨ts, hts, hlt, covers_upd_self _ _⟩
    · exact onRunStep_timer rest c _ o out tmo _ ts hb hts hlt rfl

/-- timer coverage of `_process_action`: started with the back-off covered, a run that does not abort ends
    with the head of the queue covered and the back-off covered -/
theorem processActionF_timer (fuel : Nat) (c : CS) (o : Oracle) (out : List Out) (tmo : Option Time)
    (hb : BackCov c tmo) : TimerPost (processActionF fuel c o out tmo) :=
  processActionF_induct (Inv := fun c _ _ tmo => BackCov c tmo) (Post := TimerPost)
    (fun _ _ _ _ _ hna => Bool.noConfusion hna)
    (fun c o out tmo h => (bodyStep_timer c o out tmo h).1)
    (fun c o out tmo h => (bodyStep_timer c o out tmo h).2) fuel c o out tmo hb

theorem postPollPing_backCov (now : Time) (r : CS × Option Time) (h : BackCov r.1 r.2) :
    BackCov (postPollPing now r).1 (postPollPing now r).2 := by
  rcases postPollPing_cases now r with e | ⟨_, _, e⟩ | e <;> rw [e]
  · exact h.transport rfl rfl rfl rfl (fun _ h => h)
  · exact h.transport rfl rfl rfl rfl (fun _ h => covers_upd _ _ _ h)
  · exact h

theorem postPollReconnect_backCov (r : CS × Bool) : BackCov (postPollReconnect r).1 (postPollReconnect r).2 := by
  unfold postPollReconnect
  split
  · exact reconnectDev_backCov _ _
  · rename_i h
    intro h0
    have h0' : r.1.dev.conn = 0 := h0
    simp [h0'] at h

theorem postPoll_timer (d : Dev) (env : Env) (o : Oracle) : TimerPost (postPoll d env o) := by
  rcases postPoll_cases d env o with ⟨h, e⟩ | ⟨_, e⟩ <;> rw [e]
  · exact fun hna => absurd h (by rw [show (postPollReady d env).1.aborted = false from hna]; exact Bool.false_ne_true)
  · exact processActionF_timer _ _ _ _ _ (postPollPing_backCov _ _ (postPollReconnect_backCov _))

/-! ## what every piece of a pass keeps -/

/-- a registered time-out is never zero -/
def Pos (tmo : Option Time) : Prop := ∀ t, tmo = some t → 0 < t

theorem pos_upd (tmo : Option Time) (left : Time) (h : Pos tmo) (hl : 0 < left) : Pos (upd tmo left) := by
  unfold upd Pos at *
  cases tmo with
  | none => intro t ht; cases ht; exact hl
  | some x =>
    intro t ht; cases ht
    exact Nat.lt_min.mpr ⟨h x rfl, hl⟩

/-- from `(c, tmo)` to `(c', tmo')` the clock of the pass and the device time-out are the same, `retry_count` has not been
    lowered, and the registered time-out is still positive -/
structure PassKeeps (c : CS) (tmo : Option Time) (c' : CS) (tmo' : Option Time) : Prop where
  now : c'.env.now = c.env.now
  timeout : c'.dev.timeout = c.dev.timeout
  retryLe : c.dev.retryCount ≤ c'.dev.retryCount
  pos : Pos tmo → Pos tmo'

theorem PassKeeps.rfl' (c : CS) (tmo : Option Time) : PassKeeps c tmo c tmo := ⟨rfl, rfl, Nat.le_refl _, id⟩
theorem PassKeeps.trans {a b c : CS} {t u v : Option Time} (h1 : PassKeeps a t b u) (h2 : PassKeeps b u c v) :
    PassKeeps a t c v :=
  ⟨h2.now.trans h1.now, h2.timeout.trans h1.timeout, Nat.le_trans h1.retryLe h2.retryLe, fun h => h2.pos (h1.pos h)⟩
theorem SameRetry.passKeeps {c c' : CS} (h : SameRetry c c') (tmo : Option Time) : PassKeeps c tmo c' tmo :=
  ⟨h.now, h.timeout, Nat.le_of_eq h.retryCount.symm, id⟩

theorem headRun_timer (c : CS) (o : Oracle) (a0 : Action) :
    StmtTimer { c.dev with wake := none } (stamp c.env.now a0) (headRun c o a0) := innerLoop_timer ..

/-- every move keeps the clock and the device time-out and does not lower `retry_count` (`_connect` counts an attempt); what it
    registers — the rest of a back-off, of a ping period, of the head's deadline, of a `delay` — is positive -/
theorem _root_.Pm.Dev2.Move.passKeeps {k : Stage} {s s' : PA} (h : Move k s s') : PassKeeps s.1 s.2.2.2 s'.1 s'.2.2.2 := by
  cases h with
  | assert | write | ping | stamp | note | failIdle | fuel => exact ⟨rfl, rfl, Nat.le_refl _, id⟩
  | read c => exact ⟨by rw [read_env], by rw [read_dev], by rw [read_dev]; exact Nat.le_refl _, id⟩
  | finish c _ _ _ h1 =>
    obtain ⟨c1, hw, ⟨_, e⟩ | ⟨_, e⟩⟩ := readyFinish_dev c h1 <;> rw [e]
    · exact hw.sameRetry.passKeeps _
    · exact (hw.sameRetry.passKeeps _).trans ⟨rfl, rfl, Nat.le_refl _, id⟩
  | disconnect c => exact (disconnectDev_retry c).passKeeps _
  | failConn c _ _ tmo =>
    exact .trans (b := failed c) (u := tmo) ⟨rfl, rfl, Nat.le_refl _, id⟩ ((disconnectDev_retry _).passKeeps _)
  | connect _ c _ _ tmo h0 =>
    have hcon := connectDev_cases c h0
    exact ⟨hcon.clock.now, hcon.clock.timeout, by rw [hcon.retryCount]; exact Nat.le_succ _, id⟩
  | wait _ _ _ _ tmo left hl => exact ⟨rfl, rfl, Nat.le_refl _, fun hp => pos_upd _ _ hp hl⟩
  | runAbort c o _ _ a0 _ _ _ _ hr | runDone c o _ _ a0 _ _ _ _ hr | runNext c o _ _ a0 _ _ _ _ hr =>
    subst hr
    exact ⟨rfl, (headRun_timer c o a0).timer.timeout, Nat.le_of_eq (headRun_timer c o a0).timer.retryCount.symm, id⟩
  | runStall c o _ tmo a0 _ _ left _ _ hr _ hl =>
    -- the wake-up of a `delay`, if there is one, and what is left until the deadline are registered
    subst hr
    refine ⟨rfl, (headRun_timer c o a0).timer.timeout, Nat.le_of_eq (headRun_timer c o a0).timer.retryCount.symm,
      fun hp => pos_upd _ _ ?_ hl⟩
    cases hw : (headRun c o a0).dev.wake with
    | none => exact hp
    | some w => exact pos_upd _ _ hp ((headRun_timer c o a0).wake (fun w hw => nomatch hw) w hw)
  | runFail c o _ tmo a0 _ _ _ _ hr =>
    subst hr
    exact .trans (b := failed { c with dev := (headRun c o a0).dev }) (u := tmo)
      ⟨rfl, (headRun_timer c o a0).timer.timeout, Nat.le_of_eq (headRun_timer c o a0).timer.retryCount.symm, id⟩
      ((disconnectDev_retry _).passKeeps _)

/-- a whole `dev_post_poll` pass: the time of the pass and the device's time-out are the same at its end as at its beginning;
    `retry_count` is never lowered (only `dev_enqueue_actions` — a client request on a device that is not CONNECTED — and
    `dev_create` set it to 0); every time-out registered is positive -/
theorem postPoll_passKeeps (d : Dev) (env : Env) (o : Oracle) :
    PassKeeps { dev := d, env := env, sys := [] } none (postPoll d env o).1 (postPoll d env o).2.2.2 :=
  (postPoll_run d env o).related (R := fun s s' => PassKeeps s.1 s.2.2.2 s'.1 s'.2.2.2) (fun _ => .rfl' _ _) PassKeeps.trans
    fun _ _ _ => Move.passKeeps

/-! ## tenure: a head whose deadline has passed is failed, and the whole queue with it -/

theorem stamp_of_stamped (now : Time) (a : Action) (ts : Time) (h : a.timeStamp = some ts) : stamp now a = a := by
  unfold stamp; simp [h]

theorem processActionF_overdue (fuel : Nat) (c : CS) (o : Oracle) (out : List Out) (tmo : Option Time)
    (a0 : Action) (rest : List Action) (ts : Time) (hna : c.aborted = false) (hacts : c.dev.acts = a0 :: rest)
    (hts : a0.timeStamp = some ts) (hdue : c.env.now ≥ ts + c.dev.timeout) :
    processActionF (fuel + 1) c o out tmo =
      failAll rest c { a0 with errnum := Fd.timeoutErr c.dev } o (out ++ Fd.timeoutTele c.dev a0) tmo := by
  rw [← Fd.onTimeout_eq_failAll]
  unfold processActionF processActionBody
  simp only [hna, Bool.false_eq_true, ↓reduceIte, hacts, stamp_of_stamped _ _ _ hts, hts, Option.getD_some]
  rw [if_pos hdue]

/-- before `_process_action` nothing has happened to the device but, perhaps, a ping (`l`, no client's) appended behind the queue -/
structure QuietPre (d : Dev) (env : Env) (l : List Action) : Prop where
  ready : (postPollReady d env).1.aborted = false
  noClient : ∀ x ∈ l, x.clientId = 0
  acts : (postPollPre d env).1.dev.acts = d.acts ++ l
  conn : (postPollPre d env).1.dev.conn = d.conn
  timeout : (postPollPre d env).1.dev.timeout = d.timeout
  sameEnv : (postPollPre d env).1.env = env
  aborted : (postPollPre d env).1.aborted = false

/-- a pass in which `poll` reports nothing for the device (it was woken by the timer, or by somebody else) and the device
    is not NOT_CONNECTED -/
theorem postPollPre_quiet (d : Dev) (env : Env) (hfl : (if d.fd.isSome then env.revents else 0) = 0) (hc : d.conn ≠ 0) :
    ∃ l, QuietPre d env l := by
  have h1 : postPollReady d env = ({ dev := d, env := env, sys := [] }, false) := by
    unfold postPollReady; rw [hfl]; rfl
  have h2 : postPollReconnect (postPollReady d env) = ({ dev := d, env := env, sys := [] }, none) := by
    rw [h1]; unfold postPollReconnect; rw [if_neg (by simpa using hc)]
  have ping : ∀ x ∈ [pingAction d], x.clientId = 0 := fun x hx => by rw [List.mem_singleton.1 hx]; rfl
  have none : ∀ x ∈ ([] : List Action), x.clientId = 0 := fun _ hx => nomatch hx
  have hr : (postPollReady d env).1.aborted = false := by rw [h1]
  suffices h : ∃ l, (∀ x ∈ l, x.clientId = 0) ∧ (postPollPre d env).1.dev.acts = d.acts ++ l ∧ (postPollPre d env).1.dev.conn = d.conn ∧
      (postPollPre d env).1.dev.timeout = d.timeout ∧ (postPollPre d env).1.env = env ∧ (postPollPre d env).1.aborted = false by
    obtain ⟨l, a1, a2, a3, a4, a5, a6⟩ := h; exact ⟨l, hr, a1, a2, a3, a4, a5, a6⟩
  unfold postPollPre
  rw [h2]
  rcases postPollPing_cases env.now ({ dev := d, env := env, sys := [] }, Option.none) with e | ⟨_, _, e⟩ | e <;> rw [e]
  · exact ⟨_, ping, rfl, rfl, rfl, rfl, rfl⟩
  · exact ⟨[], none, (List.append_nil _).symm, rfl, rfl, rfl, rfl⟩
  · exact ⟨[], none, (List.append_nil _).symm, rfl, rfl, rfl, rfl⟩

theorem foldl_add_ge {α : Type} (g : α → Nat) (l : List α) (init : Nat) : init ≤ l.foldl (fun n a => n + g a) init := by
  induction l generalizing init with
  | nil => exact Nat.le_refl _
  | cons x r ih => exact Nat.le_trans (Nat.le_add_right _ _) (ih _)

theorem passFuel_pos (d : Dev) : ∃ n, passFuel d = n + 1 := by
  have : 2 ≤ passFuel d := foldl_add_ge _ _ _
  exact ⟨passFuel d - 1, by omega⟩

/-- tenure, whole pass: the device is not NOT_CONNECTED, `poll` reports nothing for it, and the deadline of the head of
    its queue has passed: the pass fails the whole queue — every client action in it is reported exactly once, and what
    is left in the queue is no client's (nothing, or the login action of a reconnect) -/
theorem postPoll_overdue (d : Dev) (env : Env) (o : Oracle) (a0 : Action) (rest : List Action) (ts : Time)
    (hfl : (if d.fd.isSome then env.revents else 0) = 0) (hc : d.conn ≠ 0)
    (hacts : d.acts = a0 :: rest) (hts : a0.timeStamp = some ts) (hdue : env.now ≥ ts + d.timeout) :
    (∀ cid, cid ≠ 0 → fcount cid (postPoll d env o).2.2.1 = qcount cid d.acts ∧
        qcount cid (postPoll d env o).1.dev.acts = 0) ∧
    ((postPoll d env o).1.aborted = false →
      (postPoll d env o).1.dev.acts = [] ∨ ∃ l, (postPoll d env o).1.dev.acts = [l] ∧ l.com = 0 ∧ l.clientId = 0 ∧
        l.timeStamp = none) := by
  obtain ⟨l, q⟩ := postPollPre_quiet d env hfl hc
  have hl := q.noClient
  rw [postPoll_of_ready d env o q.ready]
  obtain ⟨n, hn⟩ := passFuel_pos (postPollPre d env).1.dev
  rw [hn]
  have hq' : (postPollPre d env).1.dev.acts = a0 :: (rest ++ l) := by rw [q.acts, hacts]; rfl
  rw [processActionF_overdue n _ o [] _ a0 (rest ++ l) ts q.aborted hq' hts (by rw [q.sameEnv, q.timeout]; exact hdue)]
  refine ⟨fun cid hcid => ?_, fun hna => ?_⟩
  · have h1 := failAll_count (rest ++ l) (postPollPre d env).1 { a0 with errnum := Fd.timeoutErr (postPollPre d env).1.dev } o
      ([] ++ Fd.timeoutTele (postPollPre d env).1.dev a0) (postPollPre d env).2 cid hcid
    have h2 := failAll_queue_empty (rest ++ l) (postPollPre d env).1 { a0 with errnum := Fd.timeoutErr (postPollPre d env).1.dev } o
      ([] ++ Fd.timeoutTele (postPollPre d env).1.dev a0) (postPollPre d env).2 cid hcid
    refine ⟨?_, h2⟩
    rw [h2] at h1
    rw [fcount_append, fcount_noFinish cid _ fun x hx => noFinish_of_note (timeoutTele_notes _ _ x hx)] at h1
    have h3 : qcount cid ({ a0 with errnum := Fd.timeoutErr (postPollPre d env).1.dev } :: (rest ++ l)) = qcount cid d.acts := by
      rw [hacts, qcount_cons, qcount_cons, qcount_append, (qcount_zero_iff (acts := l)).2 fun x hx => by rw [hl x hx]; exact hcid.symm]; simp
    rw [h3] at h1
    simpa using h1
  · rcases failAll_queue _ _ _ _ _ _ hna with h | ⟨h, _, _⟩
    · exact Or.inl h
    · exact Or.inr ⟨_, h, rfl, rfl, rfl⟩

/-! ## C12: i/o error, restart after a connect, what a time-out reports, the retry counter -/

theorem reconnectDev_connected (c : CS) (tmo : Option Time) (h : c.dev.conn ≠ 0) :
    ((c.dev.retryCount = 0 ∨ backoffEnd c.dev ≤ c.env.now) ∧
        reconnectDev c tmo = (connectDev (disconnectDev c), tmo)) ∨
    (0 < c.dev.retryCount ∧ c.env.now < backoffEnd c.dev ∧
        reconnectDev c tmo = (disconnectDev c, upd tmo (backoffEnd c.dev - c.env.now))) := by
  have hr := disconnectDev_retry c
  have hb : backoffEnd (disconnectDev c).dev = backoffEnd c.dev := by unfold backoffEnd; rw [hr.retryCount, hr.lastRetry]
  obtain ⟨c1, hc1, _, hc⟩ := reconnectDev_cases c tmo
  rw [if_pos (by simpa using h)] at hc1
  subst hc1
  rw [hb, hr.retryCount, hr.now] at hc
  exact hc

theorem readyRdC_ioerr (c : CS) :
    (Tel.readyRd (clipRead c)).2 = true ↔ (c.env.read = some none ∨ c.env.read = some (some [])) := by
  unfold Tel.readyRd
  cases hr : c.env.read with
  | none => rw [clipRead_read_none c hr, hr]; simp
  | some x =>
    cases x with
    | none => rw [clipRead_read_err c hr]; simp
    | some bs =>
      rw [clipRead_read_data c bs hr]
      cases bs with
      | nil => simp [readOf_nil]
      | cons b r =>
        have := readOf_ne_nil c.dev (b :: r) (by simp)
        cases hh : readOf c.dev (b :: r) with
        | nil => exact absurd hh this
        | cons _ _ => simp

/-- what the two halves of `_handle_ready_device` leave alone on a device that stays CONNECTED: the queue, the connection
    state, the descriptor, the child, the transport kind, the login flag; and nothing is aborted -/
structure SameLine (c c' : CS) : Prop where
  acts : c'.dev.acts = c.dev.acts
  conn : c'.dev.conn = c.dev.conn
  fd : c'.dev.fd = c.dev.fd
  cpid : c'.dev.cpid = c.dev.cpid
  isPipe : c'.dev.isPipe = c.dev.isPipe
  loggedIn : c'.dev.loggedIn = c.dev.loggedIn
  aborted : c'.aborted = c.aborted

theorem SameLine.rfl' (c : CS) : SameLine c c := ⟨rfl, rfl, rfl, rfl, rfl, rfl, rfl⟩
theorem SameLine.trans {a b c : CS} (h1 : SameLine a b) (h2 : SameLine b c) : SameLine a c :=
  ⟨h2.acts.trans h1.acts, h2.conn.trans h1.conn, h2.fd.trans h1.fd, h2.cpid.trans h1.cpid, h2.isPipe.trans h1.isPipe,
   h2.loggedIn.trans h1.loggedIn, h2.aborted.trans h1.aborted⟩

theorem readyWrite_spec (c : CS) (h1 : c.dev.conn ≠ 1) :
    ((Tel.readyWrite c).2.1 = true ↔
      ((c.env.revents &&& 2 != 0) = true ∧ (c.dev.toBuf.isEmpty = true ∨ c.env.writeOk = false ∨ c.env.wcap = 0))) ∧
    (Tel.readyWrite c).2.2 = false ∧ (Tel.readyWrite c).1.env = c.env ∧ SameLine c (Tel.readyWrite c).1 := by
  unfold Tel.readyWrite
  dsimp only
  cases hO : (c.env.revents &&& 2 != 0)
  · exact ⟨by simp, rfl, rfl, .rfl' c⟩
  rw [if_pos rfl, if_neg (by simpa using h1)]
  cases hE : c.dev.toBuf.isEmpty
  · cases hW : c.env.writeOk
    · exact ⟨by simp, rfl, rfl, ⟨rfl, rfl, rfl, rfl, rfl, rfl, rfl⟩⟩
    · by_cases hC : c.env.wcap = 0
      · simp only [hC]; exact ⟨by simp, rfl, rfl, ⟨rfl, rfl, rfl, rfl, rfl, rfl, rfl⟩⟩
      · have : (c.env.wcap == 0) = false := by simpa using hC
        simp only [this]
        exact ⟨by simp [hC], rfl, rfl, ⟨rfl, rfl, rfl, rfl, rfl, rfl, rfl⟩⟩
  · exact ⟨by simp, rfl, rfl, ⟨rfl, rfl, rfl, rfl, rfl, rfl, rfl⟩⟩

theorem readyRd_err (c : CS) (he : (Tel.readyRd c).2 = true) : ∃ n, (Tel.readyRd c).1 = { c with sys := c.sys ++ [.read n] } := by
  revert he
  unfold Tel.readyRd
  cases c.env.read with
  | none => intro he; cases he
  | some x =>
    cases x with
    | none => intro _; exact ⟨_, rfl⟩
    | some bs =>
      dsimp only
      split
      · intro _; exact ⟨_, rfl⟩
      · intro he; cases he

theorem readyRdC_sameLine (c : CS) (he : (Tel.readyRd (clipRead c)).2 = true) : SameLine c (Tel.readyRd (clipRead c)).1 := by
  obtain ⟨n, hn⟩ := readyRd_err _ he
  rw [hn]
  exact ⟨clipRead_acts c, clipRead_conn c, clipRead_fd c, clipRead_cpid c, clipRead_isPipe c, clipRead_loggedIn c, clipRead_aborted c⟩

/-- `_handle_ready_device` on a CONNECTED device holding a descriptor: a hang-up is an error; else the write half on POLLOUT,
    then the read half on POLLIN unless the write half reported an error.  When it reports an i/o error (`wcap = 0`: the `write`
    answers `EAGAIN`), and what it leaves of the device then -/
theorem handleReady_connected (c : CS) (h2 : c.dev.conn = 2) (hfd : c.dev.fd.isSome = true) :
    ((handleReady c).2 = true ↔
      (c.env.revents &&& 4 != 0 || c.env.revents &&& 8 != 0 || c.env.revents &&& 16 != 0) = true ∨
      ((c.env.revents &&& 2 != 0) = true ∧ (c.dev.toBuf.isEmpty = true ∨ c.env.writeOk = false ∨ c.env.wcap = 0)) ∨
      ((c.env.revents &&& 1 != 0) = true ∧ (c.env.read = some none ∨ c.env.read = some (some [])))) ∧
    ((handleReady c).2 = true → SameLine c (handleReady c).1) := by
  rw [Tel.handleReady_eq, if_neg (by rw [h2]; decide), if_neg (by cases h : c.dev.fd <;> simp_all)]
  by_cases hH : (c.env.revents &&& 4 != 0 || c.env.revents &&& 8 != 0 || c.env.revents &&& 16 != 0) = true
  · rw [if_pos hH]; exact ⟨⟨fun _ => .inl hH, fun _ => rfl⟩, fun _ => .rfl' c⟩
  rw [if_neg hH]
  obtain ⟨w1, w2, w3, w4⟩ := readyWrite_spec c (by rw [h2]; decide)
  generalize Tel.readyWrite c = r at w1 w2 w3 w4 ⊢
  by_cases hw : r.2.1 = true
  · rw [if_pos hw]; exact ⟨⟨fun _ => .inr (.inl (w1.1 hw)), fun _ => rfl⟩, fun _ => w4⟩
  rw [if_neg hw, if_neg (by rw [w2]; decide)]
  have hw' : ¬((c.env.revents &&& 2 != 0) = true ∧ (c.dev.toBuf.isEmpty = true ∨ c.env.writeOk = false ∨ c.env.wcap = 0)) :=
    fun h => hw (w1.2 h)
  unfold Tel.readyRead
  by_cases hI : (c.env.revents &&& 1 != 0) = true
  · rw [if_pos hI]
    have hio := readyRdC_ioerr r.1
    rw [w3] at hio
    exact ⟨⟨fun h => .inr (.inr ⟨hI, hio.1 h⟩), fun h => hio.2 ((h.resolve_left hH).resolve_left hw').2⟩,
      fun he => w4.trans (readyRdC_sameLine r.1 he)⟩
  · rw [if_neg hI]
    exact ⟨⟨fun h => Bool.noConfusion h, fun h => absurd ((h.resolve_left hH).resolve_left hw').1 hI⟩, fun h => Bool.noConfusion h⟩

theorem enqueueLogin_acts (d : Dev) :
    (enqueueLogin d).acts = loginAction d :: (match d.acts with | a :: r => rewind a :: r | [] => []) := rfl

/-- `_rewind_action` keeps the time stamp: the restarted action does not get a new deadline -/
theorem rewind_timeStamp (a : Action) : (rewind a).timeStamp = a.timeStamp := by
  unfold rewind; split <;> rfl
theorem rewind_arglist (a : Action) : (rewind a).arglist = a.arglist := by
  unfold rewind; split <;> rfl

/-- the other place where a connect completes: `_handle_ready_device` on a CONNECTING device (`tcp_finish_connect`).
    If the device is CONNECTED afterwards the queue is the one `_enqueue_login` makes of the queue before -/
theorem handleReady_connects (c : CS) (h1 : c.dev.conn = 1) (h2 : (handleReady c).1.dev.conn = 2) :
    (handleReady c).1.dev.acts = (enqueueLogin c.dev).acts := by
  -- every move of `_handle_ready_device` but a completed connect leaves the device CONNECTING with its queue and scripts
  have key := handleReady_keeps
    (I := fun d => (d.conn = 1 ∧ d.acts = c.dev.acts ∧ d.scripts = c.dev.scripts) ∨
      (d.conn ≠ 1 ∧ (d.conn = 2 → d.acts = (enqueueLogin c.dev).acts)))
    (fun {s s'} hm hi => by
      cases hm with
      | assert | write => exact hi
      | read c' => rw [read_dev]; exact hi
      | finish c' _ _ _ h1' =>
        obtain ⟨_, ha, hs⟩ := hi.resolve_right fun h => h.1 h1'
        obtain ⟨c1, hw, ⟨hc, e⟩ | ⟨hc, e⟩⟩ := readyFinish_dev c' h1' <;> rw [e]
        · by_cases hc1 : c1.dev.conn = 1
          · exact .inl ⟨hc1, hw.dev.acts.trans ha, hw.dev.scripts.trans hs⟩
          · exact .inr ⟨hc1, fun h => absurd h hc⟩
        · refine .inr ⟨by rw [show (enqueueLogin c1.dev).conn = c1.dev.conn from rfl, hc]; decide, fun _ => ?_⟩
          show (enqueueLogin c1.dev).acts = _
          unfold enqueueLogin loginAction
          rw [hw.dev.acts, ha, hw.dev.scripts, hs])
    c (.inl ⟨h1, rfl, rfl⟩)
  rcases key with ⟨h, _⟩ | ⟨_, h⟩
  · rw [h] at h2; cases h2
  · exact h h2

theorem onTimeout_out (rest : List Action) (c : CS) (a : Action) (o : Oracle) (out : List Out) (tmo : Option Time) :
    (onTimeout rest c a o out tmo).2.2.1 =
      out ++ Fd.timeoutTele c.dev a ++ (headFin a (Fd.timeoutErr c.dev) ++ restFin rest (Fd.timeoutErr c.dev)) := by
  rw [Fd.onTimeout_eq_failAll, failAll_reports]
  rfl

theorem timeoutErr_cases (d : Dev) :
    (d.conn ≠ 2 → Fd.timeoutErr d = .connectTimeout) ∧
    (d.conn = 2 → d.loggedIn = false → Fd.timeoutErr d = .loginTimeout) ∧
    (d.conn = 2 → d.loggedIn = true → Fd.timeoutErr d = .expfail) := by
  unfold Fd.timeoutErr
  refine ⟨fun h => by simp [h], fun h1 h2 => by simp [h1, h2], fun h1 h2 => by simp [h1, h2]⟩

theorem enqueue_retryCount (d : Dev) (com : Nat) (targets : List Bytes) (cid : Nat) (tele : Bool) (al : Nat) :
    (Pm.Daemon.enqueue d com targets cid tele al).1.retryCount = d.retryCount ∧
    (Pm.Daemon.enqueue d com targets cid tele al).1.conn = d.conn :=
  ⟨(congrArg Dev.retryCount (enqueue_soft d com targets cid tele al).eq :), (enqueue_soft d com targets cid tele al).sameFd.conn⟩

/-- the one place where `retry_count` is reset (`dev_enqueue_actions`, here the per-device step of `install`): exactly
    when the request put at least one action on a device that is not CONNECTED -/
theorem installStep_retryCount (com : Nat) (bnames : List Bytes) (cid : Nat) (tele : Bool) (al : Nat)
    (acc : List (Bytes × Dev) × Nat) (nd : Bytes × Dev) :
    ∃ d', (installStep com bnames cid tele al acc nd).1 = acc.1 ++ [(nd.1, d')] ∧
      d'.retryCount = (if (Pm.Daemon.enqueue nd.2 com bnames cid tele al).2 > 0 ∧ nd.2.conn ≠ 2 then 0 else nd.2.retryCount) := by
  unfold installStep
  have he := enqueue_retryCount nd.2 com bnames cid tele al
  generalize Pm.Daemon.enqueue nd.2 com bnames cid tele al = e at *
  obtain ⟨d1, n⟩ := e
  simp only at he ⊢
  refine ⟨_, rfl, ?_⟩
  by_cases h : n > 0 ∧ nd.2.conn ≠ 2
  · have : (decide (n > 0) && d1.conn != 2) = true := by simp [he.2, h.1, h.2]
    simp only [this, ↓reduceIte, if_pos h]
  · have : (decide (n > 0) && d1.conn != 2) = false := by
      rw [he.2]
      cases hn : decide (n > 0) <;> simp_all
    simp only [this, Bool.false_eq_true, ↓reduceIte, if_neg h, he.1]

/-! ### recovery: a fresh client action on a healthy device -/

/-- the device is CONNECTED, `poll` reports nothing for it, its queue holds exactly the unstamped action `a`, its
    time-out is positive: the first iteration of `_process_action` in this pass runs the statement interpreter on `a`
    stamped with the time of the pass — nothing else of the device state enters the choice -/
theorem recover_speaker (d : Dev) (env : Env) (a : Action) (h2 : d.conn = 2) (hq : d.acts = [a])
    (hts : a.timeStamp = none) (hto : 0 < d.timeout) (hfl : (if d.fd.isSome then env.revents else 0) = 0) :
    (postPollReady d env).1.aborted = false ∧
    speaker (postPollPre d env).1 = some { a with timeStamp := some env.now } := by
  obtain ⟨l, q⟩ := postPollPre_quiet d env hfl (by omega)
  refine ⟨q.ready, ?_⟩
  unfold speaker
  have hst : stamp env.now a = { a with timeStamp := some env.now } := by unfold stamp; simp [hts]
  simp only [q.aborted, Bool.false_eq_true, ↓reduceIte, q.acts, hq, List.cons_append, q.sameEnv, hst, Option.getD_some, q.timeout, q.conn, h2]
  have : ¬ env.now ≥ env.now + d.timeout := by unfold Time at *; omega
  simp [this]

/-- … and if the interpreter stalls on it (an `expect` whose answer has not come, a `send` not yet flushed, a `delay`),
    the pass ends with that action at the head carrying the time stamp of this pass -/
theorem recover_stalled (d : Dev) (env : Env) (o : Oracle) (a : Action) (h2 : d.conn = 2) (hq : d.acts = [a])
    (hts : a.timeStamp = none) (hto : 0 < d.timeout) (hfl : (if d.fd.isSome then env.revents else 0) = 0)
    (hst : (innerLoop env.now (loopBound { a with timeStamp := some env.now }) { (postPollPre d env).1.dev with wake := none }
        { a with timeStamp := some env.now } o []).finished = false) :
    ∃ h r, (postPoll d env o).1.dev.acts = h :: r ∧ h.timeStamp = some env.now ∧ h.clientId = a.clientId ∧ h.com = a.com := by
  obtain ⟨hr, hsp⟩ := recover_speaker d env a h2 hq hts hto hfl
  obtain ⟨l, q⟩ := postPollPre_quiet d env hfl (by omega)
  have henv := q.sameEnv
  rw [postPoll_of_ready d env o hr]
  obtain ⟨n, hn⟩ := passFuel_pos (postPollPre d env).1.dev
  rw [hn, processActionF_succ]
  have hst' : (innerLoop (postPollPre d env).1.env.now (loopBound { a with timeStamp := some env.now })
      { (postPollPre d env).1.dev with wake := none } { a with timeStamp := some env.now } o []).finished = false := by
    rw [henv]; exact hst
  obtain ⟨hb1, hb2⟩ := bodyStep_stalled (postPollPre d env).1 o [] (postPollPre d env).2 _ hsp hst'
  unfold andThen
  simp only [hb1, Bool.false_eq_true, ↓reduceIte]
  refine ⟨_, _, hb2, ?_, ?_, ?_⟩
  · rw [(innerLoop_timer _ _ _ _ _ _).stamp]
  · rw [(innerLoop_writes _ _ _ _ _ [] fun _ h => nomatch h).clientId]
  · rw [(innerLoop_writes _ _ _ _ _ [] fun _ h => nomatch h).com]

/-! ## concrete devices for the non-vacuity examples and the counterexamples of `Props/C04` -/
namespace Ex

/-- a client action (client 1, script 7) that became head of the queue at time 0 -/
def ctx1 : ExecCtx := { block := [Stmt.expect 1], pos := 0, plugs := none, plugItr := none, plugCopy := none, processing := false }
def act1 : Action := { loginAction Fd.exDev with com := 7, clientId := 1, timeStamp := some 0, exec := [ctx1] }
/-- the same for client 2, never looked at yet -/
def act2 : Action := { act1 with clientId := 2, timeStamp := none }
/-- a connected, logged-in coprocess device (time-out 1 s) with two client actions queued -/
def pipeBusy : Dev := { Fd.exPipe with acts := [act1, act2] }
/-- a connected, logged-in tcp device with the same queue -/
def tcpBusy : Dev := { Fd.exTcp with acts := [act1, act2] }
/-- a tcp device that is not connected (no attempt made yet), same queue -/
def tcpDown : Dev := { Fd.exDev with acts := [act1, act2] }
/-- a tcp device that is not connected, with nothing queued -/
def tcpIdle : Dev := Fd.exDev
/-- no poll event; 0.4 s after the head was stamped; the kernel has answers for one reconnect (which goes through at once
    for the coprocess) -/
def envEarly : Env :=
  { now := 400000, revents := 0, sockets := [2001], connects := [2], soerrs := [], read := none, writeOk := true,
    pairs := [3002], pids := [5001] }
/-- the same 2 s after the head was stamped: its deadline (1 s) has passed -/
def envLate : Env := { envEarly with now := 2000000 }

end Ex

end Pm.Dev2.Timer
