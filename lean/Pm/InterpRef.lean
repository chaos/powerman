import Pm.Dev2Stmt
import Pm.Dev2Login2
/-! C08, section A: what each `_process_*` of `device.c` does, one statement kind at a time, for a context `e` that need not be
    the top of the action's stack.  The outcomes are the constructors of `Step`, read through the `_sound` lemmas of
    `Pm/Dev2Stmt.lean`; where `Step` needs `e` to be the top (re-entry of `send` and `delay`), or is indexed by a statement where
    C08 speaks of a body and a flag (`foreach`, `if`), the cuts `stmtSend'`, `stmtDelay'`, `stmtIf'`, `stmtForeach'` are evaluated under
    the hypothesis at hand.  Besides: the payloads of a run (`sents`), the interpretation lists (`pickFirst`), the iterator
    (`nextPlug_spec`, `visitFrom`) and the lemmas about `setTop`, `getArgs`, `setArgs`. -/
namespace Pm.Dev2.Interp

/-- payloads of the `Out.sent` records, in order -/
def sents : List Out → List Bytes
  | [] => []
  | .sent b :: r => b :: sents r
  | _ :: r => sents r

/-- the same list as `Login2.sentsOf` (C10) -/
theorem sents_eq_sentsOf (l : List Out) : sents l = Login2.sentsOf l := by
  induction l with
  | nil => rfl
  | cons x r ih => cases x <;> simp [sents, Login2.sentsOf, ih]

@[simp] theorem sents_nil : sents [] = [] := rfl
@[simp] theorem sents_append (a b : List Out) : sents (a ++ b) = sents a ++ sents b := by
  simp only [sents_eq_sentsOf, Login2.sentsOf_append]

theorem sents_notes {cid : Nat} {l : List Out} (h : ∀ x ∈ l, noteTo cid x = true) : sents l = [] :=
  (sents_eq_sentsOf l).trans (Login2.sentsOf_notes l fun x hx => noteTo_note (h x hx))

theorem sendTele_below (d : Dev) (tele : Bool) (cid : Nat) (s : Bytes) (h : (d.toBuf ++ s).length ≤ 65536) :
    sendTele d tele cid s = if tele then teleMem cid "send(dev): '" s else [] := by
  unfold sendTele; rw [toOverrun_false_of_le _ _ h]; rfl

theorem sendTele_overrun (d : Dev) (tele : Bool) (cid : Nat) (s : Bytes) (h : toOverrun d.toBuf s = true) :
    sendTele d tele cid s = [] := by
  unfold sendTele; rw [h]; rfl

theorem sents_sendTele (d : Dev) (tele : Bool) (cid : Nat) (s : Bytes) : sents (sendTele d tele cid s) = [] :=
  sents_notes (cid := cid) (notes_ite notes_nil (notes_ite (teleMem_to _ _ _) notes_nil))

/-- first visit of a `send` whose text is `s`: the text is queued behind what is queued (`clipTo`: beyond 65536 bytes the
    oldest queued bytes give way), reported as sent, and — unless the write overran the buffer — shown to a telemetry client -/
theorem stmtSend_fresh (d : Dev) (a : Action) (o : Oracle) (e : ExecCtx) (fmt : Bytes) (s : Bytes)
    (hp : e.processing = false) (hs : sendText fmt e.plugs = some s) :
    stmtSend d a o e fmt =
      ⟨{ d with toBuf := clipTo (d.toBuf ++ s) }, setTop a { e with processing := !(d.toBuf ++ s).isEmpty }, o,
       [Out.sent s] ++ sendTele d a.telemetry a.clientId s, (d.toBuf ++ s).isEmpty⟩ :=
  send_sound (now := 0) (.sendFresh fmt s hp hs) rfl fun h => nomatch hp.symm.trans h

/-- below the limit the text is appended: the explicit no-overflow hypothesis -/
theorem stmtSend_fresh_below (d : Dev) (a : Action) (o : Oracle) (e : ExecCtx) (fmt : Bytes) (s : Bytes)
    (hp : e.processing = false) (hs : sendText fmt e.plugs = some s) (hfit : (d.toBuf ++ s).length ≤ 65536) :
    (stmtSend d a o e fmt).dev = { d with toBuf := d.toBuf ++ s } ∧ (stmtSend d a o e fmt).oracle = o ∧
    (stmtSend d a o e fmt).out = [Out.sent s] ++ (if a.telemetry then teleMem a.clientId "send(dev): '" s else []) ∧
    (stmtSend d a o e fmt).finished = (d.toBuf ++ s).isEmpty ∧
    (stmtSend d a o e fmt).act = setTop a { e with processing := !(d.toBuf ++ s).isEmpty } := by
  rw [stmtSend_fresh d a o e fmt s hp hs, clipTo_of_le _ hfit, sendTele_below _ _ _ _ hfit]
  exact ⟨rfl, rfl, rfl, rfl, rfl⟩

theorem stmtSend_fresh_abort (d : Dev) (a : Action) (o : Oracle) (e : ExecCtx) (fmt : Bytes)
    (hp : e.processing = false) (hs : sendText fmt e.plugs = none) :
    stmtSend d a o e fmt = ⟨d, a, o, [.abortAssert "hostlist_sort assert in _process_send"], true⟩ :=
  send_sound (now := 0) (.sendAbort fmt hp hs) rfl fun h => nomatch hp.symm.trans h

theorem stmtSend_reentry (d : Dev) (a : Action) (o : Oracle) (e : ExecCtx) (fmt : Bytes)
    (hp : e.processing = true) :
    stmtSend d a o e fmt =
      ⟨d, if d.toBuf.isEmpty then setTop a { e with processing := false } else a, o, [], d.toBuf.isEmpty⟩ := by
  rw [stmtSend_eq]; unfold stmtSend'
  simp only [hp, Bool.not_true, Bool.false_eq_true, ↓reduceIte]
  split <;> simp_all

theorem stmtSend_finished (d : Dev) (a : Action) (o : Oracle) (e : ExecCtx) (fmt : Bytes)
    (h : (stmtSend d a o e fmt).finished = true) :
    (stmtSend d a o e fmt).dev.toBuf = [] ∨ hasAbort (stmtSend d a o e fmt).out = true := by
  cases hp : e.processing with
  | true =>
    rw [stmtSend_reentry d a o e fmt hp] at h ⊢
    exact .inl (List.isEmpty_iff.mp h)
  | false =>
    cases hs : sendText fmt e.plugs with
    | none => rw [stmtSend_fresh_abort d a o e fmt hp hs]; exact .inr rfl
    | some s =>
      rw [stmtSend_fresh d a o e fmt s hp hs] at h ⊢
      rw [List.isEmpty_iff.mp h]; exact .inl rfl

theorem stmtExpect_act (d : Dev) (a : Action) (o : Oracle) (pat : Nat) : (stmtExpect d a o pat).act = a := by
  obtain ⟨r, h⟩ := Step.total d a o 0 (topCtx a) [] (.expect pat)
  rw [expect_sound h]; cases h <;> first | rfl | contradiction

theorem stmtExpect_empty (d : Dev) (a : Action) (o : Oracle) (pat : Nat) (h : d.fromBuf = []) :
    stmtExpect d a o pat = ⟨recycle d, a, o, [], false⟩ :=
  expect_sound (now := 0) (e := topCtx a) (rest := []) (.expectEmpty pat h)

theorem stmtExpect_nomatch (d : Dev) (a : Action) (o : Oracle) (pat : Nat) (h : d.fromBuf ≠ [])
    (hm : (askRx o pat (rxSubject d.fromBuf)).2.1 = none) :
    stmtExpect d a o pat = ⟨{ recycle d with xmUsed := true }, a, (askRx o pat (rxSubject d.fromBuf)).1,
      (askRx o pat (rxSubject d.fromBuf)).2.2, false⟩ :=
  expect_sound (now := 0) (e := topCtx a) (rest := []) (.expectNo pat h hm)

theorem stmtExpect_match (d : Dev) (a : Action) (o : Oracle) (pat : Nat) (offs : List (Int × Int)) (h : d.fromBuf ≠ [])
    (hm : (askRx o pat (rxSubject d.fromBuf)).2.1 = some offs) :
    stmtExpect d a o pat =
      ⟨{ d with xmUsed := true, xmResult := true, xmStr := some (rxSubject d.fromBuf), xmOffs := offs,
                fromBuf := d.fromBuf.drop (offs.headD (0, 0)).2.toNat }, a, (askRx o pat (rxSubject d.fromBuf)).1,
       (askRx o pat (rxSubject d.fromBuf)).2.2 ++
         (if a.telemetry then teleMem a.clientId "recv(dev): '" ((rxSubject d.fromBuf).take (offs.headD (0, 0)).2.toNat) else []),
       true⟩ :=
  expect_sound (now := 0) (e := topCtx a) (rest := []) (.expectYes pat offs h hm)

theorem stmtExpect_finished_iff (d : Dev) (a : Action) (o : Oracle) (pat : Nat) :
    (stmtExpect d a o pat).finished = true ↔
      d.fromBuf ≠ [] ∧ ((askRx o pat (rxSubject d.fromBuf)).2.1).isSome = true := by
  by_cases h : d.fromBuf = []
  · simp [stmtExpect_empty d a o pat h, h]
  · cases hm : (askRx o pat (rxSubject d.fromBuf)).2.1 with
    | none => simp [stmtExpect_nomatch d a o pat h hm]
    | some offs => simp [stmtExpect_match d a o pat offs h hm, h]

/-- an answer that raised no `rxMismatch` is the recorded answer to exactly this question -/
theorem askRx_honest (o : Oracle) (pat : Nat) (s : Bytes) (h : (askRx o pat s).2.2 = []) :
    ∃ c rest, o.calls = c :: rest ∧ c.pat = pat ∧ c.subject = s ∧ (askRx o pat s).2.1 = c.answer ∧
      (askRx o pat s).1 = { calls := rest } := by
  unfold askRx at *
  cases hc : o.calls with
  | nil => simp [hc] at h
  | cons c rest =>
    simp only [hc] at h ⊢
    by_cases hq : (c.pat == pat && c.subject == s) = true
    · simp only [hq, ↓reduceIte]
      simp only [Bool.and_eq_true, beq_iff_eq] at hq
      exact ⟨c, rest, rfl, hq.1, hq.2, rfl, rfl⟩
    · simp [hq] at h

/-- did `_process_stmt` push a context? -/
def pushed (d : Dev) (a : Action) (o : Oracle) (now : Time) : Bool :=
  (processStmt d a o now).finished && decide ((processStmt d a o now).act.exec.length > a.exec.length)

/-- a statement that pushed nothing ends the `do … while` -/
theorem innerLoop_nopush (now : Time) (fuel : Nat) (d : Dev) (a : Action) (o : Oracle) (acc : List Out)
    (h : pushed d a o now = false) :
    innerLoop now fuel d a o acc = { processStmt d a o now with out := acc ++ (processStmt d a o now).out } := by
  cases fuel with
  | zero => rfl
  | succ f => rw [innerLoop]; unfold pushed at h; simp only [h, Bool.false_eq_true, ↓reduceIte]

/-- so does a statement that did not finish -/
theorem innerLoop_stalled (now : Time) (fuel : Nat) (d : Dev) (a : Action) (o : Oracle) (acc : List Out)
    (h : (processStmt d a o now).finished = false) :
    innerLoop now fuel d a o acc = { processStmt d a o now with out := acc ++ (processStmt d a o now).out } :=
  innerLoop_nopush now fuel d a o acc (by unfold pushed; rw [h]; rfl)

theorem onRun_stalled_acts (k : CS → Oracle → List Out → Option Time → PA) (rest : List Action) (c : CS) (a : Action)
    (o : Oracle) (out : List Out) (tmo : Option Time) (left : Time)
    (h : (processStmt { c.dev with wake := none } a o c.env.now).finished = false) :
    (onRun k rest c a o out tmo left).1.dev.acts = (processStmt { c.dev with wake := none } a o c.env.now).act :: rest ∧
    (onRun k rest c a o out tmo left).2.1 = (processStmt { c.dev with wake := none } a o c.env.now).oracle ∧
    (onRun k rest c a o out tmo left).2.2.1 = out ++ (processStmt { c.dev with wake := none } a o c.env.now).out := by
  unfold onRun
  simp only [innerLoop_stalled _ _ _ _ _ _ h, List.nil_append]
  generalize processStmt { c.dev with wake := none } a o c.env.now = r at *
  split
  · simp
  · simp [h]

theorem processStmt_expect (d : Dev) (a : Action) (o : Oracle) (now : Time) (pat : Nat)
    (hcur : (topCtx a).block[(topCtx a).pos]? = some (.expect pat)) :
    processStmt d a o now = stmtExpect d a o pat := by
  unfold processStmt; simp only [hcur]

/-- while the expect at the head of the block has not matched, a whole trip of `_process_action` leaves the action
    exactly as it was: same stack, same position -/
theorem onRun_expect_waits (k : CS → Oracle → List Out → Option Time → PA) (rest : List Action) (c : CS) (a : Action)
    (o : Oracle) (out : List Out) (tmo : Option Time) (left : Time) (pat : Nat)
    (hcur : (topCtx a).block[(topCtx a).pos]? = some (.expect pat))
    (h : (stmtExpect { c.dev with wake := none } a o pat).finished = false) :
    (onRun k rest c a o out tmo left).1.dev.acts = a :: rest := by
  have hp := processStmt_expect { c.dev with wake := none } a o c.env.now pat hcur
  have := (onRun_stalled_acts k rest c a o out tmo left (by rw [hp]; exact h)).1
  rw [this, hp, stmtExpect_act]

@[simp] theorem topCtx_setTop (a : Action) (e : ExecCtx) : topCtx (setTop a e) = e := rfl
@[simp] theorem setTop_delayStart (a : Action) (e : ExecCtx) : (setTop a e).delayStart = a.delayStart := rfl
@[simp] theorem setTop_errnum (a : Action) (e : ExecCtx) : (setTop a e).errnum = a.errnum := rfl
@[simp] theorem setTop_com (a : Action) (e : ExecCtx) : (setTop a e).com = a.com := rfl
@[simp] theorem setTop_arglist (a : Action) (e : ExecCtx) : (setTop a e).arglist = a.arglist := rfl
@[simp] theorem setTop_telemetry (a : Action) (e : ExecCtx) : (setTop a e).telemetry = a.telemetry := rfl
@[simp] theorem setTop_timeStamp (a : Action) (e : ExecCtx) : (setTop a e).timeStamp = a.timeStamp := rfl
@[simp] theorem setTop_cid (a : Action) (e : ExecCtx) : (setTop a e).clientId = a.clientId := rfl
@[simp] theorem setTop_uid (a : Action) (e : ExecCtx) : (setTop a e).uid = a.uid := rfl
@[simp] theorem setTop_exec (a : Action) (e : ExecCtx) : (setTop a e).exec = e :: a.exec.drop 1 := rfl
@[simp] theorem setTop_setTop (a : Action) (e e' : ExecCtx) : setTop (setTop a e) e' = setTop a e' := rfl

theorem stmtDelay_delayStart (d : Dev) (a : Action) (o : Oracle) (e : ExecCtx) (now us : Time) :
    (stmtDelay d a o e now us).act.delayStart = (if e.processing then a.delayStart else now) := by
  rw [stmtDelay_eq]; unfold stmtDelay' stmtDelayTail
  by_cases hp : e.processing = true
  · simp only [hp, Bool.not_true, Bool.false_eq_true, ↓reduceIte]; split <;> rfl
  · have hp' : e.processing = false := by simpa using hp
    simp only [hp', Bool.not_false, ↓reduceIte]; split <;> rfl

theorem stmtDelay_finished_iff (d : Dev) (a : Action) (o : Oracle) (e : ExecCtx) (now us : Time) :
    (stmtDelay d a o e now us).finished = true ↔
      (d.shortCircuitDelay = true ∨ now ≥ (stmtDelay d a o e now us).act.delayStart + us) := by
  rw [stmtDelay_delayStart]
  rw [stmtDelay_eq]; unfold stmtDelay' stmtDelayTail
  by_cases hp : e.processing = true
  · simp only [hp, Bool.not_true, Bool.false_eq_true, ↓reduceIte]; split <;> simp_all
  · have hp' : e.processing = false := by simpa using hp
    simp only [hp', Bool.not_false, ↓reduceIte]; split <;> simp_all

/-- the first entry of a delay that is really a delay (`us > 0`, no short circuit) never finishes it -/
theorem stmtDelay_first_entry_waits (d : Dev) (a : Action) (o : Oracle) (e : ExecCtx) (now us : Time)
    (hp : e.processing = false) (hs : d.shortCircuitDelay = false) (hus : 0 < us) :
    (stmtDelay d a o e now us).finished = false ∧
    (stmtDelay d a o e now us).act = setTop { a with delayStart := now } { e with processing := true } := by
  rw [stmtDelay_eq]; unfold stmtDelay' stmtDelayTail
  have : ¬ now ≥ now + us := by unfold Time at *; omega
  simp [hp, hs, this]

/-- a delay neither reads nor writes the device buffers and asks the oracle nothing -/
theorem stmtDelay_frame (d : Dev) (a : Action) (o : Oracle) (e : ExecCtx) (now us : Time) :
    (stmtDelay d a o e now us).oracle = o ∧ (stmtDelay d a o e now us).dev.toBuf = d.toBuf ∧
    (stmtDelay d a o e now us).dev.fromBuf = d.fromBuf ∧ (stmtDelay d a o e now us).dev.args = d.args ∧
    sents (stmtDelay d a o e now us).out = [] := by
  have ht : sents (delayTele a us) = [] := by
    unfold delayTele
    split <;> rfl
  rw [stmtDelay_eq]; unfold stmtDelay' stmtDelayTail
  split <;> split <;> simp [ht]

theorem stmtIf_frame (d : Dev) (a : Action) (o : Oracle) (e : ExecCtx) (body : List Stmt) (wantOn : Bool) :
    (stmtIf d a o e body wantOn).dev = d ∧ (stmtIf d a o e body wantOn).oracle = o ∧
    (stmtIf d a o e body wantOn).out = [] ∧ (stmtIf d a o e body wantOn).finished = true := by
  rw [stmtIf_eq]; unfold stmtIf'
  split
  · simp
  · split
    · simp
    · split <;> simp

/-- returning from the body: the flag is cleared, nothing else happens -/
theorem stmtIf_return (d : Dev) (a : Action) (o : Oracle) (e : ExecCtx) (body : List Stmt) (wantOn : Bool)
    (hp : e.processing = true) :
    (stmtIf d a o e body wantOn).act = setTop a { e with processing := false } := by
  rw [stmtIf_eq]; unfold stmtIf'; simp [hp]

/-- an `if` that is evaluated: the body is pushed, with the context's plugs, when the condition holds; an unknown state
    fails the action; the other known state leaves it as it is -/
theorem stmtIf_fresh (d : Dev) (a : Action) (o : Oracle) (e : ExecCtx) (body : List Stmt) (wantOn : Bool)
    (hp : e.processing = false) :
    (stmtIf d a o e body wantOn).act =
      if condHolds wantOn (nodeState d a.arglist (ctxNode e.plugs)) then
        { a with exec := bodyCtx body (some (e.plugs.getD [])) :: { e with processing := true } :: a.exec.drop 1 }
      else if nodeState d a.arglist (ctxNode e.plugs) == .unknown then { a with errnum := .expfail } else a := by
  rw [stmtIf_eq]; simp only [stmtIf', hp, Bool.false_eq_true, ↓reduceIte]
  repeat' split
  all_goals rfl

/-- conversely: whenever the stack grew, the flag was clear and the plug's state was the wanted one -/
theorem stmtIf_pushed_only_if (d : Dev) (a : Action) (o : Oracle) (e : ExecCtx) (body : List Stmt) (wantOn : Bool)
    (hne : a.exec ≠ [])
    (h : (stmtIf d a o e body wantOn).act.exec.length > a.exec.length) :
    e.processing = false ∧ nodeState d a.arglist (ctxNode e.plugs) = (if wantOn then .on else .off) := by
  cases hp : e.processing with
  | true =>
    have := List.length_pos_iff.mpr hne
    rw [stmtIf_return d a o e body wantOn hp, setTop_exec, List.length_cons, List.length_drop] at h
    omega
  | false =>
    rw [stmtIf_fresh d a o e body wantOn hp] at h
    refine ⟨rfl, ?_⟩
    by_cases hc : condHolds wantOn (nodeState d a.arglist (ctxNode e.plugs)) = true
    · unfold condHolds at hc
      cases wantOn <;> simp_all
    · rw [if_neg hc] at h
      split at h <;> simp at h

/-- an oracle that is a function: the answer depends on pattern and subject only (what `regexec` is) -/
def pureAsk (m : Nat → Bytes → Bool) : Oracle → Nat → Bytes → Oracle × Option (List (Int × Int)) × List Out :=
  fun o pat s => (o, if m pat s then some [] else none, [])

/-- `pickState` and `pickResult` are one loop, over states and over results: the interpretations are tried in list
    order and the first whose pattern the oracle answers with a match decides -/
def pickFirst {α : Type} (dflt : α) (askf : Oracle → Nat → Bytes → Oracle × Option (List (Int × Int)) × List Out)
    (s : Bytes) : List (α × Nat) → Oracle → List Out → Oracle × α × List Out
  | [], o, errs => (o, dflt, errs)
  | (v, pat) :: r, o, errs =>
    if (askf o pat s).2.1.isSome then ((askf o pat s).1, v, errs ++ (askf o pat s).2.2)
    else pickFirst dflt askf s r (askf o pat s).1 (errs ++ (askf o pat s).2.2)

theorem pickState_eq (askf) (s : Bytes) (l : List (PState × Nat)) (o : Oracle) (errs : List Out) :
    pickState askf s l o errs = pickFirst .unknown askf s l o errs := by
  induction l generalizing o errs with
  | nil => rfl
  | cons p r ih => obtain ⟨st, pat⟩ := p; simp only [pickState, pickFirst, ih]

theorem pickResult_eq (askf) (s : Bytes) (l : List (PResult × Nat)) (o : Oracle) (errs : List Out) :
    pickResult askf s l o errs = pickFirst .unknown askf s l o errs := by
  induction l generalizing o errs with
  | nil => rfl
  | cons p r ih => obtain ⟨st, pat⟩ := p; simp only [pickResult, pickFirst, ih]

theorem pickFirst_pure {α : Type} (dflt : α) (m : Nat → Bytes → Bool) (s : Bytes) (l : List (α × Nat)) (o : Oracle)
    (errs : List Out) :
    pickFirst dflt (pureAsk m) s l o errs = (o, ((l.find? fun i => m i.2 s).map (·.1)).getD dflt, errs) := by
  induction l generalizing errs with
  | nil => simp [pickFirst]
  | cons p r ih =>
    obtain ⟨v, pat⟩ := p
    by_cases h : m pat s = true
    · simp [pickFirst, pureAsk, h]
    · simp [pickFirst, pureAsk, h, ih]

theorem askRx_cons (x : RxCall) (xs : List RxCall) (pat : Nat) (s : Bytes) :
    (askRx ⟨x :: xs⟩ pat s).1 = ⟨xs⟩ ∧ (askRx ⟨x :: xs⟩ pat s).2.1 = x.answer := by
  simp only [askRx]; split <;> exact ⟨rfl, rfl⟩

/-- recorded calls answered "no match" use up one interpretation each -/
theorem pickFirst_skip {α : Type} (dflt : α) (s : Bytes) (l : List (α × Nat)) (pre post : List RxCall) (errs : List Out)
    (hpre : ∀ x ∈ pre, x.answer = none) (hlen : pre.length ≤ l.length) :
    ∃ errs', pickFirst dflt askRx s l ⟨pre ++ post⟩ errs = pickFirst dflt askRx s (l.drop pre.length) ⟨post⟩ errs' := by
  induction pre generalizing l errs with
  | nil => exact ⟨errs, rfl⟩
  | cons x xs ih =>
    cases l with
    | nil => simp at hlen
    | cons p r =>
      have hx : x.answer = none := hpre x (by simp)
      simp only [List.cons_append, pickFirst, askRx_cons, hx, Option.isSome_none, Bool.false_eq_true, ↓reduceIte]
      exact ih r _ (fun y hy => hpre y (by simp [hy])) (by simpa using hlen)

/-- with the recorded oracle: interpretations are tried in list order, one recorded call each; the first call answered
    with a match decides -/
theorem pickFirst_first {α : Type} (dflt : α) (s : Bytes) (l : List (α × Nat)) (pre : List RxCall) (c : RxCall)
    (post : List RxCall) (errs : List Out) (hpre : ∀ x ∈ pre, x.answer = none) (hc : c.answer.isSome = true)
    (hlen : pre.length < l.length) :
    (pickFirst dflt askRx s l ⟨pre ++ c :: post⟩ errs).1 = ⟨post⟩ ∧
    (pickFirst dflt askRx s l ⟨pre ++ c :: post⟩ errs).2.1 = (l[pre.length]'hlen).1 := by
  obtain ⟨errs', h⟩ := pickFirst_skip dflt s l pre (c :: post) errs hpre (Nat.le_of_lt hlen)
  rw [h, List.drop_eq_getElem_cons hlen]
  simp [pickFirst, askRx_cons, hc]

/-- … and when none of them matches the default (`unknown`) is recorded -/
theorem pickFirst_nomatch {α : Type} (dflt : α) (s : Bytes) (l : List (α × Nat)) (pre post : List RxCall)
    (errs : List Out) (hpre : ∀ x ∈ pre, x.answer = none) (hlen : pre.length = l.length) :
    (pickFirst dflt askRx s l ⟨pre ++ post⟩ errs).1 = ⟨post⟩ ∧
    (pickFirst dflt askRx s l ⟨pre ++ post⟩ errs).2.1 = dflt := by
  obtain ⟨errs', h⟩ := pickFirst_skip dflt s l pre post errs hpre (Nat.le_of_eq hlen)
  rw [h, hlen, List.drop_length]
  exact ⟨rfl, rfl⟩

/-- `pluglist_find` followed by the `plug->node` test: the first plug of that name, if it is mapped to a node -/
theorem findPlug_some_iff (d : Dev) (pn : Bytes) (p : Plug) :
    findPlug d pn = some p ↔ d.plugs.find? (·.name == pn) = some p ∧ p.node.isSome = true := by
  unfold findPlug
  cases h : d.plugs.find? (·.name == pn) with
  | none => simp
  | some q =>
    by_cases hq : q.node.isSome = true
    · simp only [hq, ↓reduceIte, Option.some.injEq]
      constructor
      · intro h1; subst h1; exact ⟨rfl, hq⟩
      · intro h1; exact h1.1
    · simp only [hq, Bool.false_eq_true, ↓reduceIte, Option.some.injEq]
      constructor
      · intro h1; cases h1
      · intro h1; obtain ⟨h1, h2⟩ := h1; subst h1; exact absurd h2 hq

theorem getArgs_setArgs (d : Dev) (id : Nat) (as : List Arg) : getArgs (setArgs d id as) id = as := by
  simp [getArgs, setArgs]

theorem getArgs_setArgs_ne (d : Dev) (id id' : Nat) (as : List Arg) (h : id' ≠ id) :
    getArgs (setArgs d id as) id' = getArgs d id' := by
  unfold getArgs setArgs
  rw [List.lookup_cons, show (id' == id) = false by simpa using h]
  exact congrArg (·.getD []) (lookup_filter (fun x => decide (x.1 ≠ id)) id' d.args fun _ _ e =>
    decide_eq_true fun hx => h ((eq_of_beq e).trans hx))

/-- a cell whose node is not the plug's node is left exactly as it was; every cell keeps its node and its result -/
theorem writeState_spec (as : List Arg) (node : Bytes) (st : PState) (s : Bytes) :
    (writeState as node st s).length = as.length ∧
    ∀ i (h : i < as.length),
      ((writeState as node st s)[i]?).map (·.node) = some as[i].node ∧
      (as[i].node ≠ node → (writeState as node st s)[i]? = some as[i]) ∧
      (as[i].node = node → (writeState as node st s)[i]? = some { as[i] with state := st, val := some s }) := by
  unfold writeState
  refine ⟨by simp, ?_⟩
  intro i h
  simp only [List.getElem?_map, List.getElem?_eq_getElem h, Option.map_some]
  by_cases hn : as[i].node = node
  · simp [hn]
  · simp [hn]

theorem stmtSetresult_frame (d : Dev) (a : Action) (o : Oracle) (pm sm : Int) (is : List (PResult × Nat)) :
    (stmtSetresult d a o pm sm is).act = a ∧ (stmtSetresult d a o pm sm is).finished = true := by
  obtain ⟨r, h⟩ := Step.total d a o 0 (topCtx a) [] (.setresult pm sm is)
  rw [res_sound h]; cases h <;> first | exact ⟨rfl, rfl⟩ | contradiction

theorem stmtSetresult_writes (d : Dev) (a : Action) (o : Oracle) (pm sm : Int)
    (is : List (PResult × Nat)) (pn s : Bytes) (plug : Plug)
    (hn : subOf d pm = some pn) (hs : subOf d sm = some s) (hp : findPlug d pn = some plug) :
    stmtSetresult d a o pm sm is =
      ⟨setArgs d a.arglist (writeResult (getArgs d a.arglist) (plug.node.getD []) (pickResult askRx s is o []).2.1 s), a,
       (pickResult askRx s is o []).1,
       (pickResult askRx s is o []).2.2 ++ resultDiag d a (plug.node.getD []) (pickResult askRx s is o []).2.1 s, true⟩ :=
  res_sound (now := 0) (e := topCtx a) (rest := []) (.resWrite pm sm is pn s plug hn hs hp)

theorem stmtSetresult_nothing (d : Dev) (a : Action) (o : Oracle) (pm sm : Int)
    (is : List (PResult × Nat))
    (h : subOf d pm = none ∨ subOf d sm = none ∨ ∃ pn, subOf d pm = some pn ∧ findPlug d pn = none) :
    stmtSetresult d a o pm sm is = ⟨d, a, o, [], true⟩ :=
  res_sound (now := 0) (e := topCtx a) (rest := []) (.resNone pm sm is h)

/-- a plug that `foreachnode` skips -/
def skipped (isNode : Bool) (p : Plug) : Bool := isNode && p.node.isNone

theorem drop_pos {α} {l : List α} {i : Nat} {x : α} (h : l[i]? = some x) : l.drop i = x :: l.drop (i + 1) := by
  obtain ⟨hlt, rfl⟩ := List.getElem?_eq_some_iff.mp h
  exact List.drop_eq_getElem_cons hlt

/-- `pluglist_next` (repeated while the plug is unmapped, for `foreachnode`): with enough fuel the answer is the first
    plug at or after `k` that is not skipped, with the index behind it; what is still to be visited is then one plug
    shorter -/
theorem nextPlug_spec (isNode : Bool) (lst : List Plug) (k fuel : Nat) (hf : lst.length < k + fuel) :
    match nextPlug isNode lst k fuel with
    | some (p, k') => k < k' ∧ k' ≤ lst.length ∧ lst[k' - 1]? = some p ∧ skipped isNode p = false ∧
        (∀ j, k ≤ j → j < k' - 1 → ∀ q, lst[j]? = some q → skipped isNode q = true) ∧
        (lst.drop k).filter (fun p => !skipped isNode p) = p :: (lst.drop k').filter (fun p => !skipped isNode p)
    | none => (lst.drop k).filter (fun p => !skipped isNode p) = [] := by
  induction fuel generalizing k with
  | zero => simp [nextPlug, List.drop_eq_nil_of_le (show lst.length ≤ k by omega)]
  | succ f ih =>
    unfold nextPlug
    cases hk : lst[k]? with
    | none => simp [List.drop_eq_nil_of_le (List.getElem?_eq_none_iff.mp hk)]
    | some p =>
      have hlt := (List.getElem?_eq_some_iff.mp hk).1
      have hdrop := drop_pos hk
      by_cases hs : skipped isNode p = true
      · have hs' : (isNode && p.node.isNone) = true := hs
        simp only [hs', ↓reduceIte]
        have := ih (k + 1) (by omega)
        split at this
        · obtain ⟨h1, h2, h3, h4, h5, h6⟩ := this
          refine ⟨by omega, h2, h3, h4, ?_, ?_⟩
          · intro j hj1 hj2 q hq
            by_cases hjk : j = k
            · subst hjk; rw [hk] at hq; cases hq; exact hs
            · exact h5 j (by omega) hj2 q hq
          · rw [hdrop, List.filter_cons]; simp [hs, h6]
        · rw [hdrop, List.filter_cons]; simp [hs, this]
      · have hs' : (isNode && p.node.isNone) = false := Bool.eq_false_iff.mpr hs
        simp only [hs', Bool.false_eq_true, ↓reduceIte]
        refine ⟨by omega, by omega, by simpa using hk, by simpa using hs, fun j hj1 hj2 => by omega, ?_⟩
        rw [hdrop, List.filter_cons]; simp [hs]

theorem stmtForeach_frame (d : Dev) (a : Action) (o : Oracle) (e : ExecCtx) (body : List Stmt) (isNode : Bool) :
    (stmtForeach d a o e body isNode).dev = d ∧ (stmtForeach d a o e body isNode).oracle = o ∧
    (stmtForeach d a o e body isNode).out = [] ∧ (stmtForeach d a o e body isNode).finished = true := by
  rw [stmtForeach_eq]; unfold stmtForeach'
  split <;> simp

/-- the plugs visited by calling the iterator again and again, starting at index `k` -/
def visitFrom (isNode : Bool) (lst : List Plug) : Nat → Nat → List Plug
  | 0, _ => []
  | n + 1, k => match nextPlug isNode lst k (lst.length + 1) with
    | some (p, k') => p :: visitFrom isNode lst n k'
    | none => []

theorem visitFrom_eq (isNode : Bool) (lst : List Plug) (n k : Nat) (h : lst.length < k + n) :
    visitFrom isNode lst n k = (lst.drop k).filter fun p => !skipped isNode p := by
  induction n generalizing k with
  | zero =>
    have : lst.length ≤ k := by omega
    simp [visitFrom, List.drop_eq_nil_of_le this]
  | succ n ih =>
    unfold visitFrom
    have hs := nextPlug_spec isNode lst k (lst.length + 1) (by omega)
    split at hs
    · rename_i p k' heq
      try simp only [heq]
      obtain ⟨h1, h2, h3, h4, h5, h6⟩ := hs
      rw [h6, ih k' (by omega)]
    · rename_i heq
      try simp only [heq]
      exact hs.symm

/-- `foreachplug` visits every plug of the list, in list order, each once -/
theorem visit_foreachplug (lst : List Plug) : visitFrom false lst (lst.length + 1) 0 = lst := by
  rw [visitFrom_eq _ _ _ _ (by omega)]
  simp [skipped]

/-- `foreachnode` visits the plugs that are mapped to a node, in list order, each once -/
theorem visit_foreachnode (lst : List Plug) :
    visitFrom true lst (lst.length + 1) 0 = lst.filter fun p => p.node.isSome := by
  rw [visitFrom_eq _ _ _ _ (by omega)]
  simp only [List.drop_zero, skipped, Bool.true_and]
  congr 1
  funext p
  cases p.node <;> rfl

/-- the iterator hands out a plug: the body is pushed for that plug alone and the iterator remembers where it stands -/
theorem stmtForeach_next (d : Dev) (a : Action) (o : Oracle) (e : ExecCtx) (body : List Stmt) (isNode : Bool) (p : Plug) (k : Nat)
    (h : nextPlug isNode (foreachList d a e) (e.plugItr.getD 0) ((foreachList d a e).length + 1) = some (p, k)) :
    (stmtForeach d a o e body isNode).act =
      { a with exec := bodyCtx body (some [p]) :: { foreachCtx a e with plugItr := some k } :: a.exec.drop 1 } := by
  rw [stmtForeach_eq]; unfold stmtForeach'; simp only [h]

/-- the list is exhausted: nothing is pushed and the iterator is destroyed -/
theorem stmtForeach_done (d : Dev) (a : Action) (o : Oracle) (e : ExecCtx) (body : List Stmt) (isNode : Bool)
    (h : nextPlug isNode (foreachList d a e) (e.plugItr.getD 0) ((foreachList d a e).length + 1) = none) :
    (stmtForeach d a o e body isNode).act = setTop a { foreachCtx a e with plugItr := none } := by
  rw [stmtForeach_eq]; unfold stmtForeach'; simp only [h]

end Pm.Dev2.Interp
