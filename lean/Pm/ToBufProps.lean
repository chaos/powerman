import Pm.TelnetPass
import Pm.ToBufProof
import Pm.InterpRef
import Pm.Dev2Fd
/-! Helper lemmas for the property theorems about the capacity of the device output buffer `dev->to`:
    the invariant over runs of passes, no loss below the maximum over a whole pass, the exact loss at the maximum for a
    `send`, for the telnet answers and for `_handle_ready_device`, and "an overrun is not an abort". -/
namespace Pm.Dev2.ToBufP
open Pm.Dev2.Login2 Pm.Dev2.Tel Pm.Dev2.Interp

theorem connectDev_cap (c : CS) (h : c.dev.toBuf.length ≤ 65536) : (connectDev c).dev.toBuf.length ≤ 65536 := by
  rw [(connectDev_buf c).1]; exact h

theorem disconnectDev_cap (c : CS) : (disconnectDev c).dev.toBuf.length ≤ 65536 := by
  rw [(disconnectDev_buf c).1]; exact Nat.zero_le _

theorem reconnectDev_cap (c : CS) (tmo : Option Time) (h : c.dev.toBuf.length ≤ 65536) :
    (reconnectDev c tmo).1.dev.toBuf.length ≤ 65536 := by
  rcases (reconnectDev_link c tmo).flushed_or_kept with e | ⟨_, _, e⟩
  · rw [e.2]; exact Nat.zero_le _
  · rw [e]; exact h

theorem run_cap (s : Dev × Bytes) (ps : List (Env × Oracle)) (h : s.1.toBuf.length ≤ 65536) :
    (ps.foldl passStep s).1.toBuf.length ≤ 65536 := by
  induction ps generalizing s with
  | nil => exact h
  | cons p r ih => exact ih _ (postPoll_cap s.1 p.1 p.2 h)

theorem postPoll_no_loss (d : Dev) (env : Env) (o : Oracle)
    (hfit : d.toBuf.length + (readyReplies { dev := d, env := env, sys := [] }).length +
      (sentBytes (postPoll d env o).2.2.1).length ≤ 65536) :
    ∃ wr reply,
      (wr = [] ∨ Sys.write wr true ∈ (postPollReady d env).1.sys) ∧ wr <+: d.toBuf ∧
      (reply = [] ∨ ∃ bs, env.read = some (some bs) ∧ d.isPipe = false ∧
        reply = telnetReplies d.tstate d.tcmd (readOf d bs)) ∧
      (wr ++ (postPoll d env o).1.dev.toBuf = d.toBuf ++ reply ++ sentBytes (postPoll d env o).2.2.1 ∨
       ((postPoll d env o).1.dev.toBuf = sentBytes (postPoll d env o).2.2.1 ∧
          (postPollReady d env).2 = true ∧ (postPollReady d env).1.dev.conn ≠ 0) ∨
       ((postPoll d env o).1.dev.toBuf = [] ∧ (postPollPre d env).1.dev.conn = 2 ∧
          ((postPoll d env o).1.dev.conn ≠ 2 ∨
           (postPoll d env o).1.dev.retryCount = (postPollPre d env).1.dev.retryCount + 1))) := by
  obtain ⟨kept, reply, h1, h2, h3⟩ := postPoll_buf_below d env o hfit
  -- `wr`, what the `write` took, in the place of `kept`, what it left
  obtain ⟨wr, hlog, hw⟩ : ∃ wr, (wr = [] ∨ Sys.write wr true ∈ (postPollReady d env).1.sys) ∧ wr ++ kept = d.toBuf := by
    rcases h1 with h1 | ⟨wr, _, hw, hlog⟩
    · exact ⟨[], .inl rfl, h1⟩
    · exact ⟨wr, .inr hlog, hw⟩
  exact ⟨wr, reply, hlog, ⟨kept, hw⟩, h2, h3.imp_left fun h => by rw [h, ← hw]; simp only [List.append_assoc]⟩

theorem stmtSend_drops_oldest (d : Dev) (a : Action) (o : Oracle) (e : ExecCtx) (fmt s : Bytes)
    (hp : e.processing = false) (hs : sendText fmt e.plugs = some s) (hlen : s.length ≤ 65536) :
    (stmtSend d a o e fmt).dev.toBuf = d.toBuf.drop (toDropped d.toBuf s) ++ s := by
  rw [stmtSend_fresh d a o e fmt s hp hs]
  exact clipTo_append_of_fits d.toBuf s hlen

theorem stmtSend_full (d : Dev) (a : Action) (o : Oracle) (e : ExecCtx) (fmt s : Bytes)
    (hp : e.processing = false) (hs : sendText fmt e.plugs = some s) (hfull : d.toBuf.length = 65536) (hlen : s.length ≤ 65536) :
    (stmtSend d a o e fmt).dev.toBuf = d.toBuf.drop s.length ++ s := by
  rw [stmtSend_fresh d a o e fmt s hp hs]
  exact clipTo_full d.toBuf s hfull hlen

theorem stmtSend_long (d : Dev) (a : Action) (o : Oracle) (e : ExecCtx) (fmt s : Bytes)
    (hp : e.processing = false) (hs : sendText fmt e.plugs = some s) (hlen : 65536 ≤ s.length) :
    (stmtSend d a o e fmt).dev.toBuf = clipTo s := by
  rw [stmtSend_fresh d a o e fmt s hp hs]
  exact clipTo_append_of_long d.toBuf s hlen

theorem telnetFilter_drops_oldest (d : Dev) (bs : Bytes) (hlen : (telnetReplies d.tstate d.tcmd bs).length ≤ 65536) :
    (telnetFilter d bs).toBuf =
      d.toBuf.drop (toDropped d.toBuf (telnetReplies d.tstate d.tcmd bs)) ++ telnetReplies d.tstate d.tcmd bs := by
  rw [telnetFilter_toBuf]; exact clipTo_append_of_fits _ _ hlen

theorem telnetFilter_full (d : Dev) (bs : Bytes) (hfull : d.toBuf.length = 65536)
    (hlen : (telnetReplies d.tstate d.tcmd bs).length ≤ 65536) :
    (telnetFilter d bs).toBuf =
      d.toBuf.drop (telnetReplies d.tstate d.tcmd bs).length ++ telnetReplies d.tstate d.tcmd bs := by
  rw [telnetFilter_toBuf]; exact clipTo_full _ _ hfull hlen

theorem repliesOf_devClip (d : Dev) (bs x : Bytes) : repliesOf (devClip d bs) x = repliesOf d x := by
  rfl

theorem handleReady_read_toBuf (c : CS) (bs : Bytes) (h : ReadyOk c)
    (hout : c.env.revents &&& 2 = 0) (hin : c.env.revents &&& 1 ≠ 0)
    (hr : c.env.read = some (some bs)) (hbs : bs ≠ []) (hcap : c.dev.toBuf.length ≤ 65536) :
    (handleReady c).1.dev.toBuf = clipTo (c.dev.toBuf ++ repliesOf c.dev (readOf c.dev bs)) := by
  rw [handleReady_read_only c bs h hout hin hr hbs]
  show (absorb (devClip c.dev bs) (readOf c.dev bs)).toBuf = _
  rw [absorb_toBuf _ _ (by simpa using hcap), repliesOf_devClip]; simp

theorem handleReady_read_full (c : CS) (bs : Bytes) (h : ReadyOk c)
    (hout : c.env.revents &&& 2 = 0) (hin : c.env.revents &&& 1 ≠ 0)
    (hr : c.env.read = some (some bs)) (hbs : bs ≠ []) (hfull : c.dev.toBuf.length = 65536)
    (hlen : (repliesOf c.dev (readOf c.dev bs)).length ≤ 65536) :
    (handleReady c).1.dev.toBuf =
      c.dev.toBuf.drop (repliesOf c.dev (readOf c.dev bs)).length ++ repliesOf c.dev (readOf c.dev bs) := by
  rw [handleReady_read_toBuf c bs h hout hin hr hbs (Nat.le_of_eq hfull)]
  exact clipTo_full _ _ hfull hlen

theorem sendTele_noAbort (d : Dev) (tele : Bool) (cid : Nat) (s : Bytes) : hasAbort (sendTele d tele cid s) = false := by
  unfold sendTele
  split
  · rfl
  · split
    · exact Fd.teleMem_noAbort _ _ _
    · rfl

/-- the only abort outcome of `_process_send` is the `hostlist_sort` assertion (F19): the overrun of `dev->to` is none -/
theorem stmtSend_abort_iff (d : Dev) (a : Action) (o : Oracle) (e : ExecCtx) (fmt : Bytes) :
    hasAbort (stmtSend d a o e fmt).out = true ↔ e.processing = false ∧ sendText fmt e.plugs = none := by
  by_cases hp : e.processing = true
  · rw [stmtSend_reentry d a o e fmt hp]
    constructor
    · intro h; cases h
    · intro h; rw [hp] at h; cases h.1
  · have hp' : e.processing = false := by simpa using hp
    cases hs : sendText fmt e.plugs with
    | none =>
      rw [stmtSend_fresh_abort d a o e fmt hp' hs]
      exact ⟨fun _ => ⟨hp', rfl⟩, fun _ => rfl⟩
    | some s =>
      rw [stmtSend_fresh d a o e fmt s hp' hs]
      constructor
      · intro h
        have : hasAbort ([Out.sent s] ++ sendTele d a.telemetry a.clientId s) = false := by
          have h2 := sendTele_noAbort d a.telemetry a.clientId s
          unfold hasAbort at h2 ⊢
          simp only [List.any_append, List.any_cons, List.any_nil, Bool.or_false, h2]
        rw [this] at h; cases h
      · intro h; cases h.2

/-- a first-visit `send` whose text does not fit behind what is queued: the text is reported as sent, nothing is shown to a
    telemetry client, the oldest queued bytes give way, the statement waits for the buffer to drain — and nothing aborts -/
theorem stmtSend_overrun (d : Dev) (a : Action) (o : Oracle) (e : ExecCtx) (fmt s : Bytes)
    (hp : e.processing = false) (hs : sendText fmt e.plugs = some s) (hov : 65536 < (d.toBuf ++ s).length) :
    (stmtSend d a o e fmt).out = [Out.sent s] ∧ hasAbort (stmtSend d a o e fmt).out = false ∧
    (stmtSend d a o e fmt).dev = { d with toBuf := clipTo (d.toBuf ++ s) } ∧
    (stmtSend d a o e fmt).dev.toBuf.length = 65536 ∧ (stmtSend d a o e fmt).finished = false := by
  have hov' : toOverrun d.toBuf s = true := by unfold toOverrun; simpa using hov
  rw [stmtSend_fresh d a o e fmt s hp hs, sendTele_overrun _ _ _ _ hov']
  refine ⟨rfl, rfl, rfl, ?_, ?_⟩
  · show (clipTo (d.toBuf ++ s)).length = 65536
    rw [clipTo_length]; exact Nat.min_eq_right (Nat.le_of_lt hov)
  · show (d.toBuf ++ s).isEmpty = false
    cases hb : d.toBuf ++ s with
    | nil => rw [hb] at hov; exact absurd hov (by decide)
    | cons _ _ => rfl

/-- a device with nothing configured whose output buffer is full: 65536 bytes `7` -/
def fullDev : Dev :=
  { plugs := [], scripts := fun _ => none, timeout := 0, acts := [], toBuf := List.replicate 65536 7, fromBuf := [], xmStr := none,
    xmOffs := [], xmResult := false, xmUsed := false, args := [], nextUid := 0, shortCircuitDelay := false,
    conn := 2, fd := some 7 }

theorem fullDev_len : fullDev.toBuf.length = 65536 := List.length_replicate

def sendCtx : ExecCtx := { block := [.send [108, 10]], pos := 0, plugs := none, plugItr := none, plugCopy := none, processing := false }

theorem sendCtx_text : sendText [108, 10] sendCtx.plugs = some [108, 10] := by decide

/-- the plain-append form of the first clause of `C08_send_bytes` (`C08_send_bytes_below`) is false beyond 64 KiB: a `send "l\n"`
    against a full buffer does not leave `toBuf ++ "l\n"` -/
theorem send_append_counterexample (a : Action) (o : Oracle) :
    sendCtx.processing = false ∧ sendText [108, 10] sendCtx.plugs = some [108, 10] ∧
    (stmtSend fullDev a o sendCtx [108, 10]).dev ≠ { fullDev with toBuf := fullDev.toBuf ++ [108, 10] } ∧
    (stmtSend fullDev a o sendCtx [108, 10]).dev.toBuf = fullDev.toBuf.drop 2 ++ [108, 10] := by
  have h2le : ([108, 10] : Bytes).length ≤ 65536 := Nat.le_of_ble_eq_true rfl
  have hfull := stmtSend_full fullDev a o sendCtx [108, 10] [108, 10] rfl sendCtx_text fullDev_len h2le
  have hl2 : ([108, 10] : Bytes).length = 2 := rfl
  rw [hl2] at hfull
  refine ⟨rfl, sendCtx_text, ?_, hfull⟩
  intro h
  rw [stmtSend_fresh fullDev a o sendCtx [108, 10] [108, 10] rfl sendCtx_text] at h
  have h2 := congrArg (fun x : Dev => x.toBuf.length) h
  dsimp only at h2
  have h3 := clipTo_length_le (fullDev.toBuf ++ [108, 10])
  rw [h2, List.length_append, fullDev_len] at h3
  exact absurd h3 (by decide)

/-- the kernel hands out one `IAC DO ECHO`, the descriptor is not writable -/
def stormEnv : Env :=
  { now := 0, revents := 1, sockets := [], connects := [], soerrs := [], read := some (some [255, 253, 1]), writeOk := true }

def stormC : CS := { dev := fullDev, env := stormEnv, sys := [] }

theorem stormC_ok : ReadyOk stormC := ⟨by decide, by decide, by decide, by decide, by decide⟩

theorem stormC_readOf : readOf stormC.dev [255, 253, 1] = [255, 253, 1] := by decide

theorem stormC_replies : repliesOf stormC.dev [255, 253, 1] = [255, 252, 1] := by decide

/-- the buffer after the call: the three oldest bytes have given way to `IAC WONT ECHO` -/
theorem stormC_toBuf : (handleReady stormC).1.dev.toBuf = (List.replicate 65536 7).drop 3 ++ [255, 252, 1] := by
  have h := handleReady_read_full stormC [255, 253, 1] stormC_ok (by decide) (by decide) rfl (by decide) fullDev_len
    (by rw [stormC_readOf, stormC_replies]; decide)
  rw [stormC_readOf, stormC_replies] at h
  exact h

theorem stormC_written : devWritten (handleReady stormC).1.sys = [] := by
  rw [handleReady_read_only stormC [255, 253, 1] stormC_ok (by decide) (by decide) rfl (by decide)]
  show devWritten ([] ++ [Sys.read _]) = []
  simp [devWritten]

/-- a run of `a`s with its first `k` taken off and something starting with `b ≠ a` put behind is no extension of the run:
    the two differ at position `n - k` -/
theorem replicate_drop_append_ne {α} (n k : Nat) (a b : α) (r x : List α) (hab : b ≠ a) (hk : 0 < k) (hkn : k ≤ n) :
    (List.replicate n a).drop k ++ b :: r ≠ List.replicate n a ++ x := by
  intro h
  have hl : ((List.replicate n a).drop k).length = n - k := by rw [List.length_drop, List.length_replicate]
  have h1 : ((List.replicate n a).drop k ++ b :: r)[n - k]? = (List.replicate n a ++ x)[n - k]? := by rw [h]
  rw [List.getElem?_append_right (Nat.le_of_eq hl), hl, Nat.sub_self, List.getElem?_append_left (by rw [List.length_replicate]; omega),
    List.getElem?_replicate_of_lt (by omega)] at h1
  exact hab (Option.some.inj h1)

/-- the plain-append form of `C09_device_write_conserved` (`C09_device_write_conserved_below`) — "written so far ++ queued only
    grows at its end, by the answers to what was read" — is false beyond 64 KiB: for no `bs` at all -/
theorem write_conserved_old_counterexample :
    ¬ ∃ bs, devWritten (handleReady stormC).1.sys ++ (handleReady stormC).1.dev.toBuf =
      devWritten stormC.sys ++ stormC.dev.toBuf ++ repliesOf stormC.dev bs := by
  rintro ⟨bs, h⟩
  rw [stormC_written, stormC_toBuf] at h
  exact replicate_drop_append_ne 65536 3 7 255 [252, 1] (repliesOf stormC.dev bs) (by decide) (by decide) (by decide) h

end Pm.Dev2.ToBufP

section audit
open Pm.Dev2.ToBufP
#print axioms run_cap
#print axioms postPoll_no_loss
#print axioms stmtSend_drops_oldest
#print axioms stmtSend_full
#print axioms telnetFilter_full
#print axioms handleReady_read_full
#print axioms stmtSend_abort_iff
#print axioms stmtSend_overrun
#print axioms send_append_counterexample
#print axioms write_conserved_old_counterexample
end audit
