import Pm.Dev2Ledger
import Pm.InterpPass
/-! Device half of the end-to-end composition for C02 (`Pm/EndToEnd.lean`).

    1. counting: over a whole `dev_post_poll` pass, for every client, (completions reported) + (actions still queued) is
       what was queued before (`postPoll_count`; from `Pass.served`);
    2. where a `success` completion can come from: only from the branch of `_process_action` in which the statement the
       head action stood at finished, the action had not failed, and there was no statement left (`bodyStep_success`,
       `processActionF_success`); everything the time-out branch and the error branch report is a failure;
    3. the last word: once no action of a client is left in the queue, the last callback the pass addressed to that
       client is a completion (`postPoll_lastFin`) — nothing is written behind the terminal reply. -/
namespace Pm.Dev2.E2E
open Pm.Dev2 Pm.Dev2.Login2 Pm.Dev2.Timer

/-- **conservation over a whole `dev_post_poll` pass**: completions reported for `cid` plus actions of `cid` still queued
    is the number of actions of `cid` queued before — through `_handle_ready_device`, `_reconnect` (which drops a login
    action at the head silently: hence `NoClientLogin`), the ping and `_process_action` -/
theorem postPoll_count (d : Dev) (env : Env) (o : Oracle) (h : NoClientLogin d) (cid : Nat) (hc : cid ≠ 0) :
    fcount cid (postPoll d env o).2.2.1 + qcount cid (postPoll d env o).1.dev.acts = qcount cid d.acts :=
  (((postPoll_run d env o).served h).2.count cid hc).trans (Nat.zero_add _)

/-- the iteration ran the head action `a` and the script came to its end: the device is connected, the action within
    its time-out, the statement interpreter reported the statement the action stood at finished (every `expect` on the
    way matched, every `send` drained, every `delay` elapsed), no assertion fired, the action was not failed (`ifon`/
    `ifoff` on an unknown state), and stepping on left no statement in any block -/
def Completes (c : CS) (o : Oracle) (a : Action) : Prop :=
  speaker c = some a ∧
  hasAbort (innerLoop c.env.now (loopBound a) { c.dev with wake := none } a o []).out = false ∧
  (innerLoop c.env.now (loopBound a) { c.dev with wake := none } a o []).finished = true ∧
  (innerLoop c.env.now (loopBound a) { c.dev with wake := none } a o []).act.errnum = .success ∧
  (advance (innerLoop c.env.now (loopBound a) { c.dev with wake := none } a o []).act).exec = []

theorem timeoutErr_ne_success (d : Dev) : Fd.timeoutErr d ≠ .success := by
  unfold Fd.timeoutErr; split
  · simp
  · split <;> simp

theorem failAll_noSuccess (rest : List Action) (c : CS) (a : Action) (o : Oracle) (out : List Out) (tmo : Option Time)
    (he : a.errnum ≠ .success) (cid : Nat) (h : Out.finish cid .success ∈ (failAll rest c a o out tmo).2.2.1) :
    Out.finish cid .success ∈ out := by
  rw [failAll_reports rest c a o out tmo] at h
  rcases List.mem_append.mp h with h | h
  · exact h
  · rcases List.mem_append.mp h with h | h
    · have := (mem_headFin h).1
      simp only [Out.finish.injEq] at this
      exact absurd this.2.symm he
    · obtain ⟨b, _, _, hx⟩ := mem_restFin h
      simp only [Out.finish.injEq] at hx
      have := hx.2
      split at this
      · cases this
      · exact absurd this.symm he

theorem not_mem_of_noFinish {l : List Out} (h : ∀ x ∈ l, isFinish x = false) (g : Nat) (e : ActErr) : Out.finish g e ∉ l :=
  fun hm => Bool.noConfusion (h _ hm)

theorem onTimeout_noSuccess (rest : List Action) (c : CS) (a : Action) (o : Oracle) (out : List Out) (tmo : Option Time)
    (cid : Nat) (h : Out.finish cid .success ∈ (onTimeout rest c a o out tmo).2.2.1) : Out.finish cid .success ∈ out := by
  rw [Fd.onTimeout_eq_failAll] at h
  have := failAll_noSuccess rest c { a with errnum := Fd.timeoutErr c.dev } o (out ++ Fd.timeoutTele c.dev a) tmo
    (timeoutErr_ne_success c.dev) cid h
  rcases List.mem_append.mp this with h1 | h1
  · exact h1
  · exact absurd h1 (not_mem_of_noFinish (fun x hx => noFinish_of_note (timeoutTele_notes _ _ x hx)) _ _)

/-- **one iteration of `_process_action`'s loop reports a success only for a script that ran to its end**: a
    `finish cid success` in the output after the iteration was there before, or the iteration is a completing run
    (`Completes`) of the head action, which belongs to client `cid` -/
theorem bodyStep_success (c : CS) (o : Oracle) (out : List Out) (tmo : Option Time) (cid : Nat)
    (h : Out.finish cid .success ∈ (bodyStep c o out tmo).1.2.2.1) :
    Out.finish cid .success ∈ out ∨ ∃ a, Completes c o a ∧ a.clientId = cid := by
  rcases bodyStep_cases c o out tmo with ⟨_, h2⟩ | ⟨a0, rest, _, _, h2⟩ | ⟨a0, rest, left, _, _, _, h2⟩ | ⟨a0, rest, left, _, hsp, _, h2⟩
  · rw [h2] at h; exact Or.inl h
  · rw [h2] at h; exact Or.inl (onTimeout_noSuccess _ _ _ _ _ _ cid h)
  · rw [h2] at h; exact Or.inl h
  · rw [h2] at h
    have hW := headRun_writes c o a0
    have hIC := hW.clientId
    have hNF := not_mem_of_noFinish hW.noFinish cid .success
    unfold headRun at hIC hNF
    generalize hr : innerLoop c.env.now (loopBound (stamp c.env.now a0)) { c.dev with wake := none } (stamp c.env.now a0) o [] = r at hIC hNF
    have noF : Out.finish cid .success ∈ out ++ r.out → Out.finish cid .success ∈ out := by
      intro hx; rcases List.mem_append.mp hx with hx | hx
      · exact hx
      · exact absurd hx hNF
    rcases onRunStep_branches rest c (stamp c.env.now a0) o out tmo left r hr with
      ⟨_, e⟩ | ⟨_, _, e⟩ | ⟨hA, hF, hE, hX, e⟩ | ⟨_, _, _, _, e⟩ | ⟨_, _, hE, e⟩ <;> rw [e] at h
    · exact Or.inl (noF h)
    · exact Or.inl (noF h)
    · -- the one branch that reports a success: the script is over
      rcases List.mem_append.mp h with h | h
      · exact Or.inl (noF h)
      · split at h
        · simp only [List.mem_singleton, Out.finish.injEq, and_true] at h
          subst hr
          exact Or.inr ⟨stamp c.env.now a0, ⟨hsp, hA, hF, hE, hX⟩, by rw [h, advance_clientId, hIC]⟩
        · cases h
    · exact Or.inl (noF h)
    · exact Or.inl (noF (failAll_noSuccess _ _ _ _ _ _ hE cid h))

/-- the same for a whole run of `_process_action` (by its own induction on the fuel, not `processActionF_induct`: `iterStates` is
    indexed by the fuel): every success it adds to the output was added by a completing
    iteration — one of the states `iterStates` lists, in which the head action belongs to client `cid` -/
theorem processActionF_success (fuel : Nat) (c : CS) (o : Oracle) (out : List Out) (tmo : Option Time) (cid : Nat)
    (h : Out.finish cid .success ∈ (processActionF fuel c o out tmo).2.2.1) :
    Out.finish cid .success ∈ out ∨ ∃ s ∈ iterStates fuel c o out tmo, ∃ a, Completes s.1 s.2 a ∧ a.clientId = cid := by
  induction fuel generalizing c o out tmo with
  | zero =>
    simp only [processActionF, List.mem_append, List.mem_singleton] at h
    rcases h with h | h
    · exact Or.inl h
    · cases h
  | succ n ih =>
    rw [processActionF_succ] at h
    unfold andThen at h
    unfold iterStates
    cases hb : (bodyStep c o out tmo).2
    · rw [hb] at h
      simp only [Bool.false_eq_true, ↓reduceIte] at h ⊢
      rcases bodyStep_success c o out tmo cid h with h1 | ⟨a, ha, hc⟩
      · exact Or.inl h1
      · exact Or.inr ⟨(c, o), by simp, a, ha, hc⟩
    · rw [hb] at h
      simp only [↓reduceIte] at h ⊢
      rcases ih _ _ _ _ h with h1 | ⟨s, hs, a, ha, hc⟩
      · rcases bodyStep_success c o out tmo cid h1 with h2 | ⟨a, ha, hc⟩
        · exact Or.inl h2
        · exact Or.inr ⟨(c, o), by simp, a, ha, hc⟩
      · exact Or.inr ⟨s, by simp [hs], a, ha, hc⟩

/-- … and for a whole `dev_post_poll` pass: `postPollPre d env` is the device as `_handle_ready_device`, `_reconnect` and
    the ping leave it, the state in which `_process_action` starts -/
theorem postPoll_success (d : Dev) (env : Env) (o : Oracle) (cid : Nat)
    (h : Out.finish cid .success ∈ (postPoll d env o).2.2.1) :
    ∃ s ∈ iterStates (passFuel (postPollPre d env).1.dev) (postPollPre d env).1 o [] (postPollPre d env).2,
      ∃ a, Completes s.1 s.2 a ∧ a.clientId = cid := by
  rcases postPoll_cases d env o with ⟨_, e⟩ | ⟨_, e⟩ <;> rw [e] at h
  · exact nomatch h
  · exact (processActionF_success _ _ _ _ _ cid h).resolve_left fun h1 => nomatch h1

open Pm.Dev2.Interp in
/-- **`Completes` in terms of the loop-free reference of C08.**  If the head action is well-formed (`Interp.Inv`: true of a
    fresh action, kept by every pass, restored by `_rewind_action`: `C08_initial`, `C08_refines`, `C08_rewind`) and the
    iteration completes it, then the reference program its context stack denotes (`abs R dp a.exec`: what is left of the
    unrolled script) runs, on the same device state, oracle and clock, to status `done` with nothing left to execute — every
    remaining `send` written, every remaining `expect` matched, every `delay` elapsed. -/
theorem completes_reference (R : Bool) (dp : List Plug) (c : CS) (o : Oracle) (a : Action) (hc : Completes c o a)
    (hinv : Interp.Inv R dp c.dev a) (hne : a.exec ≠ []) :
    ∃ k, (frun c.env.now k { c.dev with wake := none } (info a) o (abs R dp a.exec) []).status = .done ∧
         (frun c.env.now k { c.dev with wake := none } (info a) o (abs R dp a.exec) []).f.rem = [] := by
  obtain ⟨_, hab, hfin, herr, hemp⟩ := hc
  have hinv' : Interp.Inv R dp { c.dev with wake := none } a := ⟨hinv.ranged, hinv.plugs, hinv.ok, hinv.err⟩
  obtain ⟨j, a1, h1, h2, h3, _, _, _, h7, h8⟩ :=
    innerLoop_settles R dp c.env.now _ { c.dev with wake := none } a o hinv' hne (Nat.le_refl _)
  rw [h8 _ [] (topDepth_le a)] at hab hfin herr hemp
  simp only [List.nil_append] at hab hfin herr hemp
  have hm := mstep_of_nopush c.env.now { c.dev with wake := none } a1 o h7
  simp only [hab, hfin, herr, Bool.false_eq_true, ↓reduceIte, Bool.not_true, beq_self_eq_true] at hm
  have hrun : mrun c.env.now (2 + j) { c.dev with wake := none } a o [] =
      ⟨(processStmt { c.dev with wake := none } a1 o c.env.now).dev, advance (processStmt { c.dev with wake := none } a1 o c.env.now).act,
       (processStmt { c.dev with wake := none } a1 o c.env.now).oracle, [] ++ (processStmt { c.dev with wake := none } a1 o c.env.now).out, .done⟩ := by
    rw [h1 2 [], mrun_succ_running c.env.now 1 _ a1 o [] h3 (by rw [hm]), hm]
    exact mrun_done _ _ _ _ _ _ hemp
  obtain ⟨k, _, hsim⟩ := refines_run R dp c.env.now (2 + j) { c.dev with wake := none } a o [] hinv'
  rw [hrun] at hsim
  refine ⟨k, hsim.status, ?_⟩
  have := (hsim.cont (Or.inr (Or.inl rfl))).1
  simp only at this
  rw [this, hemp]
  rfl

/-- the callbacks addressed to client `cid`, in order -/
def forCid (cid : Nat) (l : List Out) : List Out := l.filter fun x => outCid x == some cid

@[simp] theorem forCid_append (cid : Nat) (l m : List Out) : forCid cid (l ++ m) = forCid cid l ++ forCid cid m := by
  simp [forCid]
@[simp] theorem forCid_nil (cid : Nat) : forCid cid [] = [] := rfl

/-- the last callback addressed to `cid`, if there is any, is a completion -/
def LastFin (cid : Nat) (l : List Out) : Prop := ∀ x, (forCid cid l).getLast? = some x → isFinish x = true

theorem getLast?_filter_split {α : Type} {p : α → Bool} {x : α} : ∀ {l : List α}, (l.filter p).getLast? = some x →
    ∃ pre post, l = pre ++ x :: post ∧ p x = true ∧ ∀ y ∈ post, p y = false := by
  intro l
  induction l with
  | nil => intro h; cases h
  | cons y r ih =>
    intro h
    cases hr : (r.filter p).getLast? with
    | some z =>
      have hz : z = x := by
        rw [List.filter_cons] at h
        split at h
        · rw [List.getLast?_cons, hr] at h; exact Option.some.inj h
        · rw [hr] at h; exact Option.some.inj h
      obtain ⟨pre, post, e, hx, hp⟩ := ih (hz ▸ hr)
      exact ⟨y :: pre, post, by rw [e]; rfl, hx, hp⟩
    | none =>
      have hnil : r.filter p = [] := List.getLast?_eq_none_iff.mp hr
      rw [List.filter_cons, hnil] at h
      split at h
      · rename_i hy
        cases h
        exact ⟨[], r, rfl, hy, fun z hz => by
          cases hpz : p z with
          | false => rfl
          | true => have : z ∈ r.filter p := List.mem_filter.mpr ⟨hz, hpz⟩; rw [hnil] at this; cases this⟩
      · cases h

theorem isStray_of_addr {cid : Nat} {x : Out} (hc : (outCid x == some cid) = true) (hf : isFinish x = false) : isStray cid x = true := by
  cases x with
  | finish c e => cases hf
  | telemetry c t => simpa [outCid, isStray] using hc
  | diag c t => simpa [outCid, isStray] using hc
  | sent b => cases hc
  | rxMismatch w g => cases hc
  | abortAssert s => cases hc

theorem fcount_one_zero {cid : Nat} {z : Out} (h : isFinish z = false ∨ (outCid z == some cid) = false) : fcount cid [z] = 0 := by
  cases z with
  | finish c e =>
    rcases h with h | h
    · cases h
    · have : (c == cid) = false := by simpa [outCid] using h
      simp [fcount, this]
  | _ => rfl

/-- **the last word from the ledger**: if every text for `cid` came while one of `q` completions was still owed (`Fwd`) and
    all `q` have been reported, the last callback addressed to `cid` is a completion -/
theorem lastFin_of_fwd {cid q : Nat} {out : List Out} (h : Fwd cid q out) (hq : q ≤ fcount cid out) : LastFin cid out := by
  intro x hx
  obtain ⟨pre, post, e, hxc, hpost⟩ := getLast?_filter_split hx
  cases hf : isFinish x with
  | true => rfl
  | false =>
    -- `x` is a text for `cid`; behind it nothing is addressed to `cid`, so no completion for `cid` follows: one is still owed
    have hlt := h pre x post e (isStray_of_addr hxc hf)
    have hpost0 : fcount cid post = 0 := by
      clear e hx h hq hlt
      induction post with
      | nil => rfl
      | cons z r ih =>
        have hz := fcount_one_zero (cid := cid) (Or.inr (hpost z (by simp)))
        have := ih fun y hy => hpost y (by simp [hy])
        have e : z :: r = [z] ++ r := rfl
        rw [e, fcount_append, hz, this]
    have hx0 := fcount_one_zero (cid := cid) (Or.inl hf)
    have e2 : pre ++ x :: post = pre ++ ([x] ++ post) := rfl
    rw [e, e2, fcount_append, fcount_append, hx0, hpost0] at hq
    omega

/-- **nothing behind the last completion.**  After a whole `dev_post_poll` pass, a client none of whose actions is left
    in this device's queue has had a completion as the last callback of the pass (if it had any callback): no telemetry
    line, no diagnostic follows it -/
theorem postPoll_lastFin (d : Dev) (env : Env) (o : Oracle) (cid : Nat) (hc : cid ≠ 0)
    (hq : qcount cid (postPoll d env o).1.dev.acts = 0) : LastFin cid (postPoll d env o).2.2.1 := by
  rcases postPoll_cases d env o with ⟨_, e⟩ | ⟨_, e⟩
  · rw [e]; intro x hx; cases hx
  · rw [e] at hq ⊢
    have hcount := completions_conserved (passFuel (postPollPre d env).1.dev) (postPollPre d env).1 o [] (postPollPre d env).2 cid hc
    exact lastFin_of_fwd (processActionF_fwd _ _ o [] _ cid _ hc rfl (Fwd.nil _ _)) (by rw [hq] at hcount; omega)

end Pm.Dev2.E2E

section AxiomChecks
open Pm.Dev2.E2E
/-- info: 'Pm.Dev2.E2E.postPoll_count' depends on axioms: [propext, Classical.choice, Quot.sound] -/
#guard_msgs in #print axioms postPoll_count
/-- info: 'Pm.Dev2.E2E.postPoll_success' depends on axioms: [propext, Classical.choice, Quot.sound] -/
#guard_msgs in #print axioms postPoll_success
/-- info: 'Pm.Dev2.E2E.postPoll_lastFin' depends on axioms: [propext, Classical.choice, Quot.sound] -/
#guard_msgs in #print axioms postPoll_lastFin
/-- info: 'Pm.Dev2.E2E.completes_reference' depends on axioms: [propext, Classical.choice, Quot.sound] -/
#guard_msgs in #print axioms completes_reference
end AxiomChecks
