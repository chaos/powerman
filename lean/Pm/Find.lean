import Pm.HLProof
namespace Pm

/-- `hostrange_hn_within` on a host name already split as `pfx ++ ds` (ds = digit suffix).
    Recursion mirrors the "shift one digit into the prefix" retry of the C code. -/
def hnWithin (r : HostRange) (full : Name) : Name → Name → Option Nat
  | pfx, ds =>
    if r.single then (if full = r.pfx then some 0 else none)
    else if ds.isEmpty || !(parseNat ds ≤ MAX_HOST_SUFFIX) then none       -- no valid numeric suffix
    else if !(pfx.length ≤ r.pfx.length && r.pfx.take pfx.length == pfx) then none   -- strncmp(hr->prefix, hn->prefix, len_hn)
    else
      match ds with
      | [] => none
      | d :: ds' =>
        if pfx.length < r.pfx.length && 1 < (d :: ds').length
            && (r.pfx.getLast?.map Char.isDigit).getD false && r.pfx[pfx.length]? == some d then
          hnWithin r full (pfx ++ [d]) ds'
        else if pfx.length = r.pfx.length ∧ pfx = r.pfx ∧ parseNat (d :: ds') ≤ r.hi ∧ r.lo ≤ parseNat (d :: ds') then
          match widthEquiv r.lo r.width (parseNat (d :: ds')) (d :: ds').length with
          | some _ => some (parseNat (d :: ds') - r.lo)
          | none => none
        else none

theorem hnWithin_single {r : HostRange} (hs : r.single = true) (full a b : Name) :
    hnWithin r full a b = if full = r.pfx then some 0 else none := by
  rw [hnWithin.eq_def]; simp [hs]

/-- soundness of `find` on one range: an offset is only ever returned for the name that
    really sits at that offset of the expansion.  No bound on the numeric part is needed. -/
theorem hnWithin_sound (r : HostRange) (full : Name) :
    ∀ (ds pfx : Name) (k : Nat), pfx ++ ds = full → (∀ c ∈ ds, c.isDigit = true) →
      hnWithin r full pfx ds = some k → r.expand[k]? = some full := by
  by_cases hs : r.single = true
  · intro ds pfx k _ _ h
    rw [hnWithin_single hs] at h
    split at h
    · rename_i he; cases h; simp [HostRange.expand, hs, he]
    · cases h
  have hs' : r.single = false := by simpa using hs
  intro ds
  induction ds with
  | nil => intro pfx k _ _ h; simp [hnWithin, hs'] at h
  | cons d ds' ih =>
    intro pfx k hcat hdig h
    rw [hnWithin] at h
    simp only [hs', Bool.false_eq_true, if_false] at h
    -- the tests of the definition, one after the other (`split at h` costs three times as much to check)
    by_cases c1 : ((d :: ds').isEmpty || !decide (parseNat (d :: ds') ≤ MAX_HOST_SUFFIX)) = true
    · rw [if_pos c1] at h; cases h
    rw [if_neg c1] at h
    by_cases c2 : (!(decide (pfx.length ≤ r.pfx.length) && List.take pfx.length r.pfx == pfx)) = true
    · rw [if_pos c2] at h; cases h
    rw [if_neg c2] at h
    by_cases c3 : (decide (pfx.length < r.pfx.length) && decide (1 < (d :: ds').length)
        && (r.pfx.getLast?.map Char.isDigit).getD false && r.pfx[pfx.length]? == some d) = true
    · -- the retry with one digit shifted into the prefix
      rw [if_pos c3] at h
      exact ih (pfx ++ [d]) k (by rw [← hcat]; simp) (fun c hc => hdig c (by simp [hc])) h
    rw [if_neg c3] at h
    by_cases c4 : pfx.length = r.pfx.length ∧ pfx = r.pfx ∧ parseNat (d :: ds') ≤ r.hi ∧ r.lo ≤ parseNat (d :: ds')
    · rw [if_pos c4] at h
      obtain ⟨_, hp, hhi, hlo⟩ := c4
      cases hwe : widthEquiv r.lo r.width (parseNat (d :: ds')) (d :: ds').length with
      | none => rw [hwe] at h; cases h
      | some p =>
        rw [hwe] at h
        cases h
        obtain ⟨hEq, hT, hR⟩ := widthEquiv_sound hwe
        rw [HostRange.expand_nonsingle r hs', numSeg_get _ _ _ _ _ (by omega), ← hcat, hp, nameOf,
          Nat.add_sub_cancel' hlo, ← hT _ hlo, hEq, hR _ (Nat.le_refl _), fmtNum_parse (d :: ds') (by simp) hdig]
    · rw [if_neg c4] at h; cases h

end Pm

namespace Pm

/-- `hostlist_find`: first range that contains the name; index = hosts before it + offset -/
def findGo (full : Name) : Hostlist → Nat → Option Nat
  | [], _ => none
  | r :: rs, acc =>
    match hnWithin r full (splitDigits full).1 (splitDigits full).2 with
    | some k => some (acc + k)
    | none => findGo full rs (acc + r.expand.length)

def find (hl : Hostlist) (full : Name) : Option Nat := findGo full hl 0

theorem findGo_sound (full : Name) : ∀ (hl : Hostlist) (acc i : Nat) (pre : List Name),
    pre.length = acc → findGo full hl acc = some i → (pre ++ expand hl)[i]? = some full := by
  intro hl
  induction hl with
  | nil => intro acc i pre _ h; simp [findGo] at h
  | cons r rs ih =>
    intro acc i pre hpre h
    unfold findGo at h
    obtain ⟨hcat, hdig⟩ := splitDigits_spec full
    cases hw : hnWithin r full (splitDigits full).1 (splitDigits full).2 with
    | some k =>
      rw [hw] at h
      simp only [Option.some.injEq] at h
      subst h
      have hs := hnWithin_sound r full _ _ k hcat hdig hw
      have hk : k < r.expand.length := by
        rcases Nat.lt_or_ge k r.expand.length with h | h
        · exact h
        · rw [List.getElem?_eq_none h] at hs; cases hs
      have : expand (r :: rs) = r.expand ++ expand rs := by simp [expand]
      rw [this, ← hpre, List.getElem?_append_right (by omega)]
      simp only [Nat.add_sub_cancel_left]
      rw [List.getElem?_append_left hk]
      exact hs
    | none =>
      rw [hw] at h
      simp only at h
      have := ih (acc + r.expand.length) i (pre ++ r.expand) (by simp [hpre]) h
      have e : expand (r :: rs) = r.expand ++ expand rs := by simp [expand]
      rw [e, ← List.append_assoc]
      exact this

theorem find_sound (hl : Hostlist) (full : Name) (i : Nat) (h : find hl full = some i) :
    (expand hl)[i]? = some full := by
  have := findGo_sound full hl 0 i [] rfl h
  simpa using this

theorem find_mem (hl : Hostlist) (full : Name) (i : Nat) (h : find hl full = some i) : full ∈ expand hl :=
  List.mem_of_getElem? (find_sound hl full i h)

end Pm

