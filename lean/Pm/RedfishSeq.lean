import Pm.RedfishRefine
/-! One statement for all three commands; sequences of commands; every target is named by exactly one line. -/
namespace Pm.Redfish

/-- the documented rules for one command, as the driver `RfMain` applies them -/
def specRun (c : Cfg) (st : St) (cmd : Cmd) (ts : List Nat) : List Line × St :=
  if cmd = .stat then (specStat c st ts, st) else specPower c st cmd ts

/-- two association lists describing the same plug states -/
def SameSt (a b : St) : Prop := ∀ x, isOn a x = isOn b x

theorem SameSt.refl (a : St) : SameSt a a := fun _ => rfl
theorem SameSt.trans {a b d : St} (h1 : SameSt a b) (h2 : SameSt b d) : SameSt a d := fun x => (h1 x).trans (h2 x)

/-- one command: the machine prints the rules' lines (in some order) and reaches the rules' plug states -/
theorem runCmd_refines {c : Cfg} (hw : WF c = true) (st : St) (cmd : Cmd) (ts : List Nat) :
    (runCmd c st cmd ts).1.Perm (specRun c st cmd ts).1 ∧ SameSt (runCmd c st cmd ts).2.1 (specRun c st cmd ts).2 := by
  unfold specRun
  by_cases hc : cmd = .stat
  · subst hc
    have := runCmd_stat hw st ts
    simp only [if_true]
    exact ⟨this.1, fun x => by rw [this.2]⟩
  · simp only [hc, if_false]
    exact runCmd_power hw st hc ts

/-! ### the rules depend on the plug states only through `isOn` -/
theorem statOf_congr {c : Cfg} {a b : St} (h : SameSt a b) : statOf c a = statOf c b := by
  funext x; unfold statOf; rw [h x]

theorem specStat_congr {c : Cfg} {a b : St} (h : SameSt a b) (ts : List Nat) : specStat c a ts = specStat c b ts := by
  rw [specStat_eq, specStat_eq]
  apply List.map_congr_left
  intro t _
  unfold statLine blocker
  rw [statOf_congr h]

theorem effStat_congr {c : Cfg} {a b : St} (h : SameSt a b) (C : Cmd) (T : List Nat) :
    effStat c a C T = effStat c b C T := by
  funext x; unfold effStat; rw [statOf_congr h]

theorem specPower_congr {c : Cfg} (hw : WF c = true) {a b : St} (h : SameSt a b) {cmd : Cmd} (hc : cmd ≠ .stat)
    (ts : List Nat) :
    (specPower c a cmd ts).1 = (specPower c b cmd ts).1 ∧ SameSt (specPower c a cmd ts).2 (specPower c b cmd ts).2 := by
  by_cases hph : specPhased c cmd ts = true
  · rw [specPower_eq, specPower_eq, hph]
    simp only [if_true]
    exact ⟨trivial, h⟩
  · have hph : specPhased c cmd ts = false := by simpa using hph
    obtain ⟨l1, s1⟩ := specPower_closed hw a hc ts hph
    obtain ⟨l2, s2⟩ := specPower_closed hw b hc ts hph
    have e1 : powLine c a cmd (knownT c ts) = powLine c b cmd (knownT c ts) := by
      funext t; unfold powLine blk; rw [effStat_congr h]
    have e2 : succeeds c a cmd (knownT c ts) = succeeds c b cmd (knownT c ts) := by
      funext t; unfold succeeds blk; rw [effStat_congr h]
    refine ⟨by rw [l1, l2, e1], fun x => ?_⟩
    rw [s1 x, s2 x]
    unfold finalOn
    rw [e2, h x]

theorem specRun_congr {c : Cfg} (hw : WF c = true) {a b : St} (h : SameSt a b) (cmd : Cmd) (ts : List Nat) :
    (specRun c a cmd ts).1 = (specRun c b cmd ts).1 ∧ SameSt (specRun c a cmd ts).2 (specRun c b cmd ts).2 := by
  unfold specRun
  by_cases hc : cmd = .stat
  · simp only [hc, if_true]; exact ⟨specStat_congr h ts, h⟩
  · simp only [hc, if_false]; exact specPower_congr hw h hc ts

/-! ### sequences of commands, each started from where the previous one left the plugs -/
/-- the machine on a sequence of commands: per command its lines and its "back at the prompt" flag; the last states -/
def machSeq (c : Cfg) : St → List (Cmd × List Nat) → List (List Line × Bool) × St
  | st, [] => ([], st)
  | st, (cmd, ts) :: rest =>
    let r := runCmd c st cmd ts
    let q := machSeq c r.2.1 rest
    ((r.1, r.2.2) :: q.1, q.2)

/-- the rules on a sequence of commands -/
def specSeq (c : Cfg) : St → List (Cmd × List Nat) → List (List Line) × St
  | st, [] => ([], st)
  | st, (cmd, ts) :: rest =>
    let r := specRun c st cmd ts
    let q := specSeq c r.2 rest
    (r.1 :: q.1, q.2)

/-- command by command: back at the prompt, and the same lines up to order -/
def SeqAgree : List (List Line × Bool) → List (List Line) → Prop
  | [], [] => True
  | (l, d) :: ls, l' :: ls' => d = true ∧ l.Perm l' ∧ SeqAgree ls ls'
  | _, _ => False

theorem seq_refines {c : Cfg} (hw : WF c = true) (cmds : List (Cmd × List Nat)) : ∀ (sm ss : St), SameSt sm ss →
    SeqAgree (machSeq c sm cmds).1 (specSeq c ss cmds).1 ∧ SameSt (machSeq c sm cmds).2 (specSeq c ss cmds).2 := by
  induction cmds with
  | nil => intro sm ss h; exact ⟨trivial, h⟩
  | cons ct rest ih =>
    intro sm ss h
    rcases ct with ⟨cmd, ts⟩
    have h1 := runCmd_refines hw sm cmd ts
    have h2 := specRun_congr hw h cmd ts
    have h3 := ih (runCmd c sm cmd ts).2.1 (specRun c ss cmd ts).2 (h1.2.trans h2.2)
    simp only [machSeq, specSeq, SeqAgree]
    exact ⟨⟨runCmd_done hw sm cmd ts, by rw [← h2.1]; exact h1.1, h3.1⟩, h3.2⟩

/-! ### the rules for arbitrary target lists, target by target -/

theorem powLine_on (c : Cfg) (st : St) (T : List Nat) (t : Nat) :
    powLine c st .on T t = (powerLine1 c st .on t).1 := by
  have : effStat c st .on T = statOf c st := by funext a; simp [effStat]
  unfold powLine powerLine1 blk
  rw [this, ← blocker_eq]
  cases blocker c st t with
  | none => simp only; split <;> rfl
  | some as => rcases as with ⟨a, s⟩; simp only; split <;> rfl

theorem powLine_off_below_target {c : Cfg} (hw : WF c = true) (st : St) (T : List Nat) {t a : Nat}
    (ha : a ∈ ancUp c t) (haT : a ∈ T) (hf : hostFails c a = false)
    (habove : ∀ b ∈ ancUp c a, effStat c st .off T b = .on) :
    powLine c st .off T t = .ok t := by
  unfold powLine
  rw [blk_at hw ha (by rw [effStat_off_target haT hf]; decide) habove, effStat_off_target haT hf]
  rfl

theorem finalOn_off_below {c : Cfg} (st : St) (T : List Nat) {t x : Nat} (ht : t ∈ T)
    (hs : succeeds c st .off T t = true) (hx : x = t ∨ isDesc c x t = true) :
    finalOn c st .off T T x = false := by
  unfold finalOn
  have : (T.any fun t => succeeds c st .off T t && (x == t || isDesc c x t)) = true := by
    rw [List.any_eq_true]
    refine ⟨t, ht, ?_⟩
    rcases hx with rfl | hx
    · simp [hs]
    · simp [hs, hx]
  simp [this]

/-! ### every target is named by exactly one line: read off the rules -/

/-- the plug a line names, and whether it is the `unknown plug` line -/
def key (l : Line) : Nat × Bool := (linePlug l, isUnk l)

theorem spec_keys (c : Cfg) (ts : List Nat) (g : Nat → Line) (hg : ∀ t, key (g t) = (t, false)) :
    ((unknownLines c ts ++ (knownT c ts).map g).map key).Perm (ts.map fun t => (t, !known c t)) := by
  -- the answers `g` completed by the `unknown plug` lines, sorted by `split_known`
  have hs := split_known c ts (fun t => if known c t then g t else .unknown t) fun t ht => by simp [ht]
  have e : (knownT c ts).map (fun t => if known c t then g t else .unknown t) = (knownT c ts).map g :=
    List.map_congr_left fun t ht => by rw [if_pos (mem_knownT.1 ht).2]
  rw [e] at hs
  refine (hs.map key).symm.trans (.of_eq ?_)
  rw [List.map_map]
  exact List.map_congr_left fun t _ => by
    cases hk : known c t
    · simp [hk, key, linePlug, isUnk]
    · simp [hk, hg]

theorem key_statLine (c : Cfg) (st : St) (t : Nat) : key (statLine c st t) = (t, !known c t) := by
  unfold statLine known
  cases lookup c t with
  | none => rfl
  | some _ => simp only [Option.isNone_some, Bool.false_eq_true, if_false]; split <;> rfl

theorem key_powLine (c : Cfg) (st : St) (cmd : Cmd) (T : List Nat) (t : Nat) : key (powLine c st cmd T t) = (t, false) := by
  unfold powLine
  repeat' split
  all_goals rfl

theorem specRun_keys {c : Cfg} (hw : WF c = true) (st : St) (cmd : Cmd) (ts : List Nat) :
    ((specRun c st cmd ts).1.map key).Perm (ts.map fun t => (t, !known c t)) := by
  unfold specRun
  by_cases hc : cmd = .stat
  · simp only [hc, if_true, specStat_eq, List.map_map]
    exact .of_eq (List.map_congr_left fun t _ => key_statLine c st t)
  · simp only [hc, if_false]
    by_cases hph : specPhased c cmd ts = true
    · rw [specPower_eq, if_pos hph]
      exact spec_keys c ts Line.phased fun _ => rfl
    · exact ((specPower_lines hw st hc ts (by simpa using hph)).1.map key).trans
        (spec_keys c ts _ (key_powLine c st cmd _))

theorem runCmd_unknowns {c : Cfg} (hw : WF c = true) (st : St) (cmd : Cmd) (ts : List Nat) :
    ((runCmd c st cmd ts).1.map key).Perm (ts.map fun t => (t, !known c t)) :=
  ((runCmd_refines hw st cmd ts).1.map key).trans (specRun_keys hw st cmd ts)

theorem runCmd_plugs {c : Cfg} (hw : WF c = true) (st : St) (cmd : Cmd) (ts : List Nat) :
    ((runCmd c st cmd ts).1.map linePlug).Perm ts := by
  simpa [List.map_map, Function.comp_def, key] using (runCmd_unknowns hw st cmd ts).map Prod.fst

end Pm.Redfish
