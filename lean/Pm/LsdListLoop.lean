import Pm.LsdListOps
/-! # The loops of `list.c` on a represented list

`list_find_first`, `list_for_each`, `list_destroy`, `list_delete_all`, `list_find`: each loop ends within its fuel (the model's
stand-in for "the C loop terminates"), never dereferences a wild pointer, and computes what the list with cursors computes. -/
namespace Pm.LsdList
variable {α : Type}

/-! ## read-only loops -/

theorem findFirstLoop_spec {l : LList α} {ns : List Nat} {items : List α} (h : Chain l ns items) (f : α → Bool) :
    ∀ (fuel k : Nat), ns.length - k < fuel → findFirstLoop l f fuel ns[k]? = some ((items.drop k).find? f) := by
  intro fuel
  induction fuel with
  | zero => intro k h2; omega
  | succ fuel ih =>
    intro k hfuel
    by_cases hlt : k < ns.length
    · have hlt' : k < items.length := h.len ▸ hlt
      rw [List.getElem?_eq_getElem hlt, List.drop_eq_getElem_cons hlt', List.find?_cons]
      simp only [findFirstLoop, h.cell k _ (List.getElem?_eq_getElem hlt), List.getElem?_eq_getElem hlt']
      cases f items[k]
      · exact ih (k + 1) (by omega)
      · rfl
    · rw [List.getElem?_eq_none (by omega), List.drop_eq_nil_of_le (by rw [h.len]; omega)]
      rfl

theorem findFirst_abs {l : LList α} {ns : List Nat} {a : Abs α} (h : RepA l ns a) (f : α → Bool) :
    findFirst l f = some (a.items.find? f) := by
  have := findFirstLoop_spec h.rep.toChain f (l.cells.size + 1) 0 (by have := h.rep.toChain.length_le; omega)
  rwa [← h.rep.head] at this

theorem forEachLoop_spec {l : LList α} {ns : List Nat} {items : List α} (h : Chain l ns items) (f : α → Int) :
    ∀ (fuel k : Nat) (n : Int), ns.length - k < fuel →
      forEachLoop l f fuel ns[k]? n = some (forEachAbs f (items.drop k) n) := by
  intro fuel
  induction fuel with
  | zero => intro k _ h2; omega
  | succ fuel ih =>
    intro k n hfuel
    by_cases hlt : k < ns.length
    · have hlt' : k < items.length := h.len ▸ hlt
      rw [List.getElem?_eq_getElem hlt, List.drop_eq_getElem_cons hlt']
      simp only [forEachLoop, forEachAbs, h.cell k _ (List.getElem?_eq_getElem hlt), List.getElem?_eq_getElem hlt']
      split
      · rfl
      · exact ih (k + 1) (n + 1) (by omega)
    · rw [List.getElem?_eq_none (by omega), List.drop_eq_nil_of_le (by rw [h.len]; omega)]
      rfl

theorem forEach_abs {l : LList α} {ns : List Nat} {a : Abs α} (h : RepA l ns a) (f : α → Int) :
    forEach l f = some (forEachAbs f a.items 0) := by
  have := forEachLoop_spec h.rep.toChain f (l.cells.size + 1) 0 0 (by have := h.rep.toChain.length_le; omega)
  rwa [← h.rep.head] at this

/-! ## `list_destroy` -/

theorem destroyLoop_spec {ns : List Nat} {items : List α} :
    ∀ (fuel k : Nat) (l : LList α) (del : List α), Chain l ns items → ns.length - k < fuel →
      destroyLoop fuel l ns[k]? del =
        some (del ++ (if l.fdel then items.drop k else []), { l with free := (ns.drop k).reverse ++ l.free }) := by
  intro fuel
  induction fuel with
  | zero => intro k _ _ _ h2; omega
  | succ fuel ih =>
    intro k l del h hfuel
    by_cases hlt : k < ns.length
    · have hlt' : k < items.length := h.len ▸ hlt
      rw [List.getElem?_eq_getElem hlt, List.drop_eq_getElem_cons hlt', List.drop_eq_getElem_cons hlt]
      simp only [destroyLoop, h.cell k _ (List.getElem?_eq_getElem hlt), List.getElem?_eq_getElem hlt']
      rw [ih (k + 1) (nodeFree l ns[k]) _ (h.congr rfl rfl) (by omega)]
      cases hfd : l.fdel <;> simp [nodeFree, hfd, -List.getElem_cons_drop]
    · rw [List.getElem?_eq_none (by omega), List.drop_eq_nil_of_le (by rw [h.len]; omega),
        List.drop_eq_nil_of_le (by omega)]
      simp only [destroyLoop, List.reverse_nil, List.nil_append, ite_self, List.append_nil]

/-- the node memory is consistent: the free cells are distinct and exist -/
def HeapOk (h : Heap α) : Prop := h.free.Nodup ∧ ∀ p ∈ h.free, p < h.cells.size

theorem create_rep (h : Heap α) (fdel : Bool) (ho : HeapOk h) : Rep (create h fdel) [] [] := by
  refine ⟨⟨rfl, rfl, by simp, by intro a b n ha; simp at ha⟩, rfl, rfl, ho.1, ?_, by simp [create], by simp [create]⟩
  intro p hp; exact ⟨ho.2 p hp, by simp⟩

theorem destroy_spec {l : LList α} {ns : List Nat} {items : List α} (h : Rep l ns items) :
    ∃ hp, destroy l = some (if l.fdel then items else [], hp) ∧ HeapOk hp := by
  have := destroyLoop_spec (l.cells.size + 1) 0 l [] h.toChain (by have := h.toChain.length_le; omega)
  rw [← h.head] at this
  refine ⟨_, by simp [destroy, this]; rfl, ?_, ?_⟩
  · show (((List.drop 0 ns).reverse ++ l.free).Nodup)
    rw [List.drop_zero, List.nodup_append]
    refine ⟨(List.reverse_perm ns).nodup_iff.mpr (inj_iff_nodup.mp h.inj), h.freeNodup, ?_⟩
    intro a ha b hb e
    subst e
    obtain ⟨k, hk, rfl⟩ := List.getElem_of_mem (List.mem_reverse.mp ha)
    exact (h.freeOk _ hb).2 k (List.getElem?_eq_getElem hk)
  · intro p hp
    have hp : p ∈ (List.drop 0 ns).reverse ++ l.free := hp
    simp only [List.drop_zero, List.mem_append, List.mem_reverse] at hp
    rcases hp with hp | hp
    · obtain ⟨k, hk, rfl⟩ := List.getElem_of_mem hp
      exact h.toChain.lt_size k _ (List.getElem?_eq_getElem hk)
    · exact (h.freeOk p hp).1

/-! ## `list_delete_all` -/

/-- whatever the walk on the list with cursors computes, the node-level loop computes with at least as much fuel -/
theorem deleteAllLoop_abs (f : α → Bool) :
    ∀ (fuel : Nat) (a : Abs α) (i n : Nat) (del : List α) (fuel' : Nat) (l : LList α) (ns : List Nat) r,
      RepA l ns a → i ≤ ns.length → fuel ≤ fuel' → Abs.deleteAllFrom f fuel a i n del = some r →
      ∃ l' ns', deleteAllLoop f fuel' l (fieldAt ns i) n del = some (r.1, r.2.1, l') ∧ RepA l' ns' r.2.2 := by
  intro fuel a i n del
  induction fuel, a, i, n, del using Abs.deleteAllFrom.induct f with
  | case1 => intro _ _ _ _ _ _ _ e; simp [Abs.deleteAllFrom] at e
  | case2 fuel a i n del hd =>
    intro fuel' l ns r h hk hf e
    obtain ⟨fuel', rfl⟩ : ∃ m, fuel' = m + 1 := ⟨fuel' - 1, by omega⟩
    have hn : ns[i]? = none := by rw [List.getElem?_eq_none_iff, ← h.len]; exact List.getElem?_eq_none_iff.mp hd
    simp only [Abs.deleteAllFrom, hd, Option.some.injEq] at e
    subst e
    exact ⟨l, ns, by simp only [deleteAllLoop, h.rep.toChain.load i hk, hn], h⟩
  | case3 fuel a i n del d hd hfd ih =>
    intro fuel' l ns r h hk hf e
    obtain ⟨fuel', rfl⟩ : ∃ m, fuel' = m + 1 := ⟨fuel' - 1, by omega⟩
    have hlt : i < ns.length := by rw [← h.len]; exact (List.getElem?_eq_some_iff.mp hd).1
    have hdo : dataOf l ns[i] = some d := by rw [h.rep.toChain.dataOf i _ (List.getElem?_eq_getElem hlt), hd]
    obtain ⟨l', e', hr⟩ := nodeDestroy_abs h i hlt
    rw [hd] at e'
    simp only [Abs.deleteAllFrom, hd, hfd, if_true] at e
    obtain ⟨l2, ns2, e2, hr2⟩ := ih fuel' l' (ns.eraseIdx i) r hr (by simp [List.length_eraseIdx, hlt]; omega) (by omega) e
    rw [fieldAt_eraseIdx, if_pos (Nat.le_refl i)] at e2
    refine ⟨l2, ns2, ?_, hr2⟩
    simp only [deleteAllLoop, h.rep.toChain.load i hk, List.getElem?_eq_getElem hlt, hdo, hfd, if_true, e', ← h.fdel]
    exact e2
  | case4 fuel a i n del d hd hfd ih =>
    intro fuel' l ns r h hk hf e
    obtain ⟨fuel', rfl⟩ : ∃ m, fuel' = m + 1 := ⟨fuel' - 1, by omega⟩
    have hlt : i < ns.length := by rw [← h.len]; exact (List.getElem?_eq_some_iff.mp hd).1
    have hdo : dataOf l ns[i] = some d := by rw [h.rep.toChain.dataOf i _ (List.getElem?_eq_getElem hlt), hd]
    simp only [Abs.deleteAllFrom, hd, hfd, Bool.false_eq_true, if_false] at e
    obtain ⟨l2, ns2, e2, hr2⟩ := ih fuel' l ns r h (by omega) (by omega) e
    rw [fieldAt_succ ns i _ (List.getElem?_eq_getElem hlt)] at e2
    refine ⟨l2, ns2, ?_, hr2⟩
    simp only [deleteAllLoop, h.rep.toChain.load i hk, List.getElem?_eq_getElem hlt, hdo, hfd, Bool.false_eq_true, if_false]
    exact e2

theorem deleteAll_abs {l : LList α} {ns : List Nat} {a : Abs α} (h : RepA l ns a) (f : α → Bool) :
    ∃ l' ns' n del a', deleteAll l f = some (n, del, l') ∧ a.deleteAll f = some (n, del, a') ∧ RepA l' ns' a' := by
  obtain ⟨a', e, -⟩ := Abs.deleteAllFrom_spec f (a.items.length + 1) a 0 0 [] (by omega)
  obtain ⟨l', ns', e', hr⟩ := deleteAllLoop_abs f _ a 0 0 [] (l.cells.size + 1) l ns _ h (Nat.zero_le _)
    (by have := h.rep.toChain.length_le; have := h.len; omega) e
  exact ⟨l', ns', _, _, a', e', e, hr⟩

/-! ## `list_find` -/

/-- whatever the search on the list with cursors finds, the node-level loop finds with at least as much fuel -/
theorem find_abs (f : α → Bool) (k : Nat) :
    ∀ (fuel fuel' : Nat) (l : LList α) (ns : List Nat) (a : Abs α) r a', RepA l ns a → fuel ≤ fuel' →
      Abs.find f fuel a k = some (r, a') → ∃ l' ns', find f fuel' l k = some (r, l') ∧ RepA l' ns' a' := by
  intro fuel
  induction fuel with
  | zero => intro _ _ _ _ _ _ _ _ e; simp [Abs.find] at e
  | succ fuel ih =>
    intro fuel' l ns a r a' h hf e
    obtain ⟨fuel', rfl⟩ : ∃ m, fuel' = m + 1 := ⟨fuel' - 1, by omega⟩
    have hn := next_abs h k
    rw [Abs.find] at e
    rw [find]
    cases hx : a.next k with
    | none => simp [hx] at e
    | some x =>
      obtain ⟨v, a1⟩ := x
      rw [hx] at hn
      obtain ⟨l1, ns1, e1, hr1⟩ := hn
      simp only [hx] at e
      simp only [e1]
      cases v with
      | none => cases e; exact ⟨l1, ns1, rfl, hr1⟩
      | some v =>
        simp only at e ⊢
        split at e
        · next hfv => cases e; exact ⟨l1, ns1, by simp [hfv], hr1⟩
        · next hfv => simp only [hfv, Bool.false_eq_true, if_false]; exact ih fuel' l1 ns1 a1 r a' hr1 (by omega) e

theorem findOp_abs {l : LList α} {ns : List Nat} {a : Abs α} (h : RepA l ns a) (k : Nat) (f : α → Bool) :
    Refines (a.findOp k f) (find f (l.cells.size + 2) l k) := by
  rcases h.iter k with ⟨hi, hc⟩ | ⟨i, j, g, hi, hc, -⟩
  · simp only [Abs.findOp, Abs.find, Abs.next, find, next, hi, hc, Option.map_none]; rfl
  · obtain ⟨a', hr, -⟩ := a.findOp_spec k f (by rw [hc]; rfl)
    rw [hr]
    exact find_abs f k _ _ l ns a _ a' h (by have := h.rep.toChain.length_le; have := h.len; omega) hr

end Pm.LsdList
