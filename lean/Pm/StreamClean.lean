import Pm.SortFProof
import Pm.HLMore
import Pm.RoundTrip
import Pm.CreateR
import Pm.ReplyProof
import Pm.ClientProof
/-! For C15 over whole runs: **the alphabet of the hostlist mirror**.

    A name is *clean* when none of its characters becomes the byte CR or LF on the wire (`ofChars` reduces the code point
    modulo 256, so this is a condition on `c.toNat.toUInt8`, not on the character).  Every operation of the hostlist mirror
    that the daemon uses on the way to a client (`pushHost`, `createR`, `expand`, `sortHL`, `rangedString`, `expAliases`)
    produces clean names / strings from clean names: the characters they add are digits and `[ ] , -`. -/
namespace Pm.Daemon.StreamPf
open Pm Pm.Client Pm.Daemon Pm.Daemon.ClientPf

/-- the character does not become CR or LF when `ofChars` puts it on the wire -/
def okChar (c : Char) : Bool := c.toNat.toUInt8 != 13 && c.toNat.toUInt8 != 10

/-- no character of the name becomes CR or LF -/
def cleanName (n : Name) : Bool := n.all okChar

theorem cleanText_ofChars (n : Name) : cleanText (ofChars n) = cleanName n := by
  simp only [cleanText, ofChars, cleanName, List.all_map]
  congr 1

theorem cleanName_append (a b : Name) : cleanName (a ++ b) = (cleanName a && cleanName b) := by
  simp [cleanName, List.all_append]

theorem cleanName_cons (c : Char) (a : Name) : cleanName (c :: a) = (okChar c && cleanName a) := by
  simp [cleanName]

theorem cleanName_nil : cleanName [] = true := rfl

theorem cleanName_of_mem {n : Name} (h : ∀ c ∈ n, okChar c = true) : cleanName n = true := by
  simpa [cleanName, List.all_eq_true] using h

theorem cleanName_mem {n : Name} (h : cleanName n = true) : ∀ c ∈ n, okChar c = true := by
  simpa [cleanName, List.all_eq_true] using h

theorem cleanName_sublist {a b : Name} (hs : a.Sublist b) (h : cleanName b = true) : cleanName a = true :=
  cleanName_of_mem fun c hc => cleanName_mem h c (hs.subset hc)

theorem cleanName_take (n : Name) (k : Nat) (h : cleanName n = true) : cleanName (n.take k) = true :=
  cleanName_sublist (List.take_sublist k n) h
theorem cleanName_drop (n : Name) (k : Nat) (h : cleanName n = true) : cleanName (n.drop k) = true :=
  cleanName_sublist (List.drop_sublist k n) h
theorem cleanName_takeWhile (n : Name) (p : Char → Bool) (h : cleanName n = true) : cleanName (n.takeWhile p) = true :=
  cleanName_sublist (List.takeWhile_sublist p) h
theorem cleanName_dropWhile (n : Name) (p : Char → Bool) (h : cleanName n = true) : cleanName (n.dropWhile p) = true :=
  cleanName_sublist (List.dropWhile_sublist p) h
theorem cleanName_reverse (n : Name) : cleanName n.reverse = cleanName n := by
  simp [cleanName, List.all_reverse]

theorem okChar_digit (c : Char) (h : c.isDigit = true) : okChar c = true := by
  obtain ⟨h1, h2⟩ := digit_bounds c h
  have : ∀ n, 48 ≤ n → n ≤ 57 → (n.toUInt8 != 13 && n.toUInt8 != 10) = true := by
    intro n a b
    have : n = 48 ∨ n = 49 ∨ n = 50 ∨ n = 51 ∨ n = 52 ∨ n = 53 ∨ n = 54 ∨ n = 55 ∨ n = 56 ∨ n = 57 := by omega
    rcases this with h | h | h | h | h | h | h | h | h | h <;> subst h <;> decide
  exact this _ h1 h2

theorem fmtNum_clean (w n : Nat) : cleanName (fmtNum w n) = true := by
  apply cleanName_of_mem
  intro c hc
  unfold fmtNum at hc
  rcases List.mem_append.mp hc with h | h
  · rw [(List.mem_replicate.mp h).2]; decide
  · exact okChar_digit c (Nat.isDigit_of_mem_toDigits (by decide) (by decide) h)

/-- every prefix stored in the list is clean -/
def HLClean (hl : Hostlist) : Prop := ∀ r ∈ hl, cleanName r.pfx = true

theorem HLClean_nil : HLClean [] := by intro r hr; cases hr

theorem HLClean_append {a b : Hostlist} (ha : HLClean a) (hb : HLClean b) : HLClean (a ++ b) :=
  List.forall_mem_append.mpr ⟨ha, hb⟩

theorem range_expand_clean (r : HostRange) (h : cleanName r.pfx = true) : ∀ n ∈ r.expand, cleanName n = true := by
  intro n hn
  unfold HostRange.expand at hn
  split at hn
  · simp at hn; subst hn; exact h
  · simp only [List.mem_map, List.mem_range] at hn
    obtain ⟨i, _, rfl⟩ := hn
    rw [cleanName_append, h, fmtNum_clean]; rfl

theorem expand_clean (hl : Hostlist) (h : HLClean hl) : ∀ n ∈ expand hl, cleanName n = true := by
  intro n hn
  unfold expand at hn
  rw [List.mem_flatMap] at hn
  obtain ⟨r, hr, hn⟩ := hn
  exact range_expand_clean r (h r hr) n hn

theorem HLClean_of_expand (hl : Hostlist) (hwf : HWF hl) (h : ∀ n ∈ expand hl, cleanName n = true) : HLClean hl := by
  intro r hr
  obtain ⟨t, ht, _⟩ := r.pfx_of_expand (hwf r hr)
  have := h _ (mem_expand hr ht)
  rw [cleanName_append, Bool.and_eq_true] at this
  exact this.1

theorem intercalate_clean (l : List Name) (h : ∀ x ∈ l, cleanName x = true) : cleanName (List.intercalate [','] l) = true := by
  apply cleanName_of_mem
  intro c hc
  rcases mem_intercalate _ c l hc with h1 | ⟨x, hx, hcx⟩
  · simp at h1; subst h1; decide
  · exact cleanName_mem (h x hx) c hcx

theorem numstr_clean (r : HostRange) : cleanName (numstr r) = true := by
  unfold numstr
  split
  · rfl
  · rw [cleanName_append, fmtNum_clean]
    split
    · rw [cleanName_cons, fmtNum_clean]; rfl
    · rfl

theorem groupTok_clean (r : HostRange) (grp : Hostlist) (h : cleanName r.pfx = true) : cleanName (groupTok r grp) = true := by
  unfold groupTok
  rw [cleanName_append, h]
  split
  · rw [cleanName_cons, cleanName_append, intercalate_clean _ (by
      intro x hx; simp only [List.mem_map] at hx; obtain ⟨y, _, rfl⟩ := hx; exact numstr_clean y)]
    rfl
  · simp [numstr_clean]

theorem rangedGroups_clean : ∀ (n : Nat) (hl : Hostlist), hl.length ≤ n → HLClean hl → ∀ t ∈ rangedGroups hl, cleanName t = true := by
  intro n
  induction n with
  | zero =>
    intro hl hlen _ t ht
    have : hl = [] := List.length_eq_zero_iff.mp (by omega)
    subst this; rw [rangedGroups_nil] at ht; cases ht
  | succ n ih =>
    intro hl hlen hc t ht
    cases hl with
    | nil => rw [rangedGroups_nil] at ht; cases ht
    | cons r rest =>
      rw [rangedGroups_cons] at ht
      rcases List.mem_cons.mp ht with rfl | ht
      · exact groupTok_clean r _ (hc r (by simp))
      · refine ih _ ?_ ?_ t ht
        · simp only [List.length_drop, List.length_cons] at hlen ⊢; omega
        · intro x hx; exact hc x (List.mem_cons_of_mem _ (List.mem_of_mem_drop hx))

/-- **the ranged string of a clean list is clean**: besides the prefixes it consists of digits and `[ ] , -` -/
theorem rangedString_clean (hl : Hostlist) (h : HLClean hl) : cleanName (rangedString hl) = true := by
  unfold rangedString
  exact intercalate_clean _ (rangedGroups_clean hl.length hl (Nat.le_refl _) h)

theorem pushRange_clean (hl : Hostlist) (r : HostRange) (hr : cleanName r.pfx = true) (h : HLClean hl) : HLClean (pushRange hl r) :=
  pushRange_forall (P := fun t => cleanName t.pfx = true) h hr fun _ _ ht _ _ _ => ht

theorem splitDigits_clean (n : Name) (h : cleanName n = true) : cleanName (splitDigits n).1 = true := by
  unfold splitDigits
  dsimp only
  rw [cleanName_reverse]
  exact cleanName_dropWhile _ _ (by rw [cleanName_reverse]; exact h)

theorem nameRange_clean (n : Name) (h : cleanName n = true) : cleanName (nameRange n).pfx = true := by
  rcases nameRange_cases n with e | ⟨_, _, e⟩ <;> rw [e]
  · exact h
  · exact splitDigits_clean n h

theorem pushHost_clean (hl : Hostlist) (n : Name) (hn : cleanName n = true) (h : HLClean hl) : HLClean (pushHost hl n) :=
  pushHost_eq hl n ▸ pushRange_clean hl _ (nameRange_clean n hn) h

theorem foldl_pushHost_clean (names : List Name) (hn : ∀ n ∈ names, cleanName n = true) (hl : Hostlist) (h : HLClean hl) :
    HLClean (names.foldl pushHost hl) := by
  induction names generalizing hl with
  | nil => exact h
  | cons a r ih =>
    rw [List.foldl_cons]
    exact ih (fun n hn' => hn n (by simp [hn'])) _ (pushHost_clean hl a (hn a (by simp)) h)

/-- sorting keeps a (strongly well-formed) clean list clean: the result stands for the same names -/
theorem sortHL_clean (hl hl' : Hostlist) (hwf : HWFS hl) (hc : HLClean hl) (h : sortHL hl = .ok hl') : HLClean hl' := by
  apply HLClean_of_expand hl' (sortHL_wfs hl hl' hwf h).toHWF
  intro n hn
  exact expand_clean hl hc n ((sortHL_perm hl hl' hwf h).subset hn)

/-- `sortedRanged` (the `302`/`303` host ranges of a reply) of clean names is clean -/
theorem sortedRanged_clean (names : List Name) (hn : ∀ n ∈ names, cleanName n = true) (r : Bytes)
    (h : sortedRanged names = some r) : cleanText r = true := by
  unfold sortedRanged at h
  split at h
  · rename_i hl hs
    cases h
    rw [cleanText_ofChars]
    exact rangedString_clean hl (sortHL_clean _ hl (foldl_pushHost_HWFS names [] HWFS_nil)
      (foldl_pushHost_clean names hn [] HLClean_nil) hs)
  · cases h
  · cases h

theorem toChars_clean (b : Bytes) : cleanName (toChars b) = cleanText b := by
  unfold toChars cleanName cleanText
  rw [List.all_map]
  congr 1
  funext x
  have hx : x.toNat < 256 := UInt8.toNat_lt x
  have h1 : (Char.ofNat x.toNat).toNat = x.toNat := Pm.Daemon.Reply.toNat_ofNat_small _ hx
  simp only [Function.comp, okChar, h1]
  have : x.toNat.toUInt8 = x := by simp
  rw [this]

theorem tokens_go_clean : ∀ (rest cur : List Char) (level : Int) (acc : List (List Char)),
    cleanName rest = true → cleanName cur = true → (∀ t ∈ acc, cleanName t = true) →
    ∀ t ∈ tokens.go rest cur level acc, cleanName t = true := by
  intro rest
  induction rest with
  | nil =>
    intro cur level acc _ hcur hacc t ht
    unfold tokens.go at ht
    split at ht
    · exact hacc t (by simpa using ht)
    · simp only [List.reverse_cons, List.mem_append, List.mem_reverse, List.mem_cons, List.not_mem_nil, or_false] at ht
      rcases ht with ht | ht
      · exact hacc t ht
      · subst ht; rw [cleanName_reverse]; exact hcur
  | cons c r ih =>
    intro cur level acc hrest hcur hacc t ht
    rw [cleanName_cons] at hrest
    simp only [Bool.and_eq_true] at hrest
    unfold tokens.go at ht
    split at ht
    · split at ht
      · exact ih [] 0 acc hrest.2 rfl hacc t ht
      · refine ih [] 0 _ hrest.2 rfl ?_ t ht
        intro x hx
        rcases List.mem_cons.mp hx with rfl | hx
        · rw [cleanName_reverse]; exact hcur
        · exact hacc x hx
    · exact ih (c :: cur) _ acc hrest.2 (by rw [cleanName_cons, hrest.1, hcur]; rfl) hacc t ht

theorem tokens_clean (s : List Char) (h : cleanName s = true) : ∀ t ∈ tokens s, cleanName t = true :=
  tokens_go_clean s [] 0 [] h rfl (by intro t ht; cases ht)

theorem splitOnFirst_clean (c : Char) (s : List Char) (h : cleanName s = true) :
    cleanName (splitOnFirst c s).1 = true ∧ ∀ r, (splitOnFirst c s).2 = some r → cleanName r = true := by
  unfold splitOnFirst
  dsimp only
  split
  · exact ⟨cleanName_takeWhile _ _ h, fun r hr => by cases hr; exact cleanName_drop _ _ h⟩
  · exact ⟨cleanName_takeWhile _ _ h, fun r hr => by cases hr⟩

theorem tokRanges_clean {tok : List Char} {rs : Hostlist} (ht : cleanName tok = true) (h : tokRanges tok = .ok rs) :
    HLClean rs := by
  unfold tokRanges at h
  have h1 := splitOnFirst_clean '[' tok ht
  split at h
  · rename_i pfx rest e1
    rw [e1] at h1
    have h2 := splitOnFirst_clean ']' rest (h1.2 rest rfl)
    split at h
    · rename_i body sfx e2
      rw [e2] at h2
      split at h
      · cases h
      · cases h
        intro r hr
        split at hr
        · obtain ⟨x, _, rfl⟩ := List.mem_map.mp hr
          exact h1.1
        · obtain ⟨x, _, hr⟩ := List.mem_flatMap.mp hr
          obtain ⟨i, _, rfl⟩ := List.mem_map.mp hr
          simp only [cleanName_append, h1.1, h2.2 sfx rfl, fmtNum_clean, Bool.and_self]
    · cases h
  · split at h
    · cases h
    · cases h; exact fun r hr => List.mem_singleton.mp hr ▸ nameRange_clean tok ht

theorem createR_clean (s : List Char) (hs : cleanName s = true) (hl : Hostlist) (h : createR s = .ok hl) : HLClean hl :=
  create_forall (P := fun t => cleanName t.pfx = true) (fun _ _ _ ht _ _ _ _ => ht)
    (fun tok ht _ e => tokRanges_clean (tokens_clean s hs tok ht) e) (create_of_createR s hl h)

/-! ### the `sscanf("%s")` scanner: the argument of a request contains no white space -/

theorem scan_noSpace (kw s a : Bytes) (h : scan kw s = some a) : ∀ b ∈ a, isSpace b = false := by
  unfold scan at h
  split at h
  · dsimp only at h
    split at h
    · cases h
    · cases h
      intro b hb
      have := mem_takeWhile_holds _ _ b hb
      simpa using this
  · cases h

theorem noSpace_clean (a : Bytes) (h : ∀ b ∈ a, isSpace b = false) : cleanText a = true := by
  simp only [cleanText, List.all_eq_true, Bool.and_eq_true, bne_iff_ne, ne_eq]
  intro x hx
  have := h x hx
  constructor <;> (intro e; subst e; revert this; decide)

/-- the argument `sscanf` hands to `hostlist_create` contains neither CR nor LF (nor any other white space) -/
theorem scan_clean (kw s a : Bytes) (h : scan kw s = some a) : cleanText a = true :=
  noSpace_clean a (scan_noSpace kw s a h)

theorem createR_scan_clean (kw s a : Bytes) (hl : Hostlist) (h : scan kw s = some a) (hc : createR (toChars a) = .ok hl) :
    HLClean hl :=
  createR_clean _ (by rw [toChars_clean]; exact scan_clean kw s a h) hl hc

theorem bstr_ofList (cs : List Char) : bstr (String.ofList cs) = cs.flatMap String.utf8EncodeChar := bstr_chars cs

theorem utf8_digit (c : Char) (h : c.isDigit = true) : String.utf8EncodeChar c = [c.toNat.toUInt8] := by
  obtain ⟨h1, h2⟩ := digit_bounds c h
  unfold String.utf8EncodeChar
  have : c.val.toNat = c.toNat := rfl
  simp only [this]
  rw [if_pos (by omega)]

theorem bstr_digits_clean (cs : List Char) (h : ∀ c ∈ cs, c.isDigit = true) : cleanText (bstr (String.ofList cs)) = true := by
  rw [bstr_ofList]
  simp only [cleanText, List.all_eq_true, List.mem_flatMap]
  rintro b ⟨c, hc, hb⟩
  rw [utf8_digit c (h c hc)] at hb
  simp at hb; subst hb
  exact okChar_digit c (h c hc)

theorem toString_nat_clean (n : Nat) : cleanText (bstr (toString n)) = true := by
  show cleanText (bstr (Nat.repr n)) = true
  unfold Nat.repr
  exact bstr_digits_clean _ (fun c hc => Nat.isDigit_of_mem_toDigits (by decide) (by decide) hc)

theorem zeros_clean (k : Nat) : cleanText (bstr (String.ofList (List.replicate k '0'))) = true :=
  bstr_digits_clean _ (by intro c hc; rw [(List.mem_replicate.mp hc).2]; rfl)

/-- `%-3.3d` -/
theorem d33_clean (n : Nat) : cleanText (d33 n) = true := by
  unfold d33
  dsimp only
  rw [bstr_append, cleanText_append, toString_nat_clean, zeros_clean]
  rfl

end Pm.Daemon.StreamPf

/-! axiom audit (expected: at most `propext`, `Classical.choice`, `Quot.sound`) -/
#print axioms Pm.Daemon.StreamPf.rangedString_clean
#print axioms Pm.Daemon.StreamPf.sortHL_clean
#print axioms Pm.Daemon.StreamPf.createR_clean
#print axioms Pm.Daemon.StreamPf.d33_clean
