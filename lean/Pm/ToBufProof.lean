import Pm.TelnetPass
/-! The device output buffer through `_handle_ready_device` and a whole pass of `dev_post_poll` (`ReadyBuf`, `handleReady_buf`,
    `postPoll_buf`: what is queued afterwards), the capacity invariant `toBuf.length ≤ 65536`, and the same statements as
    plain appends under the explicit hypothesis that everything fits.  The namespace is `Login2`, that of the lemmas on the
    output buffer in `Dev2Login2` (`BufFrame`, `processActionF_buf`) which this file continues; `…_cap` here is the capacity of
    `dev->to` (that of `dev->from` is `Cap.…_devCap`). -/
namespace Pm.Dev2.Login2

/-- the option replies `_telnet_preprocess` generates for the bytes `bs`, starting in state `st`/`cmd` -/
def telnetReplies (st : Nat) (cmd : UInt8) (bs : Bytes) : Bytes :=
  (bs.foldl (fun (acc : Nat × UInt8 × List UInt8 × List UInt8) b =>
      let (st, cmd, kept, reply) := acc
      let (st', cmd', k, r) := telnetStep st cmd b
      (st', cmd', kept ++ k, reply ++ r)) (st, cmd, [], [])).2.2.2

/-- they are the decoder's replies (`Tel.repliesOf` is the same behind the `isPipe` test) -/
theorem telnetReplies_eq (st : Nat) (cmd : UInt8) (bs : Bytes) : telnetReplies st cmd bs = (Tel.decodeFrom st cmd bs).replies := rfl

theorem telnetFilter_toBuf (d : Dev) (bs : Bytes) :
    (telnetFilter d bs).toBuf = clipTo (d.toBuf ++ telnetReplies d.tstate d.tcmd bs) := by
  rw [Tel.telnetFilter_eq, telnetReplies_eq]

theorem telnetStep_reply (st : Nat) (cmd b : UInt8) :
    (telnetStep st cmd b).2.2.2 = [] ∨ (telnetStep st cmd b).2.2.2 = [255, 251, b] ∨ (telnetStep st cmd b).2.2.2 = [255, 252, b] := by
  unfold telnetStep
  by_cases h0 : (st == 0) = true
  · rw [if_pos h0]; left; split <;> rfl
  rw [if_neg h0]
  by_cases h1 : (st == 1) = true
  · rw [if_pos h1]; left
    split
    · rfl
    · split <;> rfl
  rw [if_neg h1]
  dsimp only
  -- only an `IAC DO x` is answered: `WILL x` for the two options powerman supports, `WONT x` for the known others
  by_cases hc : (cmd == 253) = true
  · rw [if_pos hc]
    split
    · exact Or.inr (Or.inl rfl)
    · split
      · exact Or.inr (Or.inr rfl)
      · exact Or.inl rfl
  · rw [if_neg hc]; exact Or.inl rfl

theorem telnetReplies_shape (st : Nat) (cmd : UInt8) (bs : Bytes) :
    ∃ chunks : List Bytes, telnetReplies st cmd bs = chunks.flatten ∧
      ∀ ch ∈ chunks, ∃ b, ch = [255, 251, b] ∨ ch = [255, 252, b] := by
  rw [telnetReplies_eq]
  induction bs generalizing st cmd with
  | nil => exact ⟨[], rfl, fun _ h => nomatch h⟩
  | cons b r ih =>
    obtain ⟨chunks, h1, h2⟩ := ih (telnetStep st cmd b).1 (telnetStep st cmd b).2.1
    rw [Tel.decodeFrom_cons, h1]
    rcases telnetStep_reply st cmd b with h | h | h <;> rw [h]
    · exact ⟨chunks, rfl, h2⟩
    · exact ⟨[255, 251, b] :: chunks, rfl, fun ch hc => (List.mem_cons.1 hc).elim (fun e => ⟨b, .inl e⟩) (h2 ch)⟩
    · exact ⟨[255, 252, b] :: chunks, rfl, fun ch hc => (List.mem_cons.1 hc).elim (fun e => ⟨b, .inr e⟩) (h2 ch)⟩

/-- what `_handle_ready_device` does to the output buffer of `c`, giving `c'`: the buffer is what the write left
    (all of it, or what stays behind the non-empty prefix `wr` a successful `write` took) followed by the telnet option
    replies to the bytes just read (tcp devices only; `readOf`: the prefix of what the kernel had that fits the request) —
    `clipTo`: the last 65536 bytes of that, the capacity of `dev->to` -/
def ReadyBuf (c c' : CS) : Prop :=
  ∃ kept reply, c'.dev.toBuf = clipTo (kept ++ reply) ∧
    (kept = c.dev.toBuf ∨ (∃ wr, wr ≠ [] ∧ wr ++ kept = c.dev.toBuf ∧ Sys.write wr true ∈ c'.sys)) ∧
    (reply = [] ∨ ∃ bs, c.env.read = some (some bs) ∧ c.dev.isPipe = false ∧
      reply = telnetReplies c.dev.tstate c.dev.tcmd (readOf c.dev bs))

theorem ReadyBuf.same {c c' : CS} (h : c'.dev.toBuf = c.dev.toBuf) (hcap : c.dev.toBuf.length ≤ 65536) : ReadyBuf c c' :=
  ⟨c.dev.toBuf, [], by simp [h, clipTo_of_le _ hcap], Or.inl rfl, Or.inl rfl⟩

theorem handleReady_buf (c : CS) (hcap : c.dev.toBuf.length ≤ 65536) : ReadyBuf c (handleReady c).1 := by
  rcases Tel.handleReady_bytes c with ⟨h1, _, _, e⟩ | ⟨n, size, δ, hb⟩
  · rw [e]; exact .same (Tel.readyFinish_bufs c h1).toBuf hcap
  · refine ⟨c.dev.toBuf.drop n, Tel.repliesOf c.dev (Tel.readTaken c), ?_, ?_, ?_⟩
    · rw [hb.dev, Tel.takeIn_toBuf _ _ (Nat.le_trans (by simp) hcap)]; rfl
    · rcases hb.wrote with h0 | hm
      · exact .inl (by rw [h0]; rfl)
      · by_cases hn : c.dev.toBuf.take n = []
        · left
          have := List.take_append_drop n c.dev.toBuf
          rw [hn] at this; exact this
        · exact .inr ⟨_, hn, List.take_append_drop n c.dev.toBuf, by rw [hb.sys]; exact List.mem_append_right _ hm⟩
    · rcases Tel.taken_cases c with ⟨t, _⟩ | ⟨bs, hr, _, _, t, _⟩
      · left; rw [t, Tel.repliesOf_nil]
      · unfold Tel.repliesOf
        split
        · exact .inl rfl
        · rename_i hp
          exact .inr ⟨bs, hr, by simpa using hp, by rw [t, telnetReplies_eq]⟩

theorem postPollReady_buf (d : Dev) (env : Env) (hcap : d.toBuf.length ≤ 65536) :
    ReadyBuf { dev := d, env := env, sys := [] } (postPollReady d env).1 := by
  rcases Tel.postPollReady_cases d env with ⟨e, _⟩ | ⟨_, e, _⟩ <;> rw [e]
  · exact ReadyBuf.same rfl hcap
  · exact handleReady_buf (Tel.ppC0 d env) hcap

theorem postPoll_buf (d : Dev) (env : Env) (o : Oracle) (hcap : d.toBuf.length ≤ 65536) :
    ∃ kept reply,
      (kept = d.toBuf ∨ (∃ wr, wr ≠ [] ∧ wr ++ kept = d.toBuf ∧ Sys.write wr true ∈ (postPollReady d env).1.sys)) ∧
      (reply = [] ∨ ∃ bs, env.read = some (some bs) ∧ d.isPipe = false ∧
        reply = telnetReplies d.tstate d.tcmd (readOf d bs)) ∧
      ((postPoll d env o).1.dev.toBuf = clipTo (kept ++ reply ++ sentBytes (postPoll d env o).2.2.1) ∨
       ((postPoll d env o).1.dev.toBuf = clipTo (sentBytes (postPoll d env o).2.2.1) ∧
          (postPollReady d env).2 = true ∧ (postPollReady d env).1.dev.conn ≠ 0) ∨
       ((postPoll d env o).1.dev.toBuf = [] ∧ (postPollPre d env).1.dev.conn = 2 ∧
          ((postPoll d env o).1.dev.conn ≠ 2 ∨
           (postPoll d env o).1.dev.retryCount = (postPollPre d env).1.dev.retryCount + 1))) := by
  obtain ⟨kept, reply, h1, h2, h3⟩ := postPollReady_buf d env hcap
  refine ⟨kept, reply, h2, h3, ?_⟩
  rcases postPoll_cases d env o with ⟨_, e⟩ | ⟨_, e⟩
  all_goals rw [e]
  · left; rw [h1, sentBytes_nil, List.append_nil]
  · have hcp : (postPollPre d env).1.dev.toBuf.length ≤ 65536 := by
      rcases postPollPre_buf d env with hp | hp
      · rw [hp, h1]; exact clipTo_length_le _
      · rw [hp.1]; exact Nat.zero_le _
    have hb := processActionF_buf (passFuel (postPollPre d env).1.dev) (postPollPre d env).1 o [] (postPollPre d env).2 hcp
    have hs := processActionF_sents (passFuel (postPollPre d env).1.dev) (postPollPre d env).1 o [] (postPollPre d env).2
    have hs' : sentBytes (processActionF (passFuel (postPollPre d env).1.dev) (postPollPre d env).1 o [] (postPollPre d env).2).2.2.1
        = (passSents (passFuel (postPollPre d env).1.dev) (postPollPre d env).1 o [] (postPollPre d env).2).flatten := by
      unfold sentBytes passSents; rw [hs]; simp
    rw [hs']
    rcases hb with hb | hb
    · rcases postPollPre_buf d env with hp | hp
      · left; rw [hb.1, hp, h1, clipTo_clipTo_append]
      · right; left; exact ⟨by rw [hb.1, hp.1]; simp, hp.2⟩
    · right; right; exact hb

theorem handleReady_cap (c : CS) (hcap : c.dev.toBuf.length ≤ 65536) : (handleReady c).1.dev.toBuf.length ≤ 65536 := by
  obtain ⟨kept, reply, h, _⟩ := handleReady_buf c hcap
  rw [h]; exact clipTo_length_le _

theorem processActionF_cap (fuel : Nat) (c : CS) (o : Oracle) (out : List Out) (tmo : Option Time)
    (hcap : c.dev.toBuf.length ≤ 65536) : (processActionF fuel c o out tmo).1.dev.toBuf.length ≤ 65536 :=
  Tel.processActionF_keeps Tel.keeps_toCap fuel c o out tmo hcap

theorem processAction_cap (c : CS) (o : Oracle) (out : List Out) (tmo : Option Time)
    (hcap : c.dev.toBuf.length ≤ 65536) : (processAction c o out tmo).1.dev.toBuf.length ≤ 65536 := by
  unfold processAction; exact processActionF_cap _ c o out tmo hcap

theorem postPoll_cap (d : Dev) (env : Env) (o : Oracle) (hcap : d.toBuf.length ≤ 65536) :
    (postPoll d env o).1.dev.toBuf.length ≤ 65536 := by
  refine Tel.postPoll_keeps Tel.keeps_toCap d env o ?_
  obtain ⟨kept, reply, h, _⟩ := postPollReady_buf d env hcap
  rw [h]; exact clipTo_length_le _

theorem innerLoop_cap (now : Time) (fuel : Nat) (d : Dev) (a : Action) (o : Oracle) (acc : List Out)
    (hcap : d.toBuf.length ≤ 65536) : (innerLoop now fuel d a o acc).dev.toBuf.length ≤ 65536 := by
  obtain ⟨_, _, e, _⟩ := innerLoop_buf now fuel d a o acc hcap
  exact e ▸ clipTo_length_le _

theorem processStmt_cap (d : Dev) (a : Action) (o : Oracle) (now : Time) (hcap : d.toBuf.length ≤ 65536) :
    (processStmt d a o now).dev.toBuf.length ≤ 65536 := by
  rw [(processStmt_buf d a o now).toBuf hcap]; exact clipTo_length_le _

theorem telnetFilter_cap (d : Dev) (bs : Bytes) : (telnetFilter d bs).toBuf.length ≤ 65536 := by
  rw [telnetFilter_toBuf]; exact clipTo_length_le _

theorem stmtSend_cap (d : Dev) (a : Action) (o : Oracle) (e : ExecCtx) (fmt : Bytes) (hcap : d.toBuf.length ≤ 65536) :
    (stmtSend d a o e fmt).dev.toBuf.length ≤ 65536 := by
  rw [(stmtSend_buf d a o e fmt).toBuf hcap]; exact clipTo_length_le _

/-- the telnet option replies `_handle_ready_device` can queue in state `c`: those to the bytes the `read` hands over on a
    tcp device (none on a coprocess, none without data) -/
def readyReplies (c : CS) : Bytes :=
  match c.env.read with
  | some (some bs) => if c.dev.isPipe then [] else telnetReplies c.dev.tstate c.dev.tcmd (readOf c.dev bs)
  | _ => []

theorem reply_le_readyReplies {c : CS} {reply : Bytes}
    (h : reply = [] ∨ ∃ bs, c.env.read = some (some bs) ∧ c.dev.isPipe = false ∧
      reply = telnetReplies c.dev.tstate c.dev.tcmd (readOf c.dev bs)) :
    reply.length ≤ (readyReplies c).length := by
  rcases h with h | ⟨bs, h1, h2, h3⟩
  · rw [h]; exact Nat.zero_le _
  · unfold readyReplies; rw [h1]; simp only [h2, Bool.false_eq_true, ↓reduceIte]; rw [h3]; exact Nat.le_refl _

theorem kept_le {old kept : Bytes} {P : Bytes → Prop} (h : kept = old ∨ ∃ wr, wr ≠ [] ∧ wr ++ kept = old ∧ P wr) :
    kept.length ≤ old.length := by
  rcases h with h | ⟨wr, _, h, _⟩
  · rw [h]; exact Nat.le_refl _
  · rw [← h, List.length_append]; exact Nat.le_add_left _ _

theorem handleReady_buf_below (c : CS) (hfit : c.dev.toBuf.length + (readyReplies c).length ≤ 65536) :
    ∃ kept reply, (handleReady c).1.dev.toBuf = kept ++ reply ∧
      (kept = c.dev.toBuf ∨ (∃ wr, wr ≠ [] ∧ wr ++ kept = c.dev.toBuf ∧ Sys.write wr true ∈ (handleReady c).1.sys)) ∧
      (reply = [] ∨ ∃ bs, c.env.read = some (some bs) ∧ c.dev.isPipe = false ∧
          reply = telnetReplies c.dev.tstate c.dev.tcmd (readOf c.dev bs)) := by
  obtain ⟨kept, reply, h1, h2, h3⟩ := handleReady_buf c (Nat.le_trans (Nat.le_add_right _ _) hfit)
  refine ⟨kept, reply, ?_, h2, h3⟩
  rw [h1]; apply clipTo_of_le
  have a1 := kept_le h2
  have a2 := reply_le_readyReplies h3
  rw [List.length_append]
  exact Nat.le_trans (Nat.add_le_add a1 a2) hfit

theorem postPoll_buf_below (d : Dev) (env : Env) (o : Oracle)
    (hfit : d.toBuf.length + (readyReplies { dev := d, env := env, sys := [] }).length +
      (sentBytes (postPoll d env o).2.2.1).length ≤ 65536) :
    ∃ kept reply,
      (kept = d.toBuf ∨ (∃ wr, wr ≠ [] ∧ wr ++ kept = d.toBuf ∧ Sys.write wr true ∈ (postPollReady d env).1.sys)) ∧
      (reply = [] ∨ ∃ bs, env.read = some (some bs) ∧ d.isPipe = false ∧
        reply = telnetReplies d.tstate d.tcmd (readOf d bs)) ∧
      ((postPoll d env o).1.dev.toBuf = kept ++ reply ++ sentBytes (postPoll d env o).2.2.1 ∨
       ((postPoll d env o).1.dev.toBuf = sentBytes (postPoll d env o).2.2.1 ∧
          (postPollReady d env).2 = true ∧ (postPollReady d env).1.dev.conn ≠ 0) ∨
       ((postPoll d env o).1.dev.toBuf = [] ∧ (postPollPre d env).1.dev.conn = 2 ∧
          ((postPoll d env o).1.dev.conn ≠ 2 ∨
           (postPoll d env o).1.dev.retryCount = (postPollPre d env).1.dev.retryCount + 1))) := by
  have hcap : d.toBuf.length ≤ 65536 :=
    Nat.le_trans (Nat.le_trans (Nat.le_add_right _ _) (Nat.le_add_right _ _)) hfit
  obtain ⟨kept, reply, h1, h2, h3⟩ := postPoll_buf d env o hcap
  refine ⟨kept, reply, h1, h2, ?_⟩
  have a1 := kept_le h1
  have a2 := reply_le_readyReplies (c := { dev := d, env := env, sys := [] }) h2
  rcases h3 with h | h | h
  · left; rw [h]; apply clipTo_of_le
    rw [List.length_append, List.length_append]
    exact Nat.le_trans (Nat.add_le_add_right (Nat.add_le_add a1 a2) _) hfit
  · right; left; refine ⟨?_, h.2⟩
    rw [h.1]; apply clipTo_of_le
    exact Nat.le_trans (Nat.le_add_left _ _) hfit
  · right; right; exact h

end Pm.Dev2.Login2

section audit
open Pm.Dev2.Login2
#print axioms handleReady_cap
#print axioms processActionF_cap
#print axioms postPoll_cap
#print axioms handleReady_buf_below
#print axioms processActionF_buf_below
#print axioms postPoll_buf_below
end audit
