/- C07 on a small stand-alone model: `dbg_memstr` (debug.c), buffer arithmetic with C `char` signedness (F2) -/
namespace Pm.Memstr

/-- number of characters `sprintf("\\%.3o", x)` produces (backslash + at least 3 octal digits) -/
def octLen (x : Nat) : Nat := 1 + max 3 (Nat.toDigits 8 x).length

/-- value passed to `%o` for byte `b`.  `signedChar = false`: as written in /repo, `(unsigned char)mem[i]` is just the byte;
    `signedChar = true`: without the cast `mem[i]` is a (signed) `char` promoted to `int` and reinterpreted as `unsigned int` -/
def promoted (signedChar : Bool) (b : UInt8) : Nat :=
  if signedChar && b.toNat ≥ 128 then 2 ^ 32 - 256 + b.toNat else b.toNat

def isPrint (b : UInt8) : Bool := 32 ≤ b.toNat && b.toNat ≤ 126

/-- (bytes written at &str[j] including the terminating NUL of strcpy/sprintf, advance of j) -/
def cell (signedChar : Bool) (b : UInt8) : Nat × Nat :=
  if b == 13 || b == 10 || b == 9 then (3, 2)          -- strcpy(&str[j], "\\r"); j += 2
  else if isPrint b then (1, 1)                          -- str[j++] = mem[i]
  else (octLen (promoted signedChar b) + 1, 4)           -- sprintf(...); j += 4

/-- walk the loop; `none` = some write went past `str[strsize]` (heap overflow) -/
def walk (signedChar : Bool) (size : Nat) : List UInt8 → Nat → Option Nat
  | [], j => if j + 1 ≤ size then some j else none        -- str[j] = '\0'
  | b :: bs, j =>
    let (w, adv) := cell signedChar b
    if j + w ≤ size then walk signedChar size bs (j + adv) else none

/-- `dbg_memstr(mem, len)` allocates `len*4 + 1` bytes -/
def memstrSafe (signedChar : Bool) (mem : List UInt8) : Bool := (walk signedChar (mem.length * 4 + 1) mem 0).isSome

/-- without the cast (x86: plain `char` is signed) a single byte ≥ 0x80 overruns the allocation -/
theorem C07_memstr_counterexample : memstrSafe true [255] = false := by decide

theorem octLen_byte (b : UInt8) : octLen b.toNat = 4 := by
  have h : b.toNat < 256 := UInt8.toNat_lt b
  unfold octLen
  have : (Nat.toDigits 8 b.toNat).length ≤ 3 := by
    rw [Nat.length_toDigits_le_iff (by decide) (by decide)]
    omega
  omega

theorem cell_unsigned (b : UInt8) : (cell false b).1 ≤ (cell false b).2 + 1 ∧ (cell false b).2 ≤ 4 := by
  unfold cell
  split
  · simp
  · split
    · simp
    · simp [promoted, octLen_byte]

/-- with the byte taken as `unsigned char` no write ever leaves the allocation, for every input -/
theorem walk_unsigned (mem : List UInt8) : ∀ (j size : Nat), j + mem.length * 4 + 1 ≤ size →
    (walk false size mem j).isSome = true := by
  induction mem with
  | nil => intro j size h; simp [walk]; omega
  | cons b bs ih =>
    intro j size h
    obtain ⟨h1, h2⟩ := cell_unsigned b
    simp only [walk, List.length_cons] at h ⊢
    have hw : j + (cell false b).1 ≤ size := by omega
    simp only [hw, if_true]
    exact ih _ _ (by omega)

theorem C07_memstr_bound_fixed (mem : List UInt8) : memstrSafe false mem = true := by
  unfold memstrSafe
  exact walk_unsigned mem 0 _ (by omega)

end Pm.Memstr

