import Pm.Grammar
import Pm.LexProof
/-! # The token level: the scan of any file content ends (C18)

Helper module of `Pm/Props/C18.lean`, about the lexer part of `Pm/Grammar.lean`: flex's choice among the rules of `INITIAL`
always finds a rule with a non-empty match, every step consumes at least one byte, so the fuel `content.length + 1` per buffer
is never exhausted, and the `unmodelled` endings of `LexEnd` are unreachable; the string scanner `strGo` is `LexModel.go` with
the buffer kept at the end of the input, and keeps the buffer inside `string_buf` also when an included file hands over a partly
filled one.  The last part of the file is in namespace `Pm.LexModel.Proof`: what the invariant of `strGo` gives for `LexModel.go`,
`lexRaw` and `lexString` (`go_inv` … `outcome_defined`). -/
namespace Pm.Grammar.Proof
open Pm.Grammar Pm.LexModel

theorem best_mono : ∀ (l : List (Nat × Rule)) (m : Nat) (b : Rule), ∃ n a, best l (some (m, b)) = some (n, a) ∧ m ≤ n
  | [], m, b => ⟨m, b, rfl, Nat.le_refl _⟩
  | (n, a) :: rest, m, b => by
    simp only [best]
    split
    · rename_i h
      obtain ⟨n', a', h1, h2⟩ := best_mono rest n a
      exact ⟨n', a', h1, by omega⟩
    · exact best_mono rest m b

theorem best_pos : ∀ (l : List (Nat × Rule)) (b : Option (Nat × Rule)), (∀ m x, b = some (m, x) → 0 < m) →
    ∀ n a, best l b = some (n, a) → 0 < n
  | [], b, hb, n, a, h => by simp only [best] at h; exact hb n a h
  | (k, x) :: rest, none, _, n, a, h => by
    simp only [best] at h
    refine best_pos rest _ ?_ n a h
    intro m y hy
    split at hy
    · rename_i hk; cases hy; exact hk
    · cases hy
  | (k, x) :: rest, some (m, y), hb, n, a, h => by
    simp only [best] at h
    refine best_pos rest _ ?_ n a h
    intro m' y' hy
    have := hb m y rfl
    split at hy
    · cases hy; omega
    · cases hy; exact this

theorem best_some : ∀ (l : List (Nat × Rule)) (b : Option (Nat × Rule)), (b.isSome = true ∨ ∃ p ∈ l, 0 < p.1) → (best l b).isSome = true
  | [], b, h => by
    rcases h with h | ⟨p, hp, _⟩
    · simpa [best] using h
    · cases hp
  | (k, x) :: rest, none, h => by
    simp only [best]
    apply best_some
    rcases h with h | ⟨p, hp, hpos⟩
    · cases h
    · rcases List.mem_cons.mp hp with rfl | hp
      · left; simp [hpos]
      · exact .inr ⟨p, hp, hpos⟩
  | (k, x) :: rest, some (m, y), _ => by
    simp only [best]
    apply best_some
    left
    split <;> rfl

theorem matchInit_some (c : UInt8) (r : Bytes) : ∃ n rule, matchInit (c :: r) = some (n, rule) ∧ 0 < n := by
  have h : (matchInit (c :: r)).isSome = true := by
    unfold matchInit
    apply best_some
    right
    by_cases hc : c = 0x0a
    · refine ⟨(1, .newline), ?_, by simp⟩
      simp [candidates, litLen, hc]
    · refine ⟨(1, .any), ?_, by simp⟩
      simp [candidates, hc]
  cases hm : matchInit (c :: r) with
  | none => rw [hm] at h; cases h
  | some p =>
    refine ⟨p.1, p.2, rfl, ?_⟩
    exact best_pos _ none (by simp) p.1 p.2 (by simpa [matchInit] using hm)

theorem strGo_forget : ∀ (s : List UInt8) (pend : Nat) (skip : Bool) (buf : Array UInt8), (strGo s pend skip buf).forget = go s pend skip buf := by
  intro s
  induction s with
  | nil => intro pend skip buf; simp [strGo, go, StrEnd.forget]
  | cons c r ih =>
    intro pend skip buf
    cases pend with
    | succ p => simp only [strGo, go]; exact ih p skip buf
    | zero =>
      simp only [strGo, go]
      by_cases h1 : c = 0x22
      · simp only [h1, if_true]; unfold closeQuote; split <;> rfl
      · simp only [h1, if_false]
        by_cases h2 : c = 0x0a
        · simp only [h2, if_true]; rfl
        · simp only [h2, if_false]
          by_cases h3 : c = 0x5c
          · simp only [h3, if_true]
            cases he : escTok r with
            | none => rfl
            | some p =>
              obtain ⟨v, n⟩ := p
              simp only []
              cases ha : stringBufAdd buf v with
              | cont b => simp only []; exact ih _ _ _
              | exitTooLong => rfl
              | overrun => rfl
          · simp only [h3, if_false]
            by_cases h4 : skip = true
            · simp only [h4, if_true]; exact ih _ _ _
            · simp only [h4]
              by_cases h5 : c = 0
              · simp only [h5, if_true]; exact ih _ _ _
              · simp only [h5, if_false]
                cases ha : stringBufAdd buf c with
                | cont b => simp only []; exact ih _ _ _
                | exitTooLong => rfl
                | overrun => rfl

/-- one byte of a string body at `pend = 0`: the scan ends (a closing quote, which finds room for the NUL iff the buffer is
    not full; a newline; "string too long"; the input ends inside an escape), or goes on behind the byte with the buffer as it
    was or with one byte appended where there was room -/
theorem strGo_step (c : UInt8) (rest : List UInt8) (skip : Bool) (buf : Array UInt8) :
    strGo (c :: rest) 0 skip buf = (if buf.size < STRING_BUF then .tok buf rest else .overrun) ∨
    strGo (c :: rest) 0 skip buf = .errNewline ∨ strGo (c :: rest) 0 skip buf = .tooLong ∨ strGo (c :: rest) 0 skip buf = .eof buf ∨
    ∃ n sk b, strGo (c :: rest) 0 skip buf = strGo rest n sk b ∧ (b = buf ∨ ∃ v, b = buf.push v ∧ buf.size < STRING_BUF - 1) := by
  generalize h : strGo (c :: rest) 0 skip buf = res
  simp only [strGo] at h
  split at h
  · exact .inl h.symm
  · split at h
    · exact .inr (.inl h.symm)
    · split at h
      · split at h
        · exact .inr (.inr (.inr (.inl h.symm)))
        · next v n _ =>
          split at h
          · next b hadd => exact .inr (.inr (.inr (.inr ⟨n, false, b, h.symm, .inr ⟨v, Pm.LexModel.Proof.stringBufAdd_cont hadd⟩⟩)))
          · exact .inr (.inr (.inl h.symm))
          · next hadd => exact absurd hadd (Pm.LexModel.Proof.stringBufAdd_ne_overrun _ _)
      · split at h
        · exact .inr (.inr (.inr (.inr ⟨0, true, buf, h.symm, .inl rfl⟩)))
        · split at h
          · exact .inr (.inr (.inr (.inr ⟨0, true, buf, h.symm, .inl rfl⟩)))
          · split at h
            · next b hadd => exact .inr (.inr (.inr (.inr ⟨0, false, b, h.symm, .inr ⟨c, Pm.LexModel.Proof.stringBufAdd_cont hadd⟩⟩)))
            · exact .inr (.inr (.inl h.symm))
            · next hadd => exact absurd hadd (Pm.LexModel.Proof.stringBufAdd_ne_overrun _ _)

theorem strGo_rest : ∀ (s : List UInt8) (pend : Nat) (skip : Bool) (buf b : Array UInt8) (rest : List UInt8),
    strGo s pend skip buf = .tok b rest → rest.length < s.length
  | [], _, _, _, _, _, h => by simp [strGo] at h
  | c :: r, p + 1, skip, buf, b, rest, h => by
    rw [strGo] at h
    exact Nat.lt_succ_of_lt (strGo_rest r p skip buf b rest h)
  | c :: r, 0, skip, buf, b, rest, h => by
    rcases strGo_step c r skip buf with e | e | e | e | ⟨n, sk, b', e, -⟩ <;> rw [e] at h
    · split at h
      · cases h; exact Nat.lt_succ_self _
      · cases h
    · cases h
    · cases h
    · cases h
    · exact Nat.lt_succ_of_lt (strGo_rest r n sk b' b rest h)

/-- the way a scan of a string body may end: not with a store outside `string_buf`, and with a buffer that leaves room for the
    closing NUL -/
def StrOK : StrEnd → Prop
  | .tok b _ => b.size ≤ STRING_BUF - 1
  | .eof b => b.size ≤ STRING_BUF - 1
  | .overrun => False
  | _ => True

/-- the buffer of the scanner never holds more than `STRING_BUF - 1` bytes, whatever it held before (an included file may hand
    over a partly filled buffer), so no store goes outside `string_buf` -/
theorem strGo_inv : ∀ (s : List UInt8) (pend : Nat) (skip : Bool) (buf : Array UInt8), buf.size ≤ STRING_BUF - 1 →
    StrOK (strGo s pend skip buf)
  | [], _, _, buf, hb => by rw [strGo]; exact hb
  | c :: r, p + 1, skip, buf, hb => by
    rw [strGo]
    exact strGo_inv r p skip buf hb
  | c :: r, 0, skip, buf, hb => by
    rcases strGo_step c r skip buf with e | e | e | e | ⟨n, sk, b', e, hb'⟩ <;> rw [e]
    · rw [if_pos (show buf.size < STRING_BUF by unfold STRING_BUF at *; omega)]
      exact hb
    · trivial
    · trivial
    · exact hb
    · refine strGo_inv r n sk b' ?_
      rcases hb' with rfl | ⟨v, rfl, hlt⟩
      · exact hb
      · rw [Array.size_push]; omega

def EndOK : LexEnd → Prop
  | .fuel => False
  | .unmodelled _ => False
  | _ => True

def SCOK : SC → Prop
  | .str buf => buf.size ≤ STRING_BUF - 1
  | _ => True

def BufOK : BufEnd → Prop
  | .stop e => EndOK e
  | .done sc _ => SCOK sc

theorem lexBuf_ok (sub : Bytes → Array LTok → Array LTok × Except LexEnd SC)
    (hsub : ∀ n a, match (sub n a).2 with | .error e => EndOK e | .ok sc => SCOK sc) (file : Bytes) :
    ∀ (fuel : Nat) (st : SC) (r : Bytes) (line : Nat) (acc : Array LTok), r.length < fuel → SCOK st → BufOK (lexBuf sub file fuel st r line acc).2 := by
  intro fuel
  induction fuel with
  | zero => intro st r line acc h; omega
  | succ f ih =>
    intro st r line acc h hst
    cases st with
    | incl =>
      unfold lexBuf
      split
      · simp [BufOK, SCOK]
      · rename_i c r'
        simp only [List.length_cons] at h
        split
        · exact ih _ _ _ _ (by omega) (by simp [SCOK])
        · split
          · exact ih _ _ _ _ (by omega) (by simp [SCOK])
          · rename_i hnl hsp
            simp only []
            have hs := hsub (inclName (List.takeWhile isNameByte (c :: r'))) acc
            split
            · rename_i acc' e he
              rw [he] at hs
              simpa [BufOK] using hs
            · rename_i acc' sc he
              rw [he] at hs
              apply ih
              · have h1 : 0 < ((c :: r').takeWhile isNameByte).length := by
                  have : isNameByte c = true := by
                    simp only [isNameByte, isSpTab] at *
                    simp only [Bool.or_eq_true, decide_eq_true_eq, not_or] at hsp
                    simp [hsp.1, hsp.2, hnl]
                  simp [List.takeWhile, this]
                simp only [List.length_drop, List.length_cons]
                omega
              · exact hs
    | str buf =>
      unfold lexBuf
      have hi := strGo_inv r 0 false buf hst
      split
      · rename_i b rest' hq
        exact ih _ _ _ _ (by have := strGo_rest _ _ _ _ _ _ hq; omega) (by simp [SCOK])
      · simp [BufOK, EndOK]
      · simp [BufOK, EndOK]
      · rename_i b hq; rw [hq] at hi; exact hi
      · rename_i hq; rw [hq] at hi; exact hi.elim
    | init =>
      unfold lexBuf
      split
      · simp [BufOK, SCOK]
      · rename_i c r'
        obtain ⟨n, rule, hm, hn⟩ := matchInit_some c r'
        rw [hm]
        simp only [List.length_cons] at h
        have hd : ((c :: r').drop n).length < f := by simp only [List.length_drop, List.length_cons]; omega
        -- every rule goes on behind its non-empty match: `quote` with an empty buffer, the others in `INITIAL` or `lex_incl`
        cases rule
        all_goals exact ih _ _ _ _ hd (by simp [SCOK, STRING_BUF])

theorem lexAt_ok (fs : Bytes → Option Bytes) : ∀ (k : Nat) (file content : Bytes) (acc : Array LTok), BufOK (lexAt fs k file content acc).2
  | 0, file, content, acc => by
    unfold lexAt
    exact lexBuf_ok _ (by intro n a; simp [EndOK]) file _ _ _ _ _ (by omega) (by simp [SCOK])
  | k + 1, file, content, acc => by
    unfold lexAt
    refine lexBuf_ok _ ?_ file _ _ _ _ _ (by omega) (by simp [SCOK])
    intro n a
    cases fs n with
    | none => exact (trivial : EndOK (.missing n))
    | some c =>
      have ih := lexAt_ok fs k n c a
      dsimp only
      generalize lexAt fs k n c a = r at ih ⊢
      obtain ⟨a', e⟩ := r
      cases e with
      | done sc ln => exact ih
      | stop e => exact ih

theorem lexFile_ok (fs : Bytes → Option Bytes) (main content : Bytes) : EndOK (lexFile fs main content).2 := by
  unfold lexFile
  have := lexAt_ok fs (MAX_INCLUDE_DEPTH - 1) main content #[]
  split
  · simp [EndOK]
  · rename_i acc e he
    rw [he] at this
    simpa [BufOK] using this

#print axioms lexFile_ok
#print axioms strGo_forget
end Pm.Grammar.Proof

/-! ## string literals of `LexModel`: `go` is `strGo` with the buffer forgotten, and inherits its invariant -/
namespace Pm.LexModel.Proof
open Pm.Grammar Pm.Grammar.Proof

theorem go_inv (s : List UInt8) (pend : Nat) (skip : Bool) (buf : Array UInt8) (hb : buf.size ≤ STRING_BUF - 1) :
    go s pend skip buf ≠ .overrun ∧ ∀ b rest, go s pend skip buf = .tok b rest → b.size ≤ STRING_BUF - 1 := by
  have h := strGo_inv s pend skip buf hb
  rw [← strGo_forget]
  generalize strGo s pend skip buf = r at h
  cases r with
  | tok b rest => exact ⟨nofun, fun _ _ e => by cases e; exact h⟩
  | overrun => exact h.elim
  | errNewline => exact ⟨nofun, nofun⟩
  | tooLong => exact ⟨nofun, nofun⟩
  | eof b => exact ⟨nofun, nofun⟩

theorem lexRaw_ne_overrun (s : List UInt8) : lexRaw s ≠ .overrun :=
  (go_inv s 0 false #[] (by simp)).1

theorem lexRaw_fill {s : List UInt8} {buf : Array UInt8} {rest : List UInt8} (h : lexRaw s = .tok buf rest) : buf.size ≤ 8191 :=
  (go_inv s 0 false #[] (by simp)).2 buf rest h

theorem cstr_length_le (buf : Array UInt8) : (cstr buf).length ≤ buf.size := by
  unfold cstr
  have := List.takeWhile_sublist (p := fun x : UInt8 => x != 0) (l := buf.toList)
  simpa using this.length_le

theorem lexString_fill {s stored : List UInt8} (h : lexString s = .ok stored) : stored.length ≤ 8191 := by
  unfold lexString at h
  generalize hr : lexRaw s = r at h
  cases r with
  | tok buf rest =>
    simp only [Res.ofRaw] at h
    cases h
    exact Nat.le_trans (cstr_length_le buf) (lexRaw_fill hr)
  | _ => simp [Res.ofRaw] at h

theorem lexString_ne_overrun (s : List UInt8) : lexString s ≠ .overrun := by
  unfold lexString
  generalize hr : lexRaw s = r
  cases r with
  | overrun => exact absurd hr (lexRaw_ne_overrun s)
  | _ => simp [Res.ofRaw]

theorem lexString_total (s : List UInt8) :
    (∃ stored, lexString s = .ok stored) ∨ lexString s = .errNewline ∨ lexString s = .tooLong ∨ lexString s = .unterminated := by
  have := lexString_ne_overrun s
  cases h : lexString s with
  | ok st => exact .inl ⟨st, rfl⟩
  | errNewline => simp
  | tooLong => simp
  | unterminated => simp
  | overrun => exact absurd h this

theorem outcome_defined (s : List UInt8) :
    (lexString s).outcome = .token ∨ (lexString s).outcome = .exitDiag "parse error" ∨ (lexString s).outcome = .exitDiag "string too long" := by
  rcases lexString_total s with ⟨st, h⟩ | h | h | h <;> simp [h, Res.outcome]

end Pm.LexModel.Proof
