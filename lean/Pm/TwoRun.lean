import Pm.IsolationProof
/-! Two runs of the client phase (`cli_post_poll`), stage by stage.

    `clientPass` (one client's share of `cli_post_poll`) never reads the client table, reads the write capacity of its own
    descriptor only, and reads of the devices only what `install` (`dev_check_actions`/`dev_enqueue_actions`) and the
    `device` query look at.  This file states that *relationally*: two worlds `w`, `w'` related by `CRel` (same
    configuration, counters, exit flag; device lists related by an abstract `DRL`, arglist stores by an abstract `SR`; write
    capacities and system-call log equal on the descriptors outside a set `F`) and two records related by `RecRel`
    (equal — except, for a descriptor of `F`, the output buffer and the blocking flag) go through every stage of
    `clientPass` to related worlds and related records.

    The loop of `cli_post_poll` comes twice: over tables related entry by entry, where the client on a descriptor of `F` is served
    in both runs (`foldl_cliStep_rel`), and over tables that agree only on the clients outside `F`, where a client of `F` is inert
    and may be missing in one run (`foldl_merge`). -/
namespace Pm.Daemon.TwoRun
open Pm Pm.Client Pm.Daemon Pm.Daemon.Isolation
open Pm.Dev2 (Dev)

abbrev Devs := List (Bytes × Dev)
abbrev Store := Pm.Dev2.Store

/-! ### a pointwise list relation (core has no `Forall₂`) -/

inductive L2 {α β : Type} (R : α → β → Prop) : List α → List β → Prop
  | nil : L2 R [] []
  | cons {a : α} {b : β} {l : List α} {l' : List β} : R a b → L2 R l l' → L2 R (a :: l) (b :: l')

theorem L2.length {α β : Type} {R : α → β → Prop} {l : List α} {l' : List β} (h : L2 R l l') : l.length = l'.length := by
  induction h with
  | nil => rfl
  | cons _ _ ih => simp [ih]

theorem L2.mono {α β : Type} {R S : α → β → Prop} {l : List α} {l' : List β} (h : L2 R l l')
    (hrs : ∀ a ∈ l, ∀ b ∈ l', R a b → S a b) : L2 S l l' := by
  induction h with
  | nil => exact .nil
  | cons hab _ ih =>
    exact .cons (hrs _ (by simp) _ (by simp) hab) (ih (fun a ha b hb => hrs a (by simp [ha]) b (by simp [hb])))

theorem L2.append {α β : Type} {R : α → β → Prop} {l₁ l₂ : List α} {l₁' l₂' : List β} (h1 : L2 R l₁ l₁') (h2 : L2 R l₂ l₂') :
    L2 R (l₁ ++ l₂) (l₁' ++ l₂') := by
  induction h1 with
  | nil => exact h2
  | cons hab _ ih => exact .cons hab ih

theorem L2.map {α β γ δ : Type} {R : α → β → Prop} {S : γ → δ → Prop} {l : List α} {l' : List β} (f : α → γ) (g : β → δ)
    (h : L2 R l l') (hfg : ∀ a b, R a b → S (f a) (g b)) : L2 S (l.map f) (l'.map g) := by
  induction h with
  | nil => exact .nil
  | cons hab _ ih => exact .cons (hfg _ _ hab) ih

theorem L2.refl {α : Type} {R : α → α → Prop} (hr : ∀ a, R a a) (l : List α) : L2 R l l := by
  induction l with
  | nil => exact .nil
  | cons a r ih => exact .cons (hr a) ih

theorem L2.eq {α : Type} {l l' : List α} (h : L2 (fun a b => b = a) l l') : l' = l := by
  induction h with
  | nil => rfl
  | cons hab _ ih => rw [hab, ih]

theorem L2.filter {α β : Type} {R : α → β → Prop} {l : List α} {l' : List β} (p : α → Bool) (q : β → Bool) (h : L2 R l l')
    (hpq : ∀ a b, R a b → p a = q b) : L2 R (l.filter p) (l'.filter q) := by
  induction h with
  | nil => exact .nil
  | cons hab _ ih =>
    rw [List.filter_cons, List.filter_cons, ← hpq _ _ hab]
    split
    · exact .cons hab ih
    · exact ih

theorem L2.find {α β : Type} {R : α → β → Prop} {l : List α} {l' : List β} (p : α → Bool) (q : β → Bool) (h : L2 R l l')
    (hpq : ∀ a b, R a b → p a = q b) :
    (l.find? p = none ∧ l'.find? q = none) ∨ ∃ a b, l.find? p = some a ∧ l'.find? q = some b ∧ R a b := by
  induction h with
  | nil => exact Or.inl ⟨rfl, rfl⟩
  | cons hab _ ih =>
    rw [List.find?_cons, List.find?_cons, ← hpq _ _ hab]
    split
    · exact Or.inr ⟨_, _, rfl, rfl, hab⟩
    · exact ih

/-! ### records: equal, except — on a descriptor of `F` — for the output buffer and the blocking flag -/

/-- `c'` is `c` except for the output buffer `to` and the `blocking` flag of the descriptor; on a descriptor outside `F` it
    is `c` -/
def RecRel (F : Nat → Bool) (c c' : Cli) : Prop :=
  ∃ (t : Bytes) (b : Bool), c' = { c with toBuf := t, blocking := b } ∧ (F c.fd = false → t = c.toBuf ∧ b = c.blocking)

theorem RecRel.refl (F : Nat → Bool) (c : Cli) : RecRel F c c := ⟨c.toBuf, c.blocking, rfl, fun _ => ⟨rfl, rfl⟩⟩

theorem RecRel.eq {F : Nat → Bool} {c c' : Cli} (h : RecRel F c c') (hF : F c.fd = false) : c' = c := by
  obtain ⟨t, b, rfl, hf⟩ := h
  obtain ⟨rfl, rfl⟩ := hf hF
  rfl

theorem RecRel.id {F : Nat → Bool} {c c' : Cli} (h : RecRel F c c') : c'.id = c.id := by obtain ⟨t, b, rfl, _⟩ := h; rfl
theorem RecRel.fd {F : Nat → Bool} {c c' : Cli} (h : RecRel F c c') : c'.fd = c.fd := by obtain ⟨t, b, rfl, _⟩ := h; rfl
theorem RecRel.quit {F : Nat → Bool} {c c' : Cli} (h : RecRel F c c') : c'.quit = c.quit := by obtain ⟨t, b, rfl, _⟩ := h; rfl
theorem RecRel.cmd {F : Nat → Bool} {c c' : Cli} (h : RecRel F c c') : c'.cmd = c.cmd := by obtain ⟨t, b, rfl, _⟩ := h; rfl
theorem RecRel.fromBuf {F : Nat → Bool} {c c' : Cli} (h : RecRel F c c') : c'.fromBuf = c.fromBuf := by obtain ⟨t, b, rfl, _⟩ := h; rfl
theorem RecRel.telemetry {F : Nat → Bool} {c c' : Cli} (h : RecRel F c c') : c'.telemetry = c.telemetry := by obtain ⟨t, b, rfl, _⟩ := h; rfl
theorem RecRel.exprange {F : Nat → Bool} {c c' : Cli} (h : RecRel F c c') : c'.exprange = c.exprange := by obtain ⟨t, b, rfl, _⟩ := h; rfl

theorem RecRel.mk' {F : Nat → Bool} {c c' : Cli} (h1 : c'.id = c.id) (h2 : c'.fd = c.fd) (h3 : c'.quit = c.quit)
    (h4 : c'.telemetry = c.telemetry) (h5 : c'.exprange = c.exprange) (h6 : c'.cmd = c.cmd) (h7 : c'.fromBuf = c.fromBuf)
    (h8 : c'.fromSize = c.fromSize) (hF : F c.fd = false → c'.toBuf = c.toBuf ∧ c'.blocking = c.blocking) : RecRel F c c' := by
  refine ⟨c'.toBuf, c'.blocking, ?_, hF⟩
  obtain ⟨a1, a2, a3, a4, a5, a6, a7, a8, a9, a10⟩ := c
  obtain ⟨b1, b2, b3, b4, b5, b6, b7, b8, b9, b10⟩ := c'
  simp only at h1 h2 h3 h4 h5 h6 h7 h8
  subst h1 h2 h3 h4 h5 h6 h7 h8
  rfl

theorem RecRel.put {F : Nat → Bool} {c c' : Cli} (h : RecRel F c c') (x : Bytes) : RecRel F (put c x) (put c' x) := by
  obtain ⟨t, b, rfl, hf⟩ := h
  exact ⟨t ++ x, b, rfl, fun hF => by obtain ⟨rfl, rfl⟩ := hf hF; exact ⟨rfl, rfl⟩⟩

/-! ### worlds -/

/-- the logged system call is not about a descriptor of `F` -/
def offF (F : Nat → Bool) (x : Sys) : Bool := match sysFd x with | some fd => !F fd | none => true

theorem written_offF (F : Nat → Bool) (fd : Nat) (hfd : F fd = false) (ss : List Sys) :
    ClientPf.written (ss.filter (offF F)) fd = ClientPf.written ss fd := by
  induction ss with
  | nil => rfl
  | cons x r ih =>
    have hc : ∀ l, ClientPf.written (x :: l) fd = ClientPf.written [x] fd ++ ClientPf.written l fd := fun l => ClientPf.written_append [x] l fd
    rw [List.filter_cons]
    split
    · rw [hc (r.filter _), hc r, ih]
    · rename_i hx
      have : ClientPf.written [x] fd = [] := by
        cases x with
        | write f b e bl =>
          have hf : F f = true := by simpa [offF, sysFd] using hx
          have : ¬ f = fd := by intro e; rw [e, hfd] at hf; cases hf
          simp [ClientPf.written, this]
        | accept _ => rfl
        | close _ => rfl
        | read _ _ => rfl
      rw [hc r, ih, this, List.nil_append]

/-- what one client's share of `cli_post_poll` reads of the world, related between the two runs.  (Not in here: the client
    table and the counters `nextId nacc nsock npair nfork tmo pendingX`, which `clientPass` neither reads nor writes.) -/
structure CRel (F : Nat → Bool) (DRL : Devs → Devs → Prop) (SR : Store → Store → Prop) (als : List (Name × List Name))
    (w w' : W) : Prop where
  aliases : w.cfg.aliases = als
  cfg : w'.cfg = w.cfg
  specs : w'.specs = w.specs
  alNext : w'.alNext = w.alNext
  exited : w'.exited = w.exited
  devs : DRL w.devs w'.devs
  store : SR w.store w'.store
  caps : ∀ fd, F fd = false → capOf w' fd = capOf w fd
  sys : w'.sys.filter (offF F) = w.sys.filter (offF F)

section Leaves
variable {F : Nat → Bool} {DRL : Devs → Devs → Prop} {SR : Store → Store → Prop} {als : List (Name × List Name)} {w w' : W}

theorem CRel.symm (h : CRel F DRL SR als w w') : CRel F (fun l l' => DRL l' l) (fun s s' => SR s' s) als w' w :=
  ⟨by rw [h.cfg]; exact h.aliases, h.cfg.symm, h.specs.symm, h.alNext.symm, h.exited.symm, h.devs, h.store,
    fun fd hf => (h.caps fd hf).symm, h.sys.symm⟩

theorem CRel.exit (h : CRel F DRL SR als w w') : CRel F DRL SR als { w with exited := true } { w' with exited := true } :=
  ⟨h.aliases, h.cfg, h.specs, h.alNext, rfl, h.devs, h.store, h.caps, h.sys⟩

theorem CRel.nodes (h : CRel F DRL SR als w w') (hl : Hostlist) :
    CRel F DRL SR als { w with cfg := { w.cfg with nodes := hl } } { w' with cfg := { w'.cfg with nodes := hl } } :=
  ⟨h.aliases, by show ({ w'.cfg with nodes := hl } : Cfg) = { w.cfg with nodes := hl }; rw [h.cfg], h.specs, h.alNext, h.exited, h.devs, h.store, h.caps, h.sys⟩

theorem CRel.log (h : CRel F DRL SR als w w') (x : Sys) :
    CRel F DRL SR als { w with sys := w.sys ++ [x] } { w' with sys := w'.sys ++ [x] } :=
  ⟨h.aliases, h.cfg, h.specs, h.alNext, h.exited, h.devs, h.store, h.caps, by
    show (w'.sys ++ [x]).filter (offF F) = (w.sys ++ [x]).filter (offF F)
    rw [List.filter_append, List.filter_append, h.sys]⟩

theorem CRel.logL (h : CRel F DRL SR als w w') (x : Sys) (fd : Nat) (hx : sysFd x = some fd) (hF : F fd = true) :
    CRel F DRL SR als { w with sys := w.sys ++ [x] } w' :=
  ⟨h.aliases, h.cfg, h.specs, h.alNext, h.exited, h.devs, h.store, h.caps, by
    show w'.sys.filter (offF F) = (w.sys ++ [x]).filter (offF F)
    rw [List.filter_append, h.sys]
    have : offF F x = false := by simp [offF, hx, hF]
    simp [this]⟩

theorem CRel.logR (h : CRel F DRL SR als w w') (x : Sys) (fd : Nat) (hx : sysFd x = some fd) (hF : F fd = true) :
    CRel F DRL SR als w { w' with sys := w'.sys ++ [x] } :=
  (h.symm.logL x fd hx hF).symm

theorem capOf_setCap_self (w : W) (fd : Nat) (v : Int) : capOf (setCap w fd v) fd = v := by
  simp [capOf, setCap]

theorem capOf_setCap (w : W) (fd fd' : Nat) (v : Int) : capOf (setCap w fd v) fd' = if fd' = fd then v else capOf w fd' := by
  by_cases h : fd' = fd
  · subst h; simp [capOf_setCap_self]
  · simp [h, capOf_setCap_ne w fd fd' v h]

theorem CRel.capSet (h : CRel F DRL SR als w w') (fd : Nat) (v : Int) : CRel F DRL SR als (setCap w fd v) (setCap w' fd v) :=
  ⟨h.aliases, h.cfg, h.specs, h.alNext, h.exited, h.devs, h.store,
   fun fd' hf => by rw [capOf_setCap, capOf_setCap, h.caps fd' hf], h.sys⟩

theorem CRel.capSetL (h : CRel F DRL SR als w w') (fd : Nat) (v : Int) (hF : F fd = true) : CRel F DRL SR als (setCap w fd v) w' :=
  ⟨h.aliases, h.cfg, h.specs, h.alNext, h.exited, h.devs, h.store,
   fun fd' hf => by
     have : fd' ≠ fd := fun e => by rw [e, hF] at hf; cases hf
     rw [capOf_setCap_ne w fd fd' v this, h.caps fd' hf], h.sys⟩

theorem CRel.capSetR (h : CRel F DRL SR als w w') (fd : Nat) (v : Int) (hF : F fd = true) : CRel F DRL SR als w (setCap w' fd v) :=
  (h.symm.capSetL fd v hF).symm

end Leaves

/-- the outcome of a stage in the two runs: related worlds, related records -/
def StageOut (F : Nat → Bool) (DRL : Devs → Devs → Prop) (SR : Store → Store → Prop) (als : List (Name × List Name)) (r r' : W × Cli) : Prop :=
  CRel F DRL SR als r.1 r'.1 ∧ RecRel F r.2 r'.2

/-! ### `_handle_write` -/

section Write
variable {F : Nat → Bool} {DRL : Devs → Devs → Prop} {SR : Store → Store → Prop} {als : List (Name × List Name)}

/-- what `_handle_write` does with a non-empty buffer, as a function of the capacity of the client's descriptor: the call it
    logs, the capacity it leaves (if it changes it), the new record.  (`ClientPf.hwCore_spec` lists the outcomes; two runs take
    the same one because the capacity is all `_handle_write` reads of the world, which is what this form says.) -/
def hwPlan (cap : Int) (c : Cli) : Sys × Option Int × Cli :=
  if cap < 0 then (.write c.fd [] true false, none, { c with quit := true })
  else if c.blocking then
    (.write c.fd c.toBuf false (cap < c.toBuf.length), some (if cap < c.toBuf.length then 0 else cap - c.toBuf.length), { c with toBuf := [] })
  else if cap == 0 then (.write c.fd [] false false, none, { c with quit := true })
  else
    let n := min cap.toNat c.toBuf.length
    (.write c.fd (c.toBuf.take n) false false, some (cap - n), { c with toBuf := c.toBuf.drop n })

def hwApply (w : W) (fd : Nat) (pl : Sys × Option Int × Cli) : W × Cli :=
  match pl.2.1 with
  | none => ({ w with sys := w.sys ++ [pl.1] }, pl.2.2)
  | some v => (setCap { w with sys := w.sys ++ [pl.1] } fd v, pl.2.2)

theorem hwCore_plan (w : W) (c : Cli) :
    ClientPf.hwCore w c = if c.toBuf.isEmpty then (w, c) else hwApply w c.fd (hwPlan (capOf w c.fd) c) := by
  unfold ClientPf.hwCore hwPlan
  simp only [apply_ite (hwApply w c.fd)]
  rfl

theorem hwPlan_quit (cap : Int) (c : Cli) (h : (hwPlan cap c).2.2.quit = true) :
    c.quit = true ∨ cap < 0 ∨ (c.blocking = false ∧ cap = 0) := by
  unfold hwPlan at h
  by_cases h1 : cap < 0
  · exact .inr (.inl h1)
  rw [if_neg h1] at h
  by_cases h2 : c.blocking = true
  · rw [if_pos h2] at h; exact .inl h
  rw [if_neg h2] at h
  by_cases h3 : (cap == 0) = true
  · exact .inr (.inr ⟨by simpa using h2, by simpa using h3⟩)
  · rw [if_neg h3] at h; exact .inl h

theorem hwCore_rel (w w' : W) (c : Cli) (h : CRel F DRL SR als w w') (hF : F c.fd = false) :
    StageOut F DRL SR als (ClientPf.hwCore w c) (ClientPf.hwCore w' c) := by
  rw [hwCore_plan, hwCore_plan, h.caps c.fd hF]
  split
  · exact ⟨h, RecRel.refl F c⟩
  · generalize hwPlan (capOf w c.fd) c = pl
    obtain ⟨x, v, c1⟩ := pl
    cases v with
    | none => exact ⟨h.log x, RecRel.refl F c1⟩
    | some v => exact ⟨(h.log x).capSet c.fd v, RecRel.refl F c1⟩

/-- a stage that touches, of the world, only the system-call log (calls on the client's own descriptor) and the write capacity
    of the client's own descriptor, and, of the record, only the output buffer and — towards `true` — the `quit` flag -/
structure SelfOnly (w : W) (c : Cli) (r : W × Cli) : Prop where
  world : r.1 = { w with sys := r.1.sys, caps := r.1.caps }
  sys : ∃ xs, r.1.sys = w.sys ++ xs ∧ ∀ x ∈ xs, sysFd x = some c.fd
  caps : ∀ fd, fd ≠ c.fd → capOf r.1 fd = capOf w fd
  recd : r.2 = { c with toBuf := r.2.toBuf, quit := r.2.quit, blocking := r.2.blocking }
  quit : c.quit = true → r.2.quit = true

theorem SelfOnly.refl (w : W) (c : Cli) : SelfOnly w c (w, c) :=
  ⟨rfl, ⟨[], by simp, by simp⟩, fun _ _ => rfl, rfl, fun h => h⟩

theorem handleWrite_selfOnly (w : W) (c : Cli) : SelfOnly w c (handleWrite w c) := by
  obtain ⟨sys, caps, t, q, b, e⟩ := ClientPf.handleWrite_only w c
  obtain ⟨ext, h⟩ := handleWrite_iso w c
  rw [e] at h ⊢
  exact ⟨rfl, ⟨ext, h.sys, h.sysfd⟩, h.caps, rfl, h.quit⟩

theorem handleWrite_quit_why (w : W) (c : Cli) (h : (handleWrite w c).2.quit = true) :
    c.quit = true ∨ (c.toBuf ≠ [] ∧ (capOf w c.fd < 0 ∨ (c.blocking = false ∧ capOf w c.fd = 0))) := by
  by_cases hq : c.quit = true
  · exact .inl hq
  rw [ClientPf.handleWrite_eq, if_neg hq, hwCore_plan] at h
  by_cases he : c.toBuf.isEmpty = true
  · rw [if_pos he] at h; exact .inl h
  rw [if_neg he] at h
  have h' : (hwPlan (capOf w c.fd) c).2.2.quit = true := by
    unfold hwApply at h
    split at h <;> exact h
  exact (hwPlan_quit _ c h').imp_right fun x => ⟨by simpa using he, x⟩

/-- the world changes only in the log (calls on `fd`) and in the write capacity of `fd` -/
structure SelfW (w : W) (fd : Nat) (w1 : W) : Prop where
  world : w1 = { w with sys := w1.sys, caps := w1.caps }
  sys : ∃ xs, w1.sys = w.sys ++ xs ∧ ∀ x ∈ xs, sysFd x = some fd
  caps : ∀ fd', fd' ≠ fd → capOf w1 fd' = capOf w fd'

theorem SelfW.refl (w : W) (fd : Nat) : SelfW w fd w := ⟨rfl, ⟨[], by simp, by simp⟩, fun _ _ => rfl⟩

theorem SelfW.close {w w1 : W} {fd : Nat} (h : SelfW w fd w1) : SelfW w fd { w1 with sys := w1.sys ++ [Sys.close fd] } := by
  obtain ⟨xs, h1, h2⟩ := h.sys
  refine ⟨?_, ⟨xs ++ [Sys.close fd], by simp [h1], ?_⟩, h.caps⟩
  · have := h.world
    show ({ w1 with sys := w1.sys ++ [Sys.close fd] } : W) = { w with sys := w1.sys ++ [Sys.close fd], caps := w1.caps }
    rw [this]
  · intro x hx
    rcases List.mem_append.mp hx with hx | hx
    · exact h2 x hx
    · simp only [List.mem_singleton] at hx; subst hx; rfl

theorem SelfOnly.toW {w : W} {c : Cli} {r : W × Cli} (h : SelfOnly w c r) : SelfW w c.fd r.1 := ⟨h.world, h.sys, h.caps⟩

theorem CRel.selfWL {w w' w1 : W} {fd : Nat} (h : CRel F DRL SR als w w') (hs : SelfW w fd w1) (hF : F fd = true) :
    CRel F DRL SR als w1 w' := by
  obtain ⟨xs, hx, hxs⟩ := hs.sys
  have hw := hs.world
  refine ⟨by rw [hw]; exact h.aliases, by rw [hw]; exact h.cfg, by rw [hw]; exact h.specs, by rw [hw]; exact h.alNext,
    by rw [hw]; exact h.exited, by rw [hw]; exact h.devs, by rw [hw]; exact h.store, ?_, ?_⟩
  · intro fd' hf
    have : fd' ≠ fd := fun e => by rw [e, hF] at hf; cases hf
    rw [h.caps fd' hf, hs.caps fd' this]
  · rw [hx, List.filter_append, h.sys]
    have : xs.filter (offF F) = [] := by
      rw [List.filter_eq_nil_iff]
      intro x hxm
      simp [offF, hxs x hxm, hF]
    rw [this, List.append_nil]

theorem CRel.selfWR {w w' w1 : W} {fd : Nat} (h : CRel F DRL SR als w w') (hs : SelfW w' fd w1) (hF : F fd = true) :
    CRel F DRL SR als w w1 :=
  (h.symm.selfWL hs hF).symm

theorem SelfOnly.recRel {w w' : W} {c c' : Cli} {r r' : W × Cli} (hs : SelfOnly w c r) (hs' : SelfOnly w' c' r')
    (hc : RecRel F c c') (hF : F c.fd = true) (hq : r'.2.quit = r.2.quit) : RecRel F r.2 r'.2 := by
  obtain ⟨t, b, rfl, _⟩ := hc
  have e1 := hs.recd
  have e2 := hs'.recd
  have hfd : r.2.fd = c.fd := by rw [e1]
  refine RecRel.mk' (by rw [e1, e2]) (by rw [e1, e2]) hq (by rw [e1, e2]) (by rw [e1, e2]) (by rw [e1, e2]) (by rw [e1, e2])
    (by rw [e1, e2]) (fun h => ?_)
  rw [hfd, hF] at h; cases h

theorem SelfOnly.recRelL {w : W} {c c' : Cli} {r : W × Cli} (hs : SelfOnly w c r)
    (hc : RecRel F c c') (hF : F c.fd = true) (hq : r.2.quit = c.quit) : RecRel F r.2 c' :=
  SelfOnly.recRel (r' := (w, c')) hs (SelfOnly.refl w c') hc hF (hc.quit.trans hq.symm)

theorem SelfOnly.recRelR {w' : W} {c c' : Cli} {r' : W × Cli} (hs' : SelfOnly w' c' r')
    (hc : RecRel F c c') (hF : F c.fd = true) (hq : r'.2.quit = c'.quit) : RecRel F c r'.2 :=
  SelfOnly.recRel (r := (w', c)) (SelfOnly.refl w' c) hs' hc hF (hq.trans hc.quit)

/-- **`_handle_write` in both runs.**  On a descriptor outside `F` the two calls are the same call.  On a descriptor of `F`
    (where buffer and capacity may differ) the worlds stay related, and so do the records when the client had already quit
    (the caller is the `quit` command). -/
theorem handleWrite_rel (w w' : W) (c c' : Cli) (h : CRel F DRL SR als w w') (hc : RecRel F c c')
    (hq : F c.fd = true → c.quit = true) : StageOut F DRL SR als (handleWrite w c) (handleWrite w' c') := by
  cases hF : F c.fd with
  | false =>
    rw [hc.eq hF, ClientPf.handleWrite_eq, ClientPf.handleWrite_eq]
    exact hwCore_rel w w' _ h (by split <;> exact hF)
  | true =>
    have s1 := handleWrite_selfOnly w c
    have s2 := handleWrite_selfOnly w' c'
    have hF' : F c'.fd = true := by rw [hc.fd]; exact hF
    refine ⟨(h.selfWL s1.toW hF).selfWR s2.toW hF', SelfOnly.recRel s1 s2 hc hF ?_⟩
    rw [s1.quit (hq hF), s2.quit (by rw [hc.quit]; exact hq hF)]

/-- `_handle_write` called in the first run only (the descriptor, of `F`, is reported writable there and not in the second
    run): related again, provided the call does not mark the client as gone -/
theorem handleWrite_relL (w w' : W) (c c' : Cli) (h : CRel F DRL SR als w w') (hc : RecRel F c c') (hF : F c.fd = true)
    (hq : (handleWrite w c).2.quit = c.quit) : StageOut F DRL SR als (handleWrite w c) (w', c') := by
  have s1 := handleWrite_selfOnly w c
  exact ⟨h.selfWL s1.toW hF, s1.recRelL hc hF hq⟩

end Write

/-! ### `_handle_read` -/

section Read
variable {F : Nat → Bool} {DRL : Devs → Devs → Prop} {SR : Store → Store → Prop} {als : List (Name × List Name)}

/-- the kernel hands the same bytes (or the same error / end of file) to the two runs -/
def SameIn (e e' : Option FdEnv) : Prop := (e'.map fun x => (x.rk, x.data)) = e.map fun x => (x.rk, x.data)

theorem clipC_rel (c c' : Cli) (e e' : Option FdEnv) (hc : RecRel F c c') (he : SameIn e e') :
    RecRel F (clipC c e) (clipC c' e') ∧ SameIn (clipE c e) (clipE c' e') := by
  obtain ⟨t, b, rfl, hf⟩ := hc
  cases e with
  | none =>
    cases e' with
    | none => exact ⟨⟨t, b, rfl, hf⟩, rfl⟩
    | some x' => simp [SameIn] at he
  | some x =>
    cases e' with
    | none => simp [SameIn] at he
    | some x' =>
      simp only [SameIn, Option.map_some, Option.some.injEq, Prod.mk.injEq] at he
      obtain ⟨h1, h2⟩ := he
      have hp : cliReadPlan { c with toBuf := t, blocking := b } x' = cliReadPlan c x := by
        unfold cliReadPlan; simp only [h1, h2]
      constructor
      · refine ⟨t, b, ?_, hf⟩
        simp only [clipC, clipCli, hp]
      · simp only [SameIn, clipE, clipEnv, Option.map_some, hp, h1, h2]

/-- what `_handle_read` does with what the kernel hands it: the call it logs and the new record.  (`ClientPf.cpRead_cases`
    lists the outcomes; this form says that none of it depends on the world, so that two runs log the same call.) -/
def rdPlan (c : Cli) (x : FdEnv) : Sys × Cli :=
  if x.rk == 1 then (.read c.fd (-1), { c with quit := true })
  else if x.rk == 2 then (.read c.fd 0, { c with quit := true })
  else if x.data.isEmpty then (.read c.fd (-1), { c with quit := true })
  else (.read c.fd x.data.length, { c with fromBuf := c.fromBuf ++ x.data })

def rdApply (w : W) (pl : Sys × Cli) : W × Cli := ({ w with sys := w.sys ++ [pl.1] }, pl.2)

theorem cpRead_some (w : W) (c : Cli) (x : FdEnv) : ClientPf.cpRead w c (some x) = rdApply w (rdPlan c x) := by
  unfold ClientPf.cpRead rdPlan
  simp only [apply_ite (rdApply w)]
  rfl

theorem rdPlan_rel (c c' : Cli) (x x' : FdEnv) (hc : RecRel F c c') (h1 : x'.rk = x.rk) (h2 : x'.data = x.data) :
    (rdPlan c' x').1 = (rdPlan c x).1 ∧ RecRel F (rdPlan c x).2 (rdPlan c' x').2 := by
  obtain ⟨t, b, rfl, hf⟩ := hc
  unfold rdPlan
  rw [h1, h2]
  by_cases a1 : (x.rk == 1) = true
  · rw [if_pos a1, if_pos a1]; exact ⟨rfl, t, b, rfl, hf⟩
  rw [if_neg a1, if_neg a1]
  by_cases a2 : (x.rk == 2) = true
  · rw [if_pos a2, if_pos a2]; exact ⟨rfl, t, b, rfl, hf⟩
  rw [if_neg a2, if_neg a2]
  by_cases a3 : x.data.isEmpty = true
  · rw [if_pos a3, if_pos a3]; exact ⟨rfl, t, b, rfl, hf⟩
  · rw [if_neg a3, if_neg a3]; exact ⟨rfl, t, b, rfl, hf⟩

theorem cpRead_rel (w w' : W) (c c' : Cli) (e e' : Option FdEnv) (h : CRel F DRL SR als w w') (hc : RecRel F c c')
    (he : SameIn e e') : StageOut F DRL SR als (ClientPf.cpRead w c e) (ClientPf.cpRead w' c' e') := by
  cases e with
  | none =>
    cases e' with
    | none => exact ⟨h, hc⟩
    | some x' => simp [SameIn] at he
  | some x =>
    cases e' with
    | none => simp [SameIn] at he
    | some x' =>
      simp only [SameIn, Option.map_some, Option.some.injEq, Prod.mk.injEq] at he
      obtain ⟨g1, g2⟩ := rdPlan_rel c c' x x' hc he.1 he.2
      rw [cpRead_some, cpRead_some]
      unfold rdApply
      rw [g1]
      exact ⟨h.log _, g2⟩

end Read

/-! ### `_parse_input`, branch by branch -/

section Parse
variable {F : Nat → Bool} {DRL : Devs → Devs → Prop} {SR : Store → Store → Prop} {als : List (Name × List Name)}

/-- what `install` needs of the relation between the device lists, for the target list `bn`: the capability check
    (`dev_check_actions`) has the same outcome, the same number of actions is created, and the device lists after
    `dev_enqueue_actions` are related again -/
def InstOK (DRL : Devs → Devs → Prop) (bn : List Bytes) : Prop :=
  ∀ l l', DRL l l' → ∀ (com cid : Nat) (tele : Bool) (al : Nat),
    (l'.any fun (nd : Bytes × Dev) => needsDev nd.2 bn && !handles nd.2 com bn) =
      (l.any fun (nd : Bytes × Dev) => needsDev nd.2 bn && !handles nd.2 com bn) ∧
    Enq.installTotal com bn cid tele al l' = Enq.installTotal com bn cid tele al l ∧
    DRL (l.map (Enq.installDev com bn cid tele al)) (l'.map (Enq.installDev com bn cid tele al))

/-- what the `device` query needs, for the target `t`: the same reply -/
def DevOK (DRL : Devs → Devs → Prop) (t : Option Hostlist) : Prop :=
  ∀ l l', DRL l l' → ∀ (w w' : W), w'.specs = w.specs →
    l'.foldl (ClientPf.devReplyStep w' t) (some []) = l.foldl (ClientPf.devReplyStep w t) (some [])

theorem refused_rel (w w' : W) (c c' : Cli) (h : CRel F DRL SR als w w') (hc : RecRel F c c') :
    StageOut F DRL SR als (Reply.refused w c) (Reply.refused w' c') := by
  unfold Reply.refused
  rw [hc.quit]
  exact ⟨h, hc.put _⟩

theorem install_rel (hSR : ∀ s s' x, SR s s' → SR (x :: s) (x :: s')) (w w' : W) (c c' : Cli) (com : Com) (names : List Name)
    (h : CRel F DRL SR als w w') (hc : RecRel F c c') (hI : InstOK DRL (names.map ofChars)) :
    StageOut F DRL SR als (install w c com names) (install w' c' com names) := by
  obtain ⟨h1, h2, h3⟩ := hI w.devs w'.devs h.devs (comIdx com) c.id c.telemetry w.alNext
  rw [ClientPf.install_nf, ClientPf.install_nf]
  unfold ClientPf.afterAccept
  rw [hc.id, hc.telemetry, h.alNext, h1, h2]
  split
  · exact refused_rel w w' c c' h hc
  · split
    · exact refused_rel w w' c c' h hc
    · refine ⟨⟨h.aliases, h.cfg, h.specs, rfl, h.exited, h3, hSR _ _ _ h.store, h.caps, h.sys⟩, ?_⟩
      obtain ⟨t, b, rfl, hf⟩ := hc
      exact ⟨t, b, rfl, hf⟩

theorem plFin_rel (w w' : W) (c c' : Cli) (x : Bytes) (h : CRel F DRL SR als w w') (hc : RecRel F c c') :
    StageOut F DRL SR als (ClientPf.plFin w c x) (ClientPf.plFin w' c' x) := by
  unfold ClientPf.plFin
  rw [hc.quit]
  exact ⟨h, hc.put _⟩

theorem plNodes_rel (w w' : W) (c c' : Cli) (h : CRel F DRL SR als w w') (hc : RecRel F c c') :
    StageOut F DRL SR als (ClientPf.plNodes w c) (ClientPf.plNodes w' c') := by
  unfold ClientPf.plNodes
  rw [show sortHL w'.cfg.nodes = sortHL w.cfg.nodes by rw [h.cfg]]
  split
  · exact ⟨h.exit, hc⟩
  · exact ⟨h.exit, hc⟩
  · dsimp only
    rw [hc.quit, hc.exprange]
    exact ⟨h.nodes _, hc.put _⟩

theorem plTelemetry_rel (w w' : W) (c c' : Cli) (h : CRel F DRL SR als w w') (hc : RecRel F c c') :
    StageOut F DRL SR als (ClientPf.plTelemetry w c) (ClientPf.plTelemetry w' c') := by
  unfold ClientPf.plTelemetry
  dsimp only
  rw [hc.telemetry]
  refine plFin_rel w w' _ _ _ h ?_
  obtain ⟨t, b, rfl, hf⟩ := hc
  exact ⟨t, b, rfl, hf⟩

theorem plExprange_rel (w w' : W) (c c' : Cli) (h : CRel F DRL SR als w w') (hc : RecRel F c c') :
    StageOut F DRL SR als (ClientPf.plExprange w c) (ClientPf.plExprange w' c') := by
  unfold ClientPf.plExprange
  dsimp only
  rw [hc.exprange]
  refine plFin_rel w w' _ _ _ h ?_
  obtain ⟨t, b, rfl, hf⟩ := hc
  exact ⟨t, b, rfl, hf⟩

theorem plQuit_rel (w w' : W) (c c' : Cli) (h : CRel F DRL SR als w w') (hc : RecRel F c c') :
    StageOut F DRL SR als (ClientPf.plQuit w c) (ClientPf.plQuit w' c') := by
  unfold ClientPf.plQuit
  refine handleWrite_rel w w' _ _ h ?_ (fun _ => rfl)
  obtain ⟨t, b, rfl, hf⟩ := hc
  exact ⟨t ++ (codeLine 101 ++ crlf), b, rfl, fun hF => by obtain ⟨rfl, rfl⟩ := hf hF; exact ⟨rfl, rfl⟩⟩

theorem plDevice_rel (w w' : W) (c c' : Cli) (str : Bytes) (h : CRel F DRL SR als w w') (hc : RecRel F c c')
    (hD : ∀ a, ClientPf.plDevArg str = some a → DevOK DRL (ClientPf.devTarg a)) :
    StageOut F DRL SR als (ClientPf.plDevice w c str) (ClientPf.plDevice w' c' str) := by
  unfold ClientPf.plDevice
  cases ha : ClientPf.plDevArg str with
  | none => exact plFin_rel w w' c c' _ h hc
  | some a =>
    dsimp only
    rw [ClientPf.deviceReply_eq, ClientPf.deviceReply_eq, hD a ha w.devs w'.devs h.devs w w' h.specs]
    split
    · exact ⟨h.exit, hc⟩
    · exact plFin_rel w w' c c' _ h hc

theorem plCmd_rel (hSR : ∀ s s' x, SR s s' → SR (x :: s) (x :: s')) (w w' : W) (c c' : Cli) (com : Com) (arg : Bytes)
    (h : CRel F DRL SR als w w') (hc : RecRel F c c')
    (hI : ∀ hl, createR (toChars arg) = .ok hl → InstOK DRL ((expAliases als (expand hl)).map ofChars)) :
    StageOut F DRL SR als (ClientPf.plCmd w c com arg) (ClientPf.plCmd w' c' com arg) := by
  unfold ClientPf.plCmd
  cases hcr : createR (toChars arg) with
  | fatal => exact ⟨h.exit, hc⟩
  | err => exact plFin_rel w w' c c' _ h hc
  | ok hl =>
    dsimp only
    rw [h.cfg]
    split
    · exact plFin_rel w w' c c' _ h hc
    · refine install_rel hSR w w' c c' com _ h hc ?_
      rw [h.aliases]
      exact hI hl hcr

/-- the cascade of `_parse_input` for a request string `str` that is not one of `help nodes telemetry exprange quit`, as a
    condition: a bare `status`/`temp`/`beacon` targets every configured node (`IOK` of every name list); a command with a
    target list targets its alias-expanded names (`IOK` of those); a `device` query reads the devices its argument selects
    (`DOK` of that selection); anything else needs nothing -/
def RestP (IOK : List Name → Prop) (DOK : Option Hostlist → Prop) (als : List (Name × List Name)) (str : Bytes) : Prop :=
  match ClientPf.plMatch str with
  | none =>
    if casePrefix kwStatus str || casePrefix kwTemp str || casePrefix kwBeacon str then ∀ names, IOK names
    else ∀ a, ClientPf.plDevArg str = some a → DOK (ClientPf.devTarg a)
  | some (_, arg) => ∀ hl, createR (toChars arg) = .ok hl → IOK (expAliases als (expand hl))

/-- the same for a whole request string: the five commands that do not look at the devices need nothing -/
def IdleP (IOK : List Name → Prop) (DOK : Option Hostlist → Prop) (als : List (Name × List Name)) (str : Bytes) : Prop :=
  casePrefix kwHelp str = false → casePrefix kwNodes str = false → casePrefix kwTelemetry str = false →
  casePrefix kwExprange str = false → casePrefix kwQuit str = false → RestP IOK DOK als str

/-- … and for a request line (a line of `CP_LINEMAX` bytes or more is answered 203 and needs nothing) -/
def LineP (IOK : List Name → Prop) (DOK : Option Hostlist → Prop) (als : List (Name × List Name)) (line : Bytes) : Prop :=
  ¬ ClientPf.TooLong line → IdleP IOK DOK als (ClientPf.reqStr line)

/-- what the request string `str` needs of the relation between the device lists -/
abbrev IdleDevsOK (DRL : Devs → Devs → Prop) (als : List (Name × List Name)) (str : Bytes) : Prop :=
  IdleP (fun names => InstOK DRL (names.map ofChars)) (DevOK DRL) als str

/-- the cascade of `plIdle` and `plRest` in two runs on the same request string, under the condition `IdleP` that belongs to it:
    what holds of every pair of branches — given what `IdleP` grants in that branch — holds of the pair of results -/
theorem plIdle_cases₂ {P : W × Cli → W × Cli → Prop} {IOK : List Name → Prop} {DOK : Option Hostlist → Prop}
    {als : List (Name × List Name)} (w w' : W) (c c' : Cli) (str : Bytes)
    (hHelp : P (ClientPf.plFin w c (helpText ++ bstr "103 Query complete" ++ crlf))
      (ClientPf.plFin w' c' (helpText ++ bstr "103 Query complete" ++ crlf)))
    (hNodes : P (ClientPf.plNodes w c) (ClientPf.plNodes w' c')) (hTel : P (ClientPf.plTelemetry w c) (ClientPf.plTelemetry w' c'))
    (hExp : P (ClientPf.plExprange w c) (ClientPf.plExprange w' c')) (hQuit : P (ClientPf.plQuit w c) (ClientPf.plQuit w' c'))
    (hAll : (∀ names, IOK names) → ∀ com, P (install w c com (expand w.cfg.nodes)) (install w' c' com (expand w'.cfg.nodes)))
    (hDev : (∀ a, ClientPf.plDevArg str = some a → DOK (ClientPf.devTarg a)) → P (ClientPf.plDevice w c str) (ClientPf.plDevice w' c' str))
    (hCmd : ∀ com arg, (∀ hl, createR (toChars arg) = .ok hl → IOK (expAliases als (expand hl))) →
      P (ClientPf.plCmd w c com arg) (ClientPf.plCmd w' c' com arg))
    (h : IdleP IOK DOK als str) : P (ClientPf.plIdle w c str) (ClientPf.plIdle w' c' str) :=
  ClientPf.plIdle_split str (P := fun f => P (f w c) (f w' c')) hHelp hNodes hTel hExp hQuit fun h1 h2 h3 h4 h5 => by
    have hR := h h1 h2 h3 h4 h5
    unfold RestP at hR
    exact ClientPf.plRest_cases str (P := fun f => P (f w c) (f w' c'))
      (fun hm hp com _ => hAll (by rw [hm, if_pos hp] at hR; exact hR) com)
      (fun hm hp => hDev (by rw [hm, if_neg (by rw [hp]; exact Bool.false_ne_true)] at hR; exact hR))
      (fun com arg hm => hCmd com arg (by rw [hm] at hR; exact hR))

theorem plIdle_rel (hSR : ∀ s s' x, SR s s' → SR (x :: s) (x :: s')) (w w' : W) (c c' : Cli) (str : Bytes)
    (h : CRel F DRL SR als w w') (hc : RecRel F c c') (hR : IdleDevsOK DRL als str) :
    StageOut F DRL SR als (ClientPf.plIdle w c str) (ClientPf.plIdle w' c' str) :=
  plIdle_cases₂ w w' c c' str (plFin_rel w w' c c' _ h hc) (plNodes_rel w w' c c' h hc) (plTelemetry_rel w w' c c' h hc)
    (plExprange_rel w w' c c' h hc) (plQuit_rel w w' c c' h hc)
    (fun hI com => by rw [h.cfg]; exact install_rel hSR w w' c c' com _ h hc (hI _))
    (plDevice_rel w w' c c' str h hc) (fun com arg => plCmd_rel hSR w w' c c' com arg h hc) hR

/-- what a request line needs of the relation between the device lists -/
abbrev LineDevsOK (DRL : Devs → Devs → Prop) (als : List (Name × List Name)) (line : Bytes) : Prop :=
  LineP (fun names => InstOK DRL (names.map ofChars)) (DevOK DRL) als line

theorem parseLine_rel (hSR : ∀ s s' x, SR s s' → SR (x :: s) (x :: s')) (w w' : W) (c c' : Cli) (line : Bytes)
    (h : CRel F DRL SR als w w') (hc : RecRel F c c') (hL : LineDevsOK DRL als line) :
    StageOut F DRL SR als (parseLine w c line) (parseLine w' c' line) := by
  rw [ClientPf.parseLine_eq, ClientPf.parseLine_eq]
  unfold ClientPf.parseLine'
  split
  · exact plFin_rel w w' c c' _ h hc
  · rename_i hl
    rw [hc.cmd]
    split
    · exact ⟨h, hc.put _⟩
    · exact plIdle_rel hSR w w' c c' _ h hc (hL hl)

theorem runLines_rel (hSR : ∀ s s' x, SR s s' → SR (x :: s) (x :: s')) : ∀ (ls : List Bytes) (w w' : W) (c c' : Cli),
    CRel F DRL SR als w w' → RecRel F c c' → (∀ l ∈ ls, LineDevsOK DRL als l) →
    StageOut F DRL SR als (ClientPf.runLines w c ls) (ClientPf.runLines w' c' ls) := by
  intro ls
  induction ls with
  | nil => intro w w' c c' h hc _; exact ⟨h, hc⟩
  | cons l ls ih =>
    intro w w' c c' h hc hL
    unfold ClientPf.runLines
    rw [h.exited]
    split
    · exact ⟨h, hc⟩
    · have hc2 : RecRel F { c with fromBuf := c.fromBuf.drop l.length } { c' with fromBuf := c'.fromBuf.drop l.length } := by
        obtain ⟨t, b, rfl, hf⟩ := hc
        exact ⟨t, b, rfl, hf⟩
      obtain ⟨g1, g2⟩ := parseLine_rel hSR w w' _ _ l h hc2 (hL l (by simp))
      exact ih _ _ _ _ g1 g2 (fun x hx => hL x (by simp [hx]))

theorem handleInput_rel (hSR : ∀ s s' x, SR s s' → SR (x :: s) (x :: s')) (w w' : W) (c c' : Cli)
    (h : CRel F DRL SR als w w') (hc : RecRel F c c') (hL : ∀ l ∈ (ClientPf.linesOf c.fromBuf).1, LineDevsOK DRL als l) :
    StageOut F DRL SR als (handleInput w c) (handleInput w' c') := by
  rw [ClientPf.handleInput_lines, ClientPf.handleInput_lines, hc.fromBuf]
  exact runLines_rel hSR _ w w' c c' h hc hL

/-- device lists / arglist stores are the same in both runs -/
abbrev DEq : Devs → Devs → Prop := fun l l' => l' = l
abbrev SEq : Store → Store → Prop := fun s s' => s' = s

theorem instOK_eq (bn : List Bytes) : InstOK DEq bn := by
  intro l l' h com cid tele al
  cases h
  exact ⟨rfl, rfl, rfl⟩

theorem devStep_specs {w w' : W} (hs : w'.specs = w.specs) (t : Option Hostlist) : ClientPf.devReplyStep w' t = ClientPf.devReplyStep w t := by
  funext acc nd
  simp only [ClientPf.devReplyStep, hs]

theorem devOK_eq (t : Option Hostlist) : DevOK DEq t := by
  intro l l' h w w' hs
  cases h
  rw [devStep_specs hs]

theorem lineDevsOK_eq (als : List (Name × List Name)) (line : Bytes) : LineDevsOK DEq als line := by
  intro _ _ _ _ _ _
  unfold RestP
  split
  · split
    · exact fun names => instOK_eq _
    · exact fun a _ => devOK_eq _
  · exact fun hl _ => instOK_eq _

theorem sEq_cons : ∀ (s s' : Store) (x : Nat × List Pm.Dev2.Arg), SEq s s' → SEq (x :: s) (x :: s') := by
  intro s s' x h
  show x :: s' = x :: s
  rw [show s' = s from h]

theorem parseLine_aliases (w : W) (c : Cli) (line : Bytes) : (parseLine w c line).1.cfg.aliases = w.cfg.aliases := by
  have h : CRel (fun _ => false) DEq SEq w.cfg.aliases w w := ⟨rfl, rfl, rfl, rfl, rfl, rfl, rfl, fun _ _ => rfl, rfl⟩
  exact (parseLine_rel sEq_cons w w c c line h (RecRel.refl _ c) (lineDevsOK_eq _ line)).1.aliases

/-! ### which command a client ends up with (single run) -/

/-- the command of `c1` is that of `c`, or a new one whose target list satisfies `NOK` -/
def CmdStep (NOK : List Name → Prop) (c c1 : Cli) : Prop := c1.cmd = c.cmd ∨ ∃ k, c1.cmd = some k ∧ NOK k.names

theorem CmdStep.refl (NOK : List Name → Prop) (c : Cli) : CmdStep NOK c c := Or.inl rfl

theorem CmdStep.trans {NOK : List Name → Prop} {a b c : Cli} (h1 : CmdStep NOK a b) (h2 : CmdStep NOK b c) : CmdStep NOK a c := by
  rcases h2 with h2 | h2
  · rcases h1 with h1 | h1
    · exact Or.inl (h2.trans h1)
    · exact Or.inr (by rw [h2]; exact h1)
  · exact Or.inr h2

theorem CmdStep.of_eq {NOK : List Name → Prop} {a b : Cli} (h : b.cmd = a.cmd) : CmdStep NOK a b := Or.inl h

theorem install_cmd (NOK : List Name → Prop) (w : W) (c : Cli) (com : Com) (names : List Name) (h : NOK names) :
    CmdStep NOK c (install w c com names).2 := by
  rcases ClientPf.install_outcomes w c com names with e | ⟨_, _, e⟩ <;> rw [e]
  · exact Or.inl rfl
  · exact Or.inr ⟨_, rfl, h⟩

theorem plCmd_cmd (NOK : List Name → Prop) (w : W) (c : Cli) (com : Com) (arg : Bytes)
    (h : ∀ hl, createR (toChars arg) = .ok hl → NOK (expAliases w.cfg.aliases (expand hl))) :
    CmdStep NOK c (ClientPf.plCmd w c com arg).2 := by
  rcases ClientPf.plCmd_cases w c com arg with e | ⟨hl, hcr, e | ⟨_, e⟩⟩ <;> rw [e]
  · exact Or.inl rfl
  · exact Or.inl rfl
  · exact install_cmd NOK w c com _ (h hl hcr)

theorem plDevice_cmd (w : W) (c : Cli) (str : Bytes) : (ClientPf.plDevice w c str).2.cmd = c.cmd := by
  unfold ClientPf.plDevice
  split
  · rfl
  · split <;> rfl

theorem plIdle_cmd (NOK : List Name → Prop) (w : W) (c : Cli) (str : Bytes) (h : IdleP NOK (fun _ => True) w.cfg.aliases str) :
    CmdStep NOK c (ClientPf.plIdle w c str).2 :=
  plIdle_cases₂ (P := fun r _ => CmdStep NOK c r.2) w w c c str (Or.inl rfl)
    (by unfold ClientPf.plNodes; split <;> exact Or.inl rfl) (Or.inl rfl) (Or.inl rfl)
    (Or.inl (ClientPf.handleWrite_out _ _).2.2.2)
    (fun hI com => install_cmd NOK w c com _ (hI _)) (fun _ => Or.inl (plDevice_cmd w c str))
    (fun com arg => plCmd_cmd NOK w c com arg) h

theorem parseLine_cmd (NOK : List Name → Prop) (w : W) (c : Cli) (line : Bytes) (h : LineP NOK (fun _ => True) w.cfg.aliases line) :
    CmdStep NOK c (parseLine w c line).2 :=
  ClientPf.parseLine_split (P := fun r => CmdStep NOK c r.2) w c line (fun _ => Or.inl rfl) (fun _ _ => Or.inl rfl)
    fun hl _ => plIdle_cmd NOK w c _ (h hl)

theorem runLines_cmd (NOK : List Name → Prop) : ∀ (ls : List Bytes) (w : W) (c : Cli),
    (∀ l ∈ ls, LineP NOK (fun _ => True) w.cfg.aliases l) → CmdStep NOK c (ClientPf.runLines w c ls).2 := by
  intro ls
  induction ls with
  | nil => intro w c _; exact Or.inl rfl
  | cons l ls ih =>
    intro w c h
    unfold ClientPf.runLines
    split
    · exact Or.inl rfl
    · have h1 : CmdStep NOK c (parseLine w { c with fromBuf := c.fromBuf.drop l.length } l).2 :=
        parseLine_cmd NOK w { c with fromBuf := c.fromBuf.drop l.length } l (h l (by simp))
      refine h1.trans (ih _ _ ?_)
      rw [parseLine_aliases]
      exact fun x hx => h x (by simp [hx])

theorem handleInput_cmd (NOK : List Name → Prop) (w : W) (c : Cli)
    (h : ∀ l ∈ (ClientPf.linesOf c.fromBuf).1, LineP NOK (fun _ => True) w.cfg.aliases l) : CmdStep NOK c (handleInput w c).2 := by
  rw [ClientPf.handleInput_lines]
  exact runLines_cmd NOK _ w c h

end Parse

/-! ### one client's whole share of `cli_post_poll` -/

section Pass
variable {F : Nat → Bool} {DRL : Devs → Devs → Prop} {SR : Store → Store → Prop} {als : List (Name × List Name)}

/-- the outcome of `clientPass` in the two runs: related worlds; the client is destroyed in both or survives in both, with
    related records -/
def PassOut (F : Nat → Bool) (DRL : Devs → Devs → Prop) (SR : Store → Store → Prop) (als : List (Name × List Name))
    (r r' : W × Option Cli) : Prop :=
  CRel F DRL SR als r.1 r'.1 ∧ ((r.2 = none ∧ r'.2 = none) ∨ ∃ x x', r.2 = some x ∧ r'.2 = some x' ∧ RecRel F x x')

theorem cpDead_rel (w w' : W) (c c' : Cli) (h : CRel F DRL SR als w w') (hc : RecRel F c c') :
    PassOut F DRL SR als (ClientPf.cpDead w c) (ClientPf.cpDead w' c') := by
  unfold ClientPf.cpDead
  rw [hc.fd]
  exact ⟨h.log _, Or.inl ⟨rfl, rfl⟩⟩

theorem cpTail_rel (r r' : W × Cli) (h : StageOut F DRL SR als r r') :
    PassOut F DRL SR als (ClientPf.cpTail r) (ClientPf.cpTail r') := by
  unfold ClientPf.cpTail
  rw [h.1.exited, h.2.quit, h.2.cmd]
  split
  · exact ⟨h.1, Or.inr ⟨_, _, rfl, rfl, h.2⟩⟩
  · split
    · exact cpDead_rel _ _ _ _ h.1 h.2
    · exact ⟨h.1, Or.inr ⟨_, _, rfl, rfl, h.2⟩⟩

theorem cpRead_caps (w : W) (c : Cli) (e : Option FdEnv) (fd : Nat) : capOf (ClientPf.cpRead w c e).1 fd = capOf w fd := by
  obtain ⟨_, h⟩ := ClientPf.cpRead_sys w c e
  rw [h]; rfl

/-- the complete request lines `_handle_input` will find in this pass: those of the input buffer after `_handle_read` (if
    the descriptor is reported readable).  The record `cpRead` returns does not depend on the world (`cpRead_snd`), so it is run
    on an empty one. -/
def turnLines (c : Cli) (e : Option FdEnv) : List Bytes :=
  (ClientPf.linesOf (if (ClientPf.cpRev c e &&& 1 != 0 || ClientPf.cpRev c e &&& 4 != 0) = true
    then (ClientPf.cpRead { cfg := { plugs := [], has := [], nodes := [], version := [] }, clients := [] } (clipC c e) (clipE c e)).2
    else c).fromBuf).1

theorem cpRead_snd (w w0 : W) (c : Cli) (e : Option FdEnv) : (ClientPf.cpRead w c e).2 = (ClientPf.cpRead w0 c e).2 := by
  cases e with
  | none => rfl
  | some x => rw [cpRead_some, cpRead_some]; rfl

theorem cpRead_aliases (w : W) (c : Cli) (e : Option FdEnv) : (ClientPf.cpRead w c e).1.cfg.aliases = w.cfg.aliases := by
  obtain ⟨_, h⟩ := ClientPf.cpRead_sys w c e
  rw [h]

/-! A client's share of the pass is `cpDead`, or three stages and `cpTail`: `_handle_read` if the descriptor is reported readable
or hung up, `_handle_write` if it is reported writable, `_handle_input`.  `ClientPf.clientPass_invariant` carries one property of one
run through the stages; here the first two stages of `ClientPf.clientPass'` get names, because two runs are compared stage by stage
(they need not take the same stages: `clientPass_rel`) and because the request lines found are those after the read stage
(`rdStage_spec`). -/

def rdStage (w : W) (c : Cli) (e : Option FdEnv) : W × Cli :=
  if (ClientPf.cpRev c e &&& 1 != 0 || ClientPf.cpRev c e &&& 4 != 0) = true then ClientPf.cpRead w (clipC c e) (clipE c e) else (w, c)

def wrStage (c : Cli) (e : Option FdEnv) (r : W × Cli) : W × Cli :=
  if (ClientPf.cpRev c e &&& 2 != 0) = true then handleWrite r.1 r.2 else r

theorem clientPass_eq_stages (w : W) (c : Cli) (e : Option FdEnv) :
    clientPass w c e = if (ClientPf.cpRev c e &&& 8 != 0 || ClientPf.cpRev c e &&& 16 != 0) = true then ClientPf.cpDead w c
      else ClientPf.cpTail (handleInput (wrStage c e (rdStage w c e)).1 (wrStage c e (rdStage w c e)).2) := by
  rw [ClientPf.clientPass_eq]
  unfold ClientPf.clientPass' rdStage wrStage
  rfl

theorem rdStage_spec (w : W) (c : Cli) (e : Option FdEnv) :
    (rdStage w c e).2.fd = c.fd ∧ (rdStage w c e).2.cmd = c.cmd ∧ ((rdStage w c e).2.quit = false → c.quit = false) ∧
    (rdStage w c e).1.cfg.aliases = w.cfg.aliases ∧ (∀ fd, capOf (rdStage w c e).1 fd = capOf w fd) ∧
    (ClientPf.linesOf (rdStage w c e).2.fromBuf).1 = turnLines c e := by
  unfold rdStage turnLines
  by_cases hr : (ClientPf.cpRev c e &&& 1 != 0 || ClientPf.cpRev c e &&& 4 != 0) = true
  · rw [if_pos hr, if_pos hr]
    obtain ⟨ext, hi, _⟩ := cpRead_iso w (clipC c e) (clipE c e)
    refine ⟨by rw [hi.fd]; simp, by rw [(ClientPf.cpRead_out w _ _).2.2.2]; simp, fun hq => ?_, cpRead_aliases w _ _,
      cpRead_caps _ _ _, by rw [cpRead_snd w]⟩
    cases hcq : c.quit with
    | false => rfl
    | true => rw [hi.quit (by simpa using hcq)] at hq; cases hq
  · rw [if_neg hr, if_neg hr]
    exact ⟨rfl, rfl, id, rfl, fun _ => rfl, rfl⟩

theorem wrStage_self (c : Cli) (e : Option FdEnv) (r : W × Cli) : SelfOnly r.1 r.2 (wrStage c e r) :=
  ite_cases (P := SelfOnly r.1 r.2) (fun _ => handleWrite_selfOnly r.1 r.2) (fun _ => SelfOnly.refl r.1 r.2)

theorem rdStage_rel (w w' : W) (c c' : Cli) (e e' : Option FdEnv) (h : CRel F DRL SR als w w') (hc : RecRel F c c')
    (hread : (ClientPf.cpRev c' e' &&& 1 != 0 || ClientPf.cpRev c' e' &&& 4 != 0) = (ClientPf.cpRev c e &&& 1 != 0 || ClientPf.cpRev c e &&& 4 != 0))
    (hin : SameIn e e') : StageOut F DRL SR als (rdStage w c e) (rdStage w' c' e') := by
  unfold rdStage
  rw [hread]
  by_cases hr : (ClientPf.cpRev c e &&& 1 != 0 || ClientPf.cpRev c e &&& 4 != 0) = true
  · rw [if_pos hr, if_pos hr]
    obtain ⟨g1, g2⟩ := clipC_rel c c' e e' hc hin
    exact cpRead_rel w w' _ _ _ _ h g1 g2
  · rw [if_neg hr, if_neg hr]
    exact ⟨h, hc⟩

/-- **`clientPass` in both runs.**  The two records are related, the two worlds are related; the events reported for the
    descriptor lead to the same decisions (`hdead`: destroyed at once, `hread`: `_handle_read` called, and then with the
    same bytes `hin`); on a descriptor outside `F` also to the same decision about `_handle_write` (`hwr`); on a descriptor of
    `F` the second run is not reported writable, and in the first run a write — if there is one — does not mark the client
    as gone (`hst`); the request lines found need nothing more of the devices than the relation gives (`hL`). -/
theorem clientPass_rel (hSR : ∀ s s' x, SR s s' → SR (x :: s) (x :: s')) (w w' : W) (c c' : Cli) (e e' : Option FdEnv)
    (h : CRel F DRL SR als w w') (hc : RecRel F c c')
    (hdead : (ClientPf.cpRev c' e' &&& 8 != 0 || ClientPf.cpRev c' e' &&& 16 != 0) = (ClientPf.cpRev c e &&& 8 != 0 || ClientPf.cpRev c e &&& 16 != 0))
    (hread : (ClientPf.cpRev c' e' &&& 1 != 0 || ClientPf.cpRev c' e' &&& 4 != 0) = (ClientPf.cpRev c e &&& 1 != 0 || ClientPf.cpRev c e &&& 4 != 0))
    (hin : SameIn e e')
    (hwr : F c.fd = false → (ClientPf.cpRev c' e' &&& 2 != 0) = (ClientPf.cpRev c e &&& 2 != 0))
    (hst : F c.fd = true → (ClientPf.cpRev c' e' &&& 2 != 0) = false ∧
      ((ClientPf.cpRev c e &&& 2 != 0) = true → c.quit = false → 0 < capOf w c.fd))
    (hL : ∀ l ∈ turnLines c e, LineDevsOK DRL als l) :
    PassOut F DRL SR als (clientPass w c e) (clientPass w' c' e') := by
  rw [clientPass_eq_stages, clientPass_eq_stages, hdead]
  by_cases hd : (ClientPf.cpRev c e &&& 8 != 0 || ClientPf.cpRev c e &&& 16 != 0) = true
  · rw [if_pos hd, if_pos hd]
    exact cpDead_rel w w' c c' h hc
  rw [if_neg hd, if_neg hd]
  have h1 := rdStage_rel w w' c c' e e' h hc hread hin
  obtain ⟨hfd1, _, hq1, _, hcap, hfb⟩ := rdStage_spec w c e
  have hfb2 := (wrStage_self c e (rdStage w c e)).recd
  generalize rdStage w c e = r1 at *
  generalize rdStage w' c' e' = r1' at *
  -- `_handle_write`
  have h2 : StageOut F DRL SR als (wrStage c e r1) (wrStage c' e' r1') := by
    unfold wrStage
    cases hF : F c.fd with
    | false =>
      rw [hwr hF]
      by_cases hw : (ClientPf.cpRev c e &&& 2 != 0) = true
      · rw [if_pos hw, if_pos hw]
        exact handleWrite_rel _ _ _ _ h1.1 h1.2 (fun hh => by rw [hfd1, hF] at hh; cases hh)
      · rw [if_neg hw, if_neg hw]
        exact h1
    | true =>
      obtain ⟨hs1, hs2⟩ := hst hF
      rw [hs1, if_neg Bool.false_ne_true]
      by_cases hw : (ClientPf.cpRev c e &&& 2 != 0) = true
      · rw [if_pos hw]
        have s1 := handleWrite_selfOnly r1.1 r1.2
        have s2 := handleWrite_quit_why r1.1 r1.2
        refine handleWrite_relL _ _ _ _ h1.1 h1.2 (by rw [hfd1]; exact hF) ?_
        cases hq : r1.2.quit with
        | true => exact s1.quit hq   -- the client had quit: `_handle_write` keeps the flag
        | false =>
          cases hq2 : (handleWrite r1.1 r1.2).2.quit with
          | false => rfl
          | true =>
            have hpos := hs2 hw (hq1 hq)
            rcases s2 hq2 with hh | ⟨_, hh | ⟨_, hh⟩⟩
            · rw [hq] at hh; cases hh
            · rw [hfd1, hcap] at hh; omega
            · rw [hfd1, hcap] at hh; omega
      · rw [if_neg hw]
        exact h1
  generalize wrStage c e r1 = r2 at *
  generalize wrStage c' e' r1' = r2' at *
  -- `_handle_input`
  refine cpTail_rel _ _ (handleInput_rel hSR _ _ _ _ h2.1 h2.2 ?_)
  rw [hfb2, hfb]
  exact hL

theorem clientPass_rel_eq (hSR : ∀ s s' x, SR s s' → SR (x :: s) (x :: s')) (w w' : W) (c : Cli) (e : Option FdEnv)
    (h : CRel F DRL SR als w w') (hF : F c.fd = false) (hL : ∀ l ∈ turnLines c e, LineDevsOK DRL als l) :
    PassOut F DRL SR als (clientPass w c e) (clientPass w' c e) :=
  clientPass_rel hSR w w' c c e e h (RecRel.refl F c) rfl rfl rfl (fun _ => rfl) (fun hh => by rw [hF] at hh; cases hh) hL

theorem clientPass_aliases (w : W) (c : Cli) (e : Option FdEnv) : (clientPass w c e).1.cfg.aliases = w.cfg.aliases := by
  have h : CRel (fun _ => false) DEq SEq w.cfg.aliases w w := ⟨rfl, rfl, rfl, rfl, rfl, rfl, rfl, fun _ _ => rfl, rfl⟩
  exact (clientPass_rel_eq sEq_cons w w c e h rfl (fun l _ => lineDevsOK_eq _ l)).1.aliases

theorem clientPass_cmd (NOK : List Name → Prop) (w : W) (c : Cli) (e : Option FdEnv) (x : Cli) (hx : (clientPass w c e).2 = some x)
    (hL : ∀ l ∈ turnLines c e, LineP NOK (fun _ => True) w.cfg.aliases l) : CmdStep NOK c x := by
  rw [clientPass_eq_stages] at hx
  by_cases hd : (ClientPf.cpRev c e &&& 8 != 0 || ClientPf.cpRev c e &&& 16 != 0) = true
  · rw [if_pos hd] at hx; cases hx
  rw [if_neg hd] at hx
  obtain ⟨_, a1, _, a2, _, a3⟩ := rdStage_spec w c e
  have s := wrStage_self c e (rdStage w c e)
  generalize rdStage w c e = r1 at *
  have b1 : (wrStage c e r1).2.cmd = r1.2.cmd := by rw [s.recd]
  have b2 : (wrStage c e r1).1.cfg.aliases = r1.1.cfg.aliases := by rw [s.world]
  have b3 : (wrStage c e r1).2.fromBuf = r1.2.fromBuf := by rw [s.recd]
  generalize wrStage c e r1 = r2 at *
  have h3 : CmdStep NOK r2.2 (handleInput r2.1 r2.2).2 := by
    apply handleInput_cmd
    rw [b2, a2, b3, a3]
    exact hL
  rw [ClientPf.cpTail_alive _ x hx]
  exact (CmdStep.of_eq (b1.trans a1)).trans h3

/-! ### a turn that brings nothing from the peer -/

/-- nothing arrives from this client in this pass: its descriptor is not reported readable (nor hung up), and no complete
    request line waits in its input buffer.  (It may be written to, and it may be destroyed: weaker than `QuietCli`, which
    allows no event at all and no destruction, and makes the turn the identity.) -/
def Inert (envs : List FdEnv) (c : Cli) : Prop :=
  ClientPf.cpRev c (envs.find? (·.fd == c.fd)) &&& 1 = 0 ∧ ClientPf.cpRev c (envs.find? (·.fd == c.fd)) &&& 4 = 0 ∧
  c.fromBuf.idxOf? 10 = none

theorem clientPass_inert (w : W) (c : Cli) (e : Option FdEnv) (h1 : ClientPf.cpRev c e &&& 1 = 0) (h4 : ClientPf.cpRev c e &&& 4 = 0)
    (hl : c.fromBuf.idxOf? 10 = none) : SelfW w c.fd (clientPass w c e).1 := by
  rw [clientPass_eq_stages]
  refine ite_cases (P := fun r : W × Option Cli => SelfW w c.fd r.1) (fun _ => (SelfW.refl w c.fd).close) fun _ => ?_
  have hr : rdStage w c e = (w, c) := by
    unfold rdStage
    simp only [h1, h4, bne_self_eq_false, Bool.or_self, Bool.false_eq_true, ↓reduceIte]
  rw [hr]
  have s := wrStage_self c e (w, c)
  have h2 : SelfW w c.fd (wrStage c e (w, c)).1 := s.toW
  have hfb : (wrStage c e (w, c)).2.fromBuf = c.fromBuf := by rw [s.recd]
  have hfd : (wrStage c e (w, c)).2.fd = c.fd := by rw [s.recd]
  generalize wrStage c e (w, c) = r2 at *
  rw [handleInput_quiet r2.1 r2.2 (by rw [hfb]; exact hl)]
  unfold ClientPf.cpTail
  refine ite_cases (P := fun r : W × Option Cli => SelfW w c.fd r.1) (fun _ => h2) fun _ =>
    ite_cases (P := fun r : W × Option Cli => SelfW w c.fd r.1) (fun _ => ?_) (fun _ => h2)
  show SelfW w c.fd { r2.1 with sys := r2.1.sys ++ [Sys.close r2.2.fd] }
  rw [hfd]
  exact h2.close

end Pass

/-! ### the loop of `cli_post_poll` -/

section Loop
variable {F : Nat → Bool} {DRL : Devs → Devs → Prop} {SR : Store → Store → Prop} {als : List (Name × List Name)}

theorem CRel.setClients {w w' : W} (h : CRel F DRL SR als w w') (X X' : List Cli) :
    CRel F DRL SR als { w with clients := X } { w' with clients := X' } :=
  ⟨h.aliases, h.cfg, h.specs, h.alNext, h.exited, h.devs, h.store, h.caps, h.sys⟩

/-- the counters `clientPass` neither reads nor writes -/
def ctrs (w : W) : Nat × Nat × Nat × Nat × Nat × Option Nat × List Pm.Dev2.RxCall :=
  (w.nextId, w.nacc, w.nsock, w.npair, w.nfork, w.tmo, w.pendingX)

theorem cliStep_ctrs (envs : List FdEnv) (w : W) (c0 : Cli) : ctrs (ClientPf.cliStep envs w c0) = ctrs w := by
  rcases cliStep_cases envs w c0 with ⟨_, e⟩ | ⟨_, ext, hp, hcase⟩
  · rw [e]
  · have := hp.kept
    simp only [kept, Prod.mk.injEq] at this
    obtain ⟨_, _, a1, a2, a3, a4, a5, a6, a7⟩ := this
    rw [hcase]; simp only [ctrs, a1, a2, a3, a4, a5, a6, a7]

/-- the turn of a process that has not exited, as `cliStep_cases` gives it: both runs are rewritten to this shape, and the tables are
    compared through `tabUpd` -/
theorem cliStep_tab (envs : List FdEnv) (w : W) (c0 : Cli) (hex : w.exited = false) :
    ClientPf.cliStep envs w c0 = { (clientPass w c0 (envs.find? (·.fd == c0.fd))).1 with
      clients := tabUpd (clientPass w c0 (envs.find? (·.fd == c0.fd))).2 c0.id w.clients } ∧
    (∀ x, (clientPass w c0 (envs.find? (·.fd == c0.fd))).2 = some x → x.id = c0.id ∧ x.fd = c0.fd) := by
  rcases cliStep_cases envs w c0 with ⟨hx, _⟩ | ⟨_, ext, hp, e⟩
  · rw [hex] at hx; cases hx
  · exact ⟨e, fun x hx => ⟨(hp.alive x hx).1, (hp.alive x hx).2.1⟩⟩

theorem cliStep_rel (envs envs' : List FdEnv) (w w' : W) (c c' : Cli)
    (h : CRel F DRL SR als w w') (ht : L2 (RecRel F) w.clients w'.clients) (hc : RecRel F c c')
    (hp : w.exited = false → PassOut F DRL SR als (clientPass w c (envs.find? (·.fd == c.fd))) (clientPass w' c' (envs'.find? (·.fd == c'.fd)))) :
    CRel F DRL SR als (ClientPf.cliStep envs w c) (ClientPf.cliStep envs' w' c') ∧
    L2 (RecRel F) (ClientPf.cliStep envs w c).clients (ClientPf.cliStep envs' w' c').clients := by
  cases hex : w.exited with
  | true =>
    unfold ClientPf.cliStep
    rw [h.exited, hex, if_pos rfl, if_pos rfl]
    exact ⟨h, ht⟩
  | false =>
    rw [(cliStep_tab envs w c hex).1, (cliStep_tab envs' w' c' (h.exited.trans hex)).1]
    obtain ⟨g1, g2⟩ := hp hex
    refine ⟨g1.setClients _ _, ?_⟩
    show L2 _ (tabUpd _ c.id w.clients) (tabUpd _ c'.id w'.clients)
    rcases g2 with ⟨e1, e2⟩ | ⟨x, x', e1, e2, hx⟩
    · rw [e1, e2]
      exact L2.filter _ _ ht (fun a b hab => by rw [hab.id, hc.id])
    · rw [e1, e2]
      refine L2.map _ _ ht (fun a b hab => ?_)
      rw [hab.id, hc.id]
      split
      · exact hx
      · exact hab

/-- **a stretch of the loop served identically in both runs**: clients on descriptors outside `F`, with the same events in both
    pass inputs, whose request lines need nothing more of the devices than the relation gives -/
theorem foldl_cliStep_rel (hSR : ∀ s s' x, SR s s' → SR (x :: s) (x :: s')) (envs envs' : List FdEnv) (l : List Cli)
    (hl : ∀ c ∈ l, F c.fd = false ∧ envs'.find? (·.fd == c.fd) = envs.find? (·.fd == c.fd) ∧
      ∀ x ∈ turnLines c (envs.find? (·.fd == c.fd)), LineDevsOK DRL als x) :
    ∀ (w w' : W), CRel F DRL SR als w w' → L2 (RecRel F) w.clients w'.clients →
      CRel F DRL SR als (l.foldl (ClientPf.cliStep envs) w) (l.foldl (ClientPf.cliStep envs') w') ∧
      L2 (RecRel F) (l.foldl (ClientPf.cliStep envs) w).clients (l.foldl (ClientPf.cliStep envs') w').clients := by
  induction l with
  | nil => intro w w' h ht; exact ⟨h, ht⟩
  | cons c r ih =>
    intro w w' h ht
    rw [List.foldl_cons, List.foldl_cons]
    obtain ⟨h1, h2, h3⟩ := hl c (by simp)
    obtain ⟨g1, g2⟩ := cliStep_rel envs envs' w w' c c h ht (RecRel.refl F c) (fun _ => by
      rw [h2]; exact clientPass_rel_eq hSR w w' c _ h h1 h3)
    exact ih (fun x hx => hl x (by simp [hx])) _ _ g1 g2

theorem L2.split {α β : Type} {R : α → β → Prop} : ∀ (a : List α) (x : α) (b : List α) (l' : List β), L2 R (a ++ x :: b) l' →
    ∃ a' x' b', l' = a' ++ x' :: b' ∧ L2 R a a' ∧ R x x' ∧ L2 R b b' := by
  intro a
  induction a with
  | nil =>
    intro x b l' h
    cases h with
    | cons hx hb => exact ⟨[], _, _, rfl, .nil, hx, hb⟩
  | cons y a ih =>
    intro x b l' h
    cases h with
    | cons hy hr =>
      obtain ⟨a', x', b', e, h1, h2, h3⟩ := ih x b _ hr
      exact ⟨_ :: a', x', b', by rw [e]; rfl, .cons hy h1, h2, h3⟩

theorem L2.eq_of_off {l l' : List Cli} (h : L2 (RecRel F) l l') (hF : ∀ c ∈ l, F c.fd = false) : l' = l := by
  induction h with
  | nil => rfl
  | cons hab _ ih =>
    rw [hab.eq (hF _ (by simp)), ih (fun c hc => hF c (by simp [hc]))]

/-! ### tables that agree on the clients outside `F` only; clients of `F` inert -/

/-- the table entry is on a descriptor outside `F` -/
def nonF (F : Nat → Bool) (c : Cli) : Bool := !F c.fd

/-- `nonF` of the entry written back for `id` is `b`, as it is of every entry of `T` with that id: the write-back does not change
    which positions pass the filter -/
theorem nonF_tabUpd {b : Bool} (c : Cli) (id : Nat) (T : List Cli) (hT : ∀ x ∈ T, x.id = id → nonF F x = b) (hc : nonF F c = b) :
    ∀ x ∈ T, (nonF F ∘ fun x => if x.id == id then c else x) x = nonF F x := by
  intro x hx
  by_cases hy : x.id = id
  · simp [hy, hc, hT x hx hy]
  · simp [hy]

theorem filter_tabUpd_foreign (o : Option Cli) (id : Nat) (T : List Cli) (hT : ∀ x ∈ T, x.id = id → F x.fd = true)
    (ho : ∀ x, o = some x → F x.fd = true) : (tabUpd o id T).filter (nonF F) = T.filter (nonF F) := by
  have hT' : ∀ x ∈ T, nonF F x = true → x.id ≠ id := fun x hx hn hy => by simp [nonF, hT x hx hy] at hn
  cases o with
  | none =>
    show (T.filter _).filter _ = _
    rw [List.filter_filter]
    exact List.filter_congr fun x hx => by
      cases hn : nonF F x with
      | false => rfl
      | true => simp [hT' x hx hn]
  | some c =>
    show (T.map _).filter _ = _
    rw [List.filter_map, List.filter_congr (nonF_tabUpd (b := false) c id T (fun x hx hy => by simp [nonF, hT x hx hy]) (by simp [nonF, ho c rfl]))]
    conv => rhs; rw [← List.map_id (T.filter (nonF F))]
    exact List.map_congr_left fun x hx => by
      obtain ⟨hx, hn⟩ := List.mem_filter.mp hx
      simp [hT' x hx hn]

theorem filter_tabUpd_tracked (o : Option Cli) (id : Nat) (T : List Cli) (hT : ∀ x ∈ T, x.id = id → F x.fd = false)
    (ho : ∀ x, o = some x → F x.fd = false) : (tabUpd o id T).filter (nonF F) = tabUpd o id (T.filter (nonF F)) := by
  cases o with
  | none =>
    show (T.filter _).filter _ = (T.filter _).filter _
    rw [List.filter_filter, List.filter_filter]
    exact List.filter_congr fun x _ => Bool.and_comm _ _
  | some c =>
    show (T.map _).filter _ = (T.filter _).map _
    rw [List.filter_map, List.filter_congr (nonF_tabUpd (b := true) c id T (fun x hx hy => by simp [nonF, hT x hx hy]) (by simp [nonF, ho c rfl]))]

/-- the two lists of clients to be served, merged: a client outside `F` is served in both runs (`both`), a client of `F` in
    one run only -/
inductive Merge (F : Nat → Bool) : List Cli → List Cli → Prop
  | nil : Merge F [] []
  | both {c : Cli} {l l' : List Cli} : F c.fd = false → Merge F l l' → Merge F (c :: l) (c :: l')
  | left {c : Cli} {l l' : List Cli} : F c.fd = true → Merge F l l' → Merge F (c :: l) l'
  | right {c' : Cli} {l l' : List Cli} : F c'.fd = true → Merge F l l' → Merge F l (c' :: l')

theorem merge_of_filter : ∀ (l l' : List Cli), l.filter (nonF F) = l'.filter (nonF F) → Merge F l l' := by
  intro l
  induction l with
  | nil =>
    intro l'
    induction l' with
    | nil => intro _; exact .nil
    | cons c' r' ih' =>
      intro h
      rw [List.filter_cons] at h
      split at h
      · simp at h
      · rename_i hc
        exact .right (by simpa [nonF] using hc) (ih' h)
  | cons c r ih =>
    intro l' h
    by_cases hc : F c.fd = true
    · rw [List.filter_cons, show nonF F c = false by simp [nonF, hc]] at h
      exact .left hc (ih l' h)
    · have hc' : F c.fd = false := by simpa using hc
      rw [List.filter_cons, show nonF F c = true by simp [nonF, hc']] at h
      simp only [↓reduceIte] at h
      induction l' with
      | nil => simp at h
      | cons c' r' ih' =>
        rw [List.filter_cons] at h
        split at h
        · simp only [List.cons.injEq] at h
          obtain ⟨rfl, h2⟩ := h
          exact .both hc' (ih r' h2)
        · rename_i hn
          exact .right (by simpa [nonF] using hn) (ih' h)

/-- the table records of the clients still to be served sit on those clients' descriptors -/
def FdOf (T L : List Cli) : Prop := ∀ x ∈ T, ∀ c ∈ L, x.id = c.id → x.fd = c.fd

theorem FdOf.step {T L : List Cli} {c0 : Cli} {o : Option Cli} (h : FdOf T (c0 :: L)) (hnd : ((c0 :: L).map (·.id)).Nodup)
    (ho : ∀ x, o = some x → x.id = c0.id ∧ x.fd = c0.fd) : FdOf (tabUpd o c0.id T) L := by
  rw [List.map_cons, List.nodup_cons] at hnd
  intro x' hx' c hc hid
  rcases (mem_tabUpd o c0.id T x').mp hx' with ⟨hx, _⟩ | ⟨hx1, _⟩
  · exact h x' hx c (by simp [hc]) hid
  · -- the record returned has the id of `c0`, which no client still to be served has
    exfalso
    apply hnd.1
    rw [← (ho x' hx1).1, hid]
    exact List.mem_map.mpr ⟨c, hc, rfl⟩

theorem FdOf.tail {T L : List Cli} {c0 : Cli} (h : FdOf T (c0 :: L)) : FdOf T L :=
  fun x hx c hc => h x hx c (by simp [hc])

theorem cliStep_inert (envs : List FdEnv) (w : W) (c : Cli) (l : List Cli) (hc : F c.fd = true) (hin : Inert envs c)
    (hj : FdOf w.clients (c :: l)) (hnd : ((c :: l).map (·.id)).Nodup) :
    ∃ w1 T, ClientPf.cliStep envs w c = { w1 with clients := T } ∧ SelfW w c.fd w1 ∧
      T.filter (nonF F) = w.clients.filter (nonF F) ∧ FdOf T l := by
  by_cases hex : w.exited = true
  · exact ⟨w, w.clients, by unfold ClientPf.cliStep; rw [if_pos hex], SelfW.refl w c.fd, rfl, hj.tail⟩
  · obtain ⟨t1, t2⟩ := cliStep_tab envs w c (by simpa using hex)
    exact ⟨_, _, t1, clientPass_inert w c _ hin.1 hin.2.1 hin.2.2,
      filter_tabUpd_foreign _ _ _ (fun x hx hid => by rw [hj x hx c (by simp) hid]; exact hc) (fun x hx => by rw [(t2 x hx).2]; exact hc),
      hj.step hnd t2⟩

/-- **the loop of `cli_post_poll` in both runs, general tables.**  The lists served are merged (`Merge`): a client outside `F` is
    in both lists with the same record, has the same events in both pass inputs, and its request lines need nothing more of
    the devices than the relation gives; a client of `F` is in one list (or, unrelated, in both) and is inert.  Then the
    worlds stay related and the tables still agree on the clients outside `F`. -/
theorem foldl_merge (hSR : ∀ s s' x, SR s s' → SR (x :: s) (x :: s')) (envs envs' : List FdEnv) :
    ∀ (L L' : List Cli), Merge F L L' → (L.map (·.id)).Nodup → (L'.map (·.id)).Nodup →
    (∀ c ∈ L, F c.fd = false → envs'.find? (·.fd == c.fd) = envs.find? (·.fd == c.fd) ∧
      ∀ x ∈ turnLines c (envs.find? (·.fd == c.fd)), LineDevsOK DRL als x) →
    (∀ c ∈ L, F c.fd = true → Inert envs c) → (∀ c ∈ L', F c.fd = true → Inert envs' c) →
    ∀ (w w' : W), CRel F DRL SR als w w' → w'.clients.filter (nonF F) = w.clients.filter (nonF F) →
      FdOf w.clients L → FdOf w'.clients L' →
      CRel F DRL SR als (L.foldl (ClientPf.cliStep envs) w) (L'.foldl (ClientPf.cliStep envs') w') ∧
      (L'.foldl (ClientPf.cliStep envs') w').clients.filter (nonF F) = (L.foldl (ClientPf.cliStep envs) w).clients.filter (nonF F) := by
  intro L L' hm
  induction hm with
  | nil => intro _ _ _ _ _ w w' h ht _ _; exact ⟨h, ht⟩
  | @both c l l' hc _ ih =>
    intro hnd hnd' hb hl hr w w' h ht hj hj'
    rw [List.foldl_cons, List.foldl_cons]
    have hnd2 := hnd; have hnd2' := hnd'
    rw [List.map_cons, List.nodup_cons] at hnd2 hnd2'
    by_cases hex : w.exited = true
    · have hex' : w'.exited = true := by rw [h.exited]; exact hex
      have e1 : ClientPf.cliStep envs w c = w := by unfold ClientPf.cliStep; simp [hex]
      have e2 : ClientPf.cliStep envs' w' c = w' := by unfold ClientPf.cliStep; simp [hex']
      rw [e1, e2]
      exact ih hnd2.2 hnd2'.2 (fun x hx => hb x (by simp [hx])) (fun x hx => hl x (by simp [hx])) (fun x hx => hr x (by simp [hx]))
        w w' h ht hj.tail hj'.tail
    · have hex0 : w.exited = false := by simpa using hex
      have hex0' : w'.exited = false := by rw [h.exited]; exact hex0
      obtain ⟨t1, t2⟩ := cliStep_tab envs w c hex0
      obtain ⟨t1', t2'⟩ := cliStep_tab envs' w' c hex0'
      obtain ⟨b1, b2⟩ := hb c (by simp) hc
      have hp : PassOut F DRL SR als (clientPass w c (envs.find? (·.fd == c.fd))) (clientPass w' c (envs'.find? (·.fd == c.fd))) := by
        rw [b1]; exact clientPass_rel_eq hSR w w' c (envs.find? (·.fd == c.fd)) h hc b2
      obtain ⟨p1, p2⟩ := hp
      have hoo : (clientPass w' c (envs'.find? (·.fd == c.fd))).2 = (clientPass w c (envs.find? (·.fd == c.fd))).2 := by
        rcases p2 with ⟨e1, e2⟩ | ⟨x, x', e1, e2, hx⟩
        · rw [e1, e2]
        · rw [e1, e2, hx.eq (by rw [(t2 x e1).2]; exact hc)]
      have hof : ∀ x, (clientPass w c (envs.find? (·.fd == c.fd))).2 = some x → F x.fd = false :=
        fun x hx => by rw [(t2 x hx).2]; exact hc
      refine ih hnd2.2 hnd2'.2 (fun x hx => hb x (by simp [hx])) (fun x hx => hl x (by simp [hx])) (fun x hx => hr x (by simp [hx]))
        _ _ ?_ ?_ ?_ ?_
      · rw [t1, t1']
        exact p1.setClients _ _
      · rw [t1, t1']
        show (tabUpd _ c.id w'.clients).filter (nonF F) = (tabUpd _ c.id w.clients).filter (nonF F)
        rw [hoo, filter_tabUpd_tracked _ c.id w'.clients (fun x hx hid => by rw [hj' x hx c (by simp) hid]; exact hc) hof,
          filter_tabUpd_tracked _ c.id w.clients (fun x hx hid => by rw [hj x hx c (by simp) hid]; exact hc) hof, ht]
      · rw [t1]; exact hj.step hnd t2
      · rw [t1']; exact hj'.step hnd' t2'
  | @left c l l' hc _ ih =>
    intro hnd hnd' hb hl hr w w' h ht hj hj'
    obtain ⟨w1, T, e, hs, ht1, hj1⟩ := cliStep_inert envs w c l hc (hl c (by simp) hc) hj hnd
    rw [List.foldl_cons, e]
    exact ih (List.nodup_cons.mp hnd).2 hnd' (fun x hx => hb x (by simp [hx])) (fun x hx => hl x (by simp [hx])) hr _ w'
      ((h.selfWL hs hc).setClients _ _) (ht.trans ht1.symm) hj1 hj'
  | @right c l l' hc _ ih =>
    intro hnd hnd' hb hl hr w w' h ht hj hj'
    obtain ⟨w1, T, e, hs, ht1, hj1⟩ := cliStep_inert envs' w' c l' hc (hr c (by simp) hc) hj' hnd'
    rw [List.foldl_cons, e]
    exact ih hnd (List.nodup_cons.mp hnd').2 hb hl (fun x hx => hr x (by simp [hx])) w _
      ((h.selfWR hs hc).setClients _ _) (ht1.trans ht) hj hj1

theorem lookup_envs (envs : List FdEnv) (fd : Nat) :
    (envs.map fun (e : FdEnv) => (e.fd, e.cap)).lookup fd = (envs.find? (·.fd == fd)).map (·.cap) := by
  induction envs with
  | nil => rfl
  | cons e r ih =>
    rw [List.map_cons, List.lookup_cons, List.find?_cons]
    by_cases h : e.fd = fd
    · have h1 : (fd == e.fd) = true := by simpa using h.symm
      have h2 : (e.fd == fd) = true := by simpa using h
      simp [h1, h2]
    · have h1 : (fd == e.fd) = false := by simpa using fun x => h x.symm
      have h2 : (e.fd == fd) = false := by simpa using h
      simp only [h1, h2, ih]

theorem capOf_envs (w : W) (envs : List FdEnv) (ss : List Sys) (fd : Nat) :
    capOf { w with sys := ss, caps := envs.map fun (e : FdEnv) => (e.fd, e.cap) } fd = ((envs.find? (·.fd == fd)).map (·.cap)).getD 0 := by
  unfold capOf
  dsimp only
  rw [lookup_envs]

/-- what the `accept` step of `cli_post_poll` adds: table entries, the increments of the id counter and of the `accept` counter,
    the call it logs.  (`cliAccept_shape` says what the step can do; as a function of the verdict `acc` it is the same in two runs
    with the same verdict and counters, and the increments can be read off.) -/
def accPlan (w : W) (acc : Nat) : List Cli × Nat × Nat × List Sys :=
  if acc == 1 then ([ClientPf.newClient w], 1, 1, [Sys.accept (1000 + w.nacc : Nat)])
  else if acc == 2 then ([], 1, 0, [Sys.accept (-1)]) else ([], 0, 0, [])

theorem cliAccept_plan (w : W) (acc : Nat) : ClientPf.cliAccept w acc =
    { w with clients := w.clients ++ (accPlan w acc).1, nextId := w.nextId + (accPlan w acc).2.1,
             nacc := w.nacc + (accPlan w acc).2.2.1, sys := w.sys ++ (accPlan w acc).2.2.2 } := by
  unfold ClientPf.cliAccept accPlan
  by_cases c1 : (acc == 1) = true
  · rw [if_pos c1, if_pos c1]
  rw [if_neg c1, if_neg c1]
  by_cases c2 : (acc == 2) = true
  · rw [if_pos c2, if_pos c2]; simp
  · rw [if_neg c2, if_neg c2]; simp

theorem accPlan_spec (w : W) (acc : Nat) :
    (∀ c, c ∈ (accPlan w acc).1 ↔ acc = 1 ∧ c = ClientPf.newClient w) ∧
    (accPlan w acc).2.1 = (if acc == 1 || acc == 2 then 1 else 0) ∧ (accPlan w acc).2.2.1 = (if acc == 1 then 1 else 0) := by
  unfold accPlan
  by_cases c1 : acc = 1
  · subst c1; simp
  · by_cases c2 : acc = 2
    · subst c2; simp
    · simp [c1, c2]

theorem cliAccept_rel {F : Nat → Bool} {DRL : Devs → Devs → Prop} {SR : Store → Store → Prop} {als : List (Name × List Name)}
    {v v' : W} (h : CRel F DRL SR als v v') (hn : v'.nextId = v.nextId) (hk : v'.nacc = v.nacc) (acc : Nat) :
    accPlan v' acc = accPlan v acc ∧ CRel F DRL SR als (ClientPf.cliAccept v acc) (ClientPf.cliAccept v' acc) := by
  have e : accPlan v' acc = accPlan v acc := by
    unfold accPlan ClientPf.newClient
    rw [hn, hk, h.cfg]
  refine ⟨e, ?_⟩
  rw [cliAccept_plan, cliAccept_plan, e]
  exact ⟨h.aliases, h.cfg, h.specs, h.alNext, h.exited, h.devs, h.store, h.caps, by
    show (v'.sys ++ _).filter (offF F) = (v.sys ++ _).filter (offF F)
    rw [List.filter_append, List.filter_append, h.sys]⟩

/-- the clients served in the pass `p` from world `w`: the table, and the client accepted in this pass
    (`(cliStart w p.acc p.envs).clients`) -/
def servedIn (w : W) (p : PassIn) : List Cli :=
  (ClientPf.cliAccept { w with sys := [], caps := p.envs.map fun (e : FdEnv) => (e.fd, e.cap) } p.acc).clients

theorem mem_servedIn {w : W} {p : PassIn} {c : Cli} :
    c ∈ servedIn w p ↔ c ∈ w.clients ∨ (p.acc = 1 ∧ c = ClientPf.newClient w) := by
  unfold servedIn
  rw [cliAccept_plan]
  exact List.mem_append.trans (or_congr Iff.rfl ((accPlan_spec _ p.acc).1 c))

theorem cliPostPoll_ctrs (w : W) (acc : Nat) (envs : List FdEnv) :
    ctrs (cliPostPoll w acc envs) =
      (w.nextId + (if acc == 1 || acc == 2 then 1 else 0), w.nacc + (if acc == 1 then 1 else 0), w.nsock, w.npair, w.nfork, w.tmo,
        w.pendingX) := by
  rw [cliPostPoll_induct (fun u => ctrs u = ctrs (cliStart w acc envs)) w acc envs rfl
    (fun u hu c0 _ => (cliStep_ctrs envs u c0).trans hu), cliStart, cliAccept_plan]
  obtain ⟨_, e1, e2⟩ := accPlan_spec { w with sys := [], caps := envs.map fun (e : FdEnv) => (e.fd, e.cap) } acc
  show (w.nextId + _, w.nacc + _, w.nsock, w.npair, w.nfork, w.tmo, w.pendingX) = _
  rw [e1, e2]

theorem cliPostPoll_nacc (w : W) (acc : Nat) (envs : List FdEnv) :
    (cliPostPoll w acc envs).nacc = w.nacc + (if acc == 1 then 1 else 0) := congrArg (·.2.1) (cliPostPoll_ctrs w acc envs)

theorem cliPostPoll_ctrs_eq (w w' : W) (acc : Nat) (envs envs' : List FdEnv) (h : ctrs w' = ctrs w) :
    ctrs (cliPostPoll w' acc envs') = ctrs (cliPostPoll w acc envs) := by
  simp only [ctrs, Prod.mk.injEq] at h
  obtain ⟨h1, h2, h3, h4, h5, h6, h7⟩ := h
  rw [cliPostPoll_ctrs, cliPostPoll_ctrs, h1, h2, h3, h4, h5, h6, h7]

theorem fdOf_self {w : W} (h : IdsFresh w) : FdOf w.clients w.clients :=
  fun x hx c hc hid => by rw [h.unique x hx c hc hid]

/-- **The start of `cli_post_poll` in both runs** (log and capacities reset, then `accept`): the worlds agree on what the client
    phase reads, the capacities of the first are the reported ones, and both tables get the same entries `new` appended (nothing,
    or the new client). -/
theorem cliStart_rel (w w' : W) (p p' : PassIn)
    (hcfg : w'.cfg = w.cfg) (hspecs : w'.specs = w.specs) (halNext : w'.alNext = w.alNext) (hexited : w'.exited = w.exited)
    (hdevs : DRL w.devs w'.devs) (hstore : SR w.store w'.store) (hnextId : w'.nextId = w.nextId) (hnacc : w'.nacc = w.nacc)
    (hacc : p'.acc = p.acc) (hevs : ∀ fd, F fd = false → p'.envs.find? (·.fd == fd) = p.envs.find? (·.fd == fd)) :
    CRel F DRL SR w.cfg.aliases (cliStart w p.acc p.envs) (cliStart w' p'.acc p'.envs) ∧
    (∀ fd, capOf (cliStart w p.acc p.envs) fd = ((p.envs.find? (·.fd == fd)).map (·.cap)).getD 0) ∧
    ∃ new, (∀ c ∈ new, c = ClientPf.newClient w) ∧ (cliStart w p.acc p.envs).clients = w.clients ++ new ∧
      (cliStart w' p'.acc p'.envs).clients = w'.clients ++ new := by
  have hv : CRel F DRL SR w.cfg.aliases
      { w with sys := [], caps := p.envs.map fun (e : FdEnv) => (e.fd, e.cap) }
      { w' with sys := [], caps := p'.envs.map fun (e : FdEnv) => (e.fd, e.cap) } := by
    refine ⟨rfl, hcfg, hspecs, halNext, hexited, hdevs, hstore, fun fd hfd => ?_, rfl⟩
    rw [capOf_envs, capOf_envs, hevs fd hfd]
  obtain ⟨ea, a1⟩ := cliAccept_rel hv hnextId hnacc p.acc
  rw [hacc]
  refine ⟨a1, fun fd => ?_, _, fun c hc => (((accPlan_spec _ p.acc).1 c).mp hc).2, ?_, ?_⟩
  · rw [cliStart, cliAccept_plan]; exact capOf_envs w p.envs [] fd
  · rw [cliStart, cliAccept_plan]; rfl
  · rw [cliStart, cliAccept_plan, ea]; rfl

/-- **`cli_post_poll` in both runs, general tables**: the worlds agree (up to `DRL`, `SR`) on what the client phase reads; the
    tables agree on the clients outside `F`; the same `accept` verdict; the same events outside `F`; a client accepted in this
    pass is outside `F`; the lines of the clients outside `F` need no more of the devices than `DRL` gives; the clients of
    `F` are inert; the id discipline holds in both worlds -/
theorem cliPostPoll_merge (hSR : ∀ s s' x, SR s s' → SR (x :: s) (x :: s')) (w w' : W) (p p' : PassIn)
    (hcfg : w'.cfg = w.cfg) (hspecs : w'.specs = w.specs) (halNext : w'.alNext = w.alNext) (hexited : w'.exited = w.exited)
    (hdevs : DRL w.devs w'.devs) (hstore : SR w.store w'.store) (hnextId : w'.nextId = w.nextId) (hnacc : w'.nacc = w.nacc)
    (htab : w'.clients.filter (nonF F) = w.clients.filter (nonF F))
    (hacc : p'.acc = p.acc) (hevs : ∀ fd, F fd = false → p'.envs.find? (·.fd == fd) = p.envs.find? (·.fd == fd))
    (hnewfd : F (1000 + w.nacc) = false)
    (hlines : ∀ c ∈ servedIn w p, F c.fd = false → ∀ l ∈ turnLines c (p.envs.find? (·.fd == c.fd)), LineDevsOK DRL w.cfg.aliases l)
    (hinert : ∀ c ∈ w.clients, F c.fd = true → Inert p.envs c) (hinert' : ∀ c ∈ w'.clients, F c.fd = true → Inert p'.envs c)
    (hids : IdsFresh w) (hids' : IdsFresh w') :
    CRel F DRL SR w.cfg.aliases (cliPostPoll w p.acc p.envs) (cliPostPoll w' p'.acc p'.envs) ∧
    (cliPostPoll w' p'.acc p'.envs).clients.filter (nonF F) = (cliPostPoll w p.acc p.envs).clients.filter (nonF F) := by
  obtain ⟨a1, _, new, hnew, e, e'⟩ := cliStart_rel (F := F) w w' p p' hcfg hspecs halNext hexited hdevs hstore hnextId hnacc hacc hevs
  have hia : IdsFresh (cliStart w p.acc p.envs) := cliAccept_ids _ _ (hids.congr rfl rfl rfl)
  have hia' : IdsFresh (cliStart w' p'.acc p'.envs) := cliAccept_ids _ _ (hids'.congr rfl rfl rfl)
  have a2 : (cliStart w' p'.acc p'.envs).clients.filter (nonF F) = (cliStart w p.acc p.envs).clients.filter (nonF F) := by
    rw [e, e', List.filter_append, List.filter_append, htab]
  -- a client served on a descriptor of `F` is not the one accepted in this pass
  have hin : ∀ c ∈ new, F c.fd = false := fun c hc => by rw [hnew c hc]; exact hnewfd
  have hold : ∀ (T : List Cli) c, c ∈ T ++ new → F c.fd = true → c ∈ T := fun T c hc hF =>
    (List.mem_append.mp hc).resolve_right fun h => by rw [hin c h] at hF; cases hF
  rw [ClientPf.cliPostPoll_eq, ClientPf.cliPostPoll_eq]
  exact foldl_merge hSR p.envs p'.envs _ _ (merge_of_filter _ _ a2.symm) hia.nodup hia'.nodup
    (fun c hcm hF => ⟨hevs c.fd hF, fun x hx => hlines c hcm hF x hx⟩)
    (fun c hcm hF => hinert c (hold _ c (e ▸ hcm) hF) hF)
    (fun c hcm hF => hinert' c (hold _ c (e' ▸ hcm) hF) hF)
    _ _ a1 a2 (fdOf_self hia) (fdOf_self hia')

end Loop

/-! ### the client phase does not change which descriptor a device sits on -/

theorem installDev_fd (com : Nat) (bn : List Bytes) (cid : Nat) (tele : Bool) (al : Nat) (nd : Bytes × Dev) :
    (Enq.installDev com bn cid tele al nd).2.fd = nd.2.fd := by
  unfold Enq.installDev
  rw [Enq.enqueue_eq]
  dsimp only
  split <;> rfl

theorem Enq_devfds {cid : Nat} {w w' : W} {cmd cmd' : Option CmdC} (h : Enq cid w w' cmd cmd') :
    w'.devs.map (·.2.fd) = w.devs.map (·.2.fd) := by
  rcases h with ⟨h1, _⟩ | ⟨_, k, args, com, bn, tele, _, _, _, _, h5⟩
  · rw [h1]
  · rw [h5, List.map_map]
    apply List.map_congr_left
    intro nd _
    exact installDev_fd com bn cid tele w.alNext nd

theorem cliStep_devfds (envs : List FdEnv) (w : W) (c0 : Cli) : (ClientPf.cliStep envs w c0).devs.map (·.2.fd) = w.devs.map (·.2.fd) := by
  rcases cliStep_does envs w c0 with ⟨_, e⟩ | ⟨_, ext, t⟩
  · rw [e]
  · cases hr : (clientPass w c0 (envs.find? (·.fd == c0.fd))).2 with
    | some c => exact Enq_devfds (t.alive c hr).inst.enq
    | none => rw [(t.gone hr).devs]

theorem cliPostPoll_devfds (w : W) (acc : Nat) (envs : List FdEnv) : (cliPostPoll w acc envs).devs.map (·.2.fd) = w.devs.map (·.2.fd) :=
  cliPostPoll_induct (fun u => u.devs.map (·.2.fd) = w.devs.map (·.2.fd)) w acc envs (by rw [cliStart, cliAccept_plan])
    (fun u hu c0 _ => (cliStep_devfds envs u c0).trans hu)

/-- tables that agree on the clients outside `F`, logs that agree on the descriptors outside `F`: a client outside `F` has the same
    record in both worlds, and the same bytes were written to its descriptor -/
theorem tracked_of_filter (F : Nat → Bool) {w w' : W} (htab : w'.clients.filter (nonF F) = w.clients.filter (nonF F))
    (hsys : w'.sys.filter (offF F) = w.sys.filter (offF F)) (hi' : IdsFresh w') :
    (∀ g c, cliRec w g = some c → F c.fd = false → cliRec w' g = some c) ∧
    (∀ fd, F fd = false → ClientPf.written w'.sys fd = ClientPf.written w.sys fd) := by
  refine ⟨fun g c hc hF => ?_, fun fd hfd => by rw [← written_offF F fd hfd w'.sys, ← written_offF F fd hfd w.sys, hsys]⟩
  obtain ⟨hm, hid⟩ := cliRec_mem hc
  have : c ∈ w.clients.filter (nonF F) := List.mem_filter.mpr ⟨hm, by simp [nonF, hF]⟩
  rw [← htab] at this
  exact hid ▸ hi'.cliRec_of_mem (List.mem_filter.mp this).1

/-! ### the client table through the device phase -/

theorem filter_map_keep (F : Nat → Bool) (G : Cli → Cli) (hG : ∀ x, (G x).fd = x.fd) (T : List Cli) :
    (T.map G).filter (nonF F) = (T.filter (nonF F)).map G := by
  induction T with
  | nil => rfl
  | cons x r ih =>
    rw [List.map_cons, List.filter_cons, List.filter_cons, ih]
    have : nonF F (G x) = nonF F x := by simp [nonF, hG x]
    rw [this]
    split <;> rfl

theorem cliRec_keep {w0 w1 : W} (hi0 : IdsFresh w0) {G : Cli → Cli} (eG : w1.clients = w0.clients.map G)
    (kG : ∀ x, (G x).id = x.id ∧ (G x).fd = x.fd) {c0 : Cli} (hc0 : c0 ∈ w0.clients) : cliRec w1 c0.id = some (G c0) := by
  unfold cliRec
  rw [eG, find_map_id G (fun x => (kG x).1) c0.id, show w0.clients.find? (·.id == c0.id) = some c0 from hi0.cliRec_of_mem hc0]
  rfl

/-- tables that agree on the clients outside `F`, each taken through a phase that maps it entry by entry, keeping ids and
    descriptors (`PhaseFrame.keep`): if every client outside `F` ends with the same record, the tables agree on the clients outside
    `F` again -/
theorem filter_after_keep (F : Nat → Bool) {w0 w0' w1 w1' : W} (hT : w0'.clients.filter (nonF F) = w0.clients.filter (nonF F))
    (hk : ∃ G : Cli → Cli, w1.clients = w0.clients.map G ∧ ∀ x, (G x).id = x.id ∧ (G x).fd = x.fd)
    (hk' : ∃ G : Cli → Cli, w1'.clients = w0'.clients.map G ∧ ∀ x, (G x).id = x.id ∧ (G x).fd = x.fd)
    (hi : IdsFresh w0) (hi' : IdsFresh w0') (hrec : ∀ c ∈ w0.clients, F c.fd = false → cliRec w1' c.id = cliRec w1 c.id) :
    w1'.clients.filter (nonF F) = w1.clients.filter (nonF F) := by
  obtain ⟨G, eG, kG⟩ := hk
  obtain ⟨G', eG', kG'⟩ := hk'
  rw [eG, eG', filter_map_keep F G (fun x => (kG x).2), filter_map_keep F G' (fun x => (kG' x).2), hT]
  apply List.map_congr_left
  intro c hcm
  obtain ⟨hcm0, hnF⟩ := List.mem_filter.mp hcm
  have hcm0' : c ∈ w0'.clients := (List.mem_filter.mp (hT ▸ hcm)).1
  have := hrec c hcm0 (by simpa [nonF] using hnF)
  rw [cliRec_keep hi eG kG hcm0, cliRec_keep hi' eG' kG' hcm0'] at this
  exact Option.some.inj this

end Pm.Daemon.TwoRun
