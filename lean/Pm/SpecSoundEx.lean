import Pm.SpecSound
import Pm.Generated.SpecsAll
import Pm.Daemon
/-! C17 soundness, continued: from the table of shipped specifications to the interpreter; the actions the daemon model
    creates satisfy the hypothesis on plugs; concrete runs on two shipped scripts (non-vacuity). -/
namespace Pm.Dev2.SpecSound
open Pm.SpecCheck Pm.Dev2 Pm.Dev2.Interp

/-! ## from `specOK` of a specification to `scriptOK` of one of its scripts -/

theorem lookup_mem {β} : ∀ (l : List (Nat × β)) (k : Nat) (v : β), l.lookup k = some v → (k, v) ∈ l
  | [], _, _, h => by simp [List.lookup] at h
  | (k', v') :: r, k, v, h => by
    by_cases hk : k = k'
    · subst hk
      simp [List.lookup] at h
      subst h; simp
    · have : (k == k') = false := by simpa using hk
      simp only [List.lookup, this] at h
      exact List.mem_cons_of_mem _ (lookup_mem r k v h)

theorem scriptOK_of_specOK (s : SpecD) (kind : Nat) (b : List SStmt) (h : specOK s = true)
    (hl : s.scripts.lookup kind = some b) : scriptOK kind b = true := by
  unfold specOK at h
  simp only [Bool.and_eq_true, List.all_eq_true] at h
  exact (h.2 (kind, b) (lookup_mem _ _ _ hl)).2

/-- **C17 carried to the interpreter**: a script of a specification that passes `specOK`, seen through the erasure, makes
    every configuration of every execution of an action of that kind safe -/
theorem spec_sound (s : SpecD) (hs : specOK s = true) (nsub : Nat → Nat) (kind : Nat) (script : List Stmt)
    (hl : s.scripts.lookup kind = some (eraseB nsub script)) (pl : Option (List Plug)) (hpl : KindPlugs kind pl)
    (d : Dev) (a : Action) (g : Option Nat) (h : Reach script pl d a g) : StmtSafe nsub kind d a g :=
  reach_safe nsub kind script pl (scriptOK_of_specOK s kind _ hs hl) hpl d a g h

/-! ## the actions `dev_enqueue_actions` creates carry the plugs their kind promises -/

theorem kindPlugs_single (kind : Nat) (p : Plug) : KindPlugs kind (some [p]) := by
  unfold KindPlugs CtxPlugs
  exact ⟨fun _ => ⟨p, rfl⟩, fun _ => ⟨p, [], rfl⟩⟩

theorem kindPlugs_none (k : Nat) (h1 : singletKinds.contains k = false) (h2 : plugArgKinds.contains k = false) :
    KindPlugs k none := by
  unfold KindPlugs CtxPlugs
  exact ⟨fun h => (by rw [h1] at h; cases h), fun h => (by rw [h2] at h; cases h)⟩

theorem kindPlugs_cons (k : Nat) (p : Plug) (l : List Plug) (h1 : singletKinds.contains k = false) :
    KindPlugs k (some (p :: l)) := by
  unfold KindPlugs CtxPlugs
  exact ⟨fun h => (by rw [h1] at h; cases h), fun _ => ⟨p, l, rfl⟩⟩

theorem kindPlugs_all (com k : Nat) (h : Pm.Daemon.allOf com = some k) : KindPlugs k none := by
  unfold Pm.Daemon.allOf at h
  split at h <;> first | (cases h; exact kindPlugs_none _ (by decide) (by decide)) | cases h

theorem kindPlugs_ranged (com k : Nat) (tp : List Plug) (htp : tp ≠ []) (h : Pm.Daemon.rangedOf com = some k) :
    KindPlugs k (some tp) := by
  cases tp with
  | nil => exact absurd rfl htp
  | cons p l =>
    unfold Pm.Daemon.rangedOf at h
    split at h <;> first | (cases h; exact kindPlugs_cons _ p l (by decide)) | cases h

/-- login, logout and ping actions (`_enqueue_actions`) run without plugs; their kinds promise none -/
theorem kindPlugs_login_ping : KindPlugs 0 none ∧ KindPlugs 1 none ∧ KindPlugs 6 none :=
  ⟨kindPlugs_none 0 (by decide) (by decide), kindPlugs_none 1 (by decide) (by decide), kindPlugs_none 6 (by decide) (by decide)⟩

theorem choose_acts {α} (P : α → Prop) (c1 c2 c3 : Bool) (S : List α) (A R : α) (hS : ∀ a ∈ S, P a)
    (hA : c2 = true → P A) (hR : c3 = true → P R) :
    ∀ a ∈ (if c1 then S else if c2 then [A] else if c3 then [R] else S), P a := by
  intro a ha
  cases c1 <;> cases c2 <;> cases c3 <;> simp at ha <;> first | exact hS a ha | (subst ha; first | exact hA rfl | exact hR rfl)

/-- every action the mirror of `dev_enqueue_actions` appends is a fresh action on the script of its kind, with plugs as
    `KindPlugs` demands: one plug for a singlet script, none for an `_all` script, the (non-empty) targeted plugs for a
    ranged one -/
theorem enqueue_kindPlugs (d : Dev) (com : Nat) (targets : List Bytes) (cid : Nat) (tele : Bool) (al : Nat) :
    ∃ new, (Pm.Daemon.enqueue d com targets cid tele al).1.acts = d.acts ++ new ∧
      ∀ a ∈ new, ∃ pl, a.exec = [bodyCtx ((d.scripts a.com).getD []) pl] ∧ KindPlugs a.com pl := by
  unfold Pm.Daemon.enqueue
  dsimp only
  generalize List.filter _ d.plugs = tp
  split
  · exact ⟨[], by simp, by simp⟩
  · rename_i hguard
    refine ⟨_, rfl, ?_⟩
    have htp : tp ≠ [] := by
      intro h0
      apply hguard
      rw [h0]; simp
    apply choose_acts
    · intro a ha
      split at ha
      · obtain ⟨p, _, rfl⟩ := List.mem_map.mp ha
        exact ⟨some [p], rfl, kindPlugs_single _ p⟩
      · cases ha
    · intro hall
      simp only [Bool.and_eq_true] at hall
      cases hk : Pm.Daemon.allOf com with
      | none => simp [hk] at hall
      | some k =>
        exact ⟨none, rfl, by simpa [Pm.Daemon.mkAction] using kindPlugs_all com k hk⟩
    · intro hr
      cases hk : Pm.Daemon.rangedOf com with
      | none => simp [hk] at hr
      | some k =>
        exact ⟨some _, rfl, by simpa [Pm.Daemon.mkAction] using kindPlugs_ranged com k _ htp hk⟩

/-! ## non-vacuity: two shipped scripts, and a concrete run -/
namespace Ex
open Pm.Generated.Specs

/-- `re_nsub` of the patterns of `t/etc/vpc.dev` as numbered here: 1, 2 the two prompts, 3 `([0-9]+): (OK|ERROR)\n`,
    4 `plug ([0-9]+): (ON|OFF|ERROR)\n` -/
def vpcNsub : Nat → Nat := fun p => if p == 3 || p == 4 then 2 else 0

/-- `script on_ranged` of vpc.dev as the interpreter holds it (`%s`, a `foreachplug` over the targeted plugs, `$1 $2`) -/
def vpcOnRanged : List Stmt :=
  [.send [111, 110, 32, 37, 115, 10], .foreachplug [.expect 3, .setresult 1 2 [(.success, 5)]], .expect 1, .expect 2]

/-- `script status_all` of vpc.dev -/
def vpcStatusAll : List Stmt :=
  [.send [115, 116, 97, 116, 32, 42, 10], .foreachplug [.expect 4, .setplugstate none 1 2 [(.on, 6), (.off, 7)]], .expect 1, .expect 2]

/-- their erasures are the entries of the generated table, which the real parser produced -/
theorem vpc_erasures : vpc.scripts.lookup 8 = some (eraseB vpcNsub vpcOnRanged) ∧
    vpc.scripts.lookup 3 = some (eraseB vpcNsub vpcStatusAll) := ⟨rfl, rfl⟩

/-- `spec_sound` on the ranged script of `vpc`, two targeted plugs: every reachable configuration is safe — the `%s` has
    its argument, the `$1 $2` of `setresult` are groups of the expect in the same loop body, the `foreachplug` runs in
    the outermost context -/
example (p q : Plug) (d : Dev) (a : Action) (g : Option Nat) (h : Reach vpcOnRanged (some [p, q]) d a g) :
    StmtSafe vpcNsub 8 d a g :=
  spec_sound vpc specOK_vpc vpcNsub 8 vpcOnRanged vpc_erasures.1 (some [p, q]) (kindPlugs_cons 8 p [q] (by decide)) d a g h

example (d : Dev) (a : Action) (g : Option Nat) (h : Reach vpcStatusAll none d a g) : StmtSafe vpcNsub 3 d a g :=
  spec_sound vpc specOK_vpc vpcNsub 3 vpcStatusAll vpc_erasures.2 none (kindPlugs_none 3 (by decide) (by decide)) d a g h

/-- `script on` of `etc/devices/cb-7050.dev`: literal plug names, `$1`/`$2`, and an `ifoff` block with `%s` inside.
    Patterns: 1 `!..(.)(.)00\r` (two groups), 2 `>\r`; 10… the on/off interpretations. -/
def cbNsub : Nat → Nat := fun p => if p == 1 then 2 else 0
def cbOn : List Stmt :=
  [.send [36, 48, 49, 54, 13], .expect 1,
   .setplugstate (some [48]) (-1) 2 [(.on, 10), (.off, 11)], .setplugstate (some [49]) (-1) 2 [(.on, 12), (.off, 13)],
   .setplugstate (some [50]) (-1) 2 [(.on, 14), (.off, 15)], .setplugstate (some [51]) (-1) 2 [(.on, 16), (.off, 17)],
   .setplugstate (some [52]) (-1) 1 [(.on, 18), (.off, 19)], .setplugstate (some [53]) (-1) 1 [(.on, 20), (.off, 21)],
   .setplugstate (some [54]) (-1) 1 [(.on, 22), (.off, 23)], .setplugstate (some [55]) (-1) 1 [(.off, 24)],
   .ifoff [.send [35, 48, 49, 65, 37, 115, 48, 49, 13], .expect 2, .delay 4000000,
           .send [35, 48, 49, 65, 37, 115, 48, 48, 13], .expect 2]]

theorem cbOn_erasure : cb7050.scripts.lookup 7 = some (eraseB cbNsub cbOn) := rfl

/-! a run of `cbOn` for plug `3` (node `n3`): the status query is sent and drains, the reply `!010800\r` arrives, the expect
    matches it — the action now stands at the first `setplugstate`, holding a match of pattern 1 -/
def p3 : Plug := ⟨[51], some [110, 51]⟩
def d0 : Dev :=
  { plugs := [p3], scripts := fun _ => none, timeout := 10000000, acts := [], toBuf := [], fromBuf := [], xmStr := none,
    xmOffs := [], xmResult := false, xmUsed := false, args := [(1, [⟨[110, 51], none, .unknown, .none⟩])], nextUid := 0,
    shortCircuitDelay := false }
def a0 : Action :=
  { uid := 1, com := 7, exec := [bodyCtx cbOn (some [p3])], clientId := 1, telemetry := false, errnum := .success,
    timeStamp := none, delayStart := 0, arglist := 1 }
def reply : Bytes := [33, 48, 49, 48, 56, 48, 48, 13]
def m1 : MR := mstep 0 d0 a0 ⟨[]⟩
def d1 : Dev := { m1.dev with toBuf := [], fromBuf := reply }
def m2 : MR := mstep 1 d1 m1.act ⟨[]⟩
def o2 : Oracle := ⟨[⟨1, reply, some [(0, 8), (3, 4), (4, 5)]⟩]⟩
def m3 : MR := mstep 1 m2.dev m2.act o2

theorem ne_nil_of_len {α} (l : List α) (h : 0 < l.length) : l ≠ [] := by
  intro h0; rw [h0] at h; cases h

theorem ex_reach : Reach cbOn (some [p3]) m3.dev m3.act (some 1) := by
  have r0 : Reach cbOn (some [p3]) d0 a0 none := Reach.start d0 a0 _ rfl rfl rfl rfl
  have r1 := Reach.step 0 d0 a0 ⟨[]⟩ none r0 (by simp [a0]) (Or.inr (by decide +kernel))
  have g1 : ghostNext 0 d0 a0 ⟨[]⟩ none = none := by decide +kernel
  rw [g1] at r1
  have r1' : Reach cbOn (some [p3]) d1 m1.act none := Reach.env _ d1 _ m1.act none r1 rfl (Or.inl rfl)
  have r2 := Reach.step 1 d1 m1.act ⟨[]⟩ none r1' (ne_nil_of_len _ (by decide +kernel)) (Or.inl (by decide +kernel))
  have g2 : ghostNext 1 d1 m1.act ⟨[]⟩ none = none := by decide +kernel
  rw [g2] at r2
  have r3 := Reach.step 1 m2.dev m2.act o2 none r2 (ne_nil_of_len _ (by decide +kernel)) (Or.inl (by decide +kernel))
  have g3 : ghostNext 1 m2.dev m2.act o2 none = some 1 := by decide +kernel
  rw [g3] at r3
  exact r3

/-- where the run stands: at the first `setplugstate` of the outermost block, with the plug of the action as context -/
theorem ex_stands : m3.act.exec =
    [{ block := cbOn, pos := 2, plugs := some [p3], plugItr := none, plugCopy := none, processing := false }] := rfl

/-- … and there `spec_sound` says: the match object holds a successful match — of pattern 1, two groups, made by this
    action — and the `$2` the statement is about to read is one of its groups and fits the match object -/
example : SetSafe cbNsub m3.dev (some 1) (some [p3]) (some [48]) (-1) 2 :=
  spec_sound cb7050 specOK_cb7050 cbNsub 7 cbOn cbOn_erasure (some [p3]) (kindPlugs_single 7 p3) _ _ _ ex_reach
    _ _ _ ex_stands rfl

/-- a hand-written script: `ifon` around a `%s`, `foreachplug`, `$1`/`$2` — and what the theorem gives for
    it, in one line each: an `_all` kind for the loop, a singlet kind for the `ifon` -/
def exAll : List Stmt := [.send [115, 10], .foreachplug [.expect 4, .setplugstate none 1 2 [(.on, 6)], .ifon [.send [37, 115, 10]]]]
def exSinglet : List Stmt := [.expect 4, .setplugstate none (-1) 2 [(.on, 6)], .ifon [.send [111, 102, 102, 32, 37, 115, 10], .expect 1]]

example (d : Dev) (a : Action) (g : Option Nat) (h : Reach exAll none d a g) : StmtSafe vpcNsub 3 d a g :=
  reach_safe vpcNsub 3 exAll none (by decide +kernel) (kindPlugs_none 3 (by decide) (by decide)) d a g h

example (p : Plug) (d : Dev) (a : Action) (g : Option Nat) (h : Reach exSinglet (some [p]) d a g) : StmtSafe vpcNsub 10 d a g :=
  reach_safe vpcNsub 10 exSinglet (some [p]) (by decide +kernel) (kindPlugs_single 10 p) d a g h

/-- the static rules reject the same scripts under the wrong kind: the `ifon` needs the single plug an `_all` script lacks;
    the `foreachplug` must not run inside a singlet script -/
example : scriptOK 3 (eraseB vpcNsub exSinglet) = false ∧ scriptOK 10 (eraseB vpcNsub exAll) = false := by decide +kernel

end Ex

#print axioms spec_sound
#print axioms enqueue_kindPlugs
#print axioms Ex.ex_reach

end Pm.Dev2.SpecSound
