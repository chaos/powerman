import Pm.QueryAnswer
/-! Concrete runs for the non-vacuity examples of the run-level part of `Props/C03`.

`Two` (`Pm/IsolationProof.lean`): one device `A`, one plug `1` ↦ node `a1`, a `status` script `send "st %s\n"; expect <pat 1>;
setplugstate $1 $2 on=<pat 2> off=<pat 3>`.
* `q1` … `q6`: pass 1 — client 1 connects; pass 2 — client 2 connects, client 1 sends `status a1` (accepted, arglist 1); pass 3 —
  client 2 sends `status a1` too (arglist 2), the device takes the bytes of client 1's action; pass 4 — the device says
  `1 on`, client 1's action writes `on` into arglist 1, client 1 is answered `on: a1`, client 2's action starts; pass 5 —
  the device takes its bytes; pass 6 — the device says `1 off`, client 2's action writes `off` into arglist 2, client 2 is
  answered `off: a1`.  Two queries on the same node at the same time, two different answers, each from its own action.
* `qLate`: instead of pass 4, nothing happens for nine seconds: both actions fail (time-out; aborted), no write at all.
* `B`: the same device with a `beacon` script that consists of a `setplugstate` alone (no `expect`).  After a `status a1`
  answered `on`, `beacon a1` is accepted and answered in one pass, `unknown: a1`: the device said nothing during the beacon
  query and the query makes no write (finding F38). -/
namespace Pm.Daemon.QRun.Ex
open Pm Pm.Client Pm.Daemon Pm.Daemon.QRun Pm.Daemon.E2E
open Pm.Dev2 (RxCall Stmt Dev)
open Pm.Dev2.QEv
open Pm.Daemon.Reply (ByteName)

def q1 : PassX := ⟨Isolation.Two.p1, []⟩
def q2 : PassX := ⟨Isolation.Two.p2, []⟩
def q3 : PassX := ⟨Isolation.Two.p3, []⟩
def q4 : PassX := ⟨Isolation.Two.p4, Isolation.Two.xs4⟩
def q5 : PassX := ⟨{ now := 5000, acc := 0, con := [0], soe := [0], envs := [{ fd := 2000, rev := 2, rk := 0, data := [], cap := 100 }] }, []⟩
def xs6 : List RxCall :=
  [{ pat := 1, subject := bstr "1 off\n", answer := some [(0, 6), (0, 1), (2, 5)] }, { pat := 2, subject := bstr "off", answer := none },
   { pat := 3, subject := bstr "off", answer := some [(0, 3)] }]
def q6 : PassX :=
  ⟨{ now := 6000, acc := 0, con := [0], soe := [0], envs := [{ fd := 2000, rev := 1, rk := 0, data := bstr "1 off\n", cap := 100 }] }, xs6⟩
def qLate : PassX := ⟨{ now := 9000000, acc := 0, con := [0], soe := [0], envs := [] }, []⟩

theorem inv0 : Inv Isolation.Two.w0 := inv_init Isolation.Two.w0 rfl (by intro nd hnd; simp [Isolation.Two.w0] at hnd; subst hnd; rfl) (by decide) (by decide)

/-- client 1 is connected and idle -/
def w1 : W := runX Isolation.Two.w0 [q1]
/-- client 1's record and command when the client phase of pass 2 is over -/
def c1 : Cli := (cliRec (cliPostPoll (feed w1 q2.rx) q2.p.acc q2.p.envs) 1).getD { id := 0, fd := 0 }
def k1 : CmdC := c1.cmd.getD { com := .temp, names := [], pending := 0, error := false }
def c4 : Cli := (cliRec (runX w1 (q2 :: ([q3] ++ [q4]))) 1).getD { id := 0, fd := 0 }

/-- Passes 1 to 4 as client 1 sees them, evaluated once: the start `w1`; the request accepted in pass `q2`; the run `q2, q3, q4`;
    the answer.  The history of client 1's arglist is one write, made in the turn of device `A` by client 1's `status` action —
    node `a1`, state `on`, from the captured text `on` of the match on the device's line `1 on`. -/
theorem run4 :
    (AliveX Isolation.Two.w0 [q1] ∧ ((cliRec w1 1).bind (·.cmd)).isNone = true) ∧
    ((cliRec (cliPostPoll (feed w1 q2.rx) q2.p.acc q2.p.envs) 1).isSome = true ∧ c1.cmd.isSome = true ∧
      (k1.com, k1.names, k1.pending, k1.error, k1.al) = (Com.status, [['a', '1']], 1, false, 1) ∧ ∀ n ∈ k1.names, ByteName n) ∧
    (AliveX w1 (q2 :: ([q3] ++ [q4])) ∧ ((cliRec (runX w1 (q2 :: [q3])) 1).bind (·.cmd)).map (·.al) = some k1.al) ∧
    (cliRec (runX w1 (q2 :: ([q3] ++ [q4]))) 1).isSome = true ∧ c4.cmd = none ∧
    hist w1 (q2 :: ([q3] ++ [q4])) k1.al =
      [{ dev := [65], cid := 1, al := 1, com := 2, plug := [49], node := [97, 49], kind := .state .on, text := bstr "on",
         subject := some (bstr "1 on\n") }] ∧
    c4.toBuf = bstr "001 2\r\npowerman> 302 on:      a1\r\n302 off:     \r\n302 unknown: \r\n103 Query complete\r\npowerman> " := by
  rw [ClientPf.bstr_chars, ClientPf.bstr_chars, ClientPf.bstr_chars]
  decide +kernel

theorem alive1 : AliveX Isolation.Two.w0 [q1] := run4.1.1
theorem inv1 : Inv w1 := runX_inv Isolation.Two.w0 _ inv0 alive1
theorem idle1 : ∀ c k, cliRec w1 1 = some c → c.cmd = some k → False := idle_of_isNone run4.1.2
theorem hc1 : cliRec (cliPostPoll (feed w1 q2.rx) q2.p.acc q2.p.envs) 1 = some c1 := eq_some_getD _ run4.2.1.1
theorem hk1 : c1.cmd = some k1 := eq_some_getD _ run4.2.1.2.1
theorem k1_is : (k1.com, k1.names, k1.pending, k1.error, k1.al) = (Com.status, [['a', '1']], 1, false, 1) := run4.2.1.2.2.1
theorem k1_bytes : ∀ n ∈ k1.names, ByteName n := run4.2.1.2.2.2
theorem alive4 : AliveX w1 (q2 :: ([q3] ++ [q4])) := run4.2.2.1.1
theorem busy3 : ∃ c k', cliRec (runX w1 (q2 :: [q3])) 1 = some c ∧ c.cmd = some k' ∧ k'.al = k1.al := busy_of_al run4.2.2.1.2
theorem hc4 : cliRec (runX w1 (q2 :: ([q3] ++ [q4]))) 1 = some c4 := eq_some_getD _ run4.2.2.2.1
theorem idle4 : c4.cmd = none := run4.2.2.2.2.1
theorem hist4 : hist w1 (q2 :: ([q3] ++ [q4])) k1.al =
    [{ dev := [65], cid := 1, al := 1, com := 2, plug := [49], node := [97, 49], kind := .state .on, text := bstr "on",
       subject := some (bstr "1 on\n") }] := run4.2.2.2.2.2.1
theorem buf4 : c4.toBuf = bstr "001 2\r\npowerman> 302 on:      a1\r\n302 off:     \r\n302 unknown: \r\n103 Query complete\r\npowerman> " :=
  run4.2.2.2.2.2.2

/-! ### client 2, whose query on the same node runs at the same time -/
def w2 : W := runX Isolation.Two.w0 [q1, q2]
def c2 : Cli := (cliRec (cliPostPoll (feed w2 q3.rx) q3.p.acc q3.p.envs) 2).getD { id := 0, fd := 0 }
def k2 : CmdC := c2.cmd.getD { com := .temp, names := [], pending := 0, error := false }
def c6 : Cli := (cliRec (runX w2 (q3 :: ([q4, q5] ++ [q6]))) 2).getD { id := 0, fd := 0 }

/-- Passes 1 to 6 as client 2 sees them, evaluated once.  All the writes of the run `q3 … q6`, in order: client 1's (arglist 1,
    `on`), then client 2's (arglist 2, `off`) — same node. -/
theorem run6 :
    (AliveX Isolation.Two.w0 [q1, q2] ∧ ((cliRec w2 2).bind (·.cmd)).isNone = true) ∧
    ((cliRec (cliPostPoll (feed w2 q3.rx) q3.p.acc q3.p.envs) 2).isSome = true ∧ c2.cmd.isSome = true ∧ ∀ n ∈ k2.names, ByteName n) ∧
    (AliveX w2 (q3 :: ([q4, q5] ++ [q6])) ∧ ((cliRec (runX w2 (q3 :: [q4, q5])) 2).bind (·.cmd)).map (·.al) = some k2.al) ∧
    (cliRec (runX w2 (q3 :: ([q4, q5] ++ [q6]))) 2).isSome = true ∧ c6.cmd = none ∧
    runEvX w2 (q3 :: ([q4, q5] ++ [q6])) =
      [{ dev := [65], cid := 1, al := 1, com := 2, plug := [49], node := [97, 49], kind := .state .on, text := bstr "on",
         subject := some (bstr "1 on\n") },
       { dev := [65], cid := 2, al := 2, com := 2, plug := [49], node := [97, 49], kind := .state .off, text := bstr "off",
         subject := some (bstr "1 off\n") }] ∧
    hist w2 (q3 :: ([q4, q5] ++ [q6])) k2.al =
      [{ dev := [65], cid := 2, al := 2, com := 2, plug := [49], node := [97, 49], kind := .state .off, text := bstr "off",
         subject := some (bstr "1 off\n") }] ∧
    c6.toBuf = bstr "001 2\r\npowerman> 302 on:      \r\n302 off:     a1\r\n302 unknown: \r\n103 Query complete\r\npowerman> " := by
  rw [ClientPf.bstr_chars, ClientPf.bstr_chars, ClientPf.bstr_chars, ClientPf.bstr_chars, ClientPf.bstr_chars]
  decide +kernel

theorem alive2 : AliveX Isolation.Two.w0 [q1, q2] := run6.1.1
theorem inv2 : Inv w2 := runX_inv Isolation.Two.w0 _ inv0 alive2
theorem idle2 : ∀ c k, cliRec w2 2 = some c → c.cmd = some k → False := idle_of_isNone run6.1.2
theorem hc2 : cliRec (cliPostPoll (feed w2 q3.rx) q3.p.acc q3.p.envs) 2 = some c2 := eq_some_getD _ run6.2.1.1
theorem hk2 : c2.cmd = some k2 := eq_some_getD _ run6.2.1.2.1
theorem k2_bytes : ∀ n ∈ k2.names, ByteName n := run6.2.1.2.2
theorem alive6 : AliveX w2 (q3 :: ([q4, q5] ++ [q6])) := run6.2.2.1.1
theorem busy5 : ∃ c k', cliRec (runX w2 (q3 :: [q4, q5])) 2 = some c ∧ c.cmd = some k' ∧ k'.al = k2.al := busy_of_al run6.2.2.1.2
theorem hc6 : cliRec (runX w2 (q3 :: ([q4, q5] ++ [q6]))) 2 = some c6 := eq_some_getD _ run6.2.2.2.1
theorem idle6 : c6.cmd = none := run6.2.2.2.2.1
theorem writes6 : (runEvX w2 (q3 :: ([q4, q5] ++ [q6]))).map (fun ev => (ev.cid, ev.al, ev.node, ev.kind, ev.text)) =
    [(1, 1, [97, 49], .state .on, bstr "on"), (2, 2, [97, 49], .state .off, bstr "off")] := by rw [run6.2.2.2.2.2.1]; rfl
theorem hist6 : (hist w2 (q3 :: ([q4, q5] ++ [q6])) k2.al).map (fun ev => (ev.cid, ev.al, ev.node, ev.kind, ev.text)) =
    [(2, 2, [97, 49], .state .off, bstr "off")] := by rw [run6.2.2.2.2.2.2.1]; rfl
theorem buf6 : c6.toBuf = bstr "001 2\r\npowerman> 302 on:      \r\n302 off:     a1\r\n302 unknown: \r\n103 Query complete\r\npowerman> " :=
  run6.2.2.2.2.2.2.2

/-! ### the device does not answer -/
def cL : Cli := (cliRec (runX w1 (q2 :: ([q3] ++ [qLate]))) 1).getD { id := 0, fd := 0 }

/-- the run `q2, q3, qLate` from `w1`, evaluated once -/
theorem runL :
    cL.toBuf = bstr ("001 2\r\npowerman> 308 A: action timed out waiting for expected response\r\n" ++
      "302 on:      \r\n302 off:     \r\n302 unknown: a1\r\n211 Query completed with errors\r\npowerman> ") ∧
    AliveX w1 (q2 :: ([q3] ++ [qLate])) ∧ (cliRec (runX w1 (q2 :: ([q3] ++ [qLate]))) 1).isSome = true ∧ cL.cmd = none ∧
    hist w1 (q2 :: ([q3] ++ [qLate])) k1.al = [] ∧ runFinsX w1 (q2 :: ([q3] ++ [qLate])) 1 = [([65], .expfail)] := by
  rw [ClientPf.bstr_append, ClientPf.bstr_chars, ClientPf.bstr_chars]
  decide +kernel

theorem aliveL : AliveX w1 (q2 :: ([q3] ++ [qLate])) := runL.2.1
theorem hcL : cliRec (runX w1 (q2 :: ([q3] ++ [qLate]))) 1 = some cL := eq_some_getD _ runL.2.2.1
theorem idleL : cL.cmd = none := runL.2.2.2.1
theorem histL : hist w1 (q2 :: ([q3] ++ [qLate])) k1.al = [] := runL.2.2.2.2.1
theorem finsL : runFinsX w1 (q2 :: ([q3] ++ [qLate])) 1 = [([65], .expfail)] := runL.2.2.2.2.2
theorem bufL : cL.toBuf = bstr ("001 2\r\npowerman> 308 A: action timed out waiting for expected response\r\n" ++
    "302 on:      \r\n302 off:     \r\n302 unknown: a1\r\n211 Query completed with errors\r\npowerman> ") := runL.1

/-! ### a `beacon` script without `expect` (finding F38): the text of the previous query's match is not used -/
namespace B
def scripts : Nat → Option (List Stmt) := fun k =>
  if k == 2 then some Isolation.Two.statScript else if k == 21 then some [.setplugstate none 1 2 [(.on, 2), (.off, 3)]] else none
def devB : Dev := { Isolation.Two.devA with scripts := scripts }
def w0 : W := { Isolation.Two.w0 with devs := [([65], devB)] }
def p2 : PassIn := { now := 2000, acc := 0, con := [0], soe := [0], envs := [{ fd := 1000, rev := 1, rk := 0, data := Isolation.Two.line, cap := 100 }] }
def p3 : PassIn := { now := 3000, acc := 0, con := [0], soe := [0], envs := [{ fd := 2000, rev := 2, rk := 0, data := [], cap := 100 }] }
/-- pass 5: client 1 sends `beacon a1`; nothing happens on the device's descriptor -/
def q5 : PassX :=
  ⟨{ now := 5000, acc := 0, con := [0], soe := [0], envs := [{ fd := 1000, rev := 1, rk := 0, data := bstr "beacon a1\n", cap := 100 }] },
   [{ pat := 2, subject := bstr "on", answer := some [(0, 2)] }]⟩
/-- the `status a1` of client 1 has been answered `on` -/
def w4 : W := runX w0 [q1, ⟨p2, []⟩, ⟨p3, []⟩, q4]
def c5 : Cli := (cliRec (cliPostPoll (feed w4 q5.rx) q5.p.acc q5.p.envs) 1).getD { id := 0, fd := 0 }
def k5 : CmdC := c5.cmd.getD { com := .temp, names := [], pending := 0, error := false }
def c6 : Cli := (cliRec (runX w4 [q5]) 1).getD { id := 0, fd := 0 }
theorem inv0 : Inv w0 := inv_init w0 rfl (by intro nd hnd; simp [w0] at hnd; subst hnd; rfl) (by decide) (by decide)

/-- The `status` query and the `beacon` query after it, evaluated once.  The beacon query makes no
    write (finding F38): the match object was recycled when the status action left the queue, so the `setplugstate` that opens the beacon
    script finds nothing to read.  The match register before the beacon query was accepted is empty; the device's input buffer
    is empty and stays empty; the pass brings no event for the device's descriptor. -/
theorem run :
    (AliveX w0 [q1, ⟨p2, []⟩, ⟨p3, []⟩, q4] ∧ ((cliRec w4 1).bind (·.cmd)).isNone = true) ∧
    ((cliRec (cliPostPoll (feed w4 q5.rx) q5.p.acc q5.p.envs) 1).isSome = true ∧ c5.cmd.isSome = true ∧
      (k5.com, k5.names, k5.al) = (Com.beacon, [['a', '1']], 2) ∧ ∀ n ∈ k5.names, ByteName n) ∧
    (AliveX w4 [q5] ∧ (cliRec (runX w4 [q5]) 1).isSome = true ∧ c6.cmd = none ∧ hist w4 [q5] k5.al = []) ∧
    ((w4.devs.map fun nd => (nd.2.xmStr, nd.2.xmUsed, nd.2.fromBuf)) = [(none, false, [])] ∧
      ((runX w4 [q5]).devs.map fun nd => nd.2.fromBuf) = [[]] ∧ q5.p.envs.find? (·.fd == 2000) = none) ∧
    c6.toBuf.drop c5.toBuf.length =
      bstr "302 on:      \r\n302 off:     \r\n302 unknown: a1\r\n103 Query complete\r\npowerman> " := by
  rw [ClientPf.bstr_chars]
  decide +kernel

theorem alive4 : AliveX w0 [q1, ⟨p2, []⟩, ⟨p3, []⟩, q4] := run.1.1
theorem inv4 : Inv w4 := runX_inv w0 _ inv0 alive4
theorem idle4 : ∀ c k, cliRec w4 1 = some c → c.cmd = some k → False := idle_of_isNone run.1.2
theorem hc5 : cliRec (cliPostPoll (feed w4 q5.rx) q5.p.acc q5.p.envs) 1 = some c5 := eq_some_getD _ run.2.1.1
theorem hk5 : c5.cmd = some k5 := eq_some_getD _ run.2.1.2.1
theorem k5_is : (k5.com, k5.names, k5.al) = (Com.beacon, [['a', '1']], 2) := run.2.1.2.2.1
theorem k5_bytes : ∀ n ∈ k5.names, ByteName n := run.2.1.2.2.2
theorem alive5 : AliveX w4 [q5] := run.2.2.1.1
theorem hc6 : cliRec (runX w4 [q5]) 1 = some c6 := eq_some_getD _ run.2.2.1.2.1
theorem idle6 : c6.cmd = none := run.2.2.1.2.2.1
theorem hist5 : hist w4 [q5] k5.al = [] := run.2.2.1.2.2.2
theorem stale : (w4.devs.map fun nd => (nd.2.xmStr, nd.2.xmUsed, nd.2.fromBuf)) = [(none, false, [])] ∧
    ((runX w4 [q5]).devs.map fun nd => nd.2.fromBuf) = [[]] ∧ q5.p.envs.find? (·.fd == 2000) = none := run.2.2.2.1
theorem buf6 : c6.toBuf.drop c5.toBuf.length =
    bstr "302 on:      \r\n302 off:     \r\n302 unknown: a1\r\n103 Query complete\r\npowerman> " := run.2.2.2.2
end B

end Pm.Daemon.QRun.Ex
