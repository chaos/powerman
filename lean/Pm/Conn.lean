/- two small stand-alone models: C07, the descriptor bookkeeping of `tcp_connect` in device_tcp.c (F6); C10, login comes first -/
namespace Pm.Conn

inductive CS where | notConnected | connecting | connected deriving DecidableEq, Repr
inductive Ans where | syncOk | inProgress | syncFail deriving DecidableEq, Repr

structure Dev where
  conn : CS
  fd : Option Nat          -- dev->fd (NO_FD = none); may name a descriptor the kernel no longer has open
  cur : Option Nat         -- tcp->cur as an index into the address list
  naddr : Nat
  opened : List Nat        -- descriptors the process really holds for this device
  nextFd : Nat
deriving DecidableEq, Repr

def advance (d : Dev) : Option Nat := match d.cur with
  | some i => if i + 1 < d.naddr then some (i + 1) else none
  | none => none

/-- `tcp_connect_one` over the remaining addresses.  `fixed = true`: as written in /repo (`dev->fd = NO_FD` after the `close`, and
    `tcp_connect` starts over at the first address); `fixed = false`: without these two assignments (F6).  The two `C07_…`
    statements are about `fixed = false`, `tryAddrs_good` is about `fixed = true`. -/
def tryAddrs (fixed : Bool) : Nat → Dev → List Ans → Dev
  | 0, d, _ => d
  | fuel + 1, d, anss =>
    match d.cur with
    | none => { d with conn := .notConnected }
    | some _ =>
      let fd := d.nextFd
      let d1 := { d with fd := some fd, opened := fd :: d.opened, nextFd := fd + 1 }       -- socket()
      match anss with
      | .syncOk :: _ => { d1 with conn := .connected }
      | .inProgress :: _ => d1
      | .syncFail :: rest =>                                                               -- close(dev->fd); return false
        let d2 := { d1 with opened := d1.opened.erase fd, fd := if fixed then none else d1.fd, cur := advance d1 }
        tryAddrs fixed fuel d2 rest
      | [] => d1

/-- `tcp_connect`: `none` = one of its two asserts fails -/
def tcpConnect (fixed : Bool) (d : Dev) (anss : List Ans) : Option Dev :=
  if d.conn ≠ .notConnected ∨ d.fd.isSome then none
  else
    let d0 := { d with conn := .connecting, cur := if fixed then (if d.naddr > 0 then some 0 else none) else d.cur }
    some (tryAddrs fixed (d.naddr + 1) d0 anss)

/-- the descriptor field is set exactly while the device is not NOT_CONNECTED, and it names a descriptor the process holds -/
def Good (d : Dev) : Prop := (d.fd = none ↔ d.conn = .notConnected) ∧ (∀ k, d.fd = some k → k ∈ d.opened)

def dev0 : Dev := { conn := .notConnected, fd := none, cur := some 0, naddr := 1, opened := [], nextFd := 3 }

/-- with `fixed = false`: after one synchronous failure the device is NOT_CONNECTED but still names descriptor 3,
    which the kernel has closed … -/
theorem C07_fd_state_counterexample :
    (tcpConnect false dev0 [.syncFail]).map (fun d => (d.conn, d.fd, d.opened)) = some (.notConnected, some 3, []) := by decide

/-- … and the next reconnect attempt trips `assert(dev->fd == NO_FD)` -/
theorem C07_reconnect_aborts :
    ((tcpConnect false dev0 [.syncFail]).bind fun d => tcpConnect false d [.inProgress]) = none := by decide

theorem tryAddrs_good : ∀ (fuel : Nat) (d : Dev) (anss : List Ans),
    d.conn = .connecting → d.fd = none → Good (tryAddrs true fuel d anss) ∨ (tryAddrs true fuel d anss).conn = .connecting ∧ (tryAddrs true fuel d anss).fd = none := by
  intro fuel
  induction fuel with
  | zero => intro d anss hc hf; exact Or.inr ⟨hc, hf⟩
  | succ n ih =>
    intro d anss hc hf
    simp only [tryAddrs]
    cases hcur : d.cur with
    | none => left; simp [Good, hf]
    | some i =>
      simp only
      cases anss with
      | nil => left; simp [Good, hc]
      | cons a rest =>
        cases a with
        | syncOk => left; simp [Good]
        | inProgress => left; simp [Good, hc]
        | syncFail => exact ih _ rest (by simp [hc]) (by simp)

/-! ## C10: login comes first.  Queue discipline only. -/
inductive Kind where | login | other deriving DecidableEq

structure Q where
  connected : Bool
  loggedIn : Bool
  acts : List Kind                 -- head runs

inductive Ev where
  | connect                        -- `_connect`/finish_connect success: login prepended
  | disconnect                     -- `_disconnect`: logged_in := false, stale login removed
  | enqueue                        -- client action or ping appended
  | headDone                       -- head action completes

def step (q : Q) : Ev → Q
  | .connect => if q.connected then q else { connected := true, loggedIn := false, acts := .login :: q.acts }
  | .disconnect => { connected := false, loggedIn := false, acts := match q.acts with | .login :: r => r | l => l }
  | .enqueue => { q with acts := q.acts ++ [.other] }
  | .headDone => if !q.connected then q else match q.acts with
      | .login :: r => { q with loggedIn := true, acts := r }
      | _ :: r => { q with acts := r }
      | [] => q

/-- whenever a connection is up and login has not completed on it, the action that may talk is the
    login action; and a login is never queued anywhere but at the head -/
def LoginFirst (q : Q) : Prop :=
  (q.connected = true ∧ q.loggedIn = false → q.acts.head? = some .login) ∧ (∀ k ∈ q.acts.tail, k = .other) ∧
  (q.connected = false ∨ q.loggedIn = true → ∀ k ∈ q.acts, k = .other)

/-- the queue in normal form: actions other than login only, behind a login exactly while a connection is up that has not
    logged in -/
def Shape (q : Q) : Prop :=
  ∃ r, (∀ k ∈ r, k = .other) ∧ q.acts = if q.connected = true ∧ q.loggedIn = false then .login :: r else r

theorem Shape.loginFirst {q : Q} : Shape q → LoginFirst q := by
  rintro ⟨r, hr, ha⟩
  unfold LoginFirst
  rw [ha]
  by_cases hc : q.connected = true ∧ q.loggedIn = false
  · rw [if_pos hc]
    exact ⟨fun _ => rfl, hr, fun h => by rcases h with h | h <;> simp [h] at hc⟩
  · rw [if_neg hc]
    exact ⟨fun h => absurd h hc, fun k hk => hr k (List.mem_of_mem_tail hk), fun _ => hr⟩

theorem others_cases {r : List Kind} (hr : ∀ k ∈ r, k = .other) : r = [] ∨ ∃ xs, r = .other :: xs ∧ ∀ k ∈ xs, k = .other := by
  cases r with
  | nil => exact .inl rfl
  | cons x xs => exact .inr ⟨xs, by rw [hr x (by simp)], fun k hk => hr k (by simp [hk])⟩

theorem step_shape (q : Q) (e : Ev) : Shape q → Shape (step q e) := by
  obtain ⟨c, l, a⟩ := q
  rintro ⟨r, hr, ha⟩
  have hr' : ∀ k ∈ r ++ [.other], k = .other := fun k hk => (List.mem_append.mp hk).elim (hr k) (by simp)
  by_cases hc : c = true ∧ l = false
  · obtain ⟨rfl, rfl⟩ := hc
    obtain rfl : a = .login :: r := ha
    cases e with
    | connect => exact ⟨r, hr, rfl⟩
    | disconnect => exact ⟨r, hr, rfl⟩
    | enqueue => exact ⟨r ++ [.other], hr', rfl⟩
    | headDone => exact ⟨r, hr, rfl⟩
  · obtain rfl : a = r := ha.trans (if_neg hc)
    cases e with
    | connect =>
      cases c
      · exact ⟨a, hr, rfl⟩
      · exact ⟨a, hr, (if_neg hc).symm⟩
    | enqueue => exact ⟨a ++ [.other], hr', (if_neg hc).symm⟩
    | disconnect => rcases others_cases hr with rfl | ⟨xs, rfl, -⟩ <;> exact ⟨_, hr, rfl⟩
    | headDone =>
      cases c
      · exact ⟨a, hr, (if_neg hc).symm⟩
      · obtain rfl : l = true := by simpa using hc
        rcases others_cases hr with rfl | ⟨xs, rfl, hxs⟩
        · exact ⟨[], hr, rfl⟩
        · exact ⟨xs, hxs, rfl⟩

theorem C10_login_first (evs : List Ev) : LoginFirst (evs.foldl step ⟨false, false, []⟩) := by
  have : ∀ q, Shape q → Shape (evs.foldl step q) := by
    induction evs with
    | nil => exact fun _ h => h
    | cons e es ih => exact fun q h => ih _ (step_shape q e h)
  exact (this _ ⟨[], nofun, rfl⟩).loginFirst
end Pm.Conn

