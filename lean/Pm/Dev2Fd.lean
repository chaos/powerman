import Pm.Dev2Login
import Pm.Dev2Clip
import Pm.Dev2Walk
/-! descriptor / child-process bookkeeping of the connection layer (`device.c:_connect/_disconnect/_reconnect/
    _handle_ready_device`, `device_tcp.c`, `device_pipe.c`) on the mirror `Pm/Dev2.lean`: helper lemmas for
    `Props/C20` (no resource leaks) and `Props/C07` (no device behaviour can crash the daemon).  Seen through (descriptor,
    connection state, child pid) and the log, every function of the layer performs a sequence (`Moves`) of nine kinds of move
    (`Tr`); the invariants and the two ledgers are checked against the nine once (`StepInv`, `Keeps`).  `Fd.Step` / `Moves` are
    not `Interp.Step` / `Move`: `Move.fdMoves` reads every move of a pass as such a sequence. -/
namespace Pm.Dev2.Fd

/-- `d'` has the same descriptor, connection state, child pid and transport as `d` -/
structure SameFd (d d' : Dev) : Prop where
  fd : d'.fd = d.fd
  conn : d'.conn = d.conn
  cpid : d'.cpid = d.cpid
  isPipe : d'.isPipe = d.isPipe

theorem SameFd.rfl' (d : Dev) : SameFd d d := ⟨rfl, rfl, rfl, rfl⟩
/-- the connection and the configuration of the device are the same: `d'` is `d` but for what script statements, the queue
    bookkeeping of `_process_action` / `dev_post_poll` and the read / write handlers write — the match object, the two buffers
    and the size of the input buffer, `wake`, the argument lists, the queue, the login flag, the action counter, the ping stamp,
    the telnet decoder.  One equation, so that a branch of the model is checked by one `rfl`. -/
structure Soft (d d' : Dev) : Prop where
  eq : d' = { d with xmStr := d'.xmStr, xmOffs := d'.xmOffs, xmResult := d'.xmResult, xmUsed := d'.xmUsed, toBuf := d'.toBuf,
                     fromBuf := d'.fromBuf, wake := d'.wake, args := d'.args, acts := d'.acts, loggedIn := d'.loggedIn,
                     statActions := d'.statActions, lastPing := d'.lastPing, tstate := d'.tstate, tcmd := d'.tcmd,
                     fromSize := d'.fromSize }

theorem Soft.trans {a b c : Dev} (h1 : Soft a b) (h2 : Soft b c) : Soft a c := ⟨by rw [h2.eq, h1.eq]⟩
theorem Soft.sameFd {d d' : Dev} (h : Soft d d') : SameFd d d' := by
  constructor <;> rw [h.eq]

theorem Soft.of_writes {d : Dev} {a : Action} {r : StepR} (h : StmtWrites d a r) : Soft d r.dev := ⟨by rw [h.dev]⟩

theorem innerLoop_soft (now : Time) (fuel : Nat) (d : Dev) (a : Action) (o : Oracle) (acc : List Out) :
    Soft d (innerLoop now fuel d a o acc).dev :=
  have one (d a o) : Soft d (processStmt d a o now).dev := .of_writes (processStmt_spec d a o now).writes
  innerLoop_induct (now := now) (P := fun d _ _ _ r => Soft d r.dev) (fun d a o _ => one d a o)
    (fun d a o _ _ _ _ ih => (one d a o).trans ih) fuel d a o acc

/-- an invariant of the pass state that looks at descriptor, connection state, child pid, transport kind and the system-call
    log only, and that `_reconnect` and `_handle_ready_device` (when a descriptor is held) keep -/
structure Stable (I : CS → Prop) : Prop where
  soft : ∀ c c' : CS, SameFd c.dev c'.dev → c'.sys = c.sys → I c → I c'
  reconnect : ∀ (c : CS) (tmo : Option Time), I c → I (reconnectDev c tmo).1
  ready : ∀ c : CS, c.dev.fd.isSome = true → I c → I (handleReady c).1

/-- a descriptor is held exactly when the connection state is not `DEV_NOT_CONNECTED` -/
def FdInv (d : Dev) : Prop := d.fd = none ↔ d.conn = 0

/-- a child pid is recorded exactly for a coprocess device that is connected; a coprocess device is never
    `DEV_CONNECTING` (the third conjunct is what makes the first two inductive, see
    `C20_pipe_connecting_asserts` in `Props/C20`) -/
def ChildInv (d : Dev) : Prop :=
  (d.cpid.isSome = true → d.isPipe = true ∧ d.conn ≠ 0) ∧
  (d.isPipe = true → d.conn ≠ 0 → d.cpid.isSome = true) ∧
  (d.isPipe = true → d.conn ≠ 1)

/-- the connection state is one of the three enum values -/
def ConnRange (d : Dev) : Prop := d.conn ≤ 2

/-- the four `assert`s of the C code on descriptor / connection state (`tcp_connect`, `pipe_connect`,
    `_handle_ready_device`); the other `Sys.abort` strings are the harness running out of scripted kernel answers -/
def isCAssertStr (s : String) : Bool :=
  s == "assert fd == NO_FD" || s == "assert connect_state == NOT_CONNECTED" ||
  s == "assert connect_state != NOT_CONNECTED" || s == "assert fd != NO_FD"

def isCAssert : Sys → Bool
  | .abort s => isCAssertStr s
  | _ => false

/-- the fifth assert of the connection layer: `_handle_ready_device: assert(dev->finish_connect != NULL)` — the method exists
    for tcp devices only -/
def pAssertStr : String := "assert finish_connect != NULL"
def isPAssert : Sys → Bool
  | .abort s => s == pAssertStr
  | _ => false

/-- log entries that neither open nor close a descriptor, neither create nor signal nor reap a child, and are not
    a C assert -/
def neutral : Sys → Bool
  | .connect _ | .soerror _ | .read _ | .write _ _ => true
  | .abort s => !isCAssertStr s && !(s == pAssertStr)
  | _ => false

/-- descriptor audit: the list of open descriptors after one system call; `none` = a `close` of a descriptor that
    is not open (double close / close of a stale number) -/
def fdStep (held : List Nat) : Sys → Option (List Nat)
  | .socket fd => some (fd :: held)
  | .socketpair a b => some (a :: b :: held)
  | .close fd => if fd ∈ held then some (held.erase fd) else none
  | _ => some held

def fdRun (held : List Nat) : List Sys → Option (List Nat)
  | [] => some held
  | s :: r => (fdStep held s).bind fun h => fdRun h r

/-- child audit: (live children, children signalled and not yet waited for) after one system call; `none` = a
    `kill` of a pid that is not a live child of ours, or a `waitpid` for a pid that was not signalled -/
def kidStep (k : List Nat × List Nat) : Sys → Option (List Nat × List Nat)
  | .fork pid => some (pid :: k.1, k.2)
  | .kill pid => if pid ∈ k.1 then some (k.1.erase pid, pid :: k.2) else none
  | .waitpid pid => if pid ∈ k.2 then some (k.1, k.2.erase pid) else none
  | _ => some k

def kidRun (k : List Nat × List Nat) : List Sys → Option (List Nat × List Nat)
  | [] => some k
  | s :: r => (kidStep k s).bind fun k' => kidRun k' r

def opened : List Sys → List Nat
  | [] => []
  | .socket fd :: r => fd :: opened r
  | .socketpair a b :: r => a :: b :: opened r
  | _ :: r => opened r
def closed : List Sys → List Nat
  | [] => []
  | .close fd :: r => fd :: closed r
  | _ :: r => closed r
def forked : List Sys → List Nat
  | [] => []
  | .fork p :: r => p :: forked r
  | _ :: r => forked r
def killed : List Sys → List Nat
  | [] => []
  | .kill p :: r => p :: killed r
  | _ :: r => killed r
def waited : List Sys → List Nat
  | [] => []
  | .waitpid p :: r => p :: waited r
  | _ :: r => waited r

theorem fdRun_append (h : List Nat) (a b : List Sys) : fdRun h (a ++ b) = (fdRun h a).bind fun h' => fdRun h' b := by
  induction a generalizing h with
  | nil => simp [fdRun]
  | cons s r ih =>
    simp only [List.cons_append, fdRun]
    cases fdStep h s <;> simp [ih]

theorem kidRun_append (k : List Nat × List Nat) (a b : List Sys) :
    kidRun k (a ++ b) = (kidRun k a).bind fun k' => kidRun k' b := by
  induction a generalizing k with
  | nil => simp [kidRun]
  | cons s r ih =>
    simp only [List.cons_append, kidRun]
    cases kidStep k s <;> simp [ih]

theorem fdStep_neutral (h : List Nat) (s : Sys) (hs : neutral s = true) : fdStep h s = some h := by
  cases s <;> simp_all [neutral, fdStep]
theorem kidStep_neutral (k : List Nat × List Nat) (s : Sys) (hs : neutral s = true) : kidStep k s = some k := by
  cases s <;> simp_all [neutral, kidStep]
theorem isCAssert_neutral (s : Sys) (hs : neutral s = true) : isCAssert s = false := by
  cases s <;> simp_all [neutral, isCAssert]
theorem isPAssert_neutral (s : Sys) (hs : neutral s = true) : isPAssert s = false := by
  cases s <;> simp_all [neutral, isPAssert]

theorem fdRun_neutral (h : List Nat) (l : List Sys) (hl : l.all neutral = true) : fdRun h l = some h := by
  induction l with
  | nil => rfl
  | cons s r ih => simp only [List.all_cons, Bool.and_eq_true] at hl; simp [fdRun, fdStep_neutral h s hl.1, ih hl.2]
theorem kidRun_neutral (k : List Nat × List Nat) (l : List Sys) (hl : l.all neutral = true) : kidRun k l = some k := by
  induction l with
  | nil => rfl
  | cons s r ih => simp only [List.all_cons, Bool.and_eq_true] at hl; simp [kidRun, kidStep_neutral k s hl.1, ih hl.2]
theorem noAssert_neutral (l : List Sys) (hl : l.all neutral = true) : l.any isCAssert = false :=
  List.any_eq_false.2 fun s hs => by simp [isCAssert_neutral s (List.all_eq_true.1 hl s hs)]
theorem noPAssert_neutral (l : List Sys) (hl : l.all neutral = true) : l.any isPAssert = false :=
  List.any_eq_false.2 fun s hs => by simp [isPAssert_neutral s (List.all_eq_true.1 hl s hs)]

/-! ### the moves of the connection layer on (descriptor, connection state, child pid)

Every function of the connection layer, seen from outside, does one of these nine things.  The invariants are
checked against this list once; the functions are shown to perform only such moves (`*_step`, `*_moves`). -/

/-- the three fields of a device the connection layer's invariants are about -/
structure Lk where
  fd : Option Nat
  conn : Nat
  cpid : Option Nat

def lk (d : Dev) : Lk := ⟨d.fd, d.conn, d.cpid⟩

/-- `p` = coprocess transport -/
inductive Tr (p : Bool) (l : Lk) (δ : List Sys) (l' : Lk) : Prop
  /-- nothing about descriptors or children happens -/
  | quiet : δ.all neutral = true → l' = l → Tr p l δ l'
  /-- one of the four C asserts fires: only from a state in which `fd == NO_FD` and
      `connect_state == DEV_NOT_CONNECTED` disagree -/
  | cassert (s : String) : isCAssertStr s = true → ¬(l.fd = none ↔ l.conn = 0) → δ = [Sys.abort s] → l' = l → Tr p l δ l'
  /-- `tcp_connect`: socket obtained, connected or connecting -/
  | tcpOpen (x : Nat) (ν : List Sys) (k : Nat) : p = false → ν.all neutral = true → (k = 1 ∨ k = 2) →
      l.fd = none → l.conn = 0 → δ = Sys.socket x :: ν → l' = ⟨some x, k, l.cpid⟩ → Tr p l δ l'
  /-- `tcp_connect`: socket obtained, connect failed, socket closed again -/
  | tcpOpenFail (x : Nat) (ν : List Sys) : p = false → ν.all neutral = true →
      l.fd = none → l.conn = 0 → δ = Sys.socket x :: ν ++ [Sys.close x] → l' = l → Tr p l δ l'
  /-- `pipe_connect` -/
  | pipeOpen (a pid : Nat) : p = true → l.fd = none → l.conn = 0 →
      δ = [Sys.socketpair a (a + 1), Sys.fork pid, Sys.close (a + 1)] → l' = ⟨some a, 2, some pid⟩ → Tr p l δ l'
  /-- `tcp_finish_connect` succeeds -/
  | finished (ν : List Sys) : ν.all neutral = true → l.fd.isSome = true → l.conn = 1 → δ = ν →
      l' = ⟨l.fd, 2, l.cpid⟩ → Tr p l δ l'
  /-- `tcp_finish_connect` fails: the socket is closed -/
  | finishFail (x : Nat) (ν : List Sys) : ν.all neutral = true → l.fd = some x → l.conn = 1 →
      δ = ν ++ [Sys.close x] → l' = ⟨none, 0, l.cpid⟩ → Tr p l δ l'
  /-- `_disconnect` -/
  | disconnect : δ = closeOf l.fd ++ reapOf p l.cpid → l' = ⟨none, 0, if p then none else l.cpid⟩ → Tr p l δ l'
  /-- `assert(dev->finish_connect != NULL)` fires: only on a coprocess device that is CONNECTING (which `ChildInv` excludes) -/
  | passert : p = true → l.conn = 1 → δ = [Sys.abort pAssertStr] → l' = l → Tr p l δ l'

def FdInvL (l : Lk) : Prop := l.fd = none ↔ l.conn = 0
def ChildInvL (p : Bool) (l : Lk) : Prop :=
  (l.cpid.isSome = true → p = true ∧ l.conn ≠ 0) ∧ (p = true → l.conn ≠ 0 → l.cpid.isSome = true) ∧ (p = true → l.conn ≠ 1)

theorem FdInv_iff (d : Dev) : FdInv d ↔ FdInvL (lk d) := Iff.rfl
theorem ChildInv_iff (d : Dev) : ChildInv d ↔ ChildInvL d.isPipe (lk d) := Iff.rfl

theorem Tr.fdInv {p l δ l'} (h : Tr p l δ l') (hi : FdInvL l) : FdInvL l' := by
  unfold FdInvL at *
  cases h <;> simp_all <;> omega

theorem Tr.connRange {p l δ l'} (h : Tr p l δ l') (hi : l.conn ≤ 2) : l'.conn ≤ 2 := by
  cases h <;> simp_all <;> omega

theorem Tr.childInv {p l δ l'} (h : Tr p l δ l') (hi : ChildInvL p l) : ChildInvL p l' := by
  obtain ⟨a, b, c⟩ := hi
  cases h with
  | quiet _ h2 => subst h2; exact ⟨a, b, c⟩
  | cassert s _ _ _ h2 => subst h2; exact ⟨a, b, c⟩
  | tcpOpen x ν k hp _ hk _ hc _ h2 =>
    subst h2 hp
    refine ⟨?_, ?_, ?_⟩ <;> simp_all
  | tcpOpenFail x ν _ _ _ _ _ h2 => subst h2; exact ⟨a, b, c⟩
  | pipeOpen x pid hp _ _ _ h2 => subst h2 hp; refine ⟨?_, ?_, ?_⟩ <;> simp
  | finished ν _ _ hc _ h2 =>
    subst h2
    refine ⟨?_, ?_, ?_⟩
    · intro h; exact ⟨(a h).1, by simp⟩
    · intro hp _; exact b hp (by simp [hc])
    · simp
  | finishFail x ν _ _ hc _ h2 =>
    subst h2
    refine ⟨?_, ?_, ?_⟩
    · intro h; exact absurd hc (c (a h).1)
    · simp
    · simp
  | disconnect _ h2 =>
    subst h2
    refine ⟨?_, ?_, ?_⟩
    · cases p
      · intro h; simpa using (a (by simpa using h)).1
      · simp
    · simp
    · simp
  | passert _ _ _ h2 => subst h2; exact ⟨a, b, c⟩

theorem Tr.noAssert {p l δ l'} (h : Tr p l δ l') (hi : FdInvL l) : δ.any isCAssert = false := by
  unfold FdInvL at *
  cases h with
  | quiet h1 => exact noAssert_neutral _ h1
  | cassert s h1 h2 => exact absurd hi h2
  | tcpOpen x ν k _ h1 _ _ _ h2 => subst h2; simp [isCAssert, noAssert_neutral _ h1]
  | tcpOpenFail x ν _ h1 _ _ h2 => subst h2; simp [isCAssert, noAssert_neutral _ h1]
  | pipeOpen a pid _ _ _ h2 => subst h2; simp [isCAssert]
  | finished ν h1 _ _ h2 => subst h2; exact noAssert_neutral _ h1
  | finishFail x ν h1 _ _ h2 => subst h2; simp [isCAssert, noAssert_neutral _ h1]
  | disconnect h2 =>
    subst h2
    cases l.fd <;> cases p <;> cases l.cpid <;> simp [closeOf, reapOf, isCAssert]
  | passert _ _ h2 _ => subst h2; decide

theorem Tr.noPAssert {p l δ l'} (h : Tr p l δ l') (hi : ChildInvL p l) : δ.any isPAssert = false := by
  cases h with
  | quiet h1 => exact noPAssert_neutral _ h1
  | cassert s h1 _ h3 =>
    -- each of the four C-assert texts differs from `pAssertStr`
    have hne : (s == pAssertStr) = false := by
      unfold isCAssertStr at h1
      simp only [Bool.or_eq_true, beq_iff_eq] at h1
      rcases h1 with ((rfl | rfl) | rfl) | rfl <;> decide
    subst h3
    simp only [List.any_cons, List.any_nil, Bool.or_false, isPAssert, hne]
  | tcpOpen x ν k _ h1 _ _ _ h2 => subst h2; simp [isPAssert, noPAssert_neutral _ h1]
  | tcpOpenFail x ν _ h1 _ _ h2 => subst h2; simp [isPAssert, noPAssert_neutral _ h1]
  | pipeOpen a pid _ _ _ h2 => subst h2; simp [isPAssert]
  | finished ν h1 _ _ h2 => subst h2; exact noPAssert_neutral _ h1
  | finishFail x ν h1 _ _ h2 => subst h2; simp [isPAssert, noPAssert_neutral _ h1]
  | disconnect h2 =>
    subst h2
    cases l.fd <;> cases p <;> cases l.cpid <;> simp [closeOf, reapOf, isPAssert]
  | passert hp h1 _ _ => exact absurd h1 (hi.2.2 hp)

theorem Tr.fd_ledger {p l δ l'} (h : Tr p l δ l') : fdRun l.fd.toList δ = some l'.fd.toList := by
  cases h with
  | quiet h1 h2 => subst h2; exact fdRun_neutral _ _ h1
  | cassert s h1 h2 h3 h4 => subst h3 h4; simp [fdRun, fdStep]
  | tcpOpen x ν k _ h1 _ hf _ h2 h3 => subst h2 h3; simp [fdRun, fdStep, hf, fdRun_neutral _ _ h1]
  | tcpOpenFail x ν _ h1 hf _ h2 h3 =>
    subst h2 h3; simp [fdRun, fdStep, hf, fdRun_append, fdRun_neutral _ _ h1]
  | pipeOpen a pid _ hf _ h2 h3 => subst h2 h3; simp [fdRun, fdStep, hf]
  | finished ν h1 _ _ h2 h3 => subst h2 h3; exact fdRun_neutral _ _ h1
  | finishFail x ν h1 hf _ h2 h3 => subst h2 h3; simp [fdRun, fdStep, hf, fdRun_append, fdRun_neutral _ _ h1]
  | disconnect h2 h3 =>
    subst h2 h3
    cases l.fd <;> cases p <;> cases l.cpid <;> simp [closeOf, reapOf, fdRun, fdStep]
  | passert _ _ h2 h3 => subst h2 h3; simp [fdRun, fdStep]

theorem Tr.kid_ledger {p l δ l'} (h : Tr p l δ l') (hi : ChildInvL p l) :
    kidRun (l.cpid.toList, []) δ = some (l'.cpid.toList, []) := by
  unfold ChildInvL at hi
  cases h with
  | quiet h1 h2 => subst h2; exact kidRun_neutral _ _ h1
  | cassert s h1 h2 h3 h4 => subst h3 h4; simp [kidRun, kidStep]
  | tcpOpen x ν k _ h1 _ hf _ h2 h3 => subst h2 h3; simp [kidRun, kidStep, kidRun_neutral _ _ h1]
  | tcpOpenFail x ν _ h1 hf _ h2 h3 =>
    subst h2 h3; simp [kidRun, kidStep, kidRun_append, kidRun_neutral _ _ h1]
  | pipeOpen a pid hp hf hc h2 h3 =>
    subst h2 h3
    have : l.cpid = none := by
      cases hcp : l.cpid
      · rfl
      · simp [hcp, hc] at hi
    simp [kidRun, kidStep, this]
  | finished ν h1 _ _ h2 h3 => subst h2 h3; exact kidRun_neutral _ _ h1
  | finishFail x ν h1 hf _ h2 h3 => subst h2 h3; simp [kidRun, kidStep, kidRun_append, kidRun_neutral _ _ h1]
  | disconnect h2 h3 =>
    subst h2 h3
    cases hfd : l.fd <;> cases p <;> cases hcp : l.cpid <;> simp_all [closeOf, reapOf, kidRun, kidStep]
  | passert _ _ h2 h3 => subst h2 h3; simp [kidRun, kidStep]

/-- one move between two pass states: the log grows by `δ`, the transport kind stays -/
def Step (c c' : CS) : Prop :=
  c'.dev.isPipe = c.dev.isPipe ∧ ∃ δ, c'.sys = c.sys ++ δ ∧ Tr c.dev.isPipe (lk c.dev) δ (lk c'.dev)

/-- a sequence of such moves -/
inductive Moves : CS → CS → Prop
  | refl (c : CS) : Moves c c
  | tail {a b c : CS} : Moves a b → Step b c → Moves a c

theorem Moves.single {a b : CS} (h : Step a b) : Moves a b := .tail (.refl a) h
theorem Moves.trans {a b c : CS} (h1 : Moves a b) (h2 : Moves b c) : Moves a c := by
  induction h2 with
  | refl => exact h1
  | tail _ hs ih => exact .tail ih hs

theorem Step.soft {c c' : CS} (h : SameFd c.dev c'.dev) (hs : c'.sys = c.sys) : Step c c' :=
  ⟨h.isPipe, [], by simp [hs], .quiet rfl (by simp [lk, h.fd, h.conn, h.cpid])⟩

/-- `tcp_finish_connect_one`: one `getsockopt(SO_ERROR)` (the log entries `ν`), the state becomes CONNECTED on success -/
structure FinishOne (c : CS) (ν : List Sys) : Prop where
  neutral : ν.all neutral = true
  sys : (finishConnectOne c).1.sys = c.sys ++ ν
  fd : (finishConnectOne c).1.dev.fd = c.dev.fd
  cpid : (finishConnectOne c).1.dev.cpid = c.dev.cpid
  isPipe : (finishConnectOne c).1.dev.isPipe = c.dev.isPipe
  cur : (finishConnectOne c).1.dev.cur = c.dev.cur
  up : (finishConnectOne c).2 = true → (finishConnectOne c).1.dev.conn = 2
  same : (finishConnectOne c).2 = false → (finishConnectOne c).1.dev.conn = c.dev.conn

theorem finishConnectOne_shape (c : CS) : ∃ ν, FinishOne c ν := by
  rcases finishConnectOne_outcomes c with ⟨r, h⟩ | ⟨e, r, h⟩ | h
  · refine ⟨[.soerror 0], rfl, ?_, ?_, ?_, ?_, ?_, ?_, ?_⟩ <;> rw [h] <;> first | rfl | exact fun _ => rfl | exact fun hb => nomatch hb
  · refine ⟨[.soerror e], rfl, ?_, ?_, ?_, ?_, ?_, ?_, ?_⟩ <;> rw [h] <;> first | rfl | exact fun _ => rfl | exact fun hb => nomatch hb
  · refine ⟨[.abort "no SO_ERROR answer"], by decide, ?_, ?_, ?_, ?_, ?_, ?_, ?_⟩ <;> rw [h] <;>
      first | rfl | exact fun _ => rfl | exact fun hb => nomatch hb

/-- `tcp_connect_one` that returns true: `socket`, `connect` (and perhaps a clean `SO_ERROR`), the socket is held -/
theorem connectOne_hit (c : CS) (hok : (connectOne c).2 = true) :
    ∃ x ν, ν.all neutral = true ∧ (connectOne c).1.sys = c.sys ++ Sys.socket x :: ν ∧ (connectOne c).1.dev.fd = some x ∧
      ((connectOne c).1.dev.conn = 2 ∨ (connectOne c).1.dev.conn = c.dev.conn) := by
  rcases connectOne_outcomes c with h | ⟨fd, fr, ans, ar, e, se, h | h | h | h | h⟩ <;> rw [h] at hok ⊢
  all_goals try exact Bool.noConfusion hok
  · exact ⟨fd, [.connect ans], rfl, rfl, rfl, .inr rfl⟩
  · exact ⟨fd, [.connect ans, .soerror 0], rfl, rfl, rfl, .inl rfl⟩

/-- `tcp_connect_one` that returns false, entered without a descriptor: none is held afterwards, the connection state is what it
    was, and the log is the `socket` with the `close` of that very socket around entries that open and close nothing — or no
    socket at all, when the scripted kernel has no answer left -/
theorem connectOne_miss (c : CS) (hok : (connectOne c).2 = false) (hfd : c.dev.fd = none) :
    (connectOne c).1.dev.fd = none ∧ (connectOne c).1.dev.conn = c.dev.conn ∧
    ∃ ν, ν.all neutral = true ∧
      ((∃ x, (connectOne c).1.sys = c.sys ++ (Sys.socket x :: ν ++ [Sys.close x])) ∨ (connectOne c).1.sys = c.sys ++ ν) := by
  rcases connectOne_outcomes c with h | ⟨fd, fr, ans, ar, e, se, h | h | h | h | h⟩ <;> rw [h] at hok ⊢
  all_goals try exact Bool.noConfusion hok
  · exact ⟨hfd, rfl, [.abort "no socket/connect answer"], by decide, .inr rfl⟩
  · exact ⟨rfl, rfl, [.connect ans], rfl, .inl ⟨fd, rfl⟩⟩
  · exact ⟨rfl, rfl, [.connect ans, .soerror e], rfl, .inl ⟨fd, rfl⟩⟩
  · exact ⟨rfl, rfl, [.connect ans, .abort "no SO_ERROR answer"], (by decide : [Sys.abort "no SO_ERROR answer"].all neutral = true),
      .inl ⟨fd, rfl⟩⟩

def setConn (c : CS) (v : Nat) : CS := { c with dev := { c.dev with conn := v } }

/-- `DEV_NOT_CONNECTED` if the walk left `cur == NULL` -/
def walkEnd (c : CS) : CS := if c.dev.cur.isNone then setConn c 0 else c

/-- **the address walk** (`while (tcp->cur && !tcp_connect_one(dev, tcp->cur)) tcp->cur = tcp->cur->ai_next`), entered — as both
    callers enter it — without a descriptor and in state CONNECTING, followed by the callers' `if (tcp->cur == NULL)
    connect_state = DEV_NOT_CONNECTED`: seen from outside (the state read as NOT_CONNECTED while no descriptor is held) it is a
    sequence of moves — one `tcpOpenFail` per address that fails (its socket is closed before the next address is tried), then
    at most one `tcpOpen` -/
theorem connectWalk_moves (n : Nat) (c : CS) (hp : c.dev.isPipe = false) (hfd : c.dev.fd = none) (h1 : c.dev.conn = 1) :
    Moves (setConn c 0) (walkEnd (connectWalk n c)) := by
  fun_induction connectWalk n c with
  | case1 c =>
    unfold walkEnd
    simp only [Option.isNone_none, ↓reduceIte]
    exact .single (Step.soft ⟨rfl, rfl, rfl, rfl⟩ rfl)
  | case2 fuel c hcur =>
    unfold walkEnd; simp only [hcur, Option.isNone_none, ↓reduceIte]
    exact .refl _
  | case3 fuel c i hcur hok =>
    obtain ⟨x, ν, hν, hs, hf, hk⟩ := connectOne_hit c hok
    have hw := (connectOne_frame c).dev
    have hne : (connectOne c).1.dev.cur.isNone = false := by rw [(connectOne_cases c).1, hcur]; rfl
    unfold walkEnd; simp only [hne, Bool.false_eq_true, ↓reduceIte]
    refine .single ⟨hw.isPipe, _, hs, .tcpOpen x ν (connectOne c).1.dev.conn hp hν (by omega) (by simp [setConn, lk, hfd]) (by simp [setConn, lk]) rfl
      (by simp [setConn, lk, hf, hw.cpid])⟩
  | case4 fuel c i hcur hok ih =>
    obtain ⟨hfd2, hc, ν, hν, hs⟩ := connectOne_miss c (by simpa using hok) hfd
    have hw := (connectOne_frame c).dev
    have hstep : Step (setConn c 0) (setConn { (connectOne c).1 with dev := { (connectOne c).1.dev with cur := aiNext c.dev.naddr i } } 0) := by
      refine ⟨hw.isPipe, ?_⟩
      rcases hs with ⟨x, hs⟩ | hs
      · exact ⟨_, hs, .tcpOpenFail x ν hp hν (by simp [setConn, lk, hfd]) (by simp [setConn, lk]) rfl (by simp [setConn, lk, hfd2, hfd, hw.cpid])⟩
      · exact ⟨_, hs, .quiet hν (by simp [setConn, lk, hfd2, hfd, hw.cpid])⟩
    exact (Moves.single hstep).trans (ih (hw.isPipe.trans hp) hfd2 (hc.trans h1))

theorem tcpConnect_moves (c : CS) (hp : c.dev.isPipe = false) (h0 : c.dev.conn = 0) : Moves c (tcpConnect c).1 := by
  unfold tcpConnect
  simp only [h0, bne_self_eq_false, Bool.false_eq_true, ↓reduceIte]
  cases hfs : c.dev.fd.isSome with
  | true =>
    simp only [↓reduceIte]
    have : c.dev.fd ≠ none := by intro h; simp [h] at hfs
    exact .single ⟨rfl, _, rfl, .cassert _ (by decide) (by simp [lk, this, h0]) rfl rfl⟩
  | false =>
    have hfd : c.dev.fd = none := by simpa using hfs
    simp only [Bool.false_eq_true, ↓reduceIte]
    have hw := connectWalk_moves c.dev.naddr { c with dev := { c.dev with conn := 1, cur := some 0 } } hp hfd rfl
    have h1 : Step c (setConn { c with dev := { c.dev with conn := 1, cur := some 0 } } 0) :=
      Step.soft ⟨rfl, h0.symm, rfl, rfl⟩ rfl
    exact (Moves.single h1).trans hw

theorem pipeConnect_step (c : CS) (hp : c.dev.isPipe = true) (h0 : c.dev.conn = 0) : Step c (pipeConnect c).1 := by
  rcases pipeConnect_cases c with ⟨hn, _⟩ | ⟨_, hfs, e⟩ | ⟨_, _, e⟩ | ⟨fa, _, pid, _, _, hfd, e⟩
  · exact absurd h0 hn
  · have : c.dev.fd ≠ none := by intro h; simp [h] at hfs
    rw [e]; exact ⟨rfl, _, rfl, .cassert _ (by decide) (by simp [lk, this, h0]) rfl rfl⟩
  · rw [e]; exact ⟨rfl, _, rfl, .quiet (by decide) rfl⟩
  · rw [e]; exact ⟨rfl, _, rfl, .pipeOpen fa pid hp (by simp [lk, hfd]) (by simp [lk, h0]) rfl rfl⟩

theorem Step.of_same {c c1 c' : CS} (h : SameFd c.dev c1.dev) (hs : c1.sys = c.sys) (hst : Step c1 c') : Step c c' := by
  obtain ⟨hi, δ, hsys, ht⟩ := hst
  have hl : lk c1.dev = lk c.dev := by simp [lk, h.fd, h.conn, h.cpid]
  rw [h.isPipe, hl] at ht
  exact ⟨hi.trans h.isPipe, δ, by rw [hsys, hs], ht⟩

theorem Step.to_same {c c' c'' : CS} (hst : Step c c') (h : SameFd c'.dev c''.dev) (hs : c''.sys = c'.sys) : Step c c'' := by
  obtain ⟨hi, δ, hsys, ht⟩ := hst
  have hl : lk c''.dev = lk c'.dev := by simp [lk, h.fd, h.conn, h.cpid]
  exact ⟨h.isPipe.trans hi, δ, by rw [hs, hsys], by rw [hl]; exact ht⟩

theorem connTail_same (r : CS × Bool) : SameFd r.1.dev (connTail r).dev ∧ (connTail r).sys = r.1.sys := by
  unfold connTail; split
  · exact ⟨⟨rfl, rfl, rfl, rfl⟩, rfl⟩
  · exact ⟨SameFd.rfl' _, rfl⟩

theorem Moves.of_same {c c1 c' : CS} (h : SameFd c.dev c1.dev) (hs : c1.sys = c.sys) (hm : Moves c1 c') : Moves c c' :=
  (Moves.single (Step.soft h hs)).trans hm

theorem Moves.to_same {c c' c'' : CS} (hm : Moves c c') (h : SameFd c'.dev c''.dev) (hs : c''.sys = c'.sys) : Moves c c'' :=
  .tail hm (Step.soft h hs)

theorem pipeConnect_moves (c : CS) (hp : c.dev.isPipe = true) (h0 : c.dev.conn = 0) : Moves c (pipeConnect c).1 :=
  .single (pipeConnect_step c hp h0)

theorem connectDev_moves (c : CS) (h0 : c.dev.conn = 0) : Moves c (connectDev c) := by
  rw [connectDev_eq]
  have hb : SameFd c.dev (bump c).dev := ⟨rfl, rfl, rfl, rfl⟩
  have h0' : (bump c).dev.conn = 0 := h0
  have hbs : (bump c).sys = c.sys := rfl
  generalize bump c = c1 at *
  refine Moves.of_same hb hbs ?_
  · split
    · rename_i hp
      exact (pipeConnect_moves c1 hp h0').to_same (connTail_same _).1 (connTail_same _).2
    · rename_i hp
      exact (tcpConnect_moves c1 (by simpa using hp) h0').to_same (connTail_same _).1 (connTail_same _).2

theorem disconnectDev_step (c : CS) : Step c (disconnectDev c) := by
  rw [disconnectDev_cs]
  exact ⟨rfl, closeOf c.dev.fd ++ reapOf c.dev.isPipe c.dev.cpid, List.append_assoc .., .disconnect rfl rfl⟩
theorem disconnectDev_moves (c : CS) : Moves c (disconnectDev c) := .single (disconnectDev_step c)

theorem disconnectDev_link (c : CS) : (disconnectDev c).dev.fd = none ∧ (disconnectDev c).dev.conn = 0 := by
  rw [disconnectDev_cs]; exact ⟨rfl, rfl⟩

/-- `close(dev->fd); dev->fd = NO_FD`: the `close` of the descriptor held, if one is, and nothing else -/
structure ClosedFd (c c' : CS) : Prop where
  sys : c'.sys = c.sys ++ closeOf c.dev.fd
  fd : c'.dev.fd = none
  cpid : c'.dev.cpid = c.dev.cpid
  isPipe : c'.dev.isPipe = c.dev.isPipe
  conn : c'.dev.conn = c.dev.conn
  cur : c'.dev.cur = c.dev.cur
  naddr : c'.dev.naddr = c.dev.naddr

theorem closeFd_shape (c : CS) : ClosedFd c (closeFd c) := by
  constructor <;> unfold closeFd <;> split <;> simp_all [closeOf]

/-- `tcp_finish_connect` after a failed `SO_ERROR`: the pending socket is closed (`finishFail`), then the walk goes on -/
theorem finishConnectFail_moves (c0 c : CS) (ν : List Sys) (hν : ν.all neutral = true) (hs : c.sys = c0.sys ++ ν)
    (hsame : SameFd c0.dev c.dev) (hp : c0.dev.isPipe = false) (x : Nat) (hx : c0.dev.fd = some x) (h1 : c0.dev.conn = 1) :
    Moves c0 (finishConnectFail c) := by
  unfold finishConnectFail
  have q := closeFd_shape c
  generalize closeFd c = c1 at *
  have hfd : c.dev.fd = some x := hsame.fd.trans hx
  have hstep : Step c0 (setConn c1 0) :=
    ⟨q.isPipe.trans hsame.isPipe, ν ++ [Sys.close x], by simp [setConn, q.sys, hs, hfd, closeOf],
      .finishFail x ν hν (by simp [lk, hx]) (by simp [lk, h1]) rfl (by simp [setConn, lk, q.fd, q.cpid, hsame.cpid])⟩
  split
  · exact .tail (.single hstep) ⟨rfl, [Sys.abort "tcp->cur == NULL in tcp_finish_connect"], rfl, .quiet (by decide) rfl⟩
  · rename_i i _
    dsimp only
    have hc1 : c1.dev.conn = 1 := by rw [q.conn, hsame.conn, h1]
    have hw := connectWalk_moves c1.dev.naddr { c1 with dev := { c1.dev with cur := aiNext c1.dev.naddr i } }
      (by simp [q.isPipe, hsame.isPipe, hp]) q.fd hc1
    have hsoft : Step (setConn c1 0) (setConn { c1 with dev := { c1.dev with cur := aiNext c1.dev.naddr i } } 0) :=
      Step.soft ⟨rfl, rfl, rfl, rfl⟩ rfl
    exact (Moves.single hstep).trans ((Moves.single hsoft).trans hw)

theorem finishTail_moves {c0 c : CS} (hm : Moves c0 c) : Moves c0 (Tel.finishTail c).1 := by
  unfold Tel.finishTail
  split
  · exact hm
  · split
    · exact hm.to_same ⟨rfl, rfl, rfl, rfl⟩ rfl
    · exact hm

/-- POLLOUT while CONNECTING: the assert on a coprocess device, `tcp_finish_connect` on a tcp device -/
theorem readyFinish_moves (c : CS) (hfd : c.dev.fd.isSome = true) (h1 : c.dev.conn = 1) : Moves c (Tel.readyFinish c).1 := by
  unfold Tel.readyFinish
  by_cases hp : c.dev.isPipe = true
  · rw [if_pos hp]; exact .single ⟨rfl, _, rfl, .passert hp (by simpa [lk] using h1) rfl rfl⟩
  rw [if_neg hp]
  obtain ⟨ν, f⟩ := finishConnectOne_shape c
  obtain ⟨x, hx⟩ := Option.isSome_iff_exists.mp hfd
  apply finishTail_moves
  cases hb : (finishConnectOne c).2
  · rw [if_neg Bool.false_ne_true]
    exact finishConnectFail_moves c _ ν f.neutral f.sys ⟨f.fd, f.same hb, f.cpid, f.isPipe⟩ (by simpa using hp) x hx h1
  · rw [if_pos rfl]
    exact .single ⟨f.isPipe, ν, f.sys, .finished ν f.neutral (by simp [lk, hfd]) (by simp [lk, h1]) rfl
      (by simp [lk, f.fd, f.up hb, f.cpid])⟩

theorem telnetFilter_sameFd (d : Dev) (bs : Bytes) : SameFd d (telnetFilter d bs) := by
  unfold telnetFilter; exact ⟨rfl, rfl, rfl, rfl⟩

theorem readyRd_step (c : CS) : Step c (Tel.readyRd c).1 := by
  unfold Tel.readyRd
  split
  · split
    · exact ⟨rfl, [Sys.read 0], rfl, .quiet rfl rfl⟩
    · refine ⟨?_, [Sys.read _], rfl, .quiet rfl ?_⟩
      · dsimp only; split
        · rfl
        · exact (telnetFilter_sameFd _ _).isPipe
      · dsimp only; split
        · rfl
        · have := telnetFilter_sameFd c.dev ‹_›; simp [lk, this.fd, this.conn, this.cpid]
  · exact ⟨rfl, [Sys.read (-1)], rfl, .quiet rfl rfl⟩
  · exact ⟨rfl, [Sys.abort "no read answer"], rfl, .quiet (by decide) rfl⟩

theorem clipRead_step (c : CS) : Step c (clipRead c) :=
  Step.soft ⟨by simp, by simp, by simp, by simp⟩ (by simp)

theorem headRun_soft (c : CS) (o : Oracle) (a0 : Action) : Soft c.dev (headRun c o a0).dev :=
  (⟨rfl⟩ : Soft c.dev { c.dev with wake := none }).trans (.of_writes (headRun_writes c o a0))

/-- **seen from descriptor, connection state and child, every move of a pass (`Move`) is a sequence of the nine legal moves** -/
theorem _root_.Pm.Dev2.Move.fdMoves {k : Stage} {s s' : PA} (h : Move k s s') : Moves s.1 s'.1 := by
  cases h with
  | wait | note => exact .refl _
  | assert c _ _ _ hfd h0 =>
    exact .single ⟨rfl, _, rfl, .cassert _ (by decide) (fun h => by rw [show c.dev.fd = none from h.2 h0] at hfd; cases hfd) rfl rfl⟩
  | write c _ _ _ wr ok => exact .single ⟨rfl, [.write wr ok], rfl, .quiet rfl rfl⟩
  | read c => exact .tail (.single (clipRead_step c)) (readyRd_step _)
  | finish c _ _ _ h1 hfd => exact readyFinish_moves c hfd h1
  | disconnect c => exact disconnectDev_moves c
  | connect _ c _ _ _ h0 => exact connectDev_moves c h0
  | ping | stamp | failIdle | fuel => exact .single (.soft ⟨rfl, rfl, rfl, rfl⟩ rfl)
  | failConn c => exact .tail (.single (.soft ⟨rfl, rfl, rfl, rfl⟩ rfl)) (disconnectDev_step (failed c))
  | runAbort c o _ _ a0 _ _ _ _ hr | runStall c o _ _ a0 _ _ _ _ _ hr | runDone c o _ _ a0 _ _ _ _ hr
  | runNext c o _ _ a0 _ _ _ _ hr => exact hr ▸ .single (.soft ((headRun_soft c o a0).trans ⟨rfl⟩).sameFd rfl)
  | runFail c o _ _ a0 _ _ _ _ hr =>
    subst hr
    exact .tail (.single (.soft (c' := failed { c with dev := (headRun c o a0).dev })
      ((headRun_soft c o a0).trans ⟨rfl⟩).sameFd rfl)) (disconnectDev_step _)

theorem _root_.Pm.Dev2.Run.fdMoves {k : Stage} {s s' : PA} (h : Run k s s') : Moves s.1 s'.1 :=
  h.related (R := fun s s' => Moves s.1 s'.1) (fun _ => .refl _) Moves.trans fun _ _ => Move.fdMoves

theorem handleReady_moves (c : CS) (hfd : c.dev.fd.isSome = true) : Moves c (handleReady c).1 :=
  (handleReady_run c ⟨[]⟩ [] none hfd).fdMoves

/-- `_reconnect`: at most a `_disconnect` followed by at most a `_connect` in state NOT_CONNECTED -/
theorem reconnectDev_moves (c : CS) (tmo : Option Time) : Moves c (reconnectDev c tmo).1 :=
  (reconnectDev_run c ⟨[]⟩ [] tmo).fdMoves

/-- `I` is kept by every single move (soft changes included) -/
def StepInv (I : CS → Prop) : Prop := ∀ c c' : CS, Step c c' → I c → I c'

theorem Moves.keeps {I : CS → Prop} (hI : StepInv I) {c c' : CS} (hm : Moves c c') (h : I c) : I c' := by
  induction hm with
  | refl => exact h
  | tail _ hs ih => exact hI _ _ hs ih

theorem StepInv.stable {I : CS → Prop} (hI : StepInv I) : Stable I where
  soft c c' hs hsys h := hI c c' (Step.soft hs hsys) h
  reconnect c tmo h := (reconnectDev_moves c tmo).keeps hI h
  ready c hfd h := (handleReady_moves c hfd).keeps hI h

theorem postPoll_moves (d : Dev) (env : Env) (o : Oracle) :
    Moves { dev := d, env := env, sys := [] } (postPoll d env o).1 :=
  (postPoll_run d env o).related (R := fun s s' => Moves s.1 s'.1) (fun _ => .refl _) Moves.trans fun _ _ _ => Move.fdMoves

theorem stepInv_fdInv : StepInv fun c => FdInv c.dev := by
  intro c c' ⟨_, δ, _, ht⟩ h
  exact ht.fdInv h

theorem stepInv_childInv : StepInv fun c => ChildInv c.dev := by
  intro c c' ⟨hp, δ, _, ht⟩ h
  have := ht.childInv h
  rw [ChildInv_iff, hp]; exact this

theorem stepInv_connRange : StepInv fun c => ConnRange c.dev := by
  intro c c' ⟨_, δ, _, ht⟩ h
  exact ht.connRange h

theorem stepInv_noAssert : StepInv fun c => FdInv c.dev ∧ c.sys.any isCAssert = false := by
  intro c c' ⟨_, δ, hs, ht⟩ ⟨h1, h2⟩
  refine ⟨ht.fdInv h1, ?_⟩
  rw [hs, List.any_append, h2, ht.noAssert h1]; rfl

theorem stepInv_noPAssert : StepInv fun c => ChildInv c.dev ∧ c.sys.any isPAssert = false := by
  intro c c' ⟨hp, δ, hs, ht⟩ ⟨h1, h2⟩
  refine ⟨stepInv_childInv c c' ⟨hp, δ, hs, ht⟩ h1, ?_⟩
  rw [hs, List.any_append, h2, ht.noPAssert h1]; rfl

/-- descriptor ledger: replaying the log from the descriptors held at the start never closes a descriptor that is
    not open and ends with exactly the descriptor the device holds -/
theorem stepInv_fdLedger (h0 : List Nat) : StepInv fun c => fdRun h0 c.sys = some c.dev.fd.toList := by
  intro c c' ⟨_, δ, hs, ht⟩ h
  rw [hs, fdRun_append, h]
  exact ht.fd_ledger

theorem stepInv_kidLedger (k0 : List Nat × List Nat) :
    StepInv fun c => ChildInv c.dev ∧ kidRun k0 c.sys = some (c.dev.cpid.toList, []) := by
  intro c c' ⟨hp, δ, hs, ht⟩ ⟨h1, h2⟩
  refine ⟨stepInv_childInv c c' ⟨hp, δ, hs, ht⟩ h1, ?_⟩
  rw [hs, kidRun_append, h2]
  exact ht.kid_ledger h1

theorem count_erase_mem (l : List Nat) (a n : Nat) (h : a ∈ l) :
    (l.erase a).count n + (if a = n then 1 else 0) = l.count n := by
  rw [List.count_erase]
  have := List.count_pos_iff.mpr h
  by_cases han : a = n
  · subst han; simp; omega
  · have : (a == n) = false := by simpa using han
    simp [han, this]

/-- the balance of the descriptor audit, per number: held + opened = closed + held afterwards (a `close` that the audit lets
    pass erases a member: `count_erase_mem`) -/
theorem fdRun_count (l : List Sys) (h h' : List Nat) (hr : fdRun h l = some h') (n : Nat) :
    h.count n + (opened l).count n = (closed l).count n + h'.count n := by
  induction l generalizing h with
  | nil => simp [fdRun] at hr; subst hr; simp [opened, closed]
  | cons s r ih =>
    simp only [fdRun] at hr
    cases hs : fdStep h s with
    | none => simp [hs] at hr
    | some hm =>
      have := ih hm (by simpa [hs] using hr)
      cases s with
      | close fd =>
        simp only [fdStep, Option.ite_none_right_eq_some, Option.some.injEq] at hs
        obtain ⟨hmem, rfl⟩ := hs
        have he := count_erase_mem h fd n hmem
        simp only [opened, closed, List.count_cons, beq_iff_eq] at this ⊢; omega
      | _ => cases hs; simp only [opened, closed, List.count_cons] at this ⊢; omega

/-- no double close: when the audit succeeds, at every `close fd` in the log the descriptor was held at the start or
    opened earlier in the log more often than it has been closed so far -/
theorem fdRun_close_held (p r : List Sys) (fd : Nat) (h h' : List Nat)
    (hr : fdRun h (p ++ Sys.close fd :: r) = some h') :
    (closed p).count fd < h.count fd + (opened p).count fd := by
  simp only [fdRun_append, fdRun, Option.bind_eq_some_iff, fdStep, Option.ite_none_right_eq_some] at hr
  obtain ⟨hm, hp, _, ⟨hmem, _⟩, _⟩ := hr
  have := fdRun_count p h hm hp fd
  have := List.count_pos_iff.mpr hmem
  omega

theorem kidRun_count (l : List Sys) (k k' : List Nat × List Nat) (hr : kidRun k l = some k') (n : Nat) :
    k.1.count n + (forked l).count n = (killed l).count n + k'.1.count n ∧
    k.2.count n + (killed l).count n = (waited l).count n + k'.2.count n := by
  induction l generalizing k with
  | nil => simp [kidRun] at hr; subst hr; simp [forked, killed, waited]
  | cons s r ih =>
    simp only [kidRun] at hr
    cases hs : kidStep k s with
    | none => simp [hs] at hr
    | some km =>
      have := ih km (by simpa [hs] using hr)
      cases s with
      | kill pid =>
        simp only [kidStep, Option.ite_none_right_eq_some, Option.some.injEq] at hs
        obtain ⟨hmem, rfl⟩ := hs
        have he := count_erase_mem k.1 pid n hmem
        simp only [forked, killed, waited, List.count_cons, beq_iff_eq] at this ⊢; omega
      | waitpid pid =>
        simp only [kidStep, Option.ite_none_right_eq_some, Option.some.injEq] at hs
        obtain ⟨hmem, rfl⟩ := hs
        have he := count_erase_mem k.2 pid n hmem
        simp only [forked, killed, waited, List.count_cons, beq_iff_eq] at this ⊢; omega
      | _ => cases hs; simp only [forked, killed, waited, List.count_cons] at this ⊢; omega

/-- a `kill pid` in an audited log is for a pid forked (or held) and not yet signalled; a `waitpid pid` is for a
    pid signalled and not yet waited for -/
theorem kidRun_kill_live (p r : List Sys) (pid : Nat) (k k' : List Nat × List Nat)
    (hr : kidRun k (p ++ Sys.kill pid :: r) = some k') :
    (killed p).count pid < k.1.count pid + (forked p).count pid := by
  simp only [kidRun_append, kidRun, Option.bind_eq_some_iff, kidStep, Option.ite_none_right_eq_some] at hr
  obtain ⟨km, hp, _, ⟨hmem, _⟩, _⟩ := hr
  have := (kidRun_count p k km hp pid).1
  have := List.count_pos_iff.mpr hmem
  omega

theorem kidRun_wait_signalled (p r : List Sys) (pid : Nat) (k k' : List Nat × List Nat)
    (hr : kidRun k (p ++ Sys.waitpid pid :: r) = some k') :
    (waited p).count pid < k.2.count pid + (killed p).count pid := by
  simp only [kidRun_append, kidRun, Option.bind_eq_some_iff, kidStep, Option.ite_none_right_eq_some] at hr
  obtain ⟨km, hp, _, ⟨hmem, _⟩, _⟩ := hr
  have := (kidRun_count p k km hp pid).2
  have := List.count_pos_iff.mpr hmem
  omega

theorem hasAbort_append (l m : List Out) : hasAbort (l ++ m) = (hasAbort l || hasAbort m) := by
  simp [hasAbort]

theorem askRx_noAbort (o : Oracle) (pat : Nat) (s : Bytes) : hasAbort (askRx o pat s).2.2 = false := by
  unfold askRx; split
  · split <;> rfl
  · rfl

/-- `_process_expect` never aborts: the only assert it could reach is `dbg_memstr`'s -/
theorem stmtExpect_noAbort (d : Dev) (a : Action) (o : Oracle) (pat : Nat) : hasAbort (stmtExpect d a o pat).out = false := by
  unfold stmtExpect
  dsimp only
  split
  · rfl
  · have h1 := askRx_noAbort o pat (d.fromBuf.map fun b => if b == 0 then 255 else b)
    generalize askRx o pat _ = r at *
    obtain ⟨o', ans, errs⟩ := r
    simp only at h1 ⊢
    split
    · exact h1
    · simp only [hasAbort_append, h1, Bool.false_or]
      split
      · exact teleMem_noAbort _ _ _
      · rfl

/-- `xregex_match_sub_strdup`: a captured substring is a contiguous piece of the subject of the last match -/
theorem subOf_infix (d : Dev) (i : Int) (s : Bytes) (h : subOf d i = some s) :
    ∃ subj, d.xmStr = some subj ∧ s <:+: subj ∧ s.length ≤ subj.length := by
  unfold subOf at h
  split at h
  · simp at h
  · split at h
    · split at h
      · simp at h
      · cases hx : d.xmStr with
        | none => simp [hx] at h
        | some subj =>
          simp only [hx, Option.map_some, Option.some.injEq] at h
          subst h
          refine ⟨subj, rfl, ?_, ?_⟩
          · exact ((List.take_prefix _ _).isInfix).trans (List.drop_suffix _ _).isInfix
          · simp; omega
    · simp at h

/-- no match data (`!xm_used`: no `expect` has run since the match object was created or recycled): every `$N` reads as absent -/
theorem subOf_unused (d : Dev) (i : Int) (h : d.xmUsed = false) : subOf d i = none := by
  unfold subOf; simp [h]

/-- with no match data a `setplugstate` does nothing: it may still pick the plug of its context, but its status text is a
    capture group -/
theorem stmtSetplugstate_idle (d : Dev) (a : Action) (o : Oracle) (e : ExecCtx) (lit : Option Bytes) (pm sm : Int)
    (is : List (PState × Nat)) (h : d.xmUsed = false) : stmtSetplugstate d a o e lit pm sm is = ⟨d, a, o, [], true⟩ := by
  rw [Interp.stmtSetplugstate_eq]
  unfold Interp.setplugstateCore
  split
  · rfl
  · rw [subOf_unused d sm h]

/-- … and a `setresult` finds no plug name -/
theorem stmtSetresult_idle (d : Dev) (a : Action) (o : Oracle) (pm sm : Int) (is : List (PResult × Nat))
    (h : d.xmUsed = false) : stmtSetresult d a o pm sm is = ⟨d, a, o, [], true⟩ := by
  unfold stmtSetresult
  rw [subOf_unused d pm h]

/-! the text `dbg_memstr` produces fits the buffer it allocates (`4*len+1` with the terminator) -/
theorem str_r : (str "\\r").length = 2 := by decide +kernel
theorem str_n : (str "\\n").length = 2 := by decide +kernel
theorem str_t : (str "\\t").length = 2 := by decide +kernel

theorem octal_len (b : UInt8) : (octal b.toNat).length ≤ 3 := by
  have h : b.toNat < 256 := UInt8.toNat_lt b
  unfold octal
  rw [List.length_map, Nat.length_toDigits_le_iff (by decide) (by decide)]
  omega

theorem memstr_cell (b : UInt8) :
    (if b == 13 then str "\\r" else if b == 10 then str "\\n" else if b == 9 then str "\\t"
     else if isPrint b then [b]
     else
      let ds := octal b.toNat
      let ds := List.replicate (3 - ds.length) (48 : UInt8) ++ ds
      (92 : UInt8) :: ds).length ≤ 4 := by
  have := octal_len b
  split
  · simp [str_r]
  · split
    · simp [str_n]
    · split
      · simp [str_t]
      · split
        · simp
        · simp; omega

theorem memstr_length (bs : Bytes) : (memstr bs).length ≤ 4 * bs.length := by
  induction bs with
  | nil => simp [memstr]
  | cons b r ih =>
    unfold memstr at ih ⊢
    rw [List.flatMap_cons, List.length_append, List.length_cons]
    have := memstr_cell b
    omega

/-- when the regex offsets lie inside the subject (what `regexec` guarantees) the copy has exactly `eo - so` bytes -/
theorem subOf_length (d : Dev) (i so eo : Int) (subj : Bytes) (hu : d.xmUsed = true) (hr : d.xmResult = true) (hi : 0 ≤ i)
    (ho : d.xmOffs[i.toNat]? = some (so, eo)) (hs : d.xmStr = some subj) (h0 : 0 ≤ so)
    (h2 : eo.toNat ≤ subj.length) : ∃ s, subOf d i = some s ∧ s.length = (eo - so).toNat := by
  have hne : (so == -1) = false := by
    cases hq : so == -1
    · rfl
    · have : so = -1 := by simpa using hq
      omega
  have hi' : ¬ i < 0 := by omega
  refine ⟨(subj.drop so.toNat).take (eo - so).toNat, ?_, ?_⟩
  · simp [subOf, hu, hr, hi', ho, hs, hne]
  · simp; omega

/-! ### the functions below `tcp_connect`, where the descriptor invariant is suspended

`tcp_connect` sets `connect_state = DEV_CONNECTING` before `tcp_connect_one` calls `socket()`, and resets it after a
failure: between those points `fd == NO_FD` with a state that is not NOT_CONNECTED.  So `FdInv` is a property of
`tcp_connect` and everything above it; for the two functions below it the contract is: -/

theorem finishConnectOne_fdInv (c : CS) (hfd : c.dev.fd.isSome = true) (h0 : c.dev.conn ≠ 0) :
    FdInv (finishConnectOne c).1.dev := by
  obtain ⟨ν, f⟩ := finishConnectOne_shape c
  unfold FdInv
  rw [f.fd]
  have hne : c.dev.fd ≠ none := by intro h; simp [h] at hfd
  cases hb : (finishConnectOne c).2
  · rw [f.same hb]; simp [hne, h0]
  · rw [f.up hb]; simp [hne]

/-- on a tcp device `ChildInv` says "no child recorded": it looks at nothing else -/
theorem ChildInv.of_tcp {d d' : Dev} (h : ChildInv d) (hp : d.isPipe = false) (h1 : d'.cpid = d.cpid) (h2 : d'.isPipe = d.isPipe) :
    ChildInv d' := by
  unfold ChildInv at *
  rw [h1, h2]
  simp only [hp] at h ⊢
  exact ⟨fun hh => absurd (h.1 hh).1 (by simp), fun hh => by simp at hh, fun hh => by simp at hh⟩

theorem finishConnectOne_childInv (c : CS) (hp : c.dev.isPipe = false) (h : ChildInv c.dev) :
    ChildInv (finishConnectOne c).1.dev :=
  let ⟨_, f⟩ := finishConnectOne_shape c
  h.of_tcp hp f.cpid f.isPipe

/-- `tcp_connect_one`, called as `tcp_connect` calls it (no descriptor, state already CONNECTING): on success the
    invariant holds again; on failure no descriptor is held and the state is left for the caller to reset -/
theorem connectOne_contract (c : CS) (hfd : c.dev.fd = none) (h0 : c.dev.conn ≠ 0) :
    ((connectOne c).2 = true → FdInv (connectOne c).1.dev) ∧
    ((connectOne c).2 = false → (connectOne c).1.dev.fd = none ∧ (connectOne c).1.dev.conn = c.dev.conn) := by
  refine ⟨fun hok => ?_, fun hok => ⟨(connectOne_miss c hok hfd).1, (connectOne_miss c hok hfd).2.1⟩⟩
  obtain ⟨x, ν, _, _, hf, hk⟩ := connectOne_hit c hok
  unfold FdInv
  rw [hf]; rcases hk with hk | hk <;> simp [hk, h0]

theorem connectOne_childInv (c : CS) (hp : c.dev.isPipe = false) (h : ChildInv c.dev) :
    ChildInv (connectOne c).1.dev :=
  h.of_tcp hp (connectOne_frame c).dev.cpid (connectOne_frame c).dev.isPipe

/-- the invariants are kept by `_handle_ready_device` whether or not a descriptor is held -/
theorem handleReady_keeps_dev {P : Dev → Prop} (hI : StepInv fun c => P c.dev) (c : CS) (h : P c.dev) :
    P (handleReady c).1.dev :=
  handleReady_keeps (fun hm hp => hm.fdMoves.keeps hI hp) c h

/-- the error, time-out and statement branches of `_process_action` taken by themselves, for any head, rest of the queue and
    connection state (`Props/C20` cites them per function); `Move.fdMoves` has them as a pass calls them: on the head of the
    device's own queue, the statement branch on a CONNECTED device -/
theorem failAll_moves (rest : List Action) (c : CS) (a : Action) (o : Oracle) (out : List Out) (tmo : Option Time) :
    Moves c (failAll rest c a o out tmo).1 := by
  by_cases h2 : c.dev.conn = 2
  · rw [failAll_connected _ _ _ _ _ _ h2]
    exact .of_same (c1 := failed c) ⟨rfl, rfl, rfl, rfl⟩ rfl (reconnectDev_moves (failed c) tmo)
  · rw [failAll_other _ _ _ _ _ _ h2]
    exact .single (.soft ⟨rfl, rfl, rfl, rfl⟩ rfl)

theorem onTimeout_moves (rest : List Action) (c : CS) (a : Action) (o : Oracle) (out : List Out) (tmo : Option Time) :
    Moves c (onTimeout rest c a o out tmo).1 := by
  rw [onTimeout_eq_failAll]; exact failAll_moves ..

theorem onRun_moves (k : CS → Oracle → List Out → Option Time → PA) (rest : List Action) (c : CS) (a : Action)
    (o : Oracle) (out : List Out) (tmo : Option Time) (left : Time)
    (hk : ∀ c' o' out' tmo', Moves c' (k c' o' out' tmo').1) : Moves c (onRun k rest c a o out tmo left).1 := by
  -- whatever the interpreter's run ends with, the pass state differs from `c` by a soft change; then, perhaps, the error branch
  have h : Moves c (Login2.onRunStep rest c a o out tmo left).1.1 := by
    have hS : Soft c.dev (innerLoop c.env.now (loopBound a) { c.dev with wake := none } a o []).dev :=
      (⟨rfl⟩ : Soft c.dev { c.dev with wake := none }).trans (innerLoop_soft ..)
    have hc := Login2.onRunStep_branches rest c a o out tmo left _ rfl
    generalize innerLoop c.env.now (loopBound a) { c.dev with wake := none } a o [] = r at *
    have soft : ∀ c' : CS, Soft r.dev c'.dev → c'.sys = c.sys → Moves c c' := fun c' h hs => .single (.soft (hS.trans h).sameFd hs)
    rcases hc with ⟨_, e⟩ | ⟨_, _, e⟩ | ⟨_, _, _, _, e⟩ | ⟨_, _, _, _, e⟩ | ⟨_, _, _, e⟩ <;> rw [e]
    · exact soft _ ⟨rfl⟩ rfl
    · exact soft _ ⟨rfl⟩ rfl
    · exact soft _ ⟨rfl⟩ rfl
    · exact soft _ ⟨rfl⟩ rfl
    · exact .of_same (c1 := { c with dev := r.dev }) hS.sameFd rfl (failAll_moves ..)
  rw [Login2.onRun_eq_step]
  unfold Login2.andThen
  split
  · exact h.trans (hk ..)
  · exact h

theorem processActionF_moves (fuel : Nat) (c : CS) (o : Oracle) (out : List Out) (tmo : Option Time) :
    Moves c (processActionF fuel c o out tmo).1 :=
  (processActionF_run fuel c o out tmo).fdMoves

theorem processAction_moves (c : CS) (o : Oracle) (out : List Out) (tmo : Option Time) :
    Moves c (processAction c o out tmo).1 :=
  processActionF_moves _ c o out tmo

/-- what a sequence of moves keeps: each line is independent of the others (own hypotheses only) -/
structure Keeps (c c' : CS) : Prop where
  isPipe : c'.dev.isPipe = c.dev.isPipe
  fdInv : FdInv c.dev → FdInv c'.dev
  childInv : ChildInv c.dev → ChildInv c'.dev
  connRange : ConnRange c.dev → ConnRange c'.dev
  noAssert : FdInv c.dev → c.sys.any isCAssert = false → c'.sys.any isCAssert = false
  noPAssert : ChildInv c.dev → c.sys.any isPAssert = false → c'.sys.any isPAssert = false
  fdLedger : ∀ h0, fdRun h0 c.sys = some c.dev.fd.toList → fdRun h0 c'.sys = some c'.dev.fd.toList
  kidLedger : ∀ k0, ChildInv c.dev → kidRun k0 c.sys = some (c.dev.cpid.toList, []) →
    kidRun k0 c'.sys = some (c'.dev.cpid.toList, [])

theorem Moves.isPipe {c c' : CS} (hm : Moves c c') : c'.dev.isPipe = c.dev.isPipe := by
  induction hm with
  | refl => rfl
  | tail _ hs ih => exact hs.1.trans ih

theorem Moves.keeps_all {c c' : CS} (hm : Moves c c') : Keeps c c' where
  isPipe := hm.isPipe
  fdInv h := hm.keeps stepInv_fdInv h
  childInv h := hm.keeps stepInv_childInv h
  connRange h := hm.keeps stepInv_connRange h
  noAssert h1 h2 := (hm.keeps stepInv_noAssert ⟨h1, h2⟩).2
  noPAssert h1 h2 := (hm.keeps stepInv_noPAssert ⟨h1, h2⟩).2
  fdLedger h0 h := hm.keeps (stepInv_fdLedger h0) h
  kidLedger k0 h1 h2 := (hm.keeps (stepInv_kidLedger k0) ⟨h1, h2⟩).2

def exDev : Dev :=
  { plugs := [], scripts := fun n => if n = 0 then some [Stmt.delay 0] else none, timeout := 1000000, acts := [],
    toBuf := [], fromBuf := [], xmStr := none, xmOffs := [], xmResult := false, xmUsed := false, args := [],
    nextUid := 1, shortCircuitDelay := false }
/-- a connected, logged-in tcp device holding descriptor 2000 -/
def exTcp : Dev := { exDev with conn := 2, fd := some 2000, loggedIn := true }
/-- a connected, logged-in coprocess device holding descriptor 3000 and child 5000 -/
def exPipe : Dev := { exDev with conn := 2, fd := some 3000, isPipe := true, cpid := some 5000, loggedIn := true }
/-- the F6 state: a stale descriptor number left in `dev->fd` while NOT_CONNECTED -/
def exStale : Dev := { exDev with conn := 0, fd := some 2000 }
/-- a coprocess device (wrongly) in state CONNECTING -/
def exPipeConnecting : Dev := { exDev with conn := 1, fd := some 3000, isPipe := true, cpid := some 5000 }
/-- a pass in which poll reports a hang-up and the kernel has answers for one reconnect -/
def exEnv : Env :=
  { now := 0, revents := 4, sockets := [2001], connects := [1], soerrs := [], read := none, writeOk := true,
    pairs := [3002], pids := [5001] }
/-- the same, but the reconnect's `connect` fails at once -/
def exEnvFail : Env := { exEnv with connects := [2] }
/-- a pass in which the descriptor is writable and `SO_ERROR` is ECONNREFUSED -/
def exEnvRefused : Env :=
  { now := 0, revents := 2, sockets := [], connects := [], soerrs := [111], read := none, writeOk := true }

end Pm.Dev2.Fd
