import Pm.RedfishTree
/-! `processWaiters` cut into its two passes, characterised by filters. -/
namespace Pm.Redfish

def descB (c : Cfg) (anc : Nat) (pm : PM) : Bool := isDesc c pm.plug anc
def directB (c : Cfg) (anc : Nat) (pm : PM) : Bool := decide ((lookup c pm.plug).bind (·.parent) = some anc)

/-- the line printed for a waiter whose ancestor `anc` turned out to be `s ≠ on` -/
def wline (anc : Nat) (s : Stat) (pm : PM) : List Line :=
  if !pm.output then [] else
  if pm.cmd == .stat then [Line.status pm.plug s]
  else if pm.cmd == .off && s == .off then [Line.ok pm.plug]
  else [Line.dep pm.plug pm.cmd s anc]

def keepF (c : Cfg) (anc : Nat) (s : Stat) (ws : List PM) : List PM :=
  if s ≠ .on then ws.filter (fun pm => !descB c anc pm) else ws.filter (fun pm => !(descB c anc pm && directB c anc pm))
def movedF (c : Cfg) (anc : Nat) (s : Stat) (ws : List PM) : List PM :=
  if s ≠ .on then [] else ws.filter (fun pm => descB c anc pm && directB c anc pm)
def linesF (c : Cfg) (anc : Nat) (s : Stat) (ws : List PM) : List Line :=
  if s ≠ .on then (ws.filter (descB c anc)).flatMap (wline anc s) else []

/-- the step function of the first pass, verbatim -/
def pass1Step (c : Cfg) (anc : Nat) (s : Stat) (acc : List PM × List PM × List Line) (pm : PM) :
    List PM × List PM × List Line :=
  let (keep, moved, lines) := acc
  if isDesc c pm.plug anc then
    if s ≠ .on then
      let l := if !pm.output then [] else
        if pm.cmd == .stat then [Line.status pm.plug s]
        else if pm.cmd == .off && s == .off then [Line.ok pm.plug]
        else [Line.dep pm.plug pm.cmd s anc]
      (keep, moved, lines ++ l)
    else if (lookup c pm.plug).bind (·.parent) = some anc then (keep, moved ++ [pm], lines)
    else (keep ++ [pm], moved, lines)
  else (keep ++ [pm], moved, lines)

/-- the step function of the second pass, verbatim -/
def pass2Step (c : Cfg) (anc : Nat) (m : M) (pm : PM) : M :=
  if isDesc c pm.plug anc then
    let child := childOf c pm.plug anc
    if plugActive m child pm.cmd then m
    else { m with active := m.active ++ [{ cmd := .stat, plug := child, output := false, waitState := false }] }
  else m

theorem processWaiters_eq (c : Cfg) (m : M) (anc : Nat) (s : Stat) :
    processWaiters c m anc s =
      (let r := m.waiting.foldl (pass1Step c anc s) ([], [], [])
       let m1 : M := { m with waiting := r.1, active := m.active ++ r.2.1, out := m.out ++ r.2.2 }
       if s ≠ .on then m1 else r.1.foldl (pass2Step c anc) m1) := by
  rfl

theorem pass1_fold (c : Cfg) (anc : Nat) (s : Stat) (ws : List PM) (k mv : List PM) (l : List Line) :
    ws.foldl (pass1Step c anc s) (k, mv, l) = (k ++ keepF c anc s ws, mv ++ movedF c anc s ws, l ++ linesF c anc s ws) := by
  induction ws generalizing k mv l with
  | nil => simp [keepF, movedF, linesF]
  | cons w ws ih =>
    rw [List.foldl_cons]
    by_cases hs : s = .on
    · subst hs
      by_cases hd : isDesc c w.plug anc = true
      · by_cases hp : (lookup c w.plug).bind (·.parent) = some anc
        · have : pass1Step c anc .on (k, mv, l) w = (k, mv ++ [w], l) := by simp [pass1Step, hd, hp]
          rw [this, ih]; simp [keepF, movedF, linesF, descB, directB, hd, hp]
        · have : pass1Step c anc .on (k, mv, l) w = (k ++ [w], mv, l) := by simp [pass1Step, hd, hp]
          rw [this, ih]; simp [keepF, movedF, linesF, descB, directB, hd, hp]
      · have : pass1Step c anc .on (k, mv, l) w = (k ++ [w], mv, l) := by simp [pass1Step, hd]
        rw [this, ih]; simp [keepF, movedF, linesF, descB, directB, hd]
    · by_cases hd : isDesc c w.plug anc = true
      · have : pass1Step c anc s (k, mv, l) w = (k, mv, l ++ wline anc s w) := by
          simp [pass1Step, hd, hs, wline]
        rw [this, ih]; simp [keepF, movedF, linesF, descB, hd, hs]
      · have : pass1Step c anc s (k, mv, l) w = (k ++ [w], mv, l) := by simp [pass1Step, hd]
        rw [this, ih]; simp [keepF, movedF, linesF, descB, hd, hs]

/-- state after the first pass -/
def afterPass1 (c : Cfg) (m : M) (anc : Nat) (s : Stat) : M :=
  { m with waiting := keepF c anc s m.waiting, active := m.active ++ movedF c anc s m.waiting,
           out := m.out ++ linesF c anc s m.waiting }

theorem processWaiters_eq' (c : Cfg) (m : M) (anc : Nat) (s : Stat) :
    processWaiters c m anc s =
      if s ≠ .on then afterPass1 c m anc s
      else (keepF c anc s m.waiting).foldl (pass2Step c anc) (afterPass1 c m anc s) := by
  rw [processWaiters_eq, pass1_fold]
  simp [afterPass1]

def query (x : Nat) : PM := { cmd := .stat, plug := x, output := false, waitState := false }

theorem plugActive_mono (m : M) (x : Nat) (cmd : Cmd) (extra : List PM) (m' : M) (h : m'.active = m.active ++ extra)
    (ha : plugActive m x cmd = true) : plugActive m' x cmd = true := by
  unfold plugActive at *
  rw [h, List.any_append, ha]; rfl

/-- the step that both `send_initial_parent_queries` and the second pass of `process_waiters` take: for a waiter `w`
    selected by `sel`, a status query for the plug `key w` is sent unless that plug is "active" already -/
def queryStep (sel : PM → Bool) (key : PM → Nat) (m : M) (w : PM) : M :=
  if sel w then
    if plugActive m (key w) w.cmd then m else { m with active := m.active ++ [query (key w)] }
  else m

theorem query_fold (sel : PM → Bool) (key : PM → Nat) (ws : List PM) (m : M) :
    ∃ qs, ws.foldl (queryStep sel key) m = { m with active := m.active ++ qs } ∧
      (∀ q ∈ qs, ∃ w ∈ ws, sel w = true ∧ q = query (key w) ∧ plugActive m (key w) w.cmd = false) ∧
      (∀ w ∈ ws, sel w = true → plugActive { m with active := m.active ++ qs } (key w) w.cmd = true) := by
  induction ws generalizing m with
  | nil => exact ⟨[], by simp⟩
  | cons w ws ih =>
    rw [List.foldl_cons]
    by_cases hnew : sel w = true ∧ plugActive m (key w) w.cmd = false
    · have e : queryStep sel key m w = { m with active := m.active ++ [query (key w)] } := by
        simp [queryStep, hnew.1, hnew.2]
      rw [e]
      obtain ⟨qs, e1, h1, h2⟩ := ih { m with active := m.active ++ [query (key w)] }
      refine ⟨query (key w) :: qs, by rw [e1]; simp, ?_, ?_⟩
      · intro q hq
        rcases List.mem_cons.1 hq with rfl | hq
        · exact ⟨w, by simp, hnew.1, rfl, hnew.2⟩
        · obtain ⟨w', hw', r1, r2, r3⟩ := h1 q hq
          refine ⟨w', List.mem_cons_of_mem _ hw', r1, r2, ?_⟩
          -- the query for `key w` can only have made more plugs "active"
          cases hpa : plugActive m (key w') w'.cmd
          · rfl
          · rw [plugActive_mono m _ _ [query (key w)] _ rfl hpa] at r3; cases r3
      · intro w' hw' hs'
        rcases List.mem_cons.1 hw' with rfl | hw'
        · unfold plugActive; simp [query]
        · simpa using h2 w' hw' hs'
    · have e : queryStep sel key m w = m := by
        unfold queryStep
        by_cases hs : sel w = true
        · simp only [hs, if_true]
          cases hpa : plugActive m (key w) w.cmd
          · exact absurd ⟨hs, hpa⟩ hnew
          · rfl
        · simp only [hs, Bool.false_eq_true, if_false]
      rw [e]
      obtain ⟨qs, e1, h1, h2⟩ := ih m
      refine ⟨qs, e1, ?_, ?_⟩
      · intro q hq; obtain ⟨w', hw', r⟩ := h1 q hq; exact ⟨w', List.mem_cons_of_mem _ hw', r⟩
      · intro w' hw' hs'
        rcases List.mem_cons.1 hw' with rfl | hw'
        · cases hpa : plugActive m (key w') w'.cmd
          · exact absurd ⟨hs', hpa⟩ hnew
          · exact plugActive_mono m _ _ qs _ rfl hpa
        · exact h2 w' hw' hs'

theorem pass2_fold (c : Cfg) (anc : Nat) (ws : List PM) (m : M) :
    ∃ qs, ws.foldl (pass2Step c anc) m = { m with active := m.active ++ qs } ∧
      (∀ q ∈ qs, ∃ w ∈ ws, isDesc c w.plug anc = true ∧ q = query (childOf c w.plug anc) ∧
        plugActive m (childOf c w.plug anc) w.cmd = false) ∧
      (∀ w ∈ ws, isDesc c w.plug anc = true →
        plugActive { m with active := m.active ++ qs } (childOf c w.plug anc) w.cmd = true) :=
  query_fold (descB c anc) (fun w => childOf c w.plug anc) ws m

end Pm.Redfish
