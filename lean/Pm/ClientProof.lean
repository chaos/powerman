import Pm.Logic
import Pm.Daemon
/-! The client side below the pass: what `client.c` writes to a client and what one request line does, for C04 (client half),
C06, C11 and C15.

The output is described "the other way round": `render : List Item → Bytes` turns a list of protocol items (a line
`NNN text CRLF`, or the prompt) into bytes, and each function that appends to a client's `toBuf` is shown to append `render items`
for an explicit item list of the right shape.  `_parse_input` is cut into one definition per branch (`plFin` … `plIdle`) and
walked by case lemmas (`plIdle_cases`, `parseLine_split`); `cli_post_poll` is cut into `cliAccept` and `cliStep`; `_handle_input` is
`runLines` over `linesOf`. -/
namespace Pm.Daemon.ClientPf
open Pm Pm.Client
open Pm.Dev2 (Dev Action Stmt Plug Arg ExecCtx PState PResult ActErr RxCall Oracle Env CS getArgs)

/-- what the server sends: a protocol line `NNN␠text\r\n`, or the prompt `powerman> ` -/
inductive Item where
  | line (code : Nat) (text : Bytes)
  | prompt
deriving DecidableEq, Repr

/-- `%3.3d` of a protocol code: exactly three decimal digits -/
def code3 (n : Nat) : Bytes := [(48 + n / 100 % 10).toUInt8, (48 + n / 10 % 10).toUInt8, (48 + n % 10).toUInt8]

def Item.render : Item → Bytes
  | .line c t => code3 c ++ [32] ++ t ++ crlf
  | .prompt => Pm.Daemon.prompt

def render (is : List Item) : Bytes := is.flatMap Item.render

@[simp] theorem render_nil : render [] = [] := rfl
@[simp] theorem render_append (a b : List Item) : render (a ++ b) = render a ++ render b := by
  simp [render, List.flatMap_append]
theorem render_cons (a : Item) (b : List Item) : render (a :: b) = a.render ++ render b := by
  simp [render, List.flatMap_cons]
theorem render_one (a : Item) : render [a] = a.render := by simp [render]

/-- the text of a line is a single protocol line: it contains neither CR nor LF -/
def cleanText (t : Bytes) : Bool := t.all fun b => b != 13 && b != 10
def Item.clean : Item → Bool
  | .line _ t => cleanText t
  | .prompt => true

def Item.code? : Item → Option Nat
  | .line c _ => some c
  | .prompt => none

/-- the item is a line whose code is in `cs` -/
def Item.lineIn (cs : List Nat) : Item → Bool
  | .line c _ => cs.contains c
  | .prompt => false

theorem lineIn_mono {a b : List Nat} (h : ∀ x ∈ a, x ∈ b) (i : Item) (hi : i.lineIn a = true) : i.lineIn b = true := by
  cases i with
  | prompt => simp [Item.lineIn] at hi
  | line c t => simp only [Item.lineIn, List.contains_iff_mem] at hi ⊢; exact h c hi

theorem cleanText_append (a b : Bytes) : cleanText (a ++ b) = (cleanText a && cleanText b) := by
  simp [cleanText, List.all_append]

theorem bstr_data (s : String) : bstr s = s.toUTF8.data.toList := byteArray_toList _

theorem bstr_append (a b : String) : bstr (a ++ b) = bstr a ++ bstr b := by
  simp [bstr_data, String.toUTF8, String.toByteArray_append]

/-- The bytes of a string literal (`rw` unifies one with `String.ofList cs`), read off its characters in one pass.  `bstr`
    itself pushes the bytes into an array one by one and indexes it once per byte; for the kernel both are walks down a
    list, so a fixed string is rewritten with this before it is evaluated. -/
theorem bstr_chars (cs : List Char) : bstr (String.ofList cs) = cs.flatMap String.utf8EncodeChar := utf8_chars cs

/-- for a literal: `cleanText_lit (by decide +kernel)`.  The goal has to be exactly `cleanText (bstr "…") = true`: against
    anything that merely reduces to it the unifier evaluates the literal. -/
theorem cleanText_lit {l : List Char} (h : cleanText (l.flatMap String.utf8EncodeChar) = true) :
    cleanText (bstr (String.ofList l)) = true := by
  rw [bstr_chars]; exact h

/-! `bstr_NNN` reads the text the model writes for code `NNN` as an item.  It has the shape of what the model writes: a whole fixed
    line is `codeLine NNN ++ crlf` there, the head of a line with data `bstr "NNN "`, a line that ends in `ON`/`OFF`
    `bstr "NNN text " ++ …`. -/
theorem bstr_208 : codeLine 208 ++ crlf = render [.line 208 (bstr "Command in progress")] := by
  simp only [codeLine]; repeat rw [bstr_chars]
  decide +kernel
theorem bstr_213 : codeLine 213 ++ crlf = render [.line 213 (bstr "Command cannot be handled by power control device(s)")] := by
  simp only [codeLine]; repeat rw [bstr_chars]
  decide +kernel
theorem bstr_203 : codeLine 203 ++ crlf = render [.line 203 (bstr "Command too long")] := by
  simp only [codeLine]; repeat rw [bstr_chars]
  decide +kernel
theorem bstr_201 : codeLine 201 ++ crlf = render [.line 201 (bstr "Unknown command")] := by
  simp only [codeLine]; repeat rw [bstr_chars]
  decide +kernel
theorem bstr_205 : codeLine 205 ++ crlf = render [.line 205 (bstr "Hostlist error: invalid range")] := by
  simp only [codeLine]; repeat rw [bstr_chars]
  decide +kernel
theorem bstr_101 : codeLine 101 ++ crlf = render [.line 101 (bstr "Goodbye")] := by
  simp only [codeLine]; repeat rw [bstr_chars]
  decide +kernel
theorem bstr_103 : bstr "103 Query complete" ++ crlf = render [.line 103 (bstr "Query complete")] := by
  repeat rw [bstr_chars]
  decide +kernel

/-! ### `parseLine` cut into one definition per branch of `_parse_input` -/

/-- the common exit of `_parse_input`: the reply, then the prompt unless the client has quit -/
def plFin (w : W) (c : Cli) (b : Bytes) : W × Cli := (w, put c (b ++ (if c.quit then [] else prompt)))

def plNodes (w : W) (c : Cli) : W × Cli :=
  match sortHL w.cfg.nodes with
  | .abort => ({ w with exited := true }, c)
  | .fuel => ({ w with exited := true }, c)
  | .ok hl =>
    let body := if c.exprange then (expand hl).flatMap fun n => bstr "307 " ++ ofChars n ++ crlf
                else bstr "306 " ++ ofChars (rangedString hl) ++ crlf
    ({ w with cfg := { w.cfg with nodes := hl } }, put c (body ++ bstr "103 Query complete" ++ crlf ++ (if c.quit then [] else prompt)))

def plTelemetry (w : W) (c : Cli) : W × Cli :=
  let c := { c with telemetry := !c.telemetry }
  plFin w c (bstr "104 Telemetry " ++ bstr (if c.telemetry then "ON" else "OFF") ++ crlf)

def plExprange (w : W) (c : Cli) : W × Cli :=
  let c := { c with exprange := !c.exprange }
  plFin w c (bstr "105 Hostrange expansion " ++ bstr (if c.exprange then "ON" else "OFF") ++ crlf)

def plQuit (w : W) (c : Cli) : W × Cli :=
  let c := put { c with quit := true } (codeLine 101 ++ crlf)
  handleWrite w c

/-- the `sscanf` cascade `on %s` … `beacon %s` -/
def plMatch (str : Bytes) : Option (Com × Bytes) :=
  let try1 (kw : Bytes) (k : Com) : Option (Com × Bytes) := (scan kw str).map fun a => (k, a)
  (try1 kwOn .on).orElse fun _ => (try1 kwOff .off).orElse fun _ => (try1 kwCycle .cycle).orElse fun _ =>
    (try1 kwReset .reset).orElse fun _ => (try1 kwFlash .flash).orElse fun _ => (try1 kwUnflash .unflash).orElse fun _ =>
    (try1 kwStatus .status).orElse fun _ => (try1 kwTemp .temp).orElse fun _ => (try1 kwBeacon .beacon)

def plDevArg (str : Bytes) : Option (Option Bytes) :=
  match scan kwDevice str with
  | some a => some (some a)
  | none => if casePrefix kwDevice str then some none else none

def plDevice (w : W) (c : Cli) (str : Bytes) : W × Cli :=
  match plDevArg str with
  | none => plFin w c (codeLine 201 ++ crlf)
  | some a => match deviceReply w a with
    | none => ({ w with exited := true }, c)
    | some b => plFin w c (b ++ bstr "103 Query complete" ++ crlf)

def plCmd (w : W) (c : Cli) (com : Com) (arg : Bytes) : W × Cli :=
  match createR (toChars arg) with
  | .fatal => ({ w with exited := true }, c)
  | .err => plFin w c (codeLine 205 ++ crlf)
  | .ok hl =>
    let names := expAliases w.cfg.aliases (expand hl)
    let badNames := names.filter fun n => (find w.cfg.nodes n).isNone
    if !badNames.isEmpty then
      plFin w c (bstr "209 No such nodes: " ++ ofChars (rangedString (badNames.foldl pushHost [])) ++ crlf)
    else install w c com names

def plRest (w : W) (c : Cli) (str : Bytes) : W × Cli :=
  match plMatch str with
  | none =>
    if casePrefix kwStatus str then install w c .status (expand w.cfg.nodes)
    else if casePrefix kwTemp str then install w c .temp (expand w.cfg.nodes)
    else if casePrefix kwBeacon str then install w c .beacon (expand w.cfg.nodes)
    else plDevice w c str
  | some (com, arg) => plCmd w c com arg

/-- the part of `_parse_input` reached when no command is in progress -/
def plIdle (w : W) (c : Cli) (str : Bytes) : W × Cli :=
  if casePrefix kwHelp str then plFin w c (helpText ++ bstr "103 Query complete" ++ crlf)
  else if casePrefix kwNodes str then plNodes w c
  else if casePrefix kwTelemetry str then plTelemetry w c
  else if casePrefix kwExprange str then plExprange w c
  else if casePrefix kwQuit str then plQuit w c
  else plRest w c str

/-- the stripped, NUL-cut request string `_parse_input` looks at -/
def reqStr (line : Bytes) : Bytes := stripWs (line.takeWhile (· != 0))

/-- `strlen(str) >= CP_LINEMAX` -/
def TooLong (line : Bytes) : Prop := (reqStr line).length ≥ lineMax

instance (line : Bytes) : Decidable (TooLong line) := inferInstanceAs (Decidable ((reqStr line).length ≥ lineMax))

def parseLine' (w : W) (c : Cli) (line : Bytes) : W × Cli :=
  if TooLong line then plFin w c (codeLine 203 ++ crlf) else
  if c.cmd.isSome then (w, put c (codeLine 208 ++ crlf)) else plIdle w c (reqStr line)

theorem parseLine_eq (w : W) (c : Cli) (line : Bytes) : parseLine w c line = parseLine' w c line := by
  rfl

theorem createR_ne_fatal (s : List Char) : createR s ≠ .fatal := by
  unfold createR
  refine List.foldlRecOn (motive := (· ≠ CR.fatal)) _ _ CR.noConfusion fun acc hacc tok _ => ?_
  cases acc with
  | fatal => exact absurd rfl hacc
  | err => exact hacc
  | ok hl =>
    dsimp only
    repeat' split
    all_goals exact CR.noConfusion

/-! ### `deviceReply`: 304 lines only, and it is lost only through the sort assertion -/

/-- the host list `_make_pluglist_str` sorts for one device -/
def devHosts (d : Dev) : Hostlist := (d.plugs.filterMap fun p => p.node.map toChars).foldl pushHost []

def devText (w : W) (nd : Bytes × Dev) (hl : Hostlist) : Bytes :=
  nd.1 ++ bstr ": state=" ++ bstr (if nd.2.conn == 2 then "connected" else if nd.2.conn == 1 then "connecting" else "disconnected") ++
    bstr " reconnects=" ++ d33 (nd.2.statConnects - 1) ++ bstr " actions=" ++ d33 nd.2.statActions ++ bstr " type=" ++ ((w.specs.lookup nd.1).getD []) ++
    bstr " hosts=" ++ ofChars (rangedString hl)

def devHit (t : Option Hostlist) (d : Dev) : Bool :=
  match t with
  | none => true
  | some hl => d.plugs.any fun p => match p.node with | some n => (find hl (toChars n)).isSome | none => false

def devReplyStep (w : W) (t : Option Hostlist) (acc : Option Bytes) (nd : Bytes × Dev) : Option Bytes :=
      match acc with
      | none => none
      | some bytes =>
        let d := nd.2
        if !devHit t d then some bytes else
        match sortHL (devHosts d) with
        | .abort => none
        | .fuel => none
        | .ok hl =>
          some (bytes ++ bstr "304 " ++ nd.1 ++ bstr ": state=" ++ bstr (if d.conn == 2 then "connected" else if d.conn == 1 then "connecting" else "disconnected") ++
            bstr " reconnects=" ++ d33 (d.statConnects - 1) ++ bstr " actions=" ++ d33 d.statActions ++ bstr " type=" ++ ((w.specs.lookup nd.1).getD []) ++
            bstr " hosts=" ++ ofChars (rangedString hl) ++ crlf)

def devTarg (arg : Option Bytes) : Option Hostlist :=
  match arg with
  | none => none
  | some a => match createR (toChars a) with
    | .ok hl => some hl
    | _ => some []

theorem bstr_304 : bstr "304 " = code3 304 ++ [32] := by decide +kernel

theorem deviceReply_eq (w : W) (arg : Option Bytes) :
    deviceReply w arg = w.devs.foldl (devReplyStep w (devTarg arg)) (some []) := by
  unfold deviceReply
  cases arg with
  | none => rfl
  | some a =>
    simp only [devTarg]
    have := createR_ne_fatal (toChars a)
    cases hc : createR (toChars a) with
    | fatal => exact absurd hc this
    | ok hl => rfl
    | err => rfl

theorem devReplyStep_some (w : W) (t : Option Hostlist) (bytes : Bytes) (nd : Bytes × Dev) :
    devReplyStep w t (some bytes) nd =
      if !devHit t nd.2 then some bytes else
      match sortHL (devHosts nd.2) with
      | .abort => none
      | .fuel => none
      | .ok hl => some (bytes ++ render [.line 304 (devText w nd hl)]) := by
  simp only [devReplyStep, render_one, Item.render, devText, bstr_304, List.append_assoc]

theorem devFold_none_acc (w : W) (t : Option Hostlist) (l : List (Bytes × Dev)) : l.foldl (devReplyStep w t) none = none := by
  induction l with
  | nil => rfl
  | cons a r ih => simpa [devReplyStep] using ih

/-- The fold of `deviceReply` either appends 304 lines only, or loses the reply (and the daemon with it) because sorting
    some device's host list trips the assertion (`SortRes.Died`: the assert, or — in the logic only — the iteration bound
    of the sort mirror). -/
theorem devFold_cases (w : W) (t : Option Hostlist) : ∀ (l : List (Bytes × Dev)) (acc : Bytes) (res : Option Bytes),
    l.foldl (devReplyStep w t) (some acc) = res →
    (∃ items, res = some (acc ++ render items) ∧ ∀ i ∈ items, i.lineIn [304] = true) ∨
    (res = none ∧ ∃ nd ∈ l, (sortHL (devHosts nd.2)).Died) := by
  intro l; induction l with
  | nil =>
    intro acc res h
    exact .inl ⟨[], h.symm.trans (congrArg some (List.append_nil acc).symm), fun _ h => nomatch h⟩
  | cons nd r ih =>
    intro acc res h
    rw [List.foldl_cons, devReplyStep_some] at h
    split at h
    · exact (ih _ _ h).imp_right fun h => ⟨h.1, h.2.imp fun _ hx => ⟨List.mem_cons_of_mem _ hx.1, hx.2⟩⟩
    · split at h
      · exact .inr ⟨h.symm.trans (devFold_none_acc ..), nd, List.mem_cons_self, .inl ‹_›⟩
      · exact .inr ⟨h.symm.trans (devFold_none_acc ..), nd, List.mem_cons_self, .inr ‹_›⟩
      · rename_i hl _
        refine (ih _ _ h).imp (fun ⟨items, hb, hi⟩ =>
            ⟨.line 304 (devText w nd hl) :: items, ?_, List.forall_mem_cons.mpr ⟨rfl, hi⟩⟩)
          fun h => ⟨h.1, h.2.imp fun _ hx => ⟨List.mem_cons_of_mem _ hx.1, hx.2⟩⟩
        rw [hb, List.append_assoc, ← render_append]; rfl

theorem deviceReply_some (w : W) (arg : Option Bytes) (b : Bytes) (h : deviceReply w arg = some b) :
    ∃ items, b = render items ∧ ∀ i ∈ items, i.lineIn [304] = true := by
  rw [deviceReply_eq] at h
  rcases devFold_cases w _ _ _ _ h with ⟨items, he, hi⟩ | ⟨hn, _⟩
  · exact ⟨items, Option.some.inj he, hi⟩
  · cases hn

theorem deviceReply_none (w : W) (arg : Option Bytes) (h : deviceReply w arg = none) :
    ∃ nd ∈ w.devs, (sortHL (devHosts nd.2)).Died := by
  rw [deviceReply_eq] at h
  rcases devFold_cases w _ _ _ _ h with ⟨_, he, _⟩ | ⟨_, hd⟩
  · cases he
  · exact hd

/-! ### the vocabulary of a reply: what reached the client, which codes, which shape -/

/-- bytes handed to `write(2)` on descriptor `fd` in the system-call log -/
def written (ss : List Sys) (fd : Nat) : Bytes :=
  ss.flatMap fun s => match s with | .write f b _ _ => if f == fd then b else [] | _ => []

/-- everything sent to the client so far in this pass: what already went to the descriptor, then what waits in `to` -/
def outOf (w : W) (c : Cli) : Bytes := written w.sys c.fd ++ c.toBuf

theorem written_append (a b : List Sys) (fd : Nat) : written (a ++ b) fd = written a fd ++ written b fd :=
  List.flatMap_append
theorem written_write (fd : Nat) (b : Bytes) (e bl : Bool) : written [Sys.write fd b e bl] fd = b := by
  show (if (fd == fd) = true then b else []) ++ [] = b
  rw [if_pos (beq_self_eq_true fd), List.append_nil]

/-- the codes of the lines `_parse_input` itself writes (`P` for parse), next to `infoCodes` / `termCodes` of the whole protocol -/
def infoCodesP : List Nat := [301, 304, 306, 307]
def termCodesP : List Nat := [101, 103, 104, 105, 201, 203, 205, 208, 209, 213]
/-- lines whose text embeds configuration or request data (names, host ranges); all other lines have fixed text -/
def dataCodesP : List Nat := [304, 306, 307, 209]

/-- every item that does not embed data is a single clean protocol line -/
def FixedClean (dcs : List Nat) (items : List Item) : Prop := ∀ i ∈ items, i.lineIn dcs = false → i.clean = true

theorem FixedClean.append {dcs : List Nat} {a b : List Item} (ha : FixedClean dcs a) (hb : FixedClean dcs b) : FixedClean dcs (a ++ b) := by
  intro i hi; rcases List.mem_append.mp hi with h | h
  · exact ha i h
  · exact hb i h
theorem FixedClean.of_data {dcs : List Nat} {a : List Item} (h : ∀ i ∈ a, i.lineIn dcs = true) : FixedClean dcs a := by
  intro i hi hn; rw [h i hi] at hn; cases hn
theorem FixedClean.of_clean {dcs : List Nat} {a : List Item} (h : ∀ i ∈ a, i.clean = true) : FixedClean dcs a :=
  fun i hi _ => h i hi

/-- `items` is zero or more informational lines with codes in `ics`, then exactly one terminal line with a code in
    `tcs`, then a prompt exactly when `pr code` -/
def Reply (ics tcs : List Nat) (pr : Nat → Bool) (items : List Item) : Prop :=
  ∃ infos code text, items = infos ++ [Item.line code text] ++ (if pr code then [Item.prompt] else []) ∧
    (∀ i ∈ infos, i.lineIn ics = true) ∧ code ∈ tcs

/-- `_parse_input` re-issues the prompt unless the answer was 208 or 101 or the client has quit -/
def promptAfter (quit : Bool) (code : Nat) : Bool := code != 208 && code != 101 && !quit

/-- how the `quit` branch leaves the buffers: `_handle_write` on a blocking descriptor either fails (nothing leaves
    the buffer) or writes the whole buffer, reply included -/
def QuitFlush (w : W) (c : Cli) (r : W × Cli) (items : List Item) : Prop :=
  r.2.quit = true ∧
  ((capOf w c.fd < 0 ∧ r.2.toBuf = c.toBuf ++ render items ∧ r.1.sys = w.sys ++ [Sys.write c.fd [] true false]) ∨
   (¬ capOf w c.fd < 0 ∧ r.2.toBuf = [] ∧
      r.1.sys = w.sys ++ [Sys.write c.fd (c.toBuf ++ render items) false (capOf w c.fd < ((c.toBuf ++ render items).length : Int))]))

/-- what one request line leaves behind, as the properties of the reply stream need it: the daemon gone, a reply of the
    protocol's shape appended to what the client gets, or a command installed and nothing written.  `LineDoes.outcome`
    (`Pm/ClientLine.lean`) reads it off what the line does. -/
inductive LineOutcome (w : W) (c : Cli) (r : W × Cli) : Prop where
  | exit (h : r = ({ w with exited := true }, c))
      (cause : (sortHL w.cfg.nodes).Died ∨ ∃ nd ∈ w.devs, (sortHL (devHosts nd.2)).Died)
  | reply (items : List Item) (shape : Reply infoCodesP termCodesP (promptAfter r.2.quit) items)
      (out : outOf r.1 r.2 = outOf w c ++ render items)
      (buf : (r.2.toBuf = c.toBuf ++ render items ∧ r.1.sys = w.sys) ∨ QuitFlush w c r items)
      (cmd : r.2.cmd = c.cmd) (ex : r.1.exited = w.exited) (clean : FixedClean dataCodesP items)
      (prompted : c.cmd = none → r.2.quit = false → items.getLast? = some Item.prompt)
  | installed (k : CmdC) (idle : c.cmd = none) (cmd : r.2.cmd = some k) (pending : 0 < k.pending) (out : outOf r.1 r.2 = outOf w c)
      (buf : r.2.toBuf = c.toBuf) (sys : r.1.sys = w.sys) (ex : r.1.exited = w.exited)

/-- what `parseLine` never touches on the client and the world -/
structure LineFrame (w : W) (c : Cli) (r : W × Cli) : Prop where
  id : r.2.id = c.id
  fd : r.2.fd = c.fd
  fromBuf : r.2.fromBuf = c.fromBuf
  clients : r.1.clients = w.clients
  fromSize : r.2.fromSize = c.fromSize

theorem FixedClean.line {dcs : List Nat} {code : Nat} {text : Bytes} (h : code ∈ dcs ∨ cleanText text = true) :
    FixedClean dcs [Item.line code text] := by
  intro i hi hn
  obtain rfl := List.mem_singleton.mp hi
  rcases h with h | h
  · rw [Item.lineIn, List.contains_iff_mem.mpr h] at hn; cases hn
  · exact h

/-- generic way to establish the `reply` outcome for the branches that only append to `to`: informational lines, one
    terminal line that is neither 208 nor 101 and whose text is fixed and clean unless its code marks it as data -/
theorem mkReply (w : W) (c0 : Cli) (r : W × Cli) (infos : List Item) (code : Nat) (text : Bytes)
    (hsys : r.1.sys = w.sys) (hex : r.1.exited = w.exited) (hfd : r.2.fd = c0.fd) (hcmd : r.2.cmd = c0.cmd)
    (hbuf : r.2.toBuf = c0.toBuf ++ (render (infos ++ [Item.line code text]) ++ (if r.2.quit then [] else prompt)))
    (hi : ∀ i ∈ infos, i.lineIn infoCodesP = true)
    (hc : code ∈ termCodesP) (h208 : code ≠ 208) (h101 : code ≠ 101)
    (hcl : FixedClean dataCodesP infos) (ht : code ∈ dataCodesP ∨ cleanText text = true) : LineOutcome w c0 r := by
  have hbuf' : r.2.toBuf = c0.toBuf ++ render (infos ++ [Item.line code text] ++ (if promptAfter r.2.quit code then [Item.prompt] else [])) := by
    rw [hbuf]; simp only [promptAfter]
    cases r.2.quit <;> simp [h208, h101, render, Item.render]
  refine .reply _ ⟨infos, code, text, rfl, hi, hc⟩ ?_ (Or.inl ⟨hbuf', hsys⟩) hcmd hex ?_ ?_
  · simp only [outOf, hbuf', hsys, hfd, List.append_assoc]
  · refine (hcl.append (.line ht)).append (.of_clean ?_)
    split
    · exact fun i hi => List.mem_singleton.mp hi ▸ rfl
    · exact fun _ hi => nomatch hi
  · intro _ hq
    simp [promptAfter, hq, h208, h101]

theorem plFin_outcome (w : W) (c0 c : Cli) (b : Bytes) (infos : List Item) (code : Nat) (text : Bytes)
    (h1 : c.toBuf = c0.toBuf) (h2 : c.cmd = c0.cmd) (h3 : c.fd = c0.fd)
    (hb : b = render (infos ++ [Item.line code text])) (hi : ∀ i ∈ infos, i.lineIn infoCodesP = true)
    (hc : code ∈ termCodesP) (h208 : code ≠ 208) (h101 : code ≠ 101)
    (hcl : FixedClean dataCodesP infos) (ht : code ∈ dataCodesP ∨ cleanText text = true) : LineOutcome w c0 (plFin w c b) :=
  mkReply w c0 _ infos code text rfl rfl h3 h2 (by simp only [plFin, put, h1, hb]) hi hc h208 h101 hcl ht

/-! ### the branches: `help`, `nodes`, `telemetry` / `exprange`, `quit`, a command with an argument -/

def helpItems : List Item :=
  ["nodes              - query node list",
   "device [<nodes>]   - query power control device status",
   "status [<nodes>]   - query power status",
   "on <nodes>         - power on",
   "off <nodes>        - power off",
   "cycle <nodes>      - power cycle",
   "reset <nodes>      - hardware reset (if available)",
   "temp [<nodes>]     - query temperature (if available)",
   "beacon [<nodes>]   - query beacon status (if available)",
   "flash <nodes>      - set beacon to ON (if available)",
   "unflash <nodes>    - set beacon to OFF (if available)",
   "telemetry          - toggle telemetry display",
   "exprange           - toggle host range expansion",
   "help               - display help",
   "quit               - logout"].map fun t => Item.line 301 (bstr t)

theorem helpText_eq : helpText = render helpItems := by
  simp only [helpText, helpItems, List.map_cons, List.map_nil, bstr_append]
  repeat rw [bstr_chars]
  decide +kernel
theorem helpItems_info : ∀ i ∈ helpItems, i.lineIn infoCodesP = true := by
  intro i hi; obtain ⟨t, _, rfl⟩ := List.mem_map.mp hi; rfl
theorem helpItems_clean : ∀ i ∈ helpItems, i.clean = true := by
  simp only [helpItems, List.map_cons, List.map_nil]
  repeat rw [bstr_chars]
  decide +kernel

def item103 : Item := .line 103 (bstr "Query complete")

theorem clean_103 : cleanText (bstr "Query complete") = true := by rw [bstr_chars]; decide +kernel

theorem bstr_307 : bstr "307 " = code3 307 ++ [32] := by decide +kernel
theorem bstr_306 : bstr "306 " = code3 306 ++ [32] := by decide +kernel

theorem flatMap_render' {α : Type} (l : List α) (g : α → Bytes) (it : α → List Item) (h : ∀ a, g a = render (it a)) :
    l.flatMap g = render (l.flatMap it) := by
  induction l with
  | nil => rfl
  | cons a r ih => simp only [List.flatMap_cons, render_append, ih, h]

theorem flatMap_render {α : Type} (l : List α) (code : Nat) (pre : Bytes) (hp : pre = code3 code ++ [32]) (f : α → Bytes) :
    (l.flatMap fun n => pre ++ f n ++ crlf) = render (l.map fun n => Item.line code (f n)) := by
  rw [List.map_eq_flatMap]
  exact flatMap_render' l _ _ fun n => by rw [hp, render_one]; rfl

/-- the items of a `nodes` reply -/
def nodesItems (exprange : Bool) (hl : Hostlist) : List Item :=
  if exprange then (expand hl).map fun n => Item.line 307 (ofChars n) else [Item.line 306 (ofChars (rangedString hl))]

theorem nodesItems_codes (e : Bool) (hl : Hostlist) : ∀ i ∈ nodesItems e hl, i.lineIn [306, 307] = true := by
  intro i hi; unfold nodesItems at hi
  split at hi
  · obtain ⟨n, _, rfl⟩ := List.mem_map.mp hi; rfl
  · obtain rfl := List.mem_singleton.mp hi; rfl

theorem nodesItems_info (e : Bool) (hl : Hostlist) : ∀ i ∈ nodesItems e hl, i.lineIn infoCodesP = true :=
  fun i hi => lineIn_mono (by decide) i (nodesItems_codes e hl i hi)

theorem nodesBody_eq (e : Bool) (hl : Hostlist) :
    (if e then (expand hl).flatMap fun n => bstr "307 " ++ ofChars n ++ crlf
                else bstr "306 " ++ ofChars (rangedString hl) ++ crlf) = render (nodesItems e hl) := by
  unfold nodesItems
  split
  · exact flatMap_render _ 307 _ bstr_307 _
  · simp [render, Item.render, bstr_306]

theorem bstr_104 (b : Bool) : bstr "104 Telemetry " ++ bstr (if b then "ON" else "OFF") ++ crlf =
    render [Item.line 104 (bstr "Telemetry " ++ bstr (if b then "ON" else "OFF"))] := by
  have h : bstr "104 Telemetry " = code3 104 ++ [32] ++ bstr "Telemetry " := by
    repeat rw [bstr_chars]
    decide +kernel
  simp only [render_one, Item.render, h, List.append_assoc]
theorem bstr_105 (b : Bool) : bstr "105 Hostrange expansion " ++ bstr (if b then "ON" else "OFF") ++ crlf =
    render [Item.line 105 (bstr "Hostrange expansion " ++ bstr (if b then "ON" else "OFF"))] := by
  have h : bstr "105 Hostrange expansion " = code3 105 ++ [32] ++ bstr "Hostrange expansion " := by
    repeat rw [bstr_chars]
    decide +kernel
  simp only [render_one, Item.render, h, List.append_assoc]

theorem onoff_cleanText (pre : String) (hp : cleanText (bstr pre) = true) (b : Bool) :
    cleanText (bstr pre ++ bstr (if b then "ON" else "OFF")) = true := by
  rw [cleanText_append, hp]
  cases b <;> decide +kernel

abbrev item101 : Item := .line 101 (bstr "Goodbye")

theorem render_ne_nil (i : Item) (r : List Item) : render (i :: r) ≠ [] := by
  cases i with
  | line c t => simp [render_cons, Item.render, code3]
  | prompt => simp [render_cons, Item.render]; intro h; exact absurd h (by decide +kernel)

/-- the `quit` branch: `101 Goodbye`, no prompt, and `_handle_write` on the now blocking descriptor -/
structure QuitSpec (w : W) (c : Cli) (r : W × Cli) : Prop where
  flush : QuitFlush w c r [item101]
  cmd : r.2.cmd = c.cmd
  exited : r.1.exited = w.exited
  frame : LineFrame w c r

/-- `_handle_write` for a client that has quit and has something to send: the descriptor is made blocking, and the write
    either fails or takes the whole buffer. -/
theorem handleWrite_blocking (w : W) (c : Cli) (hq : c.quit = true) (hne : c.toBuf ≠ []) :
    handleWrite w c =
      if capOf w c.fd < 0 then
        ({ w with sys := w.sys ++ [.write c.fd [] true false] }, { c with blocking := true, quit := true })
      else
        (setCap { w with sys := w.sys ++ [.write c.fd c.toBuf false (capOf w c.fd < c.toBuf.length)] } c.fd
          (if capOf w c.fd < c.toBuf.length then 0 else capOf w c.fd - c.toBuf.length),
         { c with blocking := true, toBuf := [] }) := by
  have he : c.toBuf.isEmpty = false := by
    cases h : c.toBuf with
    | nil => exact absurd h hne
    | cons _ _ => rfl
  unfold handleWrite
  simp only [hq, if_true, he, Bool.false_eq_true, if_false]

theorem plQuit_spec (w : W) (c : Cli) : QuitSpec w c (plQuit w c) := by
  have hne : c.toBuf ++ render [item101] ≠ [] := fun h => render_ne_nil item101 [] (List.append_eq_nil_iff.mp h).2
  unfold plQuit
  rw [bstr_101, handleWrite_blocking w _ rfl hne]
  exact ite_cases (P := QuitSpec w c)
    (fun hcap => ⟨⟨rfl, .inl ⟨hcap, rfl, rfl⟩⟩, rfl, rfl, ⟨rfl, rfl, rfl, rfl, rfl⟩⟩)
    fun hcap => ⟨⟨rfl, .inr ⟨hcap, rfl, rfl⟩⟩, rfl, rfl, ⟨rfl, rfl, rfl, rfl, rfl⟩⟩

theorem QuitFlush.out {w : W} {c : Cli} {r : W × Cli} {items : List Item} (h : QuitFlush w c r items) (hfd : r.2.fd = c.fd) :
    outOf r.1 r.2 = outOf w c ++ render items := by
  obtain ⟨_, ⟨_, hb, hs⟩ | ⟨_, hb, hs⟩⟩ := h <;>
    simp [outOf, hb, hs, hfd, written_append, written_write]

theorem plQuit_outcome (w : W) (c : Cli) : LineOutcome w c (plQuit w c) := by
  obtain ⟨hq, hcmd, hex, hfr⟩ := plQuit_spec w c
  refine .reply [item101] ⟨[], 101, bstr "Goodbye", ?_, by simp, by decide⟩ (hq.out hfr.fd) (Or.inr hq) hcmd hex
    (.line (.inr (by rw [bstr_chars]; decide +kernel))) ?_
  · simp [promptAfter, item101]
  · intro _ h; rw [hq.1] at h; cases h

abbrev item213 : Item := .line 213 (bstr "Command cannot be handled by power control device(s)")

theorem bstr_209 : bstr "209 No such nodes: " = code3 209 ++ [32] ++ bstr "No such nodes: " := by
  repeat rw [bstr_chars]
  decide +kernel

/-- `_hostlist_create_validated` and what follows: a malformed range is answered 205, names that are not configured nodes
    209, and otherwise the command is installed on the expanded target list -/
theorem plCmd_cases (w : W) (c : Cli) (com : Com) (arg : Bytes) :
    plCmd w c com arg = plFin w c (codeLine 205 ++ crlf) ∨
    ∃ hl, createR (toChars arg) = .ok hl ∧
      (plCmd w c com arg = plFin w c (bstr "209 No such nodes: " ++ ofChars (rangedString
          (((expAliases w.cfg.aliases (expand hl)).filter fun n => (find w.cfg.nodes n).isNone).foldl pushHost [])) ++ crlf) ∨
       (∀ n ∈ expAliases w.cfg.aliases (expand hl), (find w.cfg.nodes n).isSome = true) ∧
        plCmd w c com arg = install w c com (expAliases w.cfg.aliases (expand hl))) := by
  unfold plCmd
  split
  · rename_i h; exact absurd h (createR_ne_fatal _)
  · exact .inl rfl
  · rename_i hl hcr
    refine .inr ⟨hl, hcr, ?_⟩
    dsimp only
    split
    · exact .inl rfl
    · rename_i hbad
      refine .inr ⟨fun n hn => ?_, rfl⟩
      have hall : ∀ a ∈ expAliases w.cfg.aliases (expand hl), ¬ find w.cfg.nodes a = none := by simpa using hbad
      cases hf : find w.cfg.nodes n with
      | some i => rfl
      | none => exact absurd hf (hall n hn)

/-! ### the cascade of `_parse_input` as case lemmas -/

/-- Which branch of `_parse_input` an idle client's request takes depends on the request string alone.  So whatever holds
    of each branch, as a way of transforming world and client, holds of `plIdle … str`; the cascade behind the five
    commands without argument (`plRest`) is reached when the string is none of them. -/
theorem plIdle_split (str : Bytes) {P : (W → Cli → W × Cli) → Prop}
    (help : P fun w c => plFin w c (helpText ++ bstr "103 Query complete" ++ crlf))
    (nodes : P plNodes) (telemetry : P plTelemetry) (exprange : P plExprange) (quit : P plQuit)
    (rest : casePrefix kwHelp str = false → casePrefix kwNodes str = false → casePrefix kwTelemetry str = false →
      casePrefix kwExprange str = false → casePrefix kwQuit str = false → P fun w c => plRest w c str) :
    P fun w c => plIdle w c str := by
  unfold plIdle
  by_cases h1 : casePrefix kwHelp str = true
  · simpa only [h1, if_true] using help
  by_cases h2 : casePrefix kwNodes str = true
  · simpa only [h1, h2, if_true, if_false, Bool.false_eq_true] using nodes
  by_cases h3 : casePrefix kwTelemetry str = true
  · simpa only [h1, h2, h3, if_true, if_false, Bool.false_eq_true] using telemetry
  by_cases h4 : casePrefix kwExprange str = true
  · simpa only [h1, h2, h3, h4, if_true, if_false, Bool.false_eq_true] using exprange
  by_cases h5 : casePrefix kwQuit str = true
  · simpa only [h1, h2, h3, h4, h5, if_true, if_false, Bool.false_eq_true] using quit
  simpa only [h1, h2, h3, h4, h5, if_false, Bool.false_eq_true] using
    rest (Bool.eq_false_iff.mpr h1) (Bool.eq_false_iff.mpr h2) (Bool.eq_false_iff.mpr h3) (Bool.eq_false_iff.mpr h4) (Bool.eq_false_iff.mpr h5)

/-- the `sscanf` cascade and what follows it: a command with an argument; a bare `status`/`temp`/`beacon`; or the `device`
    query / unknown command — each told how it was reached -/
theorem plRest_cases (str : Bytes) {P : (W → Cli → W × Cli) → Prop}
    (all : plMatch str = none → (casePrefix kwStatus str || casePrefix kwTemp str || casePrefix kwBeacon str) = true →
      ∀ com, isQuery (comIdx com) = true → P fun w c => install w c com (expand w.cfg.nodes))
    (device : plMatch str = none → (casePrefix kwStatus str || casePrefix kwTemp str || casePrefix kwBeacon str) = false →
      P fun w c => plDevice w c str)
    (cmd : ∀ com arg, plMatch str = some (com, arg) → P fun w c => plCmd w c com arg) :
    P fun w c => plRest w c str := by
  unfold plRest
  cases hm : plMatch str with
  | some p => exact cmd p.1 p.2 hm
  | none =>
    dsimp only
    by_cases h6 : casePrefix kwStatus str = true
    · simpa only [h6, if_true] using all hm (by simp [h6]) .status rfl
    by_cases h7 : casePrefix kwTemp str = true
    · simpa only [h6, h7, if_true, if_false, Bool.false_eq_true] using all hm (by simp [h7]) .temp rfl
    by_cases h8 : casePrefix kwBeacon str = true
    · simpa only [h6, h7, h8, if_true, if_false, Bool.false_eq_true] using all hm (by simp [h8]) .beacon rfl
    simpa only [h6, h7, h8, if_false, Bool.false_eq_true] using device hm (by simp [h6, h7, h8])

theorem plIdle_cases (str : Bytes) {P : (W → Cli → W × Cli) → Prop}
    (help : P fun w c => plFin w c (helpText ++ bstr "103 Query complete" ++ crlf))
    (nodes : P plNodes) (telemetry : P plTelemetry) (exprange : P plExprange) (quit : P plQuit)
    (all : ∀ com, isQuery (comIdx com) = true → P fun w c => install w c com (expand w.cfg.nodes))
    (device : P fun w c => plDevice w c str)
    (cmd : ∀ com arg, plMatch str = some (com, arg) → P fun w c => plCmd w c com arg) :
    P fun w c => plIdle w c str :=
  plIdle_split str help nodes telemetry exprange quit fun _ _ _ _ _ =>
    plRest_cases str (fun _ _ => all) (fun _ _ => device) cmd

abbrev item208 : Item := .line 208 (bstr "Command in progress")

/-- C11 one-command rule: while a command is in progress a request line is answered `208` and nothing else in the
    world changes -/
theorem parseLine_busy (w : W) (c : Cli) (line : Bytes) (h : c.cmd.isSome = true) (hs : ¬ TooLong line) :
    parseLine w c line = (w, put c (render [item208])) := by
  rw [parseLine_eq]; unfold parseLine'; rw [if_neg hs, if_pos h, bstr_208]

abbrev item203 : Item := .line 203 (bstr "Command too long")

/-- `CP_ERR_TOOLONG`: a line whose stripped text has `CP_LINEMAX` bytes or more is answered `203 Command too long` and —
    the branch falls through to the end of `_parse_input` — the prompt (unless the client has quit), whatever the
    client's state, also with a command in progress; nothing else changes, neither in the client nor in the world -/
theorem parseLine_tooLong (w : W) (c : Cli) (line : Bytes) (h : TooLong line) :
    parseLine w c line = (w, put c (render [item203] ++ (if c.quit then [] else prompt))) := by
  rw [parseLine_eq]; unfold parseLine'; rw [if_pos h, bstr_203]; rfl

theorem busy_outcome (w : W) (c : Cli) (hb : c.cmd.isSome = true) : LineOutcome w c (w, put c (render [item208])) := by
  refine .reply [item208] ⟨[], 208, bstr "Command in progress", ?_, by simp, by decide⟩ ?_ (Or.inl ⟨rfl, rfl⟩) rfl rfl
    (.line (.inr (by rw [bstr_chars]; decide +kernel))) ?_
  · simp [promptAfter]
  · simp [outOf, put]
  · intro h; rw [h] at hb; cases hb

/-- the three ways through `_parse_input`: the line is too long, a command is in progress, or the request is looked at -/
theorem parseLine_split {P : W × Cli → Prop} (w : W) (c : Cli) (line : Bytes)
    (long : TooLong line → P (plFin w c (codeLine 203 ++ crlf)))
    (busy : ¬ TooLong line → c.cmd.isSome = true → P (w, put c (codeLine 208 ++ crlf)))
    (idle : ¬ TooLong line → c.cmd = none → P (plIdle w c (reqStr line))) : P (parseLine w c line) := by
  rw [parseLine_eq]; unfold parseLine'
  by_cases hl : TooLong line
  · rw [if_pos hl]; exact long hl
  rw [if_neg hl]
  by_cases hb : c.cmd.isSome = true
  · rw [if_pos hb]; exact busy hl hb
  · rw [if_neg hb]; exact idle hl (by simpa using hb)

/-! a concrete family of lines for the non-vacuity examples: `n` times `x`, then LF -/

theorem takeWhile_all {p : UInt8 → Bool} (l : Bytes) (h : ∀ a ∈ l, p a = true) : l.takeWhile p = l := by
  induction l with
  | nil => rfl
  | cons a r ih => rw [List.takeWhile_cons_of_pos (h a (by simp)), ih (fun x hx => h x (by simp [hx]))]

/-- a request line made of `pre` (no NUL, not starting with white space), then `k + 1` times `x`, then LF: what
    `_parse_input` looks at is the line without the LF -/
theorem _root_.Pm.Daemon.Enq.strip_long (pre : Bytes) (k : Nat) (h0 : ∀ a ∈ pre, (a != 0) = true) (hs : isSpace (pre.headD 120) = false) :
    stripWs ((pre ++ List.replicate (k + 1) 120 ++ [10]).takeWhile (· != 0)) = pre ++ List.replicate (k + 1) 120 := by
  rw [takeWhile_all _ (by
    intro a ha
    simp only [List.mem_append, List.mem_replicate, List.mem_singleton] at ha
    rcases ha with (ha | ⟨_, rfl⟩) | rfl
    · exact h0 a ha
    · decide
    · decide)]
  unfold stripWs
  have h1 : (pre ++ List.replicate (k + 1) 120 ++ [10]).dropWhile isSpace = pre ++ List.replicate (k + 1) 120 ++ [10] := by
    cases pre with
    | nil => rw [List.replicate_succ]; exact List.dropWhile_cons_of_neg (by decide)
    | cons a r => exact List.dropWhile_cons_of_neg (by rw [show isSpace a = false from hs]; decide)
  rw [h1, List.reverse_append, List.reverse_append, List.reverse_replicate]
  have h2 : ([10] : Bytes).reverse ++ (List.replicate (k + 1) 120 ++ pre.reverse) = 10 :: 120 :: (List.replicate k 120 ++ pre.reverse) := by
    rw [List.replicate_succ]; rfl
  rw [h2, List.dropWhile_cons_of_pos (by decide), List.dropWhile_cons_of_neg (by decide)]
  rw [← List.cons_append, ← List.replicate_succ, List.reverse_append, List.reverse_reverse, List.reverse_replicate]

theorem reqStr_xs (n : Nat) : reqStr (List.replicate n 120 ++ [10]) = List.replicate n 120 := by
  cases n with
  | zero => decide
  | succ k => exact Enq.strip_long [] k (fun _ h => nomatch h) rfl

theorem tooLong_xs (n : Nat) : TooLong (List.replicate n 120 ++ [10]) ↔ n ≥ 131072 := by
  unfold TooLong; rw [reqStr_xs, List.length_replicate]; rfl

/-! ### a text cut at its first CR or LF -/

theorem mem_takeWhile_holds {α} (p : α → Bool) (l : List α) (b : α) (hb : b ∈ l.takeWhile p) : p b = true := by
  induction l with
  | nil => simp at hb
  | cons x xs ih =>
    simp only [List.takeWhile_cons] at hb
    split at hb
    · rcases List.mem_cons.mp hb with rfl | h
      · assumption
      · exact ih h
    · simp at hb

theorem takeWhile_clean (s : Bytes) : cleanText (s.takeWhile fun b => b != 13 && b != 10) = true :=
  List.all_eq_true.mpr fun b hb => mem_takeWhile_holds _ s b hb

/-! ### `cli_post_poll` cut into the `accept` and one step per client -/

/-- the client `_create_client_socket` makes -/
def newClient (w : W) : Cli :=
  { id := w.nextId, fd := 1000 + w.nacc, toBuf := bstr "001 " ++ w.cfg.version ++ crlf ++ prompt }

/-- the `accept` part of `cli_post_poll` -/
def cliAccept (w : W) (acc : Nat) : W :=
  if acc == 1 then
    { w with clients := w.clients ++ [newClient w], nextId := w.nextId + 1, nacc := w.nacc + 1, sys := w.sys ++ [Sys.accept (1000 + w.nacc : Nat)] }
  else if acc == 2 then { w with nextId := w.nextId + 1, sys := w.sys ++ [Sys.accept (-1)] }
  else w

/-- the per-client part of `cli_post_poll` -/
def cliStep (envs : List FdEnv) (w : W) (c0 : Cli) : W :=
  if w.exited then w else
  let (w', r) := clientPass w c0 (envs.find? (·.fd == c0.fd))
  match r with
  | some c => { w' with clients := w'.clients.map fun (x : Cli) => if x.id == c.id then c else x }
  | none => { w' with clients := w'.clients.filter fun (x : Cli) => x.id != c0.id }

theorem cliPostPoll_eq (w : W) (acc : Nat) (envs : List FdEnv) :
    cliPostPoll w acc envs =
      (cliAccept { w with sys := [], caps := envs.map fun (e : FdEnv) => (e.fd, e.cap) } acc).clients.foldl (cliStep envs)
        (cliAccept { w with sys := [], caps := envs.map fun (e : FdEnv) => (e.fd, e.cap) } acc) := rfl

theorem bstr_001 : bstr "001 " = code3 1 ++ [32] := by decide +kernel

theorem newClient_banner (w : W) : (newClient w).toBuf = render [Item.line 1 w.cfg.version, Item.prompt] := by
  simp [newClient, render, Item.render, bstr_001]

/-! ### `_handle_input`: exactly the complete lines, in order -/

/-- the complete lines (each with its terminating LF) and the unterminated rest -/
def linesOf : Bytes → List Bytes × Bytes
  | [] => ([], [])
  | b :: r =>
    if b == 10 then ([b] :: (linesOf r).1, (linesOf r).2)
    else match (linesOf r).1 with
      | [] => ([], b :: (linesOf r).2)
      | l :: ls => ((b :: l) :: ls, (linesOf r).2)

theorem linesOf_flatten (b : Bytes) : (linesOf b).1.flatten ++ (linesOf b).2 = b := by
  induction b with
  | nil => rfl
  | cons x r ih =>
    unfold linesOf
    split
    · simpa using ih
    · split
      · rename_i h; rw [h] at ih; simpa using ih
      · rename_i l ls h; rw [h] at ih; simpa using ih

theorem linesOf_tail (b : Bytes) : 10 ∉ (linesOf b).2 := by
  induction b with
  | nil => simp [linesOf]
  | cons x r ih =>
    unfold linesOf
    split
    · exact ih
    · rename_i hx
      split
      · simp only [List.mem_cons, not_or]; exact ⟨fun h => hx (by simp [← h]), ih⟩
      · exact ih

theorem linesOf_line (b : Bytes) : ∀ l ∈ (linesOf b).1, ∃ body, l = body ++ [10] ∧ 10 ∉ body := by
  induction b with
  | nil => simp [linesOf]
  | cons x r ih =>
    unfold linesOf
    split
    · rename_i hx
      intro l hl; simp only [List.mem_cons] at hl
      rcases hl with rfl | hl
      · exact ⟨[], by simp at hx; simp [hx], by simp⟩
      · exact ih l hl
    · rename_i hx
      split
      · simp
      · rename_i l0 ls h; rw [h] at ih
        intro l hl; simp only [List.mem_cons] at hl
        rcases hl with rfl | hl
        · obtain ⟨body, hb, hn⟩ := ih l0 (by simp)
          refine ⟨x :: body, by simp [hb], ?_⟩
          simp only [List.mem_cons, not_or]; exact ⟨fun h => hx (by simp [← h]), hn⟩
        · exact ih l (by simp [hl])

theorem linesOf_idx (b : Bytes) :
    (b.idxOf? 10 = none → linesOf b = ([], b)) ∧
    (∀ i, b.idxOf? 10 = some i → linesOf b = (b.take (i + 1) :: (linesOf (b.drop (i + 1))).1, (linesOf (b.drop (i + 1))).2)) := by
  induction b with
  | nil => simp [linesOf, List.idxOf?]
  | cons x r ih =>
    obtain ⟨ih1, ih2⟩ := ih
    simp only [List.idxOf?, List.findIdx?_cons] at ih1 ih2 ⊢
    by_cases hx : (x == 10) = true
    · simp only [hx, if_true]
      constructor
      · intro h; cases h
      · intro i hi; cases hi; simp [linesOf, hx]
    · simp only [hx]
      constructor
      · intro h
        have : List.findIdx? (fun y => y == 10) r = none := by
          cases hh : List.findIdx? (fun y => y == 10) r with
          | none => rfl
          | some j => rw [hh] at h; simp at h
        rw [linesOf, if_neg hx, ih1 this]
      · intro i hi
        cases hh : List.findIdx? (fun y => y == 10) r with
        | none => rw [hh] at hi; simp at hi
        | some j =>
          rw [hh] at hi; simp at hi; subst hi
          rw [linesOf, if_neg hx, ih2 j hh]
          simp

/-- `_handle_input` as a fold of `_parse_input` over a list of lines; the line is taken out of `from` before it is parsed -/
def runLines : W → Cli → List Bytes → W × Cli
  | w, c, [] => (w, c)
  | w, c, l :: ls =>
    if w.exited then (w, c) else
    runLines (parseLine w { c with fromBuf := c.fromBuf.drop l.length } l).1 (parseLine w { c with fromBuf := c.fromBuf.drop l.length } l).2 ls

theorem runLines_exited (w : W) (c : Cli) (ls : List Bytes) (h : w.exited = true) : runLines w c ls = (w, c) := by
  cases ls <;> simp [runLines, h]

theorem render_item203 : render [item203] = bstr "203 Command too long\r\n" := by rw [bstr_chars]; decide +kernel
theorem render_item208 : render [item208] = bstr "208 Command in progress\r\n" := by rw [bstr_chars]; decide +kernel

end Pm.Daemon.ClientPf
