import Pm.RedfishLines
import Pm.RedfishSpec
/-! The three classes of targets (unknown, root, child); the books when the loop starts and when it has ended. -/
namespace Pm.Redfish

/-- the plug a line is about -/
def linePlug : Line → Nat
  | .status p _ => p
  | .ok p => p
  | .unknown p => p
  | .dep p _ _ _ => p
  | .phased p => p

/-- is this the `unknown plug specified` line? -/
def isUnk : Line → Bool
  | .unknown _ => true
  | _ => false

/-- "a parent and its child were both asked to be turned on" as `runCmd` evaluates it -/
def phasedT (c : Cfg) (st : St) (cmd : Cmd) (ts : List Nat) : Bool :=
  !(enq c st cmd ts).waiting.isEmpty && phasedB c cmd (enq c st cmd ts)

theorem setup_phased {c : Cfg} {st : St} {cmd : Cmd} {ts : List Nat} (h : phasedT c st cmd ts = true) :
    setup c cmd (enq c st cmd ts) =
      { enq c st cmd ts with
        out := (enq c st cmd ts).out ++ ((enq c st cmd ts).active ++ (enq c st cmd ts).waiting).map (fun pm => Line.phased pm.plug),
        active := [], waiting := [] } := by
  unfold phasedT at h
  simp only [Bool.and_eq_true, Bool.not_eq_true'] at h
  unfold setup afterPhased
  simp [h.1, h.2]

theorem setup_plain {c : Cfg} {st : St} {cmd : Cmd} {ts : List Nat} (h : phasedT c st cmd ts = false) :
    ∃ qs, setup c cmd (enq c st cmd ts) = { enq c st cmd ts with active := (enq c st cmd ts).active ++ qs } ∧
      ∀ q ∈ qs, ∃ w ∈ (enq c st cmd ts).waiting, q = query (rootOf c w.plug) ∧
        plugActive (enq c st cmd ts) (rootOf c w.plug) w.cmd = false := by
  unfold phasedT at h
  unfold setup afterPhased
  by_cases he : (enq c st cmd ts).waiting.isEmpty = true
  · exact ⟨[], by simp [he], by simp⟩
  · simp only [he, Bool.not_false, Bool.true_and] at h
    simp only [he, h, Bool.false_eq_true, if_false]
    obtain ⟨qs, e, h1, _⟩ := root_fold c (enq c st cmd ts).waiting (enq c st cmd ts)
    exact ⟨qs, e, h1⟩

theorem classes (c : Cfg) (t : Nat) :
    (known c t = false ∧ isRootT c t = false ∧ isChildT c t = false) ∨
    (known c t = true ∧ isRootT c t = true ∧ isChildT c t = false) ∨
    (known c t = true ∧ isRootT c t = false ∧ isChildT c t = true) := by
  unfold isRootT isChildT known parentOf
  cases hl : lookup c t with
  | none => simp
  | some pc => cases hp : pc.parent <;> simp [hp]

section
variable (lab : Nat → Line)

theorem owed_mk (x : Line) (cmd : Cmd) (l : List Nat) :
    owed lab x (l.map (mk cmd)) = l.countP (fun t => lab t == x) := by
  unfold owed; rw [List.countP_map]; congr 1

theorem total_setup {c : Cfg} {st : St} {cmd : Cmd} {ts : List Nat} (h : phasedT c st cmd ts = false) (x : Line) :
    total lab x (setup c cmd (enq c st cmd ts)).active (setup c cmd (enq c st cmd ts)) =
      printed x ((ts.filter (fun t => !known c t)).map Line.unknown) +
      (ts.filter (isRootT c)).countP (fun t => lab t == x) + (ts.filter (isChildT c)).countP (fun t => lab t == x) := by
  obtain ⟨qs, e, hq⟩ := setup_plain h
  rw [e, enq_eq]
  have hqs : owed lab x qs = 0 := by
    unfold owed; rw [List.countP_eq_zero]
    intro q hq'; obtain ⟨w, _, rfl, _⟩ := hq q hq'; simp [query]
  simp only [total, owed_append, hqs, owed_mk]
  simp [owed]

end

theorem total_done (lab : Nat → Line) (x : Line) (m : M) (h : isDone m = true) :
    total lab x m.active m = printed x m.out := by
  unfold isDone at h
  simp only [Bool.and_eq_true, List.isEmpty_iff] at h
  simp [total, owed, h.1.1, h.1.2, h.2]

theorem runLoop_idle (c : Cfg) (f : Nat) (m : M) (h : isDone m = true) : runLoop c f m = m := by
  cases f with
  | zero => rfl
  | succ f => rw [runLoop_succ]; simp [h]

theorem count_known (c : Cfg) (f : Nat → Bool) (ts : List Nat) :
    (knownT c ts).countP f = (ts.filter (isRootT c)).countP f + (ts.filter (isChildT c)).countP f := by
  unfold knownT
  induction ts with
  | nil => rfl
  | cons t ts ih =>
    have hk : (lookup c t).isSome = known c t := rfl
    rcases classes c t with ⟨h1, h2, h3⟩ | ⟨h1, h2, h3⟩ | ⟨h1, h2, h3⟩ <;>
      simp [List.countP_cons, hk, h1, h2, h3, ih] <;> omega

theorem unknownLines_eq (c : Cfg) (ts : List Nat) :
    unknownLines c ts = (ts.filter (fun t => !known c t)).map Line.unknown := by
  unfold unknownLines
  congr 1
  apply List.filter_congr
  intro t _
  unfold known
  cases lookup c t <;> rfl

theorem split_known (c : Cfg) (ts : List Nat) (f : Nat → Line) (hf : ∀ t, known c t = false → f t = .unknown t) :
    (ts.map f).Perm (unknownLines c ts ++ (knownT c ts).map f) := by
  have e : unknownLines c ts = (ts.filter fun t => !known c t).map f := by
    rw [unknownLines_eq]
    exact List.map_congr_left fun t ht => (hf t (by simpa using (List.mem_filter.1 ht).2)).symm
  rw [e, ← List.map_append]
  exact ((List.perm_append_comm.trans (List.filter_append_perm (known c) ts)).map f).symm

/-- A command that is not refused, under an invariant that justifies every line by `lab`: when the loop has ended the
    machine has printed the `unknown plug` lines and `lab` of every known target, nothing waits, and the invariant
    holds of what is left -/
theorem runLoop_books {c : Cfg} (hw : WF c = true) {lab : Nat → Line} {Inv : List PM → List PM → List PM → M → Prop}
    (J : Justifies lab c Inv) (st : St) (cmd : Cmd) (ts : List Nat) (hph : phasedT c st cmd ts = false)
    (h0 : RoundStart Inv (setup c cmd (enq c st cmd ts))) :
    (runLoop c (fuelOf c ts) (setup c cmd (enq c st cmd ts))).out.Perm (unknownLines c ts ++ (knownT c ts).map lab) ∧
    (runLoop c (fuelOf c ts) (setup c cmd (enq c st cmd ts))).waiting = [] ∧
    Inv [] [] [] { runLoop c (fuelOf c ts) (setup c cmd (enq c st cmd ts)) with active := [], delayed := [] } := by
  have hdone := runCmd_done hw st cmd ts
  rw [runCmd_eq] at hdone
  simp only at hdone
  refine ⟨?_, ?_, ?_⟩
  · rw [List.perm_iff_count]
    intro x
    have hb := (loop_books lab J (fuelOf c ts) _ h0).2 x
    rw [total_done _ _ _ hdone, total_setup _ hph] at hb
    rw [List.count_eq_countP, List.count_eq_countP, List.countP_append, List.countP_map, unknownLines_eq, count_known]
    simp only [printed] at hb
    rw [hb]
    simp only [Function.comp_def, Nat.add_assoc]
  · simp only [isDone, Bool.and_eq_true, List.isEmpty_iff] at hdone; exact hdone.2
  · have := (loop_books lab J (fuelOf c ts) _ h0).1
    unfold RoundStart at this
    simp only [isDone, Bool.and_eq_true, List.isEmpty_iff] at hdone
    rw [hdone.1.1, hdone.1.2] at this
    exact this

end Pm.Redfish
