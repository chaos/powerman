/-! Small facts several layers use: `ite_cases`, and two about core data (`utf8_chars`, over `byteArray_toList`, and `lookup_filter`:
    each says above itself what it is for).

    `ite_cases`: a property of both branches of a conditional is a property of the conditional.  Walking the `if` cascade of a
    model function with `refine ite_cases (fun h => ?_) (fun h => ?_)` keeps the goal in the form `P (…)`; `split` on a goal that
    mentions one of the big state records re-abstracts the whole goal at every step and costs a hundred times as much to check. -/
namespace Pm

theorem ite_cases {α : Sort _} {P : α → Prop} {p : Prop} [Decidable p] {a b : α} (ha : p → P a) (hb : ¬p → P b) :
    P (if p then a else b) := by
  split
  · exact ha ‹p›
  · exact hb ‹¬p›

theorem toList_loop_eq (bs : ByteArray) : ∀ n i r, bs.size - i = n →
    ByteArray.toList.loop bs i r = r.reverse ++ bs.data.toList.drop i := by
  have hsz : bs.size = bs.data.toList.length := by
    rw [Array.length_toList]; rfl
  intro n; induction n with
  | zero =>
    intro i r h
    rw [ByteArray.toList.loop]
    have : ¬ i < bs.size := by omega
    simp only [this, if_false]
    have : bs.data.toList.length ≤ i := by omega
    simp [List.drop_eq_nil_of_le this]
  | succ n ih =>
    intro i r h
    rw [ByteArray.toList.loop]
    have hi : i < bs.size := by omega
    simp only [hi, if_true]
    rw [ih _ _ (by omega)]
    have hl : i < bs.data.toList.length := by omega
    rw [List.drop_eq_getElem_cons hl]
    simp [ByteArray.get!, getElem!_pos, hi]

theorem byteArray_toList (bs : ByteArray) : bs.toList = bs.data.toList := by
  unfold ByteArray.toList; rw [toList_loop_eq bs _ 0 [] rfl]; simp

/-- The bytes of a string literal (`rw` unifies one with `String.ofList cs`), read off its characters in one pass.  The
    kernel turns a literal into `String.ofList` of its characters at no cost, but evaluates `toUTF8.toList` by pushing the
    bytes into an array one by one and indexing it once per byte: a fixed text is rewritten with this (through the lemma for
    the spelling at hand: `bstr_chars`, `str_chars`) before it is evaluated. -/
theorem utf8_chars (cs : List Char) : (String.ofList cs).toUTF8.toList = cs.flatMap String.utf8EncodeChar := by
  rw [byteArray_toList, String.toUTF8, String.toByteArray_ofList, List.utf8Encode, List.toList_data_toByteArray]

/-- An association list updated as "drop the entries of key `id`, put one in front" (the arglist store, the write capacities, the
    plug states): a filter that keeps every entry of key `k` does not change what `lookup k` finds. -/
theorem lookup_filter {α β : Type _} [BEq α] (p : α × β → Bool) (k : α) (l : List (α × β))
    (h : ∀ x ∈ l, (k == x.1) = true → p x = true) : (l.filter p).lookup k = l.lookup k := by
  induction l with
  | nil => rfl
  | cons x r ih =>
    have ih := ih fun y hy => h y (List.mem_cons_of_mem _ hy)
    obtain ⟨a, b⟩ := x
    cases hp : p (a, b)
    · have hk : (k == a) = false := Bool.eq_false_iff.2 fun e => by rw [h (a, b) (List.mem_cons_self ..) e] at hp; cases hp
      rw [List.filter_cons_of_neg (by rw [hp]; exact Bool.false_ne_true), List.lookup_cons, hk]
      exact ih
    · rw [List.filter_cons_of_pos hp, List.lookup_cons, List.lookup_cons, ih]

end Pm
