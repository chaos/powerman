import Pm.Dev2Count
/-! C10 "login comes first", device half: `LoginHead` (a CONNECTED device that is not logged in has the login action at the head
    of its queue), what establishes it (`connectDev_loginHead`) and that every move keeps it unless the pass aborts
    (`Move.loginHead`); over `_process_action`: `loginHead_preserved`; over the pass and over every reachable state:
    `Pm/Dev2Login2.lean`. -/
namespace Pm.Dev2

@[simp] theorem setTop_com (a : Action) (e : ExecCtx) : (setTop a e).com = a.com := rfl
@[simp] theorem setArgs_conn (d id as) : (setArgs d id as).conn = d.conn := rfl
@[simp] theorem setArgs_loggedIn (d id as) : (setArgs d id as).loggedIn = d.loggedIn := rfl

/-- C10, the invariant behind "login comes first": a device that is connected but not yet logged in has the login
    action (script kind 0) at the head of its queue — so whatever `_process_action` sends on that connection before
    `logged_in` becomes true is sent by the login script. -/
def LoginHead (d : Dev) : Prop := d.conn = 2 → d.loggedIn = false → ∃ a r, d.acts = a :: r ∧ a.com = 0

theorem LoginHead.of_not_connected {d : Dev} (h : d.conn ≠ 2) : LoginHead d := fun h2 => absurd h2 h

theorem enqueueLogin_head (d : Dev) : ∃ a r, (enqueueLogin d).acts = a :: r ∧ a.com = 0 := by
  unfold enqueueLogin; exact ⟨_, _, rfl, rfl⟩

theorem connectDev_loginHead (c : CS) (h0 : c.dev.conn = 0) (hna : (connectDev c).aborted = false) :
    LoginHead (connectDev c).dev := by
  obtain ⟨d1, _, _, ⟨e, _⟩ | ⟨e, h2⟩⟩ := connectDev_frame c <;> rw [e]
  · exact fun _ _ => enqueueLogin_head _
  · exact .of_not_connected ((h2 h0).resolve_right (by rw [hna]; exact Bool.noConfusion))

theorem LoginHead.append {d d' : Dev} (h : LoginHead d) (l : List Action) (hc : d'.conn = d.conn)
    (hl : d'.loggedIn = d.loggedIn) (ha : d'.acts = d.acts ++ l) : LoginHead d' := by
  intro h2 h3
  rw [hc] at h2; rw [hl] at h3
  obtain ⟨a, r, hx, h0⟩ := h h2 h3
  exact ⟨a, r ++ l, by rw [ha, hx]; rfl, h0⟩

theorem LoginHead.head {d : Dev} {a0 : Action} {rest : List Action} (h : LoginHead d) (ha : d.acts = a0 :: rest) (h2 : d.conn = 2)
    (h3 : d.loggedIn = false) : a0.com = 0 :=
  let ⟨_, _, hx, h0⟩ := h h2 h3; (List.cons.inj (ha.symm.trans hx)).1 ▸ h0

open Login2

/-- `_handle_ready_device` keeps the invariant whether or not it ends in a modelled abort: finishing a connect puts the login
    action in front -/
theorem Move.loginHead_ready {s s' : PA} (h : Move .ready s s') (hi : LoginHead s.1.dev) : LoginHead s'.1.dev := by
  cases h with
  | assert | write => exact hi
  | read c => rw [read_dev]; exact hi
  | finish c _ _ _ h1 =>
    obtain ⟨c1, hw, ⟨hc, e⟩ | ⟨_, e⟩⟩ := readyFinish_dev c h1 <;> rw [e]
    · exact .of_not_connected hc
    · exact fun _ _ => enqueueLogin_head _

/-- every move keeps the invariant, or the pass is aborted (`_connect` that runs out of scripted answers leaves a device
    CONNECTED without its login action) -/
theorem Move.loginHead {k : Stage} {s s' : PA} (h : Move k s s') (hi : s.1.aborted = true ∨ LoginHead s.1.dev) :
    s'.1.aborted = true ∨ LoginHead s'.1.dev := by
  refine hi.elim (fun ha => .inl (h.aborted ha)) fun hi => ?_
  cases k with
  | ready => exact .inr (h.loginHead_ready hi)
  | after =>
  cases h with
  | runAbort | fuel => exact .inl rfl
  | wait | note => exact .inr hi
  | disconnect c | failConn c | runFail c => exact .inr (.of_not_connected (by rw [disconnectDev_conn]; decide))
  | connect _ c _ _ _ h0 =>
    cases ha : (connectDev c).aborted
    · exact .inr (connectDev_loginHead c h0 ha)
    · exact .inl rfl
  | ping c => exact .inr (hi.append [pingAction c.dev] rfl rfl rfl)
  | failIdle c _ _ _ _ _ _ _ h2 => exact .inr (.of_not_connected h2)
  | stamp c _ _ _ a0 rest ha => exact .inr fun h2 h3 => ⟨_, _, rfl, (stamp_com _ _).trans (hi.head ha h2 h3)⟩
  | runStall c o _ _ a0 rest r _ ha h2 hr =>
    subst hr
    exact .inr fun _ h3 => ⟨_, _, rfl, (headRun_com c o a0).trans (hi.head ha h2 ((headRun_writes c o a0).loggedIn ▸ h3))⟩
  | runNext c o _ _ a0 rest r ha h2 hr =>
    subst hr
    exact .inr fun _ h3 => ⟨_, _, rfl,
      ((advance_com _).trans (headRun_com c o a0)).trans (hi.head ha h2 ((headRun_writes c o a0).loggedIn ▸ h3))⟩
  | runDone c o _ _ a0 rest r ha h2 hr =>
    -- the head leaves the queue: it was the login action if the device was not logged in, so the device is logged in now
    subst hr
    refine .inr fun _ h3 => ?_
    have hl : (headRun c o a0).dev.loggedIn = false ∧ ((advance (headRun c o a0).act).com == 0) = false := Bool.or_eq_false_iff.1 h3
    rw [advance_com, headRun_com, hi.head ha h2 ((headRun_writes c o a0).loggedIn ▸ hl.1)] at hl
    cases hl.2

/-- C10 `login first`, device half: a pass of `_process_action` that does not end in a modelled abort preserves `LoginHead` -/
theorem loginHead_preserved (fuel : Nat) (c : CS) (o : Oracle) (out : List Out) (tmo : Option Time)
    (h : LoginHead c.dev) (hna : (processActionF fuel c o out tmo).1.aborted = false) :
    LoginHead (processActionF fuel c o out tmo).1.dev :=
  ((processActionF_run fuel c o out tmo).keeps (I := fun s => s.1.aborted = true ∨ LoginHead s.1.dev) (fun _ _ => Move.loginHead)
    (.inr h)).resolve_left (by rw [hna]; exact Bool.noConfusion)

end Pm.Dev2
