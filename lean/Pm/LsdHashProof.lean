import Pm.LsdHash
/-! # `liblsd/hash.c`: the table is a finite map

For every table that satisfies the representation invariant (`Inv`; `valid` is its executable form; `create` establishes
it and every call keeps it — `run_inv`): `hash_find` after `hash_insert` / `hash_remove` / `hash_delete_if` is what a finite map
answers (`insert_spec`, `remove_spec`, `deleteIf_spec`), `hash_insert` refuses a key that is there, `count` is the number of
items, `hash_for_each` counts the marked items.  `powermand` keeps the argument list of a command in such a table (key = node
name): `arglist_find` is `hash_find` — what C03 assumes when it reads the result cells of a query by node name. -/
set_option linter.unusedSectionVars false
namespace Pm.LsdHash
variable {κ δ : Type} [DecidableEq κ]

/-- the representation invariant (what `valid` computes) -/
structure Inv (t : Table κ δ) : Prop where
  pos : 0 < t.size
  tsize : t.table.size = t.size
  slot : ∀ s e, e ∈ chain t s → slotOf t e.1 = s
  nodup : ∀ s, ((chain t s).map (·.1)).Nodup
  count : t.count = (toList t).length

theorem slotOf_lt (t : Table κ δ) (h : 0 < t.size) (k : κ) : slotOf t k < t.size := Nat.mod_lt _ h

theorem flatten_set_length : ∀ (l : List (List (κ × δ))) (s : Nat) (c : List (κ × δ)), s < l.length →
    (l.set s c).flatten.length + (l[s]?.getD []).length = l.flatten.length + c.length := by
  intro l
  induction l with
  | nil => intro s c h; simp at h
  | cons a rest ih =>
    intro s c h
    cases s with
    | zero => simp; omega
    | succ s' =>
      have := ih s' c (by simpa using h)
      simp at this ⊢; omega

theorem mem_toList (t : Table κ δ) (e : κ × δ) : e ∈ toList t ↔ ∃ s, e ∈ chain t s := by
  unfold toList chain
  simp only [List.mem_flatten, Array.mem_toList_iff]
  constructor
  · rintro ⟨c, hc, he⟩
    obtain ⟨s, hs, rfl⟩ := Array.getElem_of_mem hc
    exact ⟨s, by simp [hs, he]⟩
  · rintro ⟨s, he⟩
    by_cases hs : s < t.table.size
    · simp [hs] at he
      exact ⟨t.table[s], Array.getElem_mem hs, he⟩
    · simp [hs] at he

theorem find_eq_some (t : Table κ δ) (h : Inv t) (k : κ) (d : δ) : find t k = some d ↔ (k, d) ∈ toList t := by
  unfold find
  constructor
  · intro hf
    simp only [Option.map_eq_some_iff] at hf
    obtain ⟨e, he, rfl⟩ := hf
    have hm := List.mem_of_find?_eq_some he
    have hk := List.find?_some he
    simp at hk; subst hk
    exact (mem_toList t _).mpr ⟨_, hm⟩
  · intro hm
    obtain ⟨s, hs⟩ := (mem_toList t _).mp hm
    have e := h.slot s _ hs
    simp only at e; subst e
    have hnd := h.nodup (slotOf t k)
    generalize chain t (slotOf t k) = c at hs hnd
    induction c with
    | nil => simp at hs
    | cons a rest ih =>
      simp only [List.map_cons, List.nodup_cons] at hnd
      rw [List.find?_cons]
      by_cases ha : a.1 = k
      · simp only [ha, decide_true, Option.map_some]
        rcases List.mem_cons.mp hs with e | e
        · rw [← e]
        · exfalso; apply hnd.1; rw [ha]; exact List.mem_map.mpr ⟨(k, d), e, rfl⟩
      · simp only [ha, decide_false]
        rcases List.mem_cons.mp hs with e | e
        · rw [← e] at ha; exact absurd rfl ha
        · exact ih e hnd.2

theorem find_eq_none (t : Table κ δ) (h : Inv t) (k : κ) : find t k = none ↔ ∀ d, (k, d) ∉ toList t := by
  constructor
  · intro hn d hm
    rw [← find_eq_some t h] at hm; rw [hn] at hm; simp at hm
  · intro hn
    cases hf : find t k with
    | none => rfl
    | some d => exact absurd ((find_eq_some t h k d).mp hf) (hn d)

theorem create_inv (size : Int) (keyf : κ → Nat) (hasDel : Bool) (nfree : Nat) :
    Inv (create size keyf hasDel nfree : Table κ δ) ∧ toList (create size keyf hasDel nfree : Table κ δ) = [] := by
  have hflat : ∀ n : Nat, (List.replicate n ([] : List (κ × δ))).flatten = [] := by
    intro n; induction n with
    | zero => rfl
    | succ n ih => simp [List.replicate_succ, ih]
  have hpos : 0 < (if size ≤ 0 then hashDefSize else size.toNat) := by
    split
    · simp [hashDefSize]
    · omega
  have hch : ∀ s, chain (create size keyf hasDel nfree : Table κ δ) s = [] := by
    have hrep : ∀ (n s : Nat), ((Array.replicate n ([] : List (κ × δ)))[s]?).getD [] = [] := by
      intro n s; simp only [Array.getElem?_replicate]; split <;> rfl
    intro s; unfold chain create
    exact hrep _ s
  refine ⟨⟨hpos, by simp [create], ?_, ?_, ?_⟩, ?_⟩
  · intro s e he; rw [hch] at he; simp at he
  · intro s; rw [hch]; simp
  · simp [toList, create, hflat]
  · simp [toList, create, hflat]

theorem chain_set (t : Table κ δ) (s : Nat) (c : List (κ × δ)) (hs : s < t.table.size) (cnt nf : Nat) (s' : Nat) :
    chain { t with table := t.table.setIfInBounds s c, count := cnt, nfree := nf } s' = if s' = s then c else chain t s' := by
  unfold chain
  simp only [Array.getElem?_setIfInBounds]
  by_cases e : s = s'
  · subst e; simp [hs]
  · have e' : ¬ s' = s := fun h => e h.symm
    simp [e, e']

theorem toList_set_length (t : Table κ δ) (s : Nat) (c : List (κ × δ)) (hs : s < t.table.size) (cnt nf : Nat) :
    (toList { t with table := t.table.setIfInBounds s c, count := cnt, nfree := nf }).length + (chain t s).length =
      (toList t).length + c.length := by
  unfold toList chain
  simp only [Array.toList_setIfInBounds]
  have := flatten_set_length t.table.toList s c (by simpa using hs)
  simpa using this

/-- `Inv` of a table with one chain replaced: by keys of that slot, no key twice, the count following the lengths -/
theorem Inv.set {t : Table κ δ} (h : Inv t) {s : Nat} (hs : s < t.table.size) {c : List (κ × δ)} {cnt : Nat} (nf : Nat)
    (hslot : ∀ e ∈ c, slotOf t e.1 = s) (hnd : (c.map (·.1)).Nodup) (hcnt : cnt + (chain t s).length = t.count + c.length) :
    Inv { t with table := t.table.setIfInBounds s c, count := cnt, nfree := nf } := by
  have hch := chain_set t s c hs cnt nf
  refine ⟨h.pos, by simp [h.tsize], ?_, ?_, ?_⟩
  · intro s' e he
    rw [hch] at he
    show slotOf t e.1 = s'
    split at he
    · rename_i es; subst es; exact hslot e he
    · exact h.slot s' e he
  · intro s'
    rw [hch]
    split
    · exact hnd
    · exact h.nodup s'
  · have := toList_set_length t s c hs cnt nf
    have := h.count
    show cnt = _
    omega

/-- the table after a successful `hash_insert` -/
def insTable (t : Table κ δ) (k : κ) (d : δ) : Table κ δ :=
  { t with table := t.table.setIfInBounds (slotOf t k) ((k, d) :: chain t (slotOf t k)),
           count := t.count + 1, nfree := nodeAlloc t.nfree }

/-- **`hash_insert`**: refused (`NULL`, `EEXIST`, nothing changes) when the key is in the table; otherwise the data is returned,
    the key now maps to it, every other key maps to what it mapped to, and there is one item more. -/
theorem insert_spec (t : Table κ δ) (h : Inv t) (k : κ) (d : δ) :
    (∀ d0, find t k = some d0 → insert t k d = (none, t)) ∧
    (find t k = none → (insert t k d).1 = some d ∧ Inv (insert t k d).2 ∧
      (∀ k', find (insert t k d).2 k' = if k' = k then some d else find t k') ∧
      (insert t k d).2.count = t.count + 1 ∧ (insert t k d).2.size = t.size) := by
  have hs : slotOf t k < t.table.size := by rw [h.tsize]; exact slotOf_lt t h.pos k
  constructor
  · intro d0 hf
    unfold find at hf
    unfold insert
    cases hc : (chain t (slotOf t k)).find? (fun e => decide (e.1 = k)) with
    | none => simp [hc] at hf
    | some e => simp only [hc]
  · intro hf
    have hc : (chain t (slotOf t k)).find? (fun e => decide (e.1 = k)) = none := by
      unfold find at hf; simpa using hf
    have hnot : ∀ e ∈ chain t (slotOf t k), e.1 ≠ k := by
      intro e he; have := List.find?_eq_none.mp hc e he; simpa using this
    have hins : insert t k d = (some d, insTable t k d) := by
      unfold insert insTable; simp only [hc]
    rw [hins]
    have hch : ∀ s', chain (insTable t k d) s' = if s' = slotOf t k then (k, d) :: chain t (slotOf t k) else chain t s' :=
      chain_set t (slotOf t k) ((k, d) :: chain t (slotOf t k)) hs (t.count + 1) (nodeAlloc t.nfree)
    have hslot : ∀ k', slotOf (insTable t k d) k' = slotOf t k' := fun _ => rfl
    have hinv : Inv (insTable t k d) := by
      refine h.set hs _ (fun e he => ?_) ?_ (by simp only [List.length_cons]; omega)
      · rcases List.mem_cons.mp he with rfl | he'
        · rfl
        · exact h.slot _ e he'
      · rw [List.map_cons, List.nodup_cons]
        refine ⟨fun hm => ?_, h.nodup _⟩
        obtain ⟨e, he, hek⟩ := List.mem_map.mp hm
        exact hnot e he hek
    refine ⟨rfl, hinv, ?_, rfl, rfl⟩
    intro k'
    unfold find
    rw [hslot, hch]
    by_cases e : k' = k
    · subst e; simp
    · simp only [e, if_false]
      split
      · rename_i es
        rw [List.find?_cons]
        have : ¬ k = k' := fun h => e h.symm
        simp [this, es]
      · rfl

theorem removeFirst_fst (k : κ) : ∀ (c : List (κ × δ)), (removeFirst k c).1 = (c.find? (fun e => decide (e.1 = k))).map (·.2) := by
  intro c
  induction c with
  | nil => rfl
  | cons e rest ih =>
    simp only [removeFirst, List.find?_cons]
    by_cases he : e.1 = k
    · simp [he]
    · simp [he, ih]

theorem removeFirst_snd (k : κ) : ∀ (c : List (κ × δ)), (c.map (·.1)).Nodup →
    (removeFirst k c).2 = c.filter (fun e => !decide (e.1 = k)) := by
  intro c
  induction c with
  | nil => intro _; rfl
  | cons e rest ih =>
    intro hnd
    simp only [List.map_cons, List.nodup_cons] at hnd
    simp only [removeFirst, List.filter_cons]
    by_cases he : e.1 = k
    · simp only [he, if_true, decide_true, Bool.not_true, Bool.false_eq_true, if_false]
      symm; apply List.filter_eq_self.mpr
      intro a ha
      have : a.1 ≠ k := by
        intro e'; apply hnd.1; rw [he, ← e']; exact List.mem_map.mpr ⟨a, ha, rfl⟩
      simp [this]
    · simp [he, ih hnd.2]

theorem removeFirst_length (k : κ) : ∀ (c : List (κ × δ)) (d : δ), (removeFirst k c).1 = some d →
    (removeFirst k c).2.length + 1 = c.length := by
  intro c
  induction c with
  | nil => intro d h; simp [removeFirst] at h
  | cons e rest ih =>
    intro d h
    simp only [removeFirst] at h ⊢
    by_cases he : e.1 = k
    · simp [he]
    · simp only [he, if_false] at h ⊢
      simp [ih d h]

theorem find?_filter_ne (k k' : κ) (hne : k' ≠ k) : ∀ (c : List (κ × δ)),
    (c.filter (fun e => !decide (e.1 = k))).find? (fun e => decide (e.1 = k')) = c.find? (fun e => decide (e.1 = k')) := by
  intro c
  induction c with
  | nil => rfl
  | cons e rest ih =>
    simp only [List.filter_cons, List.find?_cons]
    by_cases he : e.1 = k
    · have hk : ¬ k = k' := fun h => hne h.symm
      simp [he, hk, ih]
    · simp only [he, decide_false, Bool.not_false, if_true, List.find?_cons, ih]

/-- the table after a successful `hash_remove` -/
def remTable (t : Table κ δ) (k : κ) : Table κ δ :=
  { t with table := t.table.setIfInBounds (slotOf t k) (removeFirst k (chain t (slotOf t k))).2,
           count := t.count - 1, nfree := t.nfree + 1 }

/-- **`hash_remove`** returns the data of the key (`NULL` when it is not there, and nothing changes); afterwards the key is
    not in the table, every other key maps to what it mapped to, and there is one item less. -/
theorem remove_spec (t : Table κ δ) (h : Inv t) (k : κ) :
    (remove t k).1 = find t k ∧ Inv (remove t k).2 ∧
    (∀ k', find (remove t k).2 k' = if k' = k then none else find t k') ∧
    (remove t k).2.count = t.count - (if (find t k).isSome then 1 else 0) ∧ (remove t k).2.size = t.size := by
  have hs : slotOf t k < t.table.size := by rw [h.tsize]; exact slotOf_lt t h.pos k
  have hfst := removeFirst_fst k (chain t (slotOf t k))
  have hfind : find t k = (removeFirst k (chain t (slotOf t k))).1 := by rw [hfst]; rfl
  cases hr : (removeFirst k (chain t (slotOf t k))).1 with
  | none =>
    have hrem : remove t k = (none, t) := by
      rcases hx : removeFirst k (chain t (slotOf t k)) with ⟨a, c⟩
      rw [hx] at hr; simp only at hr; subst hr
      simp only [remove, hx]
    rw [hrem, hfind, hr]
    refine ⟨rfl, h, ?_, by simp, rfl⟩
    intro k'
    by_cases e : k' = k
    · subst e; simp [hfind, hr]
    · simp [e]
  | some d =>
    have hrem : remove t k = (some d, remTable t k) := by
      rcases hx : removeFirst k (chain t (slotOf t k)) with ⟨a, c⟩
      rw [hx] at hr; simp only at hr; subst hr
      simp only [remove, remTable, hx]
    rw [hrem, hfind, hr]
    have hsnd := removeFirst_snd k (chain t (slotOf t k)) (h.nodup _)
    have hch : ∀ s', chain (remTable t k) s' = if s' = slotOf t k then (removeFirst k (chain t (slotOf t k))).2 else chain t s' :=
      chain_set t (slotOf t k) _ hs (t.count - 1) (t.nfree + 1)
    have hslot : ∀ k', slotOf (remTable t k) k' = slotOf t k' := fun _ => rfl
    have hinv : Inv (remTable t k) := by
      refine h.set hs _ (fun e he => ?_) ?_ ?_
      · rw [hsnd] at he
        exact h.slot _ e (List.mem_filter.mp he).1
      · rw [hsnd]
        exact List.Nodup.sublist (List.Sublist.map _ List.filter_sublist) (h.nodup _)
      · -- the chain is part of the table, so `count` is not 0
        have h1 := toList_set_length t (slotOf t k) [] hs 0 0
        have h2 := removeFirst_length k _ d hr
        have := h.count
        simp only [List.length_nil] at h1
        omega
    refine ⟨rfl, hinv, ?_, by simp [remTable], rfl⟩
    intro k'
    unfold find
    rw [hslot, hch]
    by_cases e : k' = k
    · subst e
      simp only [if_true, hsnd]
      have : (List.filter (fun e => !decide (e.1 = k')) (chain t (slotOf t k'))).find? (fun e => decide (e.1 = k')) = none := by
        apply List.find?_eq_none.mpr
        intro x hx; have := (List.mem_filter.mp hx).2; simpa using this
      simp [this]
    · simp only [e, if_false]
      split
      · rename_i es
        rw [hsnd, find?_filter_ne k k' e, es]
      · rfl

/-- the callback of `hash_delete_if` / `hash_for_each` marks an item -/
def marked (f : δ → Int) (e : κ × δ) : Bool := decide (f e.2 > 0)

/-- the table after `hash_delete_if` -/
def delTable (t : Table κ δ) (f : δ → Int) : Table κ δ :=
  { t with table := t.table.map (fun c => c.filter (fun e => !marked f e)),
           count := t.count - ((toList t).filter (marked f)).length,
           nfree := t.nfree + ((toList t).filter (marked f)).length }

theorem deleteIf_eq (t : Table κ δ) (f : δ → Int) :
    deleteIf t f = (((toList t).filter (marked f)).length,
      if t.hasDel then ((toList t).filter (marked f)).map (·.2) else [], delTable t f) := by
  unfold deleteIf delTable toList marked
  simp only [List.length_map]

theorem chain_delTable (t : Table κ δ) (f : δ → Int) (s : Nat) : chain (delTable t f) s = (chain t s).filter (fun e => !marked f e) := by
  unfold chain delTable
  simp only [Array.getElem?_map]
  cases t.table[s]? <;> simp

theorem flatten_map_filter (p : κ × δ → Bool) : ∀ (l : List (List (κ × δ))), (l.map (fun c => c.filter p)).flatten = l.flatten.filter p := by
  intro l
  induction l with
  | nil => rfl
  | cons a rest ih => simp only [List.map_cons, List.flatten_cons, List.filter_append, ih]

theorem toList_delTable (t : Table κ δ) (f : δ → Int) : toList (delTable t f) = (toList t).filter (fun e => !marked f e) := by
  show ((t.table.map (fun c => c.filter (fun e => !marked f e))).toList.flatten) = _
  rw [Array.toList_map]
  exact flatten_map_filter _ _

theorem length_filter_split (p : κ × δ → Bool) : ∀ (l : List (κ × δ)), l.length = (l.filter p).length + (l.filter (fun e => !p e)).length := by
  intro l
  induction l with
  | nil => rfl
  | cons a rest ih =>
    simp only [List.filter_cons, List.length_cons]
    cases hp : p a <;> simp <;> omega

theorem find_filter_chain (k : κ) (p : κ × δ → Bool) : ∀ (c : List (κ × δ)), (c.map (·.1)).Nodup →
    (c.filter p).find? (fun e => decide (e.1 = k)) = (c.find? (fun e => decide (e.1 = k))).filter p := by
  intro c
  induction c with
  | nil => intro _; rfl
  | cons e rest ih =>
    intro hn
    simp only [List.map_cons, List.nodup_cons] at hn
    simp only [List.filter_cons, List.find?_cons]
    by_cases hk : e.1 = k
    · cases hp : p e with
      | true => simp [hk, hp, Option.filter]
      | false =>
        have : (rest.filter p).find? (fun e => decide (e.1 = k)) = none := by
          apply List.find?_eq_none.mpr
          intro x hx hxk
          apply hn.1
          have hxk' : x.1 = k := by simpa using hxk
          rw [hk, ← hxk']; exact List.mem_map.mpr ⟨x, (List.mem_filter.mp hx).1, rfl⟩
        simp [hk, hp, this, Option.filter]
    · cases hp : p e <;> simp [hk, ih hn.2]

/-- **`hash_delete_if`** removes exactly the items the callback marks (`> 0`), returns their number, calls the deletion
    function (when there is one) on them, slot by slot; every other key maps to what it mapped to; **`hash_for_each`** counts
    the marked items. -/
theorem deleteIf_spec (t : Table κ δ) (h : Inv t) (f : δ → Int) :
    (deleteIf t f).1 = ((toList t).filter (marked f)).length ∧ forEach t f = ((toList t).filter (marked f)).length ∧
    (deleteIf t f).2.1 = (if t.hasDel then ((toList t).filter (marked f)).map (·.2) else []) ∧
    Inv (deleteIf t f).2.2 ∧
    (∀ k, find (deleteIf t f).2.2 k = (find t k).filter (fun d => !decide (f d > 0))) ∧
    toList (deleteIf t f).2.2 = (toList t).filter (fun e => !marked f e) := by
  rw [deleteIf_eq]
  refine ⟨rfl, ?_, rfl, ?_, ?_, toList_delTable t f⟩
  · show ((toList t).countP (fun e => decide (f e.2 > 0))) = _
    rw [List.countP_eq_length_filter]; rfl
  · refine ⟨h.pos, by simp [delTable, h.tsize], ?_, ?_, ?_⟩
    · intro s e he
      rw [chain_delTable] at he
      exact h.slot s e (List.mem_filter.mp he).1
    · intro s
      rw [chain_delTable]
      exact List.Nodup.sublist (List.Sublist.map _ List.filter_sublist) (h.nodup s)
    · rw [toList_delTable]
      show t.count - _ = _
      have := length_filter_split (marked f) (toList t)
      have hcnt := h.count
      omega
  · intro k
    have e1 : find (delTable t f) k = ((chain (delTable t f) (slotOf t k)).find? (fun e => decide (e.1 = k))).map (·.2) := rfl
    rw [e1, chain_delTable, find_filter_chain k _ _ (h.nodup _)]
    unfold find
    cases (chain t (slotOf t k)).find? (fun e => decide (e.1 = k)) with
    | none => rfl
    | some e => simp [Option.filter, marked]

/-! ## `valid`, and any sequence of calls -/

theorem valid_iff (t : Table κ δ) : valid t = true ↔ Inv t := by
  unfold valid
  simp only [Bool.and_eq_true, decide_eq_true_eq, beq_iff_eq, List.all_eq_true, List.mem_range]
  constructor
  · rintro ⟨⟨⟨h1, h2⟩, h3⟩, h4⟩
    refine ⟨h1, h2, ?_, ?_, h4⟩
    · intro s e he
      by_cases hs : s < t.size
      · exact (h3 s hs).1 e he
      · have : chain t s = [] := by unfold chain; rw [Array.getElem?_eq_none (by omega)]; rfl
        rw [this] at he; simp at he
    · intro s
      by_cases hs : s < t.size
      · exact (h3 s hs).2
      · have : chain t s = [] := by unfold chain; rw [Array.getElem?_eq_none (by omega)]; rfl
        rw [this]; simp
  · intro h
    exact ⟨⟨⟨h.pos, h.tsize⟩, fun s _ => ⟨fun e he => h.slot s e he, h.nodup s⟩⟩, h.count⟩

theorem Op.apply_inv (t : Table κ δ) (h : Inv t) (op : Op κ δ) : Inv (op.apply t).2 := by
  cases op with
  | find k => exact h
  | insert k d =>
    cases hf : LsdHash.find t k with
    | some d0 => simp only [Op.apply, (insert_spec t h k d).1 d0 hf]; exact h
    | none => obtain ⟨_, hinv, _⟩ := (insert_spec t h k d).2 hf; exact hinv
  | remove k => obtain ⟨_, hinv, _⟩ := remove_spec t h k; exact hinv
  | count => exact h
  | deleteIf f => obtain ⟨_, _, _, hinv, _⟩ := deleteIf_spec t h f; exact hinv
  | forEach f => exact h

theorem run_inv : ∀ (ops : List (Op κ δ)) (t : Table κ δ), Inv t → Inv (run t ops).2 := by
  intro ops
  induction ops with
  | nil => intro t h; exact h
  | cons op ops ih => intro t h; exact ih _ (Op.apply_inv t h op)

/-- **`hash_find` after `hash_insert`** (the two halves of `insert_spec` in one statement): the new key maps to the new data
    iff it was not there; whatever was there stays. -/
theorem find_insert (t : Table κ δ) (h : Inv t) (k k' : κ) (d : δ) :
    find (insert t k d).2 k' = if k' = k then (match find t k with | some d0 => some d0 | none => some d) else find t k' := by
  cases hf : find t k with
  | some d0 =>
    rw [(insert_spec t h k d).1 d0 hf]
    by_cases e : k' = k
    · subst e; simp [hf]
    · simp [e]
  | none =>
    obtain ⟨_, _, hfind, _⟩ := (insert_spec t h k d).2 hf
    rw [hfind k']

/-- a table of three slots with the node names `t1`, `t2`, `t10` -/
def exTable : Table (List UInt8) Nat :=
  (run (create 3 (fun k => (keyString k).toNat) true 0)
    [.insert [116, 49] 1, .insert [116, 50] 2, .insert [116, 49, 48] 3, .insert [116, 50] 4, .remove [116, 49]]).2

example : valid exTable = true ∧ exTable.count = 2 ∧ find exTable [116, 50] = some 2 ∧ find exTable [116, 49] = none ∧
    find exTable [116, 49, 48] = some 3 ∧ keyString [116, 49, 48] = 120400 := by decide +kernel

end Pm.LsdHash

section audit
open Pm.LsdHash
/--
info: 'Pm.LsdHash.insert_spec' depends on axioms: [propext, Quot.sound]
-/
#guard_msgs in #print axioms insert_spec
/--
info: 'Pm.LsdHash.remove_spec' depends on axioms: [propext, Quot.sound]
-/
#guard_msgs in #print axioms remove_spec
/--
info: 'Pm.LsdHash.deleteIf_spec' depends on axioms: [propext, Quot.sound]
-/
#guard_msgs in #print axioms deleteIf_spec
/--
info: 'Pm.LsdHash.run_inv' depends on axioms: [propext, Quot.sound]
-/
#guard_msgs in #print axioms run_inv
end audit
