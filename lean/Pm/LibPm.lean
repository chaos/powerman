/- C16 over counts and codes only: the bounds of the prompt comparison in the read loop of `libpowerman.c`, `_server_retcode`, the exit
   status of the CLI.  The byte-level model is `Pm/LibPmModel.lean`. -/
namespace Pm.LibPm

def promptLen : Nat := 10          -- strlen("powerman> ")

/-- first index `_strncmpend(buf, CP_PROMPT, count)` dereferences: `buf + count - strlen(prompt)` -/
def firstRead (count : Nat) : Int := (count : Int) - promptLen

/-- as coded the compare runs after *every* successful read, whatever `count` is -/
def recvCounts (reads : List Nat) : List Nat := (reads.foldl (fun (acc : List Nat × Nat) n => (acc.1 ++ [acc.2 + n], acc.2 + n)) ([], 0)).1

def inBounds (guarded : Bool) (reads : List Nat) : Bool :=
  (recvCounts reads).all fun c => (guarded && c < promptLen) || decide (0 ≤ firstRead c)

/-- server sends its banner in a first segment of 3 bytes: the scanner reads 7 bytes before the buffer -/
theorem C16_recv_bounds_counterexample : inBounds false [3, 17] = false := by decide
example : firstRead 3 = -7 := by decide

theorem C16_recv_bounds_fixed (reads : List Nat) : inBounds true reads = true := by
  unfold inBounds
  apply List.all_eq_true.mpr
  intro c _
  by_cases h : c < promptLen
  · simp [h]
  · have : (0 : Int) ≤ firstRead c := by unfold firstRead; omega
    simp [this]

/-! `_server_retcode`: last assignment wins while walking the (reversed) line list -/
inductive Rc where
  | success | code (n : Nat) | parse
deriving DecidableEq, Repr

def classify (code : Option Int) : Option Rc :=
  match code with
  | some 1 | some 101 | some 102 | some 103 | some 104 | some 105 => some .success
  | some 201 => some (.code 201) | some 202 => some (.code 202) | some 203 => some (.code 203)
  | some 204 => some (.code 204) | some 205 => some (.code 205) | some 208 => some (.code 208)
  | some 209 => some (.code 209) | some 210 => some (.code 210) | some 211 => some (.code 211)
  | some 213 => some (.code 213)
  | _ => none

/-- lines in the order the C loop visits them -/
def retcode (lines : List (Option Int)) : Rc :=
  lines.foldl (fun err l => (classify l).getD err) .parse

theorem retcode_append_ignored (pre post : List (Option Int)) (x : Option Int)
    (hpost : ∀ l ∈ post, classify l = none) (r : Rc) (hx : classify x = some r) :
    retcode (pre ++ x :: post) = r := by
  unfold retcode
  rw [List.foldl_append, List.foldl_cons]
  simp only [hx, Option.getD_some]
  induction post generalizing r with
  | nil => rfl
  | cons p ps ih =>
    rw [List.foldl_cons, hpost p (by simp)]
    simp only [Option.getD_none]
    exact ih (fun l hl => hpost l (by simp [hl])) r hx

/-- the last entry of the list that the switch recognises decides: if every line after `x` is ignored (3xx, text), the call returns the meaning of
    `x`, whatever stands before it (`hpre` is not needed: a recognised line overwrites the verdict of the earlier ones) -/
theorem C16_retcode_spec (pre post : List (Option Int)) (x : Option Int) (r : Rc)
    (hpre : ∀ l ∈ pre, classify l = none) (hpost : ∀ l ∈ post, classify l = none)
    (hx : classify x = some r) : retcode (pre ++ x :: post) = r :=
  retcode_append_ignored pre post x hpost r hx

/-- CLI: `exit(res)` keeps only the low 8 bits -/
def cliExit (terminal : Nat) : Nat := if 200 ≤ terminal ∧ terminal < 300 then terminal % 256 else 0
theorem C16_cli_exit_counterexample : cliExit 256 = 0 := by decide
theorem C16_cli_exit_documented (t : Nat) (h : t ∈ [201,202,203,204,205,208,209,210,211,213]) : cliExit t ≠ 0 := by
  simp only [List.mem_cons, List.mem_nil_iff, or_false] at h
  rcases h with rfl | rfl | rfl | rfl | rfl | rfl | rfl | rfl | rfl | rfl <;> decide

end Pm.LibPm

