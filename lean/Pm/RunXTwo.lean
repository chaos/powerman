import Pm.RunX
import Pm.TwoRunGone
/-! # The run theorems of C11

Every pass of a run brings its own answers of the regex engine (`runX`, `Pm/RunX.lean`), **the same in both runs** (`StuckX.1`,
`GoneX.1`: `q'.rx = q.rx`).  Nothing is needed about one pass beyond `daemonPass_stuck` and `daemonPass_gone`, which hold for
arbitrary related worlds: the relations `ARel`, `BRel` (which contain `pendingX` in their `core`) are kept when the same answers are
fed to both worlds.

The per-pass hypotheses along two runs are `AlongX H w w' pp`, with `H := StuckX fs` resp. `GoneX fs`.  The statements over
`runPasses`, the plain fold of `daemonPass` in which only the first pass can see a regex answer, are the special case of passes
that bring no answer. -/
namespace Pm.Daemon.TwoRun
open Pm Pm.Client Pm.Daemon Pm.Daemon.Isolation
open Pm.Dev2 (Dev Oracle RxCall)

/-! ### one run: the id / arglist disciplines -/

theorem feed_ids {w : W} (rx : List RxCall) (h : IdsFresh w) : IdsFresh (feed w rx) := h.congr rfl rfl rfl
theorem feed_iso {w : W} (rx : List RxCall) (h : Iso w) : Iso (feed w rx) := ⟨h.1.congr rfl rfl rfl, h.2.congr rfl rfl rfl⟩

theorem runX_ids (w : W) (qs : List PassX) (h : IdsFresh w) : IdsFresh (runX w qs) :=
  runX_inv_of IdsFresh (fun _ rx h => feed_ids rx h) daemonPass_ids w qs h

theorem runX_iso (w : W) (qs : List PassX) (h : Iso w) : Iso (runX w qs) :=
  runX_inv_of Iso (fun _ rx h => feed_iso rx h) daemonPass_iso w qs h

/-! ### the relations are kept when the same answers are fed to both worlds -/

theorem coreOf_feed (w : W) (rx : List RxCall) : coreOf (feed w rx) = feed (coreOf w) rx := rfl

theorem ARel.feed {s fs : Nat} {w w' : W} (h : ARel s fs w w') (rx : List RxCall) : ARel s fs (feed w rx) (feed w' rx) :=
  ⟨by rw [coreOf_feed, coreOf_feed, h.core], h.tab, h.sfd, h.fresh, h.sys⟩

theorem BRel.feed {fs : Nat} {w w' : W} (h : BRel fs w w') (rx : List RxCall) : BRel fs (feed w rx) (feed w' rx) :=
  ⟨by rw [coreOf_feed, coreOf_feed, h.core], h.tab, h.fresh, h.sys⟩

/-! ### back-pressure: the client on `fs` stops reading -/

/-- what is assumed of one pair of passes of the two runs: the same regex answers; `StuckPass` for the kernel's answers (stated
    on the world of the first run; the second world plays no role) -/
def StuckX (fs : Nat) : W → W → PassX → PassX → Prop := fun w _ q q' => q'.rx = q.rx ∧ StuckPass fs w q.p q'.p

theorem StuckPass.feed {fs : Nat} {w : W} {p p' : PassIn} (h : StuckPass fs w p p') (rx : List RxCall) : StuckPass fs (feed w rx) p p' :=
  ⟨h.now, h.acc, h.con, h.soe, h.others, h.stuck, h.devfd⟩

/-- **one whole pass of the two runs keeps the relation**, and every device does the same in both (the worlds the device phases
    start from are the worlds with the answers handed over) -/
theorem stepX_stuck (s fs : Nat) (w w' : W) (q q' : PassX) (hr : ARel s fs w w') (hi : IdsFresh w) (hp : StuckX fs w w' q q') :
    ARel s fs (stepX w q) (stepX w' q') ∧ passSteps (feed w' q'.rx) q'.p = passSteps (feed w q.rx) q.p := by
  obtain ⟨hrx, hp⟩ := hp
  unfold stepX
  rw [hrx]
  exact daemonPass_stuck s fs _ _ q.p q'.p (hr.feed q.rx) (feed_ids q.rx hi) (hp.feed q.rx)

theorem runs_stuckX (s fs : Nat) (pp : List (PassX × PassX)) (w w' : W) (hr : ARel s fs w w') (hi : Iso w)
    (hs : AlongX (StuckX fs) w w' pp) : ARel s fs (runX w (pp.map (·.1))) (runX w' (pp.map (·.2))) :=
  (runX_rel (fun w w' => ARel s fs w w' ∧ Iso w) (StuckX fs)
    (fun w w' q q' h hp => ⟨(stepX_stuck s fs w w' q q' h.1 h.2.1 hp).1, daemonPass_iso _ _ (feed_iso q.rx h.2)⟩)
    pp w w' ⟨hr, hi⟩ hs).1

/-- **two runs from the same world**, `n` passes into them -/
theorem backpressureX (s fs : Nat) (w : W) (pp : List (PassX × PassX)) (hi : Iso w)
    (h1 : ∀ c ∈ w.clients, c.fd = fs → c.id = s) (h2 : fs < 1000 + w.nacc) (hs : AlongX (StuckX fs) w w pp) (n : Nat) :
    ARel s fs (runX w ((pp.take n).map (·.1))) (runX w ((pp.take n).map (·.2))) ∧
    ∀ x, pp[n]? = some x →
      passSteps (feed (runX w ((pp.take n).map (·.2))) x.2.rx) x.2.p = passSteps (feed (runX w ((pp.take n).map (·.1))) x.1.rx) x.1.p := by
  have hr := runs_stuckX s fs (pp.take n) w w (ARel.init s fs w h1 h2) hi (hs.take pp n w w)
  refine ⟨hr, fun x hx => ?_⟩
  exact (stepX_stuck s fs _ _ x.1 x.2 hr (runX_iso w _ hi).1 (hs.nth pp n w w x hx)).2

/-- where the model is faithful to the code for a run with a client that does not read (`Faithful` for `runX`) -/
structure FaithfulX (s fs : Nat) (w : W) (qs : List PassX) : Prop where
  noBlock : ∀ n, ∀ x ∈ (runX w (qs.take n)).sys, blocksOn fs x = false
  below : ∀ n c, cliRec (runX w (qs.take n)) s = some c → c.toBuf.length ≤ cliBufMax

/-- the index of the first pass in which client `g`'s command in progress is completed (`replyPass` for `runX`) -/
def replyPassRunX (w : W) (qs : List PassX) (g : Nat) : Option Nat :=
  (List.range qs.length).find? fun n =>
    ((cliRec (runX w (qs.take n)) g).bind (·.cmd)).isSome &&
    (match cliRec (runX w (qs.take (n + 1))) g with | some c => c.cmd.isNone | none => false)

theorem replyPassRunX_congr (w w' : W) (qs qs' : List PassX) (g : Nat) (hl : qs'.length = qs.length)
    (h : ∀ n, cliRec (runX w' (qs'.take n)) g = cliRec (runX w (qs.take n)) g) : replyPassRunX w' qs' g = replyPassRunX w qs g := by
  unfold replyPassRunX
  rw [hl]
  congr 1
  funext n
  rw [h n, h (n + 1)]

/-- the pass in which `fs` is not reported writable; the regex answers are the same -/
def stuckInX (fs : Nat) (q : PassX) : PassX := { q with p := stuckIn fs q.p }

/-- the hypotheses along the first run: the reader behaves, no device sits on the number `fs` (`ReaderRun` for `runX`) -/
def ReaderRunX (fs : Nat) : W → List PassX → Prop
  | _, [] => True
  | w, q :: r => (ReaderOK fs q.p ∧ ∀ nd ∈ w.devs, nd.2.fd ≠ some fs) ∧ ReaderRunX fs (stepX w q) r

theorem stuckRunX_of (fs : Nat) : ∀ (qs : List PassX) (w w' : W), ReaderRunX fs w qs →
    AlongX (StuckX fs) w w' (qs.map fun q => (q, stuckInX fs q)) := by
  intro qs
  induction qs with
  | nil => intro w w' _; trivial
  | cons q r ih => intro w w' h; exact ⟨⟨rfl, stuckPass_of fs w q.p h.1.1 h.1.2⟩, ih _ _ h.2⟩

/-- **back-pressure, two runs, regex answers arbitrary per pass and the same in both runs**: the statement of `C11_backpressure` -/
theorem backpressure_stuckInX (s fs : Nat) (w : W) (qs : List PassX) (hi : Iso w)
    (hs : ∀ c ∈ w.clients, c.fd = fs → c.id = s) (hf : fs < 1000 + w.nacc) (hrun : ReaderRunX fs w qs) (n : Nat) :
    (∀ g, g ≠ s → cliRec (runX w ((qs.take n).map (stuckInX fs))) g = cliRec (runX w (qs.take n)) g) ∧
    (∀ fd, fd ≠ fs → ClientPf.written (runX w ((qs.take n).map (stuckInX fs))).sys fd = ClientPf.written (runX w (qs.take n)).sys fd) ∧
    ((runX w ((qs.take n).map (stuckInX fs))).devs = (runX w (qs.take n)).devs ∧
     (runX w ((qs.take n).map (stuckInX fs))).store = (runX w (qs.take n)).store ∧
     ids (runX w ((qs.take n).map (stuckInX fs))) = ids (runX w (qs.take n)) ∧
     (runX w ((qs.take n).map (stuckInX fs))).exited = (runX w (qs.take n)).exited) ∧
    (∀ q, qs[n]? = some q →
      passSteps (feed (runX w ((qs.take n).map (stuckInX fs))) q.rx) (stuckIn fs q.p) = passSteps (feed (runX w (qs.take n)) q.rx) q.p ∧
      callbacksFor s (passSteps (feed (runX w ((qs.take n).map (stuckInX fs))) q.rx) (stuckIn fs q.p)) =
        callbacksFor s (passSteps (feed (runX w (qs.take n)) q.rx) q.p)) := by
  have e1 : ((qs.map fun q => (q, stuckInX fs q)).take n).map (·.1) = qs.take n := by
    rw [← List.map_take, List.map_map]
    have : ((fun x : PassX × PassX => x.1) ∘ fun q => (q, stuckInX fs q)) = id := rfl
    rw [this, List.map_id]
  have e2 : ((qs.map fun q => (q, stuckInX fs q)).take n).map (·.2) = (qs.take n).map (stuckInX fs) := by
    rw [← List.map_take, List.map_map]; rfl
  obtain ⟨hr, hst⟩ := backpressureX s fs w (qs.map fun q => (q, stuckInX fs q)) hi hs hf (stuckRunX_of fs qs w w hrun) n
  rw [e1, e2] at hr hst
  obtain ⟨hrec, hwritten, hdevs, hstore, _, hexited, hids⟩ := hr.others
  refine ⟨hrec, hwritten, ⟨hdevs, hstore, hids, hexited⟩, fun q hq => ?_⟩
  have : passSteps (feed (runX w ((qs.take n).map (stuckInX fs))) q.rx) (stuckIn fs q.p) = passSteps (feed (runX w (qs.take n)) q.rx) q.p :=
    hst (q, stuckInX fs q) (by rw [List.getElem?_map, hq]; rfl)
  exact ⟨this, by rw [this]⟩

/-! ### the client on `fs` vanishes -/

/-- what is assumed of one pair of passes of the two runs: the same regex answers; `GonePass` on the two worlds with the
    answers handed over (its clauses `alive`, `alive'` speak of the device phases, which consume the answers) -/
def GoneX (fs : Nat) : W → W → PassX → PassX → Prop :=
  fun w w' q q' => q'.rx = q.rx ∧ GonePass fs (feed w q.rx) (feed w' q'.rx) q.p q'.p

theorem stepX_gone (fs : Nat) (w w' : W) (q q' : PassX) (hr : BRel fs w w') (hp : GoneX fs w w' q q') :
    BRel fs (stepX w q) (stepX w' q') ∧ passSteps (feed w' q'.rx) q'.p = passSteps (feed w q.rx) q.p := by
  obtain ⟨hrx, hp⟩ := hp
  unfold stepX
  rw [hrx] at hp ⊢
  exact daemonPass_gone fs _ _ q.p q'.p (hr.feed q.rx) hp

theorem runs_goneX (fs : Nat) (pp : List (PassX × PassX)) (w w' : W) (hr : BRel fs w w') (hs : AlongX (GoneX fs) w w' pp) :
    BRel fs (runX w (pp.map (·.1))) (runX w' (pp.map (·.2))) :=
  runX_rel (BRel fs) (GoneX fs) (fun w w' q q' h hp => (stepX_gone fs w w' q q' h hp).1) pp w w' hr hs

theorem vanishX (fs : Nat) (w w' : W) (pp : List (PassX × PassX)) (hr : BRel fs w w') (hs : AlongX (GoneX fs) w w' pp) (n : Nat) :
    BRel fs (runX w ((pp.take n).map (·.1))) (runX w' ((pp.take n).map (·.2))) ∧
    ∀ x, pp[n]? = some x →
      passSteps (feed (runX w' ((pp.take n).map (·.2))) x.2.rx) x.2.p = passSteps (feed (runX w ((pp.take n).map (·.1))) x.1.rx) x.1.p := by
  have h := runs_goneX fs (pp.take n) w w' hr (hs.take pp n w w')
  exact ⟨h, fun x hx => (stepX_gone fs _ _ x.1 x.2 h (hs.nth pp n w w' x hx)).2⟩

/-- **a stuck phase followed by a vanishing phase** -/
theorem stuck_then_goneX (s fs : Nat) (w : W) (pp1 pp2 : List (PassX × PassX)) (hi : Iso w)
    (h1 : ∀ c ∈ w.clients, c.fd = fs → c.id = s) (h2 : fs < 1000 + w.nacc) (hs1 : AlongX (StuckX fs) w w pp1)
    (hs2 : AlongX (GoneX fs) (runX w (pp1.map (·.1))) (runX w (pp1.map (·.2))) pp2) (n : Nat) :
    BRel fs (runX w ((pp1 ++ pp2.take n).map (·.1))) (runX w ((pp1 ++ pp2.take n).map (·.2))) := by
  rw [List.map_append, List.map_append, runX_append, runX_append]
  exact (vanishX fs _ _ pp2 (runs_stuckX s fs pp1 w w (ARel.init s fs w h1 h2) hi hs1).toB hs2 n).1

/-! ### the `runPasses` hypotheses and theorems are the special case of passes that bring no regex answer -/

def plain2 (x : PassIn × PassIn) : PassX × PassX := (.plain x.1, .plain x.2)

theorem map_plain2_fst (pp : List (PassIn × PassIn)) : (pp.map plain2).map (·.1) = (pp.map (·.1)).map PassX.plain := by
  rw [List.map_map, List.map_map]; rfl
theorem map_plain2_snd (pp : List (PassIn × PassIn)) : (pp.map plain2).map (·.2) = (pp.map (·.2)).map PassX.plain := by
  rw [List.map_map, List.map_map]; rfl

theorem stuckRunX_plain (fs : Nat) : ∀ (pp : List (PassIn × PassIn)) (w w' : W), StuckRun fs w pp → AlongX (StuckX fs) w w' (pp.map plain2) := by
  intro pp
  induction pp with
  | nil => intro _ _ _; trivial
  | cons x r ih =>
    intro w w' h
    refine ⟨⟨rfl, h.1⟩, ?_⟩
    have := ih (daemonPass w x.1).1 (stepX w' (plain2 x).2) h.2
    show AlongX (StuckX fs) (stepX w (PassX.plain x.1)) _ _
    rw [stepX_plain]; exact this

theorem goneRunX_plain (fs : Nat) : ∀ (pp : List (PassIn × PassIn)) (w w' : W), AlongX (GoneX fs) w w' (pp.map plain2) ↔ GoneRun fs w w' pp := by
  intro pp
  induction pp with
  | nil => intro _ _; exact Iff.rfl
  | cons x r ih =>
    intro w w'
    show (_ ∧ GonePass fs (feed w []) (feed w' []) x.1 x.2) ∧ AlongX (GoneX fs) (stepX w (.plain x.1)) (stepX w' (.plain x.2)) _ ↔
      GonePass fs w w' x.1 x.2 ∧ GoneRun fs (daemonPass w x.1).1 (daemonPass w' x.2).1 r
    rw [feed_nil, feed_nil, stepX_plain, stepX_plain, ih]
    exact ⟨fun h => ⟨h.1.2, h.2⟩, fun h => ⟨⟨rfl, h.1⟩, h.2⟩⟩

theorem readerRunX_plain (fs : Nat) : ∀ (ps : List PassIn) (w : W), ReaderRunX fs w (ps.map PassX.plain) ↔ ReaderRun fs w ps := by
  intro ps
  induction ps with
  | nil => intro _; exact Iff.rfl
  | cons p r ih =>
    intro w
    show _ ∧ ReaderRunX fs (stepX w (.plain p)) _ ↔ _ ∧ ReaderRun fs (daemonPass w p).1 r
    rw [stepX_plain, ih]
    exact Iff.rfl

theorem faithfulX_plain (s fs : Nat) (w : W) (ps : List PassIn) : FaithfulX s fs w (ps.map PassX.plain) ↔ Faithful s fs w ps := by
  have e : ∀ n, runX w ((ps.map PassX.plain).take n) = runPasses w (ps.take n) := fun n => by rw [← List.map_take, runX_runPasses]
  exact ⟨fun h => ⟨fun n => e n ▸ h.noBlock n, fun n => e n ▸ h.below n⟩,
    fun h => ⟨fun n => (e n).symm ▸ h.noBlock n, fun n => (e n).symm ▸ h.below n⟩⟩

theorem runs_stuck_plain (s fs : Nat) (pp : List (PassIn × PassIn)) (w w' : W) (hr : ARel s fs w w') (hi : Iso w) (hs : StuckRun fs w pp) :
    ARel s fs (runPasses w (pp.map (·.1))) (runPasses w' (pp.map (·.2))) := by
  have := runs_stuckX s fs (pp.map plain2) w w' hr hi (stuckRunX_plain fs pp w w' hs)
  rwa [map_plain2_fst, map_plain2_snd, runX_runPasses, runX_runPasses] at this

theorem runs_gone_plain (fs : Nat) (pp : List (PassIn × PassIn)) (w w' : W) (hr : BRel fs w w') (hs : GoneRun fs w w' pp) :
    BRel fs (runPasses w (pp.map (·.1))) (runPasses w' (pp.map (·.2))) := by
  have := runs_goneX fs (pp.map plain2) w w' hr ((goneRunX_plain fs pp w w').mpr hs)
  rwa [map_plain2_fst, map_plain2_snd, runX_runPasses, runX_runPasses] at this

/-- **two runs from the same world, `n` passes into them, over `runPasses`** -/
theorem backpressure (s fs : Nat) (w : W) (pp : List (PassIn × PassIn)) (hi : Iso w)
    (h1 : ∀ c ∈ w.clients, c.fd = fs → c.id = s) (h2 : fs < 1000 + w.nacc) (hs : StuckRun fs w pp) (n : Nat) :
    ARel s fs (runPasses w ((pp.take n).map (·.1))) (runPasses w ((pp.take n).map (·.2))) ∧
    ∀ x, pp[n]? = some x →
      passSteps (runPasses w ((pp.take n).map (·.2))) x.2 = passSteps (runPasses w ((pp.take n).map (·.1))) x.1 := by
  obtain ⟨a, b⟩ := backpressureX s fs w (pp.map plain2) hi h1 h2 (stuckRunX_plain fs pp w w hs) n
  rw [← List.map_take, map_plain2_fst, map_plain2_snd, runX_runPasses, runX_runPasses] at a b
  refine ⟨a, fun x hx => ?_⟩
  have := b (plain2 x) (by rw [List.getElem?_map, hx]; rfl)
  simpa [plain2, PassX.plain, feed_nil] using this

/-- **back-pressure over `runPasses`**: `backpressure_stuckInX` for passes that bring no regex answer -/
theorem backpressure_stuckIn (s fs : Nat) (w : W) (ps : List PassIn) (hi : Iso w)
    (hs : ∀ c ∈ w.clients, c.fd = fs → c.id = s) (hf : fs < 1000 + w.nacc) (hrun : ReaderRun fs w ps) (n : Nat) :
    (∀ g, g ≠ s → cliRec (runPasses w ((ps.take n).map (stuckIn fs))) g = cliRec (runPasses w (ps.take n)) g) ∧
    (∀ fd, fd ≠ fs → ClientPf.written (runPasses w ((ps.take n).map (stuckIn fs))).sys fd = ClientPf.written (runPasses w (ps.take n)).sys fd) ∧
    ((runPasses w ((ps.take n).map (stuckIn fs))).devs = (runPasses w (ps.take n)).devs ∧
     (runPasses w ((ps.take n).map (stuckIn fs))).store = (runPasses w (ps.take n)).store ∧
     ids (runPasses w ((ps.take n).map (stuckIn fs))) = ids (runPasses w (ps.take n)) ∧
     (runPasses w ((ps.take n).map (stuckIn fs))).exited = (runPasses w (ps.take n)).exited) ∧
    (∀ p, ps[n]? = some p →
      passSteps (runPasses w ((ps.take n).map (stuckIn fs))) (stuckIn fs p) = passSteps (runPasses w (ps.take n)) p ∧
      callbacksFor s (passSteps (runPasses w ((ps.take n).map (stuckIn fs))) (stuckIn fs p)) =
        callbacksFor s (passSteps (runPasses w (ps.take n)) p)) := by
  have e : ((ps.map PassX.plain).take n).map (stuckInX fs) = ((ps.take n).map (stuckIn fs)).map PassX.plain := by
    rw [← List.map_take, List.map_map, List.map_map]; rfl
  have h := backpressure_stuckInX s fs w (ps.map .plain) hi hs hf ((readerRunX_plain fs ps w).mpr hrun) n
  rw [e, ← List.map_take, runX_runPasses, runX_runPasses] at h
  obtain ⟨others, written, world, steps⟩ := h
  refine ⟨others, written, world, fun p hp => ?_⟩
  have := steps (.plain p) (by rw [List.getElem?_map, hp]; rfl)
  simpa only [PassX.plain, feed_nil] using this

/-- **the client on `fs` vanishes: two runs, `n` passes into them, over `runPasses`** -/
theorem vanish (fs : Nat) (w w' : W) (pp : List (PassIn × PassIn)) (hr : BRel fs w w') (hs : GoneRun fs w w' pp) (n : Nat) :
    BRel fs (runPasses w ((pp.take n).map (·.1))) (runPasses w' ((pp.take n).map (·.2))) ∧
    ∀ x, pp[n]? = some x →
      passSteps (runPasses w' ((pp.take n).map (·.2))) x.2 = passSteps (runPasses w ((pp.take n).map (·.1))) x.1 := by
  obtain ⟨a, b⟩ := vanishX fs w w' (pp.map plain2) hr ((goneRunX_plain fs pp w w').mpr hs) n
  rw [← List.map_take, map_plain2_fst, map_plain2_snd, runX_runPasses, runX_runPasses] at a b
  refine ⟨a, fun x hx => ?_⟩
  have := b (plain2 x) (by rw [List.getElem?_map, hx]; rfl)
  simpa [plain2, PassX.plain, feed_nil] using this

/-- **a stuck phase followed by a vanishing phase, over `runPasses`** -/
theorem stuck_then_gone (s fs : Nat) (w : W) (pp1 pp2 : List (PassIn × PassIn)) (hi : Iso w)
    (h1 : ∀ c ∈ w.clients, c.fd = fs → c.id = s) (h2 : fs < 1000 + w.nacc) (hs1 : StuckRun fs w pp1)
    (hs2 : GoneRun fs (runPasses w (pp1.map (·.1))) (runPasses w (pp1.map (·.2))) pp2) (n : Nat) :
    BRel fs (runPasses w ((pp1 ++ pp2.take n).map (·.1))) (runPasses w ((pp1 ++ pp2.take n).map (·.2))) := by
  rw [List.map_append, List.map_append, runPasses_append, runPasses_append]
  exact (vanish fs _ _ pp2 (runs_stuck_plain s fs pp1 w w (ARel.init s fs w h1 h2) hi hs1).toB hs2 n).1

theorem runPasses_iso_plain (w : W) (ps : List PassIn) (h : Iso w) : Iso (runPasses w ps) := runPasses_iso w ps h

end Pm.Daemon.TwoRun

section AxiomChecks
open Pm.Daemon.TwoRun
/-- info: 'Pm.Daemon.TwoRun.backpressureX' depends on axioms: [propext, Classical.choice, Quot.sound] -/
#guard_msgs in #print axioms backpressureX
/-- info: 'Pm.Daemon.TwoRun.backpressure_stuckInX' depends on axioms: [propext, Classical.choice, Quot.sound] -/
#guard_msgs in #print axioms backpressure_stuckInX
/-- info: 'Pm.Daemon.TwoRun.vanishX' depends on axioms: [propext, Classical.choice, Quot.sound] -/
#guard_msgs in #print axioms vanishX
/-- info: 'Pm.Daemon.TwoRun.stuck_then_goneX' depends on axioms: [propext, Classical.choice, Quot.sound] -/
#guard_msgs in #print axioms stuck_then_goneX
/-- info: 'Pm.Daemon.TwoRun.runX_iso' depends on axioms: [propext, Classical.choice, Quot.sound] -/
#guard_msgs in #print axioms runX_iso
/-- info: 'Pm.Daemon.TwoRun.runs_stuck_plain' depends on axioms: [propext, Classical.choice, Quot.sound] -/
#guard_msgs in #print axioms runs_stuck_plain
/-- info: 'Pm.Daemon.TwoRun.runs_gone_plain' depends on axioms: [propext, Classical.choice, Quot.sound] -/
#guard_msgs in #print axioms runs_gone_plain
/-- info: 'Pm.Daemon.TwoRun.backpressure' depends on axioms: [propext, Classical.choice, Quot.sound] -/
#guard_msgs in #print axioms backpressure
/-- info: 'Pm.Daemon.TwoRun.vanish' depends on axioms: [propext, Classical.choice, Quot.sound] -/
#guard_msgs in #print axioms vanish
end AxiomChecks
