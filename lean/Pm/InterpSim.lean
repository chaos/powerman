import Pm.InterpRef
/-! C08, section B: the stack of execution contexts of `device.c` refines a loop-free reference program: the reference (`FOp`,
    `unroll`, `fstep`), the micro-step `mstep` with its five ways out (`MstepDoes`, `mstep_does`) and what it leaves alone
    (`mstep_frame`), the program a stack stands for (`abs`), well-formed stacks (`StackOK`, `Inv`), and `mstep_sim`: a micro-step is invisible or one step of the reference; `refines_run` for runs. -/
namespace Pm.Dev2.Interp

/-! ## the reference: a flat program run by one program counter -/

/-- operations of the flat program; everything that depends on the enclosing `foreach` has been resolved: a send
    carries its final text (`none`: the `hostlist_sort` assertion), a setplugstate its script argument, a guard the
    node whose state it tests -/
inductive FOp where
  | send (text : Option Bytes)
  | expect (pat : Nat)
  | delay (us : Time)
  | setplugstate (lit : Option Bytes) (plugMp statMp : Int) (interps : List (PState × Nat)) (target : Option Bytes)
  | setresult (plugMp statMp : Int) (interps : List (PResult × Nat))
  | guard (wantOn : Bool) (node : Option Bytes) (body : List FOp)

/-- the plugs a `foreach` runs over: the device's, or in a ranged script the plugs of the enclosing context -/
def eachList (R : Bool) (dp : List Plug) (plugs : Option (List Plug)) : List Plug := if R then plugs.getD [] else dp

mutual
/-- the script with every `foreach` unrolled over its plug list; `R`: ranged script, `dp`: the device's plugs,
    last argument: the plugs of the enclosing context -/
def unroll (R : Bool) (dp : List Plug) : List Stmt → Option (List Plug) → List FOp
  | [], _ => []
  | s :: r, pl => unrollStmt R dp s pl ++ unroll R dp r pl
def unrollStmt (R : Bool) (dp : List Plug) : Stmt → Option (List Plug) → List FOp
  | .send fmt, pl => [.send (sendText fmt pl)]
  | .expect p, _ => [.expect p]
  | .delay us, _ => [.delay us]
  | .setplugstate lit pm sm is, pl => [.setplugstate lit pm sm is (ctxName pl)]
  | .setresult pm sm is, _ => [.setresult pm sm is]
  | .foreachplug body, pl =>
    ((eachList R dp pl).filter fun p => !skipped false p).flatMap fun p => unroll R dp body (some [p])
  | .foreachnode body, pl =>
    ((eachList R dp pl).filter fun p => !skipped true p).flatMap fun p => unroll R dp body (some [p])
  | .ifon body, pl => [.guard true (ctxNode pl) (unroll R dp body (some (pl.getD [])))]
  | .ifoff body, pl => [.guard false (ctxNode pl) (unroll R dp body (some (pl.getD [])))]
end

/-- the part of a `foreach` that is still to come when the plugs `ps` have not been looked at yet -/
def unrollEach (R : Bool) (dp : List Plug) (isNode : Bool) (ps : List Plug) (body : List Stmt) : List FOp :=
  (ps.filter fun p => !skipped isNode p).flatMap fun p => unroll R dp body (some [p])

/-- the fields of an action the reference needs (everything but the context stack) -/
structure FA where
  clientId : Nat
  telemetry : Bool
  arglist : Nat
  errnum : ActErr
  delayStart : Time

def info (a : Action) : FA := ⟨a.clientId, a.telemetry, a.arglist, a.errnum, a.delayStart⟩

/-- state of the reference: the rest of the flat program, and whether its first operation (a send or a delay) has
    already been started -/
structure F where
  rem : List FOp
  inflight : Bool

/-- what became of the action: it goes on with its next statement / waits for the next pass / failed (`errnum` set) / an
    assertion of the daemon fired / its script is finished -/
inductive Status where
  | running | stalled | failed | aborted | done
deriving DecidableEq, Repr

/-- what `_process_action` does with the outcome of a statement -/
def classify (out : List Out) (finished : Bool) : Status :=
  if hasAbort out then .aborted else if !finished then .stalled else .running

theorem classify_ne_done (out : List Out) (fin : Bool) : classify out fin ≠ .done := by
  unfold classify; split
  · nofun
  · split <;> nofun

/-- result of a step (`fstep`) or run (`frun`) of the reference -/
structure FR where
  dev : Dev
  info : FA
  oracle : Oracle
  out : List Out
  f : F
  status : Status

/-! ### the leaf operations without the action around them -/

/-- `_process_expect`: new device state, oracle, output, finished -/
def expectPure (d : Dev) (tel : Bool) (cid : Nat) (o : Oracle) (pat : Nat) : Dev × Oracle × List Out × Bool :=
  let d := { d with xmStr := none, xmResult := false, xmUsed := false }
  if d.fromBuf.isEmpty then (d, o, [], false) else
  let subject := rxSubject d.fromBuf
  let q := askRx o pat subject
  match q.2.1 with
  | none => ({ d with xmUsed := true, xmResult := false }, q.1, q.2.2, false)
  | some offs =>
    let eo := (offs.headD (0, 0)).2.toNat
    ({ d with xmUsed := true, xmResult := true, xmStr := some subject, xmOffs := offs, fromBuf := d.fromBuf.drop eo },
      q.1, q.2.2 ++ (if tel then teleMem cid "recv(dev): '" (subject.take eo) else []), true)

theorem stmtExpect_pure (d : Dev) (a : Action) (o : Oracle) (pat : Nat) :
    stmtExpect d a o pat =
      ⟨(expectPure d a.telemetry a.clientId o pat).1, a, (expectPure d a.telemetry a.clientId o pat).2.1,
       (expectPure d a.telemetry a.clientId o pat).2.2.1, (expectPure d a.telemetry a.clientId o pat).2.2.2⟩ := by
  unfold stmtExpect expectPure rxSubject
  dsimp only
  split
  · rfl
  · generalize askRx o pat _ = q
    obtain ⟨o', ans, errs⟩ := q
    cases ans <;> rfl

/-- `_process_setplugstate`: new device state, oracle, output (without match data — `!xm_used` — every `subOf` is `none`:
    nothing happens) -/
def setplugstatePure (d : Dev) (al : Nat) (o : Oracle) (target : Option Bytes) (lit : Option Bytes) (plugMp statMp : Int)
    (interps : List (PState × Nat)) : Dev × Oracle × List Out :=
  match chosenName d lit plugMp target with
  | none => (d, o, [])
  | some pn =>
    match subOf d statMp, findPlug d pn with
    | some s, some plug =>
      (setArgs d al (writeState (getArgs d al) (plug.node.getD []) (pickState askRx s interps o []).2.1 s),
        (pickState askRx s interps o []).1, (pickState askRx s interps o []).2.2)
    | _, _ => (d, o, [])

theorem setplugstateCore_pure (d : Dev) (a : Action) (o : Oracle) (t lit : Option Bytes) (pm sm : Int)
    (is : List (PState × Nat)) :
    setplugstateCore d a o t lit pm sm is =
      ⟨(setplugstatePure d a.arglist o t lit pm sm is).1, a, (setplugstatePure d a.arglist o t lit pm sm is).2.1,
       (setplugstatePure d a.arglist o t lit pm sm is).2.2, true⟩ := by
  unfold setplugstateCore setplugstatePure
  cases chosenName d lit pm t with
  | none => rfl
  | some pn => dsimp only; cases subOf d sm <;> cases findPlug d pn <;> rfl

/-- `_process_setresult` -/
def setresultPure (d : Dev) (al : Nat) (cid : Nat) (o : Oracle) (plugMp statMp : Int)
    (interps : List (PResult × Nat)) : Dev × Oracle × List Out :=
  match subOf d plugMp with
  | none => (d, o, [])
  | some pn =>
    match subOf d statMp, findPlug d pn with
    | some s, some plug =>
      let res := (pickResult askRx s interps o []).2.1
      let node := plug.node.getD []
      (setArgs d al (writeResult (getArgs d al) node res s), (pickResult askRx s interps o []).1,
        (pickResult askRx s interps o []).2.2 ++
          (if (getArgs d al).any (·.node == node) && res != .success then
            [Out.diag cid (node ++ str ": " ++ (s.takeWhile fun b => b != 13 && b != 10).take 1023)] else []))
    | _, _ => (d, o, [])

theorem stmtSetresult_pure (d : Dev) (a : Action) (o : Oracle) (pm sm : Int)
    (is : List (PResult × Nat)) :
    stmtSetresult d a o pm sm is =
      ⟨(setresultPure d a.arglist a.clientId o pm sm is).1, a, (setresultPure d a.arglist a.clientId o pm sm is).2.1,
       (setresultPure d a.arglist a.clientId o pm sm is).2.2, true⟩ := by
  unfold stmtSetresult setresultPure writeResult
  cases subOf d pm with
  | none => rfl
  | some pn => dsimp only; cases subOf d sm <;> cases findPlug d pn <;> rfl

def delayTeleI (i : FA) (us : Time) : List Out :=
  if i.telemetry then [Out.telemetry i.clientId (str s!"delay(dev): {us / 1000000}.{String.ofList (List.replicate (6 - (toString (us % 1000000)).length) '0')}{us % 1000000}")] else []

/-- one step of the reference on a non-empty program.  A send is started once (its text goes to the output buffer) and
    is left when the buffer has drained — the buffer holds 65536 bytes, beyond that the oldest queued bytes give way (`clipTo`)
    and the telemetry line of the send is not produced (`sendTele`) —; an expect is left when it matches; a delay is started once and left when its
    time has passed; a guard whose condition holds is replaced by its body, a guard on a known other state is skipped,
    a guard on an unknown state fails the action. -/
def fstep (now : Time) (d : Dev) (i : FA) (o : Oracle) (f : F) : FR :=
  match f.rem with
  | [] => ⟨d, i, o, [], f, .running⟩
  | .send text :: r =>
    if !f.inflight then
      match text with
      | none => ⟨d, i, o, [.abortAssert "hostlist_sort assert in _process_send"], f, .aborted⟩
      | some s =>
        let out := [Out.sent s] ++ sendTele d i.telemetry i.clientId s
        ⟨{ d with toBuf := clipTo (d.toBuf ++ s) }, i, o, out,
          if (d.toBuf ++ s).isEmpty then ⟨r, false⟩ else ⟨f.rem, true⟩, classify out (d.toBuf ++ s).isEmpty⟩
    else ⟨d, i, o, [], if d.toBuf.isEmpty then ⟨r, false⟩ else f, classify [] d.toBuf.isEmpty⟩
  | .expect pat :: r =>
    let p := expectPure d i.telemetry i.clientId o pat
    ⟨p.1, i, p.2.1, p.2.2.1, if p.2.2.2 then ⟨r, false⟩ else f, classify p.2.2.1 p.2.2.2⟩
  | .delay us :: r =>
    let start := if f.inflight then i.delayStart else now
    let tele := if f.inflight then [] else delayTeleI i us
    if d.shortCircuitDelay || now ≥ start + us then
      ⟨d, { i with delayStart := start }, o, tele, ⟨r, false⟩, classify tele true⟩
    else ⟨{ d with wake := some (start + us - now) }, { i with delayStart := start }, o, tele, ⟨f.rem, true⟩, classify tele false⟩
  | .setplugstate lit pm sm is target :: r =>
    let p := setplugstatePure d i.arglist o target lit pm sm is
    ⟨p.1, i, p.2.1, p.2.2, ⟨r, false⟩, classify p.2.2 true⟩
  | .setresult pm sm is :: r =>
    let p := setresultPure d i.arglist i.clientId o pm sm is
    ⟨p.1, i, p.2.1, p.2.2, ⟨r, false⟩, classify p.2.2 true⟩
  | .guard wantOn node body :: r =>
    if condHolds wantOn (nodeState d i.arglist node) then ⟨d, i, o, [], ⟨body ++ r, false⟩, .running⟩
    else if nodeState d i.arglist node == .unknown then ⟨d, { i with errnum := .expfail }, o, [], ⟨r, false⟩, .failed⟩
    else ⟨d, i, o, [], ⟨r, false⟩, .running⟩

theorem fstep_ne_done (now : Time) (d : Dev) (i : FA) (o : Oracle) (f : F) : (fstep now d i o f).status ≠ .done := by
  have c : ∀ (dv : Dev) (j : FA) (q : Oracle) (out out' : List Out) (g : F) (fin : Bool),
      (⟨dv, j, q, out, g, classify out' fin⟩ : FR).status ≠ .done := fun _ _ _ _ _ _ _ => classify_ne_done _ _
  unfold fstep
  split
  · nofun
  · refine ite_cases (P := fun r : FR => r.status ≠ .done) (fun _ => ?_) (fun _ => c _ _ _ _ _ _ _)
    split
    · nofun
    · exact c _ _ _ _ _ _ _
  · exact c _ _ _ _ _ _ _
  · exact ite_cases (P := fun r : FR => r.status ≠ .done) (fun _ => c _ _ _ _ _ _ _) (fun _ => c _ _ _ _ _ _ _)
  · exact c _ _ _ _ _ _ _
  · exact c _ _ _ _ _ _ _
  · exact ite_cases (P := fun r : FR => r.status ≠ .done) nofun
      (fun _ => ite_cases (P := fun r : FR => r.status ≠ .done) nofun nofun)

/-! ### one micro-step of the machine: `_process_stmt`, then the bookkeeping of `_process_action` -/

/-- result of a micro-step (`mstep`) or run (`mrun`) of the machine -/
structure MR where
  dev : Dev
  act : Action
  oracle : Oracle
  out : List Out
  status : Status

def mstep (now : Time) (d : Dev) (a : Action) (o : Oracle) : MR :=
  let r := processStmt d a o now
  if r.finished && r.act.exec.length > a.exec.length then ⟨r.dev, r.act, r.oracle, r.out, .running⟩
  else if hasAbort r.out then ⟨r.dev, r.act, r.oracle, r.out, .aborted⟩
  else if !r.finished then ⟨r.dev, r.act, r.oracle, r.out, .stalled⟩
  else if r.act.errnum == .success then ⟨r.dev, advance r.act, r.oracle, r.out, .running⟩
  else ⟨r.dev, r.act, r.oracle, r.out, .failed⟩

/-- **What `_process_action` makes of the answer `r` of `_process_stmt`** to action `a`, the five ways out of `mstep`: the statement
    pushed a context (the `do … while` goes round) / an assertion of the daemon / not finished / finished, and the action goes on to
    its next statement / finished with the action's `errnum` set -/
inductive MstepDoes (a : Action) (r : StepR) : MR → Prop
  | pushed : r.finished = true → r.act.exec.length > a.exec.length → MstepDoes a r ⟨r.dev, r.act, r.oracle, r.out, .running⟩
  | aborted : (r.finished = false ∨ r.act.exec.length ≤ a.exec.length) → hasAbort r.out = true →
      MstepDoes a r ⟨r.dev, r.act, r.oracle, r.out, .aborted⟩
  | stalled : hasAbort r.out = false → r.finished = false → MstepDoes a r ⟨r.dev, r.act, r.oracle, r.out, .stalled⟩
  | advanced : hasAbort r.out = false → r.finished = true → r.act.exec.length ≤ a.exec.length → r.act.errnum = .success →
      MstepDoes a r ⟨r.dev, advance r.act, r.oracle, r.out, .running⟩
  | failed : hasAbort r.out = false → r.finished = true → r.act.exec.length ≤ a.exec.length → r.act.errnum ≠ .success →
      MstepDoes a r ⟨r.dev, r.act, r.oracle, r.out, .failed⟩

theorem mstep_does (now : Time) (d : Dev) (a : Action) (o : Oracle) : MstepDoes a (processStmt d a o now) (mstep now d a o) := by
  unfold mstep
  generalize processStmt d a o now = r
  dsimp only
  by_cases hf : r.finished = true
  · by_cases hl : r.act.exec.length > a.exec.length
    · rw [if_pos (by simp [hf, hl])]; exact .pushed hf hl
    · rw [if_neg (by simp [hl])]
      by_cases ha : hasAbort r.out = true
      · rw [if_pos ha]; exact .aborted (.inr (by omega)) ha
      · rw [if_neg ha, if_neg (by simp [hf])]
        by_cases he : r.act.errnum = .success
        · rw [if_pos (by simp [he])]; exact .advanced (by simpa using ha) hf (by omega) he
        · rw [if_neg (by simpa using he)]; exact .failed (by simpa using ha) hf (by omega) he
  · have hf' : r.finished = false := by simpa using hf
    rw [if_neg (by simp [hf'])]
    by_cases ha : hasAbort r.out = true
    · rw [if_pos ha]; exact .aborted (.inl hf') ha
    · rw [if_neg ha, if_pos (by simp [hf'])]; exact .stalled (by simpa using ha) hf'

theorem mstep_push (now : Time) (d : Dev) (a : Action) (o : Oracle)
    (h0 : (processStmt d a o now).finished = true)
    (h1 : (processStmt d a o now).act.exec.length > a.exec.length) :
    mstep now d a o = ⟨(processStmt d a o now).dev, (processStmt d a o now).act, (processStmt d a o now).oracle,
      (processStmt d a o now).out, .running⟩ := by
  unfold mstep
  simp [h0, h1]

/-- The micro-steps on a block statement: they move the stack and nothing else.  `e :: rest` is the stack, the `Kind` that of
    the statement `e` stands at; the result is the action after `_process_stmt` *and* the bookkeeping of `_process_action`
    (`advance` where the statement finished without pushing). -/
inductive Turn (d : Dev) (a : Action) (e : ExecCtx) (rest : List ExecCtx) : Kind → Action → Status → Prop
  | eachNext {n b} (p k) : nextPlug n (foreachList d a e) (e.plugItr.getD 0) ((foreachList d a e).length + 1) = some (p, k) →
      Turn d a e rest (.each n b) { a with exec := bodyCtx b (some [p]) :: { foreachCtx a e with plugItr := some k } :: rest } .running
  | eachDone {n b} : nextPlug n (foreachList d a e) (e.plugItr.getD 0) ((foreachList d a e).length + 1) = none →
      Turn d a e rest (.each n b) (advance { a with exec := { foreachCtx a e with plugItr := none } :: rest }) .running
  | ifReturn {w b} : e.processing = true →
      Turn d a e rest (.cond w b) (advance { a with exec := { e with processing := false } :: rest }) .running
  | ifTaken {w b} : e.processing = false → condHolds w (nodeState d a.arglist (ctxNode e.plugs)) = true →
      Turn d a e rest (.cond w b) { a with exec := bodyCtx b (some (e.plugs.getD [])) :: { e with processing := true } :: rest } .running
  | ifUnknown {w b} : e.processing = false → condHolds w (nodeState d a.arglist (ctxNode e.plugs)) = false →
      nodeState d a.arglist (ctxNode e.plugs) = .unknown → Turn d a e rest (.cond w b) { a with errnum := .expfail } .failed
  | ifOther {w b} : e.processing = false → condHolds w (nodeState d a.arglist (ctxNode e.plugs)) = false →
      nodeState d a.arglist (ctxNode e.plugs) ≠ .unknown → Turn d a e rest (.cond w b) (advance a) .running

theorem mstep_quiet (now : Time) (d : Dev) (a a' : Action) (o : Oracle) (h : processStmt d a o now = ⟨d, a', o, [], true⟩) :
    mstep now d a o =
      if a'.exec.length > a.exec.length then ⟨d, a', o, [], .running⟩
      else if a'.errnum = .success then ⟨d, advance a', o, [], .running⟩ else ⟨d, a', o, [], .failed⟩ := by
  have hd := mstep_does now d a o
  rw [h] at hd
  generalize mstep now d a o = m at hd ⊢
  cases hd with
  | pushed _ hl => rw [if_pos hl]
  | aborted _ ha => cases ha
  | stalled _ hf => cases hf
  | advanced _ _ hl he => rw [if_neg (Nat.not_lt.mpr hl), if_pos he]
  | failed _ _ hl he => rw [if_neg (Nat.not_lt.mpr hl), if_neg he]

/-- a micro-step on a block statement is one of the six `Turn`s (or, for an action that already carries an error, the end
    of it) -/
theorem mstep_turn {now : Time} {d : Dev} {a : Action} {o : Oracle} {e : ExecCtx} {rest : List ExecCtx} {s : Stmt}
    (hex : a.exec = e :: rest) (hcur : e.block[e.pos]? = some s) (hk : s.kind ≠ .leaf) :
    ∃ a' st, Turn d a e rest s.kind a' st ∧
      (mstep now d a o = ⟨d, a', o, [], st⟩ ∨ a.errnum ≠ .success ∧ (mstep now d a o).status = .failed) := by
  have h := processStmt_step (d := d) (o := o) (now := now) hex hcur
  generalize hr : processStmt d a o now = r at h
  -- the statement finished quietly with action `a'`, same `errnum`: pushed, or the action advances
  have adv : ∀ a' : Action, r = ⟨d, a', o, [], true⟩ → a'.errnum = a.errnum → a'.exec.length ≤ a.exec.length →
      mstep now d a o = ⟨d, advance a', o, [], .running⟩ ∨ a.errnum ≠ .success ∧ (mstep now d a o).status = .failed := by
    intro a' h1 h2 h3
    rw [mstep_quiet now d a a' o (hr.trans h1), if_neg (by omega), h2]
    by_cases he : a.errnum = .success
    · rw [if_pos he]; exact .inl rfl
    · rw [if_neg he]; exact .inr ⟨he, rfl⟩
  have psh : ∀ a' : Action, r = ⟨d, a', o, [], true⟩ → a'.exec.length > a.exec.length →
      mstep now d a o = ⟨d, a', o, [], .running⟩ := by
    intro a' h1 h3; rw [mstep_quiet now d a a' o (hr.trans h1), if_pos h3]
  cases h with
  | eachNext s n b p k hk' hnp => rw [hk']; exact ⟨_, _, .eachNext p k hnp, .inl (psh _ rfl (by rw [hex]; simp))⟩
  | eachDone s n b hk' hnp => rw [hk']; exact ⟨_, _, .eachDone hnp, adv _ rfl rfl (by rw [hex]; simp)⟩
  | ifReturn s w b hk' hp => rw [hk']; exact ⟨_, _, .ifReturn hp, adv _ rfl rfl (by rw [hex]; simp)⟩
  | ifTaken s w b hk' hp hc => rw [hk']; exact ⟨_, _, .ifTaken hp hc, .inl (psh _ rfl (by rw [hex]; simp))⟩
  | ifOther s w b hk' hp hc hu => rw [hk']; exact ⟨_, _, .ifOther hp hc hu, adv _ rfl rfl (Nat.le_refl _)⟩
  | ifUnknown s w b hk' hp hc hu =>
    rw [hk']; refine ⟨_, _, .ifUnknown hp hc hu, .inl ?_⟩
    rw [mstep_quiet now d a _ o hr, if_neg (Nat.lt_irrefl _), if_neg (by simp)]
  | _ => exact absurd rfl hk

theorem advance_exec (a : Action) (e : ExecCtx) (rest : List ExecCtx) (h : a.exec = e :: rest) :
    (advance a).exec = if e.pos + 1 < e.block.length then { e with pos := e.pos + 1 } :: rest else rest := by
  unfold advance topCtx setTop
  simp only [h, List.headD_cons, List.drop_succ_cons, List.drop_zero]
  by_cases hlt : e.pos + 1 < e.block.length
  · simp [hlt]
  · simp [hlt]

structure AdvanceKeeps (a : Action) : Prop where
  info : info (advance a) = info a
  com : (advance a).com = a.com
  timeStamp : (advance a).timeStamp = a.timeStamp
  errnum : (advance a).errnum = a.errnum

theorem advance_info (a : Action) : AdvanceKeeps a := by
  constructor <;> (unfold advance; dsimp only; split <;> rfl)

/-! ### what a micro-step leaves alone -/

/-- only a statement that does not finish (a delay) sets the wake-up time -/
theorem processStmt_wake (d : Dev) (a : Action) (o : Oracle) (now : Time) :
    (processStmt d a o now).finished = true → (processStmt d a o now).dev.wake = d.wake :=
  processStmt_ind d a o now (fun r => r.finished = true → r.dev.wake = d.wake) (fun _ _ => rfl) fun _ _ _ _ _ _ h => h.wake

/-- what a micro-step with result `m` leaves alone -/
structure MstepKeeps (d : Dev) (a : Action) (m : MR) : Prop where
  plugs : m.dev.plugs = d.plugs
  conn : m.dev.conn = d.conn
  timeout : m.dev.timeout = d.timeout
  com : m.act.com = a.com
  timeStamp : m.act.timeStamp = a.timeStamp
  clientId : m.act.clientId = a.clientId
  wake : m.status = .running → m.dev.wake = d.wake

theorem mstep_frame (now : Time) (d : Dev) (a : Action) (o : Oracle) : MstepKeeps d a (mstep now d a o) := by
  have hw := (processStmt_spec d a o now).writes
  have hts : (processStmt d a o now).act.timeStamp = a.timeStamp := by rw [hw.act]
  have h7 := processStmt_wake d a o now
  have hadv := advance_info (processStmt d a o now).act
  have h := mstep_does now d a o
  generalize mstep now d a o = m at h ⊢
  -- the action is the statement's, or that action advanced
  have mk : ∀ (a' : Action) st, a'.com = a.com → a'.timeStamp = a.timeStamp → a'.clientId = a.clientId →
      (st = .running → (processStmt d a o now).finished = true) →
      MstepKeeps d a ⟨(processStmt d a o now).dev, a', (processStmt d a o now).oracle, (processStmt d a o now).out, st⟩ :=
    fun _ _ h1 h2 h3 hf => ⟨by rw [hw.dev], hw.conn, by rw [hw.dev], h1, h2, h3, fun hs => h7 (hf hs)⟩
  cases h with
  | pushed hf => exact mk _ _ hw.com hts hw.clientId fun _ => hf
  | aborted | stalled | failed => exact mk _ _ hw.com hts hw.clientId nofun
  | advanced _ hf =>
    exact mk _ _ (hadv.com.trans hw.com) (hadv.timeStamp.trans hts) ((congrArg FA.clientId hadv.info).trans hw.clientId) fun _ => hf

/-! ### the abstraction: the continuation a stack stands for -/

/-- does the statement use the `processing` flag to remember that it has been started? -/
def _root_.Pm.Dev2.Stmt.twoPhase : Stmt → Bool
  | .send _ => true
  | .delay _ => true
  | _ => false

def contCtx (R : Bool) (dp : List Plug) (c : ExecCtx) : List FOp :=
  match c.block[c.pos]? with
  | none => []
  | some s =>
    match s.kind with
    | .leaf => unroll R dp (c.block.drop c.pos) c.plugs
    | .each isNode body =>
      unrollEach R dp isNode ((eachList R dp c.plugs).drop (c.plugItr.getD 0)) body
        ++ unroll R dp (c.block.drop (c.pos + 1)) c.plugs
    | .cond wantOn body =>
      (if c.processing then [] else [.guard wantOn (ctxNode c.plugs) (unroll R dp body (some (c.plugs.getD [])))])
        ++ unroll R dp (c.block.drop (c.pos + 1)) c.plugs

def cont (R : Bool) (dp : List Plug) (stack : List ExecCtx) : List FOp := stack.flatMap (contCtx R dp)

def ctxInflight (c : ExecCtx) : Bool :=
  match c.block[c.pos]? with
  | some s => s.twoPhase && c.processing
  | none => false

def topInflight : List ExecCtx → Bool
  | c :: _ => ctxInflight c
  | [] => false

def abs (R : Bool) (dp : List Plug) (stack : List ExecCtx) : F := { rem := cont R dp stack, inflight := topInflight stack }

/-- flags that must be clear for the abstraction to mean anything (`_rewind_action` clears them: `rewind_ok`, finding F5),
    and the plug copy of a ranged action is a copy of the context's plugs -/
def CtxOK (R : Bool) (c : ExecCtx) : Prop :=
  (c.plugCopy = none ∨ c.plugCopy = some (c.plugs.getD [])) ∧
  (R = true → c.plugItr.isSome = true → c.plugCopy.isSome = true) ∧
  match c.block[c.pos]? with
  | none => True
  | some s =>
    match s.kind with
    | .leaf => c.plugItr = none ∧ (s.twoPhase = false → c.processing = false)
    | .each _ _ => c.processing = false
    | .cond _ _ => c.plugItr = none

/-- a context below the top is parked on the block statement that pushed its child -/
def ParentOK (c : ExecCtx) : Prop :=
  match c.block[c.pos]? with
  | none => False
  | some s =>
    match s.kind with
    | .leaf => False
    | .each _ _ => True
    | .cond _ _ => c.processing = true

mutual
/-- every block of the script has at least one statement (the grammar of `powerman.dev` files guarantees it) -/
def neStmt : Stmt → Bool
  | .foreachplug b => !b.isEmpty && neBlock b
  | .foreachnode b => !b.isEmpty && neBlock b
  | .ifon b => !b.isEmpty && neBlock b
  | .ifoff b => !b.isEmpty && neBlock b
  | _ => true
def neBlock : List Stmt → Bool
  | [] => true
  | s :: r => neStmt s && neBlock r
end

def StackOK (R : Bool) (stack : List ExecCtx) : Prop :=
  (∀ c ∈ stack, CtxOK R c ∧ neBlock c.block = true) ∧ (∀ c ∈ stack.tail, ParentOK c) ∧
  (∀ c, stack.head? = some c → c.pos < c.block.length)

theorem StackOK.ctx {R : Bool} {stack : List ExecCtx} (h : StackOK R stack) {c : ExecCtx} (hc : c ∈ stack) :
    CtxOK R c ∧ neBlock c.block = true := h.1 c hc

theorem StackOK.headPos {R : Bool} {stack : List ExecCtx} (h : StackOK R stack) {c : ExecCtx} (hc : stack.head? = some c) :
    c.pos < c.block.length := h.2.2 c hc

theorem getElem?_some_of_lt {α} {l : List α} {i : Nat} (h : i < l.length) : ∃ s, l[i]? = some s :=
  ⟨l[i], List.getElem?_eq_getElem h⟩

theorem unroll_nil (R : Bool) (dp : List Plug) (pl : Option (List Plug)) : unroll R dp [] pl = [] := by
  simp [unroll]

theorem unroll_cons (R : Bool) (dp : List Plug) (s : Stmt) (r : List Stmt) (pl : Option (List Plug)) :
    unroll R dp (s :: r) pl = unrollStmt R dp s pl ++ unroll R dp r pl := by
  simp [unroll]

theorem kind_each {s : Stmt} {n : Bool} {b : List Stmt} (hk : s.kind = .each n b) :
    s = if n then .foreachnode b else .foreachplug b := by
  cases s <;> cases hk <;> rfl

theorem kind_cond {s : Stmt} {w : Bool} {b : List Stmt} (hk : s.kind = .cond w b) :
    s = if w then .ifon b else .ifoff b := by
  cases s <;> cases hk <;> rfl

theorem unrollStmt_each (R : Bool) (dp : List Plug) (s : Stmt) (pl : Option (List Plug)) (n : Bool) (b : List Stmt)
    (h : s.kind = .each n b) : unrollStmt R dp s pl = unrollEach R dp n (eachList R dp pl) b := by
  rw [kind_each h]; cases n <;> simp [unrollStmt, unrollEach]

theorem unrollStmt_cond (R : Bool) (dp : List Plug) (s : Stmt) (pl : Option (List Plug)) (w : Bool) (b : List Stmt)
    (h : s.kind = .cond w b) :
    unrollStmt R dp s pl = [.guard w (ctxNode pl) (unroll R dp b (some (pl.getD [])))] := by
  rw [kind_cond h]; cases w <;> simp [unrollStmt]

theorem twoPhase_of_not_leaf (s : Stmt) (h : s.kind ≠ .leaf) : s.twoPhase = false := by
  cases s <;> simp_all [Stmt.kind, Stmt.twoPhase]

theorem unrollEach_cons_keep (R : Bool) (dp : List Plug) (n : Bool) (p : Plug) (ps : List Plug) (body : List Stmt)
    (h : skipped n p = false) :
    unrollEach R dp n (p :: ps) body = unroll R dp body (some [p]) ++ unrollEach R dp n ps body := by
  simp [unrollEach, h]

theorem unrollEach_of_filter (R : Bool) (dp : List Plug) (n : Bool) (ps qs : List Plug) (body : List Stmt)
    (h : ps.filter (fun p => !skipped n p) = qs.filter (fun p => !skipped n p)) :
    unrollEach R dp n ps body = unrollEach R dp n qs body := by
  simp [unrollEach, h]

theorem cont_cons (R : Bool) (dp : List Plug) (c : ExecCtx) (rest : List ExecCtx) :
    cont R dp (c :: rest) = contCtx R dp c ++ cont R dp rest := by
  simp [cont]

theorem contCtx_leaf (R : Bool) (dp : List Plug) (c : ExecCtx) (s : Stmt) (hcur : c.block[c.pos]? = some s)
    (hk : s.kind = .leaf) :
    contCtx R dp c = unrollStmt R dp s c.plugs ++ unroll R dp (c.block.drop (c.pos + 1)) c.plugs := by
  unfold contCtx; simp only [hcur, hk]; rw [drop_pos hcur, unroll_cons]

theorem contCtx_each (R : Bool) (dp : List Plug) (c : ExecCtx) (s : Stmt) (n : Bool) (b : List Stmt)
    (hcur : c.block[c.pos]? = some s) (hk : s.kind = .each n b) :
    contCtx R dp c = unrollEach R dp n ((eachList R dp c.plugs).drop (c.plugItr.getD 0)) b
        ++ unroll R dp (c.block.drop (c.pos + 1)) c.plugs := by
  unfold contCtx; simp only [hcur, hk]

theorem contCtx_cond (R : Bool) (dp : List Plug) (c : ExecCtx) (s : Stmt) (w : Bool) (b : List Stmt)
    (hcur : c.block[c.pos]? = some s) (hk : s.kind = .cond w b) :
    contCtx R dp c = (if c.processing then [] else [.guard w (ctxNode c.plugs) (unroll R dp b (some (c.plugs.getD [])))])
        ++ unroll R dp (c.block.drop (c.pos + 1)) c.plugs := by
  unfold contCtx; simp only [hcur, hk]

theorem drop_none {α} {block : List α} {pos : Nat} (h : block[pos]? = none) : block.drop pos = [] :=
  List.drop_eq_nil_of_le (List.getElem?_eq_none_iff.mp h)

/-- a context with clear flags denotes exactly the unrolling of what is left of its block -/
theorem contCtx_fresh (R : Bool) (dp : List Plug) (c : ExecCtx) (hi : c.plugItr = none) (hp : c.processing = false) :
    contCtx R dp c = unroll R dp (c.block.drop c.pos) c.plugs := by
  cases hcur : c.block[c.pos]? with
  | none => simp [contCtx, hcur, drop_none hcur, unroll_nil]
  | some s =>
    cases hk : s.kind with
    | leaf => rw [contCtx_leaf R dp c s hcur hk, drop_pos hcur, unroll_cons]
    | each n b =>
      rw [contCtx_each R dp c s n b hcur hk, drop_pos hcur, unroll_cons, unrollStmt_each R dp s _ n b hk]
      simp [hi]
    | cond w b =>
      rw [contCtx_cond R dp c s w b hcur hk, drop_pos hcur, unroll_cons, unrollStmt_cond R dp s _ w b hk]
      simp [hp]

theorem ctxInflight_noproc (c : ExecCtx) (hp : c.processing = false) : ctxInflight c = false := by
  unfold ctxInflight; split <;> simp_all

theorem ctxInflight_parent (c : ExecCtx) (h : ParentOK c) : ctxInflight c = false := by
  unfold ParentOK at h
  unfold ctxInflight
  cases hcur : c.block[c.pos]? with
  | none => rfl
  | some s =>
    simp only [hcur] at h
    have : s.kind ≠ .leaf := by intro hk; simp [hk] at h
    simp [twoPhase_of_not_leaf s this]

theorem topInflight_parent (rest : List ExecCtx) (h : ∀ c ∈ rest, ParentOK c) : topInflight rest = false := by
  cases rest with
  | nil => rfl
  | cons p ps => exact ctxInflight_parent p (h p (by simp))

theorem abs_fresh (R : Bool) (dp : List Plug) (c : ExecCtx) (rest : List ExecCtx) (hi : c.plugItr = none)
    (hp : c.processing = false) :
    abs R dp (c :: rest) = ⟨unroll R dp (c.block.drop c.pos) c.plugs ++ cont R dp rest, false⟩ := by
  simp only [abs, cont_cons, contCtx_fresh R dp c hi hp, topInflight, ctxInflight_noproc c hp]

theorem abs_leaf (R : Bool) (dp : List Plug) (c : ExecCtx) (rest : List ExecCtx) (s : Stmt)
    (hcur : c.block[c.pos]? = some s) (hk : s.kind = .leaf) :
    abs R dp (c :: rest) =
      ⟨unrollStmt R dp s c.plugs ++ (unroll R dp (c.block.drop (c.pos + 1)) c.plugs ++ cont R dp rest),
       s.twoPhase && c.processing⟩ := by
  simp [abs, cont_cons, contCtx_leaf R dp c s hcur hk, topInflight, ctxInflight, hcur]

theorem abs_each (R : Bool) (dp : List Plug) (c : ExecCtx) (rest : List ExecCtx) (s : Stmt) (n : Bool) (b : List Stmt)
    (hcur : c.block[c.pos]? = some s) (hk : s.kind = .each n b) :
    abs R dp (c :: rest) =
      ⟨unrollEach R dp n ((eachList R dp c.plugs).drop (c.plugItr.getD 0)) b
        ++ (unroll R dp (c.block.drop (c.pos + 1)) c.plugs ++ cont R dp rest), false⟩ := by
  have : s.twoPhase = false := twoPhase_of_not_leaf s (by simp [hk])
  simp [abs, cont_cons, contCtx_each R dp c s n b hcur hk, topInflight, ctxInflight, hcur, this]

theorem abs_cond (R : Bool) (dp : List Plug) (c : ExecCtx) (rest : List ExecCtx) (s : Stmt) (w : Bool) (b : List Stmt)
    (hcur : c.block[c.pos]? = some s) (hk : s.kind = .cond w b) :
    abs R dp (c :: rest) =
      ⟨(if c.processing then [] else [.guard w (ctxNode c.plugs) (unroll R dp b (some (c.plugs.getD [])))])
        ++ (unroll R dp (c.block.drop (c.pos + 1)) c.plugs ++ cont R dp rest), false⟩ := by
  have : s.twoPhase = false := twoPhase_of_not_leaf s (by simp [hk])
  simp [abs, cont_cons, contCtx_cond R dp c s w b hcur hk, topInflight, ctxInflight, hcur, this]

/-- leaving a statement whose flags are clear: the stack then stands for the rest of the block and of the enclosing
    blocks — whether or not the context was popped -/
theorem abs_advance (R : Bool) (dp : List Plug) (a : Action) (e : ExecCtx) (rest : List ExecCtx) (h : a.exec = e :: rest)
    (hi : e.plugItr = none) (hp : e.processing = false) (hpar : ∀ c ∈ rest, ParentOK c) :
    abs R dp (advance a).exec = ⟨unroll R dp (e.block.drop (e.pos + 1)) e.plugs ++ cont R dp rest, false⟩ := by
  rw [advance_exec a e rest h]
  by_cases hlt : e.pos + 1 < e.block.length
  · simp only [hlt, ↓reduceIte]
    rw [abs_fresh R dp { e with pos := e.pos + 1 } rest hi hp]
  · simp only [hlt, ↓reduceIte]
    rw [List.drop_eq_nil_of_le (by omega), unroll_nil]
    simp [abs, topInflight_parent rest hpar]

theorem ctxOK_clean (R : Bool) (c : ExecCtx) (hcopy : c.plugCopy = none ∨ c.plugCopy = some (c.plugs.getD []))
    (hi : c.plugItr = none) (hp : c.processing = false) : CtxOK R c := by
  refine ⟨hcopy, by simp [hi], ?_⟩
  split
  · trivial
  · split <;> simp [hi, hp]

theorem neBlock_getElem (l : List Stmt) (i : Nat) (s : Stmt) (h : neBlock l = true) (hs : l[i]? = some s) :
    neStmt s = true := by
  induction l generalizing i with
  | nil => simp at hs
  | cons x xs ih =>
    simp only [neBlock, Bool.and_eq_true] at h
    cases i with
    | zero => simp at hs; subst hs; exact h.1
    | succ j => exact ih j h.2 (by simpa using hs)

theorem neBlock_each (l : List Stmt) (i : Nat) (s : Stmt) (n : Bool) (b : List Stmt) (h : neBlock l = true)
    (hs : l[i]? = some s) (hk : s.kind = .each n b) : b ≠ [] ∧ neBlock b = true := by
  have h := neBlock_getElem _ _ _ h hs
  rw [kind_each hk] at h; cases n <;> simpa [neStmt] using h

theorem neBlock_cond (l : List Stmt) (i : Nat) (s : Stmt) (w : Bool) (b : List Stmt) (h : neBlock l = true)
    (hs : l[i]? = some s) (hk : s.kind = .cond w b) : b ≠ [] ∧ neBlock b = true := by
  have h := neBlock_getElem _ _ _ h hs
  rw [kind_cond hk] at h; cases w <;> simpa [neStmt] using h

theorem parentOK_pos (c : ExecCtx) (h : ParentOK c) : c.pos < c.block.length := by
  unfold ParentOK at h
  cases hcur : c.block[c.pos]? with
  | none => simp [hcur] at h
  | some s => exact (List.getElem?_eq_some_iff.mp hcur).1

theorem stackOK_cons (R : Bool) (e : ExecCtx) (rest : List ExecCtx) :
    StackOK R (e :: rest) ↔
      (CtxOK R e ∧ neBlock e.block = true ∧ e.pos < e.block.length) ∧
      (∀ c ∈ rest, CtxOK R c ∧ neBlock c.block = true) ∧ (∀ c ∈ rest, ParentOK c) := by
  unfold StackOK
  constructor
  · rintro ⟨h1, h2, h3⟩
    exact ⟨⟨(h1 e (by simp)).1, (h1 e (by simp)).2, h3 e rfl⟩, fun c hc => h1 c (by simp [hc]), by simpa using h2⟩
  · rintro ⟨⟨h1, h2, h3⟩, h4, h5⟩
    refine ⟨?_, by simpa using h5, ?_⟩
    · intro c hc
      rcases List.mem_cons.mp hc with rfl | hc
      · exact ⟨h1, h2⟩
      · exact h4 c hc
    · intro c hc; simp at hc; subst hc; exact h3

/-- a well-formed stack `e :: rest` whose top stands at `s`, taken apart -/
structure TopOK (R : Bool) (e : ExecCtx) (rest : List ExecCtx) (s : Stmt) : Prop where
  copy : e.plugCopy = none ∨ e.plugCopy = some (e.plugs.getD [])
  copied : R = true → e.plugItr.isSome = true → e.plugCopy.isSome = true
  flags : match s.kind with
    | .leaf => e.plugItr = none ∧ (s.twoPhase = false → e.processing = false)
    | .each _ _ => e.processing = false
    | .cond _ _ => e.plugItr = none
  ne : neBlock e.block = true
  pos : e.pos < e.block.length
  below : ∀ c ∈ rest, CtxOK R c ∧ neBlock c.block = true
  parents : ∀ c ∈ rest, ParentOK c

theorem StackOK.top {R : Bool} {e : ExecCtx} {rest : List ExecCtx} {s : Stmt} (hok : StackOK R (e :: rest))
    (hcur : e.block[e.pos]? = some s) : TopOK R e rest s := by
  obtain ⟨⟨⟨hcopy, hsome, hflags⟩, hne, hpos⟩, hrest, hpar⟩ := (stackOK_cons R e rest).mp hok
  simp only [hcur] at hflags
  exact ⟨hcopy, hsome, hflags, hne, hpos, hrest, hpar⟩

theorem stackOK_advance (R : Bool) (a : Action) (e : ExecCtx) (rest : List ExecCtx) (h : a.exec = e :: rest)
    (hcopy : e.plugCopy = none ∨ e.plugCopy = some (e.plugs.getD [])) (hne : neBlock e.block = true)
    (hi : e.plugItr = none) (hp : e.processing = false)
    (hrest : ∀ c ∈ rest, CtxOK R c ∧ neBlock c.block = true) (hpar : ∀ c ∈ rest, ParentOK c) :
    StackOK R (advance a).exec := by
  rw [advance_exec a e rest h]
  by_cases hlt : e.pos + 1 < e.block.length
  · simp only [hlt, ↓reduceIte]
    rw [stackOK_cons]
    exact ⟨⟨ctxOK_clean R _ hcopy hi hp, hne, hlt⟩, hrest, hpar⟩
  · simp only [hlt, ↓reduceIte]
    cases rest with
    | nil => exact ⟨by simp, by simp, by simp⟩
    | cons p ps =>
      rw [stackOK_cons]
      exact ⟨⟨(hrest p (by simp)).1, (hrest p (by simp)).2, parentOK_pos p (hpar p (by simp))⟩,
        fun c hc => hrest c (by simp [hc]), fun c hc => hpar c (by simp [hc])⟩

theorem bodyCtx_ok (R : Bool) (body : List Stmt) (pl : Option (List Plug)) (hb : body ≠ []) (hne : neBlock body = true) :
    CtxOK R (bodyCtx body pl) ∧ neBlock (bodyCtx body pl).block = true ∧ (bodyCtx body pl).pos < (bodyCtx body pl).block.length := by
  refine ⟨ctxOK_clean R _ (Or.inl rfl) rfl rfl, hne, ?_⟩
  simp only [bodyCtx]
  exact List.length_pos_iff.mpr hb

/-! ### the simulation: a micro-step is invisible, or one step of the reference -/

/-- the configuration invariant: `R` and `dp` are the action's and the device's, the stack is well-formed, no error yet -/
structure Inv (R : Bool) (dp : List Plug) (d : Dev) (a : Action) : Prop where
  ranged : R = isRanged a.com
  plugs : dp = d.plugs
  ok : StackOK R a.exec
  err : a.errnum = .success

/-- outcome of one machine micro-step seen through the abstraction: invisible, or exactly one step of the reference -/
inductive Sim (R : Bool) (dp : List Plug) (now : Time) (d : Dev) (a : Action) (o : Oracle) (m : MR) : Prop where
  | stutter : m.status = .running → m.dev = d → m.oracle = o → m.out = [] → info m.act = info a →
      abs R dp m.act.exec = abs R dp a.exec → Sim R dp now d a o m
  | step : m.status = (fstep now d (info a) o (abs R dp a.exec)).status →
      m.dev = (fstep now d (info a) o (abs R dp a.exec)).dev →
      m.oracle = (fstep now d (info a) o (abs R dp a.exec)).oracle →
      m.out = (fstep now d (info a) o (abs R dp a.exec)).out →
      info m.act = (fstep now d (info a) o (abs R dp a.exec)).info →
      (m.status = .running ∨ m.status = .stalled → abs R dp m.act.exec = (fstep now d (info a) o (abs R dp a.exec)).f) →
      Sim R dp now d a o m

/-- `Sim.step` against the record `fr` the reference's step evaluates to -/
theorem Sim.ofStep {R : Bool} {dp : List Plug} {now : Time} {d : Dev} {a : Action} {o : Oracle} {m : MR} {fr : FR}
    (hfs : fstep now d (info a) o (abs R dp a.exec) = fr) (status : m.status = fr.status) (dev : m.dev = fr.dev)
    (oracle : m.oracle = fr.oracle) (out : m.out = fr.out) (info : info m.act = fr.info)
    (f : m.status = .running ∨ m.status = .stalled → abs R dp m.act.exec = fr.f) : Sim R dp now d a o m := by
  subst hfs; exact .step status dev oracle out info f

/-- the micro-step is invisible or one step of the reference, and while the action goes on the stack stays well-formed:
    proved for the block statements (`sim_block`) and the leaf statements (`sim_leaf`), together `mstep_sim` -/
def MstepOK (R : Bool) (dp : List Plug) (now : Time) (d : Dev) (a : Action) (o : Oracle) : Prop :=
  Sim R dp now d a o (mstep now d a o) ∧
  ((mstep now d a o).status = .running ∨ (mstep now d a o).status = .stalled →
    StackOK R (mstep now d a o).act.exec ∧ (mstep now d a o).act.errnum = .success)

theorem foreachCtx_copy (R : Bool) (a : Action) (e : ExecCtx) (hR : R = isRanged a.com)
    (hcopy : e.plugCopy = none ∨ e.plugCopy = some (e.plugs.getD []))
    (hsome : R = true → e.plugItr.isSome = true → e.plugCopy.isSome = true) :
    ((foreachCtx a e).plugCopy = none ∨ (foreachCtx a e).plugCopy = some ((foreachCtx a e).plugs.getD [])) ∧
    (R = true → (foreachCtx a e).plugCopy.isSome = true) := by
  subst hR
  unfold foreachCtx
  by_cases hr : isRanged a.com = true
  · cases hi : e.plugItr with
    | none =>
      simp only [Option.isNone_none, hr, Bool.and_self, ↓reduceIte]
      rcases hcopy with h | h <;> simp [h]
    | some k =>
      have := hsome hr (by simp [hi])
      simp only [Option.isNone_some, Bool.false_and, Bool.false_eq_true, ↓reduceIte]
      exact ⟨hcopy, fun _ => this⟩
  · have hr' : isRanged a.com = false := by simpa using hr
    simp only [hr', Bool.and_false, Bool.false_eq_true, ↓reduceIte]
    split
    · exact ⟨hcopy, by simp⟩
    · exact ⟨hcopy, by simp⟩

theorem foreachList_eq (R : Bool) (dp : List Plug) (d : Dev) (a : Action) (e : ExecCtx) (hR : R = isRanged a.com)
    (hdp : dp = d.plugs) (hcopy : e.plugCopy = none ∨ e.plugCopy = some (e.plugs.getD []))
    (hsome : R = true → e.plugItr.isSome = true → e.plugCopy.isSome = true) :
    foreachList d a e = eachList R dp e.plugs := by
  subst hR hdp
  unfold foreachList eachList
  by_cases hr : isRanged a.com = true
  · simp only [hr, ↓reduceIte]
    cases hi : e.plugItr with
    | none => rcases hcopy with h | h <;> simp [h]
    | some k =>
      have := hsome hr (by simp [hi])
      rcases hcopy with h | h
      · simp [h] at this
      · simp [h]
  · simp [hr]

/-- `foreach` and `if`: by the six `Turn`s.  A pushed body, an exhausted `foreach` and the return from an `if` body leave the
    program the stack stands for as it is (`Sim.stutter`); an `if` that is evaluated is the reference's step on its guard -/
theorem sim_block (R : Bool) (dp : List Plug) (now : Time) (d : Dev) (a : Action) (o : Oracle) (e : ExecCtx)
    (rest : List ExecCtx) (s : Stmt)
    (hex : a.exec = e :: rest) (hcur : e.block[e.pos]? = some s) (hk : s.kind ≠ .leaf)
    (hR : R = isRanged a.com) (hdp : dp = d.plugs) (hok : StackOK R (e :: rest)) (herr : a.errnum = .success) :
    MstepOK R dp now d a o := by
  obtain ⟨hcopy, hsome, hflags, hne, hpos, hrest, hpar⟩ := hok.top hcur
  unfold MstepOK
  obtain ⟨a', st, ht, hm⟩ := mstep_turn (now := now) (d := d) (o := o) hex hcur hk
  rw [hm.resolve_right fun h => h.1 herr]
  have hff := foreachCtx_fields a e
  have hfc := foreachCtx_copy R a e hR hcopy hsome
  have hlist := foreachList_eq R dp d a e hR hdp hcopy hsome
  -- the statement is left from a context `x` with clear flags: the stack then stands for `after`
  have leave : ∀ (a1 : Action) (x : ExecCtx), a1.exec = x :: rest → info a1 = info a → a1.errnum = .success →
      x.block = e.block → x.pos = e.pos → x.plugs = e.plugs →
      (x.plugCopy = none ∨ x.plugCopy = some (x.plugs.getD [])) → x.plugItr = none → x.processing = false →
      abs R dp (advance a1).exec = ⟨unroll R dp (e.block.drop (e.pos + 1)) e.plugs ++ cont R dp rest, false⟩ ∧
      info (advance a1) = info a ∧ StackOK R (advance a1).exec ∧ (advance a1).errnum = .success := by
    intro a1 x h0 hi he h1 h2 h3 h4 h5 h6
    have hadv := advance_info a1
    refine ⟨?_, hadv.info.trans hi, stackOK_advance R a1 x rest h0 h4 (by rw [h1]; exact hne) h5 h6 hrest hpar, hadv.errnum.trans he⟩
    rw [abs_advance R dp a1 x rest h0 h5 h6 hpar, h1, h2, h3]
  -- the body is pushed on a context `x` that stands at `s` as `e` does
  have enter : ∀ (b : List Stmt) (pl : Option (List Plug)) (x : ExecCtx), b ≠ [] ∧ neBlock b = true → CtxOK R x → ParentOK x →
      x.block = e.block → StackOK R (bodyCtx b pl :: x :: rest) := by
    intro b pl x hb h1 h2 h3
    rw [stackOK_cons]
    refine ⟨bodyCtx_ok R b pl hb.1 hb.2, ?_, ?_⟩
    · intro c hc
      rcases List.mem_cons.mp hc with rfl | hc
      · exact ⟨h1, by rw [h3]; exact hne⟩
      · exact hrest c hc
    · intro c hc
      rcases List.mem_cons.mp hc with rfl | hc
      · exact h2
      · exact hpar c hc
  -- the reference on the guard an `if` that is evaluated stands for
  have guard : ∀ w b, s.kind = .cond w b → e.processing = false → fstep now d (info a) o (abs R dp a.exec) =
      if condHolds w (nodeState d a.arglist (ctxNode e.plugs)) then
        ⟨d, info a, o, [], ⟨unroll R dp b (some (e.plugs.getD [])) ++ (unroll R dp (e.block.drop (e.pos + 1)) e.plugs ++ cont R dp rest), false⟩, .running⟩
      else if nodeState d a.arglist (ctxNode e.plugs) == .unknown then
        ⟨d, { info a with errnum := .expfail }, o, [], ⟨unroll R dp (e.block.drop (e.pos + 1)) e.plugs ++ cont R dp rest, false⟩, .failed⟩
      else ⟨d, info a, o, [], ⟨unroll R dp (e.block.drop (e.pos + 1)) e.plugs ++ cont R dp rest, false⟩, .running⟩ :=
    fun w b hk hp => by rw [hex, abs_cond R dp e rest s w b hcur hk, hp]; rfl
  generalize hk' : s.kind = k at ht hflags
  cases ht with
  | @eachNext n b p k hnp =>
    have habs := abs_each R dp e rest s n b hcur hk'
    have hspec := nextPlug_spec n (foreachList d a e) (e.plugItr.getD 0) ((foreachList d a e).length + 1) (by omega)
    simp only [hnp] at hspec
    have hcur1 : ({ foreachCtx a e with plugItr := some k } : ExecCtx).block[({ foreachCtx a e with plugItr := some k } : ExecCtx).pos]? = some s := by
      simp only [hff.block, hff.pos]; exact hcur
    refine ⟨Sim.stutter rfl rfl rfl rfl rfl ?_, fun _ => ⟨enter b _ _ (neBlock_each _ _ s n b hne hcur hk') ?_ ?_ hff.block, herr⟩⟩
    · simp only
      rw [hex, habs, abs_fresh R dp (bodyCtx b (some [p])) _ rfl rfl, cont_cons, contCtx_each R dp _ s n b hcur1 hk']
      simp only [hff.plugs, hff.pos, Option.getD_some, ← hlist, unrollEach, hspec.2.2.2.2.2, List.flatMap_cons]
      simp [bodyCtx, hff.block]
    · exact ⟨hfc.1, fun hr _ => hfc.2 hr, by simp only [hcur1, hk']; simp only [hff.processing]; exact hflags⟩
    · unfold ParentOK; simp only [hcur1, hk']
  | @eachDone n b hnp =>
    have hspec := nextPlug_spec n (foreachList d a e) (e.plugItr.getD 0) ((foreachList d a e).length + 1) (by omega)
    simp only [hnp] at hspec
    obtain ⟨h1, h2, h3, h4⟩ := leave { a with exec := { foreachCtx a e with plugItr := none } :: rest } _ rfl rfl herr
      hff.block hff.pos hff.plugs hfc.1 rfl (by simp only [hff.processing]; exact hflags)
    refine ⟨Sim.stutter rfl rfl rfl rfl h2 ?_, fun _ => ⟨h3, h4⟩⟩
    simp only
    rw [h1, hex, abs_each R dp e rest s n b hcur hk', ← hlist]
    simp [unrollEach, hspec]
  | @ifReturn w b hp =>
    obtain ⟨h1, h2, h3, h4⟩ := leave { a with exec := { e with processing := false } :: rest } _ rfl rfl herr
      rfl rfl rfl hcopy hflags rfl
    refine ⟨Sim.stutter rfl rfl rfl rfl h2 ?_, fun _ => ⟨h3, h4⟩⟩
    simp only
    rw [h1, hex, abs_cond R dp e rest s w b hcur hk']; simp [hp]
  | @ifTaken w b hp hc =>
    have hfs := guard w b hk' hp
    rw [if_pos hc] at hfs
    have hcur1 : ({ e with processing := true } : ExecCtx).block[({ e with processing := true } : ExecCtx).pos]? = some s := hcur
    refine ⟨?_, fun _ => ⟨enter b _ { e with processing := true } (neBlock_cond _ _ s w b hne hcur hk')
      ⟨hcopy, hsome, by simp only [hcur1, hk']; exact hflags⟩ (by unfold ParentOK; simp only [hcur1, hk']) rfl, herr⟩⟩
    refine Sim.ofStep hfs rfl rfl rfl rfl rfl fun _ => ?_
    simp only
    rw [abs_fresh R dp (bodyCtx b (some (e.plugs.getD []))) _ rfl rfl, cont_cons, contCtx_cond R dp _ s w b hcur1 hk']
    simp [bodyCtx]
  | @ifUnknown w b hp hc hu =>
    have hfs := guard w b hk' hp
    rw [if_neg (by rw [hc]; decide), if_pos (by rw [hu]; rfl)] at hfs
    exact ⟨Sim.ofStep hfs rfl rfl rfl rfl rfl (fun h => by simp at h), by simp⟩
  | @ifOther w b hp hc hu =>
    have hfs := guard w b hk' hp
    rw [if_neg (by rw [hc]; decide), if_neg (by simpa using hu)] at hfs
    obtain ⟨h1, h2, h3, h4⟩ := leave a e hex rfl herr rfl rfl rfl hcopy hflags hp
    exact ⟨Sim.ofStep hfs rfl rfl rfl rfl h2 fun _ => h1, fun _ => ⟨h3, h4⟩⟩

/-- The five leaf statements.  Each of them leaves the stack alone but for the `processing` flag of the top context,
    which is set exactly while a two-phase statement (send, delay) has been started and is not finished; and the
    reference, standing at the operation the statement unrolls to, does the same to device, oracle, output and
    `delayStart`, and leaves that operation exactly when the statement finishes.  (After an assertion of the daemon the
    reference's program does not matter.) -/
theorem sim_leaf (R : Bool) (dp : List Plug) (now : Time) (d : Dev) (a : Action) (o : Oracle) (e : ExecCtx)
    (rest : List ExecCtx) (s : Stmt)
    (hex : a.exec = e :: rest) (hcur : e.block[e.pos]? = some s) (hk : s.kind = .leaf)
    (hok : StackOK R (e :: rest)) (herr : a.errnum = .success)
    (dev' : Dev) (ds : Time) (o' : Oracle) (out : List Out) (fin : Bool) (f' : F)
    (hm : processStmt d a o now =
      ⟨dev', { a with delayStart := ds, exec := { e with processing := s.twoPhase && !fin } :: rest }, o', out, fin⟩)
    (hf : fstep now d (info a) o (abs R dp a.exec) = ⟨dev', { info a with delayStart := ds }, o', out, f', classify out fin⟩)
    (hf' : hasAbort out = false → f' =
      if fin then ⟨unroll R dp (e.block.drop (e.pos + 1)) e.plugs ++ cont R dp rest, false⟩
      else ⟨unrollStmt R dp s e.plugs ++ (unroll R dp (e.block.drop (e.pos + 1)) e.plugs ++ cont R dp rest), s.twoPhase⟩) :
    MstepOK R dp now d a o := by
  obtain ⟨hcopy, hsome, hflags, hne, hpos, hrest, hpar⟩ := hok.top hcur
  simp only [hk] at hflags
  unfold MstepOK
  have hd := mstep_does now d a o
  rw [hm] at hd
  generalize mstep now d a o = m at hd ⊢
  -- the statement is not left: an assertion of the daemon, or it did not finish
  have stay : ∀ st, classify out fin = st → st ≠ .running → (st = .stalled → hasAbort out = false ∧ fin = false) →
      Sim R dp now d a o ⟨dev', { a with delayStart := ds, exec := { e with processing := s.twoPhase && !fin } :: rest }, o', out, st⟩ ∧
      (st = .running ∨ st = .stalled → StackOK R ({ e with processing := s.twoPhase && !fin } :: rest) ∧ a.errnum = .success) := by
    intro st hcl hrun hst
    have hcur1 : ({ e with processing := s.twoPhase && !fin } : ExecCtx).block[({ e with processing := s.twoPhase && !fin } : ExecCtx).pos]? = some s := hcur
    refine ⟨Sim.ofStep hf hcl.symm rfl rfl rfl rfl fun hs => ?_, fun _ => ⟨?_, herr⟩⟩
    · obtain ⟨hab, rfl⟩ := hst (hs.resolve_left hrun)
      simp only [hf' hab, Bool.false_eq_true, ↓reduceIte]
      rw [abs_leaf R dp _ rest s hcur1 hk]; simp
    · rw [stackOK_cons]
      refine ⟨⟨⟨hcopy, hsome, ?_⟩, hne, hpos⟩, hrest, hpar⟩
      simp only [hcur1, hk]
      exact ⟨hflags.1, fun h => by simp [h]⟩
  cases hd with
  | pushed _ hl => simp [hex] at hl
  | failed _ _ _ he => exact absurd herr he
  | aborted _ ha => exact stay _ (by simp [classify, show hasAbort out = true from ha]) nofun nofun
  | stalled ha hf => exact stay _ (by simp [classify, show hasAbort out = false from ha, show fin = false from hf]) nofun fun _ => ⟨ha, hf⟩
  | advanced ha hf =>
    obtain rfl : fin = true := hf
    have hadv := advance_info { a with delayStart := ds, exec := { e with processing := s.twoPhase && !true } :: rest }
    refine ⟨Sim.ofStep hf (by simp [classify, show hasAbort out = false from ha]) rfl rfl rfl hadv.info fun _ => ?_,
      fun _ => ⟨stackOK_advance R _ { e with processing := s.twoPhase && !true } rest rfl hcopy hne hflags.1 (by simp) hrest hpar,
        hadv.errnum.trans herr⟩⟩
    simp only [hf' ha, ↓reduceIte]
    exact abs_advance R dp _ { e with processing := s.twoPhase && !true } rest rfl hflags.1 (by simp) hpar

/-- expect, setplugstate, setresult: the statement unrolls to one operation `op`, has no second phase, and does not
    touch the action -/
theorem sim_onephase (R : Bool) (dp : List Plug) (now : Time) (d : Dev) (a : Action) (o : Oracle) (e : ExecCtx)
    (rest : List ExecCtx) (s : Stmt) (op : FOp)
    (hex : a.exec = e :: rest) (hcur : e.block[e.pos]? = some s) (hk : s.kind = .leaf) (htp : s.twoPhase = false)
    (hop : unrollStmt R dp s e.plugs = [op]) (hok : StackOK R (e :: rest)) (herr : a.errnum = .success)
    (dev' : Dev) (o' : Oracle) (out : List Out) (fin : Bool)
    (hm : processStmt d a o now = ⟨dev', a, o', out, fin⟩)
    (hf : ∀ r, fstep now d (info a) o ⟨op :: r, false⟩ =
      ⟨dev', info a, o', out, if fin then ⟨r, false⟩ else ⟨op :: r, false⟩, classify out fin⟩) :
    MstepOK R dp now d a o := by
  have hflags := (hok.top hcur).flags
  simp only [hk] at hflags
  have habs : abs R dp a.exec = ⟨op :: (unroll R dp (e.block.drop (e.pos + 1)) e.plugs ++ cont R dp rest), false⟩ := by
    rw [hex, abs_leaf R dp e rest s hcur hk, hop, htp]; rfl
  refine sim_leaf R dp now d a o e rest s hex hcur hk hok herr dev' a.delayStart o' out fin _ ?_ (by rw [habs]; exact hf _) ?_
  · rw [hm, htp]; congr 1; exact act_of_exec a e rest false hex (hflags.2 htp)
  · intro _; rw [hop, htp]; rfl

theorem sim_expect (R : Bool) (dp : List Plug) (now : Time) (d : Dev) (a : Action) (o : Oracle) (e : ExecCtx)
    (rest : List ExecCtx) (pat : Nat)
    (hex : a.exec = e :: rest) (hcur : e.block[e.pos]? = some (.expect pat))
    (hok : StackOK R (e :: rest)) (herr : a.errnum = .success) :
    MstepOK R dp now d a o :=
  sim_onephase R dp now d a o e rest _ (.expect pat) hex hcur rfl rfl (by simp [unrollStmt]) hok herr _ _ _ _
    ((processStmt_at d a o now e rest hex _ hcur).trans (stmtExpect_pure d a o pat)) (fun _ => rfl)

theorem sim_setplugstate (R : Bool) (dp : List Plug) (now : Time) (d : Dev) (a : Action) (o : Oracle) (e : ExecCtx)
    (rest : List ExecCtx) (lit : Option Bytes) (pm sm : Int) (is : List (PState × Nat))
    (hex : a.exec = e :: rest) (hcur : e.block[e.pos]? = some (.setplugstate lit pm sm is))
    (hok : StackOK R (e :: rest)) (herr : a.errnum = .success) :
    MstepOK R dp now d a o :=
  sim_onephase R dp now d a o e rest _ (.setplugstate lit pm sm is (ctxName e.plugs)) hex hcur rfl rfl (by simp [unrollStmt])
    hok herr _ _ _ true
    ((processStmt_at d a o now e rest hex _ hcur).trans
      ((stmtSetplugstate_eq d a o e lit pm sm is).trans (setplugstateCore_pure d a o _ lit pm sm is)))
    (fun _ => rfl)

theorem sim_setresult (R : Bool) (dp : List Plug) (now : Time) (d : Dev) (a : Action) (o : Oracle) (e : ExecCtx)
    (rest : List ExecCtx) (pm sm : Int) (is : List (PResult × Nat))
    (hex : a.exec = e :: rest) (hcur : e.block[e.pos]? = some (.setresult pm sm is))
    (hok : StackOK R (e :: rest)) (herr : a.errnum = .success) :
    MstepOK R dp now d a o :=
  sim_onephase R dp now d a o e rest _ (.setresult pm sm is) hex hcur rfl rfl (by simp [unrollStmt]) hok herr _ _ _ true
    ((processStmt_at d a o now e rest hex _ hcur).trans (stmtSetresult_pure d a o pm sm is)) (fun _ => rfl)

theorem sim_send (R : Bool) (dp : List Plug) (now : Time) (d : Dev) (a : Action) (o : Oracle) (e : ExecCtx)
    (rest : List ExecCtx) (fmt : Bytes)
    (hex : a.exec = e :: rest) (hcur : e.block[e.pos]? = some (.send fmt))
    (hok : StackOK R (e :: rest)) (herr : a.errnum = .success) :
    MstepOK R dp now d a o := by
  have habs : abs R dp a.exec =
      ⟨.send (sendText fmt e.plugs) :: (unroll R dp (e.block.drop (e.pos + 1)) e.plugs ++ cont R dp rest), e.processing⟩ := by
    rw [hex, abs_leaf R dp e rest _ hcur rfl]; simp [unrollStmt, Stmt.twoPhase]
  have h := processStmt_step (d := d) (o := o) (now := now) hex hcur
  generalize hr : processStmt d a o now = r at h
  cases h with
  | sendAbort _ hp hs =>
    refine sim_leaf R dp now d a o e rest _ hex hcur rfl hok herr d a.delayStart o _ true _ ?_
      (by rw [habs]; simp only [fstep, hp, hs]; rfl) (fun h => by cases h)
    rw [hr]; congr 1; exact act_of_exec a e rest false hex hp
  | sendFresh _ t hp hs =>
    exact sim_leaf R dp now d a o e rest _ hex hcur rfl hok herr _ a.delayStart o _ (d.toBuf ++ t).isEmpty _ hr
      (by rw [habs, hs]; simp only [fstep, hp]; rfl) (fun _ => by simp [unrollStmt, Stmt.twoPhase, hs])
  | sendAgain _ hp =>
    exact sim_leaf R dp now d a o e rest _ hex hcur rfl hok herr d a.delayStart o [] d.toBuf.isEmpty _ hr
      (by rw [habs]; simp only [fstep, hp]; rfl) (fun _ => by simp [unrollStmt, Stmt.twoPhase])
  | _ => contradiction

theorem delayTele_info (a : Action) (us : Time) : delayTeleI (info a) us = delayTele a us := rfl

/-- the two entries of a delay differ in where the start time and the telemetry line come from; the test is the same -/
theorem sim_delay (R : Bool) (dp : List Plug) (now : Time) (d : Dev) (a : Action) (o : Oracle) (e : ExecCtx)
    (rest : List ExecCtx) (us : Time)
    (hex : a.exec = e :: rest) (hcur : e.block[e.pos]? = some (.delay us))
    (hok : StackOK R (e :: rest)) (herr : a.errnum = .success) :
    MstepOK R dp now d a o := by
  have habs : abs R dp a.exec =
      ⟨.delay us :: (unroll R dp (e.block.drop (e.pos + 1)) e.plugs ++ cont R dp rest), e.processing⟩ := by
    rw [hex, abs_leaf R dp e rest _ hcur rfl]; simp [unrollStmt, Stmt.twoPhase]
  have hds : (info a).delayStart = a.delayStart := rfl
  have h := processStmt_step (d := d) (o := o) (now := now) hex hcur
  generalize hr : processStmt d a o now = r at h
  cases h with
  | delayDone _ hc =>
    exact sim_leaf R dp now d a o e rest _ hex hcur rfl hok herr d _ o _ true _ hr
      (by rw [habs]; simp only [fstep, hds]; rw [if_pos (by simpa using hc)]; rfl) (fun _ => rfl)
  | delayWait _ hs hlt =>
    exact sim_leaf R dp now d a o e rest _ hex hcur rfl hok herr _ _ o _ false _ hr
      (by rw [habs]; simp only [fstep, hds]; rw [if_neg (by simpa [hs] using hlt)]; rfl) (fun _ => by simp [unrollStmt, Stmt.twoPhase])
  | _ => contradiction

/-- C08 core: every micro-step of the stack machine is either invisible (push of a `foreach` body, pop, iterator
    bookkeeping leave the denoted continuation unchanged) or exactly one step of the reference, with the same device
    state, oracle, output and outcome; and the invariant is kept while the action goes on. -/
theorem mstep_sim (R : Bool) (dp : List Plug) (now : Time) (d : Dev) (a : Action) (o : Oracle)
    (hne : a.exec ≠ []) (hinv : Inv R dp d a) :
    Sim R dp now d a o (mstep now d a o) ∧
    ((mstep now d a o).status = .running ∨ (mstep now d a o).status = .stalled →
      Inv R dp (mstep now d a o).dev (mstep now d a o).act) := by
  obtain ⟨hR, hdp, hok, herr⟩ := hinv
  have key : MstepOK R dp now d a o := by
    cases hex : a.exec with
    | nil => exact absurd hex hne
    | cons e rest =>
      rw [hex] at hok
      obtain ⟨s, hcur⟩ := getElem?_some_of_lt (hok.headPos rfl)
      cases s with
      | send fmt => exact sim_send R dp now d a o e rest fmt hex hcur hok herr
      | expect pat => exact sim_expect R dp now d a o e rest pat hex hcur hok herr
      | delay us => exact sim_delay R dp now d a o e rest us hex hcur hok herr
      | setplugstate lit pm sm is => exact sim_setplugstate R dp now d a o e rest lit pm sm is hex hcur hok herr
      | setresult pm sm is => exact sim_setresult R dp now d a o e rest pm sm is hex hcur hok herr
      | foreachplug b | foreachnode b | ifon b | ifoff b =>
        exact sim_block R dp now d a o e rest _ hex hcur (by simp [Stmt.kind]) hR hdp hok herr
  have hf := mstep_frame now d a o
  exact ⟨key.1, fun h => ⟨by rw [hf.com]; exact hR, by rw [hf.plugs]; exact hdp, (key.2 h).1, (key.2 h).2⟩⟩

/-! ## runs -/

/-- micro-steps of the machine until the action stalls, fails, aborts or is done; `running` = out of fuel -/
def mrun (now : Time) : Nat → Dev → Action → Oracle → List Out → MR
  | 0, d, a, o, acc => ⟨d, a, o, acc, .running⟩
  | n + 1, d, a, o, acc =>
    if a.exec.isEmpty then ⟨d, a, o, acc, .done⟩ else
    if (mstep now d a o).status = .running then
      mrun now n (mstep now d a o).dev (mstep now d a o).act (mstep now d a o).oracle (acc ++ (mstep now d a o).out)
    else ⟨(mstep now d a o).dev, (mstep now d a o).act, (mstep now d a o).oracle, acc ++ (mstep now d a o).out,
           (mstep now d a o).status⟩

/-- steps of the reference until the program stalls, fails, aborts or is used up -/
def frun (now : Time) : Nat → Dev → FA → Oracle → F → List Out → FR
  | 0, d, i, o, f, acc => ⟨d, i, o, acc, f, .running⟩
  | n + 1, d, i, o, f, acc =>
    if f.rem.isEmpty then ⟨d, i, o, acc, f, .done⟩ else
    if (fstep now d i o f).status = .running then
      frun now n (fstep now d i o f).dev (fstep now d i o f).info (fstep now d i o f).oracle (fstep now d i o f).f
        (acc ++ (fstep now d i o f).out)
    else ⟨(fstep now d i o f).dev, (fstep now d i o f).info, (fstep now d i o f).oracle, acc ++ (fstep now d i o f).out,
           (fstep now d i o f).f, (fstep now d i o f).status⟩

theorem abs_nil (R : Bool) (dp : List Plug) : abs R dp [] = ⟨[], false⟩ := rfl

/-- what a run of the machine and a run of the reference have in common: outcome, device state, oracle, output and
    the action's fields; and unless the action failed or the daemon stopped, the stack denotes what the reference has
    left and is again well-formed -/
structure RunSim (R : Bool) (dp : List Plug) (m : MR) (fr : FR) : Prop where
  status : fr.status = m.status
  dev : fr.dev = m.dev
  oracle : fr.oracle = m.oracle
  out : fr.out = m.out
  info : fr.info = info m.act
  cont : m.status = .stalled ∨ m.status = .done ∨ m.status = .running → fr.f = abs R dp m.act.exec ∧ Inv R dp m.dev m.act

/-- C08, runs: a run of the stack machine from any well-formed configuration — any script, plug list, argument
    list, device input, oracle, time, any number of micro-steps — is a run of the loop-free reference on the program
    the stack denotes: same device state, same oracle consumption, same output in the same order, same outcome, and
    where it stops without failing the stack again denotes what the reference has left.  `k ≤ n`: by induction on `n` with
    `mstep_sim`, a micro-step the reference does not see (`Sim.stutter`: a push, a pop) spends one of the machine's `n` turns and
    none of the reference's, any other spends one of each. -/
theorem refines_run (R : Bool) (dp : List Plug) (now : Time) : ∀ (n : Nat) (d : Dev) (a : Action) (o : Oracle) (acc : List Out),
    Inv R dp d a →
    ∃ k, k ≤ n ∧ RunSim R dp (mrun now n d a o acc) (frun now k d (info a) o (abs R dp a.exec) acc) := by
  intro n
  induction n with
  | zero =>
    intro d a o acc hinv
    exact ⟨0, Nat.le_refl _, rfl, rfl, rfl, rfl, rfl, fun _ => ⟨rfl, hinv⟩⟩
  | succ n ih =>
    intro d a o acc hinv
    unfold mrun
    by_cases hemp : a.exec.isEmpty = true
    · simp only [hemp, ↓reduceIte]
      have hnil : a.exec = [] := by simpa using hemp
      refine ⟨1, by omega, ?_⟩
      simp only [frun, hnil, abs_nil, List.isEmpty_nil, ↓reduceIte]
      exact ⟨rfl, rfl, rfl, rfl, rfl, fun _ => ⟨by rw [hnil]; rfl, hinv⟩⟩
    · simp only [hemp, Bool.false_eq_true, ↓reduceIte]
      have hne : a.exec ≠ [] := by simpa using hemp
      obtain ⟨hsim, hinv'⟩ := mstep_sim R dp now d a o hne hinv
      generalize mstep now d a o = m at *
      -- a step that the reference does not see
      have stut : m.status = .running → m.dev = d → m.oracle = o → m.out = [] → info m.act = info a →
          abs R dp m.act.exec = abs R dp a.exec →
          ∃ k, k ≤ n + 1 ∧ RunSim R dp (if m.status = .running then mrun now n m.dev m.act m.oracle (acc ++ m.out)
              else ⟨m.dev, m.act, m.oracle, acc ++ m.out, m.status⟩) (frun now k d (info a) o (abs R dp a.exec) acc) := by
        intro h1 h2 h3 h4 h5 h6
        simp only [h1, ↓reduceIte]
        obtain ⟨k, hkn, hk⟩ := ih m.dev m.act m.oracle (acc ++ m.out) (hinv' (Or.inl h1))
        rw [h2, h3, h4, h5, h6, List.append_nil] at hk
        rw [h2, h3, h4, List.append_nil]
        exact ⟨k, by omega, hk⟩
      cases hsim with
      | stutter h1 h2 h3 h4 h5 h6 => exact stut h1 h2 h3 h4 h5 h6
      | step h1 h2 h3 h4 h5 h6 =>
        by_cases hrem : (abs R dp a.exec).rem = []
        · -- at the end of its program the reference does nothing
          rw [show fstep now d (info a) o (abs R dp a.exec) = ⟨d, info a, o, [], abs R dp a.exec, .running⟩ by
            unfold fstep; simp [hrem]] at h1 h2 h3 h4 h5 h6
          exact stut h1 h2 h3 h4 h5 (h6 (Or.inl h1))
        · have hrem' : (abs R dp a.exec).rem.isEmpty = false := by simpa using hrem
          by_cases hrun : m.status = .running
          · simp only [hrun, ↓reduceIte]
            obtain ⟨k, hkn, hk⟩ := ih m.dev m.act m.oracle (acc ++ m.out) (hinv' (Or.inl hrun))
            refine ⟨k + 1, by omega, ?_⟩
            simp only [frun, hrem', Bool.false_eq_true, ↓reduceIte, ← h1, hrun, ← h2, ← h3, ← h4, ← h5, ← h6 (Or.inl hrun)]
            exact hk
          · simp only [hrun, ↓reduceIte]
            refine ⟨1, by omega, ?_⟩
            simp only [frun, hrem', Bool.false_eq_true, ↓reduceIte, ← h1, hrun, ← h2, ← h3, ← h4, ← h5]
            refine ⟨rfl, rfl, rfl, rfl, rfl, ?_⟩
            intro h
            simp only at h
            rcases h with h | h | h
            · exact ⟨(h6 (Or.inr h)).symm, hinv' (Or.inr h)⟩
            · exfalso
              exact fstep_ne_done now d (info a) o (abs R dp a.exec) (by rw [← h1]; exact h)
            · exact absurd h hrun

/-- a fresh action (one context at the first statement of a non-empty script whose blocks are non-empty, no flags) is
    well-formed and denotes the unrolling of its whole script -/
theorem initial_ok (R : Bool) (dp : List Plug) (script : List Stmt) (plugs : Option (List Plug))
    (hne : script ≠ []) (hnb : neBlock script = true) :
    StackOK R [bodyCtx script plugs] ∧ abs R dp [bodyCtx script plugs] = ⟨unroll R dp script plugs, false⟩ := by
  constructor
  · rw [stackOK_cons]
    exact ⟨bodyCtx_ok R script plugs hne hnb, by simp, by simp⟩
  · rw [abs_fresh R dp _ _ rfl rfl]; simp [bodyCtx, cont]

end Pm.Dev2.Interp
