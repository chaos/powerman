import Pm.HLMore
/-! Helper lemmas for property C14: `deleteNth` erases exactly one position of the expansion,
    `find` is complete (returns the first occurrence) under the suffix bound, `deleteHost` erases the first occurrence. -/
namespace Pm

/-! ## `hostlist_delete_nth` erases exactly position `n` of the expansion -/

theorem numSeg_eraseIdx (p : Name) (w lo hi n : Nat) (h : lo + n ≤ hi) :
    (numSeg p w lo (hi + 1 - lo)).eraseIdx n =
      numSeg p w lo n ++ numSeg p w (lo + n + 1) (hi + 1 - (lo + n + 1)) := by
  obtain ⟨m, rfl⟩ := Nat.exists_eq_add_of_le h
  rw [show lo + n + m + 1 - lo = n + (1 + m) by omega, show lo + n + m + 1 - (lo + n + 1) = m by omega, numSeg_add,
    List.eraseIdx_append_of_length_le (Nat.le_of_eq (numSeg_length ..)), numSeg_length, Nat.sub_self, numSeg_add]
  rfl

theorem delHead_expand (r : HostRange) (n : Nat) (hn : n < r.cnt) : expand (delHead r n) = r.expand.eraseIdx n := by
  unfold HostRange.cnt at hn
  unfold delHead
  cases hs : r.single <;> simp only [hs, if_true, Bool.false_eq_true, if_false] at hn ⊢
  · have hle : r.lo + n ≤ r.hi := by omega
    have hpred : 0 < n → r.lo + n - 1 + 1 - r.lo = n := fun h => by
      rw [Nat.sub_add_cancel (Nat.le_trans h (Nat.le_add_left ..)), Nat.add_sub_cancel_left]
    rw [HostRange.expand_nonsingle r hs, numSeg_eraseIdx _ _ _ _ _ hle]
    split
    · obtain rfl : n = 0 := by omega
      split
      · rw [Nat.sub_eq_zero_of_le (by omega)]; rfl
      · rw [expand_singleton, HostRange.expand_nonsingle _ rfl]; rfl
    · split
      · rename_i h1
        rw [expand_singleton, HostRange.expand_nonsingle _ rfl, ← h1, Nat.sub_self]
        exact (congrArg _ (hpred (by omega))).trans (List.append_nil _).symm
      · rw [expand_cons, expand_singleton, HostRange.expand_nonsingle _ rfl, HostRange.expand_nonsingle _ rfl]
        exact congrArg (numSeg _ _ _ · ++ _) (hpred (by omega))
  · obtain rfl : n = 0 := by omega
    simp [HostRange.expand, hs, expand_nil]

theorem deleteNth_expand : ∀ (hl : Hostlist) (n : Nat), expand (deleteNth hl n) = (expand hl).eraseIdx n
  | [], _ => by simp [deleteNth, expand_nil]
  | r :: rs, n => by
    have hl := HostRange.expand_length r
    rw [deleteNth_cons, expand_cons]
    split
    · rename_i hn
      rw [expand_append, delHead_expand r n hn, List.eraseIdx_append_of_lt_length (by omega)]
    · rename_i hn
      rw [expand_cons, deleteNth_expand rs, List.eraseIdx_append_of_length_le (by omega), hl]

/-! ## `hostlist_find` is complete under the suffix bound, and returns the first occurrence -/

theorem splitDigits_append_digits (a F : Name) (hF : ∀ c ∈ F, c.isDigit = true) :
    splitDigits (a ++ F) = ((splitDigits a).1, (splitDigits a).2 ++ F) := by
  unfold splitDigits
  have hF' : ∀ c ∈ F.reverse, Char.isDigit c = true := fun c hc => hF c (by simpa using hc)
  simp only [List.reverse_append]
  rw [List.takeWhile_append_of_pos hF', List.dropWhile_append_of_pos hF']
  simp

/-- `_width_equiv` accepts a number printed at the range's width, at the length it was printed with -/
theorem widthEquiv_fmt (lo w x : Nat) : ∃ p, widthEquiv lo w x (fmtNum w x).length = some p := by
  have hm : zeroPadded x (max w (ndig x)) = zeroPadded x w := by rw [zeroPadded_eq, zeroPadded_eq]; omega
  rw [fmtNum_length, widthEquiv_eq, if_pos hm]
  split <;> exact ⟨_, rfl⟩

/-- the retry loop of `hostrange_hn_within`: with the range prefix cut as `a ++ b` (`b` digits already seen as part of
    the host name's numeric suffix) the search ends at the right offset -/
theorem hnWithin_complete_aux (r : HostRange) (hs : r.single = false) (x : Nat) (hlo : r.lo ≤ x) (hhi : x ≤ r.hi)
    (full : Name) : ∀ (b a : Name), a ++ b = r.pfx → (∀ c ∈ b, c.isDigit = true) →
      parseNat (b ++ fmtNum r.width x) ≤ MAX_HOST_SUFFIX →
      hnWithin r full a (b ++ fmtNum r.width x) = some (x - r.lo) := by
  intro b
  induction b with
  | nil =>
    intro a hab _ hmax
    simp only [List.append_nil, List.nil_append] at hab hmax ⊢
    subst hab
    obtain ⟨p, hp⟩ := widthEquiv_fmt r.lo r.width x
    have hne := fmtNum_ne_nil r.width x
    have hpn := parseNat_fmtNum r.width x
    generalize fmtNum r.width x = F at *
    cases F with
    | nil => exact absurd rfl hne
    | cons d F' =>
      have hx : x ≤ MAX_HOST_SUFFIX := hpn ▸ hmax
      simp only [List.length_cons] at hp
      rw [hnWithin]
      simp [hs, hpn, hlo, hhi, hp, hx]
  | cons d b' ih =>
    intro a hab hdig hmax
    have hne := fmtNum_ne_nil r.width x
    have hrec := ih (a ++ [d]) (by simp [← hab]) (fun c hc => hdig c (by simp [hc]))
      (Nat.le_trans (parseNat_suffix_le [d] _) hmax)
    have hlen : a.length < r.pfx.length := by rw [← hab]; simp
    have htake : List.take a.length r.pfx = a := by rw [← hab]; simp
    have hget : r.pfx[a.length]? = some d := by rw [← hab]; simp
    have hlast : (r.pfx.getLast?.map Char.isDigit).getD false = true := by
      have : r.pfx.getLast? = (d :: b').getLast? := by
        rw [← hab, List.getLast?_append]
        cases hl : (d :: b').getLast? with
        | none => exact absurd (List.getLast?_eq_none_iff.mp hl) (by simp)
        | some c => rfl
      rw [this]
      cases hl : (d :: b').getLast? with
      | none => exact absurd (List.getLast?_eq_none_iff.mp hl) (by simp)
      | some c => simp; exact hdig c (List.mem_of_getLast? hl)
    have hlen2 : 1 < (d :: (b' ++ fmtNum r.width x)).length := by
      have : 0 < (fmtNum r.width x).length := List.length_pos_iff.mpr hne
      simp; omega
    rw [List.cons_append, hnWithin]
    rw [List.cons_append] at hmax
    simp only [hs, Bool.false_eq_true, if_false]
    rw [if_neg (by simp [hmax])]
    rw [if_neg (by simp [htake]; omega)]
    rw [if_pos (by simp only [Bool.and_eq_true, decide_eq_true_eq, beq_iff_eq]; exact ⟨⟨⟨hlen, hlen2⟩, hlast⟩, hget⟩)]
    exact hrec

/-- completeness of `hostrange_hn_within` on one numeric range: the name `pfx ++ %0*lu(x)` with `lo ≤ x ≤ hi` is
    found at offset `x - lo`, provided the whole trailing digit string of the name (what `hostname_create`
    takes as its numeric suffix) does not exceed `MAX_HOST_SUFFIX` -/
theorem hnWithin_complete (r : HostRange) (hs : r.single = false) (x : Nat) (hlo : r.lo ≤ x) (hhi : x ≤ r.hi)
    (hmax : parseNat (splitDigits (r.pfx ++ fmtNum r.width x)).2 ≤ MAX_HOST_SUFFIX) :
    hnWithin r (r.pfx ++ fmtNum r.width x) (splitDigits (r.pfx ++ fmtNum r.width x)).1
      (splitDigits (r.pfx ++ fmtNum r.width x)).2 = some (x - r.lo) := by
  rw [splitDigits_append_digits _ _ (fmtNum_digits _ _)] at hmax ⊢
  obtain ⟨hcat, hdig⟩ := splitDigits_spec r.pfx
  exact hnWithin_complete_aux r hs x hlo hhi _ _ _ hcat hdig hmax

theorem numSeg_nodup (p : Name) (w lo len : Nat) : (numSeg p w lo len).Nodup := by
  refine List.Pairwise.map (R := (· < ·)) _ (fun a b hab h => ?_) List.pairwise_lt_range'
  exact Nat.ne_of_lt hab (fmtNum_inj (List.append_cancel_left h))

theorem HostRange.expand_nodup (r : HostRange) : r.expand.Nodup := by
  cases hs : r.single
  · rw [HostRange.expand_nonsingle r hs]; exact numSeg_nodup ..
  · simp [HostRange.expand, hs]

/-- the proviso of `hostlist_find`: the entry is a single name, or the trailing digit string of the name
    (its numeric suffix as `hostname_create` sees it) is at most `MAX_HOST_SUFFIX` -/
def Findable (r : HostRange) (n : Name) : Prop :=
  r.single = true ∨ parseNat (splitDigits n).2 ≤ MAX_HOST_SUFFIX

instance (r : HostRange) (n : Name) : Decidable (Findable r n) := by unfold Findable; exact inferInstance

/-- the offset found is the index of the name: by soundness it is a position holding the name, and no name occurs twice
    in one range -/
theorem hnWithin_of_mem (r : HostRange) (n : Name) (hmem : n ∈ r.expand) (hf : Findable r n) :
    hnWithin r n (splitDigits n).1 (splitDigits n).2 = some (r.expand.idxOf n) := by
  obtain ⟨hcat, hdig⟩ := splitDigits_spec n
  have hk : ∃ k, hnWithin r n (splitDigits n).1 (splitDigits n).2 = some k := by
    cases hs : r.single
    · rw [HostRange.expand_nonsingle r hs] at hmem
      obtain ⟨x, hlo, hhi, rfl⟩ := mem_numSeg.mp hmem
      exact ⟨_, hnWithin_complete r hs x hlo (by omega) (hf.resolve_left (by simp [hs]))⟩
    · obtain rfl : n = r.pfx := by simpa [HostRange.expand, hs] using hmem
      exact ⟨0, by rw [hnWithin_single hs]; simp⟩
  obtain ⟨k, hk⟩ := hk
  obtain ⟨hlt, rfl⟩ := List.getElem?_eq_some_iff.mp (hnWithin_sound r n _ _ k hcat hdig hk)
  rw [hk, r.expand_nodup.idxOf_getElem k hlt]

theorem hnWithin_none_of_not_mem (r : HostRange) (n : Name) (h : n ∉ r.expand) :
    hnWithin r n (splitDigits n).1 (splitDigits n).2 = none := by
  obtain ⟨hcat, hdig⟩ := splitDigits_spec n
  cases hw : hnWithin r n (splitDigits n).1 (splitDigits n).2 with
  | none => rfl
  | some k => exact absurd (List.mem_of_getElem? (hnWithin_sound r n _ _ k hcat hdig hw)) h

theorem findGo_complete (n : Name) : ∀ (hl : Hostlist) (acc : Nat), n ∈ expand hl →
    (∀ r ∈ hl, n ∈ r.expand → Findable r n) → findGo n hl acc = some (acc + (expand hl).idxOf n)
  | [], _, hmem, _ => by simp [expand_nil] at hmem
  | r :: rs, acc, hmem, hf => by
    rw [findGo, expand_cons, List.idxOf_append]
    by_cases hr : n ∈ r.expand
    · rw [hnWithin_of_mem r n hr (hf r (by simp) hr)]
      simp [hr]
    · rw [hnWithin_none_of_not_mem r n hr]
      rw [expand_cons] at hmem
      have hmem' : n ∈ expand rs := by
        rcases List.mem_append.mp hmem with h | h
        · exact absurd h hr
        · exact h
      simp only [hr, if_false]
      rw [findGo_complete n rs _ hmem' (fun t ht => hf t (by simp [ht]))]
      congr 1; omega

/-- `hostlist_find` returns the index of the FIRST occurrence of a member name, provided every entry
    holding the name is a single name or the name's numeric suffix is at most `MAX_HOST_SUFFIX` -/
theorem find_complete (hl : Hostlist) (n : Name) (hmem : n ∈ expand hl)
    (hf : ∀ r ∈ hl, n ∈ r.expand → Findable r n) : find hl n = some ((expand hl).idxOf n) := by
  unfold find; rw [findGo_complete n hl 0 hmem hf]; simp

theorem find_none_of_not_mem (hl : Hostlist) (n : Name) (h : n ∉ expand hl) : find hl n = none := by
  cases hf : find hl n with
  | none => rfl
  | some i => exact absurd (find_mem hl n i hf) h

/-! ## `hostlist_delete_host` removes exactly the first occurrence -/

theorem deleteHost_expand (hl : Hostlist) (n : Name) (hwf : HWF hl)
    (hf : ∀ r ∈ hl, n ∈ r.expand → Findable r n) :
    expand (deleteHost hl n).1 = (expand hl).erase n ∧
      (deleteHost hl n).2 = if n ∈ expand hl then 1 else 0 := by
  unfold deleteHost
  by_cases hmem : n ∈ expand hl
  · rw [find_complete hl n hmem hf]
    simp only [hmem, if_true, and_true]
    rw [deleteNth_expand hl _, List.erase_eq_eraseIdx_of_idxOf rfl]
  · rw [find_none_of_not_mem hl n hmem]
    simp only [hmem, if_false, and_true]
    rw [List.erase_of_not_mem hmem]

/-- without the proviso: whatever `hostlist_delete_host` removes is one occurrence of that very name -/
theorem deleteHost_expand_weak (hl : Hostlist) (n : Name) :
    (∃ i, (expand hl)[i]? = some n ∧ expand (deleteHost hl n).1 = (expand hl).eraseIdx i ∧ (deleteHost hl n).2 = 1)
    ∨ ((deleteHost hl n).1 = hl ∧ (deleteHost hl n).2 = 0) := by
  unfold deleteHost
  cases hf : find hl n with
  | none => right; simp
  | some i => left; exact ⟨i, find_sound hl n i hf, deleteNth_expand hl i, rfl⟩

/-- a numeric range never matches a name whose trailing digit string exceeds `MAX_HOST_SUFFIX` (defect F10) -/
theorem hnWithin_none_of_big (r : HostRange) (hs : r.single = false) (full a ds : Name)
    (hbig : ¬ parseNat ds ≤ MAX_HOST_SUFFIX) : hnWithin r full a ds = none := by
  rw [hnWithin.eq_def]; simp [hs, hbig]

/-! ### lists built by pushing names: every pushed name is findable, with no proviso -/

/-- what `hostlist_push_host` guarantees of each range: a numeric range has a prefix that does not end in a digit
    and numbers up to `MAX_HOST_SUFFIX` -/
def HostRange.Pushed (r : HostRange) : Prop :=
  r.single = true ∨ ((splitDigits r.pfx).2 = [] ∧ r.hi ≤ MAX_HOST_SUFFIX)

def HPushed (hl : Hostlist) : Prop := ∀ r ∈ hl, r.Pushed

theorem takeWhile_dropWhile_nil {α} (p : α → Bool) : ∀ (l : List α), (l.dropWhile p).takeWhile p = []
  | [] => rfl
  | x :: xs => by
    rw [List.dropWhile_cons]
    split
    · exact takeWhile_dropWhile_nil p xs
    · rename_i h; rw [List.takeWhile_cons]; simp [h]

theorem splitDigits_fst_no_digits (n : Name) : (splitDigits (splitDigits n).1).2 = [] := by
  unfold splitDigits
  simp [takeWhile_dropWhile_nil]

theorem pushRange_HPushed (hl : Hostlist) (r : HostRange) (hr : r.Pushed) (h : HPushed hl) :
    HPushed (pushRange hl r) :=
  pushRange_forall h hr fun _ _ ht hts hrs _ =>
    Or.inr ⟨(ht.resolve_left (by simp [hts])).1, (hr.resolve_left (by simp [hrs])).2⟩

theorem nameRange_Pushed (n : Name) : (nameRange n).Pushed := by
  rcases nameRange_cases n with e | ⟨_, hmax, e⟩ <;> rw [e]
  · exact Or.inl rfl
  · exact Or.inr ⟨splitDigits_fst_no_digits n, hmax⟩

theorem pushHost_HPushed (hl : Hostlist) (n : Name) (h : HPushed hl) : HPushed (pushHost hl n) :=
  pushHost_eq hl n ▸ pushRange_HPushed hl _ (nameRange_Pushed n) h

theorem Pushed_findable (r : HostRange) (n : Name) (hr : r.Pushed) (hmem : n ∈ r.expand) : Findable r n := by
  cases hs : r.single
  · obtain ⟨hnd, hhi⟩ := hr.resolve_left (by simp [hs])
    rw [HostRange.expand_nonsingle r hs] at hmem
    obtain ⟨x, _, hx, rfl⟩ := mem_numSeg.mp hmem
    refine Or.inr ?_
    rw [nameOf, splitDigits_append_digits _ _ (fmtNum_digits _ _), hnd, List.nil_append, parseNat_fmtNum]
    omega
  · exact Or.inl hs

theorem HPushed_findable (hl : Hostlist) (n : Name) (hp : HPushed hl) :
    ∀ r ∈ hl, n ∈ r.expand → Findable r n :=
  fun r hr hmem => Pushed_findable r n (hp r hr) hmem

theorem deleteHost_HPushed (hl : Hostlist) (n : Name) (h : HPushed hl) : HPushed (deleteHost hl n).1 :=
  deleteHost_forall (fun _ _ _ hr hs _ _ h3 =>
    Or.inr ⟨(hr.resolve_left (by simp [hs])).1, Nat.le_trans h3 (hr.resolve_left (by simp [hs])).2⟩) hl n h

/-! ### lists reachable by pushes and deletes -/

/-- lists reachable from the empty list by `hostlist_push_host` and `hostlist_delete_host` -/
inductive Built : Hostlist → Prop
  | nil : Built []
  | push (hl : Hostlist) (n : Name) : Built hl → Built (pushHost hl n)
  | delete (hl : Hostlist) (n : Name) : Built hl → Built (deleteHost hl n).1

theorem Built.inv {hl : Hostlist} (h : Built hl) : HWFS hl ∧ HPushed hl := by
  induction h with
  | nil => exact ⟨HWFS_nil, fun t ht => by simp at ht⟩
  | push hl n _ ih => exact ⟨pushHost_HWFS hl n ih.1, pushHost_HPushed hl n ih.2⟩
  | delete hl n _ ih => exact ⟨deleteHost_HWFS hl n ih.1, deleteHost_HPushed hl n ih.2⟩

theorem Built.foldl (names : List Name) : ∀ (hl : Hostlist), Built hl → Built (names.foldl pushHost hl) := by
  induction names with
  | nil => intro hl h; exact h
  | cons n ns ih => intro hl h; exact ih _ (Built.push hl n h)

theorem find_built (hl : Hostlist) (n : Name) (hb : Built hl) (hmem : n ∈ expand hl) :
    find hl n = some ((expand hl).idxOf n) :=
  find_complete hl n hmem (HPushed_findable hl n hb.inv.2)

theorem deleteHost_built (hl : Hostlist) (n : Name) (hb : Built hl) :
    expand (deleteHost hl n).1 = (expand hl).erase n ∧ (deleteHost hl n).2 = if n ∈ expand hl then 1 else 0 :=
  deleteHost_expand hl n hb.inv.1.toHWF (HPushed_findable hl n hb.inv.2)

theorem find_pushed (names : List Name) (n : Name) (hmem : n ∈ names) :
    find (names.foldl pushHost []) n = some (names.idxOf n) := by
  have := find_built _ n (Built.foldl names [] .nil) (by rwa [expand_pushed])
  rwa [expand_pushed] at this

/-- deleting from a list built by pushing names removes exactly the first occurrence, with no proviso -/
theorem deleteHost_pushed (names : List Name) (n : Name) :
    expand (deleteHost (names.foldl pushHost []) n).1 = names.erase n ∧
      (deleteHost (names.foldl pushHost []) n).2 = if n ∈ names then 1 else 0 := by
  have := deleteHost_built _ n (Built.foldl names [] .nil)
  rwa [expand_pushed] at this

/-! ### concrete witnesses -/

/-- F10: the list `n[100000000-100000001]` as `hostlist_create` builds it -/
def f10List : Hostlist := [{ pfx := "n".toList, lo := 100000000, hi := 100000001, width := 9, single := false }]

theorem f10_create : create "n[100000000-100000001]".toList = .ok f10List := by decide +kernel
theorem f10_mem : "n100000000".toList ∈ expand f10List := by decide +kernel
theorem f10_find : find f10List "n100000000".toList = none := by decide +kernel
theorem f10_delete : deleteHost f10List "n100000000".toList = (f10List, 0) := by decide +kernel

/-- the bound concerns the whole trailing digit string of the NAME, not the number stored in the range:
    `n1[00000000-00000001]` holds `n100000000` at number 0 and does not find it -/
def f10bList : Hostlist := [{ pfx := "n1".toList, lo := 0, hi := 1, width := 8, single := false }]

theorem f10b_create : create "n1[00000000-00000001]".toList = .ok f10bList := by decide +kernel
theorem f10b_mem : "n100000000".toList ∈ expand f10bList := by decide +kernel
theorem f10b_find : find f10bList "n100000000".toList = none := by decide +kernel

/-- the digit-shifting retry does work below the bound: `n1[0-1]` finds `n10` and `n11` -/
theorem shift_ok : create "n1[0-1]".toList = .ok [{ pfx := "n1".toList, lo := 0, hi := 1, width := 1, single := false }]
    ∧ find [{ pfx := "n1".toList, lo := 0, hi := 1, width := 1, single := false }] "n11".toList = some 1 := by
  decide +kernel

/-- `hostlist_nth` as coded needs well-formed ranges: on `lo > hi` (which no constructor produces) it invents a name -/
theorem nthC_needs_WF : nthC [{ pfx := "n".toList, lo := 5, hi := 3, width := 1, single := false }] 0 = some "n5".toList
    ∧ expand [{ pfx := "n".toList, lo := 5, hi := 3, width := 1, single := false }] = [] := by decide +kernel

end Pm
