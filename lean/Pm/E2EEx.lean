import Pm.RunXE2E
/-! A concrete run for the non-vacuity examples of `Props/C02` (end-to-end part).

One device `A` (connected, logged in) with one plug `1` ↦ node `a1` and an `on` script `send "on %s\n"; expect <pat 1>`.
Pass 1: a client connects (id 1).  Pass 2: it sends `on a1`; the request is accepted (`pending = 1`), the action starts and
waits for its bytes to drain.  Pass 3: the device takes the bytes; the action waits in the `expect`.  Then either
pass 4: the device answers `OK`, the `expect` matches, the script is at its end — `102`; or, instead, a pass nine seconds
later: the action's time-out has passed — `308 A: action timed out …`, `210`. -/
namespace Pm.Daemon.E2E.Ex
open Pm Pm.Client Pm.Daemon Pm.Daemon.E2E
open Pm.Daemon.Isolation (runPasses)
open Pm.Daemon.Reply (okLine errLine isPower)
open Pm.Dev2 (Dev Stmt Plug Arg RxCall ActErr)

def nodeA : Bytes := [97, 49]
def plugA : Plug := { name := [49], node := some nodeA }
def onScript : List Stmt := [.send [111, 110, 32, 37, 115, 10], .expect 1]
def scripts : Nat → Option (List Stmt) := fun k => if k == 7 then some onScript else none
def devA : Dev :=
  { plugs := [plugA], scripts := scripts, timeout := 5000000, acts := [], toBuf := [], fromBuf := [], xmStr := none, xmOffs := [],
    xmResult := false, xmUsed := false, args := [], nextUid := 1, shortCircuitDelay := false, conn := 2, loggedIn := true,
    fd := some 2000, statConnects := 1 }
/-- the daemon after start-up: no client, an empty queue -/
def w0 : W :=
  { cfg := { plugs := [], has := [], nodes := pushHost [] ['a', '1'], version := [50] }, clients := [],
    devs := [([65], devA)], nsock := 1 }
def p1 : PassIn := { now := 1000, acc := 1, con := [0], soe := [0], envs := [] }
def p2 : PassIn := { now := 2000, acc := 0, con := [0], soe := [0], envs := [{ fd := 1000, rev := 1, rk := 0, data := bstr "on a1\n", cap := 100 }] }
def p3 : PassIn := { now := 3000, acc := 0, con := [0], soe := [0], envs := [{ fd := 2000, rev := 2, rk := 0, data := [], cap := 100 }] }
/-- the request is in flight: client 1 waits for one completion, the queue of `A` holds its action -/
def w3 : W := runPasses w0 [p1, p2, p3]
/-- the regex engine's answer for the device's reply `OK\n` -/
def xs4 : List RxCall := [{ pat := 1, subject := bstr "OK\n", answer := some [(0, 3)] }]
def p4 : PassIn := { now := 4000, acc := 0, con := [0], soe := [0], envs := [{ fd := 2000, rev := 1, rk := 0, data := bstr "OK\n", cap := 100 }] }
def w3x : W := { w3 with pendingX := xs4 }
/-- instead of pass 4: nothing happens until the action's five seconds are over -/
def pLate : PassIn := { now := 9000000, acc := 0, con := [0], soe := [0], envs := [] }

def c0 : Cli := (cliRec w3 1).getD { id := 0, fd := 0 }
def k0 : CmdC := c0.cmd.getD { com := .status, names := [], pending := 0, error := false }
/-- the client after pass 4 -/
def c4 : Cli := (cliRec (runPasses w3x ([] ++ [p4])) 1).getD { id := 0, fd := 0 }
/-- the client after the late pass -/
def cL : Cli := (cliRec (runPasses w3 ([] ++ [pLate])) 1).getD { id := 0, fd := 0 }

theorem inv0 : Inv w0 := inv_init w0 rfl (by intro nd hnd; simp [w0] at hnd; subst hnd; rfl) (by decide) (by decide)

/-- the three passes to `w3` and the two continuations, evaluated once -/
theorem run :
    (Alive w0 [p1, p2, p3] ∧ (cliRec w3 1).isSome = true ∧ c0.cmd.isSome = true ∧ isPower k0.com = true ∧
      (k0.pending, k0.error) = (1, false)) ∧
    (Alive w3x ([] ++ [p4]) ∧ (cliRec (runPasses w3x ([] ++ [p4])) 1).isSome = true ∧ c4.cmd = none ∧
      runFins w3x ([] ++ [p4]) 1 = [([65], ActErr.success)] ∧ c4.toBuf = bstr "001 2\r\npowerman> " ++ (okLine ++ prompt)) ∧
    Alive w3 ([] ++ [pLate]) ∧ (cliRec (runPasses w3 ([] ++ [pLate])) 1).isSome = true ∧ cL.cmd = none ∧
      runFins w3 ([] ++ [pLate]) 1 = [([65], ActErr.expfail)] ∧
      cL.toBuf = bstr "001 2\r\npowerman> 308 A: action timed out waiting for expected response\r\n210 Command completed with errors\r\npowerman> " := by
  rw [ClientPf.bstr_chars, ClientPf.bstr_chars]
  decide +kernel

theorem alive3 : Alive w0 [p1, p2, p3] := run.1.1
theorem inv3 : Inv w3 := runPasses_inv w0 _ inv0 alive3
theorem inv3x : Inv w3x := inv3.withX xs4

/-- the state reached: client 1 has an `on` command for `a1` waiting for one completion, with a clear error flag; the
    queue of `A` holds one action of client 1 -/
theorem reached : w3.clients.map (fun (c : Cli) => (c.id, c.cmd.map fun (k : CmdC) => (comIdx k.com, k.pending, k.error, k.al))) =
      [(1, some (7, 1, false, 1))] ∧
    w3.clients.map (fun (c : Cli) => c.cmd.map fun (k : CmdC) => k.names) = [some [['a', '1']]] ∧
    w3.devs.map (fun (nd : Bytes × Dev) => nd.2.acts.map fun (a : Pm.Dev2.Action) => (a.clientId, a.com, a.arglist)) = [[(1, 7, 1)]] ∧ totalQ 1 w3.devs = 1 := by
  -- in two halves: the `Decidable` instance of all four conjuncts is larger than instance synthesis allows
  refine and_assoc.mp ⟨?_, ?_⟩ <;> decide +kernel

theorem queued3 : totalQ 1 w3.devs = 1 := reached.2.2.2

theorem hc0 : cliRec w3 1 = some c0 := eq_some_getD _ run.1.2.1
theorem hk0 : c0.cmd = some k0 := eq_some_getD _ run.1.2.2.1
theorem hc0x : cliRec w3x 1 = some c0 := hc0
theorem power0 : isPower k0.com = true := run.1.2.2.2.1
theorem fresh0 : (k0.pending, k0.error) = (1, false) := run.1.2.2.2.2

theorem alive4 : Alive w3x ([] ++ [p4]) := run.2.1.1
theorem hc4 : cliRec (runPasses w3x ([] ++ [p4])) 1 = some c4 := eq_some_getD _ run.2.1.2.1
theorem idle4 : c4.cmd = none := run.2.1.2.2.1
theorem fins4 : runFins w3x ([] ++ [p4]) 1 = [([65], ActErr.success)] := run.2.1.2.2.2.1
theorem buf4 : c4.toBuf = bstr "001 2\r\npowerman> " ++ (okLine ++ prompt) := run.2.1.2.2.2.2

theorem aliveL : Alive w3 ([] ++ [pLate]) := run.2.2.1
theorem hcL : cliRec (runPasses w3 ([] ++ [pLate])) 1 = some cL := eq_some_getD _ run.2.2.2.1
theorem idleL : cL.cmd = none := run.2.2.2.2.1
theorem finsL : runFins w3 ([] ++ [pLate]) 1 = [([65], ActErr.expfail)] := run.2.2.2.2.2.1
theorem bufL : cL.toBuf =
    bstr "001 2\r\npowerman> 308 A: action timed out waiting for expected response\r\n210 Command completed with errors\r\npowerman> " :=
  run.2.2.2.2.2.2

end Pm.Daemon.E2E.Ex
