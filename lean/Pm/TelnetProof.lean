import Pm.Dev2Moves
/-! Lemmas for C09 (byte streams between the daemon and its devices; the client's write side is `Pm/ClientWrite.lean`).
    The telnet decoder of `device_tcp.c:_telnet_preprocess` as a stream function (`decodeFrom`) and against its specification
    (`strip`, `answers`, `pendingTail`: `decode_spec`).  One call of `_handle_ready_device` as one equation for the device
    (`handleReady_bytes`: what a `write` took off `toBuf`, what gave way in `fromBuf`, and `takeIn` of what was read), with its
    readings on the read-side view `RView`, on the system-call log and on the output buffer.  `_process_expect`'s consumption.
    What the connection layer does to the bytes (`LinkStep`). -/
namespace Pm.Dev2.Tel

/-- result of decoding a stream: the state the decoder is left in, the bytes kept for the script, the option
    replies queued for the device -/
structure Dec where
  st : Nat
  cmd : UInt8
  kept : Bytes
  replies : Bytes
deriving DecidableEq, Repr

/-- the step function `telnetFilter` folds over the newly read bytes -/
def foldStep (acc : Nat × UInt8 × List UInt8 × List UInt8) (b : UInt8) : Nat × UInt8 × List UInt8 × List UInt8 :=
  let (st, cmd, kept, reply) := acc
  let (st', cmd', k, r) := telnetStep st cmd b
  (st', cmd', kept ++ k, reply ++ r)

def Dec.ofTuple (t : Nat × UInt8 × List UInt8 × List UInt8) : Dec := ⟨t.1, t.2.1, t.2.2.1, t.2.2.2⟩

/-- the decoder continued from state `(st, cmd)`: one fold of `telnetStep` over the stream -/
def decodeFrom (st : Nat) (cmd : UInt8) (s : Bytes) : Dec := Dec.ofTuple (s.foldl foldStep (st, cmd, [], []))

/-- the ideal decoder: one fold of `telnetStep` over the whole stream, from the state of a fresh connection -/
def decode (s : Bytes) : Dec := decodeFrom 0 0 s

/-- what a fold has accumulated stays in front of what it adds: the fold from any accumulator, by the fold from the empty one -/
theorem foldl_foldStep (s : Bytes) (st : Nat) (cmd : UInt8) (k0 r0 : Bytes) :
    s.foldl foldStep (st, cmd, k0, r0) =
      ((decodeFrom st cmd s).st, (decodeFrom st cmd s).cmd, k0 ++ (decodeFrom st cmd s).kept, r0 ++ (decodeFrom st cmd s).replies) := by
  induction s generalizing st cmd k0 r0 with
  | nil => simp [decodeFrom, Dec.ofTuple]
  | cons b bs ih =>
    have step (k0 r0 : Bytes) : foldStep (st, cmd, k0, r0) b =
        ((telnetStep st cmd b).1, (telnetStep st cmd b).2.1, k0 ++ (telnetStep st cmd b).2.2.1, r0 ++ (telnetStep st cmd b).2.2.2) := rfl
    -- both sides are folds over `bs` from an accumulator that holds the output of the first step
    unfold decodeFrom
    rw [List.foldl_cons, List.foldl_cons, step, step, ih, ih]
    simp only [Dec.ofTuple, List.append_assoc, List.nil_append]

@[simp] theorem decodeFrom_nil (st : Nat) (cmd : UInt8) : decodeFrom st cmd [] = ⟨st, cmd, [], []⟩ := rfl

theorem decodeFrom_cons (st : Nat) (cmd : UInt8) (b : UInt8) (bs : Bytes) :
    decodeFrom st cmd (b :: bs) =
      ⟨(decodeFrom (telnetStep st cmd b).1 (telnetStep st cmd b).2.1 bs).st,
       (decodeFrom (telnetStep st cmd b).1 (telnetStep st cmd b).2.1 bs).cmd,
       (telnetStep st cmd b).2.2.1 ++ (decodeFrom (telnetStep st cmd b).1 (telnetStep st cmd b).2.1 bs).kept,
       (telnetStep st cmd b).2.2.2 ++ (decodeFrom (telnetStep st cmd b).1 (telnetStep st cmd b).2.1 bs).replies⟩ := by
  show Dec.ofTuple (bs.foldl foldStep ((telnetStep st cmd b).1, (telnetStep st cmd b).2.1, (telnetStep st cmd b).2.2)) = _
  rw [foldl_foldStep]
  rfl

theorem decodeFrom_append (st : Nat) (cmd : UInt8) (a b : Bytes) :
    decodeFrom st cmd (a ++ b) =
      ⟨(decodeFrom (decodeFrom st cmd a).st (decodeFrom st cmd a).cmd b).st,
       (decodeFrom (decodeFrom st cmd a).st (decodeFrom st cmd a).cmd b).cmd,
       (decodeFrom st cmd a).kept ++ (decodeFrom (decodeFrom st cmd a).st (decodeFrom st cmd a).cmd b).kept,
       (decodeFrom st cmd a).replies ++ (decodeFrom (decodeFrom st cmd a).st (decodeFrom st cmd a).cmd b).replies⟩ := by
  induction a generalizing st cmd with
  | nil => simp
  | cons x xs ih =>
    rw [List.cons_append, decodeFrom_cons, ih, decodeFrom_cons]
    simp [List.append_assoc]

theorem telnetFilter_eq (d : Dev) (new : Bytes) :
    telnetFilter d new =
      { d with tstate := (decodeFrom d.tstate d.tcmd new).st, tcmd := (decodeFrom d.tstate d.tcmd new).cmd,
               fromBuf := d.fromBuf ++ (decodeFrom d.tstate d.tcmd new).kept,
               toBuf := clipTo (d.toBuf ++ (decodeFrom d.tstate d.tcmd new).replies) } := rfl

/-- no bytes, no change — for an output buffer within its capacity (the model writes `clipTo (toBuf ++ [])`) -/
theorem telnetFilter_nil (d : Dev) (hcap : d.toBuf.length ≤ 65536) : telnetFilter d [] = d := by
  rw [telnetFilter_eq]; simp [clipTo_of_le _ hcap]

theorem telnetFilter_append (d : Dev) (a b : Bytes) :
    telnetFilter (telnetFilter d a) b = telnetFilter d (a ++ b) := by
  rw [telnetFilter_eq d (a ++ b), decodeFrom_append, telnetFilter_eq (telnetFilter d a) b, telnetFilter_eq d a]
  simp [List.append_assoc, clipTo_clipTo_append]

/-- segmentation independence, any number of chunks (the output buffer within its capacity to begin with: needed for the
    empty list of chunks only) -/
theorem telnetFilter_chunks (d : Dev) (chunks : List Bytes) (hcap : d.toBuf.length ≤ 65536) :
    chunks.foldl telnetFilter d = telnetFilter d chunks.flatten := by
  induction chunks generalizing d with
  | nil => simp [telnetFilter_nil d hcap]
  | cons c cs ih =>
    rw [List.foldl_cons, ih _ (by rw [telnetFilter_eq]; exact clipTo_length_le _), List.flatten_cons, telnetFilter_append]

/-- DONT, DO, WONT, WILL: the commands followed by one option byte -/
def isOptCmd (c : UInt8) : Bool := c == 254 || c == 253 || c == 252 || c == 251

/-- the answer to `IAC cmd opt` (`_telnet_recvopt`): only `DO` is answered — `WILL` for SGA and TM, `WONT` for
    TTYPE, NAWS, NEW-ENVIRON, XDISPLOC, TSPEED, ECHO, LFLOW, BINARY, nothing for any other option -/
def optReply (cmd o : UInt8) : Bytes :=
  if cmd == 253 then
    (if o == 3 || o == 6 then [255, 251, o]
     else if o == 24 || o == 31 || o == 39 || o == 35 || o == 32 || o == 1 || o == 33 || o == 0 then [255, 252, o]
     else [])
  else []

/-- specification of the kept bytes, by recursion on the stream: `IAC IAC ↦ 0xFF`, `IAC (DO|DONT|WILL|WONT) o ↦ ε`,
    `IAC x ↦ ε` for every other `x`, an unfinished command at the end of the stream ↦ ε, every other byte itself -/
def strip : Bytes → Bytes
  | [] => []
  | b :: r =>
    if b ≠ 255 then b :: strip r
    else match r with
      | [] => []
      | c :: r' =>
        if c = 255 then 255 :: strip r'
        else if isOptCmd c then
          match r' with
          | [] => []
          | _ :: r'' => strip r''
        else strip r'

/-- specification of the replies, by recursion on the stream -/
def answers : Bytes → Bytes
  | [] => []
  | b :: r =>
    if b ≠ 255 then answers r
    else match r with
      | [] => []
      | c :: r' =>
        if c = 255 then answers r'
        else if isOptCmd c then
          match r' with
          | [] => []
          | o :: r'' => optReply c o ++ answers r''
        else answers r'

/-- the unfinished command a stream ends in: `[]`, `[IAC]` or `[IAC, cmd]` -/
def pendingTail : Bytes → Bytes
  | [] => []
  | b :: r =>
    if b ≠ 255 then pendingTail r
    else match r with
      | [] => [255]
      | c :: r' =>
        if c = 255 then pendingTail r'
        else if isOptCmd c then
          match r' with
          | [] => [255, c]
          | _ :: r'' => pendingTail r''
        else pendingTail r'

theorem telnetStep_zero (cmd b : UInt8) :
    telnetStep 0 cmd b = if b = 255 then (1, cmd, [], []) else (0, cmd, [b], []) := by
  simp [telnetStep]

theorem telnetStep_one (cmd b : UInt8) :
    telnetStep 1 cmd b = if b = 255 then (0, cmd, [b], []) else if isOptCmd b then (2, b, [], []) else (0, cmd, [], []) := by
  simp [telnetStep, isOptCmd]

theorem telnetStep_two (n : Nat) (cmd b : UInt8) : telnetStep (n + 2) cmd b = (0, cmd, [], optReply cmd b) := by
  simp [telnetStep, optReply]

theorem strip_ne (b : UInt8) (r : Bytes) (hb : b ≠ 255) : strip (b :: r) = b :: strip r := by
  rw [strip.eq_def]; simp [hb]
theorem strip_iac_nil : strip [255] = [] := by
  rw [strip.eq_def]; simp
theorem strip_iac_cons (c : UInt8) (r : Bytes) :
    strip (255 :: c :: r) = if c = 255 then 255 :: strip r else if isOptCmd c then strip (r.drop 1) else strip r := by
  rw [strip.eq_def]; cases r <;> simp [strip]

theorem answers_ne (b : UInt8) (r : Bytes) (hb : b ≠ 255) : answers (b :: r) = answers r := by
  rw [answers.eq_def]; simp [hb]
theorem answers_iac_nil : answers [255] = [] := by
  rw [answers.eq_def]; simp
theorem answers_iac_cons (c : UInt8) (r : Bytes) :
    answers (255 :: c :: r) = if c = 255 then answers r else if isOptCmd c then
      (match r with | [] => [] | o :: r'' => optReply c o ++ answers r'') else answers r := by
  rw [answers.eq_def]; cases r <;> simp

theorem pendingTail_ne (b : UInt8) (r : Bytes) (hb : b ≠ 255) : pendingTail (b :: r) = pendingTail r := by
  rw [pendingTail.eq_def]; simp [hb]
theorem pendingTail_iac_nil : pendingTail [255] = [255] := by
  rw [pendingTail.eq_def]; simp
theorem pendingTail_iac_cons (c : UInt8) (r : Bytes) :
    pendingTail (255 :: c :: r) = if c = 255 then pendingTail r else if isOptCmd c then
      (match r with | [] => [255, c] | _ :: r'' => pendingTail r'') else pendingTail r := by
  rw [pendingTail.eq_def]; cases r <;> simp

/-- the recursion of `strip`, `answers` and `pendingTail`: a plain byte; a lone `IAC` at the end; `IAC IAC`; `IAC cmd` cut off;
    `IAC cmd opt`; `IAC x` -/
theorem tokens_induct {P : Bytes → Prop} (nil : P [])
    (plain : ∀ b r, b ≠ 255 → P r → P (b :: r))
    (iac : P [255])
    (esc : ∀ r, P r → P (255 :: 255 :: r))
    (cut : ∀ c, c ≠ 255 → isOptCmd c = true → P [255, c])
    (opt : ∀ c o r, c ≠ 255 → isOptCmd c = true → P r → P (255 :: c :: o :: r))
    (other : ∀ c r, c ≠ 255 → isOptCmd c = false → P r → P (255 :: c :: r)) : ∀ s, P s
  | [] => nil
  | [b] => if hb : b = 255 then hb ▸ iac else plain b [] hb nil
  | b :: c :: r =>
    if hb : b = 255 then
      if hc : c = 255 then hb ▸ hc ▸ esc r (tokens_induct nil plain iac esc cut opt other r)
      else if ho : isOptCmd c = true then
        match r with
        | [] => hb ▸ cut c hc ho
        | o :: r' => hb ▸ opt c o r' hc ho (tokens_induct nil plain iac esc cut opt other r')
      else hb ▸ other c r hc (by simpa using ho) (tokens_induct nil plain iac esc cut opt other r)
    else plain b (c :: r) hb (tokens_induct nil plain iac esc cut opt other (c :: r))

/-- what the decoder, started at rest, has done at the end of the stream `s`: it has kept `strip s`, answered `answers s`, and
    its state is the command `s` left unfinished -/
structure DecSpec (cmd : UInt8) (s : Bytes) : Prop where
  kept : (decodeFrom 0 cmd s).kept = strip s
  replies : (decodeFrom 0 cmd s).replies = answers s
  st : (decodeFrom 0 cmd s).st = (pendingTail s).length
  cmd : (decodeFrom 0 cmd s).st = 2 → pendingTail s = [255, (decodeFrom 0 cmd s).cmd]

/-- a whole command `p` (the decoder is at rest again after it) in front of `r` -/
theorem DecSpec.step {cmd cmd' : UInt8} {p r k a : Bytes} (hp : decodeFrom 0 cmd p = ⟨0, cmd', k, a⟩)
    (hs : strip (p ++ r) = k ++ strip r) (ha : answers (p ++ r) = a ++ answers r) (ht : pendingTail (p ++ r) = pendingTail r)
    (h : DecSpec cmd' r) : DecSpec cmd (p ++ r) := by
  have e := decodeFrom_append 0 cmd p r
  rw [hp] at e
  exact ⟨by rw [e, hs, ← h.kept], by rw [e, ha, ← h.replies], by rw [e, ht]; exact h.st, by rw [e, ht]; exact h.cmd⟩

/-- the decoder against its specification.  The induction follows the specification's recursion, whole commands at a time, so
    only the state of rest occurs (the command byte carried changes with every `IAC cmd opt`). -/
theorem decode_spec (s : Bytes) : ∀ cmd, DecSpec cmd s := by
  induction s using tokens_induct with
  | nil => exact fun cmd => ⟨rfl, rfl, rfl, fun h => nomatch h⟩
  | plain b r hb ih =>
    exact fun cmd => DecSpec.step (p := [b]) (cmd' := cmd) (k := [b]) (a := []) (by simp [decodeFrom_cons, telnetStep_zero, hb])
      (strip_ne b r hb) (answers_ne b r hb) (pendingTail_ne b r hb) (ih cmd)
  | iac =>
    exact fun cmd => ⟨by simp [decodeFrom_cons, telnetStep_zero, strip_iac_nil], by simp [decodeFrom_cons, telnetStep_zero, answers_iac_nil],
      by simp [decodeFrom_cons, telnetStep_zero, pendingTail_iac_nil], by simp [decodeFrom_cons, telnetStep_zero]⟩
  | esc r ih =>
    exact fun cmd => DecSpec.step (p := [255, 255]) (cmd' := cmd) (k := [255]) (a := [])
      (by simp [decodeFrom_cons, telnetStep_zero, telnetStep_one])
      (by simp [strip_iac_cons]) (by simp [answers_iac_cons]) (by simp [pendingTail_iac_cons]) (ih cmd)
  | cut c hc ho =>
    exact fun cmd => ⟨by simp [decodeFrom_cons, telnetStep_zero, telnetStep_one, hc, ho, strip],
      by simp [decodeFrom_cons, telnetStep_zero, telnetStep_one, hc, ho, answers_iac_cons],
      by simp [decodeFrom_cons, telnetStep_zero, telnetStep_one, hc, ho, pendingTail_iac_cons],
      by simp [decodeFrom_cons, telnetStep_zero, telnetStep_one, hc, ho, pendingTail_iac_cons]⟩
  | opt c o r hc ho ih =>
    exact fun cmd => DecSpec.step (p := [255, c, o]) (cmd' := c) (k := []) (a := optReply c o)
      (by simp [decodeFrom_cons, telnetStep_zero, telnetStep_one, telnetStep_two, hc, ho])
      (by simp [strip_iac_cons, hc, ho]) (by simp [answers_iac_cons, hc, ho]) (by simp [pendingTail_iac_cons, hc, ho]) (ih c)
  | other c r hc ho ih =>
    exact fun cmd => DecSpec.step (p := [255, c]) (cmd' := cmd) (k := []) (a := [])
      (by simp [decodeFrom_cons, telnetStep_zero, telnetStep_one, hc, ho])
      (by simp [strip_iac_cons, hc, ho]) (by simp [answers_iac_cons, hc, ho]) (by simp [pendingTail_iac_cons, hc, ho]) (ih cmd)

theorem decode_kept (s : Bytes) : (decode s).kept = strip s := (decode_spec s 0).kept
theorem decode_replies (s : Bytes) : (decode s).replies = answers s := (decode_spec s 0).replies
theorem decode_st (s : Bytes) : (decode s).st = (pendingTail s).length := (decode_spec s 0).st
theorem decode_cmd (s : Bytes) (h : (decode s).st = 2) : pendingTail s = [255, (decode s).cmd] := (decode_spec s 0).cmd h

theorem pendingTail_cases (s : Bytes) :
    pendingTail s = [] ∨ pendingTail s = [255] ∨ ∃ c, c ≠ 255 ∧ isOptCmd c = true ∧ pendingTail s = [255, c] := by
  induction s using tokens_induct with
  | nil => exact .inl rfl
  | plain b r hb ih => rw [pendingTail_ne b r hb]; exact ih
  | iac => exact .inr (.inl pendingTail_iac_nil)
  | esc r ih => rw [pendingTail_iac_cons, if_pos rfl]; exact ih
  | cut c hc ho => exact .inr (.inr ⟨c, hc, ho, by rw [pendingTail_iac_cons, if_neg hc, if_pos ho]⟩)
  | opt c o r hc ho ih => rw [pendingTail_iac_cons, if_neg hc, if_pos ho]; exact ih
  | other c r hc ho ih => rw [pendingTail_iac_cons, if_neg hc, if_neg (by simp [ho])]; exact ih

theorem clean_spec (s : Bytes) (h : 255 ∉ s) : strip s = s ∧ answers s = [] ∧ pendingTail s = [] := by
  induction s with
  | nil => exact ⟨rfl, rfl, rfl⟩
  | cons b r ih =>
    have hb : b ≠ 255 := fun e => h (by simp [e])
    obtain ⟨i1, i2, i3⟩ := ih fun hm => h (by simp [hm])
    exact ⟨by rw [strip_ne _ _ hb, i1], by rw [answers_ne _ _ hb, i2], by rw [pendingTail_ne _ _ hb, i3]⟩

theorem strip_clean (s : Bytes) (h : 255 ∉ s) : strip s = s := (clean_spec s h).1
theorem answers_clean (s : Bytes) (h : 255 ∉ s) : answers s = [] := (clean_spec s h).2.1
theorem pendingTail_clean (s : Bytes) (h : 255 ∉ s) : pendingTail s = [] := (clean_spec s h).2.2

/-- the state the decoder carries is the unfinished command: decoding that command from rest leads to it -/
theorem decodeFrom_pending (s : Bytes) (cmd : UInt8) :
    decodeFrom 0 (decodeFrom 0 cmd s).cmd (pendingTail s) = ⟨(decodeFrom 0 cmd s).st, (decodeFrom 0 cmd s).cmd, [], []⟩ := by
  have h := decode_spec s cmd
  rcases pendingTail_cases s with e | e | ⟨c, hc, ho, e⟩
  · rw [h.st, e]; rfl
  · rw [h.st, e]; simp [decodeFrom_cons, telnetStep_zero]
  · have hc' : (decodeFrom 0 cmd s).cmd = c := by
      have := h.cmd (by rw [h.st, e]; rfl)
      rw [e] at this; injection this with _ this; injection this with this _; exact this.symm
    rw [h.st, e, hc']; simp [decodeFrom_cons, telnetStep_zero, telnetStep_one, hc, ho]

/-- … so continuing on `t` is decoding, from rest, `t` with that command put back in front -/
theorem decodeFrom_resume (s t : Bytes) (cmd : UInt8) :
    decodeFrom (decodeFrom 0 cmd s).st (decodeFrom 0 cmd s).cmd t = decodeFrom 0 (decodeFrom 0 cmd s).cmd (pendingTail s ++ t) := by
  rw [decodeFrom_append 0 _ (pendingTail s) t, decodeFrom_pending]; rfl

theorem decodeFrom_resume_kept (s t : Bytes) :
    (decodeFrom (decode s).st (decode s).cmd t).kept = strip (pendingTail s ++ t) := by
  unfold decode; rw [decodeFrom_resume, (decode_spec _ _).kept]

theorem strip_append (s t : Bytes) : strip (s ++ t) = strip s ++ strip (pendingTail s ++ t) := by
  have e := congrArg Dec.kept (decodeFrom_append 0 0 s t)
  rw [(decode_spec _ _).kept, decodeFrom_resume, (decode_spec s 0).kept] at e
  exact e.trans (by rw [(decode_spec _ _).kept])

theorem strip_append_of_complete (s t : Bytes) (h : pendingTail s = []) : strip (s ++ t) = strip s ++ strip t := by
  rw [strip_append, h]; rfl

theorem telnetStep_kept_le (st : Nat) (cmd b : UInt8) : (telnetStep st cmd b).2.2.1.length ≤ 1 := by
  match st with
  | 0 => rw [telnetStep_zero]; split <;> simp
  | 1 =>
    rw [telnetStep_one]
    split
    · simp
    · split <;> simp
  | n + 2 => rw [telnetStep_two]; simp

theorem decodeFrom_kept_le (s : Bytes) : ∀ (st : Nat) (cmd : UInt8), (decodeFrom st cmd s).kept.length ≤ s.length := by
  induction s with
  | nil => intro st cmd; simp
  | cons b r ih =>
    intro st cmd
    rw [decodeFrom_cons]
    simp only [List.length_append, List.length_cons]
    have h1 := telnetStep_kept_le st cmd b
    have h2 := ih (telnetStep st cmd b).1 (telnetStep st cmd b).2.1
    omega

theorem strip_length_le (s : Bytes) : (strip s).length ≤ s.length := by
  rw [← decode_kept]; exact decodeFrom_kept_le s 0 0

/-- what the daemon appends to `fromBuf` when it has read `bs` from the device's descriptor: the bytes themselves on a
    coprocess, the decoder's output continued from the carried state on a tcp device -/
def keptOf (d : Dev) (bs : Bytes) : Bytes := if d.isPipe then bs else (decodeFrom d.tstate d.tcmd bs).kept

/-- the device after the daemon has taken in `bs` -/
def absorb (d : Dev) (bs : Bytes) : Dev :=
  if d.isPipe then { d with fromBuf := d.fromBuf ++ bs } else telnetFilter d bs

theorem absorb_fromBuf (d : Dev) (bs : Bytes) : (absorb d bs).fromBuf = d.fromBuf ++ keptOf d bs := by
  unfold absorb keptOf; split <;> simp [telnetFilter_eq]

theorem absorb_isPipe (d : Dev) (bs : Bytes) : (absorb d bs).isPipe = d.isPipe := by
  unfold absorb; split <;> simp [telnetFilter_eq]

theorem absorb_state (d : Dev) (bs : Bytes) :
    ((absorb d bs).tstate, (absorb d bs).tcmd) =
      if d.isPipe then (d.tstate, d.tcmd) else ((decodeFrom d.tstate d.tcmd bs).st, (decodeFrom d.tstate d.tcmd bs).cmd) := by
  unfold absorb; split <;> simp [telnetFilter_eq]

theorem absorb_append (d : Dev) (a b : Bytes) : absorb (absorb d a) b = absorb d (a ++ b) := by
  unfold absorb
  cases h : d.isPipe
  · simp [telnetFilter_eq, decodeFrom_append, h, clipTo_clipTo_append]
  · simp

theorem readyRd_data (c : CS) (bs : Bytes) (hr : c.env.read = some (some bs)) (hbs : bs ≠ []) :
    readyRd c = ({ c with sys := c.sys ++ [.read bs.length], dev := absorb c.dev bs }, false) := by
  unfold readyRd absorb
  have : bs.isEmpty = false := by cases bs <;> simp_all
  simp only [hr, this, Bool.false_eq_true, ↓reduceIte]

theorem readyRead_data (f : Nat) (c : CS) (bs : Bytes) (hf : f &&& 1 ≠ 0) (hr : c.env.read = some (some bs)) (hbs : bs ≠ []) :
    readyRead f c = ({ c with env := { c.env with read := some (some (readOf c.dev bs)) },
                              sys := c.sys ++ [.read (readOf c.dev bs).length],
                              dev := absorb (devClip c.dev bs) (readOf c.dev bs) }, false) := by
  unfold readyRead
  have hf' : (f &&& 1 != 0) = true := by simpa using hf
  simp only [hf', ↓reduceIte]
  rw [readyRd_data (clipRead c) (readOf c.dev bs) (clipRead_read_data c bs hr) (readOf_ne_nil c.dev bs hbs),
    clipRead_data_eq c bs hr]

theorem finishConnectOne_dev (c : CS) :
    ((finishConnectOne c).2 = true ∧
        (finishConnectOne c).1.dev = { c.dev with conn := 2, statConnects := c.dev.statConnects + 1, tstate := 0, tcmd := 0 }) ∨
    ((finishConnectOne c).2 = false ∧ (finishConnectOne c).1.dev = c.dev) := by
  rcases finishConnectOne_outcomes c with ⟨r, h⟩ | ⟨e, r, h⟩ | h <;> rw [h]
  · exact .inl ⟨rfl, rfl⟩
  · exact .inr ⟨rfl, rfl⟩
  · exact .inr ⟨rfl, rfl⟩

theorem finishConnectOne_env (c : CS) :
    (finishConnectOne c).1.env.read = c.env.read ∧ (finishConnectOne c).1.env.revents = c.env.revents ∧
    (finishConnectOne c).1.env.writeOk = c.env.writeOk :=
  ⟨(finishConnectOne_frame c).read, (finishConnectOne_frame c).revents, (finishConnectOne_frame c).writeOk⟩

/-- `c'` has the bytes of `c`: neither buffer, nor the transport kind, nor the size of the input buffer differs, and nothing was
    read or written in between -/
structure SameBytes (c c' : CS) : Prop where
  fromBuf : c'.dev.fromBuf = c.dev.fromBuf
  isPipe : c'.dev.isPipe = c.dev.isPipe
  fromSize : c'.dev.fromSize = c.dev.fromSize
  toBuf : c'.dev.toBuf = c.dev.toBuf
  log : ∃ δ, c'.sys = c.sys ++ δ ∧ NoIO δ

/-- **POLLOUT while CONNECTING** leaves the bytes alone (decoder, connect counter and what is reported: `readyFinish_tel`) -/
theorem readyFinish_bufs (c : CS) (h1 : c.dev.conn = 1) : SameBytes c (readyFinish c).1 := by
  obtain ⟨c1, hw, ⟨_, e⟩ | ⟨_, e⟩⟩ := readyFinish_dev c h1 <;> rw [e]
  · exact ⟨hw.dev.fromBuf, hw.dev.isPipe, hw.dev.fromSize, hw.dev.toBuf, hw.log⟩
  · exact ⟨hw.dev.fromBuf, hw.dev.isPipe, hw.dev.fromSize, hw.dev.toBuf, hw.log⟩

/-- the read-side view of a device: transport, decoder state, unconsumed decoded bytes -/
structure RView where
  isPipe : Bool
  st : Nat
  cmd : UInt8
  buf : Bytes
deriving DecidableEq, Repr

def rview (d : Dev) : RView := ⟨d.isPipe, d.tstate, d.tcmd, d.fromBuf⟩

/-- the daemon read `bs` from the descriptor -/
def RView.read (v : RView) (bs : Bytes) : RView :=
  if v.isPipe then { v with buf := v.buf ++ bs }
  else { v with st := (decodeFrom v.st v.cmd bs).st, cmd := (decodeFrom v.st v.cmd bs).cmd, buf := v.buf ++ (decodeFrom v.st v.cmd bs).kept }

/-- the first `k` pending bytes went away: an `expect` consumed them, or — only when `MAX_DEV_BUF` unconsumed bytes are
    pending — a `read` overwrote them -/
def RView.consume (v : RView) (k : Nat) : RView := { v with buf := v.buf.drop k }

/-- the write half when the device is connected and there is something to write: one `write` of `toBuf`, of which the
    kernel takes the first `wcap` bytes — the rest stays queued; `EAGAIN` (`wcap = 0`) and a failed `write` keep `toBuf`
    and are I/O errors (the caller reconnects) -/
theorem readyWrite_connected (c : CS) (hf : c.env.revents &&& 2 ≠ 0) (hc : c.dev.conn ≠ 1) (hb : c.dev.toBuf ≠ []) :
    readyWrite c =
      if c.env.writeOk then
        if c.env.wcap == 0 then ({ c with sys := c.sys ++ [.write [] true] }, true, false)
        else ({ c with sys := c.sys ++ [.write (c.dev.toBuf.take c.env.wcap) true],
                       dev := { c.dev with toBuf := c.dev.toBuf.drop c.env.wcap } }, false, false)
      else ({ c with sys := c.sys ++ [.write c.dev.toBuf false] }, true, false) := by
  unfold readyWrite
  have hf' : (c.env.revents &&& 2 != 0) = true := by simpa using hf
  have hc' : (c.dev.conn == 1) = false := by simpa using hc
  have hb' : c.dev.toBuf.isEmpty = false := by cases h : c.dev.toBuf <;> simp_all
  simp only [hf', hc', hb', ↓reduceIte, Bool.false_eq_true]

theorem readyWrite_idle (c : CS) (hf : c.env.revents &&& 2 = 0) : readyWrite c = (c, false, false) := by
  unfold readyWrite
  have hf' : (c.env.revents &&& 2 != 0) = false := by simpa using hf
  simp only [hf', ↓reduceIte, Bool.false_eq_true]

theorem readyRead_idle (f : Nat) (c : CS) (hf : f &&& 1 = 0) : readyRead f c = (c, false) := by
  unfold readyRead
  have hf' : (f &&& 1 != 0) = false := by simpa using hf
  simp only [hf', ↓reduceIte, Bool.false_eq_true]

/-- the entry conditions of `_handle_ready_device` under which the code reaches "ready for writing" -/
structure ReadyOk (c : CS) : Prop where
  conn : c.dev.conn ≠ 0
  fd : c.dev.fd.isSome = true
  noHup : c.env.revents &&& 4 = 0
  noErr : c.env.revents &&& 8 = 0
  noNval : c.env.revents &&& 16 = 0

theorem handleReady_ok (c : CS) (h : ReadyOk c) :
    handleReady c =
      (if (readyWrite c).2.1 then ((readyWrite c).1, true) else
       if (readyWrite c).2.2 then ((readyWrite c).1, false) else
       readyRead c.env.revents (readyWrite c).1) := by
  rw [handleReady_eq]
  have h1 : (c.dev.conn == 0) = false := by simpa using h.conn
  have h2 : c.dev.fd.isNone = false := by have := h.fd; cases hh : c.dev.fd <;> simp_all
  have h3 : (c.env.revents &&& 4 != 0 || c.env.revents &&& 8 != 0 || c.env.revents &&& 16 != 0) = false := by
    simp [h.noHup, h.noErr, h.noNval]
  simp only [h1, h2, h3, ↓reduceIte, Bool.false_eq_true]

theorem handleReady_read_only (c : CS) (bs : Bytes) (h : ReadyOk c)
    (hout : c.env.revents &&& 2 = 0) (hin : c.env.revents &&& 1 ≠ 0)
    (hr : c.env.read = some (some bs)) (hbs : bs ≠ []) :
    handleReady c = ({ c with env := { c.env with read := some (some (readOf c.dev bs)) },
                              sys := c.sys ++ [.read (readOf c.dev bs).length],
                              dev := absorb (devClip c.dev bs) (readOf c.dev bs) }, false) := by
  rw [handleReady_ok c h, readyWrite_idle c hout]
  simp only [Bool.false_eq_true, ↓reduceIte]
  exact readyRead_data _ _ _ hin hr hbs

theorem handleReady_write_read (c : CS) (bs : Bytes) (h : ReadyOk c)
    (hout : c.env.revents &&& 2 ≠ 0) (hin : c.env.revents &&& 1 ≠ 0) (hc : c.dev.conn ≠ 1) (hb : c.dev.toBuf ≠ [])
    (hw : c.env.writeOk = true) (hcap : c.env.wcap ≠ 0) (hr : c.env.read = some (some bs)) (hbs : bs ≠ []) :
    handleReady c =
      ({ c with env := { c.env with read := some (some (readOf c.dev bs)) },
                sys := c.sys ++ [.write (c.dev.toBuf.take c.env.wcap) true, .read (readOf c.dev bs).length],
                dev := absorb (devClip { c.dev with toBuf := c.dev.toBuf.drop c.env.wcap } bs) (readOf c.dev bs) }, false) := by
  rw [handleReady_ok c h, readyWrite_connected c hout hc hb]
  have hcap' : (c.env.wcap == 0) = false := by simpa using hcap
  simp only [hw, hcap', ↓reduceIte, Bool.false_eq_true]
  rw [readyRead_data _ _ bs hin (by exact hr) hbs]
  have e1 : readOf { c.dev with toBuf := c.dev.toBuf.drop c.env.wcap } bs = readOf c.dev bs := readOf_congr rfl rfl bs
  dsimp only
  rw [e1]
  simp only [List.append_assoc, List.cons_append, List.nil_append, hw]

theorem handleReady_write_only (c : CS) (h : ReadyOk c)
    (hout : c.env.revents &&& 2 ≠ 0) (hin : c.env.revents &&& 1 = 0) (hc : c.dev.conn ≠ 1) (hb : c.dev.toBuf ≠ []) :
    handleReady c =
      if c.env.writeOk then
        if c.env.wcap == 0 then ({ c with sys := c.sys ++ [.write [] true] }, true)
        else ({ c with sys := c.sys ++ [.write (c.dev.toBuf.take c.env.wcap) true],
                       dev := { c.dev with toBuf := c.dev.toBuf.drop c.env.wcap } }, false)
      else ({ c with sys := c.sys ++ [.write c.dev.toBuf false] }, true) := by
  rw [handleReady_ok c h, readyWrite_connected c hout hc hb]
  cases hw : c.env.writeOk
  · simp
  · cases hcap : (c.env.wcap == 0)
    · simp only [↓reduceIte, Bool.false_eq_true]
      rw [readyRead_idle _ _ hin]
    · simp

/-- `_memtrans(str, len, '\0', '\377')`: how the pending bytes are presented to the regex engine (the interpreter layer calls the
    same function `Interp.rxSubject`) -/
def present (buf : Bytes) : Bytes := buf.map fun b => if b == 0 then 255 else b

theorem present_length (buf : Bytes) : (present buf).length = buf.length := by simp [present]
theorem present_take (buf : Bytes) (k : Nat) : (present buf).take k = present (buf.take k) := by simp [present, List.map_take]
theorem present_of_no_nul (buf : Bytes) (h : 0 ∉ buf) : present buf = buf := by
  unfold present
  conv => rhs; rw [← List.map_id buf]
  apply List.map_congr_left
  intro b hb
  have : b ≠ 0 := fun e => h (e ▸ hb)
  simp [this]

/-- what `_process_expect`, with result `r`, does to the pending bytes: with nothing pending the engine is not asked; it is
    asked once, about the whole pending buffer as presented; no match leaves the buffer alone; a match consumes the prefix up to
    the end of the whole match, and the match object keeps the subject as presented -/
structure ExpectReads (d : Dev) (o : Oracle) (pat : Nat) (r : StepR) : Prop where
  empty : d.fromBuf = [] → r.dev.fromBuf = [] ∧ r.oracle = o ∧ r.finished = false
  noMatch : d.fromBuf ≠ [] → (askRx o pat (present d.fromBuf)).2.1 = none →
    r.dev.fromBuf = d.fromBuf ∧ r.oracle = (askRx o pat (present d.fromBuf)).1 ∧ r.finished = false
  matched : ∀ offs, d.fromBuf ≠ [] → (askRx o pat (present d.fromBuf)).2.1 = some offs →
    r.dev.fromBuf = d.fromBuf.drop (offs.headD (0, 0)).2.toNat ∧ r.oracle = (askRx o pat (present d.fromBuf)).1 ∧
    r.finished = true ∧ r.dev.xmStr = some (present d.fromBuf) ∧ r.dev.xmOffs = offs

theorem stmtExpect_reads (d : Dev) (a : Action) (o : Oracle) (pat : Nat) : ExpectReads d o pat (stmtExpect d a o pat) := by
  -- an `expect` looks neither at the clock nor at the stack of contexts: its `Step` holds for any `now`, `e`, `rest`
  have s := Interp.expect_step (d := d) (a := a) (o := o) (now := 0) (e := default) (rest := []) pat
  generalize stmtExpect d a o pat = r at s ⊢
  cases s with
  | expectEmpty _ he => exact ⟨fun _ => ⟨he, rfl, rfl⟩, fun h => absurd he h, fun _ h => absurd he h⟩
  | expectNo _ hne hn =>
    exact ⟨fun h => absurd h hne, fun _ _ => ⟨rfl, rfl, rfl⟩, fun _ _ hm => nomatch hn.symm.trans hm⟩
  | expectYes _ offs' hne hy =>
    refine ⟨fun h => absurd h hne, fun _ hn => (nomatch hn.symm.trans hy), fun offs _ hm => ?_⟩
    obtain rfl := Option.some.inj (hm.symm.trans hy)
    exact ⟨rfl, rfl, rfl, rfl, rfl⟩
  | _ => contradiction

theorem stmtExpect_view (d : Dev) (a : Action) (o : Oracle) (pat : Nat) :
    ∃ k, rview (stmtExpect d a o pat).dev = (rview d).consume k := by
  have h := stmtExpect_spec d a o pat
  obtain ⟨k, hk⟩ := h.taken
  have e1 : (stmtExpect d a o pat).dev.isPipe = d.isPipe := by rw [h.dev]
  have e2 : (stmtExpect d a o pat).dev.tstate = d.tstate := by rw [h.dev]
  have e3 : (stmtExpect d a o pat).dev.tcmd = d.tcmd := by rw [h.dev]
  exact ⟨k, by unfold rview RView.consume; rw [e1, e2, e3, hk]⟩

def RView.keptOf (v : RView) (s : Bytes) : Bytes := if v.isPipe then s else (decodeFrom v.st v.cmd s).kept

theorem RView.read_buf (v : RView) (s : Bytes) : (v.read s).buf = v.buf ++ v.keptOf s := by
  unfold RView.read RView.keptOf; split <;> rfl

theorem RView.read_nil (v : RView) : v.read [] = v := by
  unfold RView.read; split <;> simp

theorem RView.read_append (v : RView) (a b : Bytes) : (v.read a).read b = v.read (a ++ b) := by
  unfold RView.read
  cases h : v.isPipe
  · simp [decodeFrom_append]
  · simp

theorem RView.consume_keptOf (v : RView) (k : Nat) (s : Bytes) : (v.consume k).keptOf s = v.keptOf s := rfl

/-- what happens on one connection, seen from the buffer: the descriptor delivers a chunk, or an `expect` consumes
    the first `k` pending bytes -/
inductive Ev where
  | read (bs : Bytes)
  | consume (k : Nat)
deriving Repr, DecidableEq

def RView.step (v : RView) : Ev → RView
  | .read bs => v.read bs
  | .consume k => v.consume k

/-- everything the descriptor delivered, in order -/
def readsOf : List Ev → Bytes
  | [] => []
  | .read bs :: r => bs ++ readsOf r
  | .consume _ :: r => readsOf r

/-- everything the expects consumed, in order -/
def consumedBy (v : RView) : List Ev → Bytes
  | [] => []
  | .read bs :: r => consumedBy (v.read bs) r
  | .consume k :: r => v.buf.take k ++ consumedBy (v.consume k) r

theorem trace_conservation (v : RView) (evs : List Ev) :
    consumedBy v evs ++ (evs.foldl RView.step v).buf = (v.read (readsOf evs)).buf ∧
    (evs.foldl RView.step v).st = (v.read (readsOf evs)).st ∧
    (evs.foldl RView.step v).cmd = (v.read (readsOf evs)).cmd ∧
    (evs.foldl RView.step v).isPipe = v.isPipe := by
  induction evs generalizing v with
  | nil => simp [consumedBy, readsOf, RView.read_nil]
  | cons e r ih =>
    cases e with
    | read bs =>
      simp only [List.foldl_cons, RView.step, consumedBy, readsOf]
      obtain ⟨hbuf, hst, hcmd, hpipe⟩ := ih (v.read bs)
      rw [RView.read_append] at hbuf hst hcmd
      refine ⟨hbuf, hst, hcmd, ?_⟩
      rw [hpipe]; unfold RView.read; split <;> rfl
    | consume k =>
      simp only [List.foldl_cons, RView.step, consumedBy, readsOf]
      obtain ⟨hbuf, hst, hcmd, hpipe⟩ := ih (v.consume k)
      refine ⟨?_, ?_, ?_, hpipe⟩
      · rw [List.append_assoc, hbuf, RView.read_buf, RView.read_buf, RView.consume_keptOf]
        show List.take k v.buf ++ (List.drop k v.buf ++ _) = _
        rw [← List.append_assoc, List.take_append_drop]
      · rw [hst]; unfold RView.read RView.consume; split <;> rfl
      · rw [hcmd]; unfold RView.read RView.consume; split <;> rfl

/-- a fresh tcp connection: decoder at rest, nothing pending -/
def RView.freshTcp : RView := ⟨false, 0, 0, []⟩
/-- a fresh coprocess connection -/
def RView.freshPipe (st : Nat) (cmd : UInt8) : RView := ⟨true, st, cmd, []⟩

theorem trace_tcp (evs : List Ev) :
    consumedBy .freshTcp evs ++ (evs.foldl RView.step .freshTcp).buf = strip (readsOf evs) := by
  rw [(trace_conservation _ evs).1, RView.read_buf, ← decode_kept]
  simp [RView.freshTcp, RView.keptOf, decode]

theorem trace_pipe (st : Nat) (cmd : UInt8) (evs : List Ev) :
    consumedBy (.freshPipe st cmd) evs ++ (evs.foldl RView.step (.freshPipe st cmd)).buf = readsOf evs := by
  rw [(trace_conservation _ evs).1, RView.read_buf]
  simp [RView.freshPipe, RView.keptOf]

/-- the bytes `_handle_ready_device` takes in: when the read branch is reached and the kernel has `bs`, the prefix of
    `bs` that the `read` asked for (`readOf`: free space of the input buffer, or a chunk when it is full); nothing
    otherwise -/
def readTaken (c : CS) : Bytes :=
  if c.dev.conn == 0 || c.dev.fd.isNone ||
     (c.env.revents &&& 4 != 0 || c.env.revents &&& 8 != 0 || c.env.revents &&& 16 != 0) ||
     (readyWrite c).2.1 || (readyWrite c).2.2 || c.env.revents &&& 1 == 0 then []
  else match c.env.read with
    | some (some bs) => readOf c.dev bs
    | _ => []

/-- the number of oldest pending bytes that `read` overwrites (`dropOf`: 0 unless the buffer is full at `MAX_DEV_BUF`) -/
def readDropped (c : CS) : Nat :=
  if c.dev.conn == 0 || c.dev.fd.isNone ||
     (c.env.revents &&& 4 != 0 || c.env.revents &&& 8 != 0 || c.env.revents &&& 16 != 0) ||
     (readyWrite c).2.1 || (readyWrite c).2.2 || c.env.revents &&& 1 == 0 then 0
  else match c.env.read with
    | some (some bs) => dropOf c.dev bs
    | _ => 0

theorem RView.consume_zero (v : RView) : v.consume 0 = v := by simp [RView.consume]
theorem RView.consume_zero_read_nil (v : RView) : (v.consume 0).read [] = v := by
  rw [RView.consume_zero, RView.read_nil]

/-- the payloads of the successful device `write`s in a system-call log, concatenated -/
def devWritten : List Sys → Bytes
  | [] => []
  | .write b true :: r => b ++ devWritten r
  | _ :: r => devWritten r

theorem devWritten_append (l1 l2 : List Sys) : devWritten (l1 ++ l2) = devWritten l1 ++ devWritten l2 := by
  induction l1 with
  | nil => simp [devWritten]
  | cons x r ih =>
    cases x with
    | write b ok => cases ok <;> simp [devWritten, ih]
    | _ => simp [devWritten, ih]

theorem devWritten_noIO (δ : List Sys) (h : NoIO δ) : devWritten δ = [] := by
  induction δ with
  | nil => rfl
  | cons x r ih =>
    have hx := h x (by simp)
    have hr : NoIO r := fun s hs => h s (by simp [hs])
    cases x <;> simp_all [devWritten, Sys.isIO]

theorem readyFinish_conserve (c : CS) (h1 : c.dev.conn = 1) :
    devWritten (readyFinish c).1.sys = devWritten c.sys ∧ (readyFinish c).1.dev.toBuf = c.dev.toBuf := by
  obtain ⟨δ, h6, h7⟩ := (readyFinish_bufs c h1).log
  exact ⟨by rw [h6, devWritten_append, devWritten_noIO δ h7, List.append_nil], (readyFinish_bufs c h1).toBuf⟩

/-- the option replies the daemon queues when the descriptor delivered `bs` -/
def repliesOf (d : Dev) (bs : Bytes) : Bytes := if d.isPipe then [] else (decodeFrom d.tstate d.tcmd bs).replies

theorem absorb_toBuf (d : Dev) (bs : Bytes) (hcap : d.toBuf.length ≤ 65536) :
    (absorb d bs).toBuf = clipTo (d.toBuf ++ repliesOf d bs) := by
  unfold absorb repliesOf; split <;> simp [telnetFilter_eq, clipTo_of_le _ hcap]

/-- the device after the daemon has taken in `bs`; nothing taken, nothing changed (`absorb d []` would still write
    `clipTo d.toBuf`) -/
def takeIn (d : Dev) (bs : Bytes) : Dev := if bs = [] then d else absorb d bs

theorem takeIn_nil (d : Dev) : takeIn d [] = d := if_pos rfl
theorem takeIn_of_ne {bs : Bytes} (h : bs ≠ []) (d : Dev) : takeIn d bs = absorb d bs := if_neg h

theorem keptOf_nil (d : Dev) : keptOf d [] = [] := by unfold keptOf; split <;> rfl
theorem repliesOf_nil (d : Dev) : repliesOf d [] = [] := by unfold repliesOf; split <;> rfl

/-- `takeIn` as one record: the decoder's state and what it keeps as `RView.read` has them; the output buffer is touched only
    where the telnet filter runs -/
theorem takeIn_eq (d : Dev) (bs : Bytes) :
    takeIn d bs = { d with tstate := ((rview d).read bs).st, tcmd := ((rview d).read bs).cmd,
                           fromBuf := d.fromBuf ++ keptOf d bs,
                           toBuf := if bs = [] ∨ d.isPipe = true then d.toBuf else clipTo (d.toBuf ++ repliesOf d bs) } := by
  by_cases hb : bs = []
  · rw [hb, takeIn_nil, RView.read_nil, keptOf_nil, List.append_nil, if_pos (.inl rfl)]; rfl
  · rw [takeIn_of_ne hb]
    unfold absorb rview RView.read keptOf repliesOf
    by_cases hp : d.isPipe = true
    · simp only [hp, ↓reduceIte, or_true]
    · simp only [hp, hb, ↓reduceIte, or_self, Bool.false_eq_true, telnetFilter_eq]

theorem rview_takeIn (d : Dev) (bs : Bytes) : rview (takeIn d bs) = (rview d).read bs := by
  rw [takeIn_eq]
  unfold rview RView.read keptOf
  by_cases hp : d.isPipe = true <;> simp only [hp, ↓reduceIte, Bool.false_eq_true]

theorem takeIn_toBuf (d : Dev) (bs : Bytes) (hcap : d.toBuf.length ≤ 65536) :
    (takeIn d bs).toBuf = clipTo (d.toBuf ++ repliesOf d bs) := by
  by_cases h : bs = []
  · rw [h, takeIn_nil, repliesOf_nil, List.append_nil, clipTo_of_le _ hcap]
  · rw [takeIn_of_ne h]; exact absorb_toBuf d bs hcap

/-- a result `r` of `_handle_ready_device`, or of a part of it, on `c`, seen from the bytes: the device is the old one with the
    first `n` bytes of `toBuf` gone to the descriptor (`n = 0` unless a `write` succeeded), the input buffer of size `size` (its
    old size, or the size the plan gives it: grown only if it was full, also when nothing is read then) less its `k` oldest
    bytes, and `bs` taken in; `δ` is what is logged, a `read` of the bytes taken in last -/
structure ReadyBytes (c : CS) (r : CS × Bool) (n size : Nat) (δ : List Sys) (bs : Bytes) (k : Nat) : Prop where
  dev : r.1.dev = takeIn { c.dev with toBuf := c.dev.toBuf.drop n, fromSize := size, fromBuf := c.dev.fromBuf.drop k } bs
  sys : r.1.sys = c.sys ++ δ
  written : devWritten δ = c.dev.toBuf.take n
  wrote : n = 0 ∨ Sys.write (c.dev.toBuf.take n) true ∈ δ
  grown : size = c.dev.fromSize ∧ bs = [] ∨ size = (devReadPlan c.dev none).2.1
  read : bs = [] ∨ r.2 = false ∧ ∃ pre, δ = pre ++ [.read bs.length]

/-- the read half, every case: it writes nothing; `bs` and `k` are the expressions `readTaken` / `readDropped` end in -/
theorem readyRead_bytes (f : Nat) (c : CS) :
    ∃ δ size bs k, ReadyBytes c (readyRead f c) 0 size δ bs k ∧
      (if f &&& 1 == 0 then [] else match c.env.read with | some (some b) => readOf c.dev b | _ => []) = bs ∧
      (if f &&& 1 == 0 then 0 else match c.env.read with | some (some b) => dropOf c.dev b | _ => 0) = k := by
  by_cases hf : f &&& 1 = 0
  · rw [readyRead_idle f c hf, if_pos (by simpa using hf), if_pos (by simpa using hf)]
    exact ⟨[], c.dev.fromSize, [], 0, ⟨(takeIn_nil _).symm, (List.append_nil _).symm, rfl, .inl rfl, .inl ⟨rfl, rfl⟩, .inl rfl⟩,
      rfl, rfl⟩
  rw [if_neg (by simpa using hf), if_neg (by simpa using hf)]
  -- of the four answers of the kernel three hand over nothing: `δ` is what such a `read` logs
  have nodata (δ : List Sys) (hδ : devWritten δ = []) (hr : ∀ bs, c.env.read = some (some bs) → bs = [])
      (hs : (readyRd (clipRead c)).1.sys = c.sys ++ δ) (hd : (readyRd (clipRead c)).1.dev = (clipRead c).dev)
      (hz : clipSize c = c.dev.fromSize ∨ clipSize c = (devReadPlan c.dev none).2.1) :
      ∃ δ size, ReadyBytes c (readyRead f c) 0 size δ [] 0 := by
    unfold readyRead
    rw [if_pos (by simpa using hf)]
    exact ⟨δ, clipSize c, by rw [hd, clipRead_dev_nodata c hr, takeIn_nil]; rfl, hs, hδ, .inl rfl, hz.imp (⟨·, rfl⟩) id,
      .inl rfl⟩
  cases hr : c.env.read with
  | none =>
    obtain ⟨δ, size, h⟩ := nodata [.abort "no read answer"] rfl (fun bs h => by rw [hr] at h; cases h)
      (by rw [clipRead_read_none c hr]; unfold readyRd; rw [hr]) (by rw [clipRead_read_none c hr]; unfold readyRd; rw [hr])
      (.inl (by unfold clipSize; rw [hr]))
    exact ⟨δ, size, _, _, h, rfl, rfl⟩
  | some x =>
    cases x with
    | none =>
      obtain ⟨δ, size, h⟩ := nodata [.read (-1)] rfl (fun bs h => by rw [hr] at h; cases h)
        (by unfold readyRd; rw [clipRead_read_err c hr, clipRead_sys]) (by unfold readyRd; rw [clipRead_read_err c hr])
        (.inr (by unfold clipSize; rw [hr]))
      exact ⟨δ, size, _, _, h, rfl, rfl⟩
    | some bs =>
      cases bs with
      | nil =>
        have h0 : (clipRead c).env.read = some (some []) := by rw [clipRead_read_data c [] hr, readOf_nil]
        obtain ⟨δ, size, h⟩ := nodata [.read 0] rfl (fun bs h => by rw [hr] at h; cases h; rfl)
          (by unfold readyRd; rw [h0, clipRead_sys]; rfl) (by unfold readyRd; rw [h0]; rfl)
          (.inr (by unfold clipSize; rw [hr]; rfl))
        exact ⟨δ, size, [], 0, h, readOf_nil _, dropOf_nil _⟩
      | cons b r =>
        rw [readyRead_data f c (b :: r) hf hr (by simp)]
        exact ⟨[.read _], _, _, _, ⟨(takeIn_of_ne (readOf_ne_nil c.dev _ (by simp)) _).symm, rfl, rfl, .inl rfl,
          .inr (Pm.Cbuf.readPlan_size_indep ..), .inr ⟨rfl, [], rfl⟩⟩, rfl, rfl⟩

/-- where the read half is not reached nothing is read -/
theorem taken_of_stop (c : CS) (h : (c.dev.conn == 0 || c.dev.fd.isNone ||
     (c.env.revents &&& 4 != 0 || c.env.revents &&& 8 != 0 || c.env.revents &&& 16 != 0) ||
     (readyWrite c).2.1 || (readyWrite c).2.2) = true) : readTaken c = [] ∧ readDropped c = 0 := by
  unfold readTaken readDropped; rw [h]; exact ⟨rfl, rfl⟩

theorem taken_cases (c : CS) :
    (readTaken c = [] ∧ readDropped c = 0) ∨
    ∃ bs, c.env.read = some (some bs) ∧ bs ≠ [] ∧ c.env.revents &&& 1 ≠ 0 ∧
      readTaken c = readOf c.dev bs ∧ readDropped c = dropOf c.dev bs := by
  unfold readTaken readDropped
  split
  · exact .inl ⟨rfl, rfl⟩
  · rename_i hg
    cases hr : c.env.read with
    | none => exact .inl ⟨rfl, rfl⟩
    | some x =>
      cases x with
      | none => exact .inl ⟨rfl, rfl⟩
      | some bs =>
        cases bs with
        | nil => exact .inl ⟨readOf_nil _, dropOf_nil _⟩
        | cons b r =>
          refine .inr ⟨_, rfl, by simp, ?_, rfl, rfl⟩
          intro h0; apply hg; rw [h0]; simp

/-- the write half, every case: a pending connect is continued; or `w` went to the descriptor (nothing unless a `write`
    succeeded) and `kept` stays queued, `δw` being what is logged -/
theorem readyWrite_io (c : CS) :
    (c.dev.conn = 1 ∧ readyWrite c = readyFinish c) ∨
    ∃ w kept δw io, w ++ kept = c.dev.toBuf ∧ devWritten δw = w ∧ (w.length = 0 ∨ Sys.write w true ∈ δw) ∧
      readyWrite c = ({ c with sys := c.sys ++ δw, dev := { c.dev with toBuf := kept } }, io, false) := by
  rcases readyWrite_cases c with h | ⟨io, h⟩ | ⟨wr, ok, kept, io, hk, _, h⟩
  · exact .inl h
  · exact .inr ⟨[], c.dev.toBuf, [], io, rfl, rfl, .inl rfl, by rw [h, List.append_nil]⟩
  · refine .inr ⟨if ok then wr else [], kept, [.write wr ok], io, hk, ?_, ?_, h⟩
    · cases ok <;> simp [devWritten]
    · cases ok
      · exact .inl rfl
      · exact .inr (List.mem_singleton.2 rfl)

/-- **`_handle_ready_device`, seen from the bytes, every case.**  Either a pending connect was continued (`readyFinish`: nothing
    read, nothing written), or `ReadyBytes` of what `readTaken` and `readDropped` give. -/
theorem handleReady_bytes (c : CS) :
    (c.dev.conn = 1 ∧ readTaken c = [] ∧ readDropped c = 0 ∧ handleReady c = ((readyFinish c).1, (readyFinish c).2.1)) ∨
    ∃ n size δ, ReadyBytes c (handleReady c) n size δ (readTaken c) (readDropped c) := by
  -- a call that ends before the write half: the device as it was, `δ` logged
  have quiet (r : CS × Bool) (hs : readTaken c = [] ∧ readDropped c = 0) (δ : List Sys) (hd : r.1.dev = c.dev)
      (hsys : r.1.sys = c.sys ++ δ) (hδ : devWritten δ = []) :
      ∃ n size δ', ReadyBytes c r n size δ' (readTaken c) (readDropped c) :=
    ⟨0, c.dev.fromSize, δ, by rw [hd, hs.1, hs.2, takeIn_nil]; rfl, hsys, hδ, .inl rfl, .inl ⟨rfl, hs.1⟩, .inl hs.1⟩
  rw [handleReady_eq]
  by_cases h1 : (c.dev.conn == 0) = true
  · rw [if_pos h1]; exact .inr (quiet _ (taken_of_stop c (by rw [h1]; rfl)) [_] rfl rfl rfl)
  rw [if_neg h1]
  by_cases h2 : c.dev.fd.isNone = true
  · rw [if_pos h2]; exact .inr (quiet _ (taken_of_stop c (by rw [h2]; simp)) [_] rfl rfl rfl)
  rw [if_neg h2]
  by_cases h3 : (c.env.revents &&& 4 != 0 || c.env.revents &&& 8 != 0 || c.env.revents &&& 16 != 0) = true
  · rw [if_pos h3]; exact .inr (quiet _ (taken_of_stop c (by rw [h3]; simp)) [] rfl (List.append_nil _).symm rfl)
  rw [if_neg h3]
  have g3 : (c.dev.conn == 0 || c.dev.fd.isNone ||
      (c.env.revents &&& 4 != 0 || c.env.revents &&& 8 != 0 || c.env.revents &&& 16 != 0)) = false := by
    rw [Bool.eq_false_iff.mpr h1, Bool.eq_false_iff.mpr h2, Bool.eq_false_iff.mpr h3]; rfl
  rcases readyWrite_io c with ⟨hc1, hw⟩ | ⟨w, kept, δw, io, hk, hδ, hwr, hw⟩
  · left
    have hskip := (readyFinish_tel c hc1).1
    obtain ⟨t1, t2⟩ := taken_of_stop c (by rw [hw, hskip]; simp)
    refine ⟨hc1, t1, t2, ?_⟩
    rw [hw, hskip]
    cases (readyFinish c).2.1 <;> rfl
  · right
    have hwt : c.dev.toBuf.take w.length = w := by rw [← hk, List.take_left]
    have hkd : kept = c.dev.toBuf.drop w.length := by rw [← hk, List.drop_left]
    have hwr : w.length = 0 ∨ Sys.write (c.dev.toBuf.take w.length) true ∈ δw := by rw [hwt]; exact hwr
    subst hkd
    have e1 : (readyWrite c).1 = { c with sys := c.sys ++ δw, dev := { c.dev with toBuf := c.dev.toBuf.drop w.length } } := by rw [hw]
    have e2 : (readyWrite c).2.1 = io := by rw [hw]
    have e3 : (readyWrite c).2.2 = false := by rw [hw]
    cases io
    · obtain ⟨δ, size, bs, k, hr, hb, hk'⟩ :=
        readyRead_bytes c.env.revents { c with sys := c.sys ++ δw, dev := { c.dev with toBuf := c.dev.toBuf.drop w.length } }
      have ht : readTaken c = bs := by rw [← hb]; unfold readTaken; rw [g3, e2, e3]; rfl
      have hd : readDropped c = k := by rw [← hk']; unfold readDropped; rw [g3, e2, e3]; rfl
      rw [e2, e3, if_neg Bool.false_ne_true, if_neg Bool.false_ne_true, e1, ht, hd]
      -- what the write half did in front of what the read half did
      exact ⟨w.length, size, δw ++ δ, hr.dev, by rw [hr.sys, List.append_assoc],
        by rw [devWritten_append, hr.written, hδ, hwt]; exact List.append_nil _, hwr.imp id (List.mem_append_left _), hr.grown,
        hr.read.imp id fun ⟨x, pre, y⟩ => ⟨x, δw ++ pre, by rw [y, List.append_assoc]⟩⟩
    · obtain ⟨t1, t2⟩ := taken_of_stop c (by rw [e2]; simp)
      rw [e2, if_pos rfl, e1]
      exact ⟨w.length, c.dev.fromSize, δw, by rw [t1, t2, takeIn_nil]; rfl, rfl, by rw [hδ, hwt], hwr, .inl ⟨rfl, t1⟩, .inl t1⟩

theorem handleReady_view (c : CS) :
    rview (handleReady c).1.dev = rview c.dev ∧ (handleReady c).1.dev.statConnects = c.dev.statConnects ∨
    (∃ bs, c.env.read = some (some bs) ∧ bs ≠ [] ∧ c.env.revents &&& 1 ≠ 0 ∧ (handleReady c).2 = false ∧
       (handleReady c).1.dev.conn = c.dev.conn ∧ (handleReady c).1.dev.statConnects = c.dev.statConnects ∧
       rview (handleReady c).1.dev = ((rview c.dev).consume (dropOf c.dev bs)).read (readOf c.dev bs)) ∨
    (c.dev.conn = 1 ∧ (handleReady c).1.dev.conn = 2 ∧ (handleReady c).2 = false ∧
       (handleReady c).1.dev.statConnects = c.dev.statConnects + 1 ∧
       rview (handleReady c).1.dev = { rview c.dev with st := 0, cmd := 0 }) := by
  rcases handleReady_bytes c with ⟨h1, _, _, e⟩ | ⟨n, size, δ, hb⟩
  · have f := readyFinish_bufs c h1
    obtain ⟨_, hio, ht⟩ := readyFinish_tel c h1
    have hv : ∀ st cmd, (readyFinish c).1.dev.tstate = st → (readyFinish c).1.dev.tcmd = cmd →
        rview (readyFinish c).1.dev = { rview c.dev with st := st, cmd := cmd } := by
      intro st cmd hs hc; unfold rview; rw [f.fromBuf, f.isPipe, hs, hc]
    rw [e]
    rcases ht with ⟨⟨t1, t2, t3⟩, _⟩ | ⟨u1, u2, u3, u4⟩
    · exact .inl ⟨hv _ _ t1 t2, t3⟩
    · exact .inr (.inr ⟨h1, u1, by rw [hio, u1]; rfl, u4, hv 0 0 u2 u3⟩)
  · rcases taken_cases c with ⟨t, k⟩ | ⟨bs, hr, hbs, hin, t, k⟩
    · left; rw [hb.dev, t, k, takeIn_nil]; exact ⟨rfl, rfl⟩
    · right; left
      have hne : readTaken c ≠ [] := by rw [t]; exact readOf_ne_nil _ _ hbs
      refine ⟨bs, hr, hbs, hin, (hb.read.resolve_left hne).1, ?_, ?_, ?_⟩
      · rw [hb.dev, takeIn_eq]
      · rw [hb.dev, takeIn_eq]
      · rw [hb.dev, rview_takeIn, t, k]; rfl

theorem handleReady_taken_sys (c : CS) (h : readTaken c ≠ []) :
    ∃ pre, (handleReady c).1.sys = pre ++ [.read (readTaken c).length] := by
  rcases handleReady_bytes c with ⟨_, t, _⟩ | ⟨n, size, δ, hb⟩
  · exact absurd t h
  · obtain ⟨_, pre, hp⟩ := hb.read.resolve_left h
    exact ⟨c.sys ++ pre, by rw [hb.sys, hp, List.append_assoc]⟩

theorem handleReady_view_connected (c : CS) (h2 : c.dev.conn = 2) :
    rview (handleReady c).1.dev = ((rview c.dev).consume (readDropped c)).read (readTaken c) ∧
    (handleReady c).1.dev.conn = 2 := by
  rcases handleReady_bytes c with ⟨h1, _⟩ | ⟨n, size, δ, hb⟩
  · omega
  · rw [hb.dev, rview_takeIn, takeIn_eq]; exact ⟨rfl, h2⟩

theorem handleReady_up (c : CS) (h : c.dev.conn ≠ 2) (h2 : (handleReady c).1.dev.conn = 2) :
    (handleReady c).1.dev.tstate = 0 ∧ (handleReady c).1.dev.tcmd = 0 ∧
    (handleReady c).1.dev.fromBuf = c.dev.fromBuf := by
  rcases handleReady_bytes c with ⟨h1, _, _, e⟩ | ⟨n, size, δ, hb⟩
  · rw [e] at h2 ⊢
    rcases (readyFinish_tel c h1).2.2 with ⟨_, hn⟩ | ⟨_, u2, u3, _⟩
    · exact absurd h2 hn
    · exact ⟨u2, u3, (readyFinish_bufs c h1).fromBuf⟩
  · rw [hb.dev, takeIn_eq] at h2; exact absurd h2 h

theorem handleReady_write_conserve (c : CS) (hcap : c.dev.toBuf.length ≤ 65536) :
    ∃ bs wr kept, wr ++ kept = c.dev.toBuf ∧ devWritten (handleReady c).1.sys = devWritten c.sys ++ wr ∧
      (handleReady c).1.dev.toBuf = clipTo (kept ++ repliesOf c.dev bs) := by
  rcases handleReady_bytes c with ⟨h1, _, _, e⟩ | ⟨n, size, δ, hb⟩
  · obtain ⟨e1, e2⟩ := readyFinish_conserve c h1
    exact ⟨[], [], c.dev.toBuf, rfl, by rw [e, e1, List.append_nil],
      by rw [e, e2, repliesOf_nil, List.append_nil, clipTo_of_le _ hcap]⟩
  · refine ⟨readTaken c, _, _, List.take_append_drop n c.dev.toBuf, by rw [hb.sys, devWritten_append, hb.written], ?_⟩
    rw [hb.dev, takeIn_toBuf _ _ (Nat.le_trans (by simp) hcap)]; rfl

theorem handleReady_write_conserve_below (c : CS) (hcap : c.dev.toBuf.length ≤ 65536) :
    ∃ bs, ((c.dev.toBuf ++ repliesOf c.dev bs).length ≤ 65536 ∨ (handleReady c).1.dev.toBuf.length < 65536 →
      devWritten (handleReady c).1.sys ++ (handleReady c).1.dev.toBuf =
        devWritten c.sys ++ c.dev.toBuf ++ repliesOf c.dev bs) := by
  obtain ⟨bs, wr, kept, h1, h2, h3⟩ := handleReady_write_conserve c hcap
  refine ⟨bs, fun hf => ?_⟩
  have hfit : (kept ++ repliesOf c.dev bs).length ≤ 65536 := by
    rcases hf with hf | hf
    · rw [← h1] at hf; simp only [List.length_append] at hf ⊢
      exact Nat.le_trans (Nat.add_le_add_right (Nat.le_add_left _ _) _) hf
    · rw [h3, clipTo_length] at hf
      have := Nat.lt_of_not_le (fun hge => by rw [Nat.min_eq_right hge] at hf; exact Nat.lt_irrefl _ hf)
      exact Nat.le_of_lt this
  rw [h2, h3, clipTo_of_le _ hfit, ← h1]; simp [List.append_assoc]

/-- a step of the model on an established connection: one `_handle_ready_device` with some kernel answers, or one
    `_process_expect` -/
inductive Op where
  | ready (env : Env)
  | expect (a : Action) (o : Oracle) (pat : Nat)

def Op.run (d : Dev) : Op → Dev
  | .ready env => (handleReady { dev := d, env := env, sys := [] }).1.dev
  | .expect a o pat => (stmtExpect d a o pat).dev

/-- bytes read from the descriptor in this step -/
def Op.taken (d : Dev) : Op → Bytes
  | .ready env => readTaken { dev := d, env := env, sys := [] }
  | .expect _ _ _ => []

/-- bytes this step removed from the head of `fromBuf`: what an `expect` matched; what a `read` overwrote (nothing unless
    the buffer is full at `MAX_DEV_BUF`, `Cap.readDropped_of_room`) -/
def Op.consumed (d : Dev) (op : Op) : Bytes :=
  match op with
  | .ready env => d.fromBuf.take (readDropped { dev := d, env := env, sys := [] })
  | .expect _ _ _ => d.fromBuf.take (d.fromBuf.length - (op.run d).fromBuf.length)

def opsTaken (d : Dev) : List Op → Bytes
  | [] => []
  | op :: r => op.taken d ++ opsTaken (op.run d) r

def opsConsumed (d : Dev) : List Op → Bytes
  | [] => []
  | op :: r => op.consumed d ++ opsConsumed (op.run d) r

theorem stmtExpect_conn (d : Dev) (a : Action) (o : Oracle) (pat : Nat) : (stmtExpect d a o pat).dev.conn = d.conn :=
  (stmtExpect_spec d a o pat).writes.conn

/-- one step of the model on an established connection, on the view: the first `j` pending bytes go (those are the bytes the
    step removed), then `op.taken d` is read -/
theorem Op.run_view (d : Dev) (h2 : d.conn = 2) (op : Op) :
    (op.run d).conn = 2 ∧ ∃ j, op.consumed d = d.fromBuf.take j ∧ rview (op.run d) = ((rview d).consume j).read (op.taken d) := by
  cases op with
  | ready env =>
    have := handleReady_view_connected { dev := d, env := env, sys := [] } h2
    exact ⟨this.2, _, rfl, this.1⟩
  | expect a o pat =>
    obtain ⟨k, hk⟩ := stmtExpect_view d a o pat
    refine ⟨by rw [Op.run, stmtExpect_conn]; exact h2, _, rfl, ?_⟩
    have hb : (stmtExpect d a o pat).dev.fromBuf = d.fromBuf.drop k := congrArg RView.buf hk
    rw [Op.taken, RView.read_nil, Op.run, hk, hb, List.length_drop]
    -- `drop k` is `drop (min k |fromBuf|)`
    unfold RView.consume
    by_cases hkl : k ≤ d.fromBuf.length
    · rw [show d.fromBuf.length - (d.fromBuf.length - k) = k by omega]
    · rw [show d.fromBuf.length - (d.fromBuf.length - k) = d.fromBuf.length by omega]
      show { rview d with buf := d.fromBuf.drop k } = { rview d with buf := d.fromBuf.drop d.fromBuf.length }
      rw [List.drop_eq_nil_of_le (by omega), List.drop_eq_nil_of_le (Nat.le_refl _)]

theorem ops_conservation (d : Dev) (h2 : d.conn = 2) (ops : List Op) :
    opsConsumed d ops ++ (ops.foldl Op.run d).fromBuf = d.fromBuf ++ keptOf d (opsTaken d ops) ∧
    rview (ops.foldl Op.run d) = { (rview d).read (opsTaken d ops) with buf := (ops.foldl Op.run d).fromBuf } ∧
    (ops.foldl Op.run d).conn = 2 := by
  induction ops generalizing d with
  | nil => exact ⟨by rw [opsTaken, keptOf_nil, List.append_nil]; rfl, by rw [opsTaken, RView.read_nil]; rfl, h2⟩
  | cons op r ih =>
    obtain ⟨hc, j, hj, hv⟩ := Op.run_view d h2 op
    obtain ⟨i1, i2, i3⟩ := ih (op.run d) hc
    -- what is pending behind the step, and what is kept of the rest, is what one reading of both parts leaves behind the `j` bytes
    have e : (op.run d).fromBuf ++ keptOf (op.run d) (opsTaken (op.run d) r) =
        d.fromBuf.drop j ++ keptOf d (op.taken d ++ opsTaken (op.run d) r) :=
      (RView.read_buf (rview (op.run d)) _).symm.trans (by rw [hv, RView.read_append, RView.read_buf]; rfl)
    refine ⟨?_, ?_, i3⟩
    · rw [opsConsumed, opsTaken, List.foldl_cons, List.append_assoc, i1, e, hj, ← List.append_assoc, List.take_append_drop]
    · rw [opsTaken, List.foldl_cons, i2, hv, RView.read_append]
      unfold RView.read RView.consume
      split <;> rfl

theorem disconnectDev_clean (c : CS) :
    (disconnectDev c).dev.fromBuf = [] ∧ (disconnectDev c).dev.toBuf = [] ∧ (disconnectDev c).dev.conn = 0 ∧
    (disconnectDev c).dev.isPipe = c.dev.isPipe := by
  rw [disconnectDev_cs]; exact ⟨rfl, rfl, rfl, rfl⟩

/-- a device that is CONNECTED over tcp has its decoder at rest: what holds right after the connection layer ran -/
def FreshIfUp (d : Dev) : Prop := d.conn = 2 → d.isPipe = false → d.tstate = 0 ∧ d.tcmd = 0

/-- what the connection layer (`_connect`, `_disconnect`, `_reconnect`) does to the bytes of a device: transport and size of the
    input buffer stay; both buffers are flushed (`flush`) or both stay, and they stay only on a device that is not CONNECTED;
    decoder and connect counter stay and no connection is up, or a connection came up, counted, with the decoder at rest on tcp -/
structure LinkStep (flush : Bool) (d d' : Dev) : Prop where
  isPipe : d'.isPipe = d.isPipe
  fromSize : d'.fromSize = d.fromSize
  bufs : if flush then d'.fromBuf = [] ∧ d'.toBuf = [] else d'.fromBuf = d.fromBuf ∧ d'.toBuf = d.toBuf
  idle : flush = false → d.conn ≠ 2
  tel : (TelSame d d' ∧ d'.conn ≠ 2) ∨
        (d'.conn = 2 ∧ d'.statConnects = d.statConnects + 1 ∧ (d'.isPipe = false → d'.tstate = 0 ∧ d'.tcmd = 0))

theorem LinkStep.rfl' {d : Dev} (h : d.conn ≠ 2) : LinkStep false d d := ⟨rfl, rfl, ⟨rfl, rfl⟩, fun _ => h, .inl ⟨⟨rfl, rfl, rfl⟩, h⟩⟩

theorem LinkStep.fresh {f : Bool} {d d' : Dev} (h : LinkStep f d d') : FreshIfUp d' := fun h2 hp => by
  rcases h.tel with ⟨_, b⟩ | ⟨_, _, a⟩
  · exact absurd h2 b
  · exact a hp

/-- `bufs` and `idle` without the flag: both buffers are empty afterwards, or the device was not CONNECTED and both are as before -/
theorem LinkStep.flushed_or_kept {f : Bool} {d d' : Dev} (h : LinkStep f d d') :
    (d'.fromBuf = [] ∧ d'.toBuf = []) ∨ (d.conn ≠ 2 ∧ d'.fromBuf = d.fromBuf ∧ d'.toBuf = d.toBuf) := by
  cases f
  · exact .inr ⟨h.idle rfl, h.bufs⟩
  · exact .inl h.bufs

/-- a step that keeps the buffers, behind a step that left the device NOT_CONNECTED -/
theorem LinkStep.trans {f : Bool} {a b c : Dev} (h1 : LinkStep f a b) (h2 : LinkStep false b c) (h0 : b.conn = 0) : LinkStep f a c where
  isPipe := h2.isPipe.trans h1.isPipe
  fromSize := h2.fromSize.trans h1.fromSize
  bufs := by obtain ⟨e1, e2⟩ : c.fromBuf = b.fromBuf ∧ c.toBuf = b.toBuf := h2.bufs; rw [e1, e2]; exact h1.bufs
  idle := h1.idle
  tel := by
    rcases h1.tel with ⟨⟨a1, a2, a3⟩, _⟩ | ⟨u, _⟩
    · rcases h2.tel with ⟨⟨b1, b2, b3⟩, hb⟩ | ⟨b1, b2, b3⟩
      · exact .inl ⟨⟨b1.trans a1, b2.trans a2, b3.trans a3⟩, hb⟩
      · exact .inr ⟨b1, by rw [b2, a3], b3⟩
    · exact absurd h0 (by rw [u]; decide)

theorem disconnectDev_link (c : CS) : LinkStep true c.dev (disconnectDev c).dev := by
  rw [disconnectDev_cs]
  exact ⟨rfl, rfl, ⟨rfl, rfl⟩, (fun h => nomatch h), .inl ⟨⟨rfl, rfl, rfl⟩, fun h => nomatch h⟩⟩

theorem connectDev_link (c : CS) (h0 : c.dev.conn = 0) : LinkStep false c.dev (connectDev c).dev := by
  rw [Fd.connectDev_eq]
  have tail (r : CS × Bool) (h : LinkStep false c.dev r.1.dev) : LinkStep false c.dev (Fd.connTail r).dev := by
    unfold Fd.connTail; split
    · exact ⟨h.isPipe, h.fromSize, h.bufs, h.idle, h.tel⟩
    · exact h
  apply tail
  have hn : c.dev.conn ≠ 2 := by omega
  by_cases hp : (Fd.bump c).dev.isPipe = true
  · rw [if_pos hp]
    rcases pipeConnect_dev (Fd.bump c) with e | ⟨fa, pid, e⟩ <;> rw [e]
    · exact ⟨rfl, rfl, ⟨rfl, rfl⟩, fun _ => hn, .inl ⟨⟨rfl, rfl, rfl⟩, hn⟩⟩
    · exact ⟨rfl, rfl, ⟨rfl, rfl⟩, fun _ => hn, .inr ⟨rfl, rfl, fun h => nomatch hp.symm.trans h⟩⟩
  · rw [if_neg hp]
    have hF := (tcpConnect_frame (Fd.bump c)).dev
    exact ⟨hF.isPipe, hF.fromSize, ⟨hF.fromBuf, hF.toBuf⟩, fun _ => hn,
      (tcpConnect_tel _).imp (fun ⟨u, v⟩ => ⟨u, by have : (Fd.bump c).dev.conn = 0 := h0; omega⟩)
        fun ⟨u1, u2, u3, u4⟩ => ⟨u1, u4, fun _ => ⟨u2, u3⟩⟩⟩

/-- `_reconnect`: `_disconnect` unless NOT_CONNECTED already — exactly then the buffers are flushed —, then possibly `_connect` -/
theorem reconnectDev_link (c : CS) (tmo : Option Time) : LinkStep (c.dev.conn != 0) c.dev (reconnectDev c tmo).1.dev :=
  reconnectDev_elim (Q := fun c1 => LinkStep (c.dev.conn != 0) c.dev c1.dev) (P := fun r => LinkStep (c.dev.conn != 0) c.dev r.dev) c tmo
    (fun h => by rw [show (c.dev.conn != 0) = true by simpa using h]; exact disconnectDev_link c)
    (fun h => by rw [show (c.dev.conn != 0) = false by simp [h]]; exact .rfl' (by omega))
    (fun c1 h0 hq => hq.trans (connectDev_link c1 h0) h0) (fun _ _ hq => hq)

theorem reconnectDev_clean (c : CS) (tmo : Option Time) (h : c.dev.conn ≠ 0) :
    (reconnectDev c tmo).1.dev.fromBuf = [] ∧ (reconnectDev c tmo).1.dev.toBuf = [] ∧
    (reconnectDev c tmo).1.dev.isPipe = c.dev.isPipe ∧ FreshIfUp (reconnectDev c tmo).1.dev := by
  have l := reconnectDev_link c tmo
  have hb := l.bufs
  rw [if_pos (by simpa using h)] at hb
  exact ⟨hb.1, hb.2, l.isPipe, l.fresh⟩

theorem reconnectDev_idle (c : CS) (tmo : Option Time) (h : c.dev.conn = 0) :
    (reconnectDev c tmo).1.dev.fromBuf = c.dev.fromBuf ∧ (reconnectDev c tmo).1.dev.toBuf = c.dev.toBuf ∧
    (reconnectDev c tmo).1.dev.isPipe = c.dev.isPipe ∧ FreshIfUp (reconnectDev c tmo).1.dev := by
  have l := reconnectDev_link c tmo
  have hb := l.bufs
  rw [if_neg (by simp [h])] at hb
  exact ⟨hb.1, hb.2, l.isPipe, l.fresh⟩

/-- what `_process_send` queues goes to the end of `toBuf`; `dev->to` holds 65536 bytes and the oldest queued bytes give way
    beyond that (`clipTo`).  (A `send` that is waiting for its bytes to drain, or whose hostlist sort asserts, queues nothing:
    `s = []`, for which the capacity hypothesis is needed.) -/
theorem stmtSend_appends (d : Dev) (a : Action) (o : Oracle) (e : ExecCtx) (fmt : Bytes) (hcap : d.toBuf.length ≤ 65536) :
    ∃ s, (stmtSend d a o e fmt).dev.toBuf = clipTo (d.toBuf ++ s) := by
  rcases (stmtSend_spec d a o e fmt).out with ⟨_, h⟩ | ⟨s, _, _, _, h⟩
  · exact ⟨[], by rw [h, List.append_nil, clipTo_of_le _ hcap]⟩
  · exact ⟨s, h⟩

theorem stmtSend_appends_below (d : Dev) (a : Action) (o : Oracle) (e : ExecCtx) (fmt : Bytes) (hcap : d.toBuf.length ≤ 65536) :
    ∃ s, (stmtSend d a o e fmt).dev.toBuf = clipTo (d.toBuf ++ s) ∧
      ((d.toBuf ++ s).length ≤ 65536 → (stmtSend d a o e fmt).dev.toBuf = d.toBuf ++ s) := by
  obtain ⟨s, h⟩ := stmtSend_appends d a o e fmt hcap
  exact ⟨s, h, fun hf => by rw [h, clipTo_of_le _ hf]⟩

end Pm.Dev2.Tel
