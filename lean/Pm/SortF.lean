import Pm.HLMore
/-! Checks on `hostlist_sort` as modelled in `Pm/Sort2.lean` (`msort` / `coalesce` / `collapse` / `sortHL`: structurally
    recursive, fuel computed from the input, explicit `.fuel` outcome): kernel-evaluated examples and the known defect F19.
    The proofs are in `Pm/SortFProof.lean`. -/
namespace Pm

/-- the list `hostlist_create` builds from a string (`[]` on a parse error); for the checks below -/
def hlOfString (s : String) : Hostlist :=
  match create s.toList with
  | .ok hl => hl
  | .error _ => []

/- Where the bound of `coalesce` comes from: `(size+2)²` is NOT always enough (10 copies of `n[1-30]` need 109364 iterations
   of the outer loop against 97344; 20 copies of `n[1-20]` need 458779), hence `(size+2)⁴` — see `coalesceFuel`; that bound is
   proved sufficient for every well-formed list in `Pm/SortFuel.lean` (`sortHL_ne_fuel`).
   The differential harness compares `sortHL` with the C function on every run. -/

/- Below, `sortHL` is always evaluated on the parsed list written out: the kernel evaluates by name, and with the call of
   the parser left in the argument of `sortHL` it decodes the string again at each use of the list. -/

theorem hlOfString_b2 : hlOfString "b2,a[1-3],a[2-5],b1" =
    [⟨['b'], 2, 2, 1, false⟩, ⟨['a'], 1, 3, 1, false⟩, ⟨['a'], 2, 5, 1, false⟩, ⟨['b'], 1, 1, 1, false⟩] := by decide +kernel

theorem hlOfString_F19 : hlOfString "f[97-100,066,97-103]" =
    [⟨['f'], 97, 100, 2, false⟩, ⟨['f'], 66, 66, 3, false⟩, ⟨['f'], 97, 103, 2, false⟩] := by decide +kernel

/-- two prefixes, an overlap that is split, two singletons that are collapsed -/
theorem sortHL_b2 :
    sortHL [⟨['b'], 2, 2, 1, false⟩, ⟨['a'], 1, 3, 1, false⟩, ⟨['a'], 2, 5, 1, false⟩, ⟨['b'], 1, 1, 1, false⟩] =
      .ok [⟨['a'], 1, 2, 1, false⟩, ⟨['a'], 2, 3, 1, false⟩, ⟨['a'], 3, 5, 1, false⟩, ⟨['b'], 1, 2, 1, false⟩] := by
  decide +kernel

theorem sortHL_b2_parsed : HWFS (hlOfString "b2,a[1-3],a[2-5],b1") ∧
    sortHL (hlOfString "b2,a[1-3],a[2-5],b1") = .ok (hlOfString "a[1-2],a[2-3],a[3-5],b[1-2]") := by
  rw [hlOfString_b2, sortHL_b2]
  constructor
  · unfold HWFS; decide
  · decide +kernel

/-- both kinds of split of `hostlist_coalesce` occur: `n[1-10],n[5-5]` is a point split, `m[1-3],m[2-5]` adds ranges -/
theorem sortHL_two_splits : HWFS (hlOfString "n[1-10],n[5-5],m[1-3],m[2-5],x") ∧
    sortHL (hlOfString "n[1-10],n[5-5],m[1-3],m[2-5],x") = .ok (hlOfString "m[1-2],m[2-3],m[3-5],n[1-5],n[5-10],x") := by
  rw [show hlOfString "n[1-10],n[5-5],m[1-3],m[2-5],x" = [⟨['n'], 1, 10, 1, false⟩, ⟨['n'], 5, 5, 1, false⟩,
    ⟨['m'], 1, 3, 1, false⟩, ⟨['m'], 2, 5, 1, false⟩, ⟨['x'], 0, 0, 0, true⟩] by decide +kernel]
  constructor
  · unfold HWFS; decide
  · decide +kernel

example : sortHL (hlOfString "b2,a[1-3],a[2-5],b1") = .ok (hlOfString "a[1-2],a[2-3],a[3-5],b[1-2]") := sortHL_b2_parsed.2
example : sortHL (hlOfString "n[1-10],n[5-7]") = .ok (hlOfString "n[1-5],n[5-6],n[6-7],n[7-10]") := by
  rw [show hlOfString "n[1-10],n[5-7]" = [⟨['n'], 1, 10, 1, false⟩, ⟨['n'], 5, 7, 1, false⟩] by decide +kernel]
  decide +kernel
example : sortHL (hlOfString "n[08-10],n[9-11],n007") = .ok (hlOfString "n[9-11],n[08-10],n007") := by
  rw [show hlOfString "n[08-10],n[9-11],n007" =
    [⟨['n'], 8, 10, 2, false⟩, ⟨['n'], 9, 11, 1, false⟩, ⟨['n'], 7, 7, 3, false⟩] by decide +kernel]
  decide +kernel
example : sortHL (hlOfString "x,x,y,x1,x01,x[1-3]") = .ok (hlOfString "x,x,x1,x[1-3],x01,y") := by
  rw [show hlOfString "x,x,y,x1,x01,x[1-3]" = [⟨['x'], 0, 0, 0, true⟩, ⟨['x'], 0, 0, 0, true⟩, ⟨['y'], 0, 0, 0, true⟩,
    ⟨['x'], 1, 1, 1, false⟩, ⟨['x'], 1, 1, 2, false⟩, ⟨['x'], 1, 3, 1, false⟩] by decide +kernel]
  decide +kernel
example : sortHL (hlOfString "k[5-9],k[1-3],k4,k[10-12],k[0-0]") = .ok (hlOfString "k[0-12]") := by
  rw [show hlOfString "k[5-9],k[1-3],k4,k[10-12],k[0-0]" = [⟨['k'], 5, 9, 1, false⟩, ⟨['k'], 1, 4, 1, false⟩,
    ⟨['k'], 10, 12, 2, false⟩, ⟨['k'], 0, 0, 1, false⟩] by decide +kernel]
  decide +kernel
example : sortHL (hlOfString "") = .ok [] := by decide +kernel
example : sortHL (hlOfString "a[1-5]") = .ok (hlOfString "a[1-5]") := by decide +kernel

/-- known defect F19: sorting `f[97-100,066,97-103]` dies in `assert(hostrange_cmp(h1, h2) <= 0)` of
    `hostrange_intersect` -/
theorem sortHL_F19_abort : sortHL (hlOfString "f[97-100,066,97-103]") = .abort := by
  rw [hlOfString_F19]; decide +kernel

example : hlOfString "f[97-100,066,97-103]" =
    [⟨['f'], 97, 100, 2, false⟩, ⟨['f'], 66, 66, 3, false⟩, ⟨['f'], 97, 103, 2, false⟩] := hlOfString_F19

end Pm
