import Pm.Find
namespace Pm

structure Plug where
  name : Name
  node : Option Name
deriving DecidableEq

inductive Variant where | singlet | all | ranged deriving DecidableEq, Repr

/-- what one queued action will address on its device -/
structure Act where
  variant : Variant
  plugs : List Plug          -- singlet: the plug; ranged: its argument list; all: every plug of the device

/-- which script variants the device specification defines for this command
    (table `_get_all_script` / `_get_ranged_script` regenerated from source) -/
structure Avail where
  singlet : Bool
  all : Bool
  ranged : Bool
  isQuery : Bool

def targeted (hl : Hostlist) (p : Plug) : Bool :=
  match p.node with
  | some n => (find hl n).isSome      -- hostlist_find(hl, plug->node) != -1
  | none => false                     -- unused plug

/-- `dev_enqueue_actions` for one device: `_command_needs_device` guard, then
    `_enqueue_targeted_actions` (singlet special case, `_all`, `_ranged`, singlets) -/
def enqueueDevice (devPlugs : List Plug) (av : Avail) (hl : Hostlist) : List Act :=
  let tp := devPlugs.filter (targeted hl)
  let all := devPlugs.all (targeted hl)
  if tp.isEmpty then []                                              -- uninvolved device
  else if av.singlet && tp.length == 1 then tp.map fun p => ⟨.singlet, [p]⟩
  else if (all || (av.isQuery && !av.singlet)) && av.all then [⟨.all, devPlugs⟩]
  else if av.ranged then [⟨.ranged, tp⟩]
  else if av.singlet then tp.map fun p => ⟨.singlet, [p]⟩
  else []

theorem targeted_spec {hl : Hostlist} {p : Plug} (h : targeted hl p = true) :
    ∃ n, p.node = some n ∧ n ∈ expand hl := by
  unfold targeted at h
  cases hn : p.node with
  | none => rw [hn] at h; cases h
  | some n =>
    rw [hn] at h
    simp only at h
    cases hf : find hl n with
    | none => rw [hf] at h; cases h
    | some i => exact ⟨n, rfl, find_mem hl n i hf⟩

/-- the three shapes of an action `_enqueue_targeted_actions` creates, each with the condition under which it is chosen -/
theorem mem_enqueueDevice {devPlugs : List Plug} {av : Avail} {hl : Hostlist} {a : Act}
    (ha : a ∈ enqueueDevice devPlugs av hl) :
    (∃ p ∈ devPlugs.filter (targeted hl), a = ⟨.singlet, [p]⟩) ∨
    (a = ⟨.all, devPlugs⟩ ∧ (devPlugs.all (targeted hl) = true ∨ av.isQuery = true)) ∨
    a = ⟨.ranged, devPlugs.filter (targeted hl)⟩ := by
  have sing : a ∈ (devPlugs.filter (targeted hl)).map (fun p => (⟨.singlet, [p]⟩ : Act)) →
      ∃ p ∈ devPlugs.filter (targeted hl), a = ⟨.singlet, [p]⟩ :=
    fun h => let ⟨p, hp, e⟩ := List.mem_map.mp h; ⟨p, hp, e.symm⟩
  -- case distinction on the `if` in `a ∈ if p then x else y`; `split at` costs several times as much to check
  have branch : ∀ {Q p : Prop} [Decidable p] {x y : List Act}, (p → a ∈ x → Q) → (¬p → a ∈ y → Q) →
      a ∈ (if p then x else y) → Q := by
    intro Q p _ x y hx hy h
    split at h
    · exact hx ‹p› h
    · exact hy ‹¬p› h
  revert ha
  unfold enqueueDevice
  refine branch (fun _ h => by cases h) fun _ => ?_
  refine branch (fun _ h => .inl (sing h)) fun _ => ?_
  refine branch (fun hall h => ?_) fun _ => ?_
  · rw [Bool.and_eq_true, Bool.or_eq_true, Bool.and_eq_true] at hall
    exact .inr (.inl ⟨List.mem_singleton.mp h, hall.1.imp_right And.left⟩)
  refine branch (fun _ h => .inr (.inr (List.mem_singleton.mp h))) fun _ => ?_
  exact branch (fun _ h => .inl (sing h)) fun _ h => by cases h

/-- C01, first sentence: for a power command (not a query) every plug an action addresses is
    mapped to a node the request names. -/
theorem C01_subset (devPlugs : List Plug) (av : Avail) (hl : Hostlist) (hq : av.isQuery = false) :
    ∀ a ∈ enqueueDevice devPlugs av hl, ∀ p ∈ a.plugs, ∃ n, p.node = some n ∧ n ∈ expand hl := by
  intro a ha p hp
  have filt : ∀ q, q ∈ devPlugs.filter (targeted hl) → ∃ n, q.node = some n ∧ n ∈ expand hl :=
    fun q hq => targeted_spec (List.mem_filter.mp hq).2
  rcases mem_enqueueDevice ha with ⟨q, hq', rfl⟩ | ⟨rfl, hall | hq'⟩ | rfl
  · rw [List.mem_singleton.mp hp]; exact filt q hq'
  · exact targeted_spec (List.all_eq_true.mp hall p hp)
  · rw [hq] at hq'; cases hq'
  · exact filt p hp

/-- C01, second sentence: a whole-device script is run for a power command only when every plug
    of that device is mapped to a node named in the request. -/
theorem C01_all_only_if_complete (devPlugs : List Plug) (av : Avail) (hl : Hostlist)
    (hq : av.isQuery = false) (a : Act) (ha : a ∈ enqueueDevice devPlugs av hl) (hv : a.variant = .all) :
    ∀ p ∈ devPlugs, ∃ n, p.node = some n ∧ n ∈ expand hl := by
  intro p hp
  rcases mem_enqueueDevice ha with ⟨q, _, rfl⟩ | ⟨_, hall | hq'⟩ | rfl
  · cases hv
  · exact targeted_spec (List.all_eq_true.mp hall p hp)
  · rw [hq] at hq'; cases hq'
  · cases hv

/-- C01, third sentence: a device none of whose nodes is named receives nothing. -/
theorem C01_uninvolved (devPlugs : List Plug) (av : Avail) (hl : Hostlist)
    (h : ∀ p ∈ devPlugs, ∀ n, p.node = some n → n ∉ expand hl) : enqueueDevice devPlugs av hl = [] := by
  unfold enqueueDevice
  have : devPlugs.filter (targeted hl) = [] := by
    apply List.filter_eq_nil_iff.mpr
    intro p hp ht
    obtain ⟨n, hn, hmem⟩ := targeted_spec ht
    exact h p hp n hn hmem
  simp [this]

-- premises are satisfiable on a non-trivial instance (two mapped plugs, one unused, ranged variant chosen)
example : (enqueueDevice [⟨"1".toList, some "n1".toList⟩, ⟨"2".toList, none⟩, ⟨"3".toList, some "n3".toList⟩]
    ⟨true, true, true, false⟩ (pushHost (pushHost [] "n1".toList) "n3".toList)).map (fun a => (a.variant, a.plugs.length))
    = [(.ranged, 2)] := by decide +kernel

end Pm

