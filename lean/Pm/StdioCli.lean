import Pm.Daemon
import Pm.Signal
import Pm.IsolationProof
import Pm.TelnetProof
import Pm.ClientWrite
import Pm.ClientProof
import Pm.ClientStream

/-!
# The `--stdio` client: one client, two descriptors

`powermand --stdio` (`cli_start(true)`: `_create_client_stdio`, `one_client`) serves exactly one client whose input is
descriptor `fd` (standard input) and whose output is a *different* descriptor `ofd` (standard output); there is no listener, and
the daemon leaves its loop when that client is destroyed (`server_done`).  Everything the client code does with "the client's
descriptor" splits in two here:

* `cli_pre_poll` registers `POLLIN` on `fd` and `POLLOUT` on `ofd`;
* `cli_post_poll` looks at the events of `fd` (error / invalid: dead; readable or hung up: `_handle_read`) and then at those
  of `ofd` (error / hang-up / invalid: dead; writable: `_handle_write`);
* `_handle_write` writes to `ofd`, and it is `ofd` whose `O_NONBLOCK` is cleared for the final flush of a client that quit;
* `_destroy_client` closes both.

The write path is the socket client's `handleWrite` run on the output descriptor (`handleWriteIO`), so every theorem about
`handleWrite` (conservation of the queue, the final flush) carries over by instantiation.
-/

namespace Pm.Daemon.Stdio
open Pm Pm.Client Pm.Daemon

/-- `_handle_write` of a client whose output descriptor is `ofd` -/
def handleWriteIO (ofd : Nat) (w : W) (c : Cli) : W × Cli :=
  let r := handleWrite w { c with fd := ofd }
  (r.1, { r.2 with fd := c.fd })

/-- `_handle_input` of such a client: the `quit` branch of `_parse_input` calls `_handle_write` itself (the final flush), and that
    call too goes to `ofd`.  Nothing else in `_handle_input` looks at a descriptor. -/
def handleInputIO (ofd : Nat) (w : W) (c : Cli) : W × Cli :=
  let r := handleInput w { c with fd := ofd }
  (r.1, { r.2 with fd := c.fd })

/-- `_handle_read` of `cli_post_poll` (the socket client's, verbatim): first the capacity half (`clipC`, `clipE`), then what is done
    with the bytes read -/
def readStage (w : W) (c : Cli) (ein : Option FdEnv) : W × Cli :=
  match clipE c ein, clipC c ein with
  | some e, c =>
    if e.rk == 1 then ({ w with sys := w.sys ++ [.read c.fd (-1)] }, { c with quit := true })
    else if e.rk == 2 then ({ w with sys := w.sys ++ [.read c.fd 0] }, { c with quit := true })
    else if e.data.isEmpty then ({ w with sys := w.sys ++ [.read c.fd (-1)] }, { c with quit := true })
    else ({ w with sys := w.sys ++ [.read c.fd e.data.length] }, { c with fromBuf := c.fromBuf ++ e.data })
  | none, c => (w, c)

/-- `_destroy_client`: both descriptors are closed -/
def deadIO (ofd : Nat) (w : W) (c : Cli) : W × Option Cli := ({ w with sys := w.sys ++ [.close c.fd, .close ofd] }, none)

/-- the body of `cli_post_poll`'s loop for a client with `ofd != NO_FD`, given the events `revIn` of `fd` and `revOut` of `ofd` -/
def clientPassCore (ofd : Nat) (w : W) (c : Cli) (ein : Option FdEnv) (revIn revOut : Nat) : W × Option Cli :=
  if revIn &&& 8 != 0 || revIn &&& 16 != 0 then deadIO ofd w c else
  let r1 := if revIn &&& 1 != 0 || revIn &&& 4 != 0 then readStage w c ein else (w, c)
  if revOut &&& 4 != 0 || revOut &&& 8 != 0 || revOut &&& 16 != 0 then deadIO ofd r1.1 r1.2 else
  let r2 := if revOut &&& 2 != 0 then handleWriteIO ofd r1.1 r1.2 else r1
  let r3 := handleInputIO ofd r2.1 r2.2
  if r3.1.exited then (r3.1, some r3.2) else
  if r3.2.quit && r3.2.cmd.isNone then deadIO ofd r3.1 r3.2 else (r3.1, some r3.2)

/-- `ein` / `eout` are what poll reports for `fd` / `ofd`: only what was asked for (`POLLIN` on `fd` unless the client quit,
    `POLLOUT` on `ofd` while something is queued) and the error bits come back -/
def clientPassIO (ofd : Nat) (w : W) (c : Cli) (ein eout : Option FdEnv) : W × Option Cli :=
  clientPassCore ofd w c ein
    (match ein with | some e => if c.quit then 0 else (e.rev &&& 1) ||| (e.rev &&& 28) | none => 0)
    (match eout with | some e => if c.toBuf.isEmpty then 0 else (e.rev &&& 2) ||| (e.rev &&& 28) | none => 0)

/-- `cli_pre_poll` without a listener -/
def cliPrePollIO (ofd : Nat) (w : W) : List (Nat × Nat) :=
  w.clients.flatMap fun c =>
    (if c.quit then [] else [(c.fd, 1)]) ++ (if c.toBuf.isEmpty then [] else [(ofd, 2)])

/-- one client of `cli_post_poll`'s loop: its record is replaced, or removed when it was destroyed -/
def cliStepIO (ofd : Nat) (envs : List FdEnv) (w : W) (c0 : Cli) : W :=
  if w.exited then w else
  let r := clientPassIO ofd w c0 (envs.find? (·.fd == c0.fd)) (envs.find? (·.fd == ofd))
  match r.2 with
  | some c => { r.1 with clients := r.1.clients.map fun (x : Cli) => if x.id == c.id then c else x }
  | none => { r.1 with clients := r.1.clients.filter fun (x : Cli) => x.id != c0.id }

def cliPostPollIO (ofd : Nat) (w : W) (envs : List FdEnv) : W :=
  w.clients.foldl (cliStepIO ofd envs) { w with sys := [], caps := envs.map fun (e : FdEnv) => (e.fd, e.cap) }

/-- `_create_client_stdio`: the one client exists before the loop starts, greeted like any other -/
def createClient (fd : Nat) (w : W) : W :=
  let c : Cli := { id := w.nextId, fd, toBuf := bstr "001 " ++ w.cfg.version ++ crlf ++ prompt }
  { w with clients := w.clients ++ [c], nextId := w.nextId + 1 }

/-- the body of `_select_loop` in `--stdio` mode; when the client is gone (`cli_server_done`) the loop is left after
    `dev_post_poll` and `main` tears down -/
def daemonPassIO (ofd : Nat) (w : W) (p : PassIn) : W × List String :=
  let ints := cliPrePollIO ofd w ++ w.devs.filterMap fun (nd : Bytes × Dev2.Dev) => Pm.Dev2.prePoll nd.2
  let pre := (ints.map fun (fd, f) => s!"O interest {fd} {f}") ++
    [s!"O polltmo {match w.tmo with | some t => toString (t / 1000) | none => "-1"}"]
  let w0 := cliPostPollIO ofd w p.envs
  if w0.exited then (w0, pre ++ ["EXIT"] ++ dumpLines w0 none) else
  let a0 : DevAcc := { w := w0, ylines := showSys w0.sys [], msgs := [], tmo := none, oracle := { calls := w0.pendingX }, devs := [], dead := false }
  let a := w0.devs.foldl (devPass p) a0
  let w := { a.w with devs := a.devs, pendingX := [], tmo := a.tmo }
  let body := pre ++ a.ylines ++ a.msgs ++ (if !a.oracle.calls.isEmpty then [s!"O UNUSED-RX {a.oracle.calls.length}"] else [])
  if w.clients.isEmpty then (w, body ++ teardown w ++ ["O teardown", "."])
  else (w, body ++ dumpLines w (some a.tmo))

/-- `cli_fini` with the `--stdio` client still there (`list_destroy` → `_destroy_client`): both its descriptors are closed; the
    devices are torn down as always -/
def teardownIO (ofd : Nat) (w : W) : List String :=
  (w.clients.flatMap fun c => [s!"Y close {c.fd}", s!"Y close {ofd}"]) ++ teardown { w with clients := [] }

/-- a termination signal while the `--stdio` client is being served: what was registered for `poll`, then the teardown — nothing
    `poll` reports in that pass is looked at, and what is still queued for the client is not flushed -/
def signalPassIO (ofd : Nat) (w : W) : List String :=
  let ints := cliPrePollIO ofd w ++ w.devs.filterMap fun (nd : Bytes × Dev2.Dev) => Pm.Dev2.prePoll nd.2
  (ints.map fun (fd, f) => s!"O interest {fd} {f}") ++
    [s!"O polltmo {match w.tmo with | some t => toString (t / 1000) | none => "-1"}"] ++ teardownIO ofd w

/-! ## what carries over from the one-descriptor client -/

open Pm.Daemon.Tel (written)

/-- the system calls a step adds to the log: all output goes to `ofd` -/
def OutOnly (ofd : Nat) (w w' : W) : Prop :=
  ∃ ext, w'.sys = w.sys ++ ext ∧ ∀ s ∈ ext, Isolation.isWrite s = true → Isolation.sysFd s = some ofd

theorem OutOnly.refl (ofd : Nat) (w : W) : OutOnly ofd w w := ⟨[], by simp, by simp⟩
theorem OutOnly.trans {ofd : Nat} {a b c : W} (h1 : OutOnly ofd a b) (h2 : OutOnly ofd b c) : OutOnly ofd a c := by
  obtain ⟨e1, s1, p1⟩ := h1; obtain ⟨e2, s2, p2⟩ := h2
  refine ⟨e1 ++ e2, by rw [s2, s1, List.append_assoc], ?_⟩
  intro s hs; rcases List.mem_append.mp hs with h | h
  · exact p1 s h
  · exact p2 s h
theorem OutOnly.push (ofd : Nat) (w : W) (l : List Sys) (h : ∀ s ∈ l, Isolation.isWrite s = false) :
    OutOnly ofd w { w with sys := w.sys ++ l } :=
  ⟨l, rfl, fun s hs hw => by rw [h s hs] at hw; cases hw⟩

theorem handleWriteIO_outOnly (ofd : Nat) (w : W) (c : Cli) : OutOnly ofd w (handleWriteIO ofd w c).1 := by
  obtain ⟨ext, h⟩ := Isolation.handleWrite_iso w { c with fd := ofd }
  exact ⟨ext, h.sys, fun s hs _ => h.sysfd s hs⟩
theorem handleInputIO_outOnly (ofd : Nat) (w : W) (c : Cli) : OutOnly ofd w (handleInputIO ofd w c).1 := by
  obtain ⟨ext, h, _⟩ := Isolation.handleInput_iso w { c with fd := ofd }
  exact ⟨ext, h.sys, fun s hs _ => h.sysfd s hs⟩

theorem OutOnly.ite {α : Type} {ofd : Nat} {w : W} {p : Prop} [Decidable p] {x y : W × α}
    (hx : OutOnly ofd w x.1) (hy : OutOnly ofd w y.1) : OutOnly ofd w (if p then x else y).1 := by
  split <;> assumption

theorem readStage_outOnly (ofd : Nat) (w : W) (c : Cli) (ein : Option FdEnv) : OutOnly ofd w (readStage w c ein).1 := by
  have hr : ∀ n, OutOnly ofd w { w with sys := w.sys ++ [Sys.read (clipC c ein).fd n] } :=
    fun n => OutOnly.push ofd w _ (by simp [Isolation.isWrite])
  unfold readStage
  split
  · exact .ite (hr _) (.ite (hr _) (.ite (hr _) (hr _)))
  · exact OutOnly.refl ofd w

theorem deadIO_outOnly (ofd : Nat) (w : W) (c : Cli) : OutOnly ofd w (deadIO ofd w c).1 :=
  OutOnly.push ofd w _ (by simp [Isolation.isWrite])

theorem clientPassCore_outOnly (ofd : Nat) (w : W) (c : Cli) (ein : Option FdEnv) (revIn revOut : Nat) :
    OutOnly ofd w (clientPassCore ofd w c ein revIn revOut).1 := by
  unfold clientPassCore
  refine .ite (deadIO_outOnly ofd w c) ?_
  dsimp only
  generalize hr1 : (if (revIn &&& 1 != 0 || revIn &&& 4 != 0) = true then readStage w c ein else (w, c)) = r1
  have h1 : OutOnly ofd w r1.1 := hr1 ▸ .ite (readStage_outOnly ofd w c ein) (.refl ofd w)
  refine .ite (h1.trans (deadIO_outOnly ofd r1.1 r1.2)) ?_
  generalize hr2 : (if (revOut &&& 2 != 0) = true then handleWriteIO ofd r1.1 r1.2 else r1) = r2
  have h2 : OutOnly ofd w r2.1 := hr2 ▸ .ite (h1.trans (handleWriteIO_outOnly ofd r1.1 r1.2)) h1
  have h3 := h2.trans (handleInputIO_outOnly ofd r2.1 r2.2)
  exact .ite h3 (.ite (h3.trans (deadIO_outOnly ofd _ _)) h3)

/-- **Whatever poll reports for either descriptor**, one pass of the `--stdio` client writes to no descriptor but `ofd`
    (reads and closes are the only other calls it makes) -/
theorem clientPassIO_outOnly (ofd : Nat) (w : W) (c : Cli) (ein eout : Option FdEnv) :
    OutOnly ofd w (clientPassIO ofd w c ein eout).1 := clientPassCore_outOnly ofd w c ein _ _

theorem OutOnly.of_sys_eq {ofd : Nat} {a b b' : W} (h : OutOnly ofd a b) (e : b'.sys = b.sys) : OutOnly ofd a b' := by
  obtain ⟨ext, hs, hp⟩ := h
  exact ⟨ext, by rw [e, hs], hp⟩

theorem foldl_outOnly (ofd : Nat) (f : W → Cli → W) (hf : ∀ a x, OutOnly ofd a (f a x)) :
    ∀ (l : List Cli) (a : W), OutOnly ofd a (l.foldl f a) := by
  intro l; induction l with
  | nil => intro a; exact OutOnly.refl ofd a
  | cons x xs ih => intro a; rw [List.foldl_cons]; exact (hf a x).trans (ih _)

theorem cliStepIO_outOnly (ofd : Nat) (envs : List FdEnv) (w : W) (c0 : Cli) : OutOnly ofd w (cliStepIO ofd envs w c0) := by
  unfold cliStepIO
  split
  · exact OutOnly.refl ofd w
  · have hp := clientPassIO_outOnly ofd w c0 (envs.find? (·.fd == c0.fd)) (envs.find? (·.fd == ofd))
    dsimp only
    split
    · exact hp.of_sys_eq rfl
    · exact hp.of_sys_eq rfl

theorem cliPostPollIO_writes (ofd : Nat) (w : W) (envs : List FdEnv) :
    ∀ s ∈ (cliPostPollIO ofd w envs).sys, Isolation.isWrite s = true → Isolation.sysFd s = some ofd := by
  unfold cliPostPollIO
  obtain ⟨ext, hs, hp⟩ := foldl_outOnly ofd (cliStepIO ofd envs) (cliStepIO_outOnly ofd envs) w.clients
    { w with sys := [], caps := envs.map fun (e : FdEnv) => (e.fd, e.cap) }
  intro s hsm hw
  rw [hs] at hsm
  exact hp s (by simpa using hsm) hw

theorem handleWriteIO_conserve (ofd : Nat) (w : W) (c : Cli) :
    written ofd (handleWriteIO ofd w c).1.sys ++ (handleWriteIO ofd w c).2.toBuf = written ofd w.sys ++ c.toBuf ∧
    (handleWriteIO ofd w c).2.fd = c.fd ∧
    (∀ fd, fd ≠ ofd → written fd (handleWriteIO ofd w c).1.sys = written fd w.sys) := by
  refine ⟨?_, rfl, ?_⟩
  · exact (Pm.Daemon.Tel.handleWrite_conserve w { c with fd := ofd }).1
  · intro fd h
    exact Pm.Daemon.Tel.handleWrite_other w { c with fd := ofd } fd h

/-- the final flush of a client that quit: the *output* descriptor is the one made blocking, and the whole queue goes to it in
    one `write` whatever its capacity `≥ 0` — nothing queued is lost when the client is destroyed right after -/
theorem handleWriteIO_quit (ofd : Nat) (w : W) (c : Cli) (hq : c.quit = true) (hne : c.toBuf ≠ []) (hcap : ¬ capOf w ofd < 0) :
    handleWriteIO ofd w c =
      (setCap { w with sys := w.sys ++ [Sys.write ofd c.toBuf false (decide (capOf w ofd < (c.toBuf.length : Int)))] } ofd
         (if capOf w ofd < (c.toBuf.length : Int) then 0 else capOf w ofd - (c.toBuf.length : Int)),
       { c with blocking := true, toBuf := [] }) := by
  unfold handleWriteIO
  rw [Pm.Daemon.Isolation.handleWrite_quit w { c with fd := ofd } hq hne hcap]

theorem quit_flush (ofd : Nat) (w : W) (c : Cli) (hcap : ¬ capOf w ofd < 0) :
    (ClientPf.plQuit w { c with fd := ofd }).2.toBuf = [] ∧ (ClientPf.plQuit w { c with fd := ofd }).2.quit = true ∧
    (ClientPf.plQuit w { c with fd := ofd }).1.sys =
      w.sys ++ [Sys.write ofd (c.toBuf ++ ClientPf.render [ClientPf.item101]) false (capOf w ofd < ((c.toBuf ++ ClientPf.render [ClientPf.item101]).length : Int))] := by
  obtain ⟨⟨hq, h⟩, _⟩ := ClientPf.plQuit_spec w { c with fd := ofd }
  rcases h with ⟨h1, _⟩ | ⟨_, h2, h3⟩
  · exact absurd h1 hcap
  · exact ⟨h2, hq, h3⟩

theorem handleInputIO_answers (ofd : Nat) (w : W) (c : Cli) :
    ((handleInputIO ofd w c).1.exited = true ∨
     ∃ chunks : List (List ClientPf.Item), chunks.length = (ClientPf.linesOf c.fromBuf).1.length ∧
       ClientPf.written (handleInputIO ofd w c).1.sys ofd ++ (handleInputIO ofd w c).2.toBuf =
         ClientPf.written w.sys ofd ++ c.toBuf ++ ClientPf.render chunks.flatten ∧
       (∀ ch ∈ chunks, ClientPf.AnswerChunk ch)) ∧
    (∃ ext, (handleInputIO ofd w c).1.sys = w.sys ++ ext ∧ ∀ s ∈ ext, Isolation.sysFd s = some ofd) ∧
    (handleInputIO ofd w c).2.fd = c.fd := by
  obtain ⟨ext, hiso, _⟩ := Isolation.handleInput_iso w { c with fd := ofd }
  refine ⟨?_, ⟨ext, hiso.sys, hiso.sysfd⟩, rfl⟩
  rcases ClientPf.handleInput_answers w { c with fd := ofd } with h | ⟨chunks, hl, hout, hch, _⟩
  · exact Or.inl h
  · refine Or.inr ⟨chunks, hl, ?_, hch⟩
    have hfd : (handleInput w { c with fd := ofd }).2.fd = ofd := hiso.fd
    simp only [ClientPf.outOf, hfd] at hout
    exact hout

end Pm.Daemon.Stdio
