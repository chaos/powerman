import Pm.Sort2
/-! Well-formedness predicates shared by the C14 helper modules (`HLMore`, `SortF`, `RoundTrip`). -/
namespace Pm

/-- every range is a single name or has `lo ≤ hi` (same as `Pm.Props.C14.WF`) -/
def HWF (hl : Hostlist) : Prop := ∀ t ∈ hl, t.single = true ∨ t.lo ≤ t.hi

/-- the shape every constructor of the library produces: a single name is stored with `lo = hi = 0`
    (`hostrange_create_single`), a numeric range has `lo ≤ hi` -/
def HostRange.WFS (r : HostRange) : Prop :=
  (r.single = true ∧ r.lo = 0 ∧ r.hi = 0) ∨ (r.single = false ∧ r.lo ≤ r.hi)

instance (r : HostRange) : Decidable r.WFS := by unfold HostRange.WFS; exact inferInstance

/-- strong well-formedness of a list: every range satisfies `HostRange.WFS` -/
def HWFS (hl : Hostlist) : Prop := ∀ t ∈ hl, t.WFS

theorem HostRange.WFS.wf {r : HostRange} (h : r.WFS) : r.WF :=
  h.elim (fun h => Or.inl h.1) (fun h => Or.inr h.2)

theorem HostRange.WFS.le {r : HostRange} (h : r.WFS) (hs : r.single = false) : r.lo ≤ r.hi := h.wf.le hs

theorem HWFS.toHWF {hl : Hostlist} (h : HWFS hl) : HWF hl := fun t ht => (h t ht).wf

end Pm
