import Pm.FrameRel
/-! For C05, two runs: the connection layer of `device.c` does not look at the arglist store (the `…_wa` lemmas: running
    on `c.withArgs s` is running on `c` and plugging `s` in afterwards).  With the statement lemmas of `FrameRel` this
    gives `postPoll_rel`: one device's share of `dev_post_poll` depends on the store only through the `Q`-entries. -/
namespace Pm.Dev2

/-! In the `…_wa` proofs each function is unfolded, the kernel answers and tests it looks at are decided, and both sides
    compute to the same state. -/

theorem finishConnectOne_wa (c : CS) (s : Store) :
    finishConnectOne (c.withArgs s) = ((finishConnectOne c).1.withArgs s, (finishConnectOne c).2) := by
  unfold finishConnectOne
  rw [show (c.withArgs s).env = c.env from rfl]
  cases c.env.soerrs with
  | nil => rfl
  | cons e r => dsimp only; cases e == 0 <;> rfl

theorem connectOne_wa (c : CS) (s : Store) :
    connectOne (c.withArgs s) = ((connectOne c).1.withArgs s, (connectOne c).2) := by
  unfold connectOne
  rw [show (c.withArgs s).env = c.env from rfl]
  cases c.env.sockets with
  | nil => rfl
  | cons fd fr =>
    cases c.env.connects with
    | nil => rfl
    | cons ans ar =>
      dsimp only
      cases ans == 0
      · cases ans == 1 <;> rfl
      · -- connected at once: `SO_ERROR` decides, as in `finishConnectOne_wa`
        unfold finishConnectOne
        dsimp only
        cases c.env.soerrs with
        | nil => rfl
        | cons e r => cases e <;> rfl

theorem connectWalk_wa (n : Nat) (c : CS) (s : Store) : connectWalk n (c.withArgs s) = (connectWalk n c).withArgs s := by
  induction n generalizing c with
  | zero => rfl
  | succ n ih =>
    unfold connectWalk
    have h1 : (c.withArgs s).dev.cur = c.dev.cur := rfl
    have h2 : (c.withArgs s).dev.naddr = c.dev.naddr := rfl
    rw [h1, h2]
    split
    · rfl
    · rename_i i _
      rw [connectOne_wa]
      dsimp only
      split
      · rfl
      · exact ih { (connectOne c).1 with dev := { (connectOne c).1.dev with cur := aiNext c.dev.naddr i } }

/-- `tcp_connect` after its two asserts.  Named so that the walk's result can be generalized in `tcpBody_wa`: with `tcpConnect` unfolded
    as a whole the goal repeats it in every field of the record. -/
def tcpBody (c : CS) : CS × Bool :=
  let c := connectWalk c.dev.naddr c
  let c := if c.dev.cur.isNone then { c with dev := { c.dev with conn := 0 } } else c
  (c, c.dev.conn == 2)
theorem tcpConnect_eq (c : CS) : tcpConnect c =
    if c.dev.conn != 0 then ({ c with sys := c.sys ++ [.abort "assert connect_state == NOT_CONNECTED"], aborted := true }, false) else
    if c.dev.fd.isSome then ({ c with sys := c.sys ++ [.abort "assert fd == NO_FD"], aborted := true }, false) else
    tcpBody { c with dev := { c.dev with conn := 1, cur := some 0 } } := rfl

theorem tcpBody_wa (c : CS) (s : Store) : tcpBody (c.withArgs s) = ((tcpBody c).1.withArgs s, (tcpBody c).2) := by
  unfold tcpBody
  have h : (c.withArgs s).dev.naddr = c.dev.naddr := rfl
  rw [h, connectWalk_wa]
  generalize connectWalk c.dev.naddr c = r
  dsimp only
  have h2 : (r.withArgs s).dev.cur = r.dev.cur := rfl
  rw [h2]
  split <;> rfl

theorem tcpConnect_wa (c : CS) (s : Store) :
    tcpConnect (c.withArgs s) = ((tcpConnect c).1.withArgs s, (tcpConnect c).2) := by
  rw [tcpConnect_eq, tcpConnect_eq]
  have h1 : (c.withArgs s).dev.conn = c.dev.conn := rfl
  have h2 : (c.withArgs s).dev.fd = c.dev.fd := rfl
  rw [h1, h2]
  split
  · rfl
  · split
    · rfl
    · exact tcpBody_wa { c with dev := { c.dev with conn := 1, cur := some 0 } } s

theorem pipeConnect_wa (c : CS) (s : Store) :
    pipeConnect (c.withArgs s) = ((pipeConnect c).1.withArgs s, (pipeConnect c).2) := by
  unfold pipeConnect
  rw [show (c.withArgs s).dev.conn = c.dev.conn from rfl, show (c.withArgs s).dev.fd = c.dev.fd from rfl,
    show (c.withArgs s).env = c.env from rfl]
  cases c.dev.conn != 0
  case true => rfl
  cases c.dev.fd.isSome
  case true => rfl
  cases c.env.pairs with
  | nil => rfl
  | cons fa pr => cases c.env.pids <;> rfl

/-- `enqueueLogin_wa` for a device given by its fields: the form that rewrites under a constructor application -/
theorem enqueueLogin_wx {f_plugs f_scripts f_timeout f_acts f_toBuf f_fromBuf f_xmStr f_xmOffs f_xmResult f_xmUsed f_nextUid f_shortCircuitDelay f_wake f_connected f_retryCount f_lastRetry f_conn f_loggedIn f_fd f_naddr f_cur f_tstate f_tcmd f_statConnects f_statActions f_isPipe f_cpid f_pingPeriod f_lastPing f_fromSize} (s : Store) :
    enqueueLogin (⟨f_plugs, f_scripts, f_timeout, f_acts, f_toBuf, f_fromBuf, f_xmStr, f_xmOffs, f_xmResult, f_xmUsed, s, f_nextUid, f_shortCircuitDelay, f_wake, f_connected, f_retryCount, f_lastRetry, f_conn, f_loggedIn, f_fd, f_naddr, f_cur, f_tstate, f_tcmd, f_statConnects, f_statActions, f_isPipe, f_cpid, f_pingPeriod, f_lastPing, f_fromSize⟩ : Dev) = withArgs (enqueueLogin (⟨f_plugs, f_scripts, f_timeout, f_acts, f_toBuf, f_fromBuf, f_xmStr, f_xmOffs, f_xmResult, f_xmUsed, [], f_nextUid, f_shortCircuitDelay, f_wake, f_connected, f_retryCount, f_lastRetry, f_conn, f_loggedIn, f_fd, f_naddr, f_cur, f_tstate, f_tcmd, f_statConnects, f_statActions, f_isPipe, f_cpid, f_pingPeriod, f_lastPing, f_fromSize⟩ : Dev)) s := by
  unfold enqueueLogin withArgs loginAction
  dsimp only

theorem enqueueLogin_wa (d : Dev) (s : Store) : enqueueLogin (withArgs d s) = withArgs (enqueueLogin d) s := by
  unfold enqueueLogin withArgs loginAction
  rfl

theorem connTail_wa (r : CS × Bool) (s : Store) : Fd.connTail (r.1.withArgs s, r.2) = (Fd.connTail r).withArgs s := by
  unfold Fd.connTail
  dsimp only
  rw [show (r.1.withArgs s).aborted = r.1.aborted from rfl]
  cases r.2 && !r.1.aborted
  · rfl
  · simp only [↓reduceIte, CS.withArgs, enqueueLogin_wa]

theorem connectDev_wa (c : CS) (s : Store) : connectDev (c.withArgs s) = (connectDev c).withArgs s := by
  rw [Fd.connectDev_eq, Fd.connectDev_eq, show Fd.bump (c.withArgs s) = (Fd.bump c).withArgs s from rfl, pipeConnect_wa,
    tcpConnect_wa, show ((Fd.bump c).withArgs s).dev.isPipe = (Fd.bump c).dev.isPipe from rfl]
  cases (Fd.bump c).dev.isPipe <;> exact connTail_wa _ s

theorem disconnectDev_wa (c : CS) (s : Store) : disconnectDev (c.withArgs s) = (disconnectDev c).withArgs s := by
  rw [disconnectDev_cs, disconnectDev_cs]
  rfl

theorem reconnectDev_wa (c : CS) (tmo : Option Time) (s : Store) :
    reconnectDev (c.withArgs s) tmo = ((reconnectDev c tmo).1.withArgs s, (reconnectDev c tmo).2) := by
  have h1 : (if (c.withArgs s).dev.conn != 0 then disconnectDev (c.withArgs s) else c.withArgs s) =
      (if c.dev.conn != 0 then disconnectDev c else c).withArgs s := by
    rw [show (c.withArgs s).dev.conn = c.dev.conn from rfl]
    split
    · exact disconnectDev_wa c s
    · rfl
  unfold reconnectDev
  dsimp only
  rw [h1]
  generalize (if c.dev.conn != 0 then disconnectDev c else c) = c1
  rw [show timeToReconnect (c1.withArgs s).dev (c1.withArgs s).env.now = timeToReconnect c1.dev c1.env.now from rfl]
  split
  · dsimp only; rw [connectDev_wa]
  · rfl
  · rfl

theorem telnetFilter_wa (d : Dev) (bs : Bytes) (s : Store) : telnetFilter (withArgs d s) bs = withArgs (telnetFilter d bs) s := by
  unfold telnetFilter withArgs
  rfl

theorem closeFd_wa (c : CS) (s : Store) : closeFd (c.withArgs s) = (closeFd c).withArgs s := by
  unfold closeFd
  have h : (c.withArgs s).dev.fd = c.dev.fd := rfl
  rw [h]
  split <;> rfl

theorem finishConnectFail_wa (c : CS) (s : Store) : finishConnectFail (c.withArgs s) = (finishConnectFail c).withArgs s := by
  unfold finishConnectFail
  rw [closeFd_wa]
  generalize closeFd c = c1
  have h1 : (c1.withArgs s).dev.cur = c1.dev.cur := rfl
  have h2 : (c1.withArgs s).dev.naddr = c1.dev.naddr := rfl
  rw [h1, h2]
  split
  · rfl
  · rename_i i _
    dsimp only
    have hw := connectWalk_wa c1.dev.naddr { c1 with dev := { c1.dev with cur := aiNext c1.dev.naddr i } } s
    have e : ({ c1.withArgs s with dev := { (c1.withArgs s).dev with cur := aiNext c1.dev.naddr i } } : CS) =
        ({ c1 with dev := { c1.dev with cur := aiNext c1.dev.naddr i } } : CS).withArgs s := rfl
    rw [e, hw]
    generalize connectWalk c1.dev.naddr _ = r
    have h3 : (r.withArgs s).dev.cur = r.dev.cur := rfl
    rw [h3]
    split <;> rfl

theorem readyRd_wa (c : CS) (s : Store) : Tel.readyRd (c.withArgs s) = ((Tel.readyRd c).1.withArgs s, (Tel.readyRd c).2) := by
  unfold Tel.readyRd
  have h1 : (c.withArgs s).env = c.env := rfl
  rw [h1]
  split
  · split
    · rfl
    · have h2 : (c.withArgs s).dev.isPipe = c.dev.isPipe := rfl
      rw [h2]
      split
      · rfl
      · simp only [CS.withArgs, telnetFilter_wa]
  · rfl
  · rfl

theorem clipRead_wa (c : CS) (s : Store) : clipRead (c.withArgs s) = (clipRead c).withArgs s := by
  unfold clipRead
  have h1 : (c.withArgs s).env = c.env := rfl
  rw [h1]
  split <;> rfl

theorem readyFinish_wa (c : CS) (s : Store) :
    Tel.readyFinish (c.withArgs s) = ((Tel.readyFinish c).1.withArgs s, (Tel.readyFinish c).2) := by
  unfold Tel.readyFinish
  have h2 : (c.withArgs s).dev.isPipe = c.dev.isPipe := rfl
  rw [h2]
  cases c.dev.isPipe
  case true => rfl
  rw [finishConnectOne_wa]
  generalize finishConnectOne c = r
  have hc2 : (if r.2 = true then r.1.withArgs s else finishConnectFail (r.1.withArgs s)) =
      (if r.2 = true then r.1 else finishConnectFail r.1).withArgs s := by
    cases r.2
    · exact finishConnectFail_wa r.1 s
    · rfl
  simp only [Bool.false_eq_true, ↓reduceIte]
  rw [hc2]
  generalize (if r.2 = true then r.1 else finishConnectFail r.1) = c2
  unfold Tel.finishTail
  have h5 : (c2.withArgs s).dev.conn = c2.dev.conn := rfl
  rw [h5]
  cases c2.dev.conn == 0
  case true => rfl
  cases c2.dev.conn == 2
  · rfl
  · simp only [↓reduceIte, Bool.false_eq_true, CS.withArgs, enqueueLogin_wa]

theorem readyWrite_wa (c : CS) (s : Store) :
    Tel.readyWrite (c.withArgs s) = ((Tel.readyWrite c).1.withArgs s, (Tel.readyWrite c).2) := by
  unfold Tel.readyWrite
  have h1 : (c.withArgs s).dev.conn = c.dev.conn := rfl
  have h3 : (c.withArgs s).dev.toBuf = c.dev.toBuf := rfl
  have h4 : (c.withArgs s).env = c.env := rfl
  rw [h1, h3, h4]
  dsimp only
  cases c.env.revents &&& 2 != 0
  case false => rfl
  cases c.dev.conn == 1
  case true => exact readyFinish_wa c s
  -- the write proper: tests on `toBuf` and the environment only
  cases c.dev.toBuf.isEmpty <;> cases c.env.writeOk <;> cases c.env.wcap == 0 <;> rfl

theorem handleReady_wa (c : CS) (s : Store) : handleReady (c.withArgs s) = ((handleReady c).1.withArgs s, (handleReady c).2) := by
  rw [Tel.handleReady_eq, Tel.handleReady_eq, readyWrite_wa]
  have h1 : (c.withArgs s).dev.conn = c.dev.conn := rfl
  have h2 : (c.withArgs s).env = c.env := rfl
  have h3 : (c.withArgs s).dev.fd = c.dev.fd := rfl
  rw [h1, h2, h3]
  -- both sides now make the same tests: decide them one by one
  cases c.dev.conn == 0
  case true => rfl
  cases c.dev.fd.isNone
  case true => rfl
  cases c.env.revents &&& 4 != 0 || c.env.revents &&& 8 != 0 || c.env.revents &&& 16 != 0
  case true => rfl
  generalize Tel.readyWrite c = w
  dsimp only
  cases w.2.1
  case true => rfl
  cases w.2.2
  case true => rfl
  unfold Tel.readyRead
  cases c.env.revents &&& 1 != 0
  · rfl
  · simp only [↓reduceIte]; rw [clipRead_wa, readyRd_wa]; rfl

theorem ppReady_wa (d : Dev) (env : Env) (s : Store) :
    ppReady (withArgs d s) env = ((ppReady d env).1.withArgs s, (ppReady d env).2) := by
  rw [ppReady_eq, ppReady_eq, show Tel.ppFlags (withArgs d s) env = Tel.ppFlags d env from rfl,
    show Tel.ppC0 (withArgs d s) env = (Tel.ppC0 d env).withArgs s from rfl]
  split
  · exact handleReady_wa _ s
  · rfl

theorem ppReconnect_wa (c : CS) (ioerr : Bool) (s : Store) :
    ppReconnect (c.withArgs s) ioerr = ((ppReconnect c ioerr).1.withArgs s, (ppReconnect c ioerr).2) := by
  unfold ppReconnect
  have h1 : (c.withArgs s).dev.conn = c.dev.conn := rfl
  rw [h1]
  split
  · rw [reconnectDev_wa]
  · rfl

theorem ppPing_wa (c : CS) (now : Time) (tmo : Option Time) (s : Store) :
    ppPing (c.withArgs s) now tmo = ((ppPing c now tmo).1.withArgs s, (ppPing c now tmo).2) := by
  unfold ppPing CS.withArgs withArgs pingAction loginAction
  dsimp only
  repeat' split
  all_goals first | rfl | simp_all

theorem failAll_wa (rest : List Action) (c : CS) (a : Action) (o : Oracle) (out : List Out) (tmo : Option Time) (s : Store) :
    failAll rest (c.withArgs s) a o out tmo =
      ((failAll rest c a o out tmo).1.withArgs s, (failAll rest c a o out tmo).2) := by
  have e := reconnectDev_wa { c with dev := { c.dev with acts := [], xmStr := none, xmResult := false, xmUsed := false } } tmo s
  by_cases hc : (c.dev.conn == 2) = true
  · have hc' : ((c.withArgs s).dev.conn == 2) = true := hc
    unfold failAll
    dsimp only
    rw [if_pos hc', if_pos hc]
    change ((reconnectDev (CS.withArgs { c with dev := { c.dev with acts := [], xmStr := none, xmResult := false, xmUsed := false } } s) tmo).1, o, _,
      (reconnectDev (CS.withArgs { c with dev := { c.dev with acts := [], xmStr := none, xmResult := false, xmUsed := false } } s) tmo).2) = _
    rw [e]
  · have hc' : ¬ ((c.withArgs s).dev.conn == 2) = true := hc
    unfold failAll
    dsimp only
    rw [if_neg hc', if_neg hc]
    rfl

theorem onTimeout_wa (rest : List Action) (c : CS) (a : Action) (o : Oracle) (out : List Out) (tmo : Option Time) (s : Store) :
    onTimeout rest (c.withArgs s) a o out tmo =
      ((onTimeout rest c a o out tmo).1.withArgs s, (onTimeout rest c a o out tmo).2) := by
  rw [Fd.onTimeout_eq_failAll, Fd.onTimeout_eq_failAll]
  exact failAll_wa rest c _ o _ tmo s

/-- the shape of the two-run lemmas at `_process_action` level -/
def PARel (Q : Bytes → Bool) (x x' : PA) : Prop := ∃ t', x' = (x.1.withArgs t', x.2) ∧ SAgree Q x.1.dev.args t'

/-- every queued action carries `Q`-plugs only -/
def ActsOK (Q : Bytes → Bool) (acts : List Action) : Prop := ∀ a ∈ acts, ActOK Q a

/-- the two-run statement for a continuation `k` of the loop of `_process_action`: what `processActionF_rel` proves by induction
    on the fuel and `onRun_rel` assumes of the rest of the loop -/
def KRel (Q : Bytes → Bool) (k : CS → Oracle → List Out → Option Time → PA) : Prop :=
  ∀ c o out tmo s', SAgree Q c.dev.args s' → QOn Q c.dev → ActsOK Q c.dev.acts →
    PARel Q (k c o out tmo) (k (c.withArgs s') o out tmo)

theorem failAll_args (rest c a o out tmo) : (failAll rest c a o out tmo).1.dev.args = c.dev.args := by
  have hr := reconnectDev_devFrame { c with dev := { c.dev with acts := [], xmStr := none, xmResult := false, xmUsed := false } } tmo
  unfold failAll
  dsimp only
  split
  · exact hr.args
  · rfl

theorem onTimeout_args (rest c a o out tmo) : (onTimeout rest c a o out tmo).1.dev.args = c.dev.args := by
  rw [Fd.onTimeout_eq_failAll]
  exact failAll_args ..

theorem advance_actOK (Q : Bytes → Bool) (a : Action) (h : ActOK Q a) : ActOK Q (advance a) := by
  unfold advance
  dsimp only
  split
  · intro e he; exact h e (List.mem_of_mem_drop he)
  · exact h.setTop _ (h.top.congr rfl rfl)

theorem stamp_actOK (Q : Bytes → Bool) (now : Time) (a : Action) (h : ActOK Q a) : ActOK Q (stamp now a) := by
  unfold stamp; split
  · exact h.of_exec rfl
  · exact h

theorem onRunOk_rel (Q : Bytes → Bool) (k rest c q out tmo) (s' t' : Store) (hk : KRel Q k)
    (hS : SAgree Q q.dev.args t') (hQ : QOn Q q.dev) (hq : ActOK Q q.act) (hrest : ActsOK Q rest) :
    PARel Q (onRunOk k rest c q out tmo) (onRunOk k rest (c.withArgs s') (q.withArgs t') out tmo) :=
  onRunOk_congr (R := PARel Q) k rest c (c.withArgs s') q (q.withArgs t') out tmo rfl
    (hk { c with dev := { q.dev with acts := rest, loggedIn := q.dev.loggedIn || (advance q.act).com == 0, statActions := q.dev.statActions + 1, xmStr := none, xmResult := false, xmUsed := false } }
      q.oracle _ tmo t' hS hQ hrest)
    (hk { c with dev := { q.dev with acts := advance q.act :: rest } } q.oracle out tmo t' hS hQ fun b hb => by
      rcases List.mem_cons.1 hb with rfl | hb
      · exact advance_actOK Q q.act hq
      · exact hrest b hb)

theorem onRunTail_rel (Q : Bytes → Bool) (k rest c q out tmo left) (s' t' : Store) (hk : KRel Q k)
    (hS : SAgree Q q.dev.args t') (hQ : QOn Q q.dev) (hq : ActOK Q q.act) (hrest : ActsOK Q rest) :
    PARel Q (onRunTail k rest c q out tmo left) (onRunTail k rest (c.withArgs s') (q.withArgs t') out tmo left) :=
  onRunTail_congr (R := PARel Q) k rest c (c.withArgs s') q (q.withArgs t') out tmo left rfl rfl rfl
    ⟨t', rfl, hS⟩ ⟨t', rfl, hS⟩ (onRunOk_rel Q k rest c q _ tmo s' t' hk hS hQ hq hrest)
    ⟨t', failAll_wa rest { c with dev := q.dev } q.act q.oracle (out ++ q.out) tmo t', by rw [failAll_args]; exact hS⟩

theorem onRun_rel (Q : Bytes → Bool) (k rest c a o out tmo left) (s' : Store) (hk : KRel Q k)
    (hS : SAgree Q c.dev.args s') (hQ : QOn Q c.dev) (ha : ActOK Q a) (hrest : ActsOK Q rest) :
    PARel Q (onRun k rest c a o out tmo left) (onRun k rest (c.withArgs s') a o out tmo left) := by
  rw [onRun_eq, onRun_eq]
  have hil := innerLoop_rel Q c.env.now (loopBound a) { c.dev with wake := none } a o [] s' hS hQ ha
  obtain ⟨⟨t', h1, h2⟩, h3⟩ := hil
  have hp : (innerLoop c.env.now (loopBound a) { c.dev with wake := none } a o []).dev.plugs = c.dev.plugs := by
    rw [(innerLoop_writes c.env.now (loopBound a) { c.dev with wake := none } a o [] (fun _ h => nomatch h)).dev]
  have e : innerLoop (c.withArgs s').env.now (loopBound a) { (c.withArgs s').dev with wake := none } a o []
      = (innerLoop c.env.now (loopBound a) { c.dev with wake := none } a o []).withArgs t' := h1
  rw [e]
  exact onRunTail_rel Q k rest c _ out tmo left s' t' hk h2 (hQ.congr hp) h3 hrest

theorem processActionF_rel (Q : Bytes → Bool) (fuel : Nat) : KRel Q (processActionF fuel) := by
  induction fuel with
  | zero => intro c o out tmo s' hS _ _; exact ⟨s', rfl, hS⟩
  | succ n ih =>
    intro c o out tmo s' hS hQ hacts
    unfold processActionF processActionBody
    have h0 : (c.withArgs s').aborted = c.aborted := rfl
    have h1 : (c.withArgs s').dev.acts = c.dev.acts := rfl
    rw [h0, h1]
    split
    · exact ⟨s', rfl, hS⟩
    · split
      · exact ⟨s', rfl, hS⟩
      · rename_i a0 rest hq
        dsimp only
        have h2 : (c.withArgs s').env = c.env := rfl
        have h3 : (c.withArgs s').dev.timeout = c.dev.timeout := rfl
        have h4 : (c.withArgs s').dev.conn = c.dev.conn := rfl
        rw [h2, h3, h4]
        have ha0 : ActOK Q a0 := hacts a0 (by simp [hq])
        have ha := stamp_actOK Q c.env.now a0 ha0
        have hrest : ActsOK Q rest := fun b hb => hacts b (by simp [hq, hb])
        generalize stamp c.env.now a0 = a at *
        split
        · refine ⟨s', onTimeout_wa rest c a o out tmo s', ?_⟩
          rw [onTimeout_args]; exact hS
        · split
          · exact ⟨s', rfl, hS⟩
          · exact onRun_rel Q _ rest c a o out tmo _ s' ih hS hQ ha hrest

theorem loginAction_actOK (Q : Bytes → Bool) (d : Dev) : ActOK Q (loginAction d) := by
  intro e he
  simp only [loginAction, List.mem_singleton] at he
  subst he
  constructor <;> (intro p hp; simp at hp)

theorem pingAction_actOK (Q : Bytes → Bool) (d : Dev) : ActOK Q (pingAction d) := by
  intro e he
  simp only [pingAction, List.mem_singleton] at he
  subst he
  constructor <;> (intro p hp; simp at hp)

theorem rewind_actOK (Q : Bytes → Bool) (a : Action) (h : ActOK Q a) : ActOK Q (rewind a) := by
  unfold rewind
  split
  · rename_i outer ho
    intro e he
    simp only [List.mem_singleton] at he
    subst he
    exact (h outer (List.mem_of_getLast? ho)).congr rfl rfl
  · exact h

theorem DevFrame.actsOK {Q : Bytes → Bool} {d d' : Dev} (h : DevFrame d d') (hk : ActsOK Q d.acts) : ActsOK Q d'.acts :=
  h.acts (ActOK Q) (loginAction_actOK Q d) (rewind_actOK Q) hk

/-- **two-run lemma for one device's share of `dev_post_poll`**: run with a store `s'` that agrees with the device's own
    on the entries of `Q`-nodes — `Q` containing the nodes of the device's plugs and of the plugs its queued actions
    carry — the step yields the same device (apart from the store copy), the same oracle remainder, the same callbacks
    and the same timeout; and the two resulting stores agree on `Q` again. -/
theorem postPoll_rel (Q : Bytes → Bool) (d : Dev) (env : Env) (o : Oracle) (s' : Store)
    (hS : SAgree Q d.args s') (hQ : QOn Q d) (hacts : ActsOK Q d.acts) :
    PARel Q (postPoll d env o) (postPoll (withArgs d s') env o) := by
  rw [postPoll_eq, postPoll_eq]
  unfold postPoll'
  dsimp only
  rw [ppReady_wa]
  have h1 := ppReady_devFrame d env
  generalize ppReady d env = r at *
  dsimp only
  have hab : (r.1.withArgs s').aborted = r.1.aborted := rfl
  rw [hab]
  split
  · refine ⟨s', rfl, ?_⟩
    rw [h1.args]; exact hS
  · rw [ppReconnect_wa]
    have h2 := ppReconnect_devFrame r.1 r.2
    generalize ppReconnect r.1 r.2 = r2 at *
    dsimp only
    rw [ppPing_wa]
    obtain ⟨hplugs3, -, hargs3, hacts3⟩ := ppPing_frame r2.1 env.now r2.2
    have h12 := h1.trans h2
    have h3a : ActsOK Q (ppPing r2.1 env.now r2.2).1.dev.acts := by
      have hk := h12.actsOK hacts
      rcases hacts3 with h | h
      · rw [h]; exact hk
      · rw [h]; intro a ha; simp only [List.mem_append, List.mem_singleton] at ha
        rcases ha with ha | ha
        · exact hk a ha
        · subst ha; exact pingAction_actOK Q _
    generalize ppPing r2.1 env.now r2.2 = r3 at *
    dsimp only
    unfold processAction
    have hf : passFuel (r3.1.withArgs s').dev = passFuel r3.1.dev := rfl
    rw [hf]
    have hargs : r3.1.dev.args = d.args := hargs3.trans h12.args
    have hplugs : r3.1.dev.plugs = d.plugs := hplugs3.trans h12.plugs
    exact processActionF_rel Q _ r3.1 o [] r3.2 s' (by rw [hargs]; exact hS) (hQ.congr hplugs) h3a

end Pm.Dev2
