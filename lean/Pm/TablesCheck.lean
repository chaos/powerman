import Pm.Generated.Tables
import Pm.Generated.Proto
import Pm.Daemon
import Pm.SpecCheck
import Pm.ClientProof
/-! The hand-written constants of the model agree with the tables the translator regenerates from the C sources on
    every run (`Pm/Generated/*.lean`).  If a table changes in the source, one of these stops checking. -/
namespace Pm.TablesCheck
open Pm.Generated

theorem rtab_agrees : Pm.Dev2.rtab = rtab := by decide
theorem rtab_ge_one : ∀ x ∈ rtab, 1 ≤ x := by decide
theorem nScripts_agrees : Pm.Dev2.nScripts = NUM_SCRIPTS := by decide
theorem maxMatchPos_agrees : Pm.SpecCheck.MAX_MATCH_POS = MAX_MATCH_POS := by decide
/-- `client.c:_next_cli_id`: client ids are handed out 1, 2, 3, … and start again at 1 after `INT_MAX`.  The model's id counter is
    an unbounded `Nat`: it is the code's counter for every history with fewer than 2^31 − 1 accepted connections (`C11_ids*` are
    statements about those; what happens at the wrap is finding F17). -/
theorem cliIdWrap_is_int_max : CLI_ID_WRAP = 2147483647 := by decide
theorem login_ping_agree : Pm.Dev2.LOG_IN = PM_LOG_IN ∧ PM_PING = 6 := by decide

/-- `_get_all_script` / `_get_ranged_script` as mirrored in `Pm.Daemon` -/
theorem allOf_agrees : ∀ c, c < 64 → Pm.Daemon.allOf c = allOf c := by decide +kernel
theorem rangedOf_agrees : ∀ c, c < 64 → Pm.Daemon.rangedOf c = rangedOf c := by decide +kernel
/-- the ranged test of `_process_foreach` as mirrored in `Pm.Dev2.isRanged` -/
theorem isRanged_agrees : ∀ c, c < 64 → Pm.Dev2.isRanged c = rangedKinds.contains c := by decide +kernel
/-- `_is_query_action` on the commands a client can name -/
theorem isQuery_agrees : ∀ com : Pm.Client.Com, Pm.Daemon.isQuery (Pm.Daemon.comIdx com) = queryKinds.contains (Pm.Daemon.comIdx com) := by
  intro com; cases com <;> decide
theorem comIdx_agrees : Pm.Daemon.comIdx .on = PM_POWER_ON ∧ Pm.Daemon.comIdx .off = PM_POWER_OFF ∧ Pm.Daemon.comIdx .cycle = PM_POWER_CYCLE ∧
    Pm.Daemon.comIdx .reset = PM_RESET ∧ Pm.Daemon.comIdx .flash = PM_BEACON_ON ∧ Pm.Daemon.comIdx .unflash = PM_BEACON_OFF ∧
    Pm.Daemon.comIdx .status = PM_STATUS_PLUGS ∧ Pm.Daemon.comIdx .temp = PM_STATUS_TEMP ∧ Pm.Daemon.comIdx .beacon = PM_STATUS_BEACON := by decide

/-- the kinds that carry a plug argument (C17's static check) are exactly the commands that have variants, plus the ranged variants -/
theorem plugArgKinds_agrees : ∀ c, c < 64 →
    Pm.SpecCheck.plugArgKinds.contains c = ((allOf c).isSome || (rangedOf c).isSome || rangedKinds.contains c) := by decide +kernel
theorem singletKinds_agrees : ∀ c, c < 64 →
    Pm.SpecCheck.singletKinds.contains c = ((allOf c).isSome || (rangedOf c).isSome) := by decide +kernel

/-- telnet option answers of `_telnet_recvopt` as mirrored in `telnetStep` (state OPT after `IAC DO`) -/
theorem telnet_agrees : ∀ b : Fin 256,
    (Pm.Dev2.telnetStep 2 253 (UInt8.ofNat b.val)).2.2.2 =
      (if telnetWill.contains b.val then [255, 251, UInt8.ofNat b.val] else if telnetWont.contains b.val then [255, 252, UInt8.ofNat b.val] else []) := by
  decide +kernel

/-! ### reply formats (`client_proto.h`) -/

def isDigit (b : UInt8) : Bool := 48 ≤ b.toNat && b.toNat ≤ 57
def documentedCodes : List Nat := [1, 101, 102, 103, 104, 105, 201, 202, 203, 204, 205, 208, 209, 210, 211, 213, 301, 302, 303, 304, 305, 306, 307, 308, 309]

/-- split at CRLF: complete lines and the rest -/
def splitCRLF : List UInt8 → List UInt8 → List (List UInt8) × List UInt8
  | [], cur => ([], cur.reverse)
  | [x], cur => ([], (x :: cur).reverse)
  | 13 :: 10 :: r, cur => let p := splitCRLF r []; (cur.reverse :: p.1, p.2)
  | x :: y :: r, cur => splitCRLF (y :: r) (x :: cur)

def lineOK (l : List UInt8) : Bool :=
  match l with
  | a :: b :: c :: 32 :: text =>
    isDigit a && isDigit b && isDigit c &&
    documentedCodes.contains ((a.toNat - 48) * 100 + (b.toNat - 48) * 10 + (c.toNat - 48)) &&
    text.all fun x => x != 13 && x != 10
  | _ => false

/-- which names of the header are reply formats -/
def isReply (name : String) : Bool :=
  name.startsWith "CP_RSP_" || name.startsWith "CP_ERR_" || name.startsWith "CP_INFO_" || name == "CP_VERSION"

/-- a reply format is a non-empty sequence of complete `NNN␠text CRLF` lines with documented codes and nothing after the last
    CRLF (request keywords, the prompt and the end-of-line constant are not replies) -/
def fmtOK (name : String) (f : List UInt8) : Bool :=
  if !isReply name then true else
  let p := splitCRLF f []
  !p.1.isEmpty && p.2.isEmpty && p.1.all lineOK

/-- both facts about the table in one evaluation, so that `isReply` is computed once for every name -/
theorem proto_wf_present :
    protoTable.all (fun p => fmtOK p.1 p.2) = true ∧ (protoTable.filter fun p => isReply p.1).length ≥ 25 := by decide +kernel
/-- every reply format of the header, as regenerated from the source, is well-formed -/
theorem proto_wf : protoTable.all (fun p => fmtOK p.1 p.2) = true := proto_wf_present.1
/-- and there are replies in the table (the statement is not vacuous) -/
theorem proto_replies_present : (protoTable.filter fun p => isReply p.1).length ≥ 25 := proto_wf_present.2

/-- request keywords: the scanner of `Pm/Client.lean` uses the header's keywords (`"kw %s"` resp. `"kw"`) -/
theorem keywords_agree :
    Pm.Client.kwOn ++ [32, 37, 115] = CP_ON ∧ Pm.Client.kwOff ++ [32, 37, 115] = CP_OFF ∧ Pm.Client.kwCycle ++ [32, 37, 115] = CP_CYCLE ∧
    Pm.Client.kwReset ++ [32, 37, 115] = CP_RESET ∧ Pm.Client.kwFlash ++ [32, 37, 115] = CP_BEACON_ON ∧ Pm.Client.kwUnflash ++ [32, 37, 115] = CP_BEACON_OFF ∧
    Pm.Client.kwStatus ++ [32, 37, 115] = CP_STATUS ∧ Pm.Client.kwStatus = CP_STATUS_ALL ∧ Pm.Client.kwTemp ++ [32, 37, 115] = CP_TEMP ∧ Pm.Client.kwTemp = CP_TEMP_ALL ∧
    Pm.Client.kwBeacon ++ [32, 37, 115] = CP_BEACON ∧ Pm.Client.kwBeacon = CP_BEACON_ALL ∧ Pm.Client.kwDevice ++ [32, 37, 115] = CP_DEVICE ∧ Pm.Client.kwDevice = CP_DEVICE_ALL ∧
    Pm.Client.kwHelp = CP_HELP ∧ Pm.Client.kwNodes = CP_NODES ∧ Pm.Client.kwTelemetry = CP_TELEMETRY ∧ Pm.Client.kwExprange = CP_EXPRANGE ∧ Pm.Client.kwQuit = CP_QUIT := by
  decide +kernel

/-! the model's reply texts are the header's -/
open Pm.Daemon in
theorem proto_agrees :
    codeLine 201 ++ crlf = CP_ERR_UNKNOWN ∧ codeLine 203 ++ crlf = CP_ERR_TOOLONG ∧ codeLine 208 ++ crlf = CP_ERR_CLIBUSY ∧
    codeLine 213 ++ crlf = CP_ERR_UNIMPL ∧ codeLine 101 ++ crlf = CP_RSP_QUIT ∧
    bstr "102 Command completed successfully" ++ crlf = CP_RSP_COM_COMPLETE ∧ bstr "210 Command completed with errors" ++ crlf = CP_ERR_COM_COMPLETE ∧
    bstr "103 Query complete" ++ crlf = CP_RSP_QRY_COMPLETE ∧ bstr "211 Query completed with errors" ++ crlf = CP_ERR_QRY_COMPLETE ∧
    helpText = CP_INFO_HELP ∧ prompt = CP_PROMPT ∧ crlf = CP_EOL := by
  simp only [codeLine, helpText, prompt, ClientPf.bstr_append]
  repeat rw [ClientPf.bstr_chars]
  decide +kernel

end Pm.TablesCheck
