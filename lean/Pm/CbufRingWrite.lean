import Pm.CbufRingGrow
/-! Refinement proof of the index-level cbuf model, the write side: sources, the copy loop of `cbuf_writer` as
byte-wise writes, the metadata update, `cbuf_writer`, `cbuf_write`, `cbuf_write_from_fd`. -/
namespace Pm.CbufRing

/-- sources that never answer short: memory, and a descriptor without scripted short reads -/
def Getter.full : Getter → Prop
  | .mem _ => True
  | .fd s => s.caps = []

/-- what a `getf` call asked for `n` bytes does: it stores the next `k ≤ n` bytes of the source, which moves on by
    `k`, and returns `k` if that is positive and something `≤ 0` otherwise; a source that never answers short hands out
    what was asked for, or all it has, and stays such a source -/
theorem get_spec (g : Getter) (n : Nat) :
    ∃ k, k ≤ n ∧ k ≤ g.pending.length ∧ (g.get n).2.1 = g.pending.take k ∧ (g.get n).2.2.pending = g.pending.drop k ∧
      (0 < k → (g.get n).1 = (k : Nat)) ∧ (k = 0 → (g.get n).1 ≤ 0) ∧
      (g.full → k = min n g.pending.length ∧ (g.get n).2.2.full) := by
  cases g with
  | mem src =>
    refine ⟨min n src.length, Nat.min_le_left .., Nat.min_le_right .., ?_, ?_, fun _ => ?_, fun h => ?_, fun _ => ⟨rfl, trivial⟩⟩
    · exact List.take_eq_take_min
    · show src.drop n = src.drop (min n src.length)
      by_cases h : n ≤ src.length
      · rw [Nat.min_eq_left h]
      · rw [Nat.min_eq_right (by omega), List.drop_eq_nil_of_le (by omega), List.drop_eq_nil_of_le (Nat.le_refl _)]
    · show ((src.take n).length : Int) = _
      rw [List.length_take]
    · show ((src.take n).length : Int) ≤ 0
      rw [List.length_take, h]; exact Int.le_refl 0
  | fd s =>
    simp only [Getter.get, Getter.pending, Getter.full]
    generalize hk : min n (match s.caps with | [] => s.avail.length | c :: _ => min c s.avail.length) = k
    refine ⟨k, by omega, by rw [← hk]; split <;> omega, ?_⟩
    by_cases h0 : k = 0
    · subst h0
      rw [if_pos rfl]
      exact ⟨rfl, rfl, fun h => absurd h (Nat.lt_irrefl 0), fun _ => by split <;> omega,
        fun hc => ⟨by rw [hc] at hk; exact hk.symm, by rw [hc]; rfl⟩⟩
    · rw [if_neg h0]
      exact ⟨rfl, rfl, fun _ => rfl, fun h => absurd h h0, fun hc => ⟨by rw [hc] at hk; exact hk.symm, by rw [hc]; rfl⟩⟩

theorem get_fd (s : Src) (n : Nat) : ∃ s', ((Getter.fd s).get n).2.2 = .fd s' := by
  simp only [Getter.get]
  generalize min n (match s.caps with | [] => s.avail.length | c :: _ => min c s.avail.length) = k
  by_cases h0 : k = 0
  · simp only [h0, ↓reduceIte]; exact ⟨_, rfl⟩
  · simp only [h0, ↓reduceIte]; exact ⟨_, rfl⟩

/-- the copy loop of `cbuf_writer`: from slot `i_dst` with `nleft` bytes to go the loop stores some `d ≤ nleft` bytes, exactly the next `d` bytes of the
    source, byte after byte modulo the array length, whatever the source hands out per call; a source that never answers
    short is read until the request is met or it is empty -/
theorem writerLoop_spec (fuel size : Nat) (s : WLoop)
    (hl : s.data.length = size + 1) (hi : s.i_dst ≤ size) (hf : s.nleft ≤ fuel) :
    ∃ d, d ≤ s.nleft ∧ d ≤ s.g.pending.length ∧ (s.g.full → d = s.nleft ∨ d = s.g.pending.length) ∧
      (writerLoop fuel size s).nleft = s.nleft - d ∧
      (writerLoop fuel size s).data = pokes s.data (size + 1) s.i_dst (s.g.pending.take d) ∧
      (writerLoop fuel size s).i_dst = (s.i_dst + d) % (size + 1) ∧
      (writerLoop fuel size s).g.pending = s.g.pending.drop d ∧
      (d = 0 → (writerLoop fuel size s).m ≤ 0 ∨ (writerLoop fuel size s).m = s.m) := by
  have hstop : s.i_dst = (s.i_dst + 0) % (size + 1) := (Nat.mod_eq_of_lt (Nat.lt_succ_of_le hi)).symm
  induction fuel generalizing s with
  | zero => exact ⟨0, Nat.zero_le _, Nat.zero_le _, fun _ => by omega, rfl, rfl, hstop, rfl, fun _ => Or.inr rfl⟩
  | succ fuel ih =>
    unfold writerLoop
    by_cases hn : s.nleft > 0
    · rw [if_pos hn]
      dsimp only
      generalize hnn : min s.nleft (size + 1 - s.i_dst) = n
      have hn1 : 0 < n := by omega
      have hn2 : n ≤ s.nleft := by omega
      have hn3 : s.i_dst + n ≤ size + 1 := by omega
      clear hnn
      obtain ⟨k, k1, k2, k3, k4, k5, k6, k7⟩ := get_spec s.g n
      generalize s.g.get n = gr at k3 k4 k5 k6 k7
      have k8 : s.g.full → k = n ∨ k = s.g.pending.length := fun hg => by have := (k7 hg).1; omega
      rcases Nat.eq_zero_or_pos k with hk | hk
      · -- nothing came: the loop ends
        have hm := k6 hk
        subst hk
        rw [if_neg (show ¬ gr.1 > 0 by omega), if_pos (show (n : Int) ≠ gr.1 by omega), k3, List.take_zero, blit_nil]
        exact ⟨0, Nat.zero_le _, Nat.zero_le _, fun hg => by have := k8 hg; omega, rfl, rfl, hstop, k4,
          fun _ => Or.inl hm⟩
      · have hm := k5 hk
        have hbl : (s.g.pending.take k).length = k := by rw [List.length_take]; omega
        rw [if_pos (show gr.1 > 0 by omega), k3, hm, Int.toNat_natCast,
          blit_eq_pokes _ (size + 1) _ _ (by rw [hbl]; omega) hl]
        by_cases hkn : k = n
        · -- the whole piece came: next round from the slot after it
          subst hkn
          rw [if_neg (fun hne => hne rfl)]
          obtain ⟨d, d1, d2, d0, d3, d4, d5, d6, _⟩ := ih
            { data := pokes s.data (size + 1) s.i_dst (s.g.pending.take k), i_dst := (s.i_dst + k) % (size + 1),
              nleft := s.nleft - k, m := (k : Nat), g := gr.2.2 }
            (by rw [pokes_length]; exact hl) (Nat.le_of_lt_succ (Nat.mod_lt _ (Nat.succ_pos _))) (by dsimp only; omega)
            (Nat.mod_mod _ _).symm
          dsimp only at d1 d2 d0 d3 d4 d5 d6
          rw [k4] at d2 d0 d4 d6
          rw [List.length_drop] at d2 d0
          refine ⟨k + d, Nat.add_le_of_le_sub' hn2 d1, Nat.add_le_of_le_sub' k2 d2, fun hg => ?_, d3.trans (Nat.sub_sub ..), ?_,
            by rw [d5, Nat.mod_add_mod, Nat.add_assoc], by rw [d6, List.drop_drop], fun h => by omega⟩
          · exact (d0 (k7 hg).2).imp (fun e => by rw [e, Nat.add_sub_cancel' hn2]) (fun e => by rw [e, Nat.add_sub_cancel' k2])
          · rw [d4, List.take_add, pokes_append _ _ _ _ _ (Nat.lt_succ_of_le hi), hbl]
        · -- a short read: the loop ends
          rw [if_pos (show (n : Int) ≠ (k : Nat) by omega)]
          exact ⟨k, by omega, k2, fun hg => by have := k8 hg; omega, rfl, rfl, rfl, k4, fun h => by omega⟩
    · rw [if_neg hn]
      exact ⟨0, Nat.zero_le _, Nat.zero_le _, fun _ => by omega, rfl, rfl, hstop, rfl, fun _ => Or.inr rfl⟩

/-- A valid ring after `bs` was stored byte-wise from `i_in`, with `i_in` moved on by `|bs|` and the other indices set
    to values that fit (`o'` lies `R` slots after `p'` and `d` slots after the old `i_out`, `u'` bytes are unread, `d`
    were overwritten): it is valid, and holds the old unread bytes followed by `bs`, minus the `d` oldest. -/
theorem ValidP.push {r : Ring} (h : ValidP r) (bs : List UInt8) {gw : Bool} {u' o' p' R d : Nat}
    (wrap : gw = true ∨ p' = 0) (rep_le : p' ≤ r.size) (hR : R + u' ≤ r.size) (horep : o' = (p' + R) % (r.size + 1))
    (hout : o' = (r.i_out + d) % (r.size + 1)) (hs : u' + d = r.used + bs.length) (hd : d = 0 ∨ u' = r.size) {w : Ring}
    (hw : w =
      { r with data := pokes r.data (r.size + 1) r.i_in bs, used := u', i_in := (r.i_in + bs.length) % (r.size + 1),
               got_wrap := gw, i_rep := p', i_out := o' }) :
    ValidP w ∧ w.contents = (r.contents ++ bs).drop d := by
  subst hw
  have hv : ValidP
      { r with data := pokes r.data (r.size + 1) r.i_in bs, used := u', i_in := (r.i_in + bs.length) % (r.size + 1),
               got_wrap := gw, i_rep := p', i_out := o' } := by
    refine .of_geom ((pokes_length ..).trans h.len) h.alloc h.size_pos h.min_le h.le_max h.min_pos wrap rep_le R hR horep ?_
    show (r.i_in + bs.length) % (r.size + 1) = (o' + u') % (r.size + 1)
    rw [h.in_eq, hout, Nat.mod_add_mod, Nat.mod_add_mod, Nat.add_assoc, Nat.add_assoc, ← hs, Nat.add_comm u' d]
  refine ⟨hv, ?_⟩
  rw [hv.contents_eq, h.contents_eq]
  show rslice (pokes r.data (r.size + 1) r.i_in bs) (r.size + 1) o' u' = _
  rw [hout, h.in_eq]
  exact rslice_pokes _ bs r.data r.i_out r.used u' d h.len (Nat.lt_succ_of_le h.out_le) (Nat.lt_succ_of_le h.used_le)
    (by omega) hs (by omega)

/-- the "update dst cbuf metadata" block after the bytes `bs` were stored byte-wise from `i_in`: the ring is valid, the
    position assertion holds, and what is unread is the old unread bytes followed by `bs`, minus as many of the oldest as
    do not fit into `size` -/
theorem writerUpdate_spec (r : Ring) (bs : List UInt8) (h : ValidP r) (w : Ring × Bool)
    (hw : writerUpdate { r with data := pokes r.data (r.size + 1) r.i_in bs } ((r.i_in + bs.length) % (r.size + 1))
      bs.length (r.size - r.used) = w) :
    ValidP w.1 ∧ w.2 = true ∧ w.1.contents = (r.contents ++ bs).drop (r.used + bs.length - r.size) ∧
      w.1.used = min (r.used + bs.length) r.size ∧ w.1.size = r.size ∧ w.1.maxsize = r.maxsize ∧
      w.1.minsize = r.minsize ∧ w.1.overwrite = r.overwrite := by
  obtain ⟨R, hR, ho⟩ := h.geom
  have hu := h.used_le
  have hnrepl : (r.i_out + (r.size + 1) - r.i_rep) % (r.size + 1) = R := by
    rw [ho]; exact add_mod_sub _ _ _ h.rep_le (by omega)
  have hrep : ((r.i_in + bs.length) % (r.size + 1) + 1) % (r.size + 1) ≤ r.size := Nat.le_of_lt_succ (Nat.mod_lt _ (Nat.succ_pos _))
  subst hw
  unfold writerUpdate
  dsimp only
  rw [hnrepl]
  by_cases c1 : bs.length > r.size - r.used
  · -- unread bytes are overwritten: `i_out` and `i_rep` follow the write position, the ring is full
    rw [if_pos (show bs.length + R > r.size - r.used by omega), if_pos c1, Nat.min_eq_right (by omega)]
    obtain ⟨v, c⟩ := h.push bs (gw := true) (u' := r.size) (p' := ((r.i_in + bs.length) % (r.size + 1) + 1) % (r.size + 1)) (o' := ((r.i_in + bs.length) % (r.size + 1) + 1) % (r.size + 1)) (R := 0) (d := r.used + bs.length - r.size)
      (wrap := .inl rfl) (rep_le := hrep) (hR := Nat.le_of_eq (Nat.zero_add _)) (horep := (Nat.mod_mod _ _).symm)
      (hout := by
        rw [h.in_eq, Nat.mod_add_mod, Nat.add_assoc, Nat.mod_add_mod,
          show r.i_out + r.used + (bs.length + 1) = r.i_out + (r.used + bs.length - r.size) + (r.size + 1) by omega,
          Nat.add_mod_right])
      (hs := by omega) (hd := .inr rfl) (hw := rfl)
    exact ⟨v, by simp, c, rfl, rfl, rfl, rfl, rfl⟩
  · rw [if_neg c1, Nat.min_eq_left (by omega), show r.used + bs.length - r.size = 0 by omega]
    have hout : r.i_out = (r.i_out + 0) % (r.size + 1) := (Nat.mod_eq_of_lt (Nat.lt_succ_of_le h.out_le)).symm
    by_cases c2 : bs.length + R > r.size - r.used
    · -- only replay bytes are overwritten: `i_rep` follows the write position
      rw [if_pos c2]
      obtain ⟨v, c⟩ := h.push bs (gw := true) (u' := r.used + bs.length) (p' := ((r.i_in + bs.length) % (r.size + 1) + 1) % (r.size + 1)) (R := r.size - (r.used + bs.length)) (d := 0)
        (wrap := .inl rfl) (rep_le := hrep) (hR := by omega)
        (horep := by
          rw [h.in_eq, Nat.mod_add_mod, Nat.mod_add_mod, Nat.add_assoc, Nat.mod_add_mod,
            show r.i_out + r.used + bs.length + (1 + (r.size - (r.used + bs.length))) = r.i_out + (r.size + 1) by omega,
            Nat.add_mod_right]
          exact (Nat.mod_eq_of_lt (Nat.lt_succ_of_le h.out_le)).symm)
        (hout := hout) (hs := rfl) (hd := .inl rfl) (hw := rfl)
      exact ⟨v, by simp, c, rfl, rfl, rfl, rfl, rfl⟩
    · -- the write stays clear of the replay region
      rw [if_neg c2]
      obtain ⟨v, c⟩ := h.push bs (u' := r.used + bs.length) (d := 0) (wrap := h.wrap) (rep_le := h.rep_le) (hR := by omega)
        (horep := ho) (hout := hout) (hs := rfl) (hd := .inl rfl) (hw := rfl)
      exact ⟨v, by simp, c, rfl, rfl, rfl, rfl, rfl⟩

/-- the size after the "attempt to grow" step of `cbuf_writer` asked for `len` bytes -/
def sizeAfter (r : Ring) (len : Nat) : Nat :=
  if len > r.size - r.used ∧ r.size < r.maxsize then grownSize r (len - (r.size - r.used)) else r.size

/-- the growth step of `cbuf_writer` -/
def growStep (r : Ring) (len : Nat) : Ring × Nat × Bool :=
  if len > r.size - r.used ∧ r.size < r.maxsize then grow r (len - (r.size - r.used)) else (r, 0, true)

/-- `cbuf_writer` after the growth step -/
def writerTail (r1 : Ring) (nfree : Nat) (ok : Bool) (len : Nat) (g : Getter) : WOut :=
  match clipLen r1 len with
  | none => { rc := -1, ndropped := 0, ring := r1, g := g, ok := ok }
  | some len =>
    let s := writerLoop len r1.size { data := r1.data, i_dst := r1.i_in, nleft := len, m := 0, g := g }
    if len - s.nleft = 0 then
      { rc := s.m, ndropped := 0, ring := { r1 with data := s.data }, g := s.g, ok := ok && decide (s.nleft ≤ len) }
    else
      { rc := ((len - s.nleft : Nat) : Int), ndropped := len - s.nleft - nfree,
        ring := (writerUpdate { r1 with data := s.data } s.i_dst (len - s.nleft) nfree).1, g := s.g,
        ok := ok && decide (s.nleft ≤ len) && (writerUpdate { r1 with data := s.data } s.i_dst (len - s.nleft) nfree).2 }

theorem writer_eq (r : Ring) (len : Nat) (g : Getter) :
    writer r len g =
      writerTail (growStep r len).1 (r.size - r.used + (growStep r len).2.1) (decide (len > 0) && (growStep r len).2.2) len g := by
  unfold writer writerTail growStep
  rfl

theorem sizeAfter_of_fits (r : Ring) (len : Nat) (h : len ≤ r.size - r.used) : sizeAfter r len = r.size :=
  if_neg fun c => Nat.not_lt.mpr h c.1

theorem sizeAfter_bounds (r : Ring) (len : Nat) (h : ValidP r) : r.size ≤ sizeAfter r len ∧ sizeAfter r len ≤ r.maxsize := by
  unfold sizeAfter
  by_cases c : len > r.size - r.used ∧ r.size < r.maxsize
  · rw [if_pos c]
    have hb := grownSize_bounds r (len - (r.size - r.used)) h (by omega) (by omega)
    exact ⟨Nat.le_of_lt hb.1, hb.2⟩
  · rw [if_neg c]
    exact ⟨Nat.le_refl _, h.le_max⟩

theorem growStep_spec (r : Ring) (len : Nat) (h : ValidP r) :
    Took r 0 (growStep r len).1 ∧ (growStep r len).2.2 = true ∧ (growStep r len).1.size = sizeAfter r len ∧
    r.size - r.used + (growStep r len).2.1 = (growStep r len).1.size - (growStep r len).1.used := by
  unfold growStep sizeAfter
  by_cases c : len > r.size - r.used ∧ r.size < r.maxsize
  · rw [if_pos c, if_pos c]
    obtain ⟨t, g2, g4, g5⟩ := grow_spec r (len - (r.size - r.used)) h (by omega)
    have := t.size_le
    have := h.used_le
    exact ⟨t, g2, g4, by rw [g5, t.used_eq]; omega⟩
  · rw [if_neg c, if_neg c]
    exact ⟨.none h, rfl, rfl, rfl⟩

/-- "compute number of bytes to write" as a function of the overwrite mode, the size, the fill level and the request -/
def clipOf (o : Ovw) (size used len : Nat) : Option Nat :=
  match o with
  | .noDrop => if min len (size - used) = 0 then none else some (min len (size - used))
  | .wrapOnce => some (min len size)
  | .wrapMany => some len

theorem clipLen_eq (r : Ring) (len : Nat) : clipLen r len = clipOf r.overwrite r.size r.used len := by
  unfold clipLen clipOf; rfl

theorem clipOf_some (o : Ovw) (size used len l : Nat) (h : clipOf o size used len = some l) :
    l ≤ len ∧ (0 < size → 0 < len → 0 < l) := by
  unfold clipOf at h
  cases o with
  | noDrop => dsimp only at h; split at h; cases h; injection h with h; omega
  | wrapOnce => dsimp only at h; injection h with h; omega
  | wrapMany => dsimp only at h; injection h with h; omega

/-- `w` is what `cbuf_writer` leaves of the ring `r` and the source `g` when, the ring having size `size'` by then, it
    has stored the next `d` bytes of the source: they are appended to the unread bytes, after which as many of the oldest
    as do not fit into `size'` are gone, and that number is reported as dropped -/
structure Wrote (r : Ring) (size' : Nat) (g : Getter) (d : Nat) (w : WOut) : Prop where
  valid : ValidP w.ring
  ok : w.ok = true
  size : w.ring.size = size'
  maxsize : w.ring.maxsize = r.maxsize
  minsize : w.ring.minsize = r.minsize
  overwrite : w.ring.overwrite = r.overwrite
  contents : w.ring.contents = (r.contents ++ g.pending.take d).drop (r.used + d - size')
  used : w.ring.used = min (r.used + d) size'
  pending : w.g.pending = g.pending.drop d
  ndropped : w.ndropped = r.used + d - size'
  rc_pos : 0 < d → w.rc = (d : Nat)
  rc_zero : d = 0 → w.rc ≤ 0

theorem Wrote.nothing {r : Ring} {g : Getter} {w : WOut} (h : ValidP r) (hr : w.ring = r) (hg : w.g.pending = g.pending)
    (hd : w.ndropped = 0) (hok : w.ok = true) (hrc : w.rc ≤ 0) : Wrote r r.size g 0 w := by
  have hu : r.used - r.size = 0 := Nat.sub_eq_zero_of_le h.used_le
  refine ⟨hr ▸ h, hok, by rw [hr], by rw [hr], by rw [hr], by rw [hr], ?_, ?_, hg, by rw [hd, Nat.add_zero, hu],
    fun hh => absurd hh (Nat.lt_irrefl 0), fun _ => hrc⟩
  · rw [hr, Nat.add_zero, hu, List.take_zero, List.append_nil, List.drop_zero]
  · rw [hr, Nat.add_zero, Nat.min_eq_left h.used_le]

theorem Wrote.unchanged {r : Ring} {size' : Nat} {g : Getter} {w : WOut} (hw : Wrote r size' g 0 w) (hu : r.used ≤ size') :
    w.ring.contents = r.contents ∧ w.g.pending = g.pending ∧ w.ndropped = 0 ∧ w.ring.used = r.used := by
  have h0 : r.used + 0 - size' = 0 := Nat.sub_eq_zero_of_le hu
  refine ⟨?_, hw.pending, hw.ndropped.trans h0, hw.used.trans (Nat.min_eq_left hu)⟩
  rw [hw.contents, h0, List.take_zero, List.append_nil, List.drop_zero]

/-- storing into a ring that holds the same queue as `r` (after `cbuf_grow`) is storing into `r` -/
theorem Wrote.after {r r1 : Ring} {size' : Nat} {g : Getter} {d : Nat} {w : WOut} (hw : Wrote r1 size' g d w) (t : Took r 0 r1) :
    Wrote r size' g d w :=
  { hw with
    maxsize := hw.maxsize.trans t.maxsize, minsize := hw.minsize.trans t.minsize, overwrite := hw.overwrite.trans t.overwrite
    contents := by rw [hw.contents, t.contents, t.used_eq]; rfl
    used := by rw [hw.used, t.used_eq], ndropped := by rw [hw.ndropped, t.used_eq] }

/-- the calls built on `cbuf_writer` check `cbuf_is_valid` before and after -/
theorem Wrote.checked {r : Ring} {size' : Nat} {g : Getter} {d : Nat} {w : WOut} (hw : Wrote r size' g d w) (h : ValidP r) :
    Wrote r size' g d { w with ok := r.valid && w.ok && w.ring.valid } :=
  { hw with ok := by simp [h.valid_true, hw.ok, hw.valid.valid_true] }

theorem Wrote.d_eq {r : Ring} {size' : Nat} {g : Getter} {d : Nat} {w : WOut} (hw : Wrote r size' g d w) : d = w.rc.toNat := by
  rcases Nat.eq_zero_or_pos d with hd | hd
  · rw [hd, Int.toNat_of_nonpos (hw.rc_zero hd)]
  · rw [hw.rc_pos hd, Int.toNat_natCast]

/-- `cbuf_writer` on a valid ring that has already been grown (`nfree = size - used`), any source: it stores some
    `d` bytes, at most the request as clipped by the overwrite mode and at most what the source has; exactly that, if
    the source never answers short -/
theorem writerTail_spec (r1 : Ring) (len : Nat) (g : Getter) (h : ValidP r1) :
    ∃ d, Wrote r1 r1.size g d (writerTail r1 (r1.size - r1.used) true len g) ∧ d ≤ g.pending.length ∧
      d ≤ (clipLen r1 len).getD 0 ∧ (clipLen r1 len = none → (writerTail r1 (r1.size - r1.used) true len g).rc = -1) ∧
      (∀ l, clipLen r1 len = some l → g.full → d = min l g.pending.length) := by
  unfold writerTail
  cases hcl : clipLen r1 len with
  | none =>
    dsimp only
    exact ⟨0, .nothing h rfl rfl rfl rfl (show (-1 : Int) ≤ 0 by decide), Nat.zero_le _, Nat.zero_le _, fun _ => rfl,
      fun _ hh => by cases hh⟩
  | some l =>
    dsimp only
    obtain ⟨d, d1, d2, d0, d3, d4, d5, d6, d7⟩ := writerLoop_spec l r1.size
      { data := r1.data, i_dst := r1.i_in, nleft := l, m := 0, g := g } h.len h.in_le (Nat.le_refl _)
    dsimp only at d1 d2 d0 d3 d4 d5 d6 d7
    generalize writerLoop l r1.size { data := r1.data, i_dst := r1.i_in, nleft := l, m := 0, g := g } = s
      at d3 d4 d5 d6 d7
    rw [show l - s.nleft = d by omega]
    refine ⟨d, ?_, d2, d1, fun hh => (by cases hh), fun l' hl' hg => by injection hl' with hl'; have := d0 hg; omega⟩
    by_cases hd0 : d = 0
    · -- nothing stored: the return value is that of the last `getf` call
      subst hd0
      rw [if_pos rfl]
      exact .nothing h (by rw [d4]; rfl) d6 rfl (by simp [d3]) (show s.m ≤ 0 by rcases d7 rfl with h1 | h1 <;> omega)
    · rw [if_neg hd0, d4, d5]
      have hlen : (g.pending.take d).length = d := by rw [List.length_take]; omega
      obtain ⟨u1, u2, u3, u4, u5, u6, u7, u8⟩ := writerUpdate_spec r1 (g.pending.take d) h _ rfl
      rw [hlen] at u1 u2 u3 u4 u5 u6 u7 u8
      exact ⟨u1, by simp [d3, u2], u5, u6, u7, u8, u3, u4, d6, by dsimp only; have := h.used_le; omega,
        fun _ => rfl, fun hh => absurd hh hd0⟩

/-- `cbuf_writer (dst, len, getf, src, &ndropped)` on a valid ring with `len > 0`, any source.
    The ring stays valid, no assertion fires; the size afterwards is `sizeAfter` (the buffer grows *before* anything is
    read, whatever the source then delivers); limits and mode do not change.  Some `d` bytes are stored (`Wrote`): at most
    the request as clipped by the overwrite mode, exactly the next `d` bytes of the source, appended to the unread bytes,
    minus as many of the *oldest* as do not fit into the new size, that number being reported as dropped.  The return
    value is `d` if that is positive, otherwise `≤ 0` (source empty / error), -1 for `ENOSPC` in mode `NO_DROP`.  A source
    that never answers short delivers the clipped request or all it has. -/
theorem writer_spec (r : Ring) (len : Nat) (g : Getter) (h : ValidP r) (hl : 0 < len) :
    ∃ d, Wrote r (sizeAfter r len) g d (writer r len g) ∧ d ≤ g.pending.length ∧
      d ≤ (clipOf r.overwrite (sizeAfter r len) r.used len).getD 0 ∧
      (clipOf r.overwrite (sizeAfter r len) r.used len = none → (writer r len g).rc = -1) ∧
      (∀ l, clipOf r.overwrite (sizeAfter r len) r.used len = some l → g.full → d = min l g.pending.length) := by
  obtain ⟨t, g2, g4, g5⟩ := growStep_spec r len h
  rw [writer_eq, g5, g2, decide_eq_true hl, Bool.and_self]
  obtain ⟨d, w1, t1, t2, t3, t4⟩ := writerTail_spec (growStep r len).1 len g t.valid
  generalize writerTail (growStep r len).1 _ true len g = w at w1 t3 ⊢
  rw [clipLen_eq, t.overwrite, g4, t.used_eq] at t2 t3 t4
  exact ⟨d, g4 ▸ w1.after t, t1, t2, t3, t4⟩

theorem writerLoop_fd (fuel size : Nat) (st : WLoop) (hs : ∃ s0, st.g = .fd s0) : ∃ s', (writerLoop fuel size st).g = .fd s' := by
  induction fuel generalizing st with
  | zero => exact hs
  | succ fuel ih =>
    obtain ⟨s0, hs0⟩ := hs
    unfold writerLoop
    by_cases hn : st.nleft > 0
    · rw [if_pos hn]
      obtain ⟨s1, hs1⟩ := get_fd s0 (min st.nleft (size + 1 - st.i_dst))
      rw [← hs0] at hs1
      dsimp only
      split
      · split <;> exact ⟨s1, hs1⟩
      · apply ih
        split <;> exact ⟨s1, hs1⟩
    · rw [if_neg hn]; exact ⟨s0, hs0⟩

theorem writer_fd (r : Ring) (len : Nat) (s : Src) : ∃ s', (writer r len (.fd s)).g = .fd s' := by
  rw [writer_eq]
  unfold writerTail
  split
  · exact ⟨s, rfl⟩
  · rename_i l _
    obtain ⟨s', hs'⟩ := writerLoop_fd l (growStep r len).1.size
      { data := (growStep r len).1.data, i_dst := (growStep r len).1.i_in, nleft := l, m := 0, g := .fd s } ⟨s, rfl⟩
    dsimp only
    split <;> exact ⟨s', hs'⟩

/-- `cbuf_write (dst, srcbuf, len, &ndropped)` on a valid ring, for every byte string and every overwrite mode: `Wrote`,
    after the buffer grew to `sizeAfter` (= `Pm.Cbuf.growTo`, capped at `maxsize`), with `d` the length as clipped by the
    mode (`WRAP_MANY`: all of it; `WRAP_ONCE`: at most `size`; `NO_DROP`: at most the free space — and -1/`ENOSPC` if that
    is nothing); memory never answers short. -/
theorem write_spec (r : Ring) (src : List UInt8) (h : ValidP r) :
    ∃ d, Wrote r (sizeAfter r src.length) (.mem src) d (write r src) ∧
      (clipOf r.overwrite (sizeAfter r src.length) r.used src.length = none → d = 0 ∧ (src ≠ [] → (write r src).rc = -1)) ∧
      (∀ l, clipOf r.overwrite (sizeAfter r src.length) r.used src.length = some l → d = l ∧ (write r src).rc = (l : Nat)) := by
  unfold write
  by_cases h0 : src.length = 0
  · -- `cbuf_write` returns at once
    rw [if_pos h0, sizeAfter_of_fits r src.length (by omega)]
    refine ⟨0, .nothing h rfl rfl rfl rfl (Int.le_refl 0), fun _ => ⟨rfl, fun hh => absurd (List.length_eq_zero_iff.mp h0) hh⟩,
      fun l hl => ?_⟩
    obtain rfl : l = 0 := by have := (clipOf_some _ _ _ _ _ hl).1; omega
    exact ⟨rfl, rfl⟩
  · rw [if_neg h0]
    obtain ⟨d, w, _, d2, d3, d4⟩ := writer_spec r src.length (.mem src) h (by omega)
    refine ⟨d, w.checked h, fun hc => ⟨by rw [hc] at d2; exact Nat.le_zero.mp d2, fun _ => d3 hc⟩, fun l hc => ?_⟩
    have hl := clipOf_some _ _ _ _ _ hc
    obtain rfl : d = l := (d4 l hc trivial).trans (Nat.min_eq_left hl.1)
    exact ⟨rfl, w.rc_pos (hl.2 (Nat.lt_of_lt_of_le h.size_pos (sizeAfter_bounds r src.length h).1) (by omega))⟩

/-- the number of bytes `cbuf_write_from_fd` asks the descriptor for: the free space, a chunk when there is none (`len`
    = -1), or `len` -/
def fdLen (r : Ring) (len : Int) : Nat :=
  if len = -1 then (if r.size - r.used = 0 then chunk else r.size - r.used) else len.toNat

/-- `cbuf_write_from_fd` with a length it accepts and that is not 0 is `cbuf_writer` between two `cbuf_is_valid` -/
theorem writeFromFd_eq (r : Ring) (len : Int) (s : Src) (h1 : ¬ len < -1) (h2 : 0 < fdLen r len) :
    writeFromFd r len s =
      { writer r (fdLen r len) (.fd s) with
        ok := r.valid && (writer r (fdLen r len) (.fd s)).ok && (writer r (fdLen r len) (.fd s)).ring.valid } := by
  unfold writeFromFd
  rw [if_neg h1]
  exact if_pos h2

theorem writeFromFd_refused (r : Ring) (len : Int) (s : Src) (h : len < -1) :
    writeFromFd r len s = { rc := -1, ndropped := 0, ring := r, g := .fd s, ok := true } := by
  unfold writeFromFd; exact if_pos h

/-- `cbuf_write_from_fd (dst, fd, len, &ndropped)` on a valid ring with a length it accepts, whatever the descriptor hands
    out per `read` call (short reads, `EAGAIN`, end of file): `Wrote`, after the buffer grew to `sizeAfter r (fdLen r len)`
    *before* the first `read`; the return value, when positive, is the number of bytes stored: at most the request and at most
    what the descriptor has. -/
theorem writeFromFd_spec (r : Ring) (len : Int) (s : Src) (h : ValidP r) (hl : -1 ≤ len) :
    Wrote r (sizeAfter r (fdLen r len)) (.fd s) (writeFromFd r len s).rc.toNat (writeFromFd r len s) ∧
    (writeFromFd r len s).rc.toNat ≤ s.avail.length ∧ (writeFromFd r len s).rc.toNat ≤ fdLen r len := by
  suffices ∃ d, Wrote r (sizeAfter r (fdLen r len)) (.fd s) d (writeFromFd r len s) ∧ d ≤ s.avail.length ∧ d ≤ fdLen r len by
    obtain ⟨d, w, d1, d2⟩ := this
    rw [← w.d_eq]
    exact ⟨w, d1, d2⟩
  have h1 : ¬ len < -1 := Int.not_lt.mpr hl
  by_cases h2 : 0 < fdLen r len
  · rw [writeFromFd_eq r len s h1 h2]
    obtain ⟨d, w, d1, d2, _, _⟩ := writer_spec r (fdLen r len) (.fd s) h h2
    refine ⟨d, w.checked h, d1, ?_⟩
    cases hc : clipOf r.overwrite (sizeAfter r (fdLen r len)) r.used (fdLen r len) with
    | none => rw [hc] at d2; exact Nat.le_trans d2 (Nat.zero_le _)
    | some l => rw [hc] at d2; exact Nat.le_trans d2 (clipOf_some _ _ _ _ _ hc).1
  · have e : writeFromFd r len s = { rc := 0, ndropped := 0, ring := r, g := .fd s, ok := r.valid } := by
      unfold writeFromFd; rw [if_neg h1]; exact if_neg h2
    rw [e, sizeAfter_of_fits r (fdLen r len) (by omega)]
    exact ⟨0, .nothing h rfl rfl rfl h.valid_true (Int.le_refl 0), Nat.zero_le _, Nat.zero_le _⟩

/-- The tie to the abstract sizing rule of the daemon model (`Pm.Cbuf.readPlan`): for the call the daemon makes,
    `cbuf_write_from_fd (cb, fd, -1, &dropped)` in the default mode `CBUF_WRAP_MANY`, on a descriptor that hands out what it
    has (`avail` bytes, no scripted short reads), the ring's size afterwards, the number of bytes read and the number
    reported dropped are exactly `readPlan size used maxsize |avail|`. -/
theorem writeFromFd_readPlan (r : Ring) (s : Src) (h : ValidP r) (hm : r.overwrite = .wrapMany) (hc : s.caps = []) :
    (writeFromFd r (-1) s).ring.size = (Pm.Cbuf.readPlan r.size r.used r.maxsize s.avail.length).2.1 ∧
    (0 < (Pm.Cbuf.readPlan r.size r.used r.maxsize s.avail.length).1 →
      (writeFromFd r (-1) s).rc = ((Pm.Cbuf.readPlan r.size r.used r.maxsize s.avail.length).1 : Nat) ∧
      (writeFromFd r (-1) s).ndropped = (Pm.Cbuf.readPlan r.size r.used r.maxsize s.avail.length).2.2) ∧
    ((Pm.Cbuf.readPlan r.size r.used r.maxsize s.avail.length).1 = 0 →
      (writeFromFd r (-1) s).rc ≤ 0 ∧ (writeFromFd r (-1) s).ndropped = 0) := by
  have hlen : fdLen r (-1) = (if r.size - r.used = 0 then chunk else r.size - r.used) := if_pos rfl
  have hlpos : 0 < fdLen r (-1) := by
    rw [hlen]; split
    · decide
    · omega
  have hplan : Pm.Cbuf.readPlan r.size r.used r.maxsize s.avail.length =
      (min (fdLen r (-1)) s.avail.length, sizeAfter r (fdLen r (-1)),
        min (fdLen r (-1)) s.avail.length - (sizeAfter r (fdLen r (-1)) - r.used)) := by
    unfold Pm.Cbuf.readPlan sizeAfter
    dsimp only
    rw [hlen, show Pm.Cbuf.chunk = chunk from rfl]
    simp only [grownSize_eq_growTo r _ h]
    by_cases hz : r.size - r.used = 0
    · simp [hz]
    · simp [hz]
  have hu := h.used_le
  have hsa := (sizeAfter_bounds r (fdLen r (-1)) h).1
  rw [hplan, writeFromFd_eq r (-1) s (by decide) hlpos]
  dsimp only
  obtain ⟨d, w, _, _, _, d4⟩ := writer_spec r (fdLen r (-1)) (.fd s) h hlpos
  obtain rfl := d4 (fdLen r (-1)) (by rw [hm]; rfl) hc
  refine ⟨w.size, fun hp => ⟨w.rc_pos hp, ?_⟩, fun hz => ⟨w.rc_zero hz, ?_⟩⟩
  · rw [w.ndropped]
    show r.used + min (fdLen r (-1)) s.avail.length - _ = _
    omega
  · rw [w.ndropped]
    show r.used + min (fdLen r (-1)) s.avail.length - _ = 0
    omega

end Pm.CbufRing
