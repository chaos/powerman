import Pm.Signal
import Pm.Dev2Fd
import Pm.Dev2Timer
import Pm.Shutdown
import Pm.WalkProof
import Pm.StdioCli
/-! # C20 — no resource leaks: descriptors and coprocess children

Scope: first the connection layer of one device (`device.c:_connect/_disconnect/_reconnect/_handle_ready_device/
_process_action/dev_post_poll`, `device_tcp.c`, `device_pipe.c`) on the mirror `Pm/Dev2.lean`, for every device,
queue, script, oracle answer, kernel answer and fuel; no theorem there needs a "the pass did not abort" hypothesis.  Then, on
`Pm/Daemon.lean`: the shutdown (`teardown`), termination by a signal (`Pm/Signal.lean`), the clients' descriptors over a daemon
pass, and the two descriptors of the `--stdio` client (`Pm/StdioCli.lean`).

How it is organised (`Pm/Dev2Fd.lean`): seen through (descriptor, connection state, child pid) and the system-call log,
every function of the layer performs a sequence (`Moves`) of nine kinds of move (`Tr`: nothing / a C assert from a
state where `fd` and `connect_state` disagree / tcp open / tcp open-and-fail / coprocess open / finish connect /
finish-connect fails / disconnect / the `finish_connect != NULL` assert on a coprocess device that is CONNECTING); the
invariants and the two ledgers are checked against the nine moves once
(`Keeps`).  A host with several addresses (`tcp->addrs`): `tcp_connect` and `tcp_finish_connect` walk the list — one
`tcp open-and-fail` move per address that fails, then at most one `tcp open` (`connectWalk_moves`); the log of a walk is
spelt out in `C20_fd_ledger_walk`.

Ranking, connection layer: the state invariants ▸ they are kept by every function ▸ the descriptor ledger (no double close, no leak) ▸
the child ledger (no kill of a foreign pid, every signalled child reaped, no zombie) ▸ the same as count equations. -/
namespace Pm.Props.C20
open Pm.Dev2
open Pm.Dev2.Fd

/-! ## the invariants -/

/-- the state `dev_create` leaves a device in (`fd = NO_FD`, `DEV_NOT_CONNECTED`, no child) satisfies all three -/
theorem C20_invariants_hold_initially (d : Dev) (h0 : d.conn = 0) (hf : d.fd = none) (hc : d.cpid = none) :
    FdInv d ∧ ChildInv d ∧ ConnRange d := by
  simp [FdInv, ChildInv, ConnRange, h0, hf, hc]

/-- non-vacuity: a connected tcp device and a connected coprocess device satisfy them -/
example : FdInv exTcp ∧ ChildInv exTcp ∧ ConnRange exTcp := by simp [FdInv, ChildInv, ConnRange, exTcp, exDev]
example : FdInv exPipe ∧ ChildInv exPipe ∧ ConnRange exPipe := by simp [FdInv, ChildInv, ConnRange, exPipe, exDev]

/-- `dev->fd != NO_FD` exactly when `connect_state != DEV_NOT_CONNECTED`: kept by a whole `dev_post_poll` pass -/
theorem C20_fd_inv_preserved (d : Dev) (env : Env) (o : Oracle) (h : FdInv d) : FdInv (postPoll d env o).1.dev :=
  (postPoll_moves d env o).keeps_all.fdInv h

/-- a child pid is recorded exactly for a connected coprocess device, and a coprocess device is never CONNECTING:
    kept by a whole `dev_post_poll` pass -/
theorem C20_child_inv_preserved (d : Dev) (env : Env) (o : Oracle) (h : ChildInv d) : ChildInv (postPoll d env o).1.dev :=
  (postPoll_moves d env o).keeps_all.childInv h

/-- `connect_state` stays one of the three enum values -/
theorem C20_conn_range_preserved (d : Dev) (env : Env) (o : Oracle) (h : ConnRange d) : ConnRange (postPoll d env o).1.dev :=
  (postPoll_moves d env o).keeps_all.connRange h

/-- the transport kind never changes -/
theorem C20_transport_fixed (d : Dev) (env : Env) (o : Oracle) : (postPoll d env o).1.dev.isPipe = d.isPipe :=
  (postPoll_moves d env o).isPipe

/-- `ChildInv`'s third conjunct — a coprocess device is never CONNECTING — is what `_handle_ready_device` asserts
    (`assert(dev->finish_connect != NULL)`: only a tcp device has the method).  A coprocess device put in state CONNECTING
    satisfies the first two conjuncts; POLLOUT takes it to that assert: the daemon is gone, the device is as it was.
    (Without the assert such a device would run through `tcp_finish_connect` and end NOT_CONNECTED with the child still
    recorded: the two-conjunct version is not inductive.) -/
theorem C20_pipe_connecting_asserts :
    let d := exPipeConnecting
    let r := (handleReady ⟨d, exEnvRefused, [], false⟩).1
    ((d.cpid.isSome = true → d.isPipe = true ∧ d.conn ≠ 0) ∧ (d.isPipe = true → d.conn ≠ 0 → d.cpid.isSome = true)) ∧
    ¬ ChildInv d ∧ r.aborted = true ∧
    (match r.sys with | [Sys.abort s] => s == "assert finish_connect != NULL" | _ => false) = true ∧
    r.dev.fd = d.fd ∧ r.dev.conn = d.conn ∧ r.dev.cpid = d.cpid := by
  unfold ChildInv; decide +kernel

/-- under `ChildInv` that assert is never reached: a coprocess device is not CONNECTING when `_handle_ready_device` looks -/
theorem C20_finish_connect_assert_unreachable (d : Dev) (h : ChildInv d) : ¬ (d.isPipe = true ∧ d.conn = 1) :=
  fun ⟨hp, h1⟩ => h.2.2 hp h1

/-! ## every function of the layer is a sequence of legal moves, hence keeps everything in `Keeps`

`Keeps c c'` (see `Pm/Dev2Fd.lean`) is: transport kind unchanged; `FdInv`, `ChildInv`, `ConnRange` each kept; no C
assert logged if `FdInv` held and none was logged; the descriptor audit of the log still succeeds and ends with the
descriptor held; the child audit of the log still succeeds (given `ChildInv`) and ends with the child recorded. -/

/-- the bridge: whatever is reached by legal moves keeps all of the above -/
theorem C20_moves_keep (c c' : CS) (h : Moves c c') : Keeps c c' := h.keeps_all

/-- `tcp_connect` (tcp device, called in state NOT_CONNECTED as `_reconnect` does) -/
theorem C20_tcpConnect (c : CS) (hp : c.dev.isPipe = false) (h0 : c.dev.conn = 0) : Moves c (tcpConnect c).1 :=
  tcpConnect_moves c hp h0
/-- `pipe_connect` (coprocess device, called in state NOT_CONNECTED) -/
theorem C20_pipeConnect (c : CS) (hp : c.dev.isPipe = true) (h0 : c.dev.conn = 0) : Moves c (pipeConnect c).1 :=
  pipeConnect_moves c hp h0
/-- `_connect` (called in state NOT_CONNECTED) -/
theorem C20_connectDev (c : CS) (h0 : c.dev.conn = 0) : Moves c (connectDev c) := connectDev_moves c h0
/-- `_disconnect` -/
theorem C20_disconnectDev (c : CS) : Moves c (disconnectDev c) := disconnectDev_moves c
/-- `_reconnect` -/
theorem C20_reconnectDev (c : CS) (tmo : Option Time) : Moves c (reconnectDev c tmo).1 := reconnectDev_moves c tmo
/-- `_handle_ready_device` (called, as `dev_post_poll` does, only when a descriptor is held) -/
theorem C20_handleReady (c : CS) (hfd : c.dev.fd.isSome = true) : Moves c (handleReady c).1 := handleReady_moves c hfd
/-- the error branch of `_process_action` -/
theorem C20_failAll (rest : List Action) (c : CS) (a : Action) (o : Oracle) (out : List Out) (tmo : Option Time) :
    Moves c (failAll rest c a o out tmo).1 := failAll_moves rest c a o out tmo
/-- the timeout branch of `_process_action` -/
theorem C20_onTimeout (rest : List Action) (c : CS) (a : Action) (o : Oracle) (out : List Out) (tmo : Option Time) :
    Moves c (onTimeout rest c a o out tmo).1 := onTimeout_moves rest c a o out tmo
/-- the statement-running branch of `_process_action`, with the rest of the loop as a parameter -/
theorem C20_onRun (k : CS → Oracle → List Out → Option Time → PA) (rest : List Action) (c : CS) (a : Action)
    (o : Oracle) (out : List Out) (tmo : Option Time) (left : Time)
    (hk : ∀ c' o' out' tmo', Moves c' (k c' o' out' tmo').1) : Moves c (onRun k rest c a o out tmo left).1 :=
  onRun_moves k rest c a o out tmo left hk
/-- the hypothesis on `k` is what the induction on the fuel supplies -/
example (fuel : Nat) : ∀ c' o' out' tmo', Moves c' (processActionF fuel c' o' out' tmo').1 := processActionF_moves fuel
/-- `_process_action`, every fuel -/
theorem C20_processActionF (fuel : Nat) (c : CS) (o : Oracle) (out : List Out) (tmo : Option Time) :
    Moves c (processActionF fuel c o out tmo).1 := processActionF_moves fuel c o out tmo
/-- `_process_action` with the fuel the pass really uses -/
theorem C20_processAction (c : CS) (o : Oracle) (out : List Out) (tmo : Option Time) :
    Moves c (processAction c o out tmo).1 := processAction_moves c o out tmo
/-- `dev_post_poll` -/
theorem C20_postPoll (d : Dev) (env : Env) (o : Oracle) : Moves { dev := d, env := env, sys := [] } (postPoll d env o).1 :=
  postPoll_moves d env o

/-- script statements never touch descriptor, connection state, child pid or transport kind -/
theorem C20_statements_leave_link_alone (now : Time) (fuel : Nat) (d : Dev) (a : Action) (o : Oracle) (acc : List Out) :
    SameFd d (innerLoop now fuel d a o acc).dev := (innerLoop_soft now fuel d a o acc).sameFd

/-- `_handle_ready_device` keeps the three state invariants also when called without a descriptor (it then stops at
    its assert without touching the device) -/
theorem C20_handleReady_invariants (c : CS) :
    (FdInv c.dev → FdInv (handleReady c).1.dev) ∧ (ChildInv c.dev → ChildInv (handleReady c).1.dev) ∧
    (ConnRange c.dev → ConnRange (handleReady c).1.dev) :=
  ⟨handleReady_keeps_dev stepInv_fdInv c, handleReady_keeps_dev stepInv_childInv c, handleReady_keeps_dev stepInv_connRange c⟩

/-! ### below `tcp_connect` the descriptor invariant is suspended

`tcp_connect` sets `connect_state = DEV_CONNECTING` before `tcp_connect_one` calls `socket()` and resets it after a
failure, so `FdInv` is not a property of `tcp_connect_one` taken alone; what holds is its contract. -/

/-- `tcp_connect_one` taken alone does not keep `FdInv` (EINPROGRESS from NOT_CONNECTED: descriptor held, state still
    NOT_CONNECTED — `tcp_connect` has set CONNECTING beforehand in the real call) -/
theorem C20_connectOne_alone_counterexample :
    let c : CS := ⟨exDev, exEnv, [], false⟩
    FdInv c.dev ∧ ¬ FdInv (connectOne c).1.dev := by
  unfold FdInv; decide

/-- `tcp_connect_one` as `tcp_connect` calls it (no descriptor, state already CONNECTING): on success the invariant
    holds again; on failure no descriptor is held and the state is left for `tcp_connect` to reset -/
theorem C20_connectOne_contract (c : CS) (hfd : c.dev.fd = none) (h0 : c.dev.conn ≠ 0) :
    ((connectOne c).2 = true → FdInv (connectOne c).1.dev) ∧
    ((connectOne c).2 = false → (connectOne c).1.dev.fd = none ∧ (connectOne c).1.dev.conn = c.dev.conn) :=
  connectOne_contract c hfd h0

example : ({ exDev with conn := 1 } : Dev).fd = none ∧ ({ exDev with conn := 1 } : Dev).conn ≠ 0 := by decide

/-- `tcp_finish_connect_one` with a descriptor held in a state other than NOT_CONNECTED (both call sites) -/
theorem C20_finishConnectOne_fdInv (c : CS) (hfd : c.dev.fd.isSome = true) (h0 : c.dev.conn ≠ 0) :
    FdInv (finishConnectOne c).1.dev := finishConnectOne_fdInv c hfd h0

example : ({ exDev with conn := 1, fd := some 7 } : Dev).fd.isSome = true ∧ ({ exDev with conn := 1, fd := some 7 } : Dev).conn ≠ 0 := by
  decide

/-- both keep `ChildInv` on a tcp device -/
theorem C20_tcp_helpers_childInv (c : CS) (hp : c.dev.isPipe = false) (h : ChildInv c.dev) :
    ChildInv (finishConnectOne c).1.dev ∧ ChildInv (connectOne c).1.dev :=
  ⟨finishConnectOne_childInv c hp h, connectOne_childInv c hp h⟩

/-! ## the descriptor ledger

`fdRun held log` replays the log on the list of open descriptors: `socket`/`socketpair` add, `close fd` removes one
occurrence of `fd` and *fails* if there is none. -/

/-- over one `dev_post_poll` pass, replaying the system-call log from the descriptor held at the start succeeds — no
    `close` is ever issued for a descriptor that is not open at that moment — and ends with exactly the descriptor
    the device holds at the end: nothing opened in the pass is left open and forgotten.  No hypothesis on the device. -/
theorem C20_fd_ledger (d : Dev) (env : Env) (o : Oracle) :
    fdRun d.fd.toList (postPoll d env o).1.sys = some (postPoll d env o).1.dev.fd.toList :=
  (postPoll_moves d env o).keeps_all.fdLedger d.fd.toList rfl

/-- the same as a count equation, per descriptor number: held before + opened = closed + held after -/
theorem C20_fd_balance (d : Dev) (env : Env) (o : Oracle) (n : Nat) :
    d.fd.toList.count n + (opened (postPoll d env o).1.sys).count n
      = (closed (postPoll d env o).1.sys).count n + (postPoll d env o).1.dev.fd.toList.count n :=
  fdRun_count _ _ _ (C20_fd_ledger d env o) n

/-- no double close: at every `close fd` in the log, `fd` was held at the start or opened earlier in the pass more
    often than it has been closed so far -/
theorem C20_no_double_close (d : Dev) (env : Env) (o : Oracle) (p r : List Sys) (fd : Nat)
    (h : (postPoll d env o).1.sys = p ++ Sys.close fd :: r) :
    (closed p).count fd < d.fd.toList.count fd + (opened p).count fd :=
  fdRun_close_held p r fd _ _ (h ▸ C20_fd_ledger d env o)

/-- non-vacuity: the hang-up pass on the tcp device starts with `close 2000` -/
example : ∃ p r, (postPoll exTcp exEnv ⟨[]⟩).1.sys = p ++ Sys.close 2000 :: r := ⟨[], [Sys.socket 2001, Sys.connect 1], rfl⟩

/-- a pass that ends NOT_CONNECTED (with `FdInv`: no descriptor) has closed everything it held or opened -/
theorem C20_no_descriptor_leak (d : Dev) (env : Env) (o : Oracle) (h : FdInv d) (h0 : (postPoll d env o).1.dev.conn = 0)
    (n : Nat) : (closed (postPoll d env o).1.sys).count n = d.fd.toList.count n + (opened (postPoll d env o).1.sys).count n := by
  have hb := C20_fd_balance d env o n
  have : (postPoll d env o).1.dev.fd = none := (C20_fd_inv_preserved d env o h).mpr h0
  rw [this] at hb; simp at hb; omega

/-- non-vacuity: hang-up, then the new `connect` fails at once — 2000 and the new socket 2001 both closed -/
example : FdInv exTcp ∧ (postPoll exTcp exEnvFail ⟨[]⟩).1.dev.conn = 0 ∧
    opened (postPoll exTcp exEnvFail ⟨[]⟩).1.sys = [2001] ∧ closed (postPoll exTcp exEnvFail ⟨[]⟩).1.sys = [2000, 2001] := by
  unfold FdInv; decide

/-- **The descriptor ledger over the address walk: every socket opened for an address that fails is closed before the next
    address is tried.**  `WalkLog δ fd`: the log `δ` consists, for every address that failed, of its `socket x`, entries that
    neither open nor close anything (`connect`, `SO_ERROR`), and the `close x` of that very socket — and only then the next
    address; at the end possibly one socket that stays open, which is then the descriptor `fd` the device holds.
    1. The walk (`while (tcp->cur && !tcp_connect_one(dev, tcp->cur)) tcp->cur = tcp->cur->ai_next`), entered without a
       descriptor (as `tcp_connect` enters it, and `tcp_finish_connect` after its `close`), appends such a log.
    2. Replayed from no open descriptor such a log never closes a descriptor that is not open, and leaves open exactly `fd`.
    3. At every `socket()` of the walk all sockets opened earlier in the walk have been closed: never two at once.
    4. So for `tcp_connect` (NOT_CONNECTED, no descriptor) and for the failure path of `tcp_finish_connect` (which first closes
       the pending socket — `closeOf`) the ledger holds from start to end.
    (Over whole passes: `C20_fd_ledger`, which needs no hypothesis.) -/
theorem C20_fd_ledger_walk :
    (∀ (n : Nat) (c : CS), c.dev.fd = none →
      ∃ δ, (connectWalk n c).sys = c.sys ++ δ ∧ Pm.Dev2.Walk.WalkLog δ (connectWalk n c).dev.fd) ∧
    (∀ (δ : List Sys) (fd : Option Nat), Pm.Dev2.Walk.WalkLog δ fd → fdRun [] δ = some fd.toList) ∧
    (∀ (δ : List Sys) (fd : Option Nat), Pm.Dev2.Walk.WalkLog δ fd →
      ∀ (p r : List Sys) (x : Nat), δ = p ++ Sys.socket x :: r → fdRun [] p = some []) ∧
    (∀ c : CS, c.dev.conn = 0 → c.dev.fd = none →
      ∃ δ, (tcpConnect c).1.sys = c.sys ++ δ ∧ Pm.Dev2.Walk.WalkLog δ (tcpConnect c).1.dev.fd) ∧
    (∀ c : CS, (∃ i, c.dev.cur = some i) →
      ∃ δ, (finishConnectFail c).sys = c.sys ++ closeOf c.dev.fd ++ δ ∧ Pm.Dev2.Walk.WalkLog δ (finishConnectFail c).dev.fd) := by
  refine ⟨Pm.Dev2.Walk.connectWalk_log, fun δ fd h => h.ledger, fun δ fd h => h.one_at_a_time, ?_, ?_⟩
  · exact fun c h0 hfd => Pm.Dev2.Walk.tcpConnect_log c h0 hfd
  · exact fun c ⟨i, hi⟩ => Pm.Dev2.Walk.finishConnectFail_log c i hi

/-- non-vacuity: three addresses, the first two fail at once, the third is in progress: sockets 2000 and 2001 are opened and
    closed one after the other, 2002 stays — the device's descriptor; with every address failing, all three are closed -/
example : opened (tcpConnect ⟨Pm.Dev2.Walk.ex3, Pm.Dev2.Walk.env221, [], false⟩).1.sys = [2000, 2001, 2002] ∧
    closed (tcpConnect ⟨Pm.Dev2.Walk.ex3, Pm.Dev2.Walk.env221, [], false⟩).1.sys = [2000, 2001] ∧
    (tcpConnect ⟨Pm.Dev2.Walk.ex3, Pm.Dev2.Walk.env221, [], false⟩).1.sys.length = 8 ∧
    (tcpConnect ⟨Pm.Dev2.Walk.ex3, Pm.Dev2.Walk.env221, [], false⟩).1.dev.fd = some 2002 ∧
    closed (tcpConnect ⟨Pm.Dev2.Walk.ex3, Pm.Dev2.Walk.env222, [], false⟩).1.sys = [2000, 2001, 2002] ∧
    (tcpConnect ⟨Pm.Dev2.Walk.ex3, Pm.Dev2.Walk.env222, [], false⟩).1.dev.fd = none := by decide +kernel
/-- … and a whole pass: POLLOUT on the pending socket 2000 (first address), `SO_ERROR` says refused; 2000 is closed, the second
    address connects at once (socket 2001, clean `SO_ERROR`): CONNECTED on address 2, login queued -/
example :
    let d : Dev := { Pm.Dev2.Walk.ex3 with conn := 1, fd := some 2000 }
    opened (postPoll d Pm.Dev2.Walk.envFin ⟨[]⟩).1.sys = [2001] ∧ closed (postPoll d Pm.Dev2.Walk.envFin ⟨[]⟩).1.sys = [2000] ∧
    (postPoll d Pm.Dev2.Walk.envFin ⟨[]⟩).1.dev.fd = some 2001 ∧ (postPoll d Pm.Dev2.Walk.envFin ⟨[]⟩).1.dev.conn = 2 ∧
    (postPoll d Pm.Dev2.Walk.envFin ⟨[]⟩).1.dev.cur = some 1 ∧ (postPoll d Pm.Dev2.Walk.envFin ⟨[]⟩).1.aborted = false := by decide +kernel

/-- the ledger for the single functions, in invariant form (the log may already contain earlier calls of the pass) -/
theorem C20_fd_ledger_steps (c : CS) (tmo : Option Time) (held0 : List Nat)
    (h : fdRun held0 c.sys = some c.dev.fd.toList) :
    (c.dev.conn = 0 → fdRun held0 (connectDev c).sys = some (connectDev c).dev.fd.toList) ∧
    fdRun held0 (disconnectDev c).sys = some (disconnectDev c).dev.fd.toList ∧
    fdRun held0 (reconnectDev c tmo).1.sys = some (reconnectDev c tmo).1.dev.fd.toList ∧
    (c.dev.fd.isSome = true → fdRun held0 (handleReady c).1.sys = some (handleReady c).1.dev.fd.toList) :=
  ⟨fun h0 => (connectDev_moves c h0).keeps_all.fdLedger _ h, (disconnectDev_moves c).keeps_all.fdLedger _ h,
   (reconnectDev_moves c tmo).keeps_all.fdLedger _ h, fun hfd => (handleReady_moves c hfd).keeps_all.fdLedger _ h⟩

example : fdRun [2000] ([] : List Sys) = some exTcp.fd.toList := by decide

/-- non-vacuity: hang-up on the connected tcp device — descriptor 2000 closed, 2001 opened and held, nothing aborted -/
example : opened (postPoll exTcp exEnv ⟨[]⟩).1.sys = [2001] ∧ closed (postPoll exTcp exEnv ⟨[]⟩).1.sys = [2000] ∧
    (postPoll exTcp exEnv ⟨[]⟩).1.dev.fd = some 2001 ∧ (postPoll exTcp exEnv ⟨[]⟩).1.aborted = false := by decide +kernel

/-! ## the child ledger

`kidRun (live, signalled) log` replays the log on the coprocess children: `fork pid` adds to `live`; `kill pid` moves
`pid` from `live` to `signalled` and *fails* if it is not live; `waitpid pid` removes it from `signalled` and *fails*
if it was not signalled. -/

/-- over one `dev_post_poll` pass, replaying the log from the child recorded at the start succeeds — `kill` only ever
    goes to a live child of ours, `waitpid` only to a child we have just signalled — and ends with exactly the child
    recorded in the device live and none signalled-but-unreaped (no zombie, no forgotten child) -/
theorem C20_child_ledger (d : Dev) (env : Env) (o : Oracle) (h : ChildInv d) :
    kidRun (d.cpid.toList, []) (postPoll d env o).1.sys = some ((postPoll d env o).1.dev.cpid.toList, []) :=
  (postPoll_moves d env o).keeps_all.kidLedger (d.cpid.toList, []) h rfl

/-- counts, per pid: recorded before + forked = signalled + recorded after, and signalled = waited for -/
theorem C20_children_reaped (d : Dev) (env : Env) (o : Oracle) (h : ChildInv d) (n : Nat) :
    d.cpid.toList.count n + (forked (postPoll d env o).1.sys).count n
      = (killed (postPoll d env o).1.sys).count n + (postPoll d env o).1.dev.cpid.toList.count n ∧
    (killed (postPoll d env o).1.sys).count n = (waited (postPoll d env o).1.sys).count n := by
  have := kidRun_count _ _ _ (C20_child_ledger d env o h) n
  simpa using this

/-- `kill pid` is only ever sent to a pid that was recorded at the start or forked earlier in the pass and not yet
    signalled (never to a pid that may have been reused by an unrelated process) -/
theorem C20_kill_only_own_child (d : Dev) (env : Env) (o : Oracle) (h : ChildInv d) (p r : List Sys) (pid : Nat)
    (hs : (postPoll d env o).1.sys = p ++ Sys.kill pid :: r) :
    (killed p).count pid < d.cpid.toList.count pid + (forked p).count pid :=
  kidRun_kill_live p r pid _ _ (hs ▸ C20_child_ledger d env o h)

/-- `waitpid pid` (blocking) is only ever called for a child that has just been sent SIGTERM -/
theorem C20_wait_only_signalled (d : Dev) (env : Env) (o : Oracle) (h : ChildInv d) (p r : List Sys) (pid : Nat)
    (hs : (postPoll d env o).1.sys = p ++ Sys.waitpid pid :: r) :
    (waited p).count pid < (killed p).count pid := by
  have := kidRun_wait_signalled p r pid _ _ (hs ▸ C20_child_ledger d env o h)
  simpa using this

/-- non-vacuity: in the hang-up pass on the coprocess device, `kill 5000` follows `close 3000` and `waitpid 5000`
    follows the `kill` -/
example : ∃ p r, (postPoll exPipe exEnv ⟨[]⟩).1.sys = p ++ Sys.kill 5000 :: r := ⟨[Sys.close 3000], _, rfl⟩
example : ∃ p r, (postPoll exPipe exEnv ⟨[]⟩).1.sys = p ++ Sys.waitpid 5000 :: r := ⟨[Sys.close 3000, Sys.kill 5000], _, rfl⟩

/-- the child ledger for the single functions, in invariant form -/
theorem C20_child_ledger_steps (c : CS) (tmo : Option Time) (k0 : List Nat × List Nat) (hi : ChildInv c.dev)
    (h : kidRun k0 c.sys = some (c.dev.cpid.toList, [])) :
    (c.dev.conn = 0 → kidRun k0 (connectDev c).sys = some ((connectDev c).dev.cpid.toList, [])) ∧
    kidRun k0 (disconnectDev c).sys = some ((disconnectDev c).dev.cpid.toList, []) ∧
    kidRun k0 (reconnectDev c tmo).1.sys = some ((reconnectDev c tmo).1.dev.cpid.toList, []) ∧
    (c.dev.fd.isSome = true → kidRun k0 (handleReady c).1.sys = some ((handleReady c).1.dev.cpid.toList, [])) :=
  ⟨fun h0 => (connectDev_moves c h0).keeps_all.kidLedger _ hi h, (disconnectDev_moves c).keeps_all.kidLedger _ hi h,
   (reconnectDev_moves c tmo).keeps_all.kidLedger _ hi h, fun hfd => (handleReady_moves c hfd).keeps_all.kidLedger _ hi h⟩

/-- without `ChildInv` the child ledger fails: from a coprocess device that is NOT_CONNECTED with a child 5000 still recorded
    (first conjunct violated) the next `_connect` forks 5001 over it — 5000 is never signalled nor reaped -/
theorem C20_child_ledger_needs_inv_counterexample :
    let d : Dev := { exDev with conn := 0, fd := none, isPipe := true, cpid := some 5000 }
    ¬ ChildInv d ∧
    kidRun (d.cpid.toList, []) (postPoll d exEnv ⟨[]⟩).1.sys ≠ some ((postPoll d exEnv ⟨[]⟩).1.dev.cpid.toList, []) := by
  unfold ChildInv; decide

/-- non-vacuity: hang-up on the connected coprocess device — descriptor 3000 closed, child 5000 signalled and reaped,
    new socketpair 3002/3003, child's end 3003 closed, child 5001 recorded, login done, nothing aborted -/
example : opened (postPoll exPipe exEnv ⟨[]⟩).1.sys = [3002, 3003] ∧ closed (postPoll exPipe exEnv ⟨[]⟩).1.sys = [3000, 3003] ∧
    killed (postPoll exPipe exEnv ⟨[]⟩).1.sys = [5000] ∧ waited (postPoll exPipe exEnv ⟨[]⟩).1.sys = [5000] ∧
    forked (postPoll exPipe exEnv ⟨[]⟩).1.sys = [5001] ∧ (postPoll exPipe exEnv ⟨[]⟩).1.dev.cpid = some 5001 ∧
    (postPoll exPipe exEnv ⟨[]⟩).1.dev.fd = some 3002 ∧ (postPoll exPipe exEnv ⟨[]⟩).1.dev.loggedIn = true ∧
    (postPoll exPipe exEnv ⟨[]⟩).1.aborted = false := by decide +kernel

/-! ## shutdown: what `main` does after `_select_loop` returns (`cli_fini`, `dev_fini`)

`Pm.Daemon.teardown w` is the mirror: a list of the strings the harness compares with the traced system calls of the real
daemon.  The strings are the rendering — by `showSys`, the function that prints every pass's calls — of a structured log:
one `close` per client, then `tdDev d` for every device `d` in configuration order, where `tdDev d` is the system-call
log of `_disconnect`'s transport half for a device that is CONNECTED and empty otherwise (`dev_destroy` tests exactly
`connect_state == DEV_CONNECTED`).  `openFds w` = the clients' descriptors followed by the descriptor of every device that
records one; `tdClosed w` = what is closed; `tdLeft w` = the recorded device descriptors that are not.  Helper lemmas:
`Pm/Shutdown.lean`. -/
section shutdown
open Pm.Daemon Pm.Dev2.Timer

/-- **The shutdown log.**  `teardown` issues one `close` per client (in list order, each client's own descriptor) and then
    each device's share; and the strings of a CONNECTED device's share are: `kill pid` and `waitpid pid` for exactly the
    recorded child if the device is a coprocess with one, then `close fd` for exactly the recorded descriptor
    (`showSys` prints closes last; `_disconnect` issues the close first — `C20_shutdown_device`). -/
theorem C20_shutdown_log (w : W) :
    teardown w = (w.clients.map fun c => s!"Y close {c.fd}") ++ (w.devs.flatMap fun nd => showSys [] (tdDev nd.2)) ∧
    ∀ d : Dev, d.conn = 2 →
      showSys [] (tdDev d) =
        (match d.isPipe, d.cpid with | true, some pid => [s!"Y kill {pid} 15", s!"Y waitpid {pid}"] | _, _ => []) ++
        (match d.fd with | some fd => [s!"Y close {fd}"] | none => []) :=
  ⟨teardown_eq w, showSys_tdDev⟩

/-- **One device's share of the shutdown**, structured.  (1) It is `close fd` for the recorded descriptor followed by
    `kill pid, waitpid pid` for the recorded child of a coprocess — if the device is CONNECTED — and nothing otherwise.
    (2) Descriptor audit, no hypothesis: replayed from the descriptor the device records, no `close` hits a descriptor
    that is not open, and afterwards nothing is held if the device was CONNECTED, while otherwise the descriptor is STILL
    held.  (3) Child audit under the invariants `ChildInv`, `ConnRange`: `kill` goes to the recorded child only,
    `waitpid` follows it, and afterwards no child is left, none is signalled but unreaped — for every device, because a
    device that records a child is a coprocess, hence (third conjunct of `ChildInv`) never CONNECTING, hence CONNECTED. -/
theorem C20_shutdown_device (d : Dev) :
    tdDev d = (if d.conn == 2 then closeOf d.fd ++ reapOf d.isPipe d.cpid else []) ∧
    fdRun d.fd.toList (tdDev d) = some (if d.conn == 2 then [] else d.fd.toList) ∧
    (ChildInv d → ConnRange d → kidRun (d.cpid.toList, []) (tdDev d) = some ([], [])) :=
  ⟨tdDev_eq d, tdDev_fdRun d, tdDev_kidRun d⟩

/-- **The descriptor ledger of the shutdown.**  For every descriptor number: held = closed + left open.  Under the
    invariants `FdInv`, `ConnRange` of every device, what is left open is exactly the descriptors of the devices that are
    still CONNECTING — `dev_destroy` disconnects CONNECTED devices only (recorded observation: such a descriptor stays
    open until the process exits).  And when the descriptors held are pairwise distinct numbers, every one of them that
    is not left open — every client's in particular — is closed EXACTLY once, and nothing else is closed. -/
theorem C20_shutdown (w : W) :
    (∀ n, (openFds w).count n = (tdClosed w).count n + (tdLeft w).count n) ∧
    ((∀ nd ∈ w.devs, FdInv nd.2 ∧ ConnRange nd.2) →
      tdLeft w = (w.devs.filter fun nd => nd.2.conn == 1).flatMap fun nd => nd.2.fd.toList) ∧
    ((openFds w).Nodup → ∀ n, (tdClosed w).count n = if n ∈ openFds w ∧ n ∉ tdLeft w then 1 else 0) ∧
    (∀ c ∈ w.clients, c.fd ∈ tdClosed w) :=
  ⟨teardown_balance w, tdLeft_connecting w, teardown_once w,
   fun c hc => by unfold tdClosed; exact List.mem_append_left _ (List.mem_map.mpr ⟨c, hc, rfl⟩)⟩

/-- non-vacuity: one client (descriptor 1000), the connected tcp device (2000), the connected coprocess device (3000, child
    5000), a tcp device still CONNECTING (2001), an idle device: the log; what is held, closed, left; the invariants -/
theorem teardown_tdWorld :
    teardown tdWorld = ["Y close 1000", "Y close 2000", "Y kill 5000 15", "Y waitpid 5000", "Y close 3000"] := by decide +kernel
example : teardown tdWorld = ["Y close 1000", "Y close 2000", "Y kill 5000 15", "Y waitpid 5000", "Y close 3000"] :=
  teardown_tdWorld
example : openFds tdWorld = [1000, 2000, 3000, 2001] ∧ tdClosed tdWorld = [1000, 2000, 3000] ∧ tdLeft tdWorld = [2001] ∧
    (openFds tdWorld).Nodup := by decide +kernel
example : ∀ nd ∈ tdWorld.devs, FdInv nd.2 ∧ ConnRange nd.2 ∧ ChildInv nd.2 := by
  unfold FdInv ConnRange ChildInv; decide +kernel

/-- without `ChildInv` a child can be left: the coprocess device (wrongly) CONNECTING with child 5000 recorded is not
    touched by `dev_destroy` -/
theorem C20_shutdown_needs_childInv_counterexample :
    kidRun (exPipeConnecting.cpid.toList, []) (tdDev exPipeConnecting) = some ([5000], []) := by decide +kernel

end shutdown

/-! ## the termination signal (`powermand.c`: exit pipe, `_exit_handler`, the `break` in `_select_loop`)

`Pm/Signal.lean`.  The correspondence harness runs the real `main()` and `_select_loop()`: the signal is raised while the daemon
sleeps in `xpoll`, its real handler writes to the real exit pipe, and what follows is compared with `signalPass`. -/
section signal
open Pm Pm.Daemon Pm.Dev2.Timer

/-- **A termination signal ends the daemon in the pass in which it arrives, whatever else is ready.**  `signalPass w p` is what
    the daemon does when `poll` returns with the exit pipe readable: it is the registration of the pass followed by the
    shutdown `teardown w` of the world *as it was when the daemon went to sleep* — for every `p` (connections waiting to be
    accepted, client lines, device bytes, expired timers, hang-ups): none of it is read, no request line is parsed, no action
    is started or completed, nothing is written.  So `C20_shutdown`, `C20_shutdown_log` and `C20_shutdown_device` describe
    exactly which descriptors are closed and which children are reaped, at any pass boundary of any history. -/
theorem C20_signal (w : W) (p q : PassIn) :
    signalPass w p = prePollLines w ++ teardown w ∧ signalPass w p = signalPass w q :=
  ⟨rfl, rfl⟩

/-- the first lines of every ordinary pass are the same registration: `signalPass` and `daemonPass` agree on what `poll` is
    asked, they differ in what happens after it returns -/
theorem C20_signal_same_registration (w : W) (p : PassIn) :
    ∃ rest, (daemonPass w p).2 = prePollLines w ++ rest := by
  unfold daemonPass prePollLines
  dsimp only
  split <;> (simp only [List.append_assoc]; exact ⟨_, rfl⟩)

/-- non-vacuity: the shutdown world of `C20_shutdown` asleep with a client line and a device answer ready -/
example (p : PassIn) : signalPass tdWorld p =
    prePollLines tdWorld ++ ["Y close 1000", "Y close 2000", "Y kill 5000 15", "Y waitpid 5000", "Y close 3000"] := by
  show prePollLines tdWorld ++ teardown tdWorld = _
  rw [teardown_tdWorld]

end signal

/-! ## the daemon-level descriptor ledger, client part

`daemonPass`'s output lines (`Y accept …`, `Y close …`, `Y socket …`) are strings; the ledger is therefore stated over the
structured client-side log `w.sys : List Pm.Daemon.Sys` that `cli_post_poll` starts empty and that the device phase does
not touch: `accepted log` = the descriptors of its successful `accept`s, `closedC log` = the descriptors of its `close`s.
The devices' descriptors are covered per device by `C20_fd_ledger` (their logs are `Pm.Dev2.Sys` lists, rendered to strings
by `daemonPass`). -/
section cliLedger
open Pm.Daemon Pm.Dev2.Timer

/-- **One client's share of `cli_post_poll`.**  `clientPass w c e` never touches the client list and never accepts; it
    closes the client's own descriptor — once — exactly when it destroys the client (result `none`: POLLERR/POLLNVAL, or
    the client has quit/hung up and has no command in progress), and closes nothing otherwise; a surviving client
    keeps its id and its descriptor. -/
theorem C20_client_pass (w : W) (c : Cli) (e : Option FdEnv) :
    (clientPass w c e).1.clients = w.clients ∧
    ∃ ext, (clientPass w c e).1.sys = w.sys ++ ext ∧ accepted ext = [] ∧
      closedC ext = (match (clientPass w c e).2 with | none => [c.fd] | some _ => []) ∧
      ∀ c', (clientPass w c e).2 = some c' → c'.id = c.id ∧ c'.fd = c.fd :=
  clientPass_ledger w c e

/-- **The clients' descriptor ledger of a pass.**  When the clients' ids are pairwise distinct and below `nextId` (true of
    the empty list; the first is kept by every pass, the second is how ids are handed out), then over `cli_post_poll` —
    and over the whole `daemonPass`, whose device phase changes neither the log nor any client's descriptor — for every
    descriptor number: held by a client before + accepted = closed + held by a client afterwards.  So no client
    descriptor is closed twice or forgotten: a client leaves the list exactly when its descriptor is closed. -/
theorem C20_client_ledger (w : W) (p : PassIn) (hid : (w.clients.map (·.id)).Nodup)
    (hfresh : ∀ c ∈ w.clients, c.id < w.nextId) :
    ((∀ n, (w.clients.map (·.fd)).count n + (accepted (cliPostPoll w p.acc p.envs).sys).count n =
        (closedC (cliPostPoll w p.acc p.envs).sys).count n + ((cliPostPoll w p.acc p.envs).clients.map (·.fd)).count n) ∧
      ((cliPostPoll w p.acc p.envs).clients.map (·.id)).Nodup) ∧
    ((∀ n, (w.clients.map (·.fd)).count n + (accepted (daemonPass w p).1.sys).count n =
        (closedC (daemonPass w p).1.sys).count n + ((daemonPass w p).1.clients.map (·.fd)).count n) ∧
      ((daemonPass w p).1.clients.map (·.id)).Nodup) :=
  ⟨cliPostPoll_ledger w p.acc p.envs hid hfresh, daemonPass_cli_ledger w p hid hfresh⟩

/-- non-vacuity: client 1 on descriptor 1000; in the pass a second client is accepted (1001) and `poll` reports POLLNVAL
    on 1000: 1001 accepted, 1000 closed, afterwards client 2 on 1001 -/
example : (cliWorld.clients.map (·.id)).Nodup ∧ (∀ c ∈ cliWorld.clients, c.id < cliWorld.nextId) ∧
    accepted (cliPostPoll cliWorld 1 cliEnvs).sys = [1001] ∧ closedC (cliPostPoll cliWorld 1 cliEnvs).sys = [1000] ∧
    (cliPostPoll cliWorld 1 cliEnvs).clients.map (·.fd) = [1001] := by decide +kernel

end cliLedger

/-! ## `--stdio` mode: the one client owns two descriptors -/

section Stdio
open Pm.Daemon Pm.Daemon.Stdio

/-- **Termination while the `--stdio` client is served.**  Whatever state the client is in (a command in progress, output
    queued, quit or not), the teardown that follows SIGTERM/SIGINT closes *both* its descriptors; and the devices are torn down
    exactly as without a client (`teardown` of the same world with no clients). -/
theorem C20_stdio_teardown (ofd : Nat) (w : W) (c : Cli) (h : c ∈ w.clients) :
    s!"Y close {c.fd}" ∈ signalPassIO ofd w ∧ s!"Y close {ofd}" ∈ signalPassIO ofd w ∧
    ∃ pre, signalPassIO ofd w = pre ++ teardown { w with clients := [] } := by
  unfold signalPassIO teardownIO
  -- the two closes of client `c` stand in the part between the registration and the devices' teardown
  have hm : ∀ (pre : List String) (s : String), s ∈ [s!"Y close {c.fd}", s!"Y close {ofd}"] →
      s ∈ pre ++ ((w.clients.flatMap fun c => [s!"Y close {c.fd}", s!"Y close {ofd}"]) ++ teardown { w with clients := [] }) :=
    fun _ s hs => List.mem_append_right _ (List.mem_append_left _ (List.mem_flatMap.mpr ⟨c, h, hs⟩))
  exact ⟨hm _ _ List.mem_cons_self, hm _ _ (List.mem_cons_of_mem _ List.mem_cons_self), _, (List.append_assoc _ _ _).symm⟩

/-- **When the client goes, both descriptors go**, on every path of `cli_post_poll` that destroys it (error bits on either
    descriptor, `quit` with nothing in progress): `deadIO` is the only way a client record disappears from a pass. -/
theorem C20_stdio_destroy_closes_both (ofd : Nat) (w : W) (c : Cli) :
    (deadIO ofd w c).1.sys = w.sys ++ [Pm.Daemon.Sys.close c.fd, Pm.Daemon.Sys.close ofd] ∧ (deadIO ofd w c).2 = none := ⟨rfl, rfl⟩

end Stdio

end Pm.Props.C20
