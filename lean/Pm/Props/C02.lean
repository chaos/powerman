import Pm.InterpSends
import Pm.ReplyProof
import Pm.E2EEx
import Pm.RunXEx
/-! # C02 — success is reported only when every target was really handled  (client side: `client.c`)

What is shown here, about the real definitions of `Pm/Daemon.lean` (`finalReply`, `actFinish`, `applyOuts`),
for every command `c : CmdC` (any target list, repetitions included, any arglist) and both `exprange` settings:

* the terminal line of a power / reset / beacon command is `102` exactly when the command's error flag is clear and
  no arglist entry of a target is classified unsuccessful (`RT_UNKNOWN`); in every other case it is `210`
  (`C02_success_iff`);
* a completion that carries an error (expect timeout, aborted queue entry, connect or login timeout) writes a
  `308 <device>: <reason>` line at once and sets the error flag; no later completion — for this or any other client —
  clears it; so the terminal line written when the last completion arrives is the `210` / `211` one
  (`C02_error_line_first`, `C02_error_monotone`, `C02_error_sticky`, and conversely `C02_all_success`);
* `pending` counts the outstanding completions down, the reply is written exactly when it reaches zero, a completion
  for a client without a command is the C `assert`, a completion for a departed client is dropped
  (`C02_pending_countdown_*`).

`sortedRanged … = none` (finding F19: the assert inside `hostlist_sort`) is carried as a case: the daemon is gone, no
reply is written.

The second half of the file (`## end to end`) composes this with the device side (`Pm/Dev2*.lean`), the request side
(`Props/C01`) and the pass (`daemonPass`): the invariant "`pending` = number of the client's actions still queued"
(`C02_pending_is_queued`), what one pass does to a command in progress (`C02_pass`), and over any run of passes
`C02_sound` / `C02_complete` / `C02_errors_named`; `C02_success_is_completion` says what a success completion means on
the device, `C02_request_installed` / `C02_targets_covered` / `C02_cannot_be_handled` what an accepted request queued.
Helper lemmas: `Pm/E2EDev.lean`, `Pm/E2ECli.lean`, `Pm/EndToEnd.lean`; example run: `Pm/E2EEx.lean`.

The run theorems of that half are stated over `runPasses`, the plain fold of `daemonPass`, and in the last part of the file
(`## end to end, regex answers arbitrary in every pass`) over `runX`, in which every pass brings its own answers of the regex
engine (`Pm/RunX.lean` says why the plain fold covers only the runs without a match after the first pass).  The `runPasses`
statements are the special case of passes that bring no answer and are proved from the `runX` ones (`Pm/RunXE2E.lean`). -/
namespace Pm.Props.C02
open Pm Pm.Client Pm.Daemon
open Pm.Daemon.Reply
open Pm.Dev2 (ActErr)

/-- For a power command (`on off cycle reset flash unflash`) the terminal line is
    `102 Command completed successfully` **iff** the error flag is clear and no arglist element found for a target
    name has `result = 1` (`RT_UNKNOWN`: the device's answer for that plug matched no success pattern);
    in every other case it is `210 Command completed with errors`.  Nothing else is ever written as the terminal
    reply, and the `exprange` setting plays no part. -/
theorem C02_success_iff (ex : Bool) (c : CmdC) (hp : c.com ∈ [Com.on, .off, .cycle, .reset, .flash, .unflash]) :
    (finalReply ex c = some (bstr "102 Command completed successfully" ++ crlf) ↔
      c.error = false ∧ ∀ n ∈ c.names, ∀ a, c.args.find? (·.node == n) = some a → a.result ≠ 1) ∧
    (finalReply ex c ≠ some (bstr "102 Command completed successfully" ++ crlf) →
      finalReply ex c = some (bstr "210 Command completed with errors" ++ crlf)) :=
  finalReply_power_iff ex c ((isPower_iff c.com).mpr hp)

/-- the two codes are different lines -/
theorem C02_codes_differ : bstr "102 Command completed successfully" ++ crlf ≠ bstr "210 Command completed with errors" ++ crlf :=
  okLine_ne_errLine

/-- `off t1,t2,t1,t3` where t3's plug was classified unsuccessful -/
def exArgs : List ArgC := [
  { node := "t1".toList, state := 2, result := 2, val := some (bstr "ok") },
  { node := "t2".toList, state := 1, result := 0, val := none },
  { node := "t3".toList, state := 0, result := 1, val := some (bstr "ERR") }]
def exCmd : CmdC :=
  { com := .off, names := ["t1".toList, "t2".toList, "t1".toList, "t3".toList], pending := 1, error := false, args := exArgs }

example : finalReply false exCmd = some (bstr "210 Command completed with errors" ++ crlf) := by decide +kernel
/-- the same request with t3 classified successful: success -/
example : finalReply false { exCmd with args := exArgs.map fun a => { a with result := 2 } } =
    some (bstr "102 Command completed successfully" ++ crlf) := by decide +kernel
/-- all results fine but the error flag set (some device timed out): errors -/
example : finalReply true { exCmd with error := true, args := exArgs.map fun a => { a with result := 2 } } =
    some (bstr "210 Command completed with errors" ++ crlf) := by decide +kernel

/-! ## the error flag -/

/-- A completion with an error code writes, before anything else it writes, a line `308 <device>: <reason>`
    (and a successful completion writes no such line).  What follows that line is given by the countdown
    theorems: nothing, or the terminal reply and the prompt. -/
theorem C02_error_line_first (err : ActErr) (name : Bytes) :
    (err ≠ .success → ∃ reason, errPre err name = bstr "308 " ++ (name ++ reason) ++ crlf) ∧
    (err = .success → errPre err name = []) :=
  ⟨errPre_failure err name, fun h => h ▸ errPre_success name⟩

/-- One completion, for this client or any other (`id'`), never clears the error flag of a command in progress:
    afterwards the client is still there and either its command is still there with the flag set (same command:
    same code, targets and arglist), or this was the command's last completion and the client was sent
    `[308 line] reply prompt` where the reply is `210 …` (power) or ends with `211 …` (query).
    (The F19 abort leaves the state unchanged, flag set.) -/
theorem C02_error_monotone (w : W) (id id' : Nat) (err : ActErr) (name : Bytes) (c : Cli) (k : CmdC)
    (h : cliOf w id = some c) (hc : c.cmd = some k) (he : k.error = true) :
    match cliOf (actFinish w id' err name).1 id with
    | none => False
    | some c' =>
      match c'.cmd with
      | some k' => k'.error = true ∧ k'.al = k.al ∧ k'.com = k.com ∧ k'.names = k.names
      | none => id' = id ∧ k.pending = 1 ∧ ∃ r, finalReply c.exprange (withStore w k err) = some r ∧
                  c'.toBuf = c.toBuf ++ (errPre err name ++ r ++ prompt) ∧
                  ((isPower k.com = true ∧ r = errLine) ∨ (isQueryCom k.com = true ∧ qTerm true <:+ r)) :=
  actFinish_error_mono w id id' err name c k h hc he

/-- A whole run of device callbacks (`applyOuts`: completions for any clients, telemetry, diagnostics) that leaves
    at least one completion of client `id`'s command outstanding: the command stays, `pending` has gone down by
    the number of its completions, the error flag is the old flag or-ed with the error bit of every one of its
    completions, and the client was sent exactly the `308` / `305` / `309` lines in callback order — no terminal
    line, no prompt.  (The result has the shape of the hypothesis, so runs from several devices and passes chain.) -/
theorem C02_error_accumulates (w : W) (name : Bytes) (id : Nat) (outs : List DOut) (c : Cli) (k : CmdC)
    (h : cliOf w id = some c) (hc : c.cmd = some k) (hlt : outs.countP (isFin id) < k.pending) :
    cliOf (applyOuts w name outs).1 id =
      some { c with cmd := some { k with error := k.error || outs.any (finErr id), pending := k.pending - outs.countP (isFin id) },
                    toBuf := c.toBuf ++ outs.flatMap (outText name id) } :=
  applyOuts_pending w name id outs c k h hc hlt

/-- **Sticky error.**  A run of callbacks ending with the completion that brings `pending` to zero, in which some
    completion of this command carried an error — or whose flag was already set by an earlier run: either the
    assert inside `hostlist_sort` fired while the reply was built (F19, reported as `O ABORT act_finish`), or the
    client's command is cleared and it was sent, after the lines of the earlier callbacks and this completion's own
    `308` line, a reply `r` and the prompt, where `r` is `210 Command completed with errors` for a power command
    and ends with `211 Query completed with errors` for a query. -/
theorem C02_error_sticky (w : W) (name : Bytes) (id : Nat) (pre : List DOut) (e : ActErr) (c : Cli) (k : CmdC)
    (h : cliOf w id = some c) (hc : c.cmd = some k) (hn : pre.countP (isFin id) + 1 = k.pending)
    (herr : k.error = true ∨ (pre ++ [Dev2.Out.finish id e]).any (finErr id) = true) :
    "O ABORT act_finish" ∈ (applyOuts w name (pre ++ [Dev2.Out.finish id e])).2 ∨
    ∃ r, cliOf (applyOuts w name (pre ++ [Dev2.Out.finish id e])).1 id =
           some { c with cmd := none, toBuf := c.toBuf ++ pre.flatMap (outText name id) ++ errPre e name ++ r ++ prompt } ∧
         ((isPower k.com = true ∧ r = bstr "210 Command completed with errors" ++ crlf) ∨
          (isQueryCom k.com = true ∧ (bstr "211 Query completed with errors" ++ crlf) <:+ r)) :=
  applyOuts_final_error w name id pre e c k h hc hn herr

/-- **Conversely**: a power command whose flag is clear and none of whose completions carried an error gets
    `102 Command completed successfully` unless some arglist entry — read from the store at that moment — is
    classified unsuccessful, in which case it gets `210`. -/
theorem C02_all_success (w : W) (name : Bytes) (id : Nat) (pre : List DOut) (e : ActErr) (c : Cli) (k : CmdC)
    (h : cliOf w id = some c) (hc : c.cmd = some k) (hn : pre.countP (isFin id) + 1 = k.pending)
    (hp : isPower k.com = true) (hclean : k.error = false ∧ (pre ++ [Dev2.Out.finish id e]).any (finErr id) = false) :
    let bad := (entriesOf (withStore w k .success)).any (·.result == 1)
    cliOf (applyOuts w name (pre ++ [Dev2.Out.finish id e])).1 id =
      some { c with cmd := none, toBuf := c.toBuf ++ pre.flatMap (outText name id) ++
                      (if bad then bstr "210 Command completed with errors" ++ crlf
                       else bstr "102 Command completed successfully" ++ crlf) ++ prompt } :=
  applyOuts_final_power_clean w name id pre e c k h hc hn hp hclean

/-! ## the countdown -/

/-- Two or more completions outstanding: `pending` goes down by one, the error bit is or-ed into the flag, and the
    client is sent the `308` line if the completion failed and nothing otherwise — no terminal line, no prompt.
    Nothing is reported to `assert`. -/
theorem C02_pending_countdown_more (w : W) (id : Nat) (err : ActErr) (name : Bytes) (c : Cli) (k : CmdC) (n : Nat)
    (h : cliOf w id = some c) (hc : c.cmd = some k) (hp : k.pending = n + 2) :
    (actFinish w id err name).2 = false ∧
    cliOf (actFinish w id err name).1 id =
      some { c with cmd := some { k with error := k.error || (err != .success), pending := n + 1 },
                    toBuf := c.toBuf ++ errPre err name } := by
  have := actFinish_more w id err name c k h hc (by omega)
  rw [hp] at this
  exact this

/-- The last completion (`pending = 1`): the command is cleared and the client is sent exactly the optional `308`
    line, then the terminal reply computed from the arglist as it stands in the store with the accumulated error
    flag, then the prompt.  If building the reply trips the sort assert (F19) the pass is reported aborted and
    nothing is written. -/
theorem C02_pending_countdown_last (w : W) (id : Nat) (err : ActErr) (name : Bytes) (c : Cli) (k : CmdC)
    (h : cliOf w id = some c) (hc : c.cmd = some k) (hp : k.pending = 1) :
    match finalReply c.exprange { k with error := k.error || (err != .success), args := (storeArgs w k.al).map argC } with
    | some r => (actFinish w id err name).2 = false ∧
                cliOf (actFinish w id err name).1 id = some { c with cmd := none, toBuf := c.toBuf ++ (errPre err name ++ r ++ prompt) }
    | none => actFinish w id err name = (w, true) := by
  split
  · rename_i r hr; exact actFinish_last w id err name c k r h hc hp hr
  · rename_i hr; exact actFinish_last_abort w id err name c k h hc hp hr

/-- `assert(c->cmd != NULL)`: a completion for a client that has no command is reported as the assert;
    a completion for a client that has gone away changes nothing; in all cases only the client table can change,
    and no other client's record does. -/
theorem C02_pending_countdown_edge (w : W) (id : Nat) (err : ActErr) (name : Bytes) :
    (∀ c, cliOf w id = some c → c.cmd = none → actFinish w id err name = (w, true)) ∧
    (cliOf w id = none → actFinish w id err name = (w, false)) ∧
    (∃ cl, (actFinish w id err name).1 = { w with clients := cl }) ∧
    (∀ id', id' ≠ id → cliOf (actFinish w id err name).1 id' = cliOf w id') :=
  ⟨fun c h hc => actFinish_nocmd w id err name c h hc, actFinish_absent w id err name,
   actFinish_frame w id err name, fun id' hne => Pm.Daemon.actFinish_other w id id' err name hne.symm⟩

/-! non-vacuity: client 7 runs `exCmd` with two completions outstanding; the first times out, the second succeeds -/
def w0 : W :=
  { cfg := { plugs := [], has := [], nodes := [], version := [] },
    clients := [{ id := 3, fd := 1000 }, { id := 7, fd := 1001, cmd := some { exCmd with pending := 2, al := 4, args := [] } }],
    store := [(4, [{ node := bstr "t1", val := none, state := .on, result := .success },
                   { node := bstr "t2", val := none, state := .off, result := .success },
                   { node := bstr "t3", val := none, state := .off, result := .success }])] }

example : (cliOf (applyOuts w0 (bstr "pdu0") [.finish 7 .expfail, .telemetry 3 (bstr "x"), .finish 7 .success]).1 7).map (·.toBuf) =
    some (bstr "308 pdu0: action timed out waiting for expected response\r\n210 Command completed with errors\r\npowerman> ") := by
  rw [ClientPf.bstr_chars, ClientPf.bstr_chars, ClientPf.bstr_chars]
  decide +kernel
example : (cliOf (applyOuts w0 (bstr "pdu0") [.finish 7 .success, .finish 7 .success]).1 7).map (·.toBuf) =
    some (bstr "102 Command completed successfully\r\npowerman> ") := by
  rw [ClientPf.bstr_chars, ClientPf.bstr_chars]
  decide +kernel
example : (actFinish w0 3 .success []).2 = true ∧ (actFinish w0 9 .success []).1.clients.length = 2 := by decide +kernel

/-! ## end to end

`runPasses w ps` is the world after the passes `ps` (each a `daemonPass` with its kernel answers `PassIn`); `cliRec w g` is
the record of the client with id `g`; `totalQ g devs` the number of actions of client `g` in all device queues;
`passDead w p` says the pass ended in a modelled assertion (the C process is gone; what the model computes afterwards
means nothing), `Alive w ps` that no pass of the run did; `passFins w p g` / `runFins w ps g` are the completions the
devices reported for client `g` in a pass / a run, as pairs (device name, outcome), in the order of delivery;
`passText w p g` the `305`/`308`/`309` lines the device phase of the pass wrote to the client.

The run theorems of this section are over `runPasses` (the plain fold, see `Pm/RunX.lean`); they are corollaries of the `…_runX`
ones in the last section of the file.  The one-pass theorems (`C02_pass`, `C02_accepting_pass`, …) hold for an arbitrary world
`w`, regex answers pending or not. -/
section endToEnd
open Pm.Daemon.E2E
open Pm.Daemon.Isolation (runPasses)
open Pm.Daemon.Enq (installDev installTotal newActs tgt)
open Pm.Dev2 (Dev Action Plug Oracle qcount)

/-- **The invariant: `pending` = queued.**  `Inv w` is the id and arglist disciplines of C11 together with: for every live
    client, `pending` of its command (0 without a command) is the number of its actions in all device queues, and a
    command in progress waits for at least one (spelled out in `C02_Inv_spelled`).  It holds when the daemon starts (no
    client, empty queues: `C02_Inv_init`) and after any run of passes none of which ends in an assertion — whatever the
    kernel answers, whatever the other clients do. -/
theorem C02_pending_is_queued (w : W) (ps : List PassIn) (h : Inv w) (ha : Alive w ps) : Inv (runPasses w ps) :=
  runPasses_inv w ps h ha      -- corollary of `C02_pending_is_queued_runX` (passes that bring no regex answer)

/-- the invariant holds at start-up: no client, empty queues, both counters positive -/
theorem C02_Inv_init (w : W) (hc : w.clients = []) (hq : ∀ nd ∈ w.devs, nd.2.acts = []) (hn : 0 < w.nextId) (ha : 0 < w.alNext) :
    Inv w := inv_init w hc hq hn ha

/-- what the invariant says of one live client: a command in progress waits for exactly the client's actions still queued (at
    least one); without a command none of its actions is queued -/
theorem C02_Inv_spelled (w : W) (h : Inv w) (g : Nat) (c : Cli) (hc : cliRec w g = some c) :
    match c.cmd with
    | some k => k.pending = totalQ g w.devs ∧ 0 < k.pending
    | none => totalQ g w.devs = 0 := h.spelled g c hc

/-- what `Alive` and `runFins` are -/
theorem C02_run_defs (w : W) (p : PassIn) (ps : List PassIn) (g : Nat) :
    (Alive w (p :: ps) ↔ passDead w p = false ∧ Alive (daemonPass w p).1 ps) ∧
    runFins w (p :: ps) g = passFins w p g ++ runFins (daemonPass w p).1 ps g ∧ runFins w [] g = [] :=
  ⟨Iff.rfl, rfl, rfl⟩

example : Inv Ex.w3 ∧ totalQ 1 Ex.w3.devs = 1 := ⟨Ex.inv3, Ex.queued3⟩

/-- **An accepted request.**  A line that leaves a client that had no command with the command `k`: `k`'s error flag is
    clear, `pending` is the number of actions `dev_enqueue_actions` appended over all devices (it is positive), every
    device's queue was extended by its `newActs` for the request (`Props/C01` says what these are), and every device the
    request involves passed the capability check. -/
theorem C02_request_installed (w : W) (c : Cli) (line : Bytes) (k : CmdC) (h0 : c.cmd = none)
    (hk : (parseLine w c line).2.cmd = some k) :
    ∃ tele al, k.error = false ∧ 0 < k.pending ∧
      k.pending = installTotal (comIdx k.com) (k.names.map ofChars) c.id tele al w.devs ∧
      (parseLine w c line).1.devs = w.devs.map (installDev (comIdx k.com) (k.names.map ofChars) c.id tele al) ∧
      (∀ nd ∈ w.devs, needsDev nd.2 (k.names.map ofChars) = true → handles nd.2 (comIdx k.com) (k.names.map ofChars) = true) :=
  request_installed w c line k h0 hk

/-- the request `off n[1,3]` of client 5 in `exW` (`Pm/EnqProof.lean`) is accepted -/
example : ∃ k tele al, (parseLine Pm.Daemon.Enq.exW Pm.Daemon.Enq.exC Pm.Daemon.Enq.exLine).2.cmd = some k ∧ k.error = false ∧ 0 < k.pending ∧
    k.pending = installTotal (comIdx k.com) (k.names.map ofChars) Pm.Daemon.Enq.exC.id tele al Pm.Daemon.Enq.exW.devs := by
  have h : ((parseLine Pm.Daemon.Enq.exW Pm.Daemon.Enq.exC Pm.Daemon.Enq.exLine).2.cmd).isSome = true := by decide +kernel
  obtain ⟨k, hk⟩ := Option.isSome_iff_exists.mp h
  obtain ⟨tele, al, h1, h2, h3, _⟩ := C02_request_installed _ _ _ k rfl hk
  exact ⟨k, tele, al, hk, h1, h2, h3⟩

/-- **Every named node's plug is covered.**  On a device that passed the capability check, every plug mapped to a named
    node is commanded by one of the actions appended for the request (its plug list contains the plug; an `_all` action
    commands every plug of the device).  With `C01_commanded` (the appended actions command *only* such plugs) the
    actions a power request waits for address exactly the plugs of the named nodes. -/
theorem C02_targets_covered (d : Dev) (com : Nat) (targets : List Bytes) (cid : Nat) (tele : Bool) (al : Nat)
    (hh : handles d com targets = true) (p : Plug) (hp : p ∈ d.plugs) (n : Bytes) (hn : p.node = some n) (hm : n ∈ targets) :
    ∃ a ∈ newActs d.plugs d.scripts com targets cid tele al, p ∈ a.commanded d :=
  newActs_covers hh hp (Pm.Daemon.Enq.tgt_of_mem hn hm)

/-- `off n1,n3` on `exDev` (plugs "1" ↦ n1, "2" unused, "3" ↦ n3, "4" ↦ n4): plug "3" is commanded by an appended action -/
example : ∃ a ∈ newActs Pm.Daemon.Enq.exDev.plugs Pm.Daemon.Enq.exDev.scripts 10 [[110, 49], [110, 51]] 5 false 2,
    Pm.Daemon.Enq.exP3 ∈ a.commanded Pm.Daemon.Enq.exDev :=
  C02_targets_covered Pm.Daemon.Enq.exDev 10 [[110, 49], [110, 51]] 5 false 2 (by decide +kernel) Pm.Daemon.Enq.exP3 (by decide +kernel)
    [110, 51] rfl (by decide +kernel)

/-- **Targets that no script can handle.**  If some device the request involves has no script variant that can serve it,
    the request is answered `213 Command cannot be handled by power control device(s)`; nothing is queued, no command is
    installed. -/
theorem C02_cannot_be_handled (w : W) (c : Cli) (com : Com) (names : List Name) (nd : Bytes × Dev) (hnd : nd ∈ w.devs)
    (hneed : needsDev nd.2 (names.map ofChars) = true) (hno : handles nd.2 (comIdx com) (names.map ofChars) = false) :
    install w c com names = (w, put c (codeLine 213 ++ crlf ++ (if c.quit then [] else prompt))) :=
  cannot_be_handled w c com names nd hnd hneed hno

/-- a device with plugs for n1 and n3 that has only the `off_all` script, asked to switch off n1 alone: 213 -/
example : (install { cfg := { plugs := [], has := [], nodes := [], version := [] }, clients := [],
                     devs := [([100], Pm.Daemon.Enq.exDevWith [Pm.Daemon.Enq.exP1, Pm.Daemon.Enq.exP3] Pm.Daemon.Enq.exScriptsAllOnly)] }
      { id := 5, fd := 1000 } .off [['n', '1']]).2.toBuf =
    bstr "213 Command cannot be handled by power control device(s)\r\npowerman> " := by
  rw [C02_cannot_be_handled _ _ _ _ ([100], Pm.Daemon.Enq.exDevWith [Pm.Daemon.Enq.exP1, Pm.Daemon.Enq.exP3] Pm.Daemon.Enq.exScriptsAllOnly)
    (by simp) (by decide +kernel) (by decide +kernel), ClientPf.bstr_chars]
  decide +kernel

/-- **One pass, seen from a client with a command in progress** (any command; the pass does not end in an assertion).
    The client phase either destroys the client (error on its descriptor; its actions stay queued and their completions
    are dropped) or leaves its command untouched — `c1` is its record then.  In the device phase, with `F` the completions
    reported for the client: fewer than `pending` — the command stays, `pending` lowered by their number, the error flag
    or-ed with "one of them failed", the lines appended; exactly `pending` — the command is cleared and the client is
    sent the lines, then the terminal reply computed from that flag and the arglist as it stands after the pass, then the
    prompt, and nothing else.  More than `pending` cannot happen. -/
theorem C02_pass (w : W) (p : PassIn) (g : Nat) (c : Cli) (k : CmdC) (hinv : Inv w) (hd : passDead w p = false)
    (hc : cliRec w g = some c) (hk : c.cmd = some k) :
    (cliRec (cliPostPoll w p.acc p.envs) g = none ∧ cliRec (daemonPass w p).1 g = none) ∨
    ∃ c1, cliRec (cliPostPoll w p.acc p.envs) g = some c1 ∧ c1.cmd = some k ∧
      (((passFins w p g).length < k.pending ∧
        cliRec (daemonPass w p).1 g =
          some { c1 with cmd := some { k with error := k.error || (passFins w p g).any failed,
                                              pending := k.pending - (passFins w p g).length },
                         toBuf := c1.toBuf ++ passText w p g }) ∨
       ((passFins w p g).length = k.pending ∧
        ∃ r, finalReply c1.exprange { k with error := k.error || (passFins w p g).any failed,
                                             args := (storeArgs (daemonPass w p).1 k.al).map argC } = some r ∧
          cliRec (daemonPass w p).1 g = some { c1 with cmd := none, toBuf := c1.toBuf ++ passText w p g ++ r ++ prompt })) :=
  daemonPass_view w p g c k hinv hd hc hk

/-- the completions of pass 4 and of the late pass of the example run (`Ex.run`), pass by pass -/
theorem passFins4 : passFins Ex.w3x Ex.p4 1 = [([65], .success)] := (List.append_nil _).symm.trans Ex.fins4
theorem passFinsLate : passFins Ex.w3 Ex.pLate 1 = [([65], .expfail)] := (List.append_nil _).symm.trans Ex.finsL

/-- pass 4 of the example run: the hypotheses hold, and it is the second alternative (one completion, `pending = 1`) -/
example : (passFins Ex.w3x Ex.p4 1).length = Ex.k0.pending ∧ passDead Ex.w3x Ex.p4 = false ∧ Inv Ex.w3x :=
  ⟨by rw [passFins4]; exact (congrArg Prod.fst Ex.fresh0).symm, Ex.alive4.1, Ex.inv3x⟩

/-- **C02, soundness.**  Client `g` has the power command `k0` in progress in a state `w0` satisfying the invariant
    (`k0.pending` = the number of its actions queued); a run of passes follows, none ending in an assertion; before the
    last pass `p` the command (identified by its arglist id, which is never reused) is still in progress, after it the
    client is there and idle.  If its output buffer then ends with `102 Command completed successfully` and the prompt:
    * `k0`'s error flag was clear (for a request just accepted it is: `C02_request_installed`);
    * the devices reported exactly `k0.pending` completions for the client during the run — one for every action it had
      queued (`k0.pending = totalQ g w0.devs`; none is reported twice or lost: `C04_completions_conserved`);
    * every one of them is a success — no time-out, no connect or login failure, no aborted queue entry; and a success is
      reported only for a script that ran to its end (`C02_success_is_completion`);
    * no result cell of a target is `unknown` (`RT_UNKNOWN`) in the arglist as it stands after the pass. -/
theorem C02_sound (w0 : W) (ps : List PassIn) (p : PassIn) (g : Nat) (c0 : Cli) (k0 : CmdC) (c' : Cli)
    (hinv : Inv w0) (ha : Alive w0 (ps ++ [p])) (hc0 : cliRec w0 g = some c0) (hk0 : c0.cmd = some k0)
    (hp : k0.com ∈ [Com.on, .off, .cycle, .reset, .flash, .unflash])
    (hbusy : ∃ c k, cliRec (runPasses w0 ps) g = some c ∧ c.cmd = some k ∧ k.al = k0.al)
    (hidle : cliRec (runPasses w0 (ps ++ [p])) g = some c') (hnone : c'.cmd = none)
    (h102 : bstr "102 Command completed successfully" ++ crlf ++ prompt <:+ c'.toBuf) :
    k0.error = false ∧ (runFins w0 (ps ++ [p]) g).length = k0.pending ∧ k0.pending = totalQ g w0.devs ∧
    (∀ x ∈ runFins w0 (ps ++ [p]) g, x.2 = .success) ∧
    ∀ n ∈ k0.names, ∀ a, ((storeArgs (runPasses w0 (ps ++ [p])) k0.al).map argC).find? (·.node == n) = some a → a.result ≠ 1 :=
  -- corollary of `C02_sound_runX` (passes that bring no regex answer)
  sound w0 ps p g c0 k0 c' hinv ha hc0 hk0 ((isPower_iff k0.com).mpr hp) hbusy hidle hnone (by simpa [okLine, List.append_assoc] using h102)

/-- the example run: the device answers, the script comes to its end, the client gets `102` -/
example : Ex.k0.error = false ∧ (runFins Ex.w3x ([] ++ [Ex.p4]) 1).length = Ex.k0.pending ∧ Ex.k0.pending = totalQ 1 Ex.w3x.devs ∧
    (∀ x ∈ runFins Ex.w3x ([] ++ [Ex.p4]) 1, x.2 = .success) ∧
    ∀ n ∈ Ex.k0.names, ∀ a, ((storeArgs (runPasses Ex.w3x ([] ++ [Ex.p4])) Ex.k0.al).map argC).find? (·.node == n) = some a → a.result ≠ 1 :=
  C02_sound Ex.w3x [] Ex.p4 1 Ex.c0 Ex.k0 Ex.c4 Ex.inv3x Ex.alive4 Ex.hc0x Ex.hk0 ((isPower_iff _).mp Ex.power0)
    ⟨Ex.c0, Ex.k0, Ex.hc0x, Ex.hk0, rfl⟩ Ex.hc4 Ex.idle4 ⟨bstr "001 2\r\npowerman> ", by rw [Ex.buf4]; simp [okLine, List.append_assoc]⟩

/-- **C02, completeness** (same setting).  If `k0`'s error flag was clear, every completion the run reported for the client
    is a success and no result cell of a target is `unknown` after the answering pass, the client was sent — after the
    lines of that pass — `102 Command completed successfully` and the prompt (`c1` is its record when the client phase of
    the pass is over). -/
theorem C02_complete (w0 : W) (ps : List PassIn) (p : PassIn) (g : Nat) (c0 : Cli) (k0 : CmdC) (c' : Cli)
    (hinv : Inv w0) (ha : Alive w0 (ps ++ [p])) (hc0 : cliRec w0 g = some c0) (hk0 : c0.cmd = some k0)
    (hp : k0.com ∈ [Com.on, .off, .cycle, .reset, .flash, .unflash])
    (hbusy : ∃ c k, cliRec (runPasses w0 ps) g = some c ∧ c.cmd = some k ∧ k.al = k0.al)
    (hidle : cliRec (runPasses w0 (ps ++ [p])) g = some c') (hnone : c'.cmd = none)
    (herr : k0.error = false) (hall : ∀ x ∈ runFins w0 (ps ++ [p]) g, x.2 = .success)
    (hres : ∀ n ∈ k0.names, ∀ a, ((storeArgs (runPasses w0 (ps ++ [p])) k0.al).map argC).find? (·.node == n) = some a → a.result ≠ 1) :
    ∃ c1, cliRec (cliPostPoll (runPasses w0 ps) p.acc p.envs) g = some c1 ∧
      c'.toBuf = c1.toBuf ++ passText (runPasses w0 ps) p g ++ (bstr "102 Command completed successfully" ++ crlf) ++ prompt :=
  -- corollary of `C02_complete_runX` (passes that bring no regex answer)
  complete w0 ps p g c0 k0 c' hinv ha hc0 hk0 ((isPower_iff k0.com).mpr hp) hbusy hidle hnone herr hall hres

example : ∃ c1, cliRec (cliPostPoll (runPasses Ex.w3x []) Ex.p4.acc Ex.p4.envs) 1 = some c1 ∧
    Ex.c4.toBuf = c1.toBuf ++ passText (runPasses Ex.w3x []) Ex.p4 1 ++ (bstr "102 Command completed successfully" ++ crlf) ++ prompt :=
  C02_complete Ex.w3x [] Ex.p4 1 Ex.c0 Ex.k0 Ex.c4 Ex.inv3x Ex.alive4 Ex.hc0x Ex.hk0 ((isPower_iff _).mp Ex.power0)
    ⟨Ex.c0, Ex.k0, Ex.hc0x, Ex.hk0, rfl⟩ Ex.hc4 Ex.idle4 (congrArg Prod.snd Ex.fresh0)
    (by rw [Ex.fins4]; intro x hx; simp only [List.mem_singleton] at hx; subst hx; rfl)
    (by decide +kernel)

/-- **C02, errors are reported and named** (same setting).  If `k0`'s error flag was set, or some completion the run
    reported for the client is a failure (expect time-out, aborted queue entry, connect or login time-out), or some
    result cell of a target is `unknown` after the answering pass, the client was sent — after the lines of that pass —
    `210 Command completed with errors` and the prompt; and every failed completion of that pass has its line
    `308 <device>: <reason>` among those lines (for a failed completion of an earlier pass the line was written in that
    pass: `C02_failure_line`). -/
theorem C02_errors_named (w0 : W) (ps : List PassIn) (p : PassIn) (g : Nat) (c0 : Cli) (k0 : CmdC) (c' : Cli)
    (hinv : Inv w0) (ha : Alive w0 (ps ++ [p])) (hc0 : cliRec w0 g = some c0) (hk0 : c0.cmd = some k0)
    (hp : k0.com ∈ [Com.on, .off, .cycle, .reset, .flash, .unflash])
    (hbusy : ∃ c k, cliRec (runPasses w0 ps) g = some c ∧ c.cmd = some k ∧ k.al = k0.al)
    (hidle : cliRec (runPasses w0 (ps ++ [p])) g = some c') (hnone : c'.cmd = none)
    (hbad : k0.error = true ∨ (∃ x ∈ runFins w0 (ps ++ [p]) g, x.2 ≠ .success) ∨
      ¬ ∀ n ∈ k0.names, ∀ a, ((storeArgs (runPasses w0 (ps ++ [p])) k0.al).map argC).find? (·.node == n) = some a → a.result ≠ 1) :
    (∃ c1, cliRec (cliPostPoll (runPasses w0 ps) p.acc p.envs) g = some c1 ∧
      c'.toBuf = c1.toBuf ++ passText (runPasses w0 ps) p g ++ (bstr "210 Command completed with errors" ++ crlf) ++ prompt) ∧
    ∀ x ∈ passFins (runPasses w0 ps) p g, x.2 ≠ .success →
      ∃ u v reason, passText (runPasses w0 ps) p g = u ++ (bstr "308 " ++ (x.1 ++ reason) ++ crlf) ++ v :=
  -- corollary of `C02_errors_named_runX` (passes that bring no regex answer)
  errors w0 ps p g c0 k0 c' hinv ha hc0 hk0 ((isPower_iff k0.com).mpr hp) hbusy hidle hnone hbad

/-- the example run, the other way: nothing comes from the device, the action times out, the client gets `308 A: …` and `210` -/
example : (∃ c1, cliRec (cliPostPoll (runPasses Ex.w3 []) Ex.pLate.acc Ex.pLate.envs) 1 = some c1 ∧
      Ex.cL.toBuf = c1.toBuf ++ passText (runPasses Ex.w3 []) Ex.pLate 1 ++ (bstr "210 Command completed with errors" ++ crlf) ++ prompt) ∧
    ∀ x ∈ passFins (runPasses Ex.w3 []) Ex.pLate 1, x.2 ≠ .success →
      ∃ u v reason, passText (runPasses Ex.w3 []) Ex.pLate 1 = u ++ (bstr "308 " ++ (x.1 ++ reason) ++ crlf) ++ v :=
  C02_errors_named Ex.w3 [] Ex.pLate 1 Ex.c0 Ex.k0 Ex.cL Ex.inv3 Ex.aliveL Ex.hc0 Ex.hk0 ((isPower_iff _).mp Ex.power0)
    ⟨Ex.c0, Ex.k0, Ex.hc0, Ex.hk0, rfl⟩ Ex.hcL Ex.idleL
    (Or.inr (Or.inl ⟨([65], .expfail), by rw [Ex.finsL]; simp, by simp⟩))
example : Ex.cL.toBuf = bstr "001 2\r\npowerman> 308 A: action timed out waiting for expected response\r\n210 Command completed with errors\r\npowerman> " :=
  Ex.bufL

/-- **A failed completion is named at once.**  In any pass, every failed completion reported for client `g` has its line
    `308 <device>: <reason>` among the lines the pass writes to the client (`passText`, which `C02_pass` shows appended
    to its buffer). -/
theorem C02_failure_line (w : W) (p : PassIn) (g : Nat) (x : Bytes × Pm.Dev2.ActErr) (hx : x ∈ passFins w p g) (hf : x.2 ≠ .success) :
    ∃ u v reason, passText w p g = u ++ (bstr "308 " ++ (x.1 ++ reason) ++ crlf) ++ v :=
  passText_failure w p g x hx hf

example : ∃ u v reason, passText Ex.w3 Ex.pLate 1 = u ++ (bstr "308 " ++ ([65] ++ reason) ++ crlf) ++ v :=
  C02_failure_line Ex.w3 Ex.pLate 1 ([65], .expfail) (by rw [passFinsLate]; exact List.mem_singleton.mpr rfl) (by simp)

/-- **What a success completion means on the device.**  A completion in the log of a pass was reported by the turn of some
    device, under that device's name (first part; `accAt … i` is the state of the pass when device number `i` has its
    turn).  And (second part) a `success` reported by a device's turn for client `g` was reported by an iteration of
    `_process_action`'s loop (`iterStates`, from the device as `_handle_ready_device`, `_reconnect` and the ping left it) in
    which the head action — an action of client `g` — `Completes`: device connected, action within its time-out, the
    statement interpreter reported the statement the action stood at finished (so every `expect` before it has matched,
    `C08_expect_blocks`), no assertion, the action not failed, and no statement left in any block.  The time-out branch
    and the error branch (connect / login failure, i/o error, everything queued behind a failed action) report failures
    only (`C12_timeout_reports_all`, `C12_fail_all_reports`). -/
theorem C02_success_is_completion :
    (∀ (w : W) (p : PassIn) (g : Nat) (x : Bytes × Pm.Dev2.ActErr), (cliPostPoll w p.acc p.envs).exited = false → x ∈ passFins w p g →
      ∃ i nd, (cliPostPoll w p.acc p.envs).devs[i]? = some nd ∧ x.1 = nd.1 ∧
        Pm.Dev2.Out.finish g x.2 ∈ (devStep p (accAt p (acc0 (cliPostPoll w p.acc p.envs)) (cliPostPoll w p.acc p.envs).devs i).w
          (accAt p (acc0 (cliPostPoll w p.acc p.envs)) (cliPostPoll w p.acc p.envs).devs i).oracle nd).2.2.1) ∧
    (∀ (p : PassIn) (w : W) (o : Oracle) (nd : Bytes × Dev) (g : Nat),
      Pm.Dev2.Out.finish g .success ∈ (devStep p w o nd).2.2.1 →
      ∃ s ∈ Pm.Dev2.Login2.iterStates
          (Pm.Dev2.passFuel (Pm.Dev2.Login2.postPollPre { nd.2 with args := w.store } (devEnv p w nd)).1.dev)
          (Pm.Dev2.Login2.postPollPre { nd.2 with args := w.store } (devEnv p w nd)).1 o []
          (Pm.Dev2.Login2.postPollPre { nd.2 with args := w.store } (devEnv p w nd)).2,
        ∃ act, Pm.Dev2.E2E.Completes s.1 s.2 act ∧ act.clientId = g) := by
  refine ⟨?_, fun p w o nd g h => turn_success p w o nd g h⟩
  intro w p g x _ hx
  obtain ⟨i, nd, h1, h2, _, h4⟩ := mem_foldFins p g _ _ x (mem_passFins.mp hx).2
  exact ⟨i, nd, h1, h2, h4⟩

/-- pass 4 of the example run: the success reported for client 1 comes from a completing iteration of device `A`'s turn -/
example : ∃ (i : Nat) (nd : Bytes × Dev) (s : Pm.Dev2.CS × Oracle) (act : Action),
    (cliPostPoll Ex.w3x Ex.p4.acc Ex.p4.envs).devs[i]? = some nd ∧ nd.1 = [65] ∧ Pm.Dev2.E2E.Completes s.1 s.2 act ∧ act.clientId = 1 := by
  obtain ⟨i, nd, h1, h2, h3⟩ := C02_success_is_completion.1 Ex.w3x Ex.p4 1 ([65], .success)
    (mem_passFins.mp (by rw [passFins4]; exact List.mem_singleton.mpr rfl)).1 (by rw [passFins4]; exact List.mem_singleton.mpr rfl)
  obtain ⟨s, _, act, h4, h5⟩ := C02_success_is_completion.2 _ _ _ _ _ h3
  exact ⟨i, nd, s, act, h1, h2.symm, h4, h5⟩

/-- what `Completes` says, spelled out -/
theorem C02_Completes_spelled (c : Pm.Dev2.CS) (o : Oracle) (a : Action) :
    Pm.Dev2.E2E.Completes c o a ↔
      Pm.Dev2.Login2.speaker c = some a ∧
      Pm.Dev2.hasAbort (Pm.Dev2.innerLoop c.env.now (Pm.Dev2.loopBound a) { c.dev with wake := none } a o []).out = false ∧
      (Pm.Dev2.innerLoop c.env.now (Pm.Dev2.loopBound a) { c.dev with wake := none } a o []).finished = true ∧
      (Pm.Dev2.innerLoop c.env.now (Pm.Dev2.loopBound a) { c.dev with wake := none } a o []).act.errnum = .success ∧
      (Pm.Dev2.advance (Pm.Dev2.innerLoop c.env.now (Pm.Dev2.loopBound a) { c.dev with wake := none } a o []).act).exec = [] :=
  Iff.rfl

/-- **One iteration of `_process_action` reports a success only for a completing run of the head action** -/
theorem C02_success_only_on_completion (c : Pm.Dev2.CS) (o : Oracle) (out : List Pm.Dev2.Out) (tmo : Option Pm.Dev2.Time) (cid : Nat)
    (h : Pm.Dev2.Out.finish cid .success ∈ (Pm.Dev2.Login2.bodyStep c o out tmo).1.2.2.1) :
    Pm.Dev2.Out.finish cid .success ∈ out ∨ ∃ a, Pm.Dev2.E2E.Completes c o a ∧ a.clientId = cid :=
  Pm.Dev2.E2E.bodyStep_success c o out tmo cid h

/-- **Nothing is written behind the terminal reply.**  After a device's turn, a client none of whose actions is left in
    that device's queue has had a completion as the last callback of the turn addressed to it (if any): no telemetry
    line, no diagnostic follows the completion that triggers the reply. -/
theorem C02_last_word (d : Dev) (env : Pm.Dev2.Env) (o : Oracle) (cid : Nat) (hc : cid ≠ 0)
    (hq : qcount cid (Pm.Dev2.postPoll d env o).1.dev.acts = 0) :
    ∀ x, ((Pm.Dev2.postPoll d env o).2.2.1.filter fun y => Pm.Dev2.outCid y == some cid).getLast? = some x → Pm.Dev2.isFinish x = true :=
  Pm.Dev2.E2E.postPoll_lastFin d env o cid hc hq

example : qcount 1 (Pm.Dev2.postPoll Pm.Daemon.E2E.Ex.devA { now := 0, revents := 0, sockets := [], connects := [], soerrs := [], read := none, writeOk := true } ⟨[]⟩).1.dev.acts = 0 := by
  decide +kernel

/-- **A completing iteration is the C08 reference run to the end of the program.**  If the head action is well-formed
    (`Interp.Inv`: true of a freshly enqueued action on a script with non-empty blocks, kept by every pass, restored by
    `_rewind_action`: `C08_initial`, `C08_refines`, `C08_rewind`) and the iteration `Completes` it, then the loop-free
    reference program its context stack denotes (`abs R dp a.exec`: what is left of the unrolled script) runs — same device
    state, regex answers and clock — to status `done` with nothing left: every remaining `send` written out, every
    remaining `expect` matched, every `delay` elapsed.  (`Interp.Inv` is a hypothesis here: that it holds for every queued
    action along a run of the daemon is not proved in this file.) -/
theorem C02_completion_is_reference_done (R : Bool) (dp : List Plug) (c : Pm.Dev2.CS) (o : Oracle) (a : Action)
    (hc : Pm.Dev2.E2E.Completes c o a) (hinv : Pm.Dev2.Interp.Inv R dp c.dev a) (hne : a.exec ≠ []) :
    ∃ k, (Pm.Dev2.Interp.frun c.env.now k { c.dev with wake := none } (Pm.Dev2.Interp.info a) o (Pm.Dev2.Interp.abs R dp a.exec) []).status = .done ∧
         (Pm.Dev2.Interp.frun c.env.now k { c.dev with wake := none } (Pm.Dev2.Interp.info a) o (Pm.Dev2.Interp.abs R dp a.exec) []).f.rem = [] :=
  Pm.Dev2.E2E.completes_reference R dp c o a hc hinv hne

/-- a fresh action on the script `delay 0` at the head of the queue of the connected device `exCS` of `Props/C08`: the
    iteration completes it, the action is well-formed, and the reference — one `delay` operation — runs to its end -/
example : ∃ k, (Pm.Dev2.Interp.frun 5 k { (Pm.Dev2.Interp.exCS [.delay 0]).dev with wake := none }
      (Pm.Dev2.Interp.info (Pm.Dev2.stamp 5 (Pm.Dev2.Interp.exAction [.delay 0] none))) ⟨[]⟩
      (Pm.Dev2.Interp.abs false (Pm.Dev2.Interp.exCS [.delay 0]).dev.plugs (Pm.Dev2.stamp 5 (Pm.Dev2.Interp.exAction [.delay 0] none)).exec) []).status = .done :=
  (fun ⟨k, h, _⟩ => ⟨k, h⟩) <| C02_completion_is_reference_done false (Pm.Dev2.Interp.exCS [.delay 0]).dev.plugs (Pm.Dev2.Interp.exCS [.delay 0]) ⟨[]⟩
    (Pm.Dev2.stamp 5 (Pm.Dev2.Interp.exAction [.delay 0] none))
    ⟨rfl, by decide +kernel, by decide +kernel, by decide +kernel, by decide +kernel⟩
    (by have h := Pm.Dev2.Interp.exInv [.delay 0] (by decide) []; exact ⟨h.ranged, h.plugs, h.ok, h.err⟩)
    (by decide +kernel)

/-- **The time-out branch and the error branch never report a success**: whatever `_process_action` reports when the head's
    deadline has passed (connect time-out, login time-out, expect time-out; everything queued behind is reported too), and
    whatever it reports for a failed action and everything queued behind it (aborted), is a failure. -/
theorem C02_failures_are_failures (rest : List Action) (c : Pm.Dev2.CS) (a : Action) (o : Oracle) (out : List Pm.Dev2.Out)
    (tmo : Option Pm.Dev2.Time) (cid : Nat) :
    (Pm.Dev2.Out.finish cid .success ∈ (Pm.Dev2.onTimeout rest c a o out tmo).2.2.1 → Pm.Dev2.Out.finish cid .success ∈ out) ∧
    (a.errnum ≠ .success → Pm.Dev2.Out.finish cid .success ∈ (Pm.Dev2.failAll rest c a o out tmo).2.2.1 →
      Pm.Dev2.Out.finish cid .success ∈ out) :=
  ⟨Pm.Dev2.E2E.onTimeout_noSuccess rest c a o out tmo cid, fun he => Pm.Dev2.E2E.failAll_noSuccess rest c a o out tmo he cid⟩

/-- `dev_initial_connect` (start-up) keeps the invariant: it only adds login actions, which belong to no client -/
theorem C02_Inv_initial_connect (w : W) (now : Nat) (con soe : List Nat) (h : Inv w) : Inv (initialConnect w now con soe).1 :=
  initialConnect_inv w now con soe h

example : Inv (initialConnect Ex.w0 0 [0] [0]).1 := C02_Inv_initial_connect Ex.w0 0 [0] [0] Ex.inv0

/-- **What can become of a command over a run** (no pass ending in an assertion): it is still in progress at the end (and
    then `C02_track` says with what `pending` and error flag); or there is a pass `p` of the run before which it is in
    progress and after which the client is gone — destroyed by an error on its descriptor; the completions of its actions
    are dropped — or idle: answered, which is the situation of `C02_sound`, `C02_complete`, `C02_errors_named`. -/
theorem C02_outcomes (g : Nat) (ps : List PassIn) (w : W) (c : Cli) (k : CmdC) (hinv : Inv w) (ha : Alive w ps)
    (hc : cliRec w g = some c) (hk : c.cmd = some k) :
    (∃ c' k', cliRec (runPasses w ps) g = some c' ∧ c'.cmd = some k' ∧ k'.al = k.al) ∨
    (∃ ps1 p ps2, ps = ps1 ++ p :: ps2 ∧
      (∃ c1 k1, cliRec (runPasses w ps1) g = some c1 ∧ c1.cmd = some k1 ∧ k1.al = k.al) ∧
      (cliRec (runPasses w (ps1 ++ [p])) g = none ∨ ∃ c2, cliRec (runPasses w (ps1 ++ [p])) g = some c2 ∧ c2.cmd = none)) :=
  run_outcome g ps w c k hinv ha hc hk      -- corollary of `C02_outcomes_runX`

/-- **A command in progress over a run.**  If after the run the client still has the command with the same arglist id, it
    is the command it had, with `pending` lowered by the number of completions the run reported for the client — fewer
    than `pending` — and the error flag or-ed with "one of them failed".  (A command that is over never comes back:
    arglist ids are not reused.) -/
theorem C02_track (g : Nat) (ps : List PassIn) (w : W) (c : Cli) (k : CmdC) (hinv : Inv w) (ha : Alive w ps)
    (hc : cliRec w g = some c) (hk : c.cmd = some k) (c' : Cli) (k' : CmdC)
    (hc' : cliRec (runPasses w ps) g = some c') (hk' : c'.cmd = some k') (hal : k'.al = k.al) :
    (runFins w ps g).length < k.pending ∧
    k' = { k with error := k.error || (runFins w ps g).any failed, pending := k.pending - (runFins w ps g).length } :=
  run_track g ps w c k hinv ha hc hk c' k' hc' hk' hal      -- corollary of `C02_track_runX`

example : ∃ c' k', cliRec (runPasses Ex.w0 [Ex.p1, Ex.p2, Ex.p3]) 1 = some c' ∧ c'.cmd = some k' ∧ k'.pending = 1 :=
  ⟨Ex.c0, Ex.k0, Ex.hc0, Ex.hk0, congrArg Prod.fst Ex.fresh0⟩

/-- **`assert(c->cmd != NULL)` in `_act_finish` is unreachable.**  Under the invariant, in the turn of any device (`anyBad`:
    some `_act_finish` call of the turn's callbacks returned through an assertion) the only way `_act_finish` can end in an
    assertion is F19: the last completion of a command (`pending = 1`) arrives and the reply cannot be built because
    `hostlist_sort` asserts — which happens for query commands only (`C02_success_iff`: a power command always has a
    reply).  A completion never reaches a client that has no command. -/
theorem C02_act_finish_assert_unreachable (p : PassIn) (a : DevAcc) (nd : Bytes × Dev) (rest : List (Bytes × Dev))
    (hinv : Inv (Pm.Daemon.Isolation.worldAt a (nd :: rest)))
    (h : anyBad nd.1 (afterStep a.w (devStep p a.w a.oracle nd).1) (devStep p a.w a.oracle nd).2.2.1 = true) :
    ∃ wm g c k e, cliOf wm g = some c ∧ c.cmd = some k ∧ k.pending = 1 ∧ finalReply c.exprange (withStore wm k e) = none :=
  devPass_assert_unreachable p a nd rest hinv h

/-- in pass 4 of the example run no `_act_finish` call ends in an assertion -/
example : (match (cliPostPoll Ex.w3x Ex.p4.acc Ex.p4.envs).devs with
    | nd :: _ => anyBad nd.1 (afterStep (acc0 (cliPostPoll Ex.w3x Ex.p4.acc Ex.p4.envs)).w
        (devStep Ex.p4 (acc0 (cliPostPoll Ex.w3x Ex.p4.acc Ex.p4.envs)).w (acc0 (cliPostPoll Ex.w3x Ex.p4.acc Ex.p4.envs)).oracle nd).1)
        (devStep Ex.p4 (acc0 (cliPostPoll Ex.w3x Ex.p4.acc Ex.p4.envs)).w (acc0 (cliPostPoll Ex.w3x Ex.p4.acc Ex.p4.envs)).oracle nd).2.2.1
    | [] => true) = false := by decide +kernel

/-- **The accepting pass.**  Whatever command client `g` has when the client phase of a pass is over — in particular one
    accepted in this very pass, whose error flag is clear (second part: the client had no command, or was not there, when
    the pass began) — waits for exactly the actions of `g` then queued, and the device phase of the pass treats it as
    `C02_pass` says.  So the chain is: request accepted (`C02_request_installed`) ▸ device phase of that pass (this
    theorem) ▸ the following passes (`C02_track`) ▸ the answering pass (`C02_sound`, `C02_complete`, `C02_errors_named`). -/
theorem C02_accepting_pass (w : W) (p : PassIn) (g : Nat) (hinv : Inv w) :
    (∀ c1 k, passDead w p = false → cliRec (cliPostPoll w p.acc p.envs) g = some c1 → c1.cmd = some k →
      k.pending = totalQ g (cliPostPoll w p.acc p.envs).devs ∧
      (((passFins w p g).length < k.pending ∧
        cliRec (daemonPass w p).1 g =
          some { c1 with cmd := some { k with error := k.error || (passFins w p g).any failed,
                                              pending := k.pending - (passFins w p g).length },
                         toBuf := c1.toBuf ++ passText w p g }) ∨
       ((passFins w p g).length = k.pending ∧
        ∃ r, finalReply c1.exprange { k with error := k.error || (passFins w p g).any failed,
                                             args := (storeArgs (daemonPass w p).1 k.al).map argC } = some r ∧
          cliRec (daemonPass w p).1 g = some { c1 with cmd := none, toBuf := c1.toBuf ++ passText w p g ++ r ++ prompt }))) ∧
    ((∀ c k, cliRec w g = some c → c.cmd = some k → False) →
      ∀ c1 k, cliRec (cliPostPoll w p.acc p.envs) g = some c1 → c1.cmd = some k → k.error = false) :=
  ⟨fun c1 k hd hc hk => devPhase_view w p g c1 k hinv hd hc hk, fun hidle => cliPostPoll_fresh w p.acc p.envs g hinv hidle⟩

/-- in the example run the request is accepted in pass 2 (client 1 idle before it, busy with a clear flag after its client phase) -/
example : ∀ c1 k, cliRec (cliPostPoll (runPasses Ex.w0 [Ex.p1]) Ex.p2.acc Ex.p2.envs) 1 = some c1 → c1.cmd = some k → k.error = false :=
  (C02_accepting_pass (runPasses Ex.w0 [Ex.p1]) Ex.p2 1
    (runPasses_inv Ex.w0 [Ex.p1] Ex.inv0 ⟨by decide +kernel, trivial⟩)).2
    (by intro c k hc hk
        have h1 : ((cliRec (runPasses Ex.w0 [Ex.p1]) 1).bind (·.cmd)).isNone = true := by decide +kernel
        rw [hc] at h1; simp [hk] at h1)

end endToEnd

/-! ## end to end, regex answers arbitrary in every pass (`runX`)

The run theorems above are over the plain fold `runPasses w ps` (see `Pm/RunX.lean`); here they are stated over `runX w qs`
(the definition shared with C03, C05, C06, C11, C15): a pass `q : PassX` is the kernel's answers `q.p` **and** the regex answers
`q.rx` recorded for that pass; `feed w rx` is what the driver does between passes (it
appends `rx` to `pendingX` and touches nothing else); `stepX w q = (daemonPass (feed w q.rx) q.p).1`.  The regex engine's
answers are arbitrary in every pass.  `AliveX`, `runFinsX` are `Alive`, `runFins` for such runs.  The invariant `Inv` does not
mention `pendingX`, so it is kept by `feed` (`C02_feed`).  Proofs: `Pm/RunXE2E.lean`; example run: `Pm/RunXEx.lean`. -/
section endToEndX
open Pm.Daemon.E2E
open Pm.Daemon.Isolation (runPasses)

/-- what the vocabulary is; the last three parts: a run whose passes bring no regex answer is a run of `runPasses`, with the
    same completions and the same `Alive` -/
theorem C02_runX_defs (w : W) (q : PassX) (qs : List PassX) (ps : List PassIn) (g : Nat) :
    runX w (q :: qs) = runX (stepX w q) qs ∧ runX w [] = w ∧ stepX w q = (daemonPass (feed w q.rx) q.p).1 ∧
    feed w q.rx = { w with pendingX := w.pendingX ++ q.rx } ∧
    (AliveX w (q :: qs) ↔ passDead (feed w q.rx) q.p = false ∧ AliveX (stepX w q) qs) ∧
    runFinsX w (q :: qs) g = passFins (feed w q.rx) q.p g ++ runFinsX (stepX w q) qs g ∧ runFinsX w [] g = [] ∧
    runX w (ps.map fun p => ⟨p, []⟩) = runPasses w ps ∧ runFinsX w (ps.map fun p => ⟨p, []⟩) g = runFins w ps g ∧
    (AliveX w (ps.map fun p => ⟨p, []⟩) ↔ Alive w ps) :=
  ⟨rfl, rfl, rfl, rfl, Iff.rfl, rfl, rfl, runX_runPasses w ps, runFinsX_plain w ps g, aliveX_plain w ps⟩

/-- **`feed` keeps the invariant**, the client records and the queues: handing the recorded regex answers to the daemon touches
    `pendingX` only -/
theorem C02_feed (w : W) (rx : List Pm.Dev2.RxCall) :
    (Inv w → Inv (feed w rx)) ∧ (∀ g, cliRec (feed w rx) g = cliRec w g) ∧ (feed w rx).devs = w.devs ∧ (feed w rx).store = w.store :=
  ⟨feed_inv rx, fun _ => rfl, rfl, rfl⟩

/-- **The invariant `pending` = queued, regex answers arbitrary in every pass.**  `Inv` holds after any run of passes none of
    which ends in an assertion — whatever the kernel answers, whatever the regex engine answers in each pass, whatever the
    other clients do.  (`C02_pending_is_queued` is the case of passes that bring no answer.) -/
theorem C02_pending_is_queued_runX (w : W) (qs : List PassX) (h : Inv w) (ha : AliveX w qs) : Inv (runX w qs) :=
  runX_inv w qs h ha

example : Inv (runX ExX.w2 (ExX.qs ++ [ExX.q4])) := C02_pending_is_queued_runX _ _ ExX.inv2 ExX.alive4

/-- **C02, soundness — regex answers arbitrary in every pass.**  The statement of `C02_sound` for a run `qs ++ [q]` in which
    every pass brings its own regex answers (`q.rx`, fed before the pass): client `g` has the power command `k0` in progress in
    a state `w0` satisfying the invariant; no pass ends in an assertion; before the last pass `q` the command is still in
    progress, after it the client is there and idle.  If its output buffer then ends with `102 Command completed successfully`
    and the prompt: `k0`'s error flag was clear; the devices reported exactly `k0.pending` completions for the client during
    the run — one for every action it had queued —; every one of them is a success; no result cell of a target is `unknown`
    in the arglist as it stands after the pass.  (`C02_sound` is the case `qs.map (⟨·, []⟩)`, in which only the first pass of
    the run can see a match.) -/
theorem C02_sound_runX (w0 : W) (qs : List PassX) (q : PassX) (g : Nat) (c0 : Cli) (k0 : CmdC) (c' : Cli)
    (hinv : Inv w0) (ha : AliveX w0 (qs ++ [q])) (hc0 : cliRec w0 g = some c0) (hk0 : c0.cmd = some k0)
    (hp : k0.com ∈ [Com.on, .off, .cycle, .reset, .flash, .unflash])
    (hbusy : ∃ c k, cliRec (runX w0 qs) g = some c ∧ c.cmd = some k ∧ k.al = k0.al)
    (hidle : cliRec (runX w0 (qs ++ [q])) g = some c') (hnone : c'.cmd = none)
    (h102 : bstr "102 Command completed successfully" ++ crlf ++ prompt <:+ c'.toBuf) :
    k0.error = false ∧ (runFinsX w0 (qs ++ [q]) g).length = k0.pending ∧ k0.pending = totalQ g w0.devs ∧
    (∀ x ∈ runFinsX w0 (qs ++ [q]) g, x.2 = .success) ∧
    ∀ n ∈ k0.names, ∀ a, ((storeArgs (runX w0 (qs ++ [q])) k0.al).map argC).find? (·.node == n) = some a → a.result ≠ 1 :=
  soundX w0 qs q g c0 k0 c' hinv ha hc0 hk0 ((isPower_iff k0.com).mpr hp) hbusy hidle hnone (by simpa [okLine, List.append_assoc] using h102)

/-- non-vacuity, with an `expect` that matches in the SECOND pass of the run (`Pm/RunXEx.lean`; no run of `runPasses` has that).
   The run starts in `ExX.w2`: client 1's `on a1` has just been accepted (`pending = 1`).  First pass `⟨p3, []⟩`: the device takes
   the bytes, nothing completes (`ExX.fins3`), the command is still in progress (`ExX.busy`).  Second pass `⟨p4, xs4⟩`: the
   device's `OK\n` arrives and the regex answer fed before this pass makes the `expect` match: one success completion, the
   client is sent `102`.  Without the answer (`⟨p4, []⟩`, all `runPasses` can say from `w2`) nothing completes
   (`ExX.without_answer`). -/
example : ExX.qs = [⟨Ex.p3, []⟩] ∧ ExX.q4 = ⟨Ex.p4, Ex.xs4⟩ ∧ runFinsX ExX.w2 ExX.qs 1 = [] ∧
    passFins (feed (runX ExX.w2 ExX.qs) ExX.q4.rx) ExX.q4.p 1 = [([65], .success)] ∧
    ExX.c4.toBuf = bstr "001 2\r\npowerman> 102 Command completed successfully\r\npowerman> " ∧
    runFinsX ExX.w2 (ExX.qs ++ [⟨Ex.p4, []⟩]) 1 = [] :=
  ⟨rfl, rfl, ExX.fins3, ExX.fins4_last, by rw [ExX.buf4, ClientPf.bstr_chars, ClientPf.bstr_chars]; decide +kernel, ExX.without_answer.1⟩
example : ExX.k0.error = false ∧ (runFinsX ExX.w2 (ExX.qs ++ [ExX.q4]) 1).length = ExX.k0.pending ∧ ExX.k0.pending = totalQ 1 ExX.w2.devs ∧
    (∀ x ∈ runFinsX ExX.w2 (ExX.qs ++ [ExX.q4]) 1, x.2 = .success) ∧
    ∀ n ∈ ExX.k0.names, ∀ a, ((storeArgs (runX ExX.w2 (ExX.qs ++ [ExX.q4])) ExX.k0.al).map argC).find? (·.node == n) = some a → a.result ≠ 1 :=
  C02_sound_runX ExX.w2 ExX.qs ExX.q4 1 ExX.c0 ExX.k0 ExX.c4 ExX.inv2 ExX.alive4 ExX.hc0 ExX.hk0 ((isPower_iff _).mp ExX.power0)
    ExX.busy ExX.hc4 ExX.idle4 ⟨bstr "001 2\r\npowerman> ", by rw [ExX.buf4]; simp [okLine, List.append_assoc]⟩

/-- **C02, completeness — regex answers arbitrary in every pass** (same setting).  If `k0`'s error flag was clear, every
    completion the run reported for the client is a success and no result cell of a target is `unknown` after the answering
    pass, the client was sent — after the lines of that pass — `102 Command completed successfully` and the prompt (`c1` is its
    record when the client phase of the pass is over; `feed (runX w0 qs) q.rx` is the world the answering pass starts from:
    the world the run has reached, with the regex answers of that pass handed over). -/
theorem C02_complete_runX (w0 : W) (qs : List PassX) (q : PassX) (g : Nat) (c0 : Cli) (k0 : CmdC) (c' : Cli)
    (hinv : Inv w0) (ha : AliveX w0 (qs ++ [q])) (hc0 : cliRec w0 g = some c0) (hk0 : c0.cmd = some k0)
    (hp : k0.com ∈ [Com.on, .off, .cycle, .reset, .flash, .unflash])
    (hbusy : ∃ c k, cliRec (runX w0 qs) g = some c ∧ c.cmd = some k ∧ k.al = k0.al)
    (hidle : cliRec (runX w0 (qs ++ [q])) g = some c') (hnone : c'.cmd = none)
    (herr : k0.error = false) (hall : ∀ x ∈ runFinsX w0 (qs ++ [q]) g, x.2 = .success)
    (hres : ∀ n ∈ k0.names, ∀ a, ((storeArgs (runX w0 (qs ++ [q])) k0.al).map argC).find? (·.node == n) = some a → a.result ≠ 1) :
    ∃ c1, cliRec (cliPostPoll (feed (runX w0 qs) q.rx) q.p.acc q.p.envs) g = some c1 ∧
      c'.toBuf = c1.toBuf ++ passText (feed (runX w0 qs) q.rx) q.p g ++ (bstr "102 Command completed successfully" ++ crlf) ++ prompt :=
  completeX w0 qs q g c0 k0 c' hinv ha hc0 hk0 ((isPower_iff k0.com).mpr hp) hbusy hidle hnone herr hall hres

/-- the same run: the `expect` matches in the second pass, the hypotheses of completeness hold, the client is sent `102` -/
example : ∃ c1, cliRec (cliPostPoll (feed (runX ExX.w2 ExX.qs) ExX.q4.rx) ExX.q4.p.acc ExX.q4.p.envs) 1 = some c1 ∧
    ExX.c4.toBuf = c1.toBuf ++ passText (feed (runX ExX.w2 ExX.qs) ExX.q4.rx) ExX.q4.p 1 ++
      (bstr "102 Command completed successfully" ++ crlf) ++ prompt :=
  C02_complete_runX ExX.w2 ExX.qs ExX.q4 1 ExX.c0 ExX.k0 ExX.c4 ExX.inv2 ExX.alive4 ExX.hc0 ExX.hk0 ((isPower_iff _).mp ExX.power0)
    ExX.busy ExX.hc4 ExX.idle4 (by decide +kernel)
    (by rw [ExX.fins4]; intro x hx; simp only [List.mem_singleton] at hx; subst hx; rfl)
    (by decide +kernel)

/-- **C02, errors are reported and named — regex answers arbitrary in every pass** (same setting).  If `k0`'s error flag was
    set, or some completion the run reported for the client is a failure, or some result cell of a target is `unknown` after
    the answering pass, the client was sent — after the lines of that pass — `210 Command completed with errors` and the prompt;
    and every failed completion of that pass has its line `308 <device>: <reason>` among those lines. -/
theorem C02_errors_named_runX (w0 : W) (qs : List PassX) (q : PassX) (g : Nat) (c0 : Cli) (k0 : CmdC) (c' : Cli)
    (hinv : Inv w0) (ha : AliveX w0 (qs ++ [q])) (hc0 : cliRec w0 g = some c0) (hk0 : c0.cmd = some k0)
    (hp : k0.com ∈ [Com.on, .off, .cycle, .reset, .flash, .unflash])
    (hbusy : ∃ c k, cliRec (runX w0 qs) g = some c ∧ c.cmd = some k ∧ k.al = k0.al)
    (hidle : cliRec (runX w0 (qs ++ [q])) g = some c') (hnone : c'.cmd = none)
    (hbad : k0.error = true ∨ (∃ x ∈ runFinsX w0 (qs ++ [q]) g, x.2 ≠ .success) ∨
      ¬ ∀ n ∈ k0.names, ∀ a, ((storeArgs (runX w0 (qs ++ [q])) k0.al).map argC).find? (·.node == n) = some a → a.result ≠ 1) :
    (∃ c1, cliRec (cliPostPoll (feed (runX w0 qs) q.rx) q.p.acc q.p.envs) g = some c1 ∧
      c'.toBuf = c1.toBuf ++ passText (feed (runX w0 qs) q.rx) q.p g ++ (bstr "210 Command completed with errors" ++ crlf) ++ prompt) ∧
    ∀ x ∈ passFins (feed (runX w0 qs) q.rx) q.p g, x.2 ≠ .success →
      ∃ u v reason, passText (feed (runX w0 qs) q.rx) q.p g = u ++ (bstr "308 " ++ (x.1 ++ reason) ++ crlf) ++ v :=
  errorsX w0 qs q g c0 k0 c' hinv ha hc0 hk0 ((isPower_iff k0.com).mpr hp) hbusy hidle hnone hbad

/-- non-vacuity: from `ExX.w2`, the device takes the bytes (`⟨p3, []⟩`), then nothing comes until the action's time-out has passed
   (`⟨pLate, []⟩`): `308 A: action timed out …`, `210` -/
example : (runFinsX ExX.w2 (ExX.qs ++ [⟨Ex.pLate, []⟩]) 1 = [([65], .expfail)]) ∧
    (cliRec (runX ExX.w2 (ExX.qs ++ [⟨Ex.pLate, []⟩])) 1).map (fun c => (c.toBuf, c.cmd.isNone)) =
      some (bstr "001 2\r\npowerman> 308 A: action timed out waiting for expected response\r\n210 Command completed with errors\r\npowerman> ", true) ∧
    AliveX ExX.w2 (ExX.qs ++ [⟨Ex.pLate, []⟩]) := by
  -- after `ExX.qs` the run stands in `Ex.w3`, and the late pass brings no regex answer: it is the late pass of `Ex.run`
  have w3 : runX ExX.w2 ExX.qs = Ex.w3 :=
    (runX_append Ex.w0 [.plain Ex.p1, .plain Ex.p2] ExX.qs).symm.trans (runX_runPasses Ex.w0 [Ex.p1, Ex.p2, Ex.p3])
  refine ⟨?_, ?_, AliveX.of_append ExX.alive4.append.1 ?_⟩
  · rw [runFinsX_append, ExX.fins3, w3]
    exact (runFinsX_plain Ex.w3 [Ex.pLate] 1).trans Ex.finsL
  · rw [runX_append, w3, show runX Ex.w3 [⟨Ex.pLate, []⟩] = runPasses Ex.w3 ([] ++ [Ex.pLate]) from runX_runPasses Ex.w3 [Ex.pLate],
      Ex.hcL, Option.map_some, Ex.bufL, Ex.idleL]; rfl
  · rw [w3]; exact (aliveX_plain Ex.w3 [Ex.pLate]).mpr Ex.aliveL

/-- **What can become of a command over a run — regex answers arbitrary in every pass**: still in progress at the end, or there
    is a pass `q` of the run before which it is in progress and after which the client is gone or idle (answered:
    `C02_sound_runX`, `C02_complete_runX`, `C02_errors_named_runX`). -/
theorem C02_outcomes_runX (g : Nat) (qs : List PassX) (w : W) (c : Cli) (k : CmdC) (hinv : Inv w) (ha : AliveX w qs)
    (hc : cliRec w g = some c) (hk : c.cmd = some k) :
    (∃ c' k', cliRec (runX w qs) g = some c' ∧ c'.cmd = some k' ∧ k'.al = k.al) ∨
    (∃ qs1 q qs2, qs = qs1 ++ q :: qs2 ∧
      (∃ c1 k1, cliRec (runX w qs1) g = some c1 ∧ c1.cmd = some k1 ∧ k1.al = k.al) ∧
      (cliRec (runX w (qs1 ++ [q])) g = none ∨ ∃ c2, cliRec (runX w (qs1 ++ [q])) g = some c2 ∧ c2.cmd = none)) :=
  run_outcomeX g qs w c k hinv ha hc hk

/-- **A command in progress over a run — regex answers arbitrary in every pass.**  If after the run the client still has the
    command with the same arglist id, it is the command it had, with `pending` lowered by the number of completions the run
    reported for the client — fewer than `pending` — and the error flag or-ed with "one of them failed". -/
theorem C02_track_runX (g : Nat) (qs : List PassX) (w : W) (c : Cli) (k : CmdC) (hinv : Inv w) (ha : AliveX w qs)
    (hc : cliRec w g = some c) (hk : c.cmd = some k) (c' : Cli) (k' : CmdC)
    (hc' : cliRec (runX w qs) g = some c') (hk' : c'.cmd = some k') (hal : k'.al = k.al) :
    (runFinsX w qs g).length < k.pending ∧
    k' = { k with error := k.error || (runFinsX w qs g).any failed, pending := k.pending - (runFinsX w qs g).length } :=
  run_trackX g qs w c k hinv ha hc hk c' k' hc' hk' hal

/-- in the example run: after the first pass the command is the one accepted, untouched (no completion yet) -/
example : ExX.k3 = { ExX.k0 with error := ExX.k0.error || (runFinsX ExX.w2 ExX.qs 1).any failed,
                                  pending := ExX.k0.pending - (runFinsX ExX.w2 ExX.qs 1).length } :=
  (C02_track_runX 1 ExX.qs ExX.w2 ExX.c0 ExX.k0 ExX.inv2 ExX.alive4.append.1 ExX.hc0 ExX.hk0 ExX.c3 ExX.k3 ExX.hc3 ExX.hk3 ExX.al3).2

end endToEndX

end Pm.Props.C02
