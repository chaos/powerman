import Pm.SerialProof
import Pm.TelnetPass
import Pm.CapProof
import Pm.CbufRingRun
import Pm.ToBufProps
import Pm.StdioCli
/-! # C09 — the byte streams between the daemon and its devices and clients are carried faithfully

What expect patterns are matched against is exactly the byte stream the device sent on the current connection — in
order, nothing lost or duplicated — with telnet command sequences removed and doubled 0xFF restored, independent of
how the stream was split into reads (NUL is presented as 0xFF); nothing received on an earlier connection is visible
after a reconnect.  Symmetrically, bytes queued for a device or client are delivered exactly once and in order
however the writes are split.

All statements are for every byte stream, every segmentation, every device state: no bounds.

Capacity is modelled on the read side (section 7): the input buffers are liblsd circular buffers (`Pm/Cbuf.lean`:
`size` starts at 1024, grows in chunks when the buffer is full, up to 64 KiB for a device and 1 MiB for a client, never
shrinks).  One `read` asks for the free space (a chunk of 1000 when there is none), so what a pass takes in is a *prefix*
of what the kernel has (`readOf`, `readTaken`; the rest stays in the kernel for the next pass), and only a buffer that is
full at its maximal size overwrites its oldest unread bytes (`dropOf`, `readDropped`).  "While unconsumed data stays
within buffer capacity" is a hypothesis that can be read off the theorems, not a standing assumption:
`readDropped = 0` unless `fromBuf.length = fromSize = max` (`C09_no_loss_below_max`), and the overwritten bytes are
exactly the oldest ones (`C09_overflow_drops_oldest`).  On the write side the buffer on the way *to* a device, `dev->to`, is
a cbuf of `MAX_DEV_BUF` = 65536 bytes in overwrite mode too: what `_process_send` and the telnet answers queue beyond that
overwrites the oldest *unsent* bytes (`clipTo`; section 8).
The statements of sections 1 and 5 therefore read `clipTo (toBuf ++ …)`; each has the form `toBuf ++ …` as a corollary
under the explicit no-overflow hypothesis (`…_below`). -/
namespace Pm.Props.C09
open Pm.Dev2
open Pm.Dev2.Tel Pm.Daemon.Tel
open Pm.Dev2.Cap
open Pm.Dev2.Login2 (telnetReplies readyReplies sentBytes postPollReady postPollPre)
open Pm.Dev2.Interp (sendText)
open Pm.Dev2.ToBufP

/-- a device with nothing configured and nothing pending, for the examples -/
def dev0 : Dev :=
  { plugs := [], scripts := fun _ => none, timeout := 0, acts := [], toBuf := [], fromBuf := [], xmStr := none,
    xmOffs := [], xmResult := false, xmUsed := false, args := [], nextUid := 0, shortCircuitDelay := false }

/-! ## 1. segmentation independence -/

/-- `_telnet_preprocess` is exactly: continue the ideal decoder (`decodeFrom` = one fold of `telnetStep`) on the newly
    read bytes from the state the device carries; append what it keeps to `fromBuf`, queue its option replies in `toBuf`;
    carry the state it ends in.  Nothing already in `fromBuf` is looked at again (finding F4). -/
theorem C09_filter_is_decoder (d : Dev) (new : Bytes) :
    telnetFilter d new =
      { d with tstate := (decodeFrom d.tstate d.tcmd new).st, tcmd := (decodeFrom d.tstate d.tcmd new).cmd,
               fromBuf := d.fromBuf ++ (decodeFrom d.tstate d.tcmd new).kept,
               toBuf := clipTo (d.toBuf ++ (decodeFrom d.tstate d.tcmd new).replies) } :=
  telnetFilter_eq d new

/-- under the explicit no-overflow hypothesis the replies are simply appended -/
theorem C09_filter_is_decoder_below (d : Dev) (new : Bytes)
    (hfit : (d.toBuf ++ (decodeFrom d.tstate d.tcmd new).replies).length ≤ 65536) :
    telnetFilter d new =
      { d with tstate := (decodeFrom d.tstate d.tcmd new).st, tcmd := (decodeFrom d.tstate d.tcmd new).cmd,
               fromBuf := d.fromBuf ++ (decodeFrom d.tstate d.tcmd new).kept,
               toBuf := d.toBuf ++ (decodeFrom d.tstate d.tcmd new).replies } := by
  rw [telnetFilter_eq, clipTo_of_le _ hfit]

/-- non-vacuity of the no-overflow hypothesis: three answer bytes behind an empty queue -/
example : (dev0.toBuf ++ (decodeFrom dev0.tstate dev0.tcmd [255, 253, 1]).replies).length ≤ 65536 := by decide +kernel

/-- Two reads delivering `a` then `b` leave the device — decoder state, pending bytes, queued replies, everything —
    exactly as one read delivering `a ++ b` would, whatever was pending and whatever state the decoder was in. -/
theorem C09_split (d : Dev) (a b : Bytes) : telnetFilter (telnetFilter d a) b = telnetFilter d (a ++ b) :=
  telnetFilter_append d a b

/-- The same for any number of reads: only the concatenation of the chunks matters.
    (The hypothesis — the output buffer is within its capacity to begin with, as every reachable one is:
    `C09_device_out_capacity` — is needed for the empty list of chunks only, where
    the right-hand side is `telnetFilter d []`, which writes `clipTo d.toBuf`.  `C09_split` holds beyond the limit too:
    overwriting writes compose, `clipTo_clipTo_append`.) -/
theorem C09_split_chunks (d : Dev) (chunks : List Bytes) (hcap : d.toBuf.length ≤ 65536) :
    chunks.foldl telnetFilter d = telnetFilter d chunks.flatten :=
  telnetFilter_chunks d chunks hcap

/-- Hence two segmentations of the same stream cannot be told apart — also when the replies overflow the output buffer. -/
theorem C09_segmentation_independent (d : Dev) (c1 c2 : List Bytes) (h : c1.flatten = c2.flatten)
    (hcap : d.toBuf.length ≤ 65536) :
    c1.foldl telnetFilter d = c2.foldl telnetFilter d := by
  rw [C09_split_chunks _ _ hcap, C09_split_chunks _ _ hcap, h]

/-- the F4 witness stream `a b IAC | DO ECHO c \n`: split inside the command, the script sees `a b c \n`, and
    `WONT ECHO` is queued once -/
example : (telnetFilter (telnetFilter dev0 [97, 98, 255]) [253, 1, 99, 10]).fromBuf = [97, 98, 99, 10] := by decide +kernel
example : (telnetFilter dev0 [97, 98, 255, 253, 1, 99, 10]).fromBuf = [97, 98, 99, 10] := by decide +kernel
example : (telnetFilter (telnetFilter dev0 [97, 98, 255]) [253, 1, 99, 10]).toBuf = [255, 252, 1] := by decide +kernel
/-- the second F4 witness: an escaped 0xFF still unconsumed when the next read arrives is kept -/
example : (telnetFilter (telnetFilter dev0 [120, 255, 255, 121]) [122]).fromBuf = [120, 255, 121, 122] := by decide +kernel
example : ([[97], [98], [255], [253], [1], [99], [10]].foldl telnetFilter dev0).fromBuf = [97, 98, 99, 10] := by decide +kernel

/-! ## 2. what the decoder keeps -/

/-- The ideal decoder (`decode s` = one fold of `telnetStep` over the whole stream from the state of a fresh
    connection) against a specification written by recursion on the stream, with no state machine in it:
    `strip` maps `IAC IAC ↦ 0xFF`, `IAC (DO|DONT|WILL|WONT) o ↦ ε`, `IAC x ↦ ε` for any other `x`, a command cut off by
    the end of the stream `↦ ε`, and every other byte to itself; `answers` collects the replies (`DO o ↦ WILL o` for
    SGA and TM, `WONT o` for the ten options refused, nothing else); `pendingTail` is the cut-off command.
    Holds for every stream, also those that end inside a command. -/
theorem C09_decode_spec (s : Bytes) :
    (decode s).kept = strip s ∧ (decode s).replies = answers s ∧ (decode s).st = (pendingTail s).length ∧
    ((decode s).st = 2 → pendingTail s = [255, (decode s).cmd]) :=
  ⟨decode_kept s, decode_replies s, decode_st s, decode_cmd s⟩

/-- A stream that does not end inside a command leaves the decoder at rest. -/
theorem C09_decode_complete (s : Bytes) (h : pendingTail s = []) : (decode s).st = 0 := by
  rw [decode_st, h]; rfl

/-- The carried state is exactly the cut-off command: continuing after `s` on `t` keeps what the specification keeps
    of `t` with that command put back in front.  So the specification itself is compositional. -/
theorem C09_decode_resume (s t : Bytes) :
    (decodeFrom (decode s).st (decode s).cmd t).kept = strip (pendingTail s ++ t) ∧
    strip (s ++ t) = strip s ++ strip (pendingTail s ++ t) :=
  ⟨decodeFrom_resume_kept s t, strip_append s t⟩

/-- The cut-off command is nothing, a lone `IAC`, or `IAC` and one of the four option commands. -/
theorem C09_pending_shapes (s : Bytes) :
    pendingTail s = [] ∨ pendingTail s = [255] ∨ ∃ c, c ≠ 255 ∧ isOptCmd c = true ∧ pendingTail s = [255, c] :=
  pendingTail_cases s

/-- Bytes other than IAC pass unchanged: a stream without 0xFF is kept as it is, answers nothing and leaves the
    decoder at rest. -/
theorem C09_decode_clean (s : Bytes) (h : 255 ∉ s) :
    (decode s).kept = s ∧ (decode s).replies = [] ∧ (decode s).st = 0 := by
  refine ⟨by rw [decode_kept, strip_clean s h], by rw [decode_replies, answers_clean s h], ?_⟩
  rw [decode_st, pendingTail_clean s h]; rfl

/-- Nothing is invented: never more bytes kept than received. -/
theorem C09_decode_no_longer (s : Bytes) : (decode s).kept.length ≤ s.length := by
  rw [decode_kept]; exact strip_length_le s

example : strip [97, 255, 255, 98, 255, 253, 1, 99, 255, 241, 10, 0] = [97, 255, 98, 99, 10, 0] := by decide +kernel
example : answers [97, 255, 253, 1, 255, 253, 3, 255, 251, 1, 255, 253, 99] = [255, 252, 1, 255, 251, 3] := by decide +kernel
example : pendingTail [97, 255, 253] = [255, 253] ∧ pendingTail [97, 255] = [255] ∧ pendingTail [97, 255, 241] = [] := by decide +kernel
example : (decode [97, 98, 255, 253, 1, 99, 10]).kept = [97, 98, 99, 10] := by decide +kernel
/-- the hypothesis of `C09_decode_clean` holds of a stream with NUL and 0xFE in it -/
example : (255 : UInt8) ∉ [97, 98, 0, 10, 254] := by decide +kernel

/-! ## 3. the read side -/

/-- `_handle_ready_device` when poll reports the descriptor readable (and not writable) and the kernel has `bs` to hand
    out.  The bytes *read* are `readOf c.dev bs`, the prefix of `bs` the input buffer asks for (`C09_read_is_prefix`);
    `devClip c.dev bs` is the device after the capacity half of the `read`: the buffer has grown if it was full and its
    `dropOf c.dev bs` oldest bytes have given way (none below `MAX_DEV_BUF`, `C09_no_loss_below_max`).  Then `fromBuf`
    becomes that `fromBuf` followed by what the decoder keeps of the bytes read, continued from the state the device
    carries (tcp), or followed by the bytes read themselves (coprocess); the `read` is logged with the number of bytes
    read; no I/O error is reported. -/
theorem C09_read_side (c : CS) (bs : Bytes) (h : ReadyOk c)
    (hout : c.env.revents &&& 2 = 0) (hin : c.env.revents &&& 1 ≠ 0)
    (hr : c.env.read = some (some bs)) (hbs : bs ≠ []) :
    handleReady c = ({ c with env := { c.env with read := some (some (readOf c.dev bs)) },
                              sys := c.sys ++ [.read (readOf c.dev bs).length],
                              dev := absorb (devClip c.dev bs) (readOf c.dev bs) }, false) ∧
    (absorb (devClip c.dev bs) (readOf c.dev bs)).fromBuf =
      c.dev.fromBuf.drop (dropOf c.dev bs) ++ keptOf c.dev (readOf c.dev bs) ∧
    (c.dev.isPipe = false → keptOf c.dev (readOf c.dev bs) = (decodeFrom c.dev.tstate c.dev.tcmd (readOf c.dev bs)).kept ∧
        absorb (devClip c.dev bs) (readOf c.dev bs) = telnetFilter (devClip c.dev bs) (readOf c.dev bs)) ∧
    (c.dev.isPipe = true → keptOf c.dev (readOf c.dev bs) = readOf c.dev bs) ∧
    readOf c.dev bs <+: bs ∧ readOf c.dev bs ≠ [] := by
  refine ⟨handleReady_read_only c bs h hout hin hr hbs, ?_, ?_, ?_, readOf_prefix _ _, readOf_ne_nil _ _ hbs⟩
  · rw [absorb_fromBuf]; rfl
  · intro hp
    have hp' : (devClip c.dev bs).isPipe = false := hp
    simp [keptOf, absorb, hp]
  · intro hp; simp [keptOf, hp]

/-- the hypotheses are satisfiable: a connected tcp device, readable, the F4 stream's second half arriving while the
    decoder is inside a command -/
example :
    (handleReady { dev := { dev0 with conn := 2, fd := some 7, tstate := 1, fromBuf := [97, 98] },
                   env := { now := 0, revents := 1, sockets := [], connects := [], soerrs := [],
                            read := some (some [253, 1, 99, 10]), writeOk := true },
                   sys := [] }).1.dev.fromBuf = [97, 98, 99, 10] := by decide +kernel

/-- and the entry conditions `ReadyOk` hold of that state -/
example :
    ReadyOk { dev := { dev0 with conn := 2, fd := some 7, tstate := 1, fromBuf := [97, 98] },
              env := { now := 0, revents := 1, sockets := [], connects := [], soerrs := [],
                       read := some (some [253, 1, 99, 10]), writeOk := true },
              sys := [] } := ⟨by decide, by decide, by decide, by decide, by decide⟩

/-- The same when the descriptor is also writable, connected, with output queued, and the `write` succeeds (the kernel
    takes `wcap ≥ 1` bytes): the first `wcap` bytes of `toBuf` go out first — the rest stays queued —, then the bytes
    read are taken in. -/
theorem C09_read_side_after_write (c : CS) (bs : Bytes) (h : ReadyOk c)
    (hout : c.env.revents &&& 2 ≠ 0) (hin : c.env.revents &&& 1 ≠ 0) (hc : c.dev.conn ≠ 1) (hb : c.dev.toBuf ≠ [])
    (hw : c.env.writeOk = true) (hcap : c.env.wcap ≠ 0) (hr : c.env.read = some (some bs)) (hbs : bs ≠ []) :
    handleReady c =
      ({ c with env := { c.env with read := some (some (readOf c.dev bs)) },
                sys := c.sys ++ [.write (c.dev.toBuf.take c.env.wcap) true, .read (readOf c.dev bs).length],
                dev := absorb (devClip { c.dev with toBuf := c.dev.toBuf.drop c.env.wcap } bs) (readOf c.dev bs) }, false) :=
  handleReady_write_read c bs h hout hin hc hb hw hcap hr hbs

/-- Every call of `_handle_ready_device`, no hypotheses: seen from the read side (transport, decoder state, pending
    bytes) either nothing happened, or the read branch ran — the kernel had `bs`, the `dropOf c.dev bs` oldest pending
    bytes were overwritten (none unless the buffer is full at `MAX_DEV_BUF`) and exactly the bytes read, `readOf c.dev bs`,
    were taken in —, or a connection attempt completed — then nothing was read and the decoder was put at rest. -/
theorem C09_read_side_all_cases (c : CS) :
    rview (handleReady c).1.dev = rview c.dev ∧ (handleReady c).1.dev.statConnects = c.dev.statConnects ∨
    (∃ bs, c.env.read = some (some bs) ∧ bs ≠ [] ∧ c.env.revents &&& 1 ≠ 0 ∧ (handleReady c).2 = false ∧
       (handleReady c).1.dev.conn = c.dev.conn ∧ (handleReady c).1.dev.statConnects = c.dev.statConnects ∧
       rview (handleReady c).1.dev = ((rview c.dev).consume (dropOf c.dev bs)).read (readOf c.dev bs)) ∨
    (c.dev.conn = 1 ∧ (handleReady c).1.dev.conn = 2 ∧ (handleReady c).2 = false ∧
       (handleReady c).1.dev.statConnects = c.dev.statConnects + 1 ∧
       rview (handleReady c).1.dev = { rview c.dev with st := 0, cmd := 0 }) :=
  handleReady_view c

/-- `_process_expect` with nothing pending asks nothing and changes nothing. -/
theorem C09_expect_empty (d : Dev) (a : Action) (o : Oracle) (pat : Nat) (h : d.fromBuf = []) :
    (stmtExpect d a o pat).dev.fromBuf = [] ∧ (stmtExpect d a o pat).oracle = o ∧
    (stmtExpect d a o pat).finished = false :=
  (stmtExpect_reads d a o pat).empty h

/-- With bytes pending, the regex engine is asked once, and the subject it is given is the whole pending buffer with
    every NUL shown as 0xFF (`present`; same length, so offsets mean the same in both).  No match: the buffer is left
    alone and the statement stalls. -/
theorem C09_expect_nomatch (d : Dev) (a : Action) (o : Oracle) (pat : Nat) (h : d.fromBuf ≠ [])
    (hn : (askRx o pat (present d.fromBuf)).2.1 = none) :
    (stmtExpect d a o pat).dev.fromBuf = d.fromBuf ∧
    (stmtExpect d a o pat).oracle = (askRx o pat (present d.fromBuf)).1 ∧
    (stmtExpect d a o pat).finished = false :=
  (stmtExpect_reads d a o pat).noMatch h hn

/-- A match whose whole-match end offset is `eo` consumes exactly the first `eo` pending bytes: what stays is the old
    buffer without that prefix, in order; the match object keeps the subject as presented. -/
theorem C09_expect_match (d : Dev) (a : Action) (o : Oracle) (pat : Nat) (offs : List (Int × Int)) (h : d.fromBuf ≠ [])
    (hm : (askRx o pat (present d.fromBuf)).2.1 = some offs) :
    (stmtExpect d a o pat).dev.fromBuf = d.fromBuf.drop (offs.headD (0, 0)).2.toNat ∧
    (stmtExpect d a o pat).oracle = (askRx o pat (present d.fromBuf)).1 ∧
    (stmtExpect d a o pat).finished = true ∧
    (stmtExpect d a o pat).dev.xmStr = some (present d.fromBuf) ∧ (stmtExpect d a o pat).dev.xmOffs = offs :=
  (stmtExpect_reads d a o pat).matched offs h hm

/-- how the subject relates to the buffer -/
theorem C09_present (buf : Bytes) :
    (present buf).length = buf.length ∧ (∀ k, (present buf).take k = present (buf.take k)) ∧
    (0 ∉ buf → present buf = buf) :=
  ⟨present_length buf, present_take buf, present_of_no_nul buf⟩

example : present [97, 0, 255, 10] = [97, 255, 255, 10] := by decide +kernel
/-- a match of the first three of four pending bytes -/
example :
    (stmtExpect { dev0 with fromBuf := [111, 107, 10, 62] } default ⟨[⟨5, [111, 107, 10, 62], some [(0, 3)]⟩]⟩ 5).dev.fromBuf
      = [62] := by decide +kernel

/-- no match: four bytes pending, one of them NUL — the engine is asked about `o k 0xFF >` and everything stays -/
example :
    (stmtExpect { dev0 with fromBuf := [111, 107, 0, 62] } default ⟨[⟨5, [111, 107, 255, 62], none⟩]⟩ 5).dev.fromBuf
      = [111, 107, 0, 62] ∧
    (stmtExpect { dev0 with fromBuf := [111, 107, 0, 62] } default ⟨[⟨5, [111, 107, 255, 62], none⟩]⟩ 5).out.length = 0 := by
  decide

/-- In every case `_process_expect` does nothing to the read side but drop a prefix of the pending bytes. -/
theorem C09_expect_consumes_prefix (d : Dev) (a : Action) (o : Oracle) (pat : Nat) :
    ∃ k, rview (stmtExpect d a o pat).dev = (rview d).consume k :=
  stmtExpect_view d a o pat

/-- Any interleaving of reads (the stream cut anywhere) and consumes (any counts, also more than is pending) on one
    connection: everything consumed, followed by what is still pending, is what a single read of the whole stream
    would have left pending had nothing been consumed; and the decoder ends in the same state. -/
theorem C09_interleaving (v : RView) (evs : List Ev) :
    consumedBy v evs ++ (evs.foldl RView.step v).buf = (v.read (readsOf evs)).buf ∧
    (evs.foldl RView.step v).st = (v.read (readsOf evs)).st ∧
    (evs.foldl RView.step v).cmd = (v.read (readsOf evs)).cmd ∧
    (evs.foldl RView.step v).isPipe = v.isPipe :=
  trace_conservation v evs

/-- On a fresh tcp connection: consumed ++ pending = `strip` of everything the device sent. -/
theorem C09_interleaving_tcp (evs : List Ev) :
    consumedBy .freshTcp evs ++ (evs.foldl RView.step .freshTcp).buf = strip (readsOf evs) :=
  trace_tcp evs

/-- On a fresh coprocess connection the decoder is the identity: consumed ++ pending = everything the coprocess
    wrote (whatever the telnet fields hold: they are not used). -/
theorem C09_interleaving_pipe (st : Nat) (cmd : UInt8) (evs : List Ev) :
    consumedBy (.freshPipe st cmd) evs ++ (evs.foldl RView.step (.freshPipe st cmd)).buf = readsOf evs :=
  trace_pipe st cmd evs

example :
    consumedBy .freshTcp [.read [97, 98, 255], .consume 1, .read [253, 1, 99], .consume 2, .read [10]] = [97, 98, 99] ∧
    ([Ev.read [97, 98, 255], .consume 1, .read [253, 1, 99], .consume 2, .read [10]].foldl RView.step .freshTcp).buf = [10] := by
  decide

/-- The same on the model's own functions: from any state of an established connection, after any sequence of
    `_handle_ready_device` calls (any kernel answers) and `_process_expect` calls (any pattern, any answer of the regex
    engine), the bytes removed from the head of `fromBuf` (`opsConsumed`: what the expects matched and — only in calls
    that found the buffer full at `MAX_DEV_BUF`, `C09_no_loss_below_max` — what a `read` overwrote, in the order in which
    they went) followed by `fromBuf` are the old `fromBuf` followed by the decoder's output — continued from the state
    carried at the start — on the concatenation of everything that was read (`opsTaken`: the prefixes `readTaken` of what
    the kernel had in each call); the carried state is the one that concatenation leads to; the connection is still the
    same one. -/
theorem C09_interleaving_model (d : Dev) (h2 : d.conn = 2) (ops : List Op) :
    opsConsumed d ops ++ (ops.foldl Op.run d).fromBuf = d.fromBuf ++ keptOf d (opsTaken d ops) ∧
    rview (ops.foldl Op.run d) = { (rview d).read (opsTaken d ops) with buf := (ops.foldl Op.run d).fromBuf } ∧
    (ops.foldl Op.run d).conn = 2 :=
  ops_conservation d h2 ops

/-- `readTaken`, the bytes a call takes in, is what the system-call log records as read: the `Y read <fd> <n>` line of a
    pass shows the number of bytes read (the clipped prefix), not what the kernel had. -/
theorem C09_taken_is_logged (c : CS) (h : readTaken c ≠ []) :
    ∃ pre, (handleReady c).1.sys = pre ++ [.read (readTaken c).length] :=
  handleReady_taken_sys c h

/-! ## 4. reconnects -/

/-- `_disconnect` empties both buffers: nothing received stays visible, nothing queued is sent later. -/
theorem C09_disconnect_flushes (c : CS) :
    (disconnectDev c).dev.fromBuf = [] ∧ (disconnectDev c).dev.toBuf = [] ∧ (disconnectDev c).dev.conn = 0 :=
  let ⟨hf, ht, hc, _⟩ := disconnectDev_clean c; ⟨hf, ht, hc⟩

/-- `tcp_finish_connect_one`: success brings the connection up with the decoder at rest (`_telnet_init`) and touches
    nothing else on the read side; failure changes nothing in the device. -/
theorem C09_finish_connect (c : CS) :
    ((finishConnectOne c).2 = true ∧
        (finishConnectOne c).1.dev = { c.dev with conn := 2, statConnects := c.dev.statConnects + 1, tstate := 0, tcmd := 0 }) ∨
    ((finishConnectOne c).2 = false ∧ (finishConnectOne c).1.dev = c.dev) :=
  finishConnectOne_dev c

/-- `_reconnect` on a device that was connected or connecting — whatever follows (back-off, an attempt in progress,
    a new connection at once, either transport): both buffers are empty, and a tcp connection that is up afterwards
    has its decoder at rest.  Nothing received on the earlier connection is visible on the new one. -/
theorem C09_reconnect_clean (c : CS) (tmo : Option Time) (h : c.dev.conn ≠ 0) :
    (reconnectDev c tmo).1.dev.fromBuf = [] ∧ (reconnectDev c tmo).1.dev.toBuf = [] ∧
    ((reconnectDev c tmo).1.dev.conn = 2 → (reconnectDev c tmo).1.dev.isPipe = false →
      (reconnectDev c tmo).1.dev.tstate = 0 ∧ (reconnectDev c tmo).1.dev.tcmd = 0) :=
  let ⟨hf, ht, _, hfresh⟩ := reconnectDev_clean c tmo h; ⟨hf, ht, hfresh⟩

/-- `_reconnect` / `_connect` on a device that was not connected leave the buffers as they are and, if a tcp
    connection comes up, start it with the decoder at rest. -/
theorem C09_connect_fresh (c : CS) (tmo : Option Time) (h : c.dev.conn = 0) :
    (reconnectDev c tmo).1.dev.fromBuf = c.dev.fromBuf ∧ (reconnectDev c tmo).1.dev.toBuf = c.dev.toBuf ∧
    ((reconnectDev c tmo).1.dev.conn = 2 → (reconnectDev c tmo).1.dev.isPipe = false →
      (reconnectDev c tmo).1.dev.tstate = 0 ∧ (reconnectDev c tmo).1.dev.tcmd = 0) :=
  let ⟨hf, ht, _, hfresh⟩ := reconnectDev_idle c tmo h; ⟨hf, ht, hfresh⟩

/-- The remaining way a connection comes up — a pending `connect` completing in `_handle_ready_device`: the decoder
    is at rest and nothing is read in that call. -/
theorem C09_connect_completes_fresh (c : CS) (h : c.dev.conn ≠ 2) (h2 : (handleReady c).1.dev.conn = 2) :
    (handleReady c).1.dev.tstate = 0 ∧ (handleReady c).1.dev.tcmd = 0 ∧
    (handleReady c).1.dev.fromBuf = c.dev.fromBuf :=
  handleReady_up c h h2

/-- non-vacuity: a connection with a half-received command and pending bytes, I/O error handling reconnects at once -/
example :
    let c : CS := { dev := { dev0 with conn := 2, fd := some 7, tstate := 2, tcmd := 253, fromBuf := [1, 2, 3], toBuf := [4] },
                    env := { now := 0, revents := 0, sockets := [8], connects := [0], soerrs := [0], read := none, writeOk := true },
                    sys := [] }
    (reconnectDev c none).1.dev.conn = 2 ∧ (reconnectDev c none).1.dev.fromBuf = [] ∧
    (reconnectDev c none).1.dev.toBuf = [] ∧ (reconnectDev c none).1.dev.tstate = 0 := by decide +kernel

/-! ## 5. the write side -/

/-- Device: the `write` issued by `_handle_ready_device` (`cbuf_read_to_fd (dev->to, fd, -1)`) offers all of `toBuf`; the
    kernel takes the first `wcap` bytes, which leave `toBuf`, and the rest stays queued for the next pass — a short write
    is not an error; if the kernel takes nothing (`wcap = 0`: `EAGAIN`) or the `write` fails (`writeOk = false`: `EPIPE`),
    `toBuf` is unchanged and an I/O error is returned (the caller reconnects, which flushes).  With `wcap ≥ |toBuf|` this
    is "everything goes out and `toBuf` is empty" (`List.take_of_length_le`, `List.drop_eq_nil_of_le`). -/
theorem C09_device_write (c : CS) (h : ReadyOk c)
    (hout : c.env.revents &&& 2 ≠ 0) (hin : c.env.revents &&& 1 = 0) (hc : c.dev.conn ≠ 1) (hb : c.dev.toBuf ≠ []) :
    handleReady c =
      if c.env.writeOk then
        if c.env.wcap == 0 then ({ c with sys := c.sys ++ [.write [] true] }, true)
        else ({ c with sys := c.sys ++ [.write (c.dev.toBuf.take c.env.wcap) true],
                       dev := { c.dev with toBuf := c.dev.toBuf.drop c.env.wcap } }, false)
      else ({ c with sys := c.sys ++ [.write c.dev.toBuf false] }, true) :=
  handleReady_write_only c h hout hin hc hb

example :
    (handleReady { dev := { dev0 with conn := 2, fd := some 7, toBuf := [111, 110, 10] },
                   env := { now := 0, revents := 2, sockets := [], connects := [], soerrs := [], read := none, writeOk := true },
                   sys := [] }).1.dev.toBuf = [] := by decide +kernel

/-- Device, every call of `_handle_ready_device`, any capacity of the descriptor: a successful `write` moves a front piece
    `wr` of `toBuf` to the descriptor (`wr = []` otherwise), the rest `kept` stays queued, and behind it go the telnet option
    replies to *some* bytes `bs`.  The statement does not say which: they are the bytes this call read (`readTaken c`, as the
    proof shows), but `bs` is only quantified; the sharp form, with the replies tied to what the kernel handed over, is
    `C10_handle_ready_buffer`.  So what has been *written* is never lost, repeated or reordered however short the
    writes; what is *queued* loses bytes only at its old end and only beyond the capacity of `dev->to` (`clipTo`: the last
    65536 bytes).
    The simpler `devWritten sys' ++ toBuf' = devWritten sys ++ toBuf ++ replies` ("written ++ queued only grows at its end") is
    false beyond 64 KiB (`C09_device_write_conserved_old_counterexample`) and holds whenever the buffer does not
    overflow: `C09_device_write_conserved_below`.  The hypothesis is the capacity invariant (`C09_device_out_capacity`). -/
theorem C09_device_write_conserved (c : CS) (hcap : c.dev.toBuf.length ≤ 65536) :
    ∃ bs wr kept, wr ++ kept = c.dev.toBuf ∧ devWritten (handleReady c).1.sys = devWritten c.sys ++ wr ∧
      (handleReady c).1.dev.toBuf = clipTo (kept ++ repliesOf c.dev bs) :=
  handleReady_write_conserve c hcap

/-- "Written ++ queued only grows at its end", under the explicit no-overflow hypothesis — what was queued and the replies
    fit the buffer together — or, what is easier to observe, the buffer is not full afterwards.  As stated this is weak where
    the buffer *is* full afterwards: `bs` is quantified outside the implication and not tied to what was read, so a `bs` whose
    replies do not fit satisfies it vacuously then; it has content exactly through its second alternative
    (`C09_device_out_no_loss_not_full`), and for a buffer that fits through `C10_handle_ready_buffer_below`. -/
theorem C09_device_write_conserved_below (c : CS) (hcap : c.dev.toBuf.length ≤ 65536) :
    ∃ bs, ((c.dev.toBuf ++ repliesOf c.dev bs).length ≤ 65536 ∨ (handleReady c).1.dev.toBuf.length < 65536 →
      devWritten (handleReady c).1.sys ++ (handleReady c).1.dev.toBuf =
        devWritten c.sys ++ c.dev.toBuf ++ repliesOf c.dev bs) :=
  handleReady_write_conserve_below c hcap

/-- non-vacuity: the device of the short-write example below is within the capacity, and not full afterwards -/
example :
    let c : CS := { dev := { dev0 with conn := 2, fd := some 7, toBuf := [111, 110, 10] },
                    env := { now := 0, revents := 2, sockets := [], connects := [], soerrs := [], read := none, writeOk := true, wcap := 2 },
                    sys := [] }
    c.dev.toBuf.length ≤ 65536 ∧ (handleReady c).1.dev.toBuf.length < 65536 := by decide +kernel

/-- Device: `_process_send` queues at the end of `toBuf`, within the capacity of `dev->to` (`clipTo`); the hypothesis is the
    capacity invariant, needed for the visits that queue nothing. -/
theorem C09_send_appends (d : Dev) (a : Action) (o : Oracle) (e : ExecCtx) (fmt : Bytes) (hcap : d.toBuf.length ≤ 65536) :
    ∃ s, (stmtSend d a o e fmt).dev.toBuf = clipTo (d.toBuf ++ s) :=
  let ⟨s, h, _⟩ := stmtSend_appends_below d a o e fmt hcap; ⟨s, h⟩

/-- Device: below the limit `_process_send` appends. -/
theorem C09_send_appends_below (d : Dev) (a : Action) (o : Oracle) (e : ExecCtx) (fmt : Bytes) (hcap : d.toBuf.length ≤ 65536) :
    ∃ s, (stmtSend d a o e fmt).dev.toBuf = clipTo (d.toBuf ++ s) ∧
      ((d.toBuf ++ s).length ≤ 65536 → (stmtSend d a o e fmt).dev.toBuf = d.toBuf ++ s) :=
  stmtSend_appends_below d a o e fmt hcap

open Pm.Daemon in
/-- Client, one `_handle_write`: the payload of the `write` it issues (none, a prefix, or everything) followed by what
    stays queued is what was queued — for every capacity of the descriptor, blocking or not, failing or not. -/
theorem C09_client_write_step (w : W) (c : Cli) :
    written c.fd (handleWrite w c).1.sys ++ (handleWrite w c).2.toBuf = written c.fd w.sys ++ c.toBuf ∧
    (handleWrite w c).2.fd = c.fd :=
  handleWrite_conserve w c

open Pm.Daemon in
/-- Client, any sequence of write opportunities with any capacities, interleaved with the daemon queueing more output:
    the bytes written to the client's descriptor followed by what is still queued are the bytes queued, in order, each
    exactly once; and nothing of it goes to another descriptor. -/
theorem C09_client_write (w : W) (c : Cli) (evs : List WEv) :
    written c.fd (evs.foldl wstep (w, c)).1.sys ++ (evs.foldl wstep (w, c)).2.toBuf =
      written c.fd w.sys ++ c.toBuf ++ putsOf evs :=
  (client_write_conservation w c evs).1

open Pm.Daemon in
/-- Client: `_handle_write` writes to the client's own descriptor only — what any other descriptor has received is as before. -/
theorem C09_client_write_private (w : W) (c : Cli) (fd : Nat) (h : fd ≠ c.fd) :
    written fd (handleWrite w c).1.sys = written fd w.sys :=
  handleWrite_other w c fd h

open Pm.Daemon in
/-- ten bytes queued, capacities 3, 0-is-not-offered, 4, then more output queued, then 100 -/
example :
    let w : W := { cfg := { plugs := [], has := [], nodes := [], version := [] }, clients := [] }
    let c : Cli := { id := 1, fd := 5, toBuf := [0, 1, 2, 3, 4, 5, 6, 7, 8, 9] }
    let r := [WEv.cap 3, .cap 4, .put [10, 11], .cap 100].foldl wstep (w, c)
    written 5 r.1.sys = [0, 1, 2, 3, 4, 5, 6, 7, 8, 9, 10, 11] ∧ r.2.toBuf = [] := by decide +kernel

/-! ## 6. whole passes of `dev_post_poll`, and any number of them -/

/-- `_process_action` does only two things to
    the read side: it consumes a prefix of the pending bytes on the same connection (connection count, transport and
    decoder state untouched), or it reconnects, after which nothing is pending and a connection that is up is a new,
    counted one whose decoder is at rest. -/
theorem C09_process_action_read_side (fuel : Nat) (c : CS) (o : Oracle) (out : List Out) (tmo : Option Time) :
    SameConn c.dev (processActionF fuel c o out tmo).1.dev ∨ Reconn c.dev (processActionF fuel c o out tmo).1.dev :=
  processActionF_sameOrReconn fuel c o out tmo

/-- One whole pass on an established connection: either the connection is still the same one and the read side is
    the old one — less its `passDropped d env` oldest pending bytes, overwritten by the `read` (0 unless the input buffer is
    full at `MAX_DEV_BUF`: `C09_pass_no_loss`) — advanced by exactly the bytes read from the descriptor in this pass
    (`passTaken`, a prefix of what the kernel had), minus a prefix the expects consumed; or the device reconnected and
    nothing of the old connection is left. -/
theorem C09_pass_connected (d : Dev) (env : Env) (o : Oracle) (h2 : d.conn = 2) :
    ((postPoll d env o).1.dev.conn = 2 ∧ (postPoll d env o).1.dev.statConnects = d.statConnects ∧
      ∃ k, rview (postPoll d env o).1.dev =
        (((rview d).consume (passDropped d env)).read (passTaken d env)).consume k) ∨
    Reconn d (postPoll d env o).1.dev :=
  postPoll_connected d env o h2

/-- One whole pass keeps "not connected ⇒ nothing pending and nothing queued", provided the descriptor delivers
    nothing while its connection is not up (`EnvOk`). -/
theorem C09_pass_quiet (d : Dev) (env : Env) (o : Oracle) (hq : Quiet d) (hr : d.conn ≠ 2 → passTaken d env = []) :
    Quiet (postPoll d env o).1.dev :=
  postPoll_quiet d env o hq hr

/-- One whole pass starting without a connection ends with nothing pending; a connection it brings up is a new one
    with the decoder at rest. -/
theorem C09_pass_fresh (d : Dev) (env : Env) (o : Oracle) (hq : Quiet d) (hr : d.conn ≠ 2 → passTaken d env = [])
    (hn : d.conn ≠ 2) : Reconn d (postPoll d env o).1.dev :=
  postPoll_fresh d env o hq hr hn

/-- The property as an invariant of the daemon's loop.  Run any number of passes, each with its own kernel answers and
    regex answers; carry along, as a ghost, the stream `S` the daemon has read from the descriptor on the connection that
    is up (`passTaken` of each pass, appended; reset whenever that connection is not the same any more).  Then at every
    point: while a connection is up, `fromBuf` is `strip S` (tcp) or `S` (coprocess) minus a prefix — what the expects
    consumed and, only in passes whose `read` found `MAX_DEV_BUF` unconsumed bytes pending, the oldest bytes that `read`
    overwrote (`passDropped`, 0 otherwise: `C09_pass_no_loss`) — so what expects are matched against is exactly the
    decoded stream of the current connection, in order, nothing duplicated, nothing from an earlier connection, nothing
    lost while the unconsumed data stays within the buffer's capacity — and the decoder is in the state `S` leads to;
    while none is up, both buffers are empty. -/
theorem C09_run (s : Dev × Bytes) (ps : List (Env × Oracle)) (hg : Good s) (hr : RunOk s ps) :
    Good (ps.foldl passStep s) :=
  run_good s ps hg hr

/-- a device that is not connected and has empty buffers is a good start (the ghost stream is empty) -/
theorem C09_run_start (d : Dev) (hc : d.conn ≠ 2) (hf : d.fromBuf = []) (ht : d.toBuf = []) : Good (d, []) :=
  good_initial d hc hf ht

/-- `EnvOk` holds as soon as poll never reports a connecting socket readable without reporting it writable; a device
    that is not connected at all, or a pass without POLLIN, delivers nothing anyway. -/
theorem C09_envok_sufficient (d : Dev) (env : Env) :
    (d.conn = 0 → passTaken d env = []) ∧ (env.revents &&& 1 = 0 → passTaken d env = []) ∧
    (d.conn = 1 → env.revents &&& 2 ≠ 0 → passTaken d env = []) :=
  ⟨passTaken_of_not_connected d env, passTaken_of_no_pollin d env, passTaken_of_connecting_pollout d env⟩

/-- a device whose login script is `expect 1; send "x"` -/
def devR : Dev :=
  { dev0 with scripts := fun n => if n = 0 then some [.expect 1, .send [120]] else none, timeout := 1000000 }

def envR (rev : Nat) (rd : Option (Option Bytes)) : Env :=
  { now := 0, revents := rev, sockets := [7], connects := [0], soerrs := [0], read := rd, writeOk := true }

/-- three passes: connect at once; `a IAC DO` arrives, no match; `ECHO b` arrives, the expect matches one byte -/
def runR : List (Env × Oracle) :=
  [ (envR 0 none, ⟨[]⟩),
    (envR 1 (some (some [97, 255, 253])), ⟨[⟨1, [97], none⟩]⟩),
    (envR 1 (some (some [1, 98])), ⟨[⟨1, [97, 98], some [(0, 1)]⟩]⟩) ]

/-- non-vacuity of `C09_run`: the run is admissible, ends connected with ghost stream `a IAC DO ECHO b`, `b` pending
    (`a` consumed), and `WONT ECHO` followed by the login script's `x` queued for the device -/
example : RunOk (devR, []) runR := by
  simp only [RunOk, runR]
  refine ⟨?_, ?_, ?_, trivial⟩ <;> unfold EnvOk <;> decide +kernel
example :
    (runR.foldl passStep (devR, [])).1.conn = 2 ∧ (runR.foldl passStep (devR, [])).2 = [97, 255, 253, 1, 98] ∧
    (runR.foldl passStep (devR, [])).1.fromBuf = [98] ∧ (runR.foldl passStep (devR, [])).1.toBuf = [255, 252, 1, 120] := by
  decide +kernel

/-- `EnvOk` cannot be dropped (a counterexample to `C09_run` without `RunOk`): if poll reports a *connecting* socket readable but not writable, `_handle_ready_device`
    reads (the code, like the model, tests only `connect_state != NOT_CONNECTED` there) and runs the bytes through the
    decoder in whatever state the previous connection left it — here inside a command, so `IAC a` from the new peer is
    kept as `0xFF a` instead of being dropped — and they stay pending while no connection is up. -/
theorem C09_envok_needed_witness :
    let d : Dev := { dev0 with conn := 1, fd := some 7, tstate := 1 }
    let env : Env := { now := 0, revents := 1, sockets := [], connects := [], soerrs := [],
                       read := some (some [255, 97]), writeOk := true }
    Quiet d ∧ (postPoll d env ⟨[]⟩).1.dev.conn = 1 ∧ (postPoll d env ⟨[]⟩).1.dev.fromBuf = [255, 97] ∧
    strip [255, 97] = [] := by
  refine ⟨fun _ => ⟨rfl, rfl⟩, ?_, ?_, ?_⟩ <;> decide +kernel

/-! ## 7. capacity

`Pm.Cbuf.readPlan size used max avail = (n, size', dropped)` is `cbuf_write_from_fd (cb, fd, -1, &dropped)` for a buffer of
`size` bytes holding `used` unread ones when the kernel has `avail` bytes: `n = min (size - used, or 1000 if that is 0)
avail` bytes are read, the buffer has grown to `size'` (only when it was full; before the `read`, also when the `read`
then fails), and the `dropped` oldest unread bytes are overwritten.  Devices: `devReadPlan`, `readOf`, `dropOf`,
`readTaken c`/`readDropped c` (what a call of `_handle_ready_device` reads/overwrites: `[]`/`0` when its read branch is not
reached), `max = MAX_DEV_BUF = 65536`.  Clients: `cliRead` is the read stage of `clientPass` (`C09_client_pass_stages`),
`cliTaken`/`cliDropped`/`cliSizeAfter`, `max = MAX_CLIENT_BUF = 1048576`. -/

/-- the constants -/
theorem C09_buffer_sizes : devBufMax = 65536 ∧ Pm.Daemon.cliBufMax = 1048576 ∧ dev0.fromSize = 1024 ∧
    ({ id := 1, fd := 1000 } : Pm.Daemon.Cli).fromSize = 1024 := ⟨rfl, rfl, rfl, rfl⟩

/-- **What a pass takes in is a prefix of what the kernel offered, of the planned length — device.**  Every call of
    `_handle_ready_device`, every state, every kernel answer: the input buffer afterwards is the old one, less its
    `readDropped c` oldest bytes, followed by what the daemon keeps (`keptOf`: all of it on a coprocess, the telnet
    decoder's output on tcp) of the bytes read, `readTaken c`; and when the kernel had `bs`, the bytes read are nothing
    (the read branch was not reached) or the first `(readPlan …).1` bytes of `bs`. -/
theorem C09_read_is_prefix (c : CS) :
    (handleReady c).1.dev.fromBuf = c.dev.fromBuf.drop (readDropped c) ++ keptOf c.dev (readTaken c) ∧
    (∀ bs, c.env.read = some (some bs) →
      readTaken c <+: bs ∧
      (readTaken c = [] ∨
       readTaken c = bs.take (Pm.Cbuf.readPlan c.dev.fromSize c.dev.fromBuf.length 65536 bs.length).1)) ∧
    ((∀ bs, c.env.read ≠ some (some bs)) → readTaken c = []) :=
  ⟨handleReady_fromBuf c, fun bs hr => ⟨readTaken_isPrefix c bs hr, readTaken_prefix c bs hr⟩, readTaken_nodata c⟩

/-- `readOf d bs`, the bytes one `read` takes when the kernel has `bs`, spelled out -/
theorem C09_readOf (d : Dev) (bs : Bytes) :
    readOf d bs = bs.take (Pm.Cbuf.readPlan d.fromSize d.fromBuf.length 65536 bs.length).1 ∧
    (readOf d bs).length = (Pm.Cbuf.readPlan d.fromSize d.fromBuf.length 65536 bs.length).1 ∧
    (bs ≠ [] → readOf d bs ≠ []) :=
  ⟨rfl, readOf_length d bs, readOf_ne_nil d bs⟩

/-- 1020 bytes pending in the initial buffer of 1024: of ten bytes offered, four are read; the buffer does not grow -/
example : readOf { dev0 with fromBuf := List.replicate 1020 97 } [1, 2, 3, 4, 5, 6, 7, 8, 9, 10] = [1, 2, 3, 4] ∧
    sizeAfter { dev0 with fromBuf := List.replicate 1020 97 } [1, 2, 3, 4, 5, 6, 7, 8, 9, 10] = 1024 := by
  unfold readOf sizeAfter devReadPlan
  simp only [List.length_replicate]
  decide +kernel
/-- the buffer full: it grows (to 2983) and a chunk is asked for -/
example : readOf { dev0 with fromBuf := List.replicate 1024 97 } [1, 2, 3] = [1, 2, 3] ∧
    sizeAfter { dev0 with fromBuf := List.replicate 1024 97 } [1, 2, 3] = 2983 ∧
    dropOf { dev0 with fromBuf := List.replicate 1024 97 } [1, 2, 3] = 0 := by decide +kernel

open Pm.Daemon Pm.Daemon.ClientPf Pm.Daemon.Cap in
/-- **The same for a client.**  `clientPass` is: the descriptor's error bits; the read stage `cliRead`; `_handle_write`;
    `_handle_input`; the destruction of a client that has quit. -/
theorem C09_client_pass_stages (w : W) (c : Cli) (e : Option FdEnv) :
    clientPass w c e =
      (if cpRev c e &&& 8 != 0 || cpRev c e &&& 16 != 0 then cpDead w c else
       let r1 := if cpRev c e &&& 1 != 0 || cpRev c e &&& 4 != 0 then cliRead w c e else (w, c)
       let r2 := if cpRev c e &&& 2 != 0 then handleWrite r1.1 r1.2 else r1
       cpTail (handleInput r2.1 r2.2)) := by
  rw [clientPass_eq]; rfl

open Pm.Daemon Pm.Daemon.ClientPf Pm.Daemon.Cap in
/-- The read stage: the input buffer loses its `cliDropped c e` oldest bytes and gains `cliTaken c e`, a prefix of what
    the kernel offered (`e.data`) of the planned length (the kernel has nothing to offer on an error, `rk = 1`, or at end
    of file, `rk = 2`); the size becomes the planned one; one `read` is logged, with the number of bytes taken (0 at end
    of file, -1 on an error or when nothing was there); the client is marked as having quit when nothing was taken. -/
theorem C09_client_read_is_prefix (w : W) (c : Cli) (e : FdEnv) :
    (cliRead w c (some e)).2.fromBuf = c.fromBuf.drop (cliDropped c e) ++ cliTaken c e ∧
    (cliRead w c (some e)).2.fromSize = cliSizeAfter c e ∧
    cliTaken c e <+: e.data ∧
    (cliTaken c e).length =
      (Pm.Cbuf.readPlan c.fromSize c.fromBuf.length 1048576 (if e.rk == 1 || e.rk == 2 then 0 else e.data.length)).1 ∧
    (cliRead w c (some e)).1.sys = w.sys ++ [Sys.read c.fd
      (if e.rk == 1 then -1 else if e.rk == 2 then 0 else if (cliTaken c e).isEmpty then -1 else ((cliTaken c e).length : Int))] ∧
    (cliRead w c (some e)).2.quit = (c.quit || (cliTaken c e).isEmpty) :=
  let ⟨hbuf, hsize, hsys, hquit⟩ := cliRead_spec w c e
  ⟨hbuf, hsize, cliTaken_prefix c e, cliTaken_length c e, hsys, hquit⟩

open Pm.Daemon Pm.Daemon.Cap in
/-- a client with 1020 bytes pending (no line feed among them) in its initial buffer of 1024: of `quit\n` four bytes are
    read in this pass; the line is completed — and answered — in the next -/
example :
    let c : Cli := { id := 1, fd := 1000, fromBuf := List.replicate 1020 97 }
    let e : FdEnv := { fd := 1000, rev := 1, rk := 0, data := bstr "quit\n", cap := 0 }
    cliTaken c e = bstr "quit" ∧ cliDropped c e = 0 ∧ cliSizeAfter c e = 1024 := by
  intro c e
  unfold cliTaken cliDropped cliSizeAfter
  rw [cliReadPlan_eq]
  simp only [c, List.length_replicate]
  decide +kernel

/-- **Capacity — device.**  `fromBuf.length ≤ fromSize`, `1024 ≤ fromSize ≤ 65536` (`DevCap`) is an invariant of
    `_handle_ready_device` and of a whole pass of `dev_post_poll` (any scripts, oracle, kernel answers, reconnects: the
    cbuf is created once in `dev_create` and survives them), and the size never decreases. -/
theorem C09_capacity (c : CS) (d : Dev) (env : Env) (o : Oracle) :
    (DevCap c.dev → DevCap (handleReady c).1.dev ∧ c.dev.fromSize ≤ (handleReady c).1.dev.fromSize) ∧
    (DevCap d → DevCap (postPoll d env o).1.dev ∧ d.fromSize ≤ (postPoll d env o).1.dev.fromSize) :=
  ⟨handleReady_devCap c, postPoll_devCap d env o⟩

/-- `DevCap`, spelled out; a device as `dev_create` leaves it satisfies it -/
theorem C09_capacity_def (d : Dev) :
    DevCap d ↔ d.fromBuf.length ≤ d.fromSize ∧ 1024 ≤ d.fromSize ∧ d.fromSize ≤ 65536 :=
  ⟨fun h => ⟨h.fits, h.min, h.max⟩, fun h => ⟨h.1, h.2.1, h.2.2⟩⟩
example : DevCap dev0 := ⟨by decide, by decide, by decide⟩
example : DevCap { dev0 with fromBuf := List.replicate 1024 97 } :=
  ⟨by simp only [List.length_replicate]; decide, by decide, by decide⟩

open Pm.Daemon Pm.Daemon.Cap in
/-- **Capacity — client.**  `fromBuf.length ≤ fromSize`, `1024 ≤ fromSize ≤ 1048576` (`CliCap`) holds of a client that
    survives its share of a pass if it held before, and the size has not decreased. -/
theorem C09_capacity_client (w : W) (c : Cli) (e : Option FdEnv) (c' : Cli) (h : CliCap c)
    (hc : (clientPass w c e).2 = some c') : CliCap c' ∧ c.fromSize ≤ c'.fromSize :=
  clientPass_cap w c e c' h hc

open Pm.Daemon Pm.Daemon.Cap in
/-- `CliCap`, spelled out; a client as `_create_client` leaves it satisfies it -/
theorem C09_capacity_client_def (c : Cli) :
    CliCap c ↔ c.fromBuf.length ≤ c.fromSize ∧ 1024 ≤ c.fromSize ∧ c.fromSize ≤ 1048576 :=
  ⟨fun h => ⟨h.fits, h.min, h.max⟩, fun h => ⟨h.1, h.2.1, h.2.2⟩⟩
open Pm.Daemon Pm.Daemon.Cap in
example : CliCap { id := 1, fd := 1000 } := ⟨by decide, by decide, by decide⟩

/-- **Nothing is lost below the maximal size — device.**  If the buffer was not full, or is still smaller than
    `MAX_DEV_BUF` after the call, no pending byte is overwritten: the input buffer afterwards is the old one followed by
    what the daemon keeps of the bytes read (the telnet-filtered bytes read on tcp). -/
theorem C09_no_loss_below_max (c : CS) (hf : c.dev.fromBuf.length ≤ c.dev.fromSize)
    (h : c.dev.fromBuf.length < c.dev.fromSize ∨ (handleReady c).1.dev.fromSize < 65536) :
    readDropped c = 0 ∧ (handleReady c).1.dev.fromBuf = c.dev.fromBuf ++ keptOf c.dev (readTaken c) :=
  handleReady_no_loss c hf h

/-- … over a whole pass of `dev_post_poll` (`passDropped` is the loss term of `C09_pass_connected`) -/
theorem C09_pass_no_loss (d : Dev) (env : Env) (o : Oracle) (hf : d.fromBuf.length ≤ d.fromSize)
    (h : d.fromBuf.length < d.fromSize ∨ (postPoll d env o).1.dev.fromSize < 65536) : passDropped d env = 0 :=
  passDropped_zero d env o hf h

open Pm.Daemon Pm.Daemon.Cap in
/-- **Nothing is lost below the maximal size — client.** -/
theorem C09_client_no_loss_below_max (w : W) (c : Cli) (e : FdEnv) (hf : c.fromBuf.length ≤ c.fromSize)
    (h : c.fromBuf.length < c.fromSize ∨ cliSizeAfter c e < 1048576) :
    cliDropped c e = 0 ∧ (cliRead w c (some e)).2.fromBuf = c.fromBuf ++ cliTaken c e :=
  cliRead_no_loss w c e hf h

/-- **At the maximal size the oldest bytes give way — device.**  In general the number of bytes overwritten is the number
    of bytes read less the room there is after growing (or nothing); and when `MAX_DEV_BUF` unconsumed bytes are pending,
    a `read` asks for a chunk of 1000, takes what the kernel has of it, and exactly as many of the *oldest* pending bytes
    are lost: the buffer afterwards is the old one without its first `|readTaken c|` bytes, followed by what is kept of
    the bytes read (`device.c` logs "lost %d chars due to buffer wrap"; expects then see a stream with a hole). -/
theorem C09_overflow_drops_oldest (c : CS) :
    (readDropped c = (readTaken c).length - ((handleReady c).1.dev.fromSize - c.dev.fromBuf.length) ∨ readDropped c = 0) ∧
    (c.dev.fromSize = 65536 → c.dev.fromBuf.length = 65536 →
      readDropped c = (readTaken c).length ∧ (readTaken c).length ≤ 1000 ∧
      (∀ bs, c.env.read = some (some bs) → readTaken c = [] ∨ readTaken c = bs.take 1000) ∧
      (handleReady c).1.dev.fromBuf = c.dev.fromBuf.drop (readTaken c).length ++ keptOf c.dev (readTaken c)) := by
  refine ⟨readDropped_eq c, fun hs hfull => ?_⟩
  obtain ⟨h1, h2, h3⟩ := readDropped_full c hs hfull
  exact ⟨h1, h2, h3, by rw [handleReady_fromBuf, h1]⟩

/-- `Cap.Ex.fullPipe`: a connected coprocess device whose buffer holds 65536 unconsumed bytes (all `a`), readable, the kernel
    has `x y z`: the three oldest `a` are gone, the buffer is still 65536 bytes long and ends in `x y z` -/
example :
    Cap.Ex.fullPipe.dev.fromBuf = List.replicate 65536 97 ∧ Cap.Ex.fullPipe.dev.fromSize = 65536 ∧
    Cap.Ex.fullPipe.env.read = some (some [120, 121, 122]) ∧ DevCap Cap.Ex.fullPipe.dev ∧
    readDropped Cap.Ex.fullPipe = 3 ∧ readTaken Cap.Ex.fullPipe = [120, 121, 122] ∧
    (handleReady Cap.Ex.fullPipe).1.dev.fromBuf = List.replicate 65533 97 ++ [120, 121, 122] ∧
    (handleReady Cap.Ex.fullPipe).1.dev.fromSize = 65536 :=
  let ⟨hdrop, htaken, hbuf, hsize⟩ := Cap.Ex.fullPipe_spec
  ⟨rfl, rfl, rfl, Cap.Ex.fullPipe_cap, hdrop, htaken, hbuf, hsize⟩

open Pm.Daemon Pm.Daemon.Cap in
/-- **At the maximal size the oldest bytes give way — client.**  (A client that sends a megabyte without a line feed.) -/
theorem C09_client_overflow_drops_oldest (w : W) (c : Cli) (e : FdEnv) :
    cliDropped c e = (cliTaken c e).length - (cliSizeAfter c e - c.fromBuf.length) ∧
    (c.fromSize = 1048576 → c.fromBuf.length = 1048576 →
      cliSizeAfter c e = 1048576 ∧ cliDropped c e = (cliTaken c e).length ∧
      cliTaken c e = (if e.rk == 1 || e.rk == 2 then [] else e.data.take 1000) ∧
      (cliRead w c (some e)).2.fromBuf = c.fromBuf.drop (cliTaken c e).length ++ cliTaken c e) := by
  refine ⟨cliDropped_eq c e, fun hs hfull => ?_⟩
  obtain ⟨h1, h2, h3⟩ := cli_full c e hs hfull
  exact ⟨h1, h2, h3, by rw [(cliRead_spec w c e).1, h2]⟩

/-- **The device's short write** (`C09_device_write` where the `write` does not fail, spelled out).  If the kernel takes `wcap ≥ 1` bytes, no error is reported, one
    `write` of the first `min wcap |toBuf|` bytes is logged, and these bytes followed by what stays queued are what was
    queued: nothing lost, repeated or reordered.  If it takes nothing (`wcap = 0`, `EAGAIN`), an empty write is logged, the
    queue is as it was and an i/o error is reported (`_handle_write`: `n < 0` — the caller reconnects, which flushes the
    queue: `C09_reconnect_clean`). -/
theorem C09_device_short_write (c : CS) (h : ReadyOk c) (hout : c.env.revents &&& 2 ≠ 0) (hin : c.env.revents &&& 1 = 0)
    (hc : c.dev.conn ≠ 1) (hb : c.dev.toBuf ≠ []) (hw : c.env.writeOk = true) :
    (c.env.wcap ≠ 0 → (handleReady c).2 = false ∧
      ∃ wr, wr ≠ [] ∧ wr.length = min c.env.wcap c.dev.toBuf.length ∧ (handleReady c).1.sys = c.sys ++ [.write wr true] ∧
        wr ++ (handleReady c).1.dev.toBuf = c.dev.toBuf) ∧
    (c.env.wcap = 0 → (handleReady c).2 = true ∧ (handleReady c).1.sys = c.sys ++ [.write [] true] ∧
      (handleReady c).1.dev.toBuf = c.dev.toBuf) :=
  short_write c h hout hin hc hb hw

/-- `on\n` queued, the descriptor takes two bytes: `on` goes out, the line feed waits -/
example :
    let c : CS := { dev := { dev0 with conn := 2, fd := some 7, toBuf := [111, 110, 10] },
                    env := { now := 0, revents := 2, sockets := [], connects := [], soerrs := [], read := none, writeOk := true,
                             wcap := 2 },
                    sys := [] }
    (handleReady c).1.dev.toBuf = [10] ∧ (handleReady c).2 = false ∧ devWritten (handleReady c).1.sys = [111, 110] := by
  decide
/-- the same with a descriptor that takes nothing: i/o error, nothing written, nothing lost (yet) -/
example :
    let c : CS := { dev := { dev0 with conn := 2, fd := some 7, toBuf := [111, 110, 10] },
                    env := { now := 0, revents := 2, sockets := [], connects := [], soerrs := [], read := none, writeOk := true,
                             wcap := 0 },
                    sys := [] }
    (handleReady c).1.dev.toBuf = [111, 110, 10] ∧ (handleReady c).2 = true := by decide +kernel

/-! ## 8. the capacity of the device output buffer

`dev->to = cbuf_create(MIN_DEV_BUF, MAX_DEV_BUF)` (device.c, `dev_create`) is a liblsd circular buffer in its default overwrite
mode (`CBUF_WRAP_MANY`): `cbuf_write` always stores all the bytes it is given, growing the buffer up to 65536 bytes, and beyond
that the oldest *unsent* bytes are overwritten (`cbuf_writer`: `dropped = n - nfree`).  Its writers are `_process_send` (which
logs "buffer overrun" and goes on; an assertion in this place is finding F33) and `_telnet_sendopt` (a 3-byte answer to
every `IAC DO x` received); `_handle_write` drains it.  A tcp device that does not read while it floods `IAC DO x` fills it:
21 846 triples queue 65 538 bytes.  In the model `clipTo b` = the last 65536 bytes of `b` (`clipTo_eq_drop`) is applied where
these two queue their bytes; `toDropped old s = |old ++ s| - 65536` is the `dropped` count of the write. -/

/-- **The capacity is an invariant.**  `toBuf.length ≤ 65536` holds of the buffer of a new device (empty), is kept by
    `_handle_ready_device`, by `_process_action` (any fuel), by a whole `dev_post_poll` pass, by `_connect`, `_reconnect`
    (`_disconnect` empties the buffer), and hence over any run of passes, whatever the kernel and the regex engine answer. -/
theorem C09_device_out_capacity :
    (∀ c : CS, c.dev.toBuf.length ≤ 65536 → (handleReady c).1.dev.toBuf.length ≤ 65536) ∧
    (∀ (fuel : Nat) (c : CS) (o : Oracle) (out : List Out) (tmo : Option Time), c.dev.toBuf.length ≤ 65536 →
        (processActionF fuel c o out tmo).1.dev.toBuf.length ≤ 65536) ∧
    (∀ (c : CS) (o : Oracle) (out : List Out) (tmo : Option Time), c.dev.toBuf.length ≤ 65536 →
        (processAction c o out tmo).1.dev.toBuf.length ≤ 65536) ∧
    (∀ (d : Dev) (env : Env) (o : Oracle), d.toBuf.length ≤ 65536 → (postPoll d env o).1.dev.toBuf.length ≤ 65536) ∧
    (∀ c : CS, c.dev.toBuf.length ≤ 65536 → (connectDev c).dev.toBuf.length ≤ 65536) ∧
    (∀ (c : CS) (tmo : Option Time), c.dev.toBuf.length ≤ 65536 → (reconnectDev c tmo).1.dev.toBuf.length ≤ 65536) ∧
    (∀ (s : Dev × Bytes) (ps : List (Env × Oracle)), s.1.toBuf.length ≤ 65536 → (ps.foldl passStep s).1.toBuf.length ≤ 65536) :=
  ⟨Pm.Dev2.Login2.handleReady_cap, Pm.Dev2.Login2.processActionF_cap, Pm.Dev2.Login2.processAction_cap,
   Pm.Dev2.Login2.postPoll_cap, connectDev_cap, reconnectDev_cap, run_cap⟩

/-- the two writers never leave more than 65536 bytes queued, whatever was queued before (within the capacity or not) -/
theorem C09_device_out_capacity_writers (d : Dev) (a : Action) (o : Oracle) (e : ExecCtx) (fmt s bs : Bytes)
    (hp : e.processing = false) (hs : sendText fmt e.plugs = some s) :
    (stmtSend d a o e fmt).dev.toBuf.length ≤ 65536 ∧ (telnetFilter d bs).toBuf.length ≤ 65536 := by
  refine ⟨?_, Pm.Dev2.Login2.telnetFilter_cap d bs⟩
  rw [Pm.Dev2.Interp.stmtSend_fresh d a o e fmt s hp hs]; exact clipTo_length_le _

/-- non-vacuity: a new device starts within the capacity; the full device of the witnesses is at it -/
example : dev0.toBuf.length ≤ 65536 ∧ fullDev.toBuf.length = 65536 := ⟨by decide, fullDev_len⟩

/-- **Nothing is lost below the maximum.**  A whole `dev_post_poll` pass in which what is queued, the telnet answers the pass
    can add (`readyReplies`: those to the bytes the `read` hands over on a tcp device) and the texts the pass's `send`
    statements queue fit the buffer together: what a successful `write` delivered in this pass (`wr`, a prefix of the queue,
    logged) followed by what is queued afterwards is exactly what was queued before, then the answers, then the texts, in
    this order — delivered ++ queued = everything queued — unless the pass disconnected (i/o error before `_process_action`: just
    the texts are queued; error branch of `_process_action`: the queue is empty).  This is `C10_post_poll_buffer_below` told by
    what was delivered (`wr`) instead of what stayed (`kept`). -/
theorem C09_device_out_no_loss_below_max (d : Dev) (env : Env) (o : Oracle)
    (hfit : d.toBuf.length + (readyReplies { dev := d, env := env, sys := [] }).length +
      (sentBytes (postPoll d env o).2.2.1).length ≤ 65536) :
    ∃ wr reply,
      (wr = [] ∨ Sys.write wr true ∈ (postPollReady d env).1.sys) ∧ wr <+: d.toBuf ∧
      (reply = [] ∨ ∃ bs, env.read = some (some bs) ∧ d.isPipe = false ∧
        reply = telnetReplies d.tstate d.tcmd (readOf d bs)) ∧
      (wr ++ (postPoll d env o).1.dev.toBuf = d.toBuf ++ reply ++ sentBytes (postPoll d env o).2.2.1 ∨
       ((postPoll d env o).1.dev.toBuf = sentBytes (postPoll d env o).2.2.1 ∧
          (postPollReady d env).2 = true ∧ (postPollReady d env).1.dev.conn ≠ 0) ∨
       ((postPoll d env o).1.dev.toBuf = [] ∧ (postPollPre d env).1.dev.conn = 2 ∧
          ((postPoll d env o).1.dev.conn ≠ 2 ∨
           (postPoll d env o).1.dev.retryCount = (postPollPre d env).1.dev.retryCount + 1))) :=
  postPoll_no_loss d env o hfit

/-- the same for one `_handle_ready_device` in the log's terms, with the criterion a trace can be checked against: whenever
    the buffer is *not full* afterwards (fewer than 65536 bytes queued), written-so-far ++ queued has only grown at its end -/
theorem C09_device_out_no_loss_not_full (c : CS) (hcap : c.dev.toBuf.length ≤ 65536)
    (hnf : (handleReady c).1.dev.toBuf.length < 65536) :
    ∃ bs, devWritten (handleReady c).1.sys ++ (handleReady c).1.dev.toBuf =
      devWritten c.sys ++ c.dev.toBuf ++ repliesOf c.dev bs :=
  let ⟨bs, h⟩ := C09_device_write_conserved_below c hcap; ⟨bs, h (.inr hnf)⟩

/-- non-vacuity of the hypothesis of `C09_device_out_no_loss_below_max` (and the first case: three answer bytes are queued) -/
example :
    let d : Dev := { dev0 with conn := 2, fd := some 7, toBuf := [111, 110, 10] }
    let env : Env := { now := 0, revents := 1, sockets := [], connects := [], soerrs := [], read := some (some [255, 253, 1]), writeOk := true }
    d.toBuf.length + (readyReplies { dev := d, env := env, sys := [] }).length + (sentBytes (postPoll d env ⟨[]⟩).2.2.1).length = 6 ∧
    (postPoll d env ⟨[]⟩).1.dev.toBuf = [111, 110, 10, 255, 252, 1] := by decide +kernel

/-- **Beyond the maximum exactly the oldest queued bytes are lost** — the exact statement for each of the two writers and for
    `_handle_ready_device`.
    (1) A first-visit `send` of a text `s` of at most 65536 bytes: the `toDropped d.toBuf s = |toBuf| + |s| - 65536` oldest queued
    bytes give way and the text is queued whole; with the buffer exactly full (`|toBuf| = 65536`) that is exactly `|s|` bytes.
    (2) Of a text longer than the buffer only its last 65536 bytes are queued and nothing older stays.
    (3) The telnet answers to the bytes `bs` read: the same, with the answers in the place of the text.
    (4) `_handle_ready_device` with the descriptor readable and not writable, the buffer exactly full: the answers `r` to what was
    read push out exactly the `|r|` oldest queued bytes.
    Nothing else is lost, nothing is reordered: what stays is a suffix of what was queued, followed by what was written. -/
theorem C09_device_out_overflow_drops_oldest :
    (∀ (d : Dev) (a : Action) (o : Oracle) (e : ExecCtx) (fmt s : Bytes), e.processing = false → sendText fmt e.plugs = some s →
        s.length ≤ 65536 →
        (stmtSend d a o e fmt).dev.toBuf = d.toBuf.drop (toDropped d.toBuf s) ++ s ∧
        (d.toBuf.length = 65536 → (stmtSend d a o e fmt).dev.toBuf = d.toBuf.drop s.length ++ s)) ∧
    (∀ (d : Dev) (a : Action) (o : Oracle) (e : ExecCtx) (fmt s : Bytes), e.processing = false → sendText fmt e.plugs = some s →
        65536 ≤ s.length → (stmtSend d a o e fmt).dev.toBuf = s.drop (s.length - 65536)) ∧
    (∀ (d : Dev) (bs : Bytes), (telnetReplies d.tstate d.tcmd bs).length ≤ 65536 →
        (telnetFilter d bs).toBuf =
          d.toBuf.drop (toDropped d.toBuf (telnetReplies d.tstate d.tcmd bs)) ++ telnetReplies d.tstate d.tcmd bs ∧
        (d.toBuf.length = 65536 → (telnetFilter d bs).toBuf =
          d.toBuf.drop (telnetReplies d.tstate d.tcmd bs).length ++ telnetReplies d.tstate d.tcmd bs)) ∧
    (∀ (c : CS) (bs : Bytes), ReadyOk c → c.env.revents &&& 2 = 0 → c.env.revents &&& 1 ≠ 0 →
        c.env.read = some (some bs) → bs ≠ [] → c.dev.toBuf.length = 65536 →
        (repliesOf c.dev (readOf c.dev bs)).length ≤ 65536 →
        (handleReady c).1.dev.toBuf =
          c.dev.toBuf.drop (repliesOf c.dev (readOf c.dev bs)).length ++ repliesOf c.dev (readOf c.dev bs)) :=
  ⟨fun d a o e fmt s hp hs hl => ⟨stmtSend_drops_oldest d a o e fmt s hp hs hl, fun hf => stmtSend_full d a o e fmt s hp hs hf hl⟩,
   fun d a o e fmt s hp hs hl => by rw [stmtSend_long d a o e fmt s hp hs hl, clipTo_eq_drop],
   fun d bs hl => ⟨telnetFilter_drops_oldest d bs hl, fun hf => telnetFilter_full d bs hf hl⟩,
   fun c bs h hout hin hr hbs hf hl => handleReady_read_full c bs h hout hin hr hbs hf hl⟩

/-- the `dropped` count is what `cbuf_write` reports: `max 0 (|old| + |s| - 65536)`, positive exactly when the write overruns -/
theorem C09_device_out_dropped (old s : Bytes) :
    toDropped old s = old.length + s.length - 65536 ∧ (toOverrun old s = true ↔ 0 < toDropped old s) :=
  ⟨by unfold toDropped; rw [List.length_append], toOverrun_iff old s⟩

/-- non-vacuity, (1) and (4) at the limit: against 65536 queued bytes a `send "l\n"` loses the two oldest, an `IAC DO ECHO`
    read (answer `IAC WONT ECHO`) loses the three oldest -/
example (a : Action) (o : Oracle) :
    (stmtSend fullDev a o sendCtx [108, 10]).dev.toBuf = fullDev.toBuf.drop 2 ++ [108, 10] ∧
    (handleReady stormC).1.dev.toBuf = (List.replicate 65536 7).drop 3 ++ [255, 252, 1] :=
  let ⟨_, _, _, hsend⟩ := send_append_counterexample a o; ⟨hsend, stormC_toBuf⟩

/-- **"Written so far ++ queued only grows at its end, by the answers to what was read" is false beyond 64 KiB.**  On the full device whose
    descriptor delivers one `IAC DO ECHO` and is not writable there is no `bs` for which this holds: three queued bytes are gone.
    (The C code does the same: the correspondence run reaches this state with a telnet storm, `lib/daemon.py`.) -/
theorem C09_device_write_conserved_old_counterexample :
    stormC.dev.toBuf.length ≤ 65536 ∧
    ¬ ∃ bs, devWritten (handleReady stormC).1.sys ++ (handleReady stormC).1.dev.toBuf =
      devWritten stormC.sys ++ stormC.dev.toBuf ++ repliesOf stormC.dev bs :=
  ⟨Nat.le_of_eq fullDev_len, write_conserved_old_counterexample⟩

/-! ## 9. the ring: `liblsd/cbuf.c` at index level refines the byte queue

`Pm/CbufRing.lean` mirrors `cbuf.c` line by line with its indices (compared with the real code op by op by
`lib/cbuflayer.py`).  `Ring.valid` is `cbuf_is_valid` (every assertion of it); `Ring.contents` reads the unread bytes off
the array from `i_out` to `i_in` modulo `size + 1`.  The theorems below say that, for **every** ring state that satisfies
`cbuf_is_valid` — any size, any fill level, wrapped or not, with or without replay region — every operation keeps
`cbuf_is_valid`, fires none of the other assertions of `cbuf.c`, and does to `contents` what a plain byte queue with the
documented overwrite rule does; the size follows `Pm.Cbuf.growTo`, the rule the daemon model of section 7 uses.
Descriptors are inputs: `Src` / `Dst` say what each `read` / `write` call will answer, so "for all short reads and short
writes" is a universal quantifier.  Not modelled: `int` overflow (sizes are naturals), `realloc` failure, the replay
functions (unused by powerman; `i_rep` and `got_wrap` are maintained and their assertions proved). -/

section ring
open Pm.CbufRing

/-- eight slots (+ the sentinel), six bytes written, five dropped, five more written: the unread bytes `6 7 \n 9 \n 11` lie
    across the end of the array (`i_out = 5`, `i_in = 2`) — the ring the examples below use -/
def wrappedRing : Ring :=
  match CbufRing.create 8 8 with
  | none => default
  | some r => (CbufRing.write (CbufRing.drop (CbufRing.write r [1, 2, 3, 4, 5, 6]).ring 5).2.1 [7, 10, 9, 10, 11]).ring

example : wrappedRing.valid = true ∧ wrappedRing.size = 8 ∧ wrappedRing.i_out = 5 ∧ wrappedRing.i_in = 2 ∧ wrappedRing.used = 6 ∧
    wrappedRing.contents = [6, 7, 10, 9, 10, 11] := by decide +kernel

/-- the same with room to grow (8 → 32), wrapped, full: the next write must grow a wrapped ring -/
def wrappedFull : Ring :=
  match CbufRing.create 8 32 with
  | none => default
  | some r => (CbufRing.write (CbufRing.drop (CbufRing.write r [1, 2, 3, 4, 5, 6]).ring 5).2.1 [7, 10, 9, 10, 11, 12, 13]).ring

example : wrappedFull.valid = true ∧ wrappedFull.size = 8 ∧ wrappedFull.used = 8 ∧ wrappedFull.i_out = 5 ∧ wrappedFull.i_in = 4 ∧
    wrappedFull.contents = [6, 7, 10, 9, 10, 11, 12, 13] := by decide +kernel

/-- `cbuf_create (min, max)` with `min > 0` gives a ring that satisfies `cbuf_is_valid`, holds nothing, has size `min`
    and limit `max (min, max)`, in mode `CBUF_WRAP_MANY`. -/
theorem C09_ring_create (mn mx : Int) (h : 0 < mn) :
    ∃ r, CbufRing.create mn mx = some r ∧ r.valid = true ∧ r.contents = [] ∧ r.size = mn.toNat ∧ r.minsize = mn.toNat ∧
      r.maxsize = (if mx > mn then mx.toNat else mn.toNat) ∧ r.overwrite = .wrapMany := by
  obtain ⟨r, hr⟩ := create_some mn mx h
  obtain ⟨f1, f2, f3, _, f5⟩ := create_fields mn mx r hr
  exact ⟨r, hr, (create_valid mn mx r hr).valid_true, create_contents mn mx r hr, f1, f2, f3, f5⟩

example : ∃ r, CbufRing.create 1024 65536 = some r ∧ r.size = 1024 ∧ r.maxsize = 65536 := by
  obtain ⟨r, h1, _, _, h2, _, h3, _⟩ := C09_ring_create 1024 65536 (by decide)
  exact ⟨r, h1, h2, h3⟩

/-- **The assertions of `cbuf.c` can never fire.**  Start from any ring that satisfies `cbuf_is_valid` (for instance a
    fresh one) and make any sequence of calls of the API powerman uses — `cbuf_opt_set`, `cbuf_flush`, `cbuf_drop`,
    `cbuf_peek`, `cbuf_write`, `cbuf_write_from_fd`, `cbuf_read_to_fd`, `cbuf_read_line` — with any arguments, any data, any
    answers of the descriptors: `cbuf_is_valid` holds at the end (hence after every call), and every assertion evaluated
    on the way (`cbuf_is_valid` at entry and exit, and the inner ones: `len > 0`, `len <= cb->used` in `cbuf_dropper`,
    `i_dst == (i_in + n) % (size + 1)` in `cbuf_writer`, `m > cb->alloc` in `cbuf_grow`, `l == m` in `cbuf_read_line`, …) held. -/
theorem C09_ring_asserts_never_fire (r : Ring) (ops : List CbufRing.Op) (h : r.valid = true) :
    (CbufRing.run r ops).1.valid = true ∧ (CbufRing.run r ops).2 = true :=
  let v := run_valid r ops (.of_valid h)
  ⟨v.1.valid_true, v.2⟩

example : (CbufRing.run wrappedFull [.wr [1, 2, 3], .rdFd (-1) { out := [], caps := [2, -1] }, .wrFd (-1) { avail := [9, 9], caps := [1], eof := false },
    .rdLine 100 1, .dropN 1000, .flushAll]).2 = true := by decide +kernel

/-- Through any call the limits stay what they were and the size never shrinks (`cbuf_shrink` is not implemented). -/
theorem C09_ring_size_monotone (r : Ring) (op : CbufRing.Op) (h : r.valid = true) :
    (op.apply r).1.maxsize = r.maxsize ∧ (op.apply r).1.minsize = r.minsize ∧ r.size ≤ (op.apply r).1.size ∧
      (op.apply r).1.size ≤ r.maxsize := by
  have s := (Op.apply_step r op (.of_valid h)).1
  exact ⟨s.maxsize, s.minsize, s.size_le, s.maxsize ▸ s.valid.le_max⟩

/-- `cbuf_peek (cb, buf, len)`: `min len used` is returned and `buf` receives exactly the first `len` unread bytes, also
    when they lie across the end of the array (two `memcpy`s); the ring is not touched (the model's `peek` returns no
    ring: `cbuf_reader` only reads it — the harness confirms this on the real code after every peek). -/
theorem C09_ring_peek (r : Ring) (len : Int) (h : r.valid = true) (hl : 0 ≤ len) :
    CbufRing.peek r len = (((min len.toNat r.used : Nat) : Int), r.contents.take len.toNat, true) := by
  obtain ⟨h1, _, h3⟩ := peek_spec r len (.of_valid h)
  obtain ⟨h4, h5⟩ := h3 hl
  exact Prod.ext h4 (Prod.ext h5 h1)

/-- five bytes from `i_out = 5` in an array of nine slots: `6 7 \n 9 \n` with the wrap after the fourth -/
example : CbufRing.peek wrappedRing 5 = (5, [6, 7, 10, 9, 10], true) := by decide +kernel

/-- `cbuf_drop (cb, len)`: `min len used` (`used` for -1) is returned and exactly that many of the oldest unread bytes
    are gone; the rest is unchanged and in order. -/
theorem C09_ring_drop (r : Ring) (len : Int) (h : r.valid = true) (hl : -1 ≤ len) :
    (CbufRing.drop r len).1 = (dropCount r len : Nat) ∧
    (CbufRing.drop r len).2.1.contents = r.contents.drop (dropCount r len) ∧ dropCount r len ≤ r.used := by
  obtain ⟨t, _, hrc⟩ := drop_spec r len (.of_valid h) hl
  exact ⟨hrc, t.contents, by unfold dropCount; split <;> omega⟩

example : (CbufRing.drop wrappedRing 4).2.1.contents = [10, 11] ∧ (CbufRing.drop wrappedRing 4).2.1.i_out = 0 := by decide +kernel
example : (CbufRing.drop wrappedRing 100).1 = 6 ∧ (CbufRing.drop wrappedRing 100).2.1.contents = [] := by decide +kernel

/-- `cbuf_read_to_fd (cb, fd, len)` — "bytes queued for a device or client are delivered exactly once and in order
    however the writes are split": whatever each `write` call on the descriptor accepts (everything, a part, nothing,
    an error; the first piece up to the end of the array and then an error on the second …), if the return value is
    `n > 0` then exactly the first `n` unread bytes were written to the descriptor, in order, and exactly these `n` left
    the ring; if the return value is `≤ 0` nothing was written and the ring is as it was.  So what was written so far
    followed by what is still unread is always what was queued. -/
theorem C09_ring_read_to_fd (r : Ring) (len : Int) (d : Dst) (h : r.valid = true) (hl : -1 ≤ len) :
    (0 < (CbufRing.readToFd r len d).1 →
      (CbufRing.readToFd r len d).1 ≤ (min (readLen r len) r.used : Nat) ∧
      (CbufRing.readToFd r len d).2.2.1.out = d.out ++ r.contents.take (CbufRing.readToFd r len d).1.toNat ∧
      (CbufRing.readToFd r len d).2.1.contents = r.contents.drop (CbufRing.readToFd r len d).1.toNat) ∧
    ((CbufRing.readToFd r len d).1 ≤ 0 → (CbufRing.readToFd r len d).2.2.1.out = d.out ∧ (CbufRing.readToFd r len d).2.1 = r) ∧
    (CbufRing.readToFd r len d).2.2.1.out ++ (CbufRing.readToFd r len d).2.1.contents = d.out ++ r.contents := by
  obtain ⟨t, _, hle, ho, hz⟩ := readToFd_spec r len d (.of_valid h) hl
  exact ⟨fun _ => ⟨hle, ho, t.contents⟩,
    fun hrc => ⟨by rw [ho, Int.toNat_of_nonpos hrc, List.take_zero, List.append_nil], hz hrc⟩,
    by rw [ho, t.contents, List.append_assoc, List.take_append_drop]⟩

/-- the descriptor takes the first piece (`6 7 \n 9`, up to the end of the array) and refuses the second `write`: four
    bytes are reported and gone, `\n 11` stays -/
example : (CbufRing.readToFd wrappedRing (-1) { out := [], caps := [4, -1] }).1 = 4 ∧
    (CbufRing.readToFd wrappedRing (-1) { out := [], caps := [4, -1] }).2.2.1.out = [6, 7, 10, 9] ∧
    (CbufRing.readToFd wrappedRing (-1) { out := [], caps := [4, -1] }).2.1.contents = [10, 11] := by decide +kernel
/-- both pieces go out with two `write` calls -/
example : (CbufRing.readToFd wrappedRing (-1) { out := [], caps := [] }).2.2.1.out = [6, 7, 10, 9, 10, 11] := by decide +kernel
/-- a descriptor that takes nothing: -1, nothing lost -/
example : (CbufRing.readToFd wrappedRing (-1) { out := [], caps := [-1] }).1 = -1 ∧
    (CbufRing.readToFd wrappedRing (-1) { out := [], caps := [-1] }).2.1.contents = wrappedRing.contents := by decide +kernel

/-- `cbuf_grow (cb, n)`, `n > 0`: the unread bytes are the same before and after, also when the ring is wrapped and the
    part from `i_rep` to the old end of the array is moved to the new end (`memmove`, `i_out` and `i_rep` relocated); the
    new size is `Pm.Cbuf.growTo size n maxsize` — the size rule of the daemon model — and the return value is the
    difference. -/
theorem C09_ring_grow (r : Ring) (n : Nat) (h : r.valid = true) (hn : 0 < n) :
    (CbufRing.grow r n).1.valid = true ∧ (CbufRing.grow r n).2.2 = true ∧ (CbufRing.grow r n).1.contents = r.contents ∧
    (CbufRing.grow r n).1.size = Pm.Cbuf.growTo r.size n r.maxsize ∧ (CbufRing.grow r n).2.1 = Pm.Cbuf.growTo r.size n r.maxsize - r.size ∧
    (CbufRing.grow r n).1.used = r.used := by
  obtain ⟨t, g2, g4, g5⟩ := grow_spec r n (.of_valid h) hn
  rw [grownSize_eq_growTo r n (.of_valid h)] at g4 g5
  exact ⟨t.valid.valid_true, g2, t.contents, g4, g5, t.used⟩

/-- a wrapped, full ring of 8 grows to 32: the four bytes `6 7 \n 9` at the end of the old array move to the end of the new one -/
example : (CbufRing.grow wrappedFull 3).1.size = 32 ∧ (CbufRing.grow wrappedFull 3).1.i_out = 29 ∧ (CbufRing.grow wrappedFull 3).1.i_in = 4 ∧
    (CbufRing.grow wrappedFull 3).1.contents = wrappedFull.contents := by decide +kernel

/-- `cbuf_write (cb, src, len, &dropped)` in every overwrite mode.  The buffer first grows (if `len` exceeds the free
    space and `size < maxsize`) to `sizeAfter` = `growTo`; with `l` the length the mode allows (`clipOf`: all of it for
    `CBUF_WRAP_MANY`, at most `size` for `CBUF_WRAP_ONCE`, at most the free space for `CBUF_NO_DROP`) the return value is `l`,
    the unread bytes are the old ones followed by the first `l` bytes of `src`, minus the oldest `used + l - size` if that
    is positive, and exactly that number is stored in `dropped`. -/
theorem C09_ring_write (r : Ring) (src : List UInt8) (l : Nat) (h : r.valid = true)
    (hc : clipOf r.overwrite (sizeAfter r src.length) r.used src.length = some l) :
    (CbufRing.write r src).rc = (l : Nat) ∧
    (CbufRing.write r src).ring.contents =
      (r.contents ++ src.take l).drop (r.used + l - min (r.used + l) (sizeAfter r src.length)) ∧
    (CbufRing.write r src).ndropped = r.used + l - sizeAfter r src.length ∧
    (CbufRing.write r src).ring.size = sizeAfter r src.length := by
  obtain ⟨d, w, _, hs⟩ := write_spec r src (.of_valid h)
  obtain ⟨rfl, hrc⟩ := hs l hc
  exact ⟨hrc, by rw [w.contents, sub_min_self]; rfl, w.ndropped, w.size⟩

/-- The mode powerman runs in (`CBUF_WRAP_MANY`, the default; it never calls `cbuf_opt_set`): everything is written; what
    is unread afterwards is the old unread bytes followed by the new ones with the oldest `dropped` bytes removed, where
    `dropped = used + len - size'`; and bytes are dropped **only** by a buffer that has reached `maxsize`. -/
theorem C09_ring_write_wrap_many (r : Ring) (src : List UInt8) (h : r.valid = true) (hm : r.overwrite = .wrapMany) :
    (CbufRing.write r src).rc = (src.length : Nat) ∧
    (CbufRing.write r src).ring.contents = (r.contents ++ src).drop (CbufRing.write r src).ndropped ∧
    (CbufRing.write r src).ndropped = r.used + src.length - (CbufRing.write r src).ring.size ∧
    (0 < (CbufRing.write r src).ndropped → (CbufRing.write r src).ring.size = r.maxsize) ∧
    (r.used + src.length ≤ r.maxsize → (CbufRing.write r src).ndropped = 0 ∧
      (CbufRing.write r src).ring.contents = r.contents ++ src) := by
  obtain ⟨w, hrc⟩ := write_wrapMany r src (.of_valid h) hm
  obtain ⟨q1, q2, q3⟩ := w.bounded (.of_valid h) (Nat.le_refl _)
  have q2 : (CbufRing.write r src).ring.contents = (r.contents ++ src).drop (CbufRing.write r src).ndropped :=
    q2.trans (by rw [show (Getter.mem src).pending = src from rfl, List.take_length])
  have h0 := fun hfit => q1.trans (Nat.sub_eq_zero_of_le hfit)
  exact ⟨hrc, q2, by rw [w.ndropped, w.size], q3, fun hfit => ⟨h0 hfit, by rw [q2, h0 hfit]; rfl⟩⟩

/-- **The ring is a byte queue bounded by `maxsize`** (default mode): after `cbuf_write` of `src` the unread bytes are the
    last `maxsize` bytes of (old unread bytes ++ `src`) — all of them if they are no more than `maxsize` — and the number
    reported dropped is `used + len - maxsize`: the growth steps, the position of the data in the array, wraps and
    re-layouts are invisible.  This is the rule the plain Python queue of `lib/cbuflayer.py` checks on the real code. -/
theorem C09_ring_write_is_queue (r : Ring) (src : List UInt8) (h : r.valid = true) (hm : r.overwrite = .wrapMany) :
    (CbufRing.write r src).rc = (src.length : Nat) ∧
    (CbufRing.write r src).ndropped = r.used + src.length - r.maxsize ∧
    (CbufRing.write r src).ring.contents = (r.contents ++ src).drop (r.used + src.length - r.maxsize) := by
  obtain ⟨w1, w2, _⟩ := C09_ring_write_wrap_many r src h hm
  have q1 := ((write_wrapMany r src (.of_valid h) hm).1.bounded (.of_valid h) (Nat.le_refl _)).1
  exact ⟨w1, q1, q1 ▸ w2⟩

/-- the wrapped ring of 8 with 6 unread takes 4 more bytes: it is at its maximum, the two oldest bytes go -/
example : (CbufRing.write wrappedRing [21, 22, 23, 24]).ndropped = 2 ∧
    (CbufRing.write wrappedRing [21, 22, 23, 24]).ring.contents = [10, 9, 10, 11, 21, 22, 23, 24] := by decide +kernel
/-- 30 bytes into a ring of 8: the copy loop goes round the array four times, the last 8 bytes stay -/
example : (CbufRing.write wrappedRing (List.range 30 |>.map UInt8.ofNat)).ring.contents = [22, 23, 24, 25, 26, 27, 28, 29] ∧
    (CbufRing.write wrappedRing (List.range 30 |>.map UInt8.ofNat)).ndropped = 28 := by decide +kernel
/-- the full wrapped ring that may still grow: it grows (wrapped) and nothing is lost -/
example : (CbufRing.write wrappedFull [21, 22, 23]).ndropped = 0 ∧ (CbufRing.write wrappedFull [21, 22, 23]).ring.size = 32 ∧
    (CbufRing.write wrappedFull [21, 22, 23]).ring.contents = [6, 7, 10, 9, 10, 11, 12, 13, 21, 22, 23] := by decide +kernel
/-- `CBUF_NO_DROP` on a buffer that cannot grow: only what fits is written -/
example : (CbufRing.write (CbufRing.optSet wrappedRing 0).2 [21, 22, 23, 24]).rc = 2 ∧
    (CbufRing.write (CbufRing.optSet wrappedRing 0).2 [21, 22, 23, 24]).ring.contents = [6, 7, 10, 9, 10, 11, 21, 22] := by decide +kernel

/-- `cbuf_write_from_fd (cb, fd, len, &dropped)` — "exactly the byte stream the device sent, in order, nothing lost or
    duplicated while unconsumed data stays within buffer capacity, independent of how the stream was split into reads":
    whatever each `read` call hands out (short reads, `EAGAIN`, end of file), a return value `n > 0` means that exactly the
    next `n` bytes of the descriptor were consumed and appended to the unread bytes — after which the oldest
    `dropped = used + n - maxsize` are gone (0 while the unread data stays within `maxsize`) — and what the descriptor still
    holds is the rest; a return value `≤ 0` means nothing was consumed and nothing changed but (possibly) the size: the
    buffer grows *before* the first `read`. -/
theorem C09_ring_write_from_fd (r : Ring) (len : Int) (s : Src) (h : r.valid = true) (hl : -1 ≤ len) :
    (CbufRing.writeFromFd r len s).ring.size = sizeAfter r (fdLen r len) ∧
    ((CbufRing.writeFromFd r len s).rc ≤ 0 →
      (CbufRing.writeFromFd r len s).ring.contents = r.contents ∧ (CbufRing.writeFromFd r len s).g.pending = s.avail ∧
      (CbufRing.writeFromFd r len s).ndropped = 0) ∧
    (0 < (CbufRing.writeFromFd r len s).rc →
      ∃ n, (CbufRing.writeFromFd r len s).rc = (n : Nat) ∧ n ≤ fdLen r len ∧ n ≤ s.avail.length ∧
        (CbufRing.writeFromFd r len s).ring.contents =
          (r.contents ++ s.avail.take n).drop (CbufRing.writeFromFd r len s).ndropped ∧
        (CbufRing.writeFromFd r len s).g.pending = s.avail.drop n ∧
        (CbufRing.writeFromFd r len s).ndropped = r.used + n - r.maxsize ∧
        (0 < (CbufRing.writeFromFd r len s).ndropped → sizeAfter r (fdLen r len) = r.maxsize)) := by
  have hv := ValidP.of_valid h
  obtain ⟨w, d1, d2⟩ := writeFromFd_spec r len s hv hl
  obtain ⟨q1, q2, q3⟩ := w.bounded hv d2
  refine ⟨w.size, fun hrc => ?_, fun hrc => ⟨_, (Int.toNat_of_nonneg (Int.le_of_lt hrc)).symm, d2, d1, q2, w.pending, q1,
    fun hp => w.size.symm.trans (q3 hp)⟩⟩
  rw [Int.toNat_of_nonpos hrc] at w
  obtain ⟨u1, u2, u3, _⟩ := w.unchanged (Nat.le_trans hv.used_le (sizeAfter_bounds r _ hv).1)
  exact ⟨u1, u2, u3⟩

/-- a descriptor with five bytes that hands out at most two per `read`: the wrapped ring (2 free of 8) asks for 2 and gets
    them with one call; the other three stay in the descriptor -/
example : (CbufRing.writeFromFd wrappedRing (-1) { avail := [31, 32, 33, 34, 35], caps := [2], eof := false }).rc = 2 ∧
    (CbufRing.writeFromFd wrappedRing (-1) { avail := [31, 32, 33, 34, 35], caps := [2], eof := false }).ring.contents = [6, 7, 10, 9, 10, 11, 31, 32] ∧
    (CbufRing.writeFromFd wrappedRing (-1) { avail := [31, 32, 33, 34, 35], caps := [2], eof := false }).g.pending = [33, 34, 35] := by decide +kernel

/-- **The tie to sections 1–7.**  For the call the daemon makes — `cbuf_write_from_fd (cb, fd, -1, &dropped)`, default
    mode, the descriptor handing out what it has — the ring's size afterwards, the byte count and the dropped count are
    exactly `Pm.Cbuf.readPlan size used maxsize avail`, the rule the daemon model applies to its byte-list buffers
    (`C09_capacity`, `C09_no_loss_below_max`, `C09_overflow_drops_oldest`). -/
theorem C09_ring_read_plan (r : Ring) (s : Src) (h : r.valid = true) (hm : r.overwrite = .wrapMany) (hc : s.caps = []) :
    (CbufRing.writeFromFd r (-1) s).ring.size = (Pm.Cbuf.readPlan r.size r.used r.maxsize s.avail.length).2.1 ∧
    (0 < (Pm.Cbuf.readPlan r.size r.used r.maxsize s.avail.length).1 →
      (CbufRing.writeFromFd r (-1) s).rc = ((Pm.Cbuf.readPlan r.size r.used r.maxsize s.avail.length).1 : Nat) ∧
      (CbufRing.writeFromFd r (-1) s).ndropped = (Pm.Cbuf.readPlan r.size r.used r.maxsize s.avail.length).2.2) ∧
    ((Pm.Cbuf.readPlan r.size r.used r.maxsize s.avail.length).1 = 0 →
      (CbufRing.writeFromFd r (-1) s).rc ≤ 0 ∧ (CbufRing.writeFromFd r (-1) s).ndropped = 0) :=
  writeFromFd_readPlan r s (.of_valid h) hm hc

/-- the full wrapped ring asks for a chunk of 1000, grows to its maximum of 32 first, and reads what is there -/
example : Pm.Cbuf.readPlan 8 8 32 5 = (5, 32, 0) ∧
    (CbufRing.writeFromFd wrappedFull (-1) { avail := [1, 2, 3, 4, 5], caps := [], eof := false }).rc = 5 ∧
    (CbufRing.writeFromFd wrappedFull (-1) { avail := [1, 2, 3, 4, 5], caps := [], eof := false }).ring.size = 32 := by decide +kernel

/-- `cbuf_read_line (cb, buf, len, lines)`: the return value is what `cbuf_find_unread_line` finds on the unread bytes
    (`findLineSpec`: for `lines > 0` the bytes up to and including the `lines`-th line feed, or 0 if there are fewer —
    all or none; for -1 the complete lines among the first `len - 1` bytes); `buf` receives the first `min n (len - 1)` of
    these bytes and exactly the first `n` unread bytes leave the ring (a line longer than `buf` is cut and its tail
    discarded, as `cbuf.h` documents); with `n = 0` the unread bytes stay as they are (that the ring is the same ring is
    `readLine_spec`'s `Took r 0`, not part of this statement). -/
theorem C09_ring_read_line (r : Ring) (len lines : Int) (h : r.valid = true) (hl : 0 ≤ len) (hn : 1 ≤ lines ∨ lines = -1) :
    (CbufRing.readLine r len lines).1 = ((findLineSpec r.contents (len - 1) lines).1 : Nat) ∧
    (CbufRing.readLine r len lines).2.2.1.contents = r.contents.drop (findLineSpec r.contents (len - 1) lines).1 ∧
    (0 < (findLineSpec r.contents (len - 1) lines).1 → 0 < len →
      (CbufRing.readLine r len lines).2.1 = some (r.contents.take (min (findLineSpec r.contents (len - 1) lines).1 (len - 1).toNat))) ∧
    (findLineSpec r.contents (len - 1) lines).1 ≤ r.used := by
  obtain ⟨t, _, s1, s3, hle⟩ := readLine_spec r len lines (.of_valid h) hl (by omega) (by omega)
  exact ⟨s1, t.contents, fun hp hlen => by rw [s3, if_pos ⟨hp, hlen⟩], hle⟩

/-- The call `client.c` makes (`lines = 1`): if the unread bytes contain a line feed, the first line — everything up to
    and including it — is returned in `buf` and leaves the ring, wherever in the array it lies; otherwise 0 is returned
    and the unread bytes stay as they are. -/
theorem C09_ring_read_one_line (r : Ring) (len : Int) (h : r.valid = true) (hl : 0 ≤ len) :
    (10 ∈ r.contents → ((r.contents.takeWhile (· != 10)).length + 1 : Nat) < len →
      (CbufRing.readLine r len 1).1 = (((r.contents.takeWhile (· != 10)).length + 1 : Nat) : Int) ∧
      (CbufRing.readLine r len 1).2.1 = some (r.contents.takeWhile (· != 10) ++ [10]) ∧
      (CbufRing.readLine r len 1).2.2.1.contents = (r.contents.dropWhile (· != 10)).drop 1) ∧
    (10 ∉ r.contents → (CbufRing.readLine r len 1).1 = 0 ∧ (CbufRing.readLine r len 1).2.1 = none ∧
      (CbufRing.readLine r len 1).2.2.1.contents = r.contents) :=
  readLine_one r len (.of_valid h) hl

/-- the line `6 7 \n` starts at slot 5 of 9 and ends at slot 7; the next one, `9 \n`, lies across the end of the array -/
example : (CbufRing.readLine wrappedRing 100 1).1 = 3 ∧ (CbufRing.readLine wrappedRing 100 1).2.1 = some [6, 7, 10] ∧
    (CbufRing.readLine wrappedRing 100 1).2.2.1.contents = [9, 10, 11] := by decide +kernel
example : (CbufRing.readLine (CbufRing.readLine wrappedRing 100 1).2.2.1 100 1).2.1 = some [9, 10] ∧
    (CbufRing.readLine (CbufRing.readLine wrappedRing 100 1).2.2.1 100 1).2.2.1.contents = [11] := by decide +kernel
/-- two lines at once, all or none -/
example : (CbufRing.readLine wrappedRing 100 2).1 = 5 ∧ (CbufRing.readLine wrappedRing 100 3).1 = 0 := by decide +kernel
/-- a buffer of 3 for a line of 3: two bytes and the NUL fit, the line feed is dropped with the line -/
example : (CbufRing.readLine wrappedRing 3 1).1 = 3 ∧ (CbufRing.readLine wrappedRing 3 1).2.1 = some [6, 7] ∧
    (CbufRing.readLine wrappedRing 3 1).2.2.1.contents = [9, 10, 11] := by decide +kernel

/-- `cbuf_flush` empties the ring and keeps it valid (this is what a reconnect does to both buffers of a device). -/
theorem C09_ring_flush (r : Ring) (h : r.valid = true) : (CbufRing.flush r).valid = true ∧ (CbufRing.flush r).contents = [] :=
  ⟨(flush_valid r (.of_valid h)).valid_true, flush_contents r (.of_valid h)⟩

example : (CbufRing.flush wrappedRing).contents = [] ∧ (CbufRing.flush wrappedRing).i_in = 0 := by decide +kernel

end ring

end Pm.Props.C09

/-! ## 10. Serial devices (`device_serial.c`)

Between a serial device and the buffers of sections 1–7 sits the kernel's tty line discipline, configured by
`_serial_setup`.  `Pm/Serial.lean` models the flags string (`sscanf`), `_serial_setup` edit by edit over this platform's
`termios` constants (generated), and what the Linux line discipline does to bytes as a function of the flags
(`ttyOut`, `ttyIn`: output post-processing, input mapping, flow-control and signal characters, canonical editing, echo);
the correspondence layer `serial` runs the real code on a pseudo-terminal and pushes bytes through the real kernel.
All statements are for **every** previous state of the tty and every byte string. -/
namespace Pm.Props.C09
open Pm.Serial Pm.Generated.Termios

/-- the settings of a freshly opened Linux tty (`tty_std_termios`): `ICRNL IXON`, `OPOST ONLCR`, `B38400 CS8 CREAD`,
    `ISIG ICANON ECHO ECHOE ECHOK ECHOCTL ECHOKE IEXTEN` -/
def cookedTty : Termios := { iflag := 0x500, oflag := 5, cflag := 0xbf, lflag := 0x8a3b }

/-- **Daemon → device, raw.**  Whatever state the tty was in and whatever (accepted) parameters are asked for, after
    `_serial_setup` every byte string written reaches the line exactly as written: no CR inserted before LF, no CR↔NL
    mapping, no tab expansion, no case mapping, NUL and 0xFF included. -/
theorem C09_serial_raw_out (t t' : Termios) (p : Params) (h : serialSetup t p = some t') (bs : Bytes) :
    ttyOut t' bs = bs :=
  ttyOut_raw (serialSetup_raw h).2.2 bs

/-- **Device → daemon, raw.**  After `_serial_setup` every byte string that arrives is handed to `read` exactly as it
    arrived, and nothing is echoed back to the device: no CR/NL mapping, no stripping of the eighth bit, XON/XOFF, ^C, ^\, ^Z,
    DEL, ^D, NUL and 0xFF are data, nothing waits for an end of line. -/
theorem C09_serial_raw_in (t t' : Termios) (p : Params) (h : serialSetup t p = some t') (bs : Bytes) :
    ttyIn t' bs = (bs, []) :=
  ttyIn_raw (serialSetup_raw h).1 (serialSetup_raw h).2.1 bs

/-- a tty in the cooked state, the default flags `9600,8n1`: `on\n`, a tab, XOFF, ^C, 0xFF and NUL pass both ways -/
example : ∃ t', serialSetup cookedTty defaults = some t' ∧ t'.oflag = 4 ∧ t'.cflag = 0xbd ∧
    ttyOut t' [111, 110, 10, 9, 19, 3, 255, 0] = [111, 110, 10, 9, 19, 3, 255, 0] ∧
    ttyIn t' [111, 110, 13, 10, 9, 19, 3, 255, 0] = ([111, 110, 13, 10, 9, 19, 3, 255, 0], []) := ⟨_, rfl, by decide⟩
/-- the theorems are not vacuous and the model discriminates: in the cooked state itself `\n` goes out as `\r\n`, a
    received `\r` is read as `\n`, a line is held back until its end, XOFF and ^C are swallowed, everything is echoed.
    Had `_serial_setup` left `OPOST` alone (`c_lflag &= ~OPOST` in place of `c_oflag &= ~OPOST`), a CR would go out before every LF. -/
example : ttyOut cookedTty [111, 110, 10] = [111, 110, 13, 10] ∧ ttyIn cookedTty [111, 107, 13, 111] = ([111, 107, 10], [111, 107, 13, 10, 111]) ∧
    ttyIn cookedTty [97, 19, 98, 10] = ([97, 98, 10], []) ∧ ttyIn cookedTty [97, 3, 98, 10] = ([98, 10], [94, 67, 98, 13, 10]) ∧
    ttyOut { cookedTty with iflag := 0, lflag := 0 } [111, 110, 10] = [111, 110, 13, 10] := by decide +kernel

/-- **Which flags matter (input).**  The input side is transparent — `ttyIn t bs = (bs, [])` for every byte string — as soon as
    `ISTRIP INLCR IGNCR ICRNL IXON PARMRK` are clear in `c_iflag`, `IUCLC` is clear or `IEXTEN` is, and `ISIG ICANON ECHO` are
    clear in `c_lflag`; the other flags (`IGNBRK BRKINT IGNPAR INPCK IXANY IXOFF IMAXBEL IUTF8`, `ECHOE ECHOK ECHONL ECHOCTL ECHOKE NOFLSH
    TOSTOP EXTPROC` …) and all control characters may be anything.  `_serial_setup` gets there by zeroing both words. -/
theorem C09_serial_raw_in_flags (t : Termios) (h : RawIn t) (bs : Bytes) : ttyIn t bs = (bs, []) :=
  ttyIn_of_rawIn h bs

/-- **None of the ten conditions can be dropped**: with exactly one of the flags set on an otherwise all-zero tty, some input
    is altered, swallowed, held back or echoed.  (`0xC1`→`A`; LF→CR; CR dropped; CR→LF; `A`→`a`; XOFF swallowed; `0xFF` doubled; ^C
    swallowed; `a` held back until the end of the line; `a` echoed.) -/
theorem C09_serial_raw_in_flags_minimal :
    let z (i l : Nat) : Termios := { iflag := i, oflag := 0, cflag := 0, lflag := l }
    ttyIn (z ISTRIP 0) [0xc1] = ([0x41], []) ∧ ttyIn (z INLCR 0) [10] = ([13], []) ∧ ttyIn (z IGNCR 0) [13] = ([], []) ∧
    ttyIn (z ICRNL 0) [13] = ([10], []) ∧ ttyIn (z IUCLC IEXTEN) [65] = ([97], []) ∧ ttyIn (z IXON 0) [19] = ([], []) ∧
    ttyIn (z PARMRK 0) [255] = ([255, 255], []) ∧ ttyIn (z 0 ISIG) [3] = ([], []) ∧ ttyIn (z 0 ICANON) [97] = ([], []) ∧
    ttyIn (z 0 ECHO) [97] = ([97], [97]) := by decide +kernel

/-- **Which flags matter (output).**  Output is passed as written when `OPOST` is clear, and also when it is set but none of
    `ONLCR OCRNL ONOCR OLCUC` is and tabs are not expanded (the delay and fill flags change nothing on Linux). -/
theorem C09_serial_raw_out_flags (t : Termios) (h : flag t.oflag OPOST = false ∨ PlainOut t) (bs : Bytes) : ttyOut t bs = bs :=
  ttyOut_of_plain h bs

/-- … and each of the five alters some output under `OPOST`: LF→CR LF; CR→LF; CR at column 0 dropped; `a`→`A`; a tab becomes
    eight blanks -/
theorem C09_serial_raw_out_flags_minimal :
    let z (o : Nat) : Termios := { iflag := 0, oflag := OPOST ||| o, cflag := 0, lflag := 0 }
    ttyOut (z ONLCR) [10] = [13, 10] ∧ ttyOut (z OCRNL) [13] = [10] ∧ ttyOut (z ONOCR) [13] = [] ∧ ttyOut (z OLCUC) [97] = [65] ∧
    ttyOut (z XTABS) [9] = [32, 32, 32, 32, 32, 32, 32, 32] := by decide +kernel

/-- a tty with every flag that does not matter set, and odd control characters: still transparent -/
example : RawIn { iflag := IGNBRK ||| BRKINT ||| IGNPAR ||| INPCK ||| IXANY ||| IXOFF ||| IMAXBEL ||| IUTF8 ||| IUCLC, oflag := 0, cflag := 0,
                  lflag := ECHOE ||| ECHOK ||| ECHONL ||| ECHOCTL ||| ECHOKE ||| NOFLSH ||| TOSTOP ||| EXTPROC, vintr := 97, vstop := 98, verase := 99 } := by
  constructor <;> decide

/-- **The character format is the one asked for.**  After `_serial_setup` with parameters `(baud, databits, parity,
    stopbits)`: the speed constant in `c_cflag` (what `cfgetispeed`/`cfgetospeed` report) and in `c_ispeed`/`c_ospeed` is
    the `B…` constant that <termios.h> gives to `baud` bits per second; the size bits say 7 resp. 8 data bits; `CSTOPB` is
    set exactly for 2 stop bits; `PARENB` is clear for `n`/`N`, set with `PARODD` clear for `e`/`E`, set with `PARODD` set
    for `o`/`O`. -/
theorem C09_serial_params (t t' : Termios) (p : Params) (h : serialSetup t p = some t') :
    (∃ n b : Nat, (n : Int) = p.baud ∧ (n, b) ∈ stdBaud ∧ cfgetospeed t' = b ∧ cfgetispeed t' = b ∧ t'.ispeed = b ∧ t'.ospeed = b) ∧
    ((p.databits = 7 ∧ charBits t' = 7) ∨ (p.databits = 8 ∧ charBits t' = 8)) ∧
    ((p.stopbits = 1 ∧ flag t'.cflag CSTOPB = false) ∨ (p.stopbits = 2 ∧ flag t'.cflag CSTOPB = true)) ∧
    ((parityNone p.parity = true ∧ flag t'.cflag PARENB = false) ∨
     (parityEven p.parity = true ∧ flag t'.cflag PARENB = true ∧ flag t'.cflag PARODD = false) ∨
     (parityOdd p.parity = true ∧ flag t'.cflag PARENB = true ∧ flag t'.cflag PARODD = true)) :=
  ⟨serialSetup_speed h, serialSetup_charBits h, serialSetup_stopbits h, serialSetup_parity h⟩

/-- `115200,7e2` on a tty in the cooked state: B115200, 7 bits, even parity, two stop bits -/
example : ∃ t', serialSetup cookedTty ⟨115200, 7, 101, 2⟩ = some t' ∧ cfgetospeed t' = 4098 ∧ charBits t' = 7 ∧
    flag t'.cflag PARENB = true ∧ flag t'.cflag PARODD = false ∧ flag t'.cflag CSTOPB = true := ⟨_, rfl, by decide⟩

/-- **Nothing else is touched.**  Every other bit of `c_cflag` (`CREAD`, `CLOCAL`, `HUPCL`, `CRTSCTS`, …) is as it was,
    `c_oflag` only loses `OPOST`, `VMIN` is set to 1 and `VTIME` to 0 whatever they were, and the other control characters are
    as they were. -/
theorem C09_serial_keeps (t t' : Termios) (p : Params) (h : serialSetup t p = some t') :
    (∀ k, (CBAUD ||| CSIZE ||| CSTOPB ||| PARENB ||| PARODD) &&& k = 0 → t'.cflag &&& k = t.cflag &&& k) ∧
    t'.oflag = clr t.oflag OPOST ∧ t'.vmin = 1 ∧ t'.vtime = 0 ∧
    t'.vintr = t.vintr ∧ t'.vquit = t.vquit ∧ t'.verase = t.verase ∧ t'.vkill = t.vkill ∧ t'.veof = t.veof ∧
    t'.vstart = t.vstart ∧ t'.vstop = t.vstop ∧ t'.vsusp = t.vsusp ∧ t'.veol = t.veol :=
  ⟨(serialSetup_cflag h).frame, serialSetup_rest h⟩

/-- **What `_serial_setup` refuses, and with which message.**  It succeeds exactly when the baud is in the table
    (300 … 460800), the data bits are 7 or 8, the stop bits 1 or 2 and the parity one of `n N e E o O`; otherwise it
    reports the first of baud, data bits, stop bits, parity that is not supported, and hands no settings to `tcsetattr`
    (`serialSetup` is `none`). -/
theorem C09_serial_setup_rejects (t : Termios) (p : Params) :
    ((∃ t', serialSetup t p = some t') ↔ GoodParams p) ∧
    (serialSetupE t p = .error .baud ↔ ¬ ∃ n ∈ supportedBauds, (n : Int) = p.baud) ∧
    (serialSetupE t p = .error .databits ↔ (∃ n ∈ supportedBauds, (n : Int) = p.baud) ∧ ¬(p.databits = 7 ∨ p.databits = 8)) ∧
    (serialSetupE t p = .error .stopbits ↔ (∃ n ∈ supportedBauds, (n : Int) = p.baud) ∧ (p.databits = 7 ∨ p.databits = 8) ∧ ¬(p.stopbits = 1 ∨ p.stopbits = 2)) ∧
    (serialSetupE t p = .error .parity ↔ (∃ n ∈ supportedBauds, (n : Int) = p.baud) ∧ (p.databits = 7 ∨ p.databits = 8) ∧ (p.stopbits = 1 ∨ p.stopbits = 2) ∧
        ¬(parityNone p.parity = true ∨ parityEven p.parity = true ∨ parityOdd p.parity = true)) :=
  ⟨serialSetup_isSome_iff t p, (serialSetupE_error t p).1, (serialSetupE_error t p).2.1, (serialSetupE_error t p).2.2.1, (serialSetupE_error t p).2.2.2.1⟩

example : supportedBauds = [300, 1200, 2400, 4800, 9600, 19200, 38400, 57600, 115200, 230400, 460800] := by decide +kernel
example : serialSetupE cookedTty ⟨14400, 9, 120, 3⟩ = .error .baud ∧ serialSetupE cookedTty ⟨9600, 9, 120, 3⟩ = .error .databits ∧
    serialSetupE cookedTty ⟨9600, 8, 120, 3⟩ = .error .stopbits ∧ serialSetupE cookedTty ⟨9600, 8, 120, 1⟩ = .error .parity := by decide +kernel

/-- **What the flags parser refuses: nothing.**  `sscanf(flags, "%d,%d%c%d", …)` is followed by
    `assert(n >= EOF && n <= 4)`, and the return value is always one of `EOF` = -1, 0, …, 4: no flags string makes the assertion
    fail (`parseFlags s` is never `none`), and the parameters `serial_connect` goes on with are the four variables as the
    `sscanf` left them — what was not matched keeps its default; values that name no format are refused later by
    `_serial_setup` (`C09_serial_setup_rejects`).  `EOF` is answered exactly for the strings that consist of white space only up to
    their end, the empty string included. -/
theorem C09_serial_flags_rejected (s : Bytes) :
    parseFlags s ≠ none ∧ parseFlags s = some (sscanfFlags (cstr s)).2 ∧
    (-1 ≤ (sscanfFlags (cstr s)).1 ∧ (sscanfFlags (cstr s)).1 ≤ 4) ∧
    ((sscanfFlags (cstr s)).1 < 0 ↔ (cstr s).all isSpace = true) :=
  ⟨by rw [parseFlags_some]; simp, parseFlags_some s, sscanfFlags_range _, sscanfFlags_neg_iff _⟩

/-- **A device line without flags means `9600,8N1`.**  `serial_create` stores `""` for it; that string, and every string
    that is blank up to its end, gets past the parser with the four defaults `baud = 9600, databits = 8, parity = 'N',
    stopbits = 1`, which `_serial_setup` accepts from every state of the tty.  (`sscanf("")` answers `EOF` = -1, and the assertion on
    its result is `n >= EOF`; with `n >= 0` such a device aborts the daemon at connect time.) -/
theorem C09_serial_no_flags_fixed :
    defaults = ⟨9600, 8, 78, 1⟩ ∧ parseFlags [] = some defaults ∧
    (∀ s, (cstr s).all isSpace = true → parseFlags s = some defaults) ∧
    (∀ t, ∃ t', serialSetup t defaults = some t') :=
  ⟨rfl, by decide, fun _ h => parseFlags_blank h,
   fun t => (serialSetup_isSome_iff t defaults).mpr (by unfold GoodParams; decide)⟩

/-- blank, tab and newline, blank then NUL then junk: defaults; `x` too (zero matches) -/
example : parseFlags [32] = some defaults ∧ parseFlags [9, 10, 32] = some defaults ∧ parseFlags [32, 0, 55] = some defaults ∧
    parseFlags [120] = some defaults ∧ sscanfFlags [] = (-1, defaults) ∧ sscanfFlags [120] = (0, defaults) := by decide +kernel

/-- **A flags string in its documented shape is read as written**: `<digits>,<digits><c><digits>` with a byte `c` that
    is neither a digit nor NUL, numbers below 2³¹ — all four values are those of the string. -/
theorem C09_serial_flags_read {b d s : Bytes} {c : UInt8} (hb : Digits b (44 :: (d ++ c :: s))) (hd : Digits d (c :: s)) (hs : Digits s [])
    (hc : c ≠ 0) : parseFlags (b ++ 44 :: (d ++ c :: s)) = some ⟨digitsVal b, digitsVal d, c, digitsVal s⟩ :=
  parseFlags_full hb hd hs hc

/-- `9600,8n1`, `115200,7e2`; partial strings keep defaults; `%c` takes a blank for the parity; a baud beyond `int` wraps -/
example : parseFlags [57, 54, 48, 48, 44, 56, 110, 49] = some ⟨9600, 8, 110, 1⟩ ∧
    parseFlags [49, 49, 53, 50, 48, 48, 44, 55, 101, 50] = some ⟨115200, 7, 101, 2⟩ ∧
    parseFlags [49, 50, 48, 48] = some ⟨1200, 8, 78, 1⟩ ∧ parseFlags [49, 50, 48, 48, 44, 55] = some ⟨1200, 7, 78, 1⟩ ∧
    parseFlags [57, 54, 48, 48, 44, 56, 32, 110, 49] = some ⟨9600, 8, 32, 1⟩ ∧
    parseFlags [52, 50, 57, 52, 57, 55, 54, 56, 57, 54, 44, 56, 110, 49] = some ⟨9600, 8, 110, 1⟩ := by decide +kernel

/-- **Seven data bits: exactly what happens.**  The line discipline is as transparent as with eight
    (`C09_serial_raw_out`/`_in` do not depend on the size); below it, a port set to `databits = 7` sends and receives the low
    seven bits of each byte, so bytes below 0x80 pass unaltered and 0x80…0xFF lose their top bit; with `databits = 8` every byte
    passes. (A pseudo-terminal has no such layer and keeps `CS8` whatever is asked.) -/
theorem C09_serial_wire (t t' : Termios) (p : Params) (h : serialSetup t p = some t') (bs : Bytes) :
    (p.databits = 8 → uartTx t' bs = bs) ∧
    (p.databits = 7 → uartTx t' bs = bs.map (· &&& 127) ∧ ((∀ b ∈ bs, b.toNat < 128) → uartTx t' bs = bs)) :=
  ⟨(serialSetup_uartTx h bs).1, fun h7 =>
    ⟨(serialSetup_uartTx h bs).2 h7, fun ha => by rw [(serialSetup_uartTx h bs).2 h7, map_and_127_ascii bs ha]⟩⟩

/-- **Receiving on a real port**, under the hypothesis the full statement does not have: the receiver was enabled
    (`CREAD`) in the state `_serial_setup` started from.  Then 8 data bits deliver every byte, 7 the low seven bits.
    The full statement — the same conclusion for every `t` with `serialSetup t p = some t'`, without `hr` — is false of the
    model and of the code: `C09_serial_cread_counterexample`. -/
theorem C09_serial_uart_rx_partial (t t' : Termios) (p : Params) (h : serialSetup t p = some t') (hr : flag t.cflag CREAD = true) (bs : Bytes) :
    (p.databits = 8 → (ttyIn t' (uartRx t' bs)).1 = bs) ∧ (p.databits = 7 → (ttyIn t' (uartRx t' bs)).1 = bs.map (· &&& 127)) := by
  simp only [C09_serial_raw_in t t' p h]
  exact serialSetup_uartRx h hr bs

/-- **`_serial_setup` never sets `CREAD` (nor `CLOCAL`).**  From a state with the receiver disabled — all-zero flag words, as
    a program that builds its `termios` from scratch leaves them — the port is configured "successfully" and nothing the
    device sends is ever received.  Not observable on a pseudo-terminal (it forces `CREAD`); follows from
    `C09_serial_keeps`. -/
theorem C09_serial_cread_counterexample :
    ∃ t t', serialSetup t defaults = some t' ∧ flag t'.cflag CREAD = false ∧ uartRx t' [79, 75, 13, 10] = [] :=
  ⟨{ iflag := 0, oflag := 0, cflag := 0, lflag := 0 }, _, rfl, by decide⟩

/-- **`poll` after the set-up.**  Whatever `VMIN`/`VTIME` (and everything else) the tty was left with, after
    `_serial_setup` the descriptor polls readable as soon as a single byte has arrived — and not before. -/
theorem C09_serial_poll (t t' : Termios) (p : Params) (h : serialSetup t p = some t') (bs : Bytes) :
    (bs ≠ [] → pollReadable t' bs = true) ∧ pollReadable t' [] = false :=
  ⟨serialSetup_poll_ok h bs, by rw [serialSetup_poll h]; rfl⟩

/-- **Finding F36.**  A tty left with `VMIN = 10`, `VTIME = 0` by a program that read the port in blocks, the three bytes
    `OK\n` arriving: it polls readable, because `_serial_setup` sets `c_cc[VMIN] = 1`, `c_cc[VTIME] = 0`.  With `VMIN` left at 10
    `poll`, in which the daemon waits, stays silent until ten bytes have accumulated (last conjunct), and the `expect` times out. -/
theorem C09_serial_vmin_f36_fixed :
    ∃ t', serialSetup { cookedTty with vmin := 10 } defaults = some t' ∧ t'.vmin = 1 ∧ t'.vtime = 0 ∧
      ttyIn t' [79, 75, 10] = ([79, 75, 10], []) ∧ pollReadable t' [79, 75, 10] = true ∧
      pollReadable { t' with vmin := 10 } [79, 75, 10] = false :=
  ⟨_, rfl, by decide⟩

/-! ## 11. The `--stdio` client: input and output are two descriptors (`Pm/StdioCli.lean`) -/

section Stdio
open Pm.Daemon Pm.Daemon.Stdio

/-- **Write side, `--stdio` client.**  One `_handle_write`: the bytes handed to the *output* descriptor followed by what stays
    queued is what was queued before — nothing lost, duplicated or reordered, whatever the descriptor's capacity, blocking or
    not, failing or not — and no other descriptor (the input descriptor in particular) is written to. -/
theorem C09_stdio_conserve (ofd : Nat) (w : W) (c : Cli) :
    Pm.Daemon.Tel.written ofd (handleWriteIO ofd w c).1.sys ++ (handleWriteIO ofd w c).2.toBuf = Pm.Daemon.Tel.written ofd w.sys ++ c.toBuf ∧
    (∀ fd, fd ≠ ofd → Pm.Daemon.Tel.written fd (handleWriteIO ofd w c).1.sys = Pm.Daemon.Tel.written fd w.sys) :=
  let ⟨hout, _, hother⟩ := handleWriteIO_conserve ofd w c; ⟨hout, hother⟩

/-- **The final flush goes to the output descriptor.**  The `quit` request of the `--stdio` client: unless the output descriptor
    fails (`cap < 0`), everything queued so far and `101 Goodbye` are handed to `ofd` in one `write`, however little it can take
    at once (`blocks` says whether the daemon has to sleep for it), and the queue is empty when the client is destroyed. -/
theorem C09_stdio_quit_flush (ofd : Nat) (w : W) (c : Cli) (hcap : ¬ capOf w ofd < 0) :
    (ClientPf.plQuit w { c with fd := ofd }).2.toBuf = [] ∧
    (ClientPf.plQuit w { c with fd := ofd }).1.sys =
      w.sys ++ [Sys.write ofd (c.toBuf ++ ClientPf.render [ClientPf.item101]) false
                 (capOf w ofd < ((c.toBuf ++ ClientPf.render [ClientPf.item101]).length : Int))] :=
  let ⟨hempty, _, hsys⟩ := quit_flush ofd w c hcap; ⟨hempty, hsys⟩

/-- **Every request line of the `--stdio` client is answered on the output descriptor, once and in order.**  `_handle_input`
    for a client whose output is `ofd`: unless the daemon exits (the sort assertion, F19), the stream of the output descriptor
    — what was written to `ofd` followed by what waits in `to` — grows by exactly one answer chunk per complete line of the
    input buffer, in the order of the lines; and every system call made on the way (the final flush of `quit`) is on `ofd`. -/
theorem C09_stdio_answers (ofd : Nat) (w : W) (c : Cli) :
    ((handleInputIO ofd w c).1.exited = true ∨
     ∃ chunks : List (List ClientPf.Item), chunks.length = (ClientPf.linesOf c.fromBuf).1.length ∧
       ClientPf.written (handleInputIO ofd w c).1.sys ofd ++ (handleInputIO ofd w c).2.toBuf =
         ClientPf.written w.sys ofd ++ c.toBuf ++ ClientPf.render chunks.flatten ∧
       (∀ ch ∈ chunks, ClientPf.AnswerChunk ch)) ∧
    (∃ ext, (handleInputIO ofd w c).1.sys = w.sys ++ ext ∧ ∀ s ∈ ext, Isolation.sysFd s = some ofd) ∧
    (handleInputIO ofd w c).2.fd = c.fd :=
  handleInputIO_answers ofd w c

/-- **A whole `cli_post_poll` of the `--stdio` daemon, for every set of poll events** (readable, writable, hang-up, error,
    invalid, on either descriptor, with any data and any capacity): every `write` among the system calls of the pass is on the
    output descriptor.  Nothing queued for the client can end up on its input descriptor or on another descriptor. -/
theorem C09_stdio_writes_only_out (ofd : Nat) (w : W) (envs : List FdEnv) :
    ∀ s ∈ (cliPostPollIO ofd w envs).sys, Isolation.isWrite s = true → Isolation.sysFd s = some ofd :=
  cliPostPollIO_writes ofd w envs

/-- non-vacuity: a client with 5 bytes queued, an output descriptor (1001) that can take 2 of them: all 18 bytes (queue and
    farewell) are written to 1001, none to the input descriptor 1000, and the call is marked as one that sleeps -/
example :
    Pm.Daemon.Tel.written 1001 (handleInputIO 1001 { cfg := { plugs := [], has := [], nodes := [], version := [] }, clients := [], caps := [(1001, 2)] }
        { id := 1, fd := 1000, toBuf := [1, 2, 3, 4, 5], fromBuf := Pm.Daemon.bstr "quit\n" }).1.sys = [1, 2, 3, 4, 5] ++ Pm.Daemon.bstr "101 Goodbye\r\n" ∧
    Pm.Daemon.Tel.written 1000 (handleInputIO 1001 { cfg := { plugs := [], has := [], nodes := [], version := [] }, clients := [], caps := [(1001, 2)] }
        { id := 1, fd := 1000, toBuf := [1, 2, 3, 4, 5], fromBuf := Pm.Daemon.bstr "quit\n" }).1.sys = [] ∧
    (handleInputIO 1001 { cfg := { plugs := [], has := [], nodes := [], version := [] }, clients := [], caps := [(1001, 2)] }
        { id := 1, fd := 1000, toBuf := [1, 2, 3, 4, 5], fromBuf := Pm.Daemon.bstr "quit\n" }).2.toBuf = [] ∧
    (handleInputIO 1001 { cfg := { plugs := [], has := [], nodes := [], version := [] }, clients := [], caps := [(1001, 2)] }
        { id := 1, fd := 1000, toBuf := [1, 2, 3, 4, 5], fromBuf := Pm.Daemon.bstr "quit\n" }).2.fd = 1000 := by decide +kernel

end Stdio

end Pm.Props.C09
