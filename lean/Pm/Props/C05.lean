import Pm.FrameTwo
import Pm.FrameStutter
import Pm.FrameCli
import Pm.FrameMulti
import Pm.FrameEx
import Pm.TwoRunEx
import Pm.RunXC05Ex
/-! # C05 — one sick device does not disturb the others

*"While one device is slow, silent, disconnected, refusing connections or emitting garbage, requests from any client whose
targets lie entirely on other devices complete with the same results and within the same time as if that device were
healthy, and a request spanning healthy and sick devices still reports correct per-node results for the healthy devices.
Actions on different devices progress concurrently rather than one device after another."*

Everything is stated over the mirrors that the differential harness compares with the C code on every run of the checks:
`Pm.Daemon.daemonPass` (the body of `powermand.c:_select_loop`: `cli_post_poll`, then `dev_post_poll`), whose device part
is `w0.devs.foldl (devPass p) (acc0 w0)`, one `devPass` per device in configuration order; `devPass p a nd` runs
`Pm.Dev2.postPoll` (= `dev_post_poll` for one device: `_handle_ready_device`, `_reconnect`, `_enqueue_ping`,
`_process_action`) on device `nd` with the shared arglist store plugged in, and delivers its callbacks to the clients
(`applyOuts` = `_act_finish`, the telemetry and the diagnostic callbacks).

Vocabulary (helper modules `Pm/FrameDev`, `FrameOracle`, `FrameRel`, `FrameConn`, `FrameProof`, `FrameTwo`, `FrameStutter`,
`FrameCli`, `FrameMulti`; example worlds and Boolean checkers for the hypotheses in `FrameEx`):

* `cliRec w g` — the record of the client with id `g` in world `w`;  `cell s al` — arglist `al` of the store `s`;
* `devStep p w o nd` — device `nd`'s own `dev_post_poll` share, from world `w` and oracle `o`;
  `stepped p a nd` — the entry it leaves in the list of processed devices;  `accAt p a l i` — the accumulator when the
  turn of device number `i` of `l` comes;
* a *node predicate* `Q : Bytes → Bool`: `QOff Q d` — no plug of `d` is wired to a `Q`-node; `QOn Q d` — all are;
  `ActsOK Q acts` — the plugs the queued actions carry in their execution contexts are wired to `Q`-nodes;
  `SAgree Q s s'` — the two stores have the same `Q`-node entries in every arglist; `GOk Q w g` — the command of client
  `g` (if any) targets `Q`-nodes only;
* the regex engine is an oracle whose recorded answers are consumed in call order (`Oracle.calls`); `NoMis outs` — the
  device was never out of step with it; `ExactOn p a l xs` — the answers `xs` are exactly what the devices `l` ask for
  when started from accumulator `a`;
* `strip nd` — a processed device without its (stale) copy of the store;  `DevAcc.dead` — a modelled `assert`/abort.

Non-interference of the device phase is proved outright.  The client phase is a hypothesis in general
(`C05_noninterference_pass_partial`); it is discharged for a quiet client phase — requests in flight —
(`C05_noninterference_inflight_partial`, `C05_noninterference_passes_partial`) and for a general client phase with the observers
of `B` excluded (§5).  Descriptor renaming is left out: the counters stay a hypothesis.  §6 states the multi-pass theorems over
the shared runs `runX` of `Pm/RunX.lean` (regex answers arbitrary in every pass, `B`'s may differ between the two runs). -/
namespace Pm.Props.C05
open Pm Pm.Client Pm.Daemon
open Pm.Dev2 (Oracle Dev Action cell SAgree QOn QOff ActsOK NoMis Stalled)

/-! ## 1. Frame: what one device's share of the pass reads and writes -/

/-- **Reads.**  Device `nd`'s share of `dev_post_poll` is a function of: `nd` itself, the shared arglist store, the three
    counters that number the descriptors/pids it may be handed, the clock and the `connect`/`SO_ERROR` answers, the
    descriptor event addressed to `nd`'s own descriptor, and the oracle — of nothing else in the world or the pass input
    (not the other devices, not the clients, not the events of other descriptors). -/
theorem C05_frame_reads (p p' : PassIn) (w w' : W) (o : Oracle) (nd : Bytes × Dev)
    (hs : w.store = w'.store) (h1 : w.nsock = w'.nsock) (h2 : w.npair = w'.npair) (h3 : w.nfork = w'.nfork)
    (hn : p.now = p'.now) (hc : p.con = p'.con) (he : p.soe = p'.soe)
    (hev : ∀ fd, nd.2.fd = some fd → p.envs.find? (fun x => x.fd == fd) = p'.envs.find? (fun x => x.fd == fd)) :
    devStep p w o nd = devStep p' w' o nd :=
  devStep_reads p p' w w' o nd hs h1 h2 h3 hn hc he hev

/-- **Writes.**  `devPass` for device `nd`, whatever its state, its kernel answers and the oracle:

    1. a client (id `g ≠ 0`; id `0` marks the internal login/ping actions) none of whose actions is queued on `nd` keeps
       its record — output buffer, command in progress, pending count, everything;
    2. exactly one entry, under `nd`'s own name and with `nd`'s plugs and scripts, is appended to the processed devices;
       no other device is touched;
    3. an arglist (id `al ≠ 0`, see finding below) that no action queued on `nd` refers to keeps its store cell;
    4. in *every* arglist the entries of nodes not wired to `nd` are kept (`Q` any set of such nodes) — so in a request
       spanning `nd` and other devices the per-node results of the others are not touched by `nd`;
    5. of the rest of the world only the three descriptor/pid counters move, and only upwards. -/
theorem C05_frame_device (p : PassIn) (a : DevAcc) (nd : Bytes × Dev) :
    (∀ g, g ≠ 0 → (∀ x ∈ nd.2.acts, x.clientId ≠ g) → cliRec (devPass p a nd).w g = cliRec a.w g) ∧
    (∃ d', (devPass p a nd).devs = a.devs ++ [(nd.1, d')] ∧ d'.plugs = nd.2.plugs ∧ d'.scripts = nd.2.scripts) ∧
    (∀ al, al ≠ 0 → (∀ x ∈ nd.2.acts, x.arglist ≠ al) → (devPass p a nd).w.store.lookup al = a.w.store.lookup al) ∧
    (∀ Q : Bytes → Bool, QOff Q nd.2 → ∀ al,
        (cell (devPass p a nd).w.store al).filter (fun x => Q x.node) = (cell a.w.store al).filter (fun x => Q x.node)) ∧
    ({ (devPass p a nd).w with clients := a.w.clients, store := a.w.store, nsock := a.w.nsock, npair := a.w.npair, nfork := a.w.nfork } = a.w ∧
      a.w.nsock ≤ (devPass p a nd).w.nsock ∧ a.w.npair ≤ (devPass p a nd).w.npair ∧ a.w.nfork ≤ (devPass p a nd).w.nfork) :=
  ⟨fun g hg hq => devPass_client p a nd g hg hq, devPass_devs p a nd,
   fun al hal hq => devPass_store_cell p a nd al hal hq, fun Q hQ al => devPass_store_nodes p a nd Q hQ al, devPass_rest p a nd⟩

/- FINDING (hypothesis `al ≠ 0` of item 3).  The model gives the internal login and ping actions the arglist id `0`
   (`loginAction`, `arglist := 0`) while the first client command after start-up also gets id `0` (`W.alNext := 0`).  In
   the C code these actions have `act->arglist == NULL`; a login/ping script containing `setplugstate`/`setresult` would
   dereference it (`arglist_find(NULL, …)` → `hash_find(arglist->args, …)`), i.e. crash, where the model writes the
   client's arglist `0`.  The hypothesis excludes exactly that arglist; item 4 needs no such hypothesis. -/

/-- the device-level fact behind 1, 3 and 4: with `C` a set of client ids containing `0` and the ids of the queued
    actions, `L` a set of arglist ids containing `0` and those of the queued actions, `Q` a set of nodes none of which is
    wired to the device — every `finish`/`telemetry`/`diag` callback of `dev_post_poll` is addressed to a client of `C`,
    arglists outside `L` keep their cell, `Q`-entries are kept everywhere, plugs and scripts are kept.
    (Generalises `C11_completions_owned` from completions to all three callbacks and to the store.) -/
theorem C05_frame_postPoll (Q : Bytes → Bool) (C L : Nat → Prop) (d : Dev) (env : Pm.Dev2.Env) (o : Oracle)
    (hQ : QOff Q d) (h0 : C 0 ∧ L 0) (hacts : ∀ a ∈ d.acts, C a.clientId ∧ L a.arglist) :
    Pm.Dev2.PAFrame Q C L d (Pm.Dev2.postPoll d env o) :=
  Pm.Dev2.postPoll_frame Q C L d env o hQ h0 hacts

/- non-vacuity: in the example world (`Pm/FrameEx.lean`: devices `A`, `B`, `C`; client 1 has an `on` queued on `A`, client
   2 one on `B`) device `B` — healthy or emitting garbage — has no action of client 1, is not wired to `A`'s node, and its
   step leaves client 1's record alone; `A`'s step does change it (the command completes). -/
example : (∀ x ∈ Ex.devB'.acts, x.clientId ≠ 1) ∧ QOff Ex.Q Ex.devB' := ⟨Ex.noG _ rfl, Ex.qOff _ rfl⟩
example : (cliRec (devPass Ex.pin (acc0 Ex.w2) Ex.B').w 1).map (·.toBuf) = some [] ∧
    (cliRec (devPass Ex.pin (acc0 Ex.w2) Ex.A).w 1).map (·.toBuf) =
      some (bstr "102 Command completed successfully\r\npowerman> ") := by
  rw [ClientPf.bstr_chars]
  decide +kernel

/-! ## 2. Concurrency: all devices get their actions at once, and every device is stepped in every pass -/

/-- `_create_command` + `dev_enqueue_actions`: one call either refuses (the world is unchanged) or replaces **every**
    device by its enqueued version (`instDev`: the device's own `enqueue`, plus the retry-counter reset for a device that is
    not connected) in the same step, opens one new arglist, and touches nothing else: all actions of a request exist
    before any device runs. -/
theorem C05_concurrent_install (w : W) (c : Cli) (com : Com) (names : List Name) :
    (install w c com names).1 = w ∨
    ∃ args, (install w c com names).1 =
      { w with devs := w.devs.map (instDev (comIdx com) (names.map ofChars) c.id c.telemetry w.alNext),
               store := (w.alNext, args) :: w.store, alNext := w.alNext + 1 } :=
  install_world w c com names

/- non-vacuity: a third client asks `on a1,b1` in the example world: in the one call `A` and `B` both get their action (queue
   lengths 1,1,0 → 2,2,0), one arglist is opened, `pending` is 2 -/
example : ((install Ex.w1 { id := 3, fd := 1002 } .on [['a', '1'], ['b', '1']]).1.devs.map fun nd => nd.2.acts.length) = [2, 2, 0] ∧
    (install Ex.w1 { id := 3, fd := 1002 } .on [['a', '1'], ['b', '1']]).1.store.length = 3 ∧
    (install Ex.w1 { id := 3, fd := 1002 } .on [['a', '1'], ['b', '1']]).2.cmd.map (·.pending) = some 2 := by decide +kernel

/-- In the pass every device of the list is stepped, in configuration order, whatever the others did: device number `i`
    leaves `stepped p (accAt p a l i) nd` — its own `dev_post_poll` share (`devStep`) run from the accumulator of its own
    turn, or itself unchanged once the model's `dead` flag (a C `assert`/abort) is set.  By `C05_frame_reads` that share
    reads of the accumulator only the store, the counters and the oracle: not whether another device's action
    finished, stalled or failed.  No device waits for another. -/
theorem C05_concurrent_pass (p : PassIn) (l : List (Bytes × Dev)) (a : DevAcc) :
    (l.foldl (devPass p) a).devs.length = a.devs.length + l.length ∧
    ((l.foldl (devPass p) a).devs.map (·.1)) = a.devs.map (·.1) ++ l.map (·.1) ∧
    ∀ i nd, l[i]? = some nd → (l.foldl (devPass p) a).devs[a.devs.length + i]? = some (stepped p (accAt p a l i) nd) := by
  refine ⟨foldl_devs_length p l a, ?_, ?_⟩
  · rw [foldl_devs, List.map_append, steppedList_names]
  · intro i nd h
    rw [foldl_devs, List.getElem?_append_right (Nat.le_add_right _ _), Nat.add_sub_cancel_left]
    exact steppedList_get p l a i nd h

/-- the same for `daemonPass`: unless the client phase ended the process, the devices of the new world are exactly the
    stepped devices, one per configured device -/
theorem C05_concurrent_daemonPass (w : W) (p : PassIn) (h : (cliPostPoll w p.acc p.envs).exited = false) :
    (daemonPass w p).1.devs = steppedList p (acc0 (cliPostPoll w p.acc p.envs)) (cliPostPoll w p.acc p.envs).devs ∧
    (daemonPass w p).1.devs.length = (cliPostPoll w p.acc p.envs).devs.length := by
  rw [daemonPass_devs w p h]
  exact ⟨rfl, steppedList_length p _ _⟩

/-- The example pass (`Pm/FrameEx.lean`) from the world with the healthy `B` (`w1`) and from the one with the sick `B'` (`w2`):
    what client 1 is left with, the devices' buffers and queues, the timeout handed to `poll`. -/
structure ExamplePass : Prop where
  reply1 : (cliRec (daemonPass Ex.w1 Ex.pin).1 1).map (fun c => (c.toBuf, c.cmd.isSome)) =
    some (bstr "102 Command completed successfully\r\npowerman> ", false)
  bufs1 : ((daemonPass Ex.w1 Ex.pin).1.devs.map fun nd => nd.2.fromBuf) = [[], [], []]
  tmo1 : (daemonPass Ex.w1 Ex.pin).1.tmo = some 4999000
  reply2 : (cliRec (daemonPass Ex.w2 Ex.pin).1 1).map (fun c => (c.toBuf, c.cmd.isSome)) =
    some (bstr "102 Command completed successfully\r\npowerman> ", false)
  bufs2 : ((daemonPass Ex.w2 Ex.pin).1.devs.map fun nd => nd.2.fromBuf) = [[], [1, 2, 3], []]
  tmo2 : (daemonPass Ex.w2 Ex.pin).1.tmo = some 4999000
  devs2 : (daemonPass Ex.w2 Ex.pin).1.devs.map (fun nd => (nd.1, nd.2.acts.length, nd.2.fromBuf)) =
    [([65], 0, []), ([66], 1, [1, 2, 3]), ([67], 0, [])]

/-- both runs of the example pass in one evaluation -/
theorem examplePass : ExamplePass := by
  suffices h : _ ∧ _ ∧ _ ∧ _ ∧ _ ∧ _ ∧ _ by
    obtain ⟨a, b, c, d, e, f, g⟩ := h
    exact ⟨a, b, c, d, e, f, g⟩
  rw [ClientPf.bstr_chars]
  decide +kernel

/- non-vacuity: in the example pass all three devices are stepped: `A` completes its action, `B'` stays stalled with its
   garbage, `C` stays idle -/
example : (daemonPass Ex.w2 Ex.pin).1.devs.map (fun nd => (nd.1, nd.2.acts.length, nd.2.fromBuf)) =
    [([65], 0, []), ([66], 1, [1, 2, 3]), ([67], 0, [])] := examplePass.devs2

/-! ## 3. Non-interference of one pass -/

/-- **Device phase.**  Two runs of the device phase, over `pre ++ B :: post` and `pre ++ B' :: post`: the device at
    position `pre.length` is arbitrary in each run (`B`, `B'`: any state, any queue, any buffers, connected or not), the
    other devices are the same.  Let `Q` be a set of nodes such that no plug of `B`/`B'` is wired to a `Q`-node while the
    plugs of all other devices, and the plugs their queued actions carry, are wired to `Q`-nodes only (no node hangs on
    `B` and on another device at once).  Suppose

    * the two pass inputs have the same clock and `connect`/`SO_ERROR` answers and the same descriptor events for every
      device other than `B` (`SameClock`, `SameEvents`); `B`'s own events are arbitrary;
    * initially client `g` (`g ≠ 0`) has the same record in both worlds, its command — if any — targets `Q`-nodes only, the
      stores agree on the entries of `Q`-nodes, and the descriptor/pid counters are equal (`AccCore`, `hn1..3`);
    * client `g` has no action queued on `B` nor on `B'`;
    * the recorded regex answers are `xp ++ xB ++ xq` in the first run and `xp ++ xB' ++ xq` in the second, where `xp` is
      exactly what the devices before `B` consume (`E1`, `E1'`) and `xB`, `xB'` exactly what `B`, `B'` consume (`E2`, `E2'`);
    * `B` and `B'` are handed the same *number* of new descriptors/pids (`hc1..3`: the counters after their step agree);
    * neither run hits a modelled `assert` (`hd`, `hd'`).

    Then after the phase (`AccRel`): client `g`'s record is the same in both runs; every device other than `B` ends in
    the same state (up to its stale store copy, `strip`); the stores still agree on the entries of `Q`-nodes; the counters
    and the remaining oracle answers are the same. -/
theorem C05_noninterference_devices (Q : Bytes → Bool) (p p' : PassIn) (pre post : List (Bytes × Dev)) (B B' : Bytes × Dev)
    (a0 a0' : DevAcc) (g : Nat) (xp xB xB' xq : List Pm.Dev2.RxCall)
    (hp : SameClock p p')
    (hcore : AccCore Q g pre.length a0 a0') (hdv : a0.devs = [])
    (hn1 : a0.w.nsock = a0'.w.nsock) (hn2 : a0.w.npair = a0'.w.npair) (hn3 : a0.w.nfork = a0'.w.nfork)
    (hx : a0.oracle.calls = xp ++ (xB ++ xq)) (hx' : a0'.oracle.calls = xp ++ (xB' ++ xq))
    (hl : ∀ nd ∈ pre ++ post, SameEvents p p' nd ∧ QOn Q nd.2 ∧ ActsOK Q nd.2.acts)
    (hg : g ≠ 0) (hq : ∀ x ∈ B.2.acts, x.clientId ≠ g) (hq' : ∀ x ∈ B'.2.acts, x.clientId ≠ g)
    (hQ : QOff Q B.2) (hQ' : QOff Q B'.2)
    (hd : ((pre ++ B :: post).foldl (devPass p) a0).dead = false)
    (hd' : ((pre ++ B' :: post).foldl (devPass p') a0').dead = false)
    (E1 : ExactOn p a0 pre xp) (E1' : ExactOn p' a0' pre xp)
    (E2 : ExactOn p (pre.foldl (devPass p) a0) [B] xB) (E2' : ExactOn p' (pre.foldl (devPass p') a0') [B'] xB')
    (hc1 : (devPass p (pre.foldl (devPass p) a0) B).w.nsock = (devPass p' (pre.foldl (devPass p') a0') B').w.nsock)
    (hc2 : (devPass p (pre.foldl (devPass p) a0) B).w.npair = (devPass p' (pre.foldl (devPass p') a0') B').w.npair)
    (hc3 : (devPass p (pre.foldl (devPass p) a0) B).w.nfork = (devPass p' (pre.foldl (devPass p') a0') B').w.nfork) :
    AccRel Q g pre.length ((pre ++ B :: post).foldl (devPass p) a0) ((pre ++ B' :: post).foldl (devPass p') a0') :=
    fold_noninterference
    { sameBefore := rfl, sameBehind := rfl, clock := hp, core := hcore, fresh := hdv, nsock := hn1, npair := hn2, nfork := hn3,
      calls := hx, calls' := hx', others := hl, g0 := hg, noG := hq, noG' := hq', off := hQ, off' := hQ', alive := hd,
      alive' := hd', E1, E1', E2, E2', c1 := hc1, c2 := hc2, c3 := hc3 }

/-- what `AccRel` says, spelled out -/
theorem C05_AccRel_spelled (Q : Bytes → Bool) (g j : Nat) (a a' : DevAcc) (h : AccRel Q g j a a') :
    cliRec a.w g = cliRec a'.w g ∧
    (∀ i, i ≠ j → (a.devs[i]?).map strip = (a'.devs[i]?).map strip) ∧ a.devs.length = a'.devs.length ∧
    SAgree Q a.w.store a'.w.store ∧
    a.w.nsock = a'.w.nsock ∧ a.w.npair = a'.w.npair ∧ a.w.nfork = a'.w.nfork ∧ a.oracle = a'.oracle :=
  ⟨h.cli, h.devs, h.len, h.store, h.nsock, h.npair, h.nfork, h.oracle⟩

/- non-vacuity: the two example worlds — `B` healthy and waiting, `B'` with garbage in its buffer that the regex engine
   is asked about (`xB = []`, `xB' ≠ []`) — satisfy every hypothesis (`Ex.instance_ok` applies the theorem to them); client
   1, whose `on` targets `A`'s node, gets the same final reply in both, and `A`, `C` end in the same state. -/
example : AccRel Ex.Q 1 1 (([Ex.A] ++ Ex.B :: [Ex.C]).foldl (devPass Ex.pin) (acc0 Ex.w1))
    (([Ex.A] ++ Ex.B' :: [Ex.C]).foldl (devPass Ex.pin) (acc0 Ex.w2)) := Ex.instance_ok
example : (cliRec (daemonPass Ex.w1 Ex.pin).1 1).map (fun c => (c.toBuf, c.cmd.isSome)) =
      some (bstr "102 Command completed successfully\r\npowerman> ", false) ∧
    (cliRec (daemonPass Ex.w2 Ex.pin).1 1).map (fun c => (c.toBuf, c.cmd.isSome)) =
      some (bstr "102 Command completed successfully\r\npowerman> ", false) ∧
    ((daemonPass Ex.w1 Ex.pin).1.devs.map fun nd => nd.2.fromBuf) = [[], [], []] ∧
    ((daemonPass Ex.w2 Ex.pin).1.devs.map fun nd => nd.2.fromBuf) = [[], [1, 2, 3], []] :=
    ⟨examplePass.reply1, examplePass.reply2, examplePass.bufs1, examplePass.bufs2⟩

/- FULL STATEMENT AIMED AT (not proved):  for worlds `w`, `w'` that agree on everything except device `B`'s own state, and
   pass inputs `p`, `p'` that agree on everything except `B`'s descriptor events and the oracle answers `B` consumes,
   `cliRec (daemonPass w p).1 g = cliRec (daemonPass w' p').1 g` and every device other than `B` is equal — with the
   hypotheses stated on `w`, `w'` themselves.

   PROVED (`_partial`): the same with the hypotheses stated on `w0 = cliPostPoll w p.acc p.envs` and `w0'`, the worlds the
   *client phase* of the pass leaves.  EXTRA HYPOTHESIS: that the client phase keeps the agreement (`hcli`, `hgok`, `hst`,
   `hn1..3`, `hdevs`, `hdevs'`, `hx`, `hx'` below are about `w0`, `w0'`).  Why it cannot be dropped outright: `cli_post_poll` reads the
   devices in two places — `install` (`dev_check_actions`/`dev_enqueue_actions`: of `B` it reads only plugs, scripts and,
   for the retry-counter reset on `B` itself, the connect state) and the `device` query (`_client_query_device_reply`
   prints `B`'s connect state and counters: a genuine, intended flow from `B` to a client that asks about `B`).  The
   hypothesis excludes nothing for a pass in which no client line is processed; §5 (`C05_noninterference`) derives it for a
   general client phase from "no request line of a tracked client observes `B`". -/
theorem C05_noninterference_pass_partial (Q : Bytes → Bool) (w w' : W) (p p' : PassIn) (w0 w0' : W)
    (pre post : List (Bytes × Dev)) (B B' : Bytes × Dev) (g : Nat) (xp xB xB' xq : List Pm.Dev2.RxCall)
    (hw0 : cliPostPoll w p.acc p.envs = w0) (hw0' : cliPostPoll w' p'.acc p'.envs = w0')
    (hex : w0.exited = false) (hex' : w0'.exited = false)
    (hdevs : w0.devs = pre ++ B :: post) (hdevs' : w0'.devs = pre ++ B' :: post)
    (hp : SameClock p p')
    (hcli : cliRec w0 g = cliRec w0' g) (hgok : GOk Q w0 g) (hst : SAgree Q w0.store w0'.store)
    (hn1 : w0.nsock = w0'.nsock) (hn2 : w0.npair = w0'.npair) (hn3 : w0.nfork = w0'.nfork)
    (hx : w0.pendingX = xp ++ (xB ++ xq)) (hx' : w0'.pendingX = xp ++ (xB' ++ xq))
    (hl : ∀ nd ∈ pre ++ post, SameEvents p p' nd ∧ QOn Q nd.2 ∧ ActsOK Q nd.2.acts)
    (hg : g ≠ 0) (hq : ∀ x ∈ B.2.acts, x.clientId ≠ g) (hq' : ∀ x ∈ B'.2.acts, x.clientId ≠ g)
    (hQ : QOff Q B.2) (hQ' : QOff Q B'.2)
    (hd : ((pre ++ B :: post).foldl (devPass p) (acc0 w0)).dead = false)
    (hd' : ((pre ++ B' :: post).foldl (devPass p') (acc0 w0')).dead = false)
    (E1 : ExactOn p (acc0 w0) pre xp) (E1' : ExactOn p' (acc0 w0') pre xp)
    (E2 : ExactOn p (pre.foldl (devPass p) (acc0 w0)) [B] xB) (E2' : ExactOn p' (pre.foldl (devPass p') (acc0 w0')) [B'] xB')
    (hc1 : (devPass p (pre.foldl (devPass p) (acc0 w0)) B).w.nsock = (devPass p' (pre.foldl (devPass p') (acc0 w0')) B').w.nsock)
    (hc2 : (devPass p (pre.foldl (devPass p) (acc0 w0)) B).w.npair = (devPass p' (pre.foldl (devPass p') (acc0 w0')) B').w.npair)
    (hc3 : (devPass p (pre.foldl (devPass p) (acc0 w0)) B).w.nfork = (devPass p' (pre.foldl (devPass p') (acc0 w0')) B').w.nfork) :
    cliRec (daemonPass w p).1 g = cliRec (daemonPass w' p').1 g ∧
    (∀ i, i ≠ pre.length → ((daemonPass w p).1.devs[i]?).map strip = ((daemonPass w' p').1.devs[i]?).map strip) ∧
    SAgree Q (daemonPass w p).1.store (daemonPass w' p').1.store :=
    pass_noninterference hw0 hw0' hex hex' hdevs hdevs'
    { sameBefore := rfl, sameBehind := rfl, clock := hp, core := .acc0 hcli hgok hst, fresh := rfl, nsock := hn1, npair := hn2,
      nfork := hn3, calls := hx, calls' := hx', others := hl, g0 := hg, noG := hq, noG' := hq', off := hQ, off' := hQ',
      alive := hd, alive' := hd', E1, E1', E2, E2', c1 := hc1, c2 := hc2, c3 := hc3 }

/- non-vacuity: in the example pass no client has input, the client phase leaves the worlds as they are, and the
   hypotheses are those of `Ex.instance_ok` -/
example : cliPostPoll Ex.w1 Ex.pin.acc Ex.pin.envs = { Ex.w1 with sys := [], caps := [] } ∧
    (cliPostPoll Ex.w1 Ex.pin.acc Ex.pin.envs).devs = [Ex.A] ++ Ex.B :: [Ex.C] := ⟨rfl, rfl⟩

/-- **One whole pass, requests in flight.**  `w'` is `w` with device `B` replaced by an arbitrary `B'` and the oracle answers
    `B` consumes by those `B'` consumes; the pass inputs `p`, `p'` agree on the clock and on the events of every other
    device, accept no connection, and bring nothing for any client (`QuietCli`: no event on its descriptor, no complete
    line buffered, not about to be destroyed) — the situation of requests already in flight while `B` misbehaves.  With
    `Q`, `g`, the oracle segmentation, the counter and no-`assert` hypotheses as in `C05_noninterference_devices` (stated on `w`, `w'`, `p`, `p'` themselves), after `daemonPass`: client `g` has the same record in both worlds — the
    same bytes to send, the same command state —, every device other than `B` is in the same state, and the stores agree
    on the entries of all nodes not wired to `B`.  (`_partial` with respect to the full statement above only in the
    hypothesis that the client phase is quiet.) -/
theorem C05_noninterference_inflight_partial (Q : Bytes → Bool) (w w' : W) (p p' : PassIn)
    (pre post : List (Bytes × Dev)) (B B' : Bytes × Dev) (g : Nat) (xp xB xB' xq : List Pm.Dev2.RxCall)
    (hdevs : w.devs = pre ++ B :: post) (hx : w.pendingX = xp ++ (xB ++ xq))
    (hw' : w' = { w with devs := pre ++ B' :: post, pendingX := xp ++ (xB' ++ xq) })
    (hexit : w.exited = false)
    (hacc : p.acc = 0) (hacc' : p'.acc = 0)
    (hquiet : ∀ c ∈ w.clients, QuietCli p.envs c ∧ QuietCli p'.envs c) (hu : UniqueIds w.clients)
    (hp : SameClock p p') (hgok : GOk Q w g)
    (hl : ∀ nd ∈ pre ++ post, SameEvents p p' nd ∧ QOn Q nd.2 ∧ ActsOK Q nd.2.acts)
    (hg : g ≠ 0) (hq : ∀ x ∈ B.2.acts, x.clientId ≠ g) (hq' : ∀ x ∈ B'.2.acts, x.clientId ≠ g)
    (hQ : QOff Q B.2) (hQ' : QOff Q B'.2)
    (hd : ((pre ++ B :: post).foldl (devPass p) (acc0 (cliPostPoll w p.acc p.envs))).dead = false)
    (hd' : ((pre ++ B' :: post).foldl (devPass p') (acc0 (cliPostPoll w' p'.acc p'.envs))).dead = false)
    (E1 : ExactOn p (acc0 (cliPostPoll w p.acc p.envs)) pre xp) (E1' : ExactOn p' (acc0 (cliPostPoll w' p'.acc p'.envs)) pre xp)
    (E2 : ExactOn p (pre.foldl (devPass p) (acc0 (cliPostPoll w p.acc p.envs))) [B] xB)
    (E2' : ExactOn p' (pre.foldl (devPass p') (acc0 (cliPostPoll w' p'.acc p'.envs))) [B'] xB')
    (hc1 : (devPass p (pre.foldl (devPass p) (acc0 (cliPostPoll w p.acc p.envs))) B).w.nsock
         = (devPass p' (pre.foldl (devPass p') (acc0 (cliPostPoll w' p'.acc p'.envs))) B').w.nsock)
    (hc2 : (devPass p (pre.foldl (devPass p) (acc0 (cliPostPoll w p.acc p.envs))) B).w.npair
         = (devPass p' (pre.foldl (devPass p') (acc0 (cliPostPoll w' p'.acc p'.envs))) B').w.npair)
    (hc3 : (devPass p (pre.foldl (devPass p) (acc0 (cliPostPoll w p.acc p.envs))) B).w.nfork
         = (devPass p' (pre.foldl (devPass p') (acc0 (cliPostPoll w' p'.acc p'.envs))) B').w.nfork) :
    cliRec (daemonPass w p).1 g = cliRec (daemonPass w' p').1 g ∧
    (∀ i, i ≠ pre.length → ((daemonPass w p).1.devs[i]?).map strip = ((daemonPass w' p').1.devs[i]?).map strip) ∧
    SAgree Q (daemonPass w p).1.store (daemonPass w' p').1.store :=
  pass_noninterference_inflight Q w w' p p' pre post B B' g xp xB xB' xq hdevs hx hw' hexit hacc hacc' hquiet hu hp hgok
    hl hg hq hq' hQ hQ' hd hd' E1 E1' E2 E2' hc1 hc2 hc3

/- non-vacuity: the example worlds `Ex.w1` (healthy `B`) and `Ex.w2` (`B'` emitting garbage, one more oracle answer)
   satisfy every hypothesis (`Ex.inflight_ok` applies the theorem to them) -/
example : cliRec (daemonPass Ex.w1 Ex.pin).1 1 = cliRec (daemonPass Ex.w2 Ex.pin).1 1 ∧
    (∀ i, i ≠ 1 → ((daemonPass Ex.w1 Ex.pin).1.devs[i]?).map strip = ((daemonPass Ex.w2 Ex.pin).1.devs[i]?).map strip) ∧
    SAgree Ex.Q (daemonPass Ex.w1 Ex.pin).1.store (daemonPass Ex.w2 Ex.pin).1.store := Ex.inflight_ok

/-- **Any number of passes, requests in flight.**  `PassRel Q g j w w'` is the relation between the two worlds between
    passes: client `g` has the same record and targets `Q`-nodes only, the stores agree on the entries of `Q`-nodes, the
    descriptor/pid counters are equal, the device lists agree except at position `j` (and except for the devices' stale
    store copies), and neither process has exited.  `PassHyps` collects, for one pass, the hypotheses of
    `C05_noninterference_inflight_partial` (quiet client phase, same clock, same events for the other devices, `Q`
    separates the device at position `j` from the others, client `g` has nothing queued on it, oracle segmentation,
    same number of new descriptors, no `assert`) — with the device at position `j` *arbitrary in each world*.
    One such pass re-establishes the relation. -/
theorem C05_relation_kept_by_pass (Q : Bytes → Bool) (g j : Nat) (w w' : W) (p p' : PassIn) (xp xB xB' xq : List Pm.Dev2.RxCall)
    (hr : PassRel Q g j w w') (h : PassHyps Q g j w w' p p' xp xB xB' xq) :
    PassRel Q g j (daemonPass w p).1 (daemonPass w' p').1 :=
  pass_rel_step Q g j w w' p p' xp xB xB' xq hr h

/-- Hence over any number of passes (`passes w ps`: each pass given with the regex answers recorded for it; `GoodRun`: every
    pass of the two runs satisfies `PassHyps`): as long as no client types anything, the record of a client with nothing
    queued on the sick device evolves identically pass by pass — the final reply is produced in the same pass, with the
    same text — and every healthy device goes through the same states, however device `j` behaves in the two runs.
    This is the "same results … within the same time" of the property for requests in flight.  (`_partial`: client
    input during the run is excluded, and so are behaviours of the sick device that consume a different number of
    descriptors than the healthy one, e.g. reconnecting.) -/
theorem C05_noninterference_passes_partial (Q : Bytes → Bool) (g j : Nat) (w w' : W)
    (l : List ((PassIn × List Pm.Dev2.RxCall) × (PassIn × List Pm.Dev2.RxCall)))
    (hr : PassRel Q g j w w') (h : GoodRun Q g j w w' l) :
    PassRel Q g j (passes w (l.map (·.1))) (passes w' (l.map (·.2))) :=
  passes_rel Q g j w w' l hr h

/- non-vacuity: two passes (times 2000 and 3000) of the example worlds.  In the first `A` completes client 1's command; in
   both the healthy `B` waits while the sick `B'` asks the regex engine about its garbage again.  `Ex.good2` proves
   `GoodRun` for them, `Ex.rel0` the initial relation. -/
example : PassRel Ex.Q 1 1 (passes Ex.w1 (Ex.runs.map (·.1))) (passes Ex.w2 (Ex.runs.map (·.2))) := Ex.twoPasses_ok

/-- **"…within the same time", one pass.**  Under the hypotheses of `C05_noninterference_devices`, every healthy device
    fires the same callbacks and registers the same wake-up time in both runs (`stepOut … = (oracle remainder, callbacks,
    timeout)`): devices before `B` (first part; their oracle remainders differ by `B`'s answers, hence `.2`), devices after
    `B` (second part, everything equal). -/
theorem C05_noninterference_steps (Q : Bytes → Bool) (p p' : PassIn) (pre post : List (Bytes × Dev)) (B B' : Bytes × Dev)
    (a0 a0' : DevAcc) (g : Nat) (xp xB xB' xq : List Pm.Dev2.RxCall)
    (hp : SameClock p p')
    (hcore : AccCore Q g pre.length a0 a0') (hdv : a0.devs = [])
    (hn1 : a0.w.nsock = a0'.w.nsock) (hn2 : a0.w.npair = a0'.w.npair) (hn3 : a0.w.nfork = a0'.w.nfork)
    (hx : a0.oracle.calls = xp ++ (xB ++ xq)) (hx' : a0'.oracle.calls = xp ++ (xB' ++ xq))
    (hl : ∀ nd ∈ pre ++ post, SameEvents p p' nd ∧ QOn Q nd.2 ∧ ActsOK Q nd.2.acts)
    (hg : g ≠ 0) (hq : ∀ x ∈ B.2.acts, x.clientId ≠ g) (hq' : ∀ x ∈ B'.2.acts, x.clientId ≠ g)
    (hQ : QOff Q B.2) (hQ' : QOff Q B'.2)
    (hd : ((pre ++ B :: post).foldl (devPass p) a0).dead = false)
    (hd' : ((pre ++ B' :: post).foldl (devPass p') a0').dead = false)
    (E1 : ExactOn p a0 pre xp) (E1' : ExactOn p' a0' pre xp)
    (E2 : ExactOn p (pre.foldl (devPass p) a0) [B] xB) (E2' : ExactOn p' (pre.foldl (devPass p') a0') [B'] xB')
    (hc1 : (devPass p (pre.foldl (devPass p) a0) B).w.nsock = (devPass p' (pre.foldl (devPass p') a0') B').w.nsock)
    (hc2 : (devPass p (pre.foldl (devPass p) a0) B).w.npair = (devPass p' (pre.foldl (devPass p') a0') B').w.npair)
    (hc3 : (devPass p (pre.foldl (devPass p) a0) B).w.nfork = (devPass p' (pre.foldl (devPass p') a0') B').w.nfork) :
    (∀ i nd, pre[i]? = some nd → (stepOut p (accAt p a0 pre i) nd).2 = (stepOut p' (accAt p' a0' pre i) nd).2) ∧
    (∀ i nd, post[i]? = some nd →
      stepOut p (accAt p (devPass p (pre.foldl (devPass p) a0) B) post i) nd =
      stepOut p' (accAt p' (devPass p' (pre.foldl (devPass p') a0') B') post i) nd) :=
      have hyps : FoldHyps Q g p p' pre pre post post B B' a0 a0' xp xB xB' xq :=
    { sameBefore := rfl, sameBehind := rfl, clock := hp, core := hcore, fresh := hdv, nsock := hn1, npair := hn2, nfork := hn3,
      calls := hx, calls' := hx', others := hl, g0 := hg, noG := hq, noG' := hq', off := hQ, off' := hQ', alive := hd,
      alive' := hd', E1, E1', E2, E2', c1 := hc1, c2 := hc2, c3 := hc3 }
  have h := fold_noninterference_steps hyps
  ⟨fun i nd hi => h.1 i nd nd hi hi, fun i nd hi => h.2 i nd nd hi hi⟩

/-- **No device can postpone another's wake-up.**  The timeout the pass hands to `poll` is the minimum over the devices:
    whatever wake-up time `t` a device registers in its turn (deadline of its head action, scripted delay, reconnect
    back-off, next ping), the pass ends with a timeout that is set and not later than `t` — whatever the other devices,
    sick or healthy, did.  (A sick device can only make the daemon wake *earlier*.) -/
theorem C05_wakeup_not_postponed (p : PassIn) (l : List (Bytes × Dev)) (a : DevAcc) (i : Nat) (nd : Bytes × Dev) (t : Nat)
    (hi : l[i]? = some nd) (hd : (accAt p a l i).dead = false) (ht : (stepOut p (accAt p a l i) nd).2.2 = some t) :
    ∃ t', (l.foldl (devPass p) a).tmo = some t' ∧ t' ≤ t :=
  foldl_tmo_le p l a i nd t hi hd ht

/- non-vacuity: in the example pass `A` (whose action completes) registers nothing, `B` registers its deadline
   1000 + 5000000 − 2000, and that is the timeout of the pass in both worlds -/
example : (daemonPass Ex.w1 Ex.pin).1.tmo = some 4999000 ∧ (daemonPass Ex.w2 Ex.pin).1.tmo = some 4999000 :=
    ⟨examplePass.tmo1, examplePass.tmo2⟩

/-- the two device-level facts the theorem rests on.  (a) *Store*: run with a store `s'` that agrees with the device's
    own on the entries of `Q`-nodes (`Q` containing the nodes of its plugs and of the plugs its actions carry), the
    device's share of `dev_post_poll` yields the same device (apart from the store copy), the same oracle remainder, the
    same callbacks and the same registered timeout, and the two resulting stores agree on `Q` again. -/
theorem C05_postPoll_store_independent (Q : Bytes → Bool) (d : Dev) (env : Pm.Dev2.Env) (o : Oracle) (s' : Pm.Dev2.Store)
    (hS : SAgree Q d.args s') (hQ : QOn Q d) (hacts : ActsOK Q d.acts) :
    ∃ t', Pm.Dev2.postPoll (Pm.Dev2.withArgs d s') env o =
        ((Pm.Dev2.postPoll d env o).1.withArgs t', (Pm.Dev2.postPoll d env o).2) ∧
      SAgree Q (Pm.Dev2.postPoll d env o).1.dev.args t' :=
  Pm.Dev2.postPoll_rel Q d env o s' hS hQ hacts

/-- (b) *Oracle*: answers are consumed from the front only.  If, run on the answers `o`, the device is never out of step
    with the oracle, then with any further answers `r` behind them it does exactly the same and leaves `r` behind its own
    remainder — the answers other devices will consume later do not influence it. -/
theorem C05_postPoll_oracle_prefix (d : Dev) (env : Pm.Dev2.Env) (o : Oracle) (r : List Pm.Dev2.RxCall)
    (h : NoMis (Pm.Dev2.postPoll d env o).2.2.1) :
    Pm.Dev2.postPoll d env (Pm.Dev2.ext o r) = Pm.Dev2.PA.ext (Pm.Dev2.postPoll d env o) r :=
  Pm.Dev2.postPoll_ext d env o r h

/- non-vacuity of (a) and (b) on device `A` of the example world: a store in which `B`'s entry already says "on" agrees with
   the original on the nodes that are not `B`'s; `A` is in step with its one recorded answer -/
example : SAgree Ex.Q ({ Ex.devA with args := Ex.store0 } : Dev).args
      [(0, [{ node := Ex.nodeA, val := none, state := .unknown, result := .none }]),
       (1, [{ node := Ex.nodeB, val := some [111, 110], state := .on, result := .success }])] ∧
    QOn Ex.Q ({ Ex.devA with args := Ex.store0 } : Dev) ∧ ActsOK Ex.Q ({ Ex.devA with args := Ex.store0 } : Dev).acts :=
  ⟨fun al => by
      match al with
      | 0 => rfl
      | 1 => rfl
      | _ + 2 => rfl,
   (Ex.others Ex.A (by simp)).2.1, (Ex.others Ex.A (by simp)).2.2⟩
example : NoMis (Pm.Dev2.postPoll { Ex.devA with args := Ex.store0 } (devEnv Ex.pin Ex.w1 Ex.A) ⟨Ex.xA⟩).2.2.1 := by
  unfold NoMis; decide +kernel

/-! ## 4. Stutter: a pass that brings nothing for a stalled device leaves it alone -/

/-- Device `nd` is connected, its head action is stamped and inside its deadline (`now < time_stamp + timeout`), waits in an
    `expect` with an empty input buffer, no scripted delay is pending and no ping is due (`Stalled`); the pass brings no
    event for its descriptor (`NoEvent`).  Then its share of the pass is a no-op: the world (clients, store, counters),
    the messages, the system calls, the oracle are exactly as before; the entry it leaves is itself; no callback is fired.
    The only effect is that a wake-up time is registered (`tmo`), so the daemon sleeps until the deadline or the next ping.
    (Other waiting states — stalled in `send` with unsent bytes, in a `delay`, in reconnect back-off — are not covered.) -/
theorem C05_stutter (p : PassIn) (a : DevAcc) (nd : Bytes × Dev) (hd : a.dead = false)
    (h : Stalled nd.2 p.now) (hev : NoEvent p nd.2) :
    ∃ t, devPass p a nd =
      { a with devs := a.devs ++ [(nd.1, { nd.2 with args := a.w.store })], tmo := minOpt a.tmo (some t) } :=
  devPass_stutter p a nd hd h hev

/- non-vacuity: the healthy `B` of the example world is in exactly this state at time 2000 -/
example : Stalled Ex.devB Ex.pin.now ∧ NoEvent Ex.pin Ex.devB :=
  ⟨⟨rfl, ⟨Ex.onAct Ex.plugB 2 1, [], 1, 1000, rfl, rfl, by decide, rfl⟩, rfl, ⟨rfl, rfl, rfl⟩, rfl, Or.inl rfl⟩,
   fun _ _ e he => by simp [Ex.pin] at he⟩

/-! ## 5. Non-interference with a general client phase

Helper modules: `Pm/TwoRun.lean` (every stage of one client's share of `cli_post_poll` in two related worlds), `Pm/TwoRunC05.lean`
(`NotObs`, the relation `MRel`, one pass, any number of passes), `Pm/TwoRunEx.lean` (Boolean checkers, example).

Vocabulary:

* `PB` — the plugs of the sick device `B` (position `j` of the device list); `F : Nat → Bool` — the descriptors of the clients that
  are **not** tracked.  A *tracked* client (descriptor outside `F`) has the same record in both runs; an untracked one may
  have actions in flight on `B` and differ between the runs (different replies, different command state);
* `NotObs PB als line` — the request line does not observe `B` (spelled out in `C05_NotObs_spelled`); `Touch PB bn` — the
  target list `bn` names a node of `B`; `Hit PB t` — the selection of a `device` query covers `B`;
* `Inert envs c` — nothing arrives from client `c` in this pass (descriptor not reported readable or hung up, no complete line
  buffered); it may be written to and it may be destroyed;
* `MRel Q F j PB w w'` — the relation between the two worlds between passes (`C05_MRel_spelled`);
* `CliHyps`, `DevHyps` — what is assumed of the client phase / the device phase of one pass (`C05_hyps_spelled`);
  `servedIn w p` — the clients served in the pass (the table, and the client accepted in this pass);
  `turnLines c e` — the complete request lines `_handle_input` finds for `c` in this pass. -/
open Pm.Daemon.TwoRun in
/-- **Which request lines observe `B`.**  Following the cascade of `_parse_input` on the stripped request string `str`: an
    over-long line, `help`, `nodes`, `telemetry`, `exprange`, `quit` and an unknown command do not.  A power command or query
    with a target list does not iff none of its alias-expanded targets is a node of a plug of `B`.  A `device` query with an
    argument does not iff the argument selects no node of `B`.  A bare `status`/`temp`/`beacon` (all configured nodes) and a
    bare `device` (all devices) are counted as observing `B` (the first clause can hold only if `B` has no node at all).

    (`telemetry` does not observe `B` by itself: `305` lines echo the traffic of the device an action *of that client* runs
    on, and a tracked client has no action on `B`.) -/
theorem C05_NotObs_spelled (PB : List Pm.Dev2.Plug) (als : List (Name × List Name)) (line : Bytes) :
    NotObs PB als line ↔
      (¬ ClientPf.TooLong line → casePrefix kwHelp (ClientPf.reqStr line) = false → casePrefix kwNodes (ClientPf.reqStr line) = false →
       casePrefix kwTelemetry (ClientPf.reqStr line) = false → casePrefix kwExprange (ClientPf.reqStr line) = false →
       casePrefix kwQuit (ClientPf.reqStr line) = false →
       match ClientPf.plMatch (ClientPf.reqStr line) with
       | none =>
         if casePrefix kwStatus (ClientPf.reqStr line) || casePrefix kwTemp (ClientPf.reqStr line) || casePrefix kwBeacon (ClientPf.reqStr line)
         then ∀ names : List Name, Touch PB (names.map ofChars) = false
         else ∀ a, ClientPf.plDevArg (ClientPf.reqStr line) = some a → Hit PB (ClientPf.devTarg a) = false
       | some (_, arg) => ∀ hl, createR (toChars arg) = .ok hl → Touch PB ((expAliases als (expand hl)).map ofChars) = false) :=
  Iff.rfl

open Pm.Daemon.TwoRun in
/-- **One whole pass, clients typing.**  Two worlds `w`, `w'` related by `MRel` (they differ in device `B` at position `j`, in
    the arglist entries of `B`'s nodes, and in the records of the untracked clients) and two pass inputs `p`, `p'`.

    Client phase (`CliHyps`): the same `accept` verdict; the same events on every descriptor outside `F`; a client accepted
    in this pass is tracked; **every request line a tracked client gets processed in this pass does not observe `B`**
    (`NotObs`) — otherwise the lines are arbitrary: commands and queries on other devices, `help`, `nodes`, `telemetry`,
    `exprange`, `quit`, junk, several per pass —; the untracked clients are `Inert` in this pass; both worlds satisfy the id
    discipline (reachable worlds do, `C11_ids`).

    Device phase (`DevHyps`, stated on the worlds the client phase leaves, as in `C05_noninterference_pass_partial` — but
    *without* the agreement hypotheses `hcli hgok hst hn1..3 hdevs`, which are proved): same clock; the other devices
    have the same events, sit on `Q`-nodes and carry `Q`-plugs; `B` sits on no
    `Q`-node; regex answers segmented `xp ++ xB ++ xq` / `xp ++ xB' ++ xq`; no modelled `assert`; the client phase did not end
    the process (`hostlist` sort assertion, finding F19).  `hQB`: every node outside `Q` is a node of `B`.

    THE THREE GLOBAL COUPLINGS, as they appear here.
    1. *Descriptor counters* (`DevHyps.c1 c2 c3`): `nsock`/`npair`/`nfork` are global, so when `B` reconnects it shifts the
       descriptor and pid *numbers* later handed to other devices.  Hypothesis: after `B`'s turn the three counters agree
       in the two runs (`B` consumed the same number of descriptors).  No comparison modulo a renaming of descriptor numbers is made: this hypothesis excludes runs in which the sick `B` reconnects more (or less) often than the healthy one
       within a pass.
    2. *Nodes wired to two devices* share an `Arg` entry: `DevHyps.others` (`QOn`: the other devices sit on `Q`-nodes only),
       `DevHyps.hB` (`QOff`: `B` sits on no `Q`-node) and `hQB` make `Q` separate `B`'s nodes from everybody else's; stores
       are compared on `Q`-entries only (`SAgree Q`).
    3. *Arglist id 0* (the internal login/ping actions carry the id of the first command): no hypothesis is needed here
       because stores are compared node-wise, not arglist-wise (contrast item 3 of `C05_frame_device`).

    Then the relation holds again after the pass.  By `C05_MRel_spelled`: every tracked client has the same record (output
    buffer, command in progress, flags) and was written the same bytes, every device other than `B` is in the same state,
    the stores agree on all nodes not wired to `B`. -/
theorem C05_noninterference (Q : Bytes → Bool) (F : Nat → Bool) (j : Nat) (PB : List Pm.Dev2.Plug) (w w' : W) (p p' : PassIn)
    (xp xB xB' xq : List Pm.Dev2.RxCall) (hQB : ∀ nb, Q nb = false → ∃ pl ∈ PB, pl.node = some nb)
    (hr : MRel Q F j PB w w') (hc : CliHyps F PB w w' p p')
    (hd : DevHyps Q F j (cliPostPoll w p.acc p.envs) (cliPostPoll w' p'.acc p'.envs) p p' xp xB xB' xq) :
    MRel Q F j PB (daemonPass w p).1 (daemonPass w' p').1 :=
  pass_gen Q F j PB w w' p p' xp xB xB' xq hQB hr hc hd

open Pm.Daemon.TwoRun in
/-- what `MRel` says, spelled out.  In reachable worlds (`IdsFresh`): a client of `w` on a descriptor outside `F` has the very
    same record in `w'`; the bytes written to its descriptor in the last pass are the same; the device lists have the same
    length and agree — stale store copies apart — everywhere but at position `j`; the stores agree on `Q`-nodes; the
    commands of the tracked clients target `Q`-nodes only, and no tracked client has an action queued on `B`. -/
theorem C05_MRel_spelled (Q : Bytes → Bool) (F : Nat → Bool) (j : Nat) (PB : List Pm.Dev2.Plug) (w w' : W)
    (h : MRel Q F j PB w w') (hi' : Isolation.IdsFresh w') :
    (∀ g c, cliRec w g = some c → F c.fd = false → cliRec w' g = some c) ∧
    (∀ fd, F fd = false → ClientPf.written w'.sys fd = ClientPf.written w.sys fd) ∧
    (∀ i, i ≠ j → (w.devs[i]?).map strip = (w'.devs[i]?).map strip) ∧ w.devs.length = w'.devs.length ∧
    SAgree Q w.store w'.store ∧
    (w'.cfg = w.cfg ∧ w'.alNext = w.alNext ∧ w'.nextId = w.nextId ∧ w'.nsock = w.nsock ∧ w'.npair = w.npair ∧ w'.nfork = w.nfork ∧
      w.exited = false ∧ w'.exited = false) ∧
    (∀ B B', w.devs[j]? = some B → w'.devs[j]? = some B' → B.1 = B'.1 ∧ B.2.plugs = PB ∧ B'.2.plugs = PB) ∧
    w'.clients.filter (nonF F) = w.clients.filter (nonF F) ∧
    (∀ c ∈ w.clients, F c.fd = false → ∀ k, c.cmd = some k → NamesQ Q k.names) ∧
    (∀ B, w.devs[j]? = some B → ∀ x ∈ B.2.acts, ∀ c ∈ w.clients, F c.fd = false → x.clientId ≠ c.id) ∧
    (∀ B', w'.devs[j]? = some B' → ∀ x ∈ B'.2.acts, ∀ c ∈ w'.clients, F c.fd = false → x.clientId ≠ c.id) :=
    by
    obtain ⟨sameRec, written, devs, len, store⟩ := h.tracked hi'
    exact ⟨sameRec, written, devs, len, store,
      ⟨h.cfg, h.alNext, h.nextId, h.nsock, h.npair, h.nfork, h.ex, h.ex'⟩, h.devs.2, h.tab, h.gok, h.nob, h.nob'⟩

open Pm.Daemon.TwoRun in
/-- what the hypotheses about the client phase of one pass say, spelled out -/
theorem C05_hyps_spelled (F : Nat → Bool) (PB : List Pm.Dev2.Plug) (w w' : W) (p p' : PassIn) (h : CliHyps F PB w w' p p') :
    p'.acc = p.acc ∧ (∀ fd, F fd = false → p'.envs.find? (·.fd == fd) = p.envs.find? (·.fd == fd)) ∧
    F (1000 + w.nacc) = false ∧
    (∀ c ∈ servedIn w p, F c.fd = false → ∀ l ∈ turnLines c (p.envs.find? (·.fd == c.fd)), NotObs PB w.cfg.aliases l) ∧
    (∀ c ∈ w.clients, F c.fd = true → Inert p.envs c) ∧ (∀ c ∈ w'.clients, F c.fd = true → Inert p'.envs c) ∧
    Isolation.IdsFresh w ∧ Isolation.IdsFresh w' :=
  ⟨h.acc, h.evs, h.newfd, h.lines, h.inert, h.inert', h.ids, h.ids'⟩

open Pm.Daemon.TwoRun in
/-- **Any number of passes, clients typing.**  `GenRun`: every pass of the two runs (each pass given with the regex answers
    recorded for it) satisfies `CliHyps` and `DevHyps`.  Then `MRel` holds after every prefix of the runs: pass by pass, every
    tracked client has the same record and is written the same bytes, every healthy device goes through the same states —
    however device `j` behaves in the two runs and whatever the tracked clients type, as long as it does not observe `B`.

    WHAT IS STILL ASSUMED (and would make a stronger theorem if derived): the descriptor counters after `B`'s turn agree
    (coupling 1 above: excludes a different number of reconnects of `B` in the two runs within a pass); the untracked clients
    type nothing (a client with a request in flight on the sick device that goes on typing *does* influence the others: its
    next line is answered `208` in one run and executed in the other — a genuine flow, not a defect:
    `C05_observer_typing_counterexample`); `ActsOK` (the plugs the queued actions of the other devices carry are `Q`-plugs) is
    stated on the world each client phase leaves instead of being derived as an invariant.  ("No tracked client has an action
    queued on `B`" *is* an invariant: `MRel.nob`, kept because the tracked clients' lines do not observe `B`.)  Equality of *real* completion times is outside the model (time is an input, equal in both runs by
    `SameClock`); the model-level timing fact is `C05_reply_same_pass`. -/
theorem C05_noninterference_passes (Q : Bytes → Bool) (F : Nat → Bool) (j : Nat) (PB : List Pm.Dev2.Plug)
    (hQB : ∀ nb, Q nb = false → ∃ pl ∈ PB, pl.node = some nb) (w w' : W)
    (l : List ((PassIn × List Pm.Dev2.RxCall) × (PassIn × List Pm.Dev2.RxCall)))
    (hr : MRel Q F j PB w w') (h : GenRun Q F j PB w w' l) (n : Nat) :
    MRel Q F j PB (passes w ((l.take n).map (·.1))) (passes w' ((l.take n).map (·.2))) :=
  passes_gen Q F j PB hQB w w' (l.take n) hr (h.take n)

open Pm.Daemon.TwoRun in
/-- **"… within the same time", model level.**  `replyPassX w ps g` is the index of the first pass in which client `g`'s command in
    progress is completed (final reply queued, `cmd` cleared).  For a client that is tracked at every prefix of the run —
    it has a record on a descriptor outside `F`, or no record at all — it is the same in both runs. -/
theorem C05_reply_same_pass (Q : Bytes → Bool) (F : Nat → Bool) (j : Nat) (PB : List Pm.Dev2.Plug)
    (hQB : ∀ nb, Q nb = false → ∃ pl ∈ PB, pl.node = some nb) (w w' : W)
    (l : List ((PassIn × List Pm.Dev2.RxCall) × (PassIn × List Pm.Dev2.RxCall)))
    (hr : MRel Q F j PB w w') (h : GenRun Q F j PB w w' l) (hi' : Isolation.IdsFresh w') (g : Nat)
    (hg : ∀ n, (∃ c, cliRec (passes w ((l.take n).map (·.1))) g = some c ∧ F c.fd = false) ∨
      (cliRec (passes w ((l.take n).map (·.1))) g = none ∧ cliRec (passes w' ((l.take n).map (·.2))) g = none)) :
    replyPassX w' (l.map (·.2)) g = replyPassX w (l.map (·.1)) g := by
  apply replyPassX_congr w w' (l.map (·.1)) (l.map (·.2)) g (by simp)
  intro n
  rw [← List.map_take, ← List.map_take]
  exact (C05_noninterference_passes Q F j PB hQB w w' l hr h n).same_rec (passes_ids w' _ hi') g (hg n)

/- non-vacuity (`Pm/TwoRunEx.lean`).  Worlds `wa` (`B` healthy, waiting) and `wb` (`B'` with garbage in its buffer), the three
   nodes configured; client 1 (descriptor 1000, `on a1` in flight on `A`) is tracked, client 2 (descriptor 1001, `on b1` in flight
   on `B`) is not.  Pass 1: client 1 sends `help` (answered 208), `A` completes its command.  Pass 2: a third client connects;
   client 1 is written to and sends `on a1` — a new action is queued on `A` — and `device a1` (208).  `rel0`, `goodG` prove the
   hypotheses; after both passes client 1 holds the same record in both runs and `A`'s queue holds its new action in both. -/
example : Pm.Daemon.TwoRun.MRel Ex.Q Pm.Daemon.TwoRun.Ex.FB 1 Pm.Daemon.TwoRun.Ex.PBx Pm.Daemon.TwoRun.Ex.wa Pm.Daemon.TwoRun.Ex.wb ∧
    Pm.Daemon.TwoRun.GenRun Ex.Q Pm.Daemon.TwoRun.Ex.FB 1 Pm.Daemon.TwoRun.Ex.PBx Pm.Daemon.TwoRun.Ex.wa Pm.Daemon.TwoRun.Ex.wb Pm.Daemon.TwoRun.Ex.runsG ∧
    (∀ nb, Ex.Q nb = false → ∃ pl ∈ Pm.Daemon.TwoRun.Ex.PBx, pl.node = some nb) :=
  ⟨Pm.Daemon.TwoRun.Ex.rel0, Pm.Daemon.TwoRun.Ex.goodG, Pm.Daemon.TwoRun.Ex.hQB⟩
example :
    (cliRec (passes Pm.Daemon.TwoRun.Ex.wa (Pm.Daemon.TwoRun.Ex.runsG.map (·.1))) 1).map (fun c => (c.toBuf, c.cmd.map (·.pending))) =
      some (bstr "208 Command in progress\r\n", some 1) ∧
    (cliRec (passes Pm.Daemon.TwoRun.Ex.wb (Pm.Daemon.TwoRun.Ex.runsG.map (·.2))) 1).map (fun c => (c.toBuf, c.cmd.map (·.pending))) =
      some (bstr "208 Command in progress\r\n", some 1) ∧
    (passes Pm.Daemon.TwoRun.Ex.wa (Pm.Daemon.TwoRun.Ex.runsG.map (·.1))).devs.map (fun nd => (nd.2.acts.map (·.clientId), nd.2.fromBuf)) =
      [([1], []), ([2], []), ([], [])] ∧
    (passes Pm.Daemon.TwoRun.Ex.wb (Pm.Daemon.TwoRun.Ex.runsG.map (·.2))).devs.map (fun nd => (nd.2.acts.map (·.clientId), nd.2.fromBuf)) =
      [([1], []), ([2], [1, 2, 3]), ([], [])] ∧
    Pm.Daemon.TwoRun.replyPassX Pm.Daemon.TwoRun.Ex.wa (Pm.Daemon.TwoRun.Ex.runsG.map (·.1)) 1 = some 0 ∧
    Pm.Daemon.TwoRun.replyPassX Pm.Daemon.TwoRun.Ex.wb (Pm.Daemon.TwoRun.Ex.runsG.map (·.2)) 1 = some 0 := by
  rw [ClientPf.bstr_chars]
  decide +kernel
/- `NotObs` on example lines, device `B` with the one plug wired to `b1`: `on a1`, `device a1`, `help` are accepted;
   `status b1`, `on a1,b1`, a bare `status` and a bare `device` are rejected by the (sound) checker `notObsB` -/
example : (["on a1\n", "device a1\n", "help\n", "status b1\n", "on a1,b1\n", "status\n", "device\n"].map fun l =>
    Pm.Daemon.TwoRun.Ex.notObsB Pm.Daemon.TwoRun.Ex.PBx [] (bstr l)) = [true, true, true, false, false, false, false] := by decide +kernel

/-- **Why the clients that observe `B` must not go on typing** (the statement "for every client none of whose lines observes `B`:
    identical record and output", *without* a condition on the other clients, is false of the model — and of the code).
    Worlds `wh` (healthy `B`, its answer in the buffer) and `wb` (sick `B'`) are related by `MRel`; client 1 is tracked and has
    nothing to do with `B`; client 2 has `on b1` in flight on `B`.  The only lines typed in four passes are `on a1` by client 2
    (pass 2) and `device a1` by client 1 (pass 4); neither observes `B` (`notObsB`).  Yet client 1 is told `actions=002` in the
    healthy run and `actions=001` in the sick one: client 2's `on a1` was executed in the run in which `B` had completed its
    first command, and answered `208 Command in progress` in the other.  This is a genuine flow from `B` to client 1 through a
    client that waits for `B` — not a defect —, and the reason for the hypothesis `CliHyps.inert`. -/
theorem C05_observer_typing_counterexample :
    Pm.Daemon.TwoRun.MRel Ex.Q Pm.Daemon.TwoRun.Ex.FB 1 Pm.Daemon.TwoRun.Ex.PBx Pm.Daemon.TwoRun.Ex.wh Pm.Daemon.TwoRun.Ex.wb ∧
    Pm.Daemon.TwoRun.Ex.notObsB Pm.Daemon.TwoRun.Ex.PBx [] (bstr "on a1\n") = true ∧
    Pm.Daemon.TwoRun.Ex.notObsB Pm.Daemon.TwoRun.Ex.PBx [] (bstr "device a1\n") = true ∧
    (cliRec (passes Pm.Daemon.TwoRun.Ex.wh Pm.Daemon.TwoRun.Ex.runH) 1).map (·.toBuf) =
      some (bstr "304 A: state=connected reconnects=000 actions=002 type= hosts=a1\r\n103 Query complete\r\npowerman> ") ∧
    (cliRec (passes Pm.Daemon.TwoRun.Ex.wb Pm.Daemon.TwoRun.Ex.runS) 1).map (·.toBuf) =
      some (bstr "304 A: state=connected reconnects=000 actions=001 type= hosts=a1\r\n103 Query complete\r\npowerman> ") :=
  ⟨Pm.Daemon.TwoRun.Ex.relH, by decide +kernel, by decide +kernel,
   by rw [ClientPf.bstr_chars]; decide +kernel, by rw [ClientPf.bstr_chars]; decide +kernel⟩

/-! ## 6. Any number of passes over the shared runs `runX`

`C05_noninterference_passes_partial`, `C05_noninterference_passes`, `C05_reply_same_pass` are stated over `passes w ps`
(`Pm/FrameMulti.lean`): each pass is given with the regex answers recorded for it, and before each pass `withX` *overwrites* the
pending answers.  Here they are stated over `runX` (`Pm/RunX.lean`, the one definition shared with C02, C03, C06, C11, C15): a pass
`q : PassX` is the kernel's answers `q.p` and the regex answers `q.rx`; before each pass `feed` *appends* `q.rx` to `pendingX`,
as the driver does; `stepX w q = (daemonPass (feed w q.rx) q.p).1`.  **The regex answers are arbitrary in every pass.  The two runs
get different answers: those consumed by the sick device `B` (position `j`) may differ — the pending answers are `xp ++ xB ++ xq`
in one run and `xp ++ xB' ++ xq` in the other, for some segmentation that is part of the per-pass hypotheses — and those consumed
by every other device are equal.**

Vocabulary (`Pm/RunXC05.lean`; examples `Pm/RunXC05Ex.lean`): `AlongX H w w' pp` — the per-pass hypothesis `H` holds for every pair of
passes of `pp`, on the worlds the two runs have reached; `GoodX Q g j` = `PassHyps` (quiet client phase), `GenX Q F j PB` =
`CliHyps` ∧ `DevHyps` (general client phase), both on the worlds with the answers handed over (`C05_AlongX_spelled`);
`replyPassRunX` — `replyPassX` for `runX`.  For runs that start with no answer pending the hypotheses over `passes` imply those over `runX` and
`passes` *is* `runX` (`C05_passes_is_runX`). -/

open Pm.Daemon.TwoRun in
/-- what the vocabulary is -/
theorem C05_AlongX_spelled (Q : Bytes → Bool) (F : Nat → Bool) (g j : Nat) (PB : List Pm.Dev2.Plug) (w w' : W) (q q' : PassX)
    (H : W → W → PassX → PassX → Prop) (r : List (PassX × PassX)) :
    (AlongX H w w' ((q, q') :: r) ↔ H w w' q q' ∧ AlongX H (stepX w q) (stepX w' q') r) ∧ (AlongX H w w' [] ↔ True) ∧
    stepX w q = (daemonPass (feed w q.rx) q.p).1 ∧ feed w q.rx = { w with pendingX := w.pendingX ++ q.rx } ∧
    (GoodX Q g j w w' q q' ↔ ∃ xp xB xB' xq, PassHyps Q g j (feed w q.rx) (feed w' q'.rx) q.p q'.p xp xB xB' xq) ∧
    (GenX Q F j PB w w' q q' ↔ ∃ xp xB xB' xq, CliHyps F PB (feed w q.rx) (feed w' q'.rx) q.p q'.p ∧
      DevHyps Q F j (cliPostPoll (feed w q.rx) q.p.acc q.p.envs) (cliPostPoll (feed w' q'.rx) q'.p.acc q'.p.envs) q.p q'.p xp xB xB' xq) :=
  ⟨Iff.rfl, Iff.rfl, rfl, rfl, Iff.rfl, Iff.rfl⟩

open Pm.Daemon.TwoRun in
/-- **Any number of passes, requests in flight — over `runX`** (`C05_noninterference_passes_partial` for the shared runs; regex
    answers arbitrary in every pass, `B`'s may differ between the runs).  As long as no client types anything, the record of a
    client with nothing queued on the sick device evolves identically pass by pass and every healthy device goes through the
    same states, however device `j` behaves in the two runs.  (`_partial` for the same reasons: client input during the run is
    excluded, and so are behaviours of the sick device that consume a different number of descriptors than the healthy one.) -/
theorem C05_noninterference_passes_runX_partial (Q : Bytes → Bool) (g j : Nat) (w w' : W) (pp : List (PassX × PassX))
    (hr : PassRel Q g j w w') (h : AlongX (GoodX Q g j) w w' pp) (n : Nat) :
    PassRel Q g j (runX w ((pp.take n).map (·.1))) (runX w' ((pp.take n).map (·.2))) :=
  passes_relX Q g j w w' (pp.take n) hr (h.take pp n w w')

/- non-vacuity (`Pm/RunXC05Ex.lean`): the two quiet passes of the example worlds, started with no answer pending; in the first pass
   `A`'s answer `xA` is fed to both runs and `xB'` in addition to the sick run, in the second pass `xB'` again to the sick run -/
example : PassRel Ex.Q 1 1 Pm.Daemon.TwoRun.ExC05.w10 Pm.Daemon.TwoRun.ExC05.w20 ∧
    AlongX (Pm.Daemon.TwoRun.GoodX Ex.Q 1 1) Pm.Daemon.TwoRun.ExC05.w10 Pm.Daemon.TwoRun.ExC05.w20 Pm.Daemon.TwoRun.ExC05.runs ∧
    Pm.Daemon.TwoRun.ExC05.w10.pendingX = [] ∧ Pm.Daemon.TwoRun.ExC05.w20.pendingX = [] ∧
    Pm.Daemon.TwoRun.ExC05.runs = [(⟨Ex.pin, Ex.xA⟩, ⟨Ex.pin, Ex.xA ++ Ex.xB'⟩), (⟨Ex.pin2, []⟩, ⟨Ex.pin2, Ex.xB'⟩)] :=
  ⟨Pm.Daemon.TwoRun.ExC05.relQ, Pm.Daemon.TwoRun.ExC05.alongQ, rfl, rfl, rfl⟩

open Pm.Daemon.TwoRun in
/-- **Any number of passes, clients typing — over `runX`** (`C05_noninterference_passes` for the shared runs; regex answers
    arbitrary in every pass, `B`'s may differ between the runs, all others are equal).  `MRel` holds after every prefix of the
    two runs: pass by pass, every tracked client has the same record and is written the same bytes, every healthy device goes
    through the same states — however device `j` behaves in the two runs and whatever the tracked clients type, as long as it
    does not observe `B`.  What is still assumed is what `C05_noninterference_passes` lists. -/
theorem C05_noninterference_passes_runX (Q : Bytes → Bool) (F : Nat → Bool) (j : Nat) (PB : List Pm.Dev2.Plug)
    (hQB : ∀ nb, Q nb = false → ∃ pl ∈ PB, pl.node = some nb) (w w' : W) (pp : List (PassX × PassX))
    (hr : MRel Q F j PB w w') (h : AlongX (GenX Q F j PB) w w' pp) (n : Nat) :
    MRel Q F j PB (runX w ((pp.take n).map (·.1))) (runX w' ((pp.take n).map (·.2))) :=
  passes_genX Q F j PB hQB w w' (pp.take n) hr (h.take pp n w w')

open Pm.Daemon.TwoRun in
/-- **"… within the same time", model level — over `runX`** (`C05_reply_same_pass` for the shared runs): for a client that is
    tracked at every prefix of the run, the index of the first pass in which its command in progress is completed is the same
    in both runs. -/
theorem C05_reply_same_pass_runX (Q : Bytes → Bool) (F : Nat → Bool) (j : Nat) (PB : List Pm.Dev2.Plug)
    (hQB : ∀ nb, Q nb = false → ∃ pl ∈ PB, pl.node = some nb) (w w' : W) (pp : List (PassX × PassX))
    (hr : MRel Q F j PB w w') (h : AlongX (GenX Q F j PB) w w' pp) (hi' : Isolation.IdsFresh w') (g : Nat)
    (hg : ∀ n, (∃ c, cliRec (runX w ((pp.take n).map (·.1))) g = some c ∧ F c.fd = false) ∨
      (cliRec (runX w ((pp.take n).map (·.1))) g = none ∧ cliRec (runX w' ((pp.take n).map (·.2))) g = none)) :
    replyPassRunX w' (pp.map (·.2)) g = replyPassRunX w (pp.map (·.1)) g :=
  reply_same_passX Q F j PB hQB w w' pp hr h hi' g hg

/- non-vacuity (`Pm/RunXC05Ex.lean`): worlds `wa0`, `wb0` (= `wa`, `wb` of §5 with no answer pending), the two passes of §5 with their
   answers fed pass by pass — in the second pass the sick `B'` asks the regex engine about its garbage again and is answered from
   what was fed before *that* pass.  The hypotheses hold; after both passes client 1 holds the same record in both runs. -/
example : Pm.Daemon.TwoRun.MRel Ex.Q Pm.Daemon.TwoRun.Ex.FB 1 Pm.Daemon.TwoRun.Ex.PBx Pm.Daemon.TwoRun.ExC05.wa0 Pm.Daemon.TwoRun.ExC05.wb0 ∧
    AlongX (Pm.Daemon.TwoRun.GenX Ex.Q Pm.Daemon.TwoRun.Ex.FB 1 Pm.Daemon.TwoRun.Ex.PBx) Pm.Daemon.TwoRun.ExC05.wa0 Pm.Daemon.TwoRun.ExC05.wb0
      Pm.Daemon.TwoRun.ExC05.runsG ∧
    Pm.Daemon.TwoRun.ExC05.wa0.pendingX = [] ∧ Pm.Daemon.TwoRun.ExC05.wb0.pendingX = [] ∧
    Pm.Daemon.TwoRun.ExC05.runsG = [(⟨Pm.Daemon.TwoRun.Ex.q1, Ex.xA⟩, ⟨Pm.Daemon.TwoRun.Ex.q1, Ex.xA ++ Ex.xB'⟩),
      (⟨Pm.Daemon.TwoRun.Ex.q2, []⟩, ⟨Pm.Daemon.TwoRun.Ex.q2, Ex.xB'⟩)] :=
  ⟨Pm.Daemon.TwoRun.ExC05.rel0, Pm.Daemon.TwoRun.ExC05.alongG, rfl, rfl, rfl⟩
example :
    (cliRec (runX Pm.Daemon.TwoRun.ExC05.wa0 (Pm.Daemon.TwoRun.ExC05.runsG.map (·.1))) 1).map (fun c => (c.toBuf, c.cmd.map (·.pending))) =
      some (bstr "208 Command in progress\r\n", some 1) ∧
    (cliRec (runX Pm.Daemon.TwoRun.ExC05.wb0 (Pm.Daemon.TwoRun.ExC05.runsG.map (·.2))) 1).map (fun c => (c.toBuf, c.cmd.map (·.pending))) =
      some (bstr "208 Command in progress\r\n", some 1) ∧
    (runX Pm.Daemon.TwoRun.ExC05.wa0 (Pm.Daemon.TwoRun.ExC05.runsG.map (·.1))).devs.map (fun nd => (nd.2.acts.map (·.clientId), nd.2.fromBuf)) =
      [([1], []), ([2], []), ([], [])] ∧
    (runX Pm.Daemon.TwoRun.ExC05.wb0 (Pm.Daemon.TwoRun.ExC05.runsG.map (·.2))).devs.map (fun nd => (nd.2.acts.map (·.clientId), nd.2.fromBuf)) =
      [([1], []), ([2], [1, 2, 3]), ([], [])] ∧
    Pm.Daemon.TwoRun.replyPassRunX Pm.Daemon.TwoRun.ExC05.wa0 (Pm.Daemon.TwoRun.ExC05.runsG.map (·.1)) 1 = some 0 ∧
    Pm.Daemon.TwoRun.replyPassRunX Pm.Daemon.TwoRun.ExC05.wb0 (Pm.Daemon.TwoRun.ExC05.runsG.map (·.2)) 1 = some 0 :=
  Pm.Daemon.TwoRun.ExC05.outcomeG

open Pm.Daemon.TwoRun in
/-- **`passes` is `runX`, and the hypotheses over `passes` imply those over `runX`, for runs that start with no answer pending.**  (`GenRun` /
    `GoodRun` contain "the client phase does not end the process", so every pass clears `pendingX`, and overwriting an empty list
    of pending answers is appending to it.)  `toX (p, xs) = ⟨p, xs⟩`. -/
theorem C05_passes_is_runX (Q : Bytes → Bool) (F : Nat → Bool) (g j : Nat) (PB : List Pm.Dev2.Plug)
    (hQB : ∀ nb, Q nb = false → ∃ pl ∈ PB, pl.node = some nb) (w w' : W)
    (l : List ((PassIn × List Pm.Dev2.RxCall) × (PassIn × List Pm.Dev2.RxCall))) (h0 : w.pendingX = []) (h0' : w'.pendingX = []) :
    (GenRun Q F j PB w w' l → MRel Q F j PB w w' →
      AlongX (GenX Q F j PB) w w' (l.map fun x => (toX x.1, toX x.2)) ∧
      passes w (l.map (·.1)) = runX w ((l.map (·.1)).map toX) ∧ passes w' (l.map (·.2)) = runX w' ((l.map (·.2)).map toX)) ∧
    (GoodRun Q g j w w' l → PassRel Q g j w w' →
      AlongX (GoodX Q g j) w w' (l.map fun x => (toX x.1, toX x.2)) ∧
      passes w (l.map (·.1)) = runX w ((l.map (·.1)).map toX) ∧ passes w' (l.map (·.2)) = runX w' ((l.map (·.2)).map toX)) :=
  ⟨fun h hr => genRun_to_X Q F j PB hQB w w' l h hr h0 h0', fun h hr => goodRun_to_X Q g j w w' l h hr h0 h0'⟩

/-- **`C05_observer_typing_counterexample` over `runX`**: the same worlds with no answer pending at the start, the same four passes
    with their regex answers fed pass by pass.  Client 1 is told `actions=002` in the healthy run and `actions=001` in the sick
    one. -/
theorem C05_observer_typing_runX_counterexample :
    Pm.Daemon.TwoRun.MRel Ex.Q Pm.Daemon.TwoRun.Ex.FB 1 Pm.Daemon.TwoRun.Ex.PBx Pm.Daemon.TwoRun.ExC05.wh0 Pm.Daemon.TwoRun.ExC05.wb0 ∧
    (cliRec (runX Pm.Daemon.TwoRun.ExC05.wh0 (Pm.Daemon.TwoRun.Ex.runH.map Pm.Daemon.TwoRun.toX)) 1).map (·.toBuf) =
      some (bstr "304 A: state=connected reconnects=000 actions=002 type= hosts=a1\r\n103 Query complete\r\npowerman> ") ∧
    (cliRec (runX Pm.Daemon.TwoRun.ExC05.wb0 (Pm.Daemon.TwoRun.Ex.runS.map Pm.Daemon.TwoRun.toX)) 1).map (·.toBuf) =
      some (bstr "304 A: state=connected reconnects=000 actions=001 type= hosts=a1\r\n103 Query complete\r\npowerman> ") :=
  ⟨Pm.Daemon.TwoRun.ExC05.relH, Pm.Daemon.TwoRun.ExC05.observer.1, Pm.Daemon.TwoRun.ExC05.observer.2⟩

end Pm.Props.C05
