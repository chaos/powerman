import Pm.Generated.SpecsAll
import Pm.TablesCheck
import Pm.SpecSoundEx
/-! # C17 — every shipped device specification loads and is format-safe

Proof by complete enumeration of a finite table, in the kernel.  `Pm/Generated/Specs/*.lean` is regenerated on every run
from `etc/devices/*.dev` and `t/etc/*.dev` by the *real* lexer, grammar, `makeDevice`/`makeStmt` and `regcomp`
(`harness/u_specdump.c`): a file the parser rejects, or a pattern that does not compile, never reaches this file — the
translator reports it.  `specOK` is the hand-written static predicate of `Pm/SpecCheck.lean`. -/
namespace Pm.Props.C17
open Pm.SpecCheck Pm.Generated

/-- Every shipped specification: a login script and a positive timeout exist; every send string contains no conversion other
    than at most one `%s` (or `%%`) and uses `%s` only where a plug argument exists (singlet and ranged kinds, or inside a
    foreach block); every `$N` of a `setplugstate`/`setresult` is a group of every expect that can be the last one executed
    before it (forward data-flow incl. loop back-edges) and fits the match object; an expect precedes every
    `setplugstate`/`setresult` on every path; `ifon`/`ifoff` occur only where exactly one plug is in context, and `foreachplug`/`foreachnode` only where no single plug is
    (they iterate the whole device, so inside a singlet script they would address plugs the request did not name: `C01_foreach_in_singlet_counterexample`). -/
theorem C17_all_shipped_ok : ∀ s ∈ shipped, specOK s = true := shipped_ok

/-- the enumeration is not empty: the repository ships this many specifications -/
theorem C17_enumerated : shipped.length = shippedCount ∧ 0 < shippedCount := by decide

/-- the script-kind sets the static check relies on are the ones the C switch tables define (regenerated from `device.c`) -/
theorem C17_kinds_from_source : ∀ c, c < 64 →
    plugArgKinds.contains c = ((allOf c).isSome || (rangedOf c).isSome || rangedKinds.contains c) :=
  Pm.TablesCheck.plugArgKinds_agrees

/-- the predicate is not trivially true: each clause rejects a minimal offending specification -/
example : specOK { name := "x", file := "", timeoutUs := 1, pingUs := 0, nplugs := 1, scripts := [(0, []), (7, [.send [37, 100]])] } = false := by decide +kernel
example : specOK { name := "x", file := "", timeoutUs := 1, pingUs := 0, nplugs := 1, scripts := [(0, []), (9, [.send [37, 115]])] } = false := by decide +kernel
example : specOK { name := "x", file := "", timeoutUs := 1, pingUs := 0, nplugs := 1, scripts := [(0, []), (7, [.expect 2, .setresult 1 3])] } = false := by decide +kernel
example : specOK { name := "x", file := "", timeoutUs := 1, pingUs := 0, nplugs := 1, scripts := [(0, []), (7, [.setresult 1 2])] } = false := by decide +kernel
example : specOK { name := "x", file := "", timeoutUs := 1, pingUs := 0, nplugs := 1, scripts := [(7, [])] } = false := by decide +kernel
example : specOK { name := "x", file := "", timeoutUs := 0, pingUs := 0, nplugs := 1, scripts := [(0, [])] } = false := by decide +kernel
example : specOK { name := "x", file := "", timeoutUs := 1, pingUs := 0, nplugs := 1, scripts := [(0, []), (9, [.ifon []])] } = false := by decide +kernel

example : specOK { name := "x", file := "", timeoutUs := 1, pingUs := 0, nplugs := 1, scripts := [(0, []), (10, [.foreachplug [.send [37, 115]]])] } = false := by decide +kernel

/-! ## `specOK_sound`: what the static rules mean for the interpreter

`Pm/SpecSound.lean`.  `erase nsub` maps the interpreter's statement trees (`Pm.Dev2.Stmt`, dumped by `harness/udmn.c`: an
`expect` is a pattern id, a `setplugstate` carries its literal plug name) to the trees of the static check (`SStmt`, dumped
by `harness/u_specdump.c` from the same parser structures: an `expect` is its `re_nsub`, a `setplugstate` only says whether it
has a literal; both dump the plug's `$N` as `-1` then); `nsub` gives `re_nsub` of every pattern id.

`Reach script pl d a g`: the configurations an action that runs `script` with context plugs `pl` can be in — device state
`d`, action `a`, and the ghost `g` = pattern of the expect of this action that matched last.  It is generated by
`start` (the action as `_create_action` or `_rewind_action` leaves it, in any device state), `step` (one micro-step `mstep` of
`C08_micro_step`, any oracle answers — consistent with `nsub` or not —, any time, while the action goes on) and `env`
(anything happening to the device and to the other fields of the action between two statements, except to the match object
while a match is held): every device plug list, every targeted plug list, every interleaving of device input, every pass
structure.  `KindPlugs kind pl`: `pl` is what `_enqueue_targeted_actions` creates an action of that kind with — one plug for
a singlet kind, at least one for a ranged kind (`C17_created_plugs`). -/
section Sound
open Pm.Dev2 Pm.Dev2.Interp Pm.Dev2.SpecSound

/-- **The erasure of every script of every shipped specification passes the static check for its kind.**  (Read with
    `spec.scripts.lookup kind = some (eraseB nsub script)`: the interpreter's script, seen through the erasure, is the
    table entry.) -/
theorem C17_shipped_scripts_ok : ∀ s ∈ shipped, ∀ kind b, s.scripts.lookup kind = some b → scriptOK kind b = true :=
  fun s hs kind b hl => scriptOK_of_specOK s kind b (shipped_ok s hs) hl

/-- **C17 (a), sends.**  Whenever an action stands at a `send` — in particular whenever one is formatted — its format
    contains no conversion other than `%s`/`%%`, at most one `%s`, and if it contains a `%s` the context holds a plug
    (`SendSafe`); so the text that is queued is `hsprintf(fmt, arg)` with `arg` present whenever the format consumes one:
    `fmtBad` — a foreign conversion, or a `%s` with no argument left — is false.
    (Independent of the capacity of `dev->to`: the statement is about the text `_process_send` formats and hands to `cbuf_write`,
    not about what the buffer holds afterwards — beyond 65536 queued bytes the oldest give way, `C08_send_bytes`,
    `C09_device_out_overflow_drops_oldest`; `hsprintf` itself allocates as much as the text needs, its length matters to
    nothing but that.) -/
theorem C17_sound_send (nsub : Nat → Nat) (kind : Nat) (script : List Stmt) (pl : Option (List Plug))
    (hok : scriptOK kind (eraseB nsub script) = true) (hpl : KindPlugs kind pl)
    (d : Dev) (a : Action) (g : Option Nat) (h : Reach script pl d a g)
    (e : ExecCtx) (rest : List ExecCtx) (fmt : Bytes) (hex : a.exec = e :: rest)
    (hcur : e.block[e.pos]? = some (.send fmt)) :
    SendSafe fmt e.plugs ∧ fmtBad fmt (argThere e.plugs) = false ∧
    ∀ t, sendText fmt e.plugs = some t → ∃ arg : Option Bytes, t = hsprintf fmt arg ∧ arg.isSome = argThere e.plugs :=
  have hs := reach_safe nsub kind script pl hok hpl d a g h e rest _ hex hcur
  ⟨hs, sendSafe_fmtBad fmt e.plugs hs, fun t ht => sendText_arg fmt e.plugs t ht⟩

/-- the rule for send strings is exact: `SendSafe` holds if and only if `hsprintf` formats the string without fault with
    the argument the context provides (nothing harmless is rejected) -/
theorem C17_send_rule_exact (fmt : Bytes) (pl : Option (List Plug)) : SendSafe fmt pl ↔ fmtBad fmt (argThere pl) = false :=
  sendSafe_iff fmt pl

/-- **C17 (b), capture groups.**  Whenever an action stands at a `setplugstate`: the match object is in use and holds a
    successful match (`Held`: `xm_used`, `xm_result == 0`, `xm_str != NULL`), made by an expect of this same action —
    pattern `pat`, the ghost —;
    every `$N` the statement reads (the plug's only when there is no literal name) satisfies `N ≤ nsub pat` and
    `N ≤ MAX_MATCH_POS`; a status group is given; and the plug has a source: literal, group or context.  The same for
    `setresult` (both groups given). -/
theorem C17_sound_groups (nsub : Nat → Nat) (kind : Nat) (script : List Stmt) (pl : Option (List Plug))
    (hok : scriptOK kind (eraseB nsub script) = true) (hpl : KindPlugs kind pl)
    (d : Dev) (a : Action) (g : Option Nat) (h : Reach script pl d a g)
    (e : ExecCtx) (rest : List ExecCtx) (hex : a.exec = e :: rest) :
    (∀ lit pm sm is, e.block[e.pos]? = some (.setplugstate lit pm sm is) →
      Held d ∧ ∃ pat, g = some pat ∧
        (lit = none → 0 ≤ pm → pm.toNat ≤ nsub pat ∧ pm.toNat ≤ SpecCheck.MAX_MATCH_POS) ∧
        (0 ≤ sm → sm.toNat ≤ nsub pat ∧ sm.toNat ≤ SpecCheck.MAX_MATCH_POS) ∧ 0 ≤ sm ∧
        (lit.isSome = true ∨ 0 ≤ pm ∨ ∃ p l, e.plugs = some (p :: l))) ∧
    (∀ pm sm is, e.block[e.pos]? = some (.setresult pm sm is) →
      Held d ∧ ∃ pat, g = some pat ∧
        (0 ≤ pm → pm.toNat ≤ nsub pat ∧ pm.toNat ≤ SpecCheck.MAX_MATCH_POS) ∧
        (0 ≤ sm → sm.toNat ≤ nsub pat ∧ sm.toNat ≤ SpecCheck.MAX_MATCH_POS) ∧ 0 ≤ pm ∧ 0 ≤ sm) :=
  have hs := reach_safe nsub kind script pl hok hpl d a g h
  ⟨fun _ _ _ _ hcur => hs e rest _ hex hcur, fun _ _ _ hcur => hs e rest _ hex hcur⟩

/-- **C17 (c), plug context.**  An `ifon`/`ifoff` is evaluated (`processing` clear: not the return from its body) only
    with exactly one plug in its context; a `foreachplug`/`foreachnode` is executed only in the outermost context of an
    action whose kind is not a singlet kind — never inside a `foreach` body, an `if` body or a singlet script, the contexts
    that hold a single plug. -/
theorem C17_sound_context (nsub : Nat → Nat) (kind : Nat) (script : List Stmt) (pl : Option (List Plug))
    (hok : scriptOK kind (eraseB nsub script) = true) (hpl : KindPlugs kind pl)
    (d : Dev) (a : Action) (g : Option Nat) (h : Reach script pl d a g)
    (e : ExecCtx) (rest : List ExecCtx) (hex : a.exec = e :: rest) :
    (∀ b, (e.block[e.pos]? = some (.ifon b) ∨ e.block[e.pos]? = some (.ifoff b)) → e.processing = false →
      ∃ p, e.plugs = some [p]) ∧
    (∀ b, (e.block[e.pos]? = some (.foreachplug b) ∨ e.block[e.pos]? = some (.foreachnode b)) →
      rest = [] ∧ singletKinds.contains kind = false) := by
  have hs := reach_safe nsub kind script pl hok hpl d a g h
  refine ⟨fun b hb hp => ?_, fun b hb => ?_⟩
  · rcases hb with hb | hb
    · exact hs e rest _ hex hb hp
    · exact hs e rest _ hex hb hp
  · rcases hb with hb | hb
    · exact hs e rest _ hex hb
    · exact hs e rest _ hex hb

/-- **The invariant behind (a)–(c)** (`Sound`: every context of the stack passes the static check for what is left of its
    block — a context parked at a `foreach` with the loop invariant the two-round analysis provides — from a `last` that is
    a lower bound of what the match object holds): a fresh action on a script whose erasure is `scriptOK` satisfies it
    in any device state; every micro-step keeps it, for every oracle and time, as long as the action goes on; it does not
    depend on the device except through the match object. -/
theorem C17_sound_invariant (nsub : Nat → Nat) (kind : Nat) :
    (∀ script pl d a, scriptOK kind (eraseB nsub script) = true → KindPlugs kind pl → a.exec = [bodyCtx script pl] →
      Sound nsub kind d a none) ∧
    (∀ now d a o g, a.exec ≠ [] → Sound nsub kind d a g →
      ((mstep now d a o).status = .running ∨ (mstep now d a o).status = .stalled) →
      Sound nsub kind (mstep now d a o).dev (mstep now d a o).act (ghostNext now d a o g)) ∧
    (∀ d a g, Sound nsub kind d a g → StmtSafe nsub kind d a g) :=
  ⟨fun script pl d a hok hpl hex => sound_fresh nsub kind script pl d a hok hpl hex,
   fun now d a o g hne hS hs => sound_mstep nsub kind now d a o g hne hS hs,
   fun d a g hS => sound_safe nsub kind d a g hS⟩

/-- what the forward analysis needs to be sound across the loop back-edge: it is monotone in `last` (a block that is ok
    stays ok, and leaves at least as much, when more is known on entry), and the check of a `foreach` yields a loop
    invariant `b` — below the `last` at the statement, the body is ok from `b` and re-establishes `b`, and `b` is at least
    what the check continues with behind the loop -/
theorem C17_analysis_monotone (pa sg : Bool) (body : List SStmt) (l l' : Option Nat) (hl : le l l') :
    ((stmtsOK pa sg l body).1 = true → (stmtsOK pa sg l' body).1 = true) ∧ le (stmtsOK pa sg l body).2 (stmtsOK pa sg l' body).2 ∧
    ((stmtOK pa sg l (.foreachplug body)).1 = true →
      ∃ b, le b l ∧ (stmtsOK true true b body).1 = true ∧ le b (stmtsOK true true b body).2 ∧
        le (stmtOK pa sg l (.foreachplug body)).2 b) := by
  refine ⟨(stmtsOK_mono body pa sg l l' hl).1, (stmtsOK_mono body pa sg l l' hl).2, fun h => ?_⟩
  rw [stmtOK_foreachplug] at h ⊢
  exact (eachOK_inv sg l body h).2

/-- **`specOK_sound`.**  For every shipped specification and every script of it: if the interpreter runs a script whose
    erasure is that table entry, as an action of that kind created with the plugs the kind is created with, then in every
    configuration the action can reach — any device, any plug lists, any oracle answers, any interleaving of device
    input, any number of passes, restarts by `_rewind_action` included (`C17_sound_rewind`) — the statement it stands at
    satisfies (a), (b), (c) (`StmtSafe`, the three of them by statement kind). -/
theorem specOK_sound : ∀ s ∈ shipped, ∀ (nsub : Nat → Nat) (kind : Nat) (script : List Stmt),
    s.scripts.lookup kind = some (eraseB nsub script) → ∀ pl, KindPlugs kind pl →
    ∀ d a g, Reach script pl d a g → StmtSafe nsub kind d a g :=
  fun s hs nsub kind script hl pl hpl d a g h => spec_sound s (shipped_ok s hs) nsub kind script hl pl hpl d a g h

/-- **Pre-emption.**  `_rewind_action` applied to an action in any reachable configuration gives a configuration from
    which the action starts over, whatever the device state then is (the login script that pre-empted it uses the same
    match object): the outermost context of a reachable stack is always the script's. -/
theorem C17_sound_rewind (script : List Stmt) (pl : Option (List Plug)) (d d' : Dev) (a : Action) (g : Option Nat)
    (h : Reach script pl d a g) (hne : a.exec ≠ []) : Reach script pl d' (rewind a) none :=
  reach_rewind script pl d d' a g h hne

/-- **One pass of `_process_action`** in the running situation of `C08_pass_is_run`: the mirror's pass is a run `mrun` of
    micro-steps of the head action, and every configuration on that run (`mrun … k`: before each statement the pass
    executes, and where the pass leaves the action) is reachable and hence safe. -/
theorem C17_sound_pass (nsub : Nat → Nat) (kind : Nat) (script : List Stmt) (pl : Option (List Plug))
    (hok : scriptOK kind (eraseB nsub script) = true) (hpl : KindPlugs kind pl)
    (R : Bool) (dp : List Plug) (fuel : Nat) (c : CS) (a : Action) (rest : List Action) (o : Oracle)
    (out : List Out) (tmo : Option Time) (h : HeadOK R dp c a) (hacts : c.dev.acts = a :: rest)
    (g : Option Nat) (hr : Reach script pl c.dev a g) :
    (∃ N fuel', processActionF fuel c o out tmo =
      headResult rest c tmo (timeLeft c a) fuel' (mrun c.env.now N c.dev a o out)) ∧
    ∀ k, ((mrun c.env.now k c.dev a o out).status = .running ∨ (mrun c.env.now k c.dev a o out).status = .stalled ∨
          (mrun c.env.now k c.dev a o out).status = .done) →
      ∃ g', Reach script pl (mrun c.env.now k c.dev a o out).dev (mrun c.env.now k c.dev a o out).act g' ∧
        StmtSafe nsub kind (mrun c.env.now k c.dev a o out).dev (mrun c.env.now k c.dev a o out).act g' :=
  pass_safe nsub kind script pl hok hpl R dp fuel c a rest o out tmo h hacts g hr

/-- **The hypothesis on the plugs holds of every action the daemon model creates**: what `dev_enqueue_actions` appends to a
    device's queue are fresh actions on the script of their kind with one plug (singlet), no plug list (`_all`) or the
    non-empty list of targeted plugs (ranged); login, logout and ping actions have none and their kinds need none. -/
theorem C17_created_plugs (d : Dev) (com : Nat) (targets : List Bytes) (cid : Nat) (tele : Bool) (al : Nat) :
    (∃ new, (Pm.Daemon.enqueue d com targets cid tele al).1.acts = d.acts ++ new ∧
      ∀ a ∈ new, ∃ pl, a.exec = [bodyCtx ((d.scripts a.com).getD []) pl] ∧ KindPlugs a.com pl) ∧
    KindPlugs 0 none ∧ KindPlugs 1 none ∧ KindPlugs 6 none :=
  ⟨enqueue_kindPlugs d com targets cid tele al, kindPlugs_login_ping⟩

/-- the hypothesis `KindPlugs` cannot be dropped: `send "%s"` is `scriptOK` for the ranged kind 8, yet an action of that
    kind with an *empty* list of targeted plugs would format it without argument (`(null)`) — which `_enqueue_targeted_actions`
    never creates -/
theorem C17_sound_send_needs_plugs_counterexample :
    scriptOK 8 (eraseB (fun _ => 0) [.send [37, 115]]) = true ∧ ¬ SendSafe [37, 115] (some []) ∧
    sendText [37, 115] (some []) = some [40, 110, 117, 108, 108, 41] := send_needs_plugs_counterexample

theorem vpc_shipped : Specs.vpc ∈ shipped := by simp [shipped]
theorem cb7050_shipped : Specs.cb7050 ∈ shipped := by simp [shipped]

/-- non-vacuity of `specOK_sound` on two shipped specifications: `vpc` (`script on_ranged`: `%s`, `foreachplug`, `$1 $2`)
    with two targeted plugs, and `cb7050` (`script on`: literal plug names, `$1`/`$2`, `%s` inside `ifoff`) on the
    configuration a concrete run reaches (query sent and drained, reply matched by the expect): the action stands at its
    first `setplugstate`, and the theorem says the match object holds a match of pattern 1 whose group 2 exists -/
example (p q : Plug) (d : Dev) (a : Action) (g : Option Nat) (h : Reach Ex.vpcOnRanged (some [p, q]) d a g) :
    StmtSafe Ex.vpcNsub 8 d a g :=
  specOK_sound Specs.vpc vpc_shipped Ex.vpcNsub 8 Ex.vpcOnRanged Ex.vpc_erasures.1 (some [p, q])
    (kindPlugs_cons 8 p [q] (by decide)) d a g h

example : SetSafe Ex.cbNsub Ex.m3.dev (some 1) (some [Ex.p3]) (some [48]) (-1) 2 :=
  specOK_sound Specs.cb7050 cb7050_shipped Ex.cbNsub 7 Ex.cbOn Ex.cbOn_erasure (some [Ex.p3]) (kindPlugs_single 7 Ex.p3)
    _ _ _ Ex.ex_reach _ _ _ Ex.ex_stands rfl

/-- non-vacuity of (a): the `cb7050` action as created stands at `send "$016\r"` — no `%s`, nothing to supply -/
example : SendSafe [36, 48, 49, 54, 13] (some [Ex.p3]) :=
  (C17_sound_send Ex.cbNsub 7 Ex.cbOn (some [Ex.p3]) (C17_shipped_scripts_ok Specs.cb7050 cb7050_shipped 7 _ Ex.cbOn_erasure)
    (kindPlugs_single 7 Ex.p3) Ex.d0 Ex.a0 none (Reach.start Ex.d0 Ex.a0 _ rfl rfl rfl rfl) _ _ _ rfl rfl).1

/-- non-vacuity of (c): a fresh `status_all` action whose script begins with a `foreachplug` (body: `expect`, `setplugstate $1 $2`,
    `ifon { send "%s\n" }`) stands at it in its outermost context, and kind 3 is not a singlet kind -/
example (d : Dev) (a : Action)
    (hex : a.exec = [bodyCtx [.foreachplug [.expect 4, .setplugstate none 1 2 [(.on, 6)], .ifon [.send [37, 115, 10]]]] none]) :
    ([] : List ExecCtx) = [] ∧ singletKinds.contains 3 = false :=
  (C17_sound_context Ex.vpcNsub 3 _ none (by decide +kernel) (kindPlugs_none 3 (by decide) (by decide)) d a none
    (Reach.start d a _ hex rfl rfl rfl) _ [] hex).2 _ (Or.inl rfl)

end Sound

end Pm.Props.C17
