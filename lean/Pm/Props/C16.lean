import Pm.LibPmProof
import Pm.Logic
/-! # C16 — the client library and the CLI survive any server

"For any byte stream a server may send, however segmented, every libpowerman call returns without memory-safety errors and
reports success only if the reply contained a success code, otherwise the error code matching the reply (or EOF/parse error);
`pm_node_status` yields ON or OFF only when the reply says so for that node, and node iteration yields exactly the nodes
listed.  The powerman CLI prints the reply text and exits 0 if and only if the request's terminal code was a success code."

The model is `Pm/LibPmModel.lean` (mirror of `libpowerman.c` and of the reply loop of `powerman.c`; findings F7a, F7b, F20,
F21 concern them); the server is a list of `Chunk`s, one per `read`.  All theorems hold for every chunk list / byte string —
no bound on lengths.  Vocabulary (defined in `Pm/LibPmProof.lean`):

* `Segmentation ds s` — `ds` is a list of non-empty pieces whose concatenation is `s`; the script `ds.map .data ++ t`
  delivers `s` in those pieces and then behaves like `t`;
* `replyLines cs` — the lines `_parse_response` finds in the buffer the read loop returned (stream order);
* `IsLine l` — `l` is some bytes `x` followed by CRLF, with no CRLF inside `x` (`isLine_iff`);
* `RLine`/`Exch` — a reply line `NNN␠text\r\n` / one exchange of the CLI (lines, terminal line, prompt). -/
namespace Pm.Props.C16
open Pm.LibPmModel

/-- a literal under `str`, spelt out as the bytes of its characters before the kernel evaluates it (`utf8_chars`) -/
theorem str_chars (cs : List Char) : str (String.ofList cs) = cs.flatMap String.utf8EncodeChar := utf8_chars cs

/-! ## 1. termination -/

/-- `_server_recv_response`: the fuel the model gives the read loop is not a restriction — any larger amount gives the same
    result (every iteration consumes a byte or a chunk) -/
theorem C16_recv_terminates (cs : List Chunk) (fuel : Nat) (h : recvFuel cs ≤ fuel) :
    recvLoop fuel [] 0 cs = recvLoop (recvFuel cs) [] 0 cs :=
  recvLoop_fuel _ _ _ _ _ (Nat.le_refl _) (by unfold recvFuel at h; omega) (by unfold recvFuel; omega)

/-- `xreadstr`, `_expect`, `_process_response` with the fuel `cliRun` gives them never end with the model's `"fuel"` error -/
theorem C16_cli_loops_terminate (cs : List Chunk) (acc s : Bytes) (c : Cli) (fuel : Nat) (hc : chunkBytes c.cs < fuel) (hs : chunkBytes cs < fuel) :
    (readStr fuel acc cs).1 ≠ .error "fuel" ∧ (expect s cs).1 ≠ .error "fuel" ∧ (processResponse fuel c).1 ≠ .error "fuel" :=
  ⟨(readStr_nofuel fuel acc cs hs).1, (expect_nofuel s cs).1, (processResponse_nofuel fuel c hc).1⟩

/-- the CLI on any stream: `cliRun` is `cliCore` (the same run, keeping the message of a fatal error) followed by
    `exit`; the run never stops because a loop ran out of fuel — every run ends with an exit status of its own
    (finding F20 is a spin of `_expect` at EOF) -/
theorem C16_cli_terminates (o : CliOpts) (cs : List Chunk) :
    cliRun o cs = cliFinish (cliCore o cs) ∧ (cliCore o cs).1 ≠ .error "fuel" :=
  ⟨cliRun_eq o cs, cliCore_nofuel o cs⟩

/-- a fatal error (lost connection, unexpected response) is `exit(1)` -/
theorem C16_cli_error_exit (o : CliOpts) (cs : List Chunk) (m : String) (h : (cliCore o cs).1 = .error m) : (cliRun o cs).1 = 1 := by
  rw [cliRun_eq]; generalize cliCore o cs = r at h; obtain ⟨x, c⟩ := r; subst h; rfl

/-- the server closes the connection right after the banner: the CLI says so and exits 1 (finding F20) -/
example : cliRun ⟨false, false, str "2.3"⟩ [.data (str "001 2.3\r\npower"), .eof] =
    (1, [], str "powerman: lost connection with server\n") := by
  rw [str_chars, str_chars, str_chars]; decide +kernel

/-! ## 2. bounds (finding F7a) -/

/-- (a) the guarded `_strncmpend`: with fewer than 10 bytes in the buffer nothing is compared;
    (b) a `read` with room for `space > 0` bytes returns between 1 and `space` bytes;
    (c) the loop invariant `count ≤ buflen`: there is always room, and what is appended fits;
    (d) in the loop with its `read`s logged (`recvLoopT`, equal to `recvLoop`), every `read` stores its `n > 0` bytes
        inside the buffer: `count + n ≤ buflen` — no write past the buffer, for any stream -/
theorem C16_recv_bounds :
    (∀ b : Bytes, b.length < 10 → endsWith b prompt = false) ∧
    (∀ cs space bs cs', 0 < space → readK cs space = (some (some bs), cs') → 0 < bs.length ∧ bs.length ≤ space) ∧
    (∀ (buf : Bytes) buflen cs, buf.length ≤ buflen →
      0 < growLen buf buflen - buf.length ∧
      ∀ bs cs', readK cs (growLen buf buflen - buf.length) = (some (some bs), cs') → (buf ++ bs).length ≤ growLen buf buflen) ∧
    (∀ fuel cs, (recvLoopT fuel [] 0 cs).1 = recvLoop fuel [] 0 cs ∧
      ∀ a ∈ (recvLoopT fuel [] 0 cs).2, 0 < a.n ∧ a.count + a.n ≤ a.buflen) :=
  ⟨endsWith_short, fun cs space bs cs' hs h => readK_bounds cs space bs cs' hs h,
   fun buf buflen cs h => ⟨(growLen_space buf buflen h).1, fun bs cs' hr => (recv_step_bounds buf buflen cs h bs cs' hr).2⟩,
   fun fuel cs => ⟨recvLoopT_fst fuel [] 0 cs, recvLoopT_safe fuel [] 0 cs (Nat.le_refl _)⟩⟩

/-- the first segment of the banner is 3 bytes long (the F7a reproducer): three reads, all inside the buffer -/
example : (recvLoopT 100 [] 0 [.data (str "001"), .data (str " 2.3\r\npowerm"), .data (str "an> ")]).2.map (fun a => (a.count, a.n, a.buflen))
    = [(0, 3, 131072), (3, 12, 131072), (15, 4, 131072)] := by
  rw [str_chars, str_chars, str_chars]; decide +kernel

/-! ## 3. segmentation independence -/

/-- The loop stops at the first position at which the accumulated bytes end with the prompt, provided
    a `read` ends there — here: the script delivers `s` (in any pieces) and goes on with `t`; what follows is left unread -/
theorem C16_recv_stops_at_first_prompt (ds : List Bytes) (s : Bytes) (t : List Chunk) (hseg : Segmentation ds s)
    (hend : endsWith s prompt = true) (hq : ∀ q r, s = q ++ r → q ≠ [] → r ≠ [] → endsWith q prompt = false) :
    recvLoop (recvFuel (ds.map .data ++ t)) [] 0 (ds.map .data ++ t) = (.ok s, t) :=
  recv_split _ s t (Seg_of_segmentation ds s t hseg) hend hq

/-- if the bytes `s` end with the prompt and no shorter non-empty prefix of `s` does, the read loop returns exactly `s`
    whatever the pieces `s` arrives in -/
theorem C16_recv_split (ds : List Bytes) (s : Bytes) (hseg : Segmentation ds s) (hend : endsWith s prompt = true)
    (hq : ∀ q r, s = q ++ r → q ≠ [] → r ≠ [] → endsWith q prompt = false) :
    recvLoop (recvFuel (ds.map .data)) [] 0 (ds.map .data) = (.ok s, []) := by
  simpa using C16_recv_stops_at_first_prompt ds s [] hseg hend hq

/-- the exact general form, on any script whatsoever, in terms of the logged `read`s (`recvLoopT`, whose result is that of
    `recvLoop`: `C16_recv_bounds` (d)): when the loop succeeds with `b`, then `b` is the stream up to the end of the last
    `read`, it ends with the prompt, and at the end of no earlier `read` did the accumulated bytes end with the prompt —
    the loop stops at the first read boundary at which the accumulated bytes end with the prompt -/
theorem C16_recv_first_boundary (cs : List Chunk) (b : Bytes) (cs' : List Chunk) (h : recvLoop (recvFuel cs) [] 0 cs = (.ok b, cs')) :
    ∃ pre last, (recvLoopT (recvFuel cs) [] 0 cs).2 = pre ++ [last] ∧
      b = (bytesOf cs).take (last.count + last.n) ∧ endsWith b prompt = true ∧
      ∀ a ∈ pre, endsWith ((bytesOf cs).take (a.count + a.n)) prompt = false := by
  have := recvLoopT_first (recvFuel cs) [] 0 cs (Nat.le_refl _) (by unfold recvFuel; omega) b cs' (by rw [recvLoopT_fst]; exact h)
  simpa using this

/-- a prompt in the middle of a `read` is not seen (as in the C code): the loop goes on to the next boundary -/
example : (recvLoopT 100 [] 0 [.data (str "powerman> x"), .data (str "powerman> ")]).2.map (fun a => a.count + a.n) = [11, 21] := by
  rw [str_chars, str_chars]; decide +kernel

/-- on any script whatsoever: when the loop succeeds, the buffer it returns ends with the prompt and consists of exactly
    the bytes consumed from the script -/
theorem C16_recv_ok_sound (cs : List Chunk) (b : Bytes) (cs' : List Chunk) (h : recvLoop (recvFuel cs) [] 0 cs = (.ok b, cs')) :
    endsWith b prompt = true ∧ bytesOf cs = b ++ bytesOf cs' := by
  have := recvLoop_ok_sound _ [] 0 cs b cs' (Nat.le_refl _) (by unfold recvFuel; omega) h
  simpa using this

/-- hence `_server_recv_response` depends only on the bytes: for a reply made of lines followed by the prompt, in which
    the prompt text does not occur earlier, any two segmentations give the same return code and the same lines -/
theorem C16_recv_response_split (ds₁ ds₂ : List Bytes) (ls : List Bytes) (t : List Chunk)
    (h₁ : Segmentation ds₁ (ls.flatten ++ prompt)) (h₂ : Segmentation ds₂ (ls.flatten ++ prompt))
    (hl : ∀ l ∈ ls, IsLine l) (hp : ¬ prompt <:+: ls.flatten) :
    recvResponse (ds₁.map .data ++ t) = recvResponse (ds₂.map .data ++ t) ∧
    recvResponse (ds₁.map .data ++ t) = (retcode ls, (if retcode ls == 0 then ls.reverse else []), t) := by
  have a := (recvResponse_conforming _ t ls (Seg_of_segmentation _ _ t h₁) hl hp).1
  have b := (recvResponse_conforming _ t ls (Seg_of_segmentation _ _ t h₂) hl hp).1
  exact ⟨by rw [a, b], a⟩

/-- "the prompt text does not occur in the body" is enough for the prefix condition of `C16_recv_split` -/
theorem C16_prompt_only_at_end (body : Bytes) (h : ¬ prompt <:+: body) :
    ∀ q r, body ++ prompt = q ++ r → q ≠ [] → r ≠ [] → endsWith q prompt = false :=
  prompt_not_inside body h

/-- the status sample — the reply `303 t1: on`, `103 Query complete`, prompt, cut in three reads and in one — meets the
    hypotheses of the theorems of this file -/
structure StatusSample : Prop where
  three : Segmentation [str "303 t1", str ": on\r\n103 Query comp", str "lete\r\npowerman> "]
    ([str "303 t1: on\r\n", str "103 Query complete\r\n"].flatten ++ prompt)
  one : Segmentation [str "303 t1: on\r\n103 Query complete\r\npowerman> "]
    ([str "303 t1: on\r\n", str "103 Query complete\r\n"].flatten ++ prompt)
  line1 : str "303 t1: on\r\n" = str "303 t1: on" ++ [13, 10] ∧ hasCRLF (str "303 t1: on" ++ [13]) = false
  line2 : str "103 Query complete\r\n" = str "103 Query complete" ++ [13, 10] ∧ hasCRLF (str "103 Query complete" ++ [13]) = false
  noPrompt : ¬ prompt <:+: [str "303 t1: on\r\n", str "103 Query complete\r\n"].flatten
  code : retcode [str "303 t1: on\r\n", str "103 Query complete\r\n"] = 0

theorem status_sample : StatusSample := by
  suffices h : _ ∧ _ ∧ _ ∧ _ ∧ _ ∧ _ by
    obtain ⟨a, b, c, d, e, f⟩ := h
    exact ⟨a, b, c, d, e, f⟩
  rw [str_chars, str_chars, str_chars, str_chars, str_chars, str_chars, str_chars, str_chars]; decide +kernel

theorem status_lines : ∀ l ∈ [str "303 t1: on\r\n", str "103 Query complete\r\n"], IsLine l := by
  intro l hl
  rcases List.mem_cons.mp hl with rfl | hl
  · exact ⟨_, status_sample.line1⟩
  · rcases List.mem_cons.mp hl with rfl | hl
    · exact ⟨_, status_sample.line2⟩
    · cases hl

/-- a status reply cut in three reads, and the same bytes in one read -/
example : recvResponse [.data (str "303 t1"), .data (str ": on\r\n103 Query comp"), .data (str "lete\r\npowerman> ")] =
    recvResponse [.data (str "303 t1: on\r\n103 Query complete\r\npowerman> ")] := by
  simpa using (C16_recv_response_split _ _ _ [] status_sample.three status_sample.one status_lines status_sample.noPrompt).1
example : Segmentation [str "303 t1", str ": on\r\n103 Query comp", str "lete\r\npowerman> "]
    ([str "303 t1: on\r\n", str "103 Query complete\r\n"].flatten ++ prompt) := status_sample.three
/-- the theorem applied to that stream: the prefix condition comes from `C16_prompt_only_at_end` -/
example : recvLoop (recvFuel ([str "303 t1", str ": on\r\n103 Query comp", str "lete\r\npowerman> "].map .data)) [] 0
      ([str "303 t1", str ": on\r\n103 Query comp", str "lete\r\npowerman> "].map .data) =
    (.ok (str "303 t1: on\r\n103 Query complete\r\npowerman> "), []) := by
  have e : [str "303 t1: on\r\n", str "103 Query complete\r\n"].flatten ++ prompt =
      str "303 t1: on\r\n103 Query complete\r\npowerman> " := by
    rw [str_chars, str_chars, str_chars]; decide +kernel
  rw [← e]
  exact C16_recv_split _ _ status_sample.three ((endsWith_iff _ _).mpr ⟨_, rfl⟩) (C16_prompt_only_at_end _ status_sample.noPrompt)
example : ¬ prompt <:+: [str "303 t1: on\r\n", str "103 Query complete\r\n"].flatten := status_sample.noPrompt

/-! ## 4. the return code -/

/-- `_server_retcode`: the first line (in stream order) whose number is one of the 1xx success codes or 2xx failure codes
    decides — 0 for a success code, the code itself otherwise.  In particular when exactly one line has such a number.
    (Lines before it scan to other numbers or to none; lines after it do not matter.) -/
theorem C16_retcode_spec (pre post : List Bytes) (l : Bytes) (c : Int) (hl : scanInt (cstr l) = some c)
    (hc : c ∈ successCodes ∨ c ∈ failureCodes)
    (hpre : ∀ x ∈ pre, ∀ d, scanInt (cstr x) = some d → d ∉ successCodes ∧ d ∉ failureCodes) :
    (retcode (pre ++ l :: post) = 0 ↔ c ∈ successCodes) ∧ (c ∉ successCodes → (retcode (pre ++ l :: post) : Int) = c) :=
  retcode_of_scan pre post l c hl hc fun x hx => (verdict_none_iff x).mpr (hpre x hx)

/-- no line with a 1xx/2xx number: PM_ESERVERPARSE -/
theorem C16_retcode_none (lines : List Bytes)
    (h : ∀ x ∈ lines, ∀ d, scanInt (cstr x) = some d → d ∉ successCodes ∧ d ∉ failureCodes) : retcode lines = 8 :=
  retcode_none lines (fun x hx => (verdict_none_iff x).mpr (h x hx))

/-- `sscanf("%d")` on a conforming line `NNN␠text`: the number `NNN` -/
theorem C16_scanInt_line (n : Nat) (h : n < 1000) (text : Bytes) : scanInt (cstr (digits3 n ++ 32 :: text)) = some (n : Int) :=
  scanInt_line n h text

/-- success is reported only if the reply contained a line with a success code; the lines handed to the caller are then
    exactly the reply's lines (last first, as the C list holds them) -/
theorem C16_success_only_if (cs : List Chunk) (h : (recvResponse cs).1 = 0) :
    (∃ l ∈ replyLines cs, ∃ c ∈ successCodes, scanInt (cstr l) = some c) ∧ (recvResponse cs).2.1 = (replyLines cs).reverse :=
  ⟨recvResponse_success_only_if cs h, (recvResponse_zero cs h).1⟩

/-- the return code is that of the reply's lines, or one of the two read failures: 7 (PM_ESERVEREOF) or 1 (errno) -/
theorem C16_recv_response_code (cs : List Chunk) :
    (∃ buf cs', recvLoop (recvFuel cs) [] 0 cs = (.ok buf, cs') ∧ (recvResponse cs).1 = retcode (parseResponse buf)) ∨
    ((recvResponse cs).1 = 7 ∨ (recvResponse cs).1 = 1) ∧ (recvResponse cs).2.1 = [] := by
  rcases recvResponse_cases cs with ⟨buf, cs', hl, -, hr⟩ | ⟨e, cs', -, he, hr⟩ <;> rw [hr]
  · exact .inl ⟨buf, cs', hl, rfl⟩
  · exact .inr ⟨he, rfl⟩

/-- the stream delivers `s` — no non-empty prefix of which ends with the prompt — and then ends (script exhausted, EOF,
    empty read): PM_ESERVEREOF; or then fails: error 1.  No line is handed out. -/
theorem C16_recv_eof (ds : List Bytes) (s : Bytes) (t : List Chunk) (hseg : Segmentation ds s)
    (hq : ∀ q r, s = q ++ r → q ≠ [] → endsWith q prompt = false) :
    (t = [] → recvResponse (ds.map .data ++ t) = (7, [], [])) ∧
    (∀ r, t = .eof :: r → recvResponse (ds.map .data ++ t) = (7, [], r)) ∧
    (∀ r, t = .data [] :: r → recvResponse (ds.map .data ++ t) = (7, [], r)) ∧
    (∀ r, t = .err :: r → recvResponse (ds.map .data ++ t) = (1, [], r)) :=
  recvResponse_ends _ s t (Seg_of_segmentation ds s t hseg) hq

example : retcode [str "303 t1: on\r\n", str "103 Query complete\r\n"] = 0 := status_sample.code
example : retcode [str "204 No such nodes: t9\r\n"] = 204 := by
  rw [str_chars]; decide +kernel
example : retcode [str "303 t1: on\r\n", str "999 what\r\n", str "hello\r\n"] = 8 := by
  rw [str_chars, str_chars, str_chars]; decide +kernel
example : scanInt (cstr (str "103 Query complete\r\n")) = some 103 ∧ (103 : Int) ∈ successCodes := by
  rw [str_chars]; decide +kernel
example : digits3 103 ++ 32 :: str "Query complete\r\n" = str "103 Query complete\r\n" := by
  rw [str_chars, str_chars]; decide +kernel
example : recvResponse [.data (str "303 t1: on\r\n103 Que"), .eof] = (7, [], []) := by
  rw [str_chars]; decide +kernel
example : recvResponse [.data (str "303 t1: on\r\n103 Que"), .err, .data (str "x")] = (1, [], [.data (str "x")]) := by
  rw [str_chars, str_chars]; decide +kernel

/-- `pm_node_on/off/cycle` return the code of their exchange; `pm_connect` succeeds iff both of its exchanges (banner,
    `exprange`) do, and closes the descriptor exactly once when it fails (finding F21) -/
theorem C16_simple_and_connect (cs : List Chunk) :
    simpleCmd cs = ((recvResponse cs).1, (recvResponse cs).2.2) ∧
    ((connect cs).1 = 0 ↔ (recvResponse cs).1 = 0 ∧ (recvResponse (recvResponse cs).2.2).1 = 0) ∧
    (connect cs).2.1 = (if (connect cs).1 = 0 then 0 else 1) :=
  ⟨simpleCmd_eq cs, (connect_spec cs).1, (connect_spec cs).2⟩

/-! ## 5. `pm_node_status` -/

/-- ON only if some reply line is exactly `303 <node>: on\r\n` (and none is the OFF line); OFF only if some reply line is
    exactly `303 <node>: off\r\n`.  Conversely, when the call succeeds: OFF if the OFF line is there, else ON if the ON line is
    there, else UNKNOWN — OFF takes precedence when both lines are present.  When the call fails no state is stored. -/
theorem C16_status_spec (node : Bytes) (cs : List Chunk) :
    (∀ cs', nodeStatus node cs = (0, some 2, cs') →
      (∃ l ∈ replyLines cs, cstr l = onLine node) ∧ ¬ ∃ l ∈ replyLines cs, cstr l = offLine node) ∧
    (∀ cs', nodeStatus node cs = (0, some 1, cs') → ∃ l ∈ replyLines cs, cstr l = offLine node) ∧
    ((recvResponse cs).1 = 0 →
      nodeStatus node cs =
        (0, some (if ∃ l ∈ replyLines cs, cstr l = offLine node then 1
                  else if ∃ l ∈ replyLines cs, cstr l = onLine node then 2 else 0), (recvResponse cs).2.2)) ∧
    ((recvResponse cs).1 ≠ 0 → nodeStatus node cs = ((recvResponse cs).1, none, (recvResponse cs).2.2)) :=
  ⟨nodeStatus_on node cs, nodeStatus_off node cs, nodeStatus_spec node cs, nodeStatus_fail node cs⟩

/-- the same on a conforming reply (lines, then the prompt, the prompt text nowhere else), however segmented -/
theorem C16_status_segmented (node : Bytes) (ds : List Bytes) (ls : List Bytes) (t : List Chunk)
    (hseg : Segmentation ds (ls.flatten ++ prompt)) (hl : ∀ l ∈ ls, IsLine l) (hp : ¬ prompt <:+: ls.flatten) (hrc : retcode ls = 0) :
    nodeStatus node (ds.map .data ++ t) =
      (0, some (if ∃ l ∈ ls, cstr l = offLine node then 1 else if ∃ l ∈ ls, cstr l = onLine node then 2 else 0), t) :=
  nodeStatus_conforming node _ t ls (Seg_of_segmentation _ _ t hseg) hl hp hrc

/-- a status reply cut in three reads -/
example : nodeStatus (str "t1") [.data (str "303 t1"), .data (str ": on\r\n103 Query comp"), .data (str "lete\r\npowerman> ")]
    = (0, some 2, []) := by
  have h := C16_status_segmented (str "t1") _ _ [] status_sample.three status_lines status_sample.noPrompt status_sample.code
  simp only [List.map_cons, List.map_nil, List.append_nil] at h
  rw [h, str_chars, str_chars, str_chars]; decide +kernel
example : nodeStatus (str "t1") [.data (str "303 t1: off\r\n103 Query complete\r\npowerman> ")] = (0, some 1, []) := by
  rw [str_chars, str_chars]; decide +kernel
/-- both lines present: OFF wins -/
example : nodeStatus (str "t1") [.data (str "303 t1: on\r\n303 t1: off\r\n103 Query complete\r\npowerman> ")] = (0, some 1, []) := by
  rw [str_chars, str_chars]; decide +kernel
/-- a prefix match is no match: the reply speaks of `t1x`, the state of `t1` stays UNKNOWN -/
example : nodeStatus (str "t1") [.data (str "303 t1x: on\r\n103 Query complete\r\npowerman> ")] = (0, some 0, []) := by
  rw [str_chars, str_chars]; decide +kernel
example : onLine (str "t1") = str "303 t1: on\r\n" ∧ str "303 t1x: on\r\n" ≠ onLine (str "t1") := by
  rw [str_chars, str_chars, str_chars]; decide +kernel
example : nodeStatus (str "t9") [.data (str "204 No such nodes: t9\r\npowerman> ")] = (204, none, []) := by
  rw [str_chars, str_chars]; decide +kernel

/-! ## 6. node iteration -/

/-- the iterator yields exactly the words `sscanf("307 %s")` finds in the reply's lines, in stream order;
    a conforming line `307 <word>\r\n` yields its word; on a failed call the iterator is empty -/
theorem C16_nodes_spec (cs : List Chunk) :
    ((recvResponse cs).1 = 0 →
      nodeList cs = (0, (replyLines cs).filterMap (fun l => scan307 (cstr l)), (recvResponse cs).2.2)) ∧
    ((recvResponse cs).1 ≠ 0 → nodeList cs = ((recvResponse cs).1, [], (recvResponse cs).2.2)) ∧
    (∀ w, IsWord w → scan307 (cstr (nodeLine w)) = some w) :=
  ⟨nodeList_spec cs, nodeList_fail cs, scan307_nodeLine⟩

/-- the reply `307 w₁ … 307 wₙ`, a terminal line with a success code, the prompt — however segmented: exactly `w₁ … wₙ` -/
theorem C16_nodes_segmented (ds : List Bytes) (ws : List Bytes) (tl : RLine) (t : List Chunk)
    (hseg : Segmentation ds ((ws.map nodeLine ++ [tl.bytes]).flatten ++ prompt))
    (hw : ∀ w ∈ ws, IsWord w) (htl : tl.ok) (hc : (tl.code : Int) ∈ successCodes)
    (hp : ¬ prompt <:+: (ws.map nodeLine ++ [tl.bytes]).flatten) :
    nodeList (ds.map .data ++ t) = (0, ws, t) :=
  nodeList_conforming _ t ws tl (Seg_of_segmentation _ _ t hseg) hw htl hc hp

/-- the node-list sample meets the hypotheses of `C16_nodes_segmented` -/
structure NodesSample : Prop where
  seg : Segmentation [str "307 t1\r\n307", str " t2\r\n307 t3\r\n103 Query complete\r\npower", str "man> "]
    (([str "t1", str "t2", str "t3"].map nodeLine ++ [(⟨103, str "Query complete"⟩ : RLine).bytes]).flatten ++ prompt)
  words : ∀ w ∈ [str "t1", str "t2", str "t3"], IsWord w
  ok : (⟨103, str "Query complete"⟩ : RLine).ok
  code : ((⟨103, str "Query complete"⟩ : RLine).code : Int) ∈ successCodes
  noPrompt : ¬ prompt <:+: ([str "t1", str "t2", str "t3"].map nodeLine ++ [(⟨103, str "Query complete"⟩ : RLine).bytes]).flatten

theorem nodes_sample : NodesSample := by
  suffices h : _ ∧ _ ∧ _ ∧ _ ∧ _ by
    obtain ⟨a, b, c, d, e⟩ := h
    exact ⟨a, b, c, d, e⟩
  rw [str_chars, str_chars, str_chars, str_chars, str_chars, str_chars, str_chars]; decide +kernel

example : nodeList [.data (str "307 t1\r\n307"), .data (str " t2\r\n307 t3\r\n103 Query complete\r\npower"), .data (str "man> ")]
    = (0, [str "t1", str "t2", str "t3"], []) := by
  simpa using C16_nodes_segmented _ _ _ [] nodes_sample.seg nodes_sample.words nodes_sample.ok nodes_sample.code nodes_sample.noPrompt
example : Segmentation [str "307 t1\r\n307", str " t2\r\n307 t3\r\n103 Query complete\r\npower", str "man> "]
    (([str "t1", str "t2", str "t3"].map nodeLine ++ [(⟨103, str "Query complete"⟩ : RLine).bytes]).flatten ++ prompt) ∧
    (⟨103, str "Query complete"⟩ : RLine).ok ∧ IsWord (str "t2") :=
  ⟨nodes_sample.seg, nodes_sample.ok, nodes_sample.words _ (by simp)⟩

/-- the theorem applied to that stream -/
example : nodeList ([str "307 t1\r\n307", str " t2\r\n307 t3\r\n103 Query complete\r\npower", str "man> "].map .data ++ [])
    = (0, [str "t1", str "t2", str "t3"], []) :=
  C16_nodes_segmented _ _ _ [] nodes_sample.seg nodes_sample.words nodes_sample.ok nodes_sample.code nodes_sample.noPrompt

/-! ## 7. line splitting -/

/-- `_parse_response` on `l₁ ++ … ++ lₙ ++ prompt`, each `lᵢ` ending in CRLF and containing no other CRLF: exactly
    `[l₁, …, lₙ]` (the loop bound `i < len - 2` cuts nothing because the prompt follows) -/
theorem C16_parse_lines (ls : List Bytes) (hl : ∀ l ∈ ls, IsLine l) : parseResponse (ls.flatten ++ prompt) = ls :=
  parseResponse_lines ls hl

example : parseResponse (str "303 t1: on\r\n\r\n103 Query complete\r\npowerman> ") =
    [str "303 t1: on\r\n", str "\r\n", str "103 Query complete\r\n"] := by
  rw [str_chars, str_chars, str_chars, str_chars]; decide +kernel
example : IsLine (str "303 t1: on\r\n") := status_lines _ (by simp)
/-- without the prompt behind it the last CRLF is not seen (the model keeps the C loop bound) -/
example : parseResponse (str "103 Query complete\r\n") = [] := by
  rw [str_chars]; decide +kernel

/-! ## 8. the CLI -/

/-- `_process_response` on one conforming response, however segmented: intermediate lines (number outside 100…299), then the
    terminal line.  The result is the 2xx code or 0; stdout receives `text ++ "\n"` of every line except 103/104/105 and 309,
    stderr that of the 309 lines; what follows the terminal line is left unread -/
theorem C16_process_response_spec (ds : List Bytes) (ls : List RLine) (tl : RLine) (rest : Bytes) (t : List Chunk) (c : Cli) (fuel : Nat)
    (hseg : Segmentation ds (bytesOfLines ls ++ tl.bytes ++ rest)) (hcs : c.cs = ds.map .data ++ t)
    (hls : ∀ l ∈ ls, l.ok ∧ ¬ (100 ≤ l.code ∧ l.code < 300)) (htl : tl.ok) (h1 : 100 ≤ tl.code) (h3 : tl.code < 300)
    (hf : ls.length < fuel) :
    ∃ cs', processResponse fuel c =
        (.ok (if 200 ≤ tl.code then (tl.code : Int) else 0),
         { cs := cs', out := c.out ++ outOf (ls ++ [tl]), errs := c.errs ++ errOf (ls ++ [tl]) }) ∧ Seg cs' rest t :=
  processResponse_seg ls tl c rest t fuel hls htl h1 h3 (by rw [hcs]; exact Seg_of_segmentation _ _ t hseg) hf

/-- the whole run on a conforming stream, however segmented: banner `001 v`, prompt, then the exchanges `main` performs
    (`init ++ [last]`: each a response and a prompt; `main` performs the option exchanges and the command, `exchanges o` in
    all, and stops after the first whose terminal code is 2xx), then `101 Goodbye`.
    `exit` receives 0 if the terminal code of the last exchange performed is 1xx, else that 2xx code (the OS keeps it
    modulo 256: finding F13); stdout is the text of all lines except 103/104/105 and 309, stderr the version warning, if
    any, and the text of the 309 lines -/
theorem C16_cli_exit (o : CliOpts) (v : Bytes) (init : List Exch) (last : Exch) (ds : List Bytes) (t : List Chunk)
    (hseg : Segmentation ds (bannerLine v ++ prompt ++ bytesOfExchs (init ++ [last]) ++ goodbye))
    (hv : IsWord v) (hinit : ∀ e ∈ init, e.ok ∧ e.res = 0) (hlast : last.ok)
    (hk : init.length + 1 = exchanges o ∨ (init.length + 1 ≤ exchanges o ∧ last.res ≠ 0)) :
    cliRun o (ds.map .data ++ t) =
      (last.res, ((init ++ [last]).map fun e => outOf e.all).flatten,
       versionWarning o v ++ ((init ++ [last]).map fun e => errOf e.all).flatten) ∧
    (last.res = 0 ↔ last.term.code < 200) ∧ (last.res ≠ 0 → last.res = last.term.code) := by
  refine ⟨cliRun_conforming o v init last _ t (Seg_of_segmentation _ _ t hseg) hv hinit hlast hk, ?_, ?_⟩
  · unfold Exch.res; have := hlast.2.2.1; split <;> omega
  · unfold Exch.res; split <;> simp

/-- `powerman -x -q t1`, the stream in pieces of irregular size, as an instance of the theorem's hypotheses -/
theorem cli_sample_conforming :
    Segmentation [str "001 2.", str "3\r\npowerman> 105 Hostrange expansion ON\r", str "\npowerman> 303 t1: on\r\n103 Query comp",
      str "lete\r\npowerman> 101 Good", str "bye\r\n"]
    (bannerLine (str "2.3") ++ prompt ++ bytesOfExchs ([⟨[], ⟨105, str "Hostrange expansion ON"⟩⟩] ++
      [⟨[⟨303, str "t1: on"⟩], ⟨103, str "Query complete"⟩⟩]) ++ goodbye) ∧
    (⟨[], ⟨105, str "Hostrange expansion ON"⟩⟩ : Exch).ok ∧ (⟨[], ⟨105, str "Hostrange expansion ON"⟩⟩ : Exch).res = 0 ∧
    (⟨[⟨303, str "t1: on"⟩], ⟨103, str "Query complete"⟩⟩ : Exch).ok ∧ IsWord (str "2.3") ∧
    exchanges ⟨false, true, str "2.3"⟩ = 2 := by
  rw [str_chars, str_chars, str_chars, str_chars, str_chars, str_chars, str_chars, str_chars, str_chars]; decide +kernel
example : Segmentation [str "001 2.", str "3\r\npowerman> 105 Hostrange expansion ON\r", str "\npowerman> 303 t1: on\r\n103 Query comp",
      str "lete\r\npowerman> 101 Good", str "bye\r\n"]
    (bannerLine (str "2.3") ++ prompt ++ bytesOfExchs ([⟨[], ⟨105, str "Hostrange expansion ON"⟩⟩] ++
      [⟨[⟨303, str "t1: on"⟩], ⟨103, str "Query complete"⟩⟩]) ++ goodbye) ∧
    (⟨[], ⟨105, str "Hostrange expansion ON"⟩⟩ : Exch).ok ∧ (⟨[], ⟨105, str "Hostrange expansion ON"⟩⟩ : Exch).res = 0 ∧
    (⟨[⟨303, str "t1: on"⟩], ⟨103, str "Query complete"⟩⟩ : Exch).ok ∧ IsWord (str "2.3") ∧
    exchanges ⟨false, true, str "2.3"⟩ = 2 := cli_sample_conforming
/-- the theorem applied to it: exit 0, the status line on stdout -/
example : cliRun ⟨false, true, str "2.3"⟩
    [.data (str "001 2."), .data (str "3\r\npowerman> 105 Hostrange expansion ON\r"), .data (str "\npowerman> 303 t1: on\r\n103 Query comp"),
     .data (str "lete\r\npowerman> 101 Good"), .data (str "bye\r\n")] = (0, str "t1: on\n", []) := by
  obtain ⟨hseg, he, hr, hl, hv, hk⟩ := cli_sample_conforming
  have h := (C16_cli_exit _ _ _ _ _ [] hseg hv (by simpa using ⟨he, hr⟩) hl (.inl hk.symm)).1
  simp only [List.map_cons, List.map_nil, List.append_nil] at h
  rw [h, str_chars, str_chars, str_chars, str_chars, str_chars]; decide +kernel
example : (cliRun ⟨false, true, str "2.3"⟩ ([str "001 2.", str "3\r\npowerman> 105 Hostrange expansion ON\r",
      str "\npowerman> 303 t1: on\r\n103 Query comp", str "lete\r\npowerman> 101 Good", str "bye\r\n"].map .data ++ [])).1 = 0 := by
  obtain ⟨hseg, he, hr, hl, hv, hk⟩ := cli_sample_conforming
  rw [(C16_cli_exit _ _ _ _ _ [] hseg hv (by simpa using ⟨he, hr⟩) hl (.inl hk.symm)).1]; rfl
/-- a command that fails: the text goes to stdout, `exit(204)`; a version mismatch is reported on stderr -/
example : cliRun ⟨false, false, str "2.4"⟩
    [.data (str "001 2.3\r\npowerman> 204 No such nodes: t9\r\npowerman> 101 Goodbye\r\n")] =
    (204, str "No such nodes: t9\n", str "powerman: warning: server version (2.3) != client (2.4)\n") := by
  rw [str_chars, str_chars, str_chars, str_chars]; decide +kernel
/-- an option exchange that fails ends the run: the command's exchange is not performed -/
example : cliRun ⟨true, false, str "2.3"⟩
    [.data (str "001 2.3\r\npowerman> 201 Unknown command\r\npowerman> 101 Goodbye\r\n")] =
    (201, str "Unknown command\n", []) := by
  rw [str_chars, str_chars, str_chars]; decide +kernel

end Pm.Props.C16
