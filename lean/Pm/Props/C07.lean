import Pm.Dev2Fd
import Pm.ToBufProps
import Pm.CurInv
/-! # C07 — no device behaviour can crash the daemon: the connection layer's asserts and `dbg_memstr`

Scope: the four `assert`s on descriptor / connection state (`tcp_connect` and `pipe_connect`:
`connect_state == DEV_NOT_CONNECTED`, `fd == NO_FD`; `_handle_ready_device`: `connect_state != DEV_NOT_CONNECTED`,
`fd != NO_FD`), the `assert`s of `tcp_disconnect` / `pipe_disconnect` and `assert(dev->finish_connect != NULL)` (not
mirrored as abort sites in the model: shown from the state invariants), and the buffer arithmetic of `debug.c:dbg_memstr` with everything built on it
(telemetry of `_process_expect`, `_process_send`, the timeout branch).  On the mirror `Pm/Dev2.lean`, for every device,
queue, script, oracle answer, kernel answer and fuel.

The other `Sys.abort` entries of the model ("no socket/connect answer", "no SO_ERROR answer", "no read answer",
"no socketpair/fork answer") are the harness running out of scripted kernel answers, not C asserts; the other
`Out.abortAssert` sites (`cur == NULL`, the `hostlist_sort` assert F19, fuel) belong to other properties.  `xregex_match_sub_strdup` has no `assert(xm->xm_used)`: a script that uses `$N` before any `expect` reads `NULL`
(`C07_set_before_expect_harmless`). -/
namespace Pm.Props.C07
open Pm.Dev2
open Pm.Dev2.Fd

/-! ## the asserts of the connection layer -/

/-- From a state in which `dev->fd == NO_FD` exactly when `connect_state == DEV_NOT_CONNECTED` (`FdInv`, kept by every
    pass: `C20_fd_inv_preserved`), a `dev_post_poll` pass reaches none of the four asserts — also when the host has several
    addresses and `tcp_connect` / `tcp_finish_connect` walk over them (every failed address leaves `fd == NO_FD` behind before
    the next is tried: `C20_fd_ledger_walk`).  Finding F6 is the state this excludes: a stale `dev->fd` after a failed
    `tcp_finish_connect` trips `assert(dev->fd == NO_FD)` on the next reconnect or `assert(connect_state != NOT_CONNECTED)`
    on the next poll event (`C07_stale_fd_counterexample`). -/
theorem C07_connect_asserts_unreachable (d : Dev) (env : Env) (o : Oracle) (h : FdInv d) :
    (postPoll d env o).1.sys.any isCAssert = false :=
  (postPoll_moves d env o).keeps_all.noAssert h rfl

/-- the same, spelt out for the four abort entries -/
theorem C07_connect_asserts_unreachable' (d : Dev) (env : Env) (o : Oracle) (h : FdInv d) :
    Sys.abort "assert fd == NO_FD" ∉ (postPoll d env o).1.sys ∧
    Sys.abort "assert connect_state == NOT_CONNECTED" ∉ (postPoll d env o).1.sys ∧
    Sys.abort "assert connect_state != NOT_CONNECTED" ∉ (postPoll d env o).1.sys ∧
    Sys.abort "assert fd != NO_FD" ∉ (postPoll d env o).1.sys := by
  have hn := C07_connect_asserts_unreachable d env o h
  rw [List.any_eq_false] at hn
  -- each of the four texts is one of the alternatives of `isCAssertStr`: no two different texts are compared
  refine ⟨fun hm => ?_, fun hm => ?_, fun hm => ?_, fun hm => ?_⟩ <;>
    exact hn _ hm (by simp only [isCAssert, isCAssertStr, beq_self_eq_true, Bool.or_true, Bool.true_or])

/-- non-vacuity of the hypothesis, and the reason it is there: from the F6 state (descriptor number left in `dev->fd`
    while NOT_CONNECTED) a poll event on that number does reach an assert -/
theorem C07_stale_fd_counterexample : ¬ FdInv exStale ∧ (postPoll exStale exEnv ⟨[]⟩).1.sys.any isCAssert = true := by
  unfold FdInv; decide +kernel

/-- the hypothesis is satisfiable on a pass that does real work (hang-up, close, new socket) -/
example : FdInv exTcp ∧ (postPoll exTcp exEnv ⟨[]⟩).1.sys.length = 3 := by unfold FdInv; decide +kernel

/-- the same for the functions that contain the assert sites, in invariant form: `_reconnect` (which calls
    `tcp_connect` / `pipe_connect`) and `_handle_ready_device` called, as `dev_post_poll` does, with a descriptor held -/
theorem C07_assert_sites (c : CS) (tmo : Option Time) (h : FdInv c.dev) (hs : c.sys.any isCAssert = false) :
    (reconnectDev c tmo).1.sys.any isCAssert = false ∧
    (c.dev.fd.isSome = true → (handleReady c).1.sys.any isCAssert = false) :=
  ⟨(reconnectDev_moves c tmo).keeps_all.noAssert h hs, fun hfd => (handleReady_moves c hfd).keeps_all.noAssert h hs⟩

example : FdInv exTcp ∧ ([] : List Sys).any isCAssert = false ∧ exTcp.fd.isSome = true := by unfold FdInv; decide +kernel

/-- … and through `_process_action` (whose error branch calls `_reconnect`), every fuel -/
theorem C07_assert_sites_processAction (fuel : Nat) (c : CS) (o : Oracle) (out : List Out) (tmo : Option Time)
    (h : FdInv c.dev) (hs : c.sys.any isCAssert = false) :
    (processActionF fuel c o out tmo).1.sys.any isCAssert = false :=
  (processActionF_moves fuel c o out tmo).keeps_all.noAssert h hs

/-- `tcp_disconnect: assert(connect_state == DEV_CONNECTING || connect_state == DEV_CONNECTED)` and
    `pipe_disconnect: assert(connect_state == DEV_CONNECTED)` are not abort sites of the model; `_reconnect` calls
    `_disconnect` only when `connect_state != DEV_NOT_CONNECTED`, and in every state satisfying the invariants of C20
    that guard implies the asserted condition -/
theorem C07_disconnect_asserts_hold (d : Dev) (hc : ChildInv d) (hr : ConnRange d) (h0 : d.conn ≠ 0) :
    (d.isPipe = false → d.conn = 1 ∨ d.conn = 2) ∧ (d.isPipe = true → d.conn = 2) := by
  unfold ConnRange at hr
  refine ⟨fun _ => by omega, fun hp => ?_⟩
  have := hc.2.2 hp
  omega

example : ChildInv exPipe ∧ ConnRange exPipe ∧ exPipe.conn ≠ 0 := by simp [ChildInv, ConnRange, exPipe, exDev]

/-- `_handle_ready_device: assert(dev->finish_connect != NULL)` (the method is NULL for coprocess and serial devices; a fifth
    abort site of the model, `Sys.abort "assert finish_connect != NULL"`, beside the four of `isCAssert`) is reached only in state
    CONNECTING, which a coprocess device never is in (`ChildInv`, kept by every pass: `C20_child_inv_preserved`) -/
theorem C07_finish_connect_assert_holds (d : Dev) (hc : ChildInv d) (h1 : d.conn = 1) : d.isPipe = false := by
  cases hp : d.isPipe
  · rfl
  · exact absurd h1 (hc.2.2 hp)

example : ChildInv { exDev with conn := 1, fd := some 7 } ∧ ({ exDev with conn := 1, fd := some 7 } : Dev).conn = 1 := by
  simp [ChildInv, exDev]

/-- … and over a whole pass: from a state that satisfies `ChildInv` (kept by every pass, `C20_child_inv_preserved`) a
    `dev_post_poll` pass does not reach `assert(dev->finish_connect != NULL)`; likewise `_reconnect` and `_handle_ready_device`
    taken alone.  Without `ChildInv`: `C20_pipe_connecting_asserts`. -/
theorem C07_finish_connect_assert_unreachable (d : Dev) (env : Env) (o : Oracle) (h : ChildInv d) :
    (postPoll d env o).1.sys.any isPAssert = false ∧
    (∀ (c : CS) (tmo : Option Time), ChildInv c.dev → c.sys.any isPAssert = false →
      (reconnectDev c tmo).1.sys.any isPAssert = false ∧
      (c.dev.fd.isSome = true → (handleReady c).1.sys.any isPAssert = false)) :=
  ⟨(postPoll_moves d env o).keeps_all.noPAssert h rfl,
   fun c tmo hc hs => ⟨(reconnectDev_moves c tmo).keeps_all.noPAssert hc hs, fun hfd => (handleReady_moves c hfd).keeps_all.noPAssert hc hs⟩⟩

example : ChildInv exPipe ∧ (postPoll exPipe exEnv ⟨[]⟩).1.sys.length = 6 := by
  refine ⟨by simp [ChildInv, exPipe, exDev], by decide⟩

/-- **`tcp_finish_connect` never dereferences a NULL `tcp->cur`** (`tcp->cur = tcp->cur->ai_next` after a failed `SO_ERROR`; the
    mirror's abort `tcp->cur == NULL in tcp_finish_connect`).  `CurInv d`: while the device is CONNECTING `tcp->cur` points into
    the address list.  It holds in every state the daemon can bring a device to from `dev_create` (`Login2.Reach`), it is kept
    by a whole `dev_post_poll` pass whatever the kernel and the device answer — `tcp_connect` leaves the device CONNECTING only
    on an address of the list, `tcp_finish_connect` moves to a later one or gives up — and under it the failure path of
    `tcp_finish_connect` finds an address current.  Also: the iteration bound (`naddr`) the mirror gives the address walk is never
    used up before the list is (more fuel changes nothing). -/
theorem C07_finish_connect_cur_not_null :
    (∀ d0 d : Dev, Pm.Dev2.Login2.Reach d0 d → d0.conn = 0 → Pm.Dev2.Walk.CurInv d) ∧
    (∀ (d : Dev) (env : Env) (o : Oracle), Pm.Dev2.Walk.CurInv d → Pm.Dev2.Walk.CurInv (postPoll d env o).1.dev) ∧
    (∀ c : CS, Pm.Dev2.Walk.CurInv c.dev → c.dev.conn = 1 → (closeFd c).dev.cur ≠ none) ∧
    (∀ (n k : Nat) (c : CS), (∀ i, c.dev.cur = some i → i < c.dev.naddr ∧ c.dev.naddr - i ≤ n) →
      connectWalk (n + k) c = connectWalk n c) :=
  ⟨fun _ _ h h0 => Pm.Dev2.Walk.Reach.curInv h h0, Pm.Dev2.Walk.postPoll_curInv, Pm.Dev2.Walk.finishConnectFail_cur_some,
   Pm.Dev2.Walk.connectWalk_fuel⟩

/-- non-vacuity: the three-address device CONNECTING on its third address after two failures -/
example : Pm.Dev2.Walk.CurInv (tcpConnect ⟨Pm.Dev2.Walk.ex3, Pm.Dev2.Walk.env221, [], false⟩).1.dev ∧
    (tcpConnect ⟨Pm.Dev2.Walk.ex3, Pm.Dev2.Walk.env221, [], false⟩).1.dev.conn = 1 :=
  ⟨fun _ => ⟨2, by decide, by decide⟩, by decide⟩

/-! ## `dbg_memstr` -/

/-- the arithmetic of `dbg_memstr` (bytes printed through `unsigned char`) never writes past the `4*len+1` bytes it allocates,
    whatever the bytes are (finding F2: printed through `char`, a byte ≥ 0x80 produces eleven octal digits) -/
theorem C07_memstr_never_overflows (bs : Bytes) : memstrOverflows bs = false := memstrOverflows_false bs

/-- and the text it produces is at most `4*len` bytes long (plus the terminator: the allocation) -/
theorem C07_memstr_length (bs : Bytes) : (memstr bs).length + 1 ≤ 4 * bs.length + 1 := by
  have := memstr_length bs; omega

example : memstrOverflows [255, 13, 65, 0] = false ∧ (memstr [255, 13, 65, 0]).length = 11 := by decide +kernel

/-- hence the telemetry line built from it is always the line, never the abort -/
theorem C07_teleMem_never_aborts (cid : Nat) (pre : String) (bs : Bytes) :
    teleMem cid pre bs = [Out.telemetry cid (str pre ++ memstr bs ++ str "'")] ∧ hasAbort (teleMem cid pre bs) = false :=
  ⟨teleMem_eq cid pre bs, teleMem_noAbort cid pre bs⟩

/-- hence the timeout branch of `_process_action` never takes its abort exit: it always completes the queue with the
    timeout error (`timeoutErr`, `timeoutTele` name the error and the telemetry line of `onTimeout`) -/
theorem C07_timeout_branch_never_aborts (rest : List Action) (c : CS) (a : Action) (o : Oracle) (out : List Out)
    (tmo : Option Time) :
    hasAbort (timeoutTele c.dev a) = false ∧
    onTimeout rest c a o out tmo
      = failAll rest c { a with errnum := timeoutErr c.dev } o (out ++ timeoutTele c.dev a) tmo :=
  ⟨timeoutTele_noAbort c.dev a, onTimeout_eq_failAll rest c a o out tmo⟩

/-- hence `_process_expect` (whose only reachable assert was `dbg_memstr`'s) never aborts, whatever the device sent -/
theorem C07_expect_never_aborts (d : Dev) (a : Action) (o : Oracle) (pat : Nat) :
    hasAbort (stmtExpect d a o pat).out = false := stmtExpect_noAbort d a o pat

/-! ## captured substrings (`xregex_match_sub_strdup`) -/

/-- what `subOf` returns is a contiguous piece of the subject of the last successful match, so never longer than it.
    (The model's `take`/`drop` truncate silently, so this says nothing about the C pointer arithmetic when the
    offsets are out of range; `regexec` guarantees they are not, and then the length is exact: `C07_sub_length`.) -/
theorem C07_sub_is_piece_of_subject (d : Dev) (i : Int) (s : Bytes) (h : subOf d i = some s) :
    ∃ subj, d.xmStr = some subj ∧ s <:+: subj ∧ s.length ≤ subj.length := subOf_infix d i s h

/-- with offsets inside the subject the copy has exactly `eo - so` bytes -/
theorem C07_sub_length (d : Dev) (i so eo : Int) (subj : Bytes) (hu : d.xmUsed = true) (hr : d.xmResult = true) (hi : 0 ≤ i)
    (ho : d.xmOffs[i.toNat]? = some (so, eo)) (hs : d.xmStr = some subj) (h0 : 0 ≤ so) (h2 : eo.toNat ≤ subj.length) :
    ∃ s, subOf d i = some s ∧ s.length = (eo - so).toNat := subOf_length d i so eo subj hu hr hi ho hs h0 h2

example : subOf { exDev with xmUsed := true, xmResult := true, xmStr := some [1, 2, 3, 4], xmOffs := [(0, 4), (1, 3)] } 1 = some [2, 3] := by
  decide

/-- without match data (`!xm_used`: no `expect` has run since the match object was created or recycled) there is no such substring: `NULL` -/
theorem C07_sub_without_match (d : Dev) (i : Int) (h : d.xmUsed = false) : subOf d i = none := subOf_unused d i h

/-- **`setplugstate` / `setresult` before any `expect` are harmless.**  With no match data (`d.xmUsed = false`) both
    statements finish at once, produce no output — in particular no abort: there is no `assert(xm->xm_used)` —, ask the regex engine nothing, and leave the device (argument lists included) and the
    action exactly as they were.  This holds whatever the statement's arguments are: with a literal plug name the status
    capture is `NULL`; without one the plug name falls back to the action's target plug exactly as when the group is
    unset, and the status capture is `NULL` again. -/
theorem C07_set_before_expect_harmless (d : Dev) (a : Action) (o : Oracle) (e : ExecCtx) (h : d.xmUsed = false)
    (lit : Option Bytes) (plugMp statMp : Int) (si : List (PState × Nat)) (ri : List (PResult × Nat)) :
    stmtSetplugstate d a o e lit plugMp statMp si = ⟨d, a, o, [], true⟩ ∧
    stmtSetresult d a o plugMp statMp ri = ⟨d, a, o, [], true⟩ :=
  ⟨stmtSetplugstate_idle d a o e lit plugMp statMp si h, stmtSetresult_idle d a o plugMp statMp ri h⟩

/-- non-vacuity: the device of the examples has not matched anything yet; a `setplugstate "1" $1 on=…` and a
    `setresult $1 $2 …` run on it do nothing (and `hasAbort` of their output is `false`) -/
example : exDev.xmUsed = false ∧
    (stmtSetplugstate exDev default ⟨[]⟩ default (some [49]) (-1) 1 [(.on, 0)]).finished = true ∧
    hasAbort (stmtSetplugstate exDev default ⟨[]⟩ default (some [49]) (-1) 1 [(.on, 0)]).out = false ∧
    hasAbort (stmtSetresult exDev default ⟨[]⟩ 1 2 [(.success, 0)]).out = false := by decide

/-! ## the overrun of `dev->to` (F33) -/

/-- **A `send` that overruns the device output buffer never aborts.**  `dev->to` holds 65536 bytes (`MAX_DEV_BUF`) and is a cbuf
    in overwrite mode: `cbuf_write` stores the text and reports in `dropped` how many of the oldest unsent bytes it overwrote.
    For every device state, action, context and text: when the text does not fit behind what is queued
    (`|toBuf ++ s| > 65536` — a tcp device that does not read while it floods `IAC DO x`, each answered with 3 queued bytes,
    gets there), the statement reports the text as sent and nothing else — no abort outcome, and no telemetry line
    (`else if (dropped > 0) err(…) else { … vpf_fun(…) }`) —, the oldest queued bytes give way (`clipTo`), the buffer is exactly
    full and the statement waits for it to drain.  And in general (`C07_send_aborts_only_on_sort`): the only abort outcome of
    `_process_send` is the `hostlist_sort` assertion F19, which does not depend on the buffer.
    Finding F33: an `assert(dropped == strlen(str) - written)` in this place — with `written == strlen(str)` always
    (overwrite mode stores everything) it asserts `dropped == 0` — is false on every overrun
    (`C07_send_overrun_old_assert_counterexample`) and aborts powermand at the next `send` of any script.  The C code logs the
    overrun and goes on; the correspondence run with the telnet storm (`lib/daemon.py`, `storm`) reaches this state. -/
theorem C07_send_overrun_never_aborts (d : Dev) (a : Action) (o : Oracle) (e : ExecCtx) (fmt s : Bytes)
    (hp : e.processing = false) (hs : Pm.Dev2.Interp.sendText fmt e.plugs = some s) (hov : 65536 < (d.toBuf ++ s).length) :
    (stmtSend d a o e fmt).out = [Out.sent s] ∧ hasAbort (stmtSend d a o e fmt).out = false ∧
    (stmtSend d a o e fmt).dev = { d with toBuf := clipTo (d.toBuf ++ s) } ∧
    (stmtSend d a o e fmt).dev.toBuf.length = 65536 ∧ (stmtSend d a o e fmt).finished = false :=
  Pm.Dev2.ToBufP.stmtSend_overrun d a o e fmt s hp hs hov

/-- the only abort outcome of `_process_send`, whatever is queued: the `hostlist_sort` assertion (F19; `sendText … = none`) on
    the first visit of the statement -/
theorem C07_send_aborts_only_on_sort (d : Dev) (a : Action) (o : Oracle) (e : ExecCtx) (fmt : Bytes) :
    hasAbort (stmtSend d a o e fmt).out = true ↔ e.processing = false ∧ Pm.Dev2.Interp.sendText fmt e.plugs = none :=
  Pm.Dev2.ToBufP.stmtSend_abort_iff d a o e fmt

/-- non-vacuity: `send "l\n"` against 65536 queued bytes overruns; the statement's whole output is the record of the text -/
example (a : Action) (o : Oracle) :
    65536 < (Pm.Dev2.ToBufP.fullDev.toBuf ++ [108, 10]).length ∧
    (stmtSend Pm.Dev2.ToBufP.fullDev a o Pm.Dev2.ToBufP.sendCtx [108, 10]).out = [Out.sent [108, 10]] := by
  have h : 65536 < (Pm.Dev2.ToBufP.fullDev.toBuf ++ [108, 10]).length := by
    rw [List.length_append, Pm.Dev2.ToBufP.fullDev_len]; decide
  exact ⟨h, (C07_send_overrun_never_aborts _ a o _ _ _ rfl Pm.Dev2.ToBufP.sendCtx_text h).1⟩

/-- what the assertion of finding F33 demands: `dropped == strlen(str) - written`, i.e. (everything is always written)
    `dropped == 0`; on the overrun above `dropped` is 2 -/
theorem C07_send_overrun_old_assert_counterexample :
    toDropped Pm.Dev2.ToBufP.fullDev.toBuf [108, 10] = 2 ∧ toOverrun Pm.Dev2.ToBufP.fullDev.toBuf [108, 10] = true := by
  -- against a full buffer exactly the new text is dropped; stated for any buffer so that the 65536 bytes are never looked at
  have full (old s : Bytes) (hl : old.length = 65536) : toDropped old s = s.length := by
    unfold toDropped; rw [List.length_append, hl, Nat.add_sub_cancel_left]
  have h : toDropped Pm.Dev2.ToBufP.fullDev.toBuf [108, 10] = 2 := full _ _ Pm.Dev2.ToBufP.fullDev_len
  exact ⟨h, (toOverrun_iff _ _).mpr (by rw [h]; decide)⟩

end Pm.Props.C07
