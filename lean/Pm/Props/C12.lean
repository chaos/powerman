import Pm.Dev2Count
import Pm.Dev2Timer
import Pm.InterpSends
import Pm.WalkProof
/-! # C12 — failures are contained, reported and recovered from -/
namespace Pm.Props.C12
open Pm.Dev2

/-- every entry of the back-off table is at least one second -/
theorem C12_rtab_ge_one : ∀ x ∈ rtab, 1 ≤ x := Timer.rtab_ge_one

/-- `_time_to_reconnect`: once an attempt has been made (`retry_count > 0`) and no client request has reset the
    counter, no further attempt is allowed within one second of the last one — whatever the counter's value -/
theorem C12_backoff_one_second (d : Dev) (now : Time) (h : 0 < d.retryCount) (hn : now < d.lastRetry + 1000000) :
    (timeToReconnect d now).1 = false := by
  -- a back-off lasts at least a second (`Timer.backoffEnd_ge`): it is still running
  have hrun : now < Timer.backoffEnd d := Nat.lt_of_lt_of_le hn (Timer.backoffEnd_ge d)
  rcases Timer.timeToReconnect_spec d now with ⟨_, h0 | he⟩ | ⟨e, _, _⟩
  · exact absurd h0 (Nat.ne_of_gt h)
  · exact absurd he (Nat.not_le_of_lt hrun)
  · rw [e]

/-- `_reconnect` under the same conditions performs no system call at all on a device that is not connected:
    no `socket`, no `connect`, no `fork` — for a host with several addresses: none of them is tried (one *attempt* is one walk
    over the whole address list, `C12_attempt_walks_all_addresses`; the back-off spaces attempts, not addresses) -/
theorem C12_no_attempt_within_backoff (c : CS) (tmo : Option Time) (h0 : c.dev.conn = 0)
    (h : 0 < c.dev.retryCount) (hn : c.env.now < c.dev.lastRetry + 1000000) :
    (reconnectDev c tmo).1.sys = c.sys ∧ (reconnectDev c tmo).1.dev.conn = 0 := by
  -- the second alternative of `reconnectDev_cases`: the first is excluded because the back-off is still running
  obtain ⟨c1, hc1, _, ⟨h1 | h1, _⟩ | ⟨_, _, e⟩⟩ := reconnectDev_cases c tmo
  all_goals rw [if_neg (by simp [h0])] at hc1; subst hc1
  · exact absurd h1 (Nat.ne_of_gt h)
  · exact absurd h1 (Nat.not_le_of_lt (Nat.lt_of_lt_of_le hn (Timer.backoffEnd_ge c1.dev)))
  · rw [e]; exact ⟨rfl, h0⟩

/-- the error branch of `_process_action` empties the queue and reports every client action in it exactly once:
    the failing head with its own error, everything behind it as aborted (or with the same connect/login error) -/
theorem C12_fail_all_reports (rest : List Action) (c : CS) (a : Action) (o : Oracle) (out : List Out) (tmo : Option Time)
    (cid : Nat) (hc : cid ≠ 0) :
    fcount cid (failAll rest c a o out tmo).2.2.1 = fcount cid out + qcount cid (a :: rest) ∧
    qcount cid (failAll rest c a o out tmo).1.dev.acts = 0 := by
  have h := failAll_count rest c a o out tmo cid hc
  have hq : qcount cid (failAll rest c a o out tmo).1.dev.acts = 0 := failAll_queue_empty rest c a o out tmo cid hc
  omega

/-- `_rewind_action` leaves the pre-empted action in the configuration a fresh action has: one context, at the
    first statement, nothing in progress, no live plug iterator — so it re-executes from its first statement -/
theorem C12_rewind_initial (a : Action) (e : ExecCtx) (h : a.exec.getLast? = some e) :
    (rewind a).exec = [{ e with pos := 0, processing := false, plugItr := none }] := by
  unfold rewind; simp [h]

/-! ## i/o errors, restart after a connect, what a time-out reports, recovery

Helper lemmas: `Pm/Dev2Timer.lean`.  `closeOf fd` is `[close fd]` for a descriptor held and `[]` otherwise; `reapOf p pid` is
`[kill pid, waitpid pid]` for a coprocess (`p`) with a recorded child and `[]` otherwise; `dropLogin q` is `q` without a
leading login action (script 0); `backoffEnd d = d.lastRetry + rtab[min (d.retryCount − 1) 6]·10⁶`. -/
section recovery
open Pm.Dev2.Timer Pm.Dev2.Fd Pm.Dev2.Interp

/-- **When `_handle_ready_device` reports an i/o error on a CONNECTED device** (holding a descriptor): exactly when `poll`
    reports POLLHUP/POLLERR/POLLNVAL, or POLLOUT with nothing to write ("write sent no data") or a failing `write`
    (`writeOk = false`: EPIPE; `wcap = 0`: the descriptor takes nothing, EAGAIN — a short write of at least one byte is
    not an error, `C09_device_short_write`), or POLLIN with a failing `read` or end of file. -/
theorem C12_ioerr_kinds (c : CS) (h2 : c.dev.conn = 2) (hfd : c.dev.fd.isSome = true) :
    (handleReady c).2 = true ↔
      (c.env.revents &&& 4 != 0 || c.env.revents &&& 8 != 0 || c.env.revents &&& 16 != 0) = true ∨
      ((c.env.revents &&& 2 != 0) = true ∧ (c.dev.toBuf.isEmpty = true ∨ c.env.writeOk = false ∨ c.env.wcap = 0)) ∨
      ((c.env.revents &&& 1 != 0) = true ∧ (c.env.read = some none ∨ c.env.read = some (some []))) :=
  (handleReady_connected c h2 hfd).1

/-- **An i/o error disconnects, keeps every client action, and leads to a reconnect or its back-off.**  Let
    `c1 = (handleReady c).1` be the state in which `_handle_ready_device` reports the error on a CONNECTED device.
    (1) It has touched neither the queue, nor the descriptor, the child, the transport, the login flag, and has not
    aborted.  (2) `_disconnect` — which `_reconnect` runs first since the state is not NOT_CONNECTED — closes that
    descriptor, signals and reaps the coprocess child if there is one, and nothing else; afterwards no descriptor (and,
    for a coprocess, no child) is recorded, both buffers are empty, the state is NOT_CONNECTED and not logged in; a login
    action at the head of the queue is removed and EVERY OTHER queued action is kept, in order.  (3) Then `_reconnect`
    either makes a connect attempt at once (no attempt counted so far, or the back-off is over) or changes nothing more
    and registers the remaining back-off.  (4) In `dev_post_poll` that `_reconnect` is what follows an i/o error. -/
theorem C12_ioerr (c : CS) (tmo : Option Time) (h2 : c.dev.conn = 2) (hfd : c.dev.fd.isSome = true)
    (he : (handleReady c).2 = true) :
    ((handleReady c).1.dev.acts = c.dev.acts ∧ (handleReady c).1.dev.conn = 2 ∧ (handleReady c).1.dev.fd = c.dev.fd ∧
      (handleReady c).1.dev.cpid = c.dev.cpid ∧ (handleReady c).1.dev.isPipe = c.dev.isPipe ∧
      (handleReady c).1.dev.loggedIn = c.dev.loggedIn ∧ (handleReady c).1.aborted = c.aborted) ∧
    ((disconnectDev (handleReady c).1).sys = (handleReady c).1.sys ++ closeOf c.dev.fd ++ reapOf c.dev.isPipe c.dev.cpid ∧
      (disconnectDev (handleReady c).1).dev.fd = none ∧
      (disconnectDev (handleReady c).1).dev.cpid = (if c.dev.isPipe then none else c.dev.cpid) ∧
      (disconnectDev (handleReady c).1).dev.toBuf = [] ∧ (disconnectDev (handleReady c).1).dev.fromBuf = [] ∧
      (disconnectDev (handleReady c).1).dev.conn = 0 ∧ (disconnectDev (handleReady c).1).dev.loggedIn = false ∧
      (disconnectDev (handleReady c).1).dev.acts = dropLogin c.dev.acts ∧
      (disconnectDev (handleReady c).1).aborted = c.aborted) ∧
    ((((handleReady c).1.dev.retryCount = 0 ∨ backoffEnd (handleReady c).1.dev ≤ (handleReady c).1.env.now) ∧
        reconnectDev (handleReady c).1 tmo = (connectDev (disconnectDev (handleReady c).1), tmo)) ∨
      (0 < (handleReady c).1.dev.retryCount ∧ (handleReady c).1.env.now < backoffEnd (handleReady c).1.dev ∧
        reconnectDev (handleReady c).1 tmo =
          (disconnectDev (handleReady c).1, upd tmo (backoffEnd (handleReady c).1.dev - (handleReady c).1.env.now)))) ∧
    Pm.Dev2.Login2.postPollReconnect (handleReady c) = reconnectDev (handleReady c).1 none := by
  have f := (handleReady_connected c h2 hfd).2 he
  have f2 : (handleReady c).1.dev.conn = 2 := f.conn.trans h2
  refine ⟨⟨f.acts, f2, f.fd, f.cpid, f.isPipe, f.loggedIn, f.aborted⟩, ?_,
    reconnectDev_connected (handleReady c).1 tmo (by rw [f2]; decide), ?_⟩
  · -- `disconnectDev_cs` says all of it, about the state `_handle_ready_device` left, which agrees with `c` where it matters
    rw [disconnectDev_cs, f.fd, f.cpid, f.isPipe, f.acts, f.aborted]
    exact ⟨rfl, rfl, rfl, rfl, rfl, rfl, rfl, rfl, rfl⟩
  · unfold Pm.Dev2.Login2.postPollReconnect; rw [he]; rfl

/-- the queue rule of `_disconnect`, spelled out -/
theorem C12_dropLogin (a : Action) (r : List Action) :
    dropLogin [] = [] ∧ (a.com = 0 → dropLogin (a :: r) = r) ∧ (a.com ≠ 0 → dropLogin (a :: r) = a :: r) := by
  refine ⟨rfl, fun h => by simp [dropLogin, h], fun h => by simp [dropLogin, h]⟩

/-- non-vacuity: hang-up on the connected coprocess device of `Props/C20` with two client actions queued — descriptor
    closed, child signalled and reaped, both actions still queued in order behind the new login action (the reconnect
    goes through at once), and — this pass — the login script (`delay 0`) has already run -/
example : (handleReady ⟨Timer.Ex.pipeBusy, exEnv, [], false⟩).2 = true ∧
    ((postPoll Timer.Ex.pipeBusy exEnv ⟨[]⟩).1.sys.take 3 matches [Sys.close 3000, Sys.kill 5000, Sys.waitpid 5000]) = true ∧
    (postPoll Timer.Ex.pipeBusy exEnv ⟨[]⟩).1.dev.acts.map (·.clientId) = [1, 2] ∧
    (postPoll Timer.Ex.pipeBusy exEnv ⟨[]⟩).1.dev.loggedIn = true := by decide +kernel

/-- **Restart after a connect (`_connect`).**  When `_connect`, called in state NOT_CONNECTED, succeeds at once (pass not
    aborted, state CONNECTED afterwards) the queue becomes: the login action, then the former head REWOUND, then the
    rest unchanged.  And if that former head `a` was well-formed (`StackOK`: the invariant of the interpreter proofs,
    `Props/C08`) then the rewound action consists of the single context of its outermost block at position 0 with nothing
    in progress, is well-formed again and denotes the unrolling of the whole script (`abs … = ⟨unroll …, false⟩`): it
    re-executes from its first statement.  Its error state, script kind, client, argument list are kept — and so is
    its TIME STAMP: the restarted action does not get a new deadline (as coded). -/
theorem C12_restart (R : Bool) (dp : List Plug) (c : CS) (h0 : c.dev.conn = 0) (hna : (connectDev c).aborted = false)
    (h2 : (connectDev c).dev.conn = 2) :
    (connectDev c).dev.acts = loginAction c.dev :: (match c.dev.acts with | a :: r => rewind a :: r | [] => []) ∧
    ∀ a r, c.dev.acts = a :: r → StackOK R a.exec → a.exec ≠ [] →
      ∃ outer, a.exec.getLast? = some outer ∧
        (rewind a).exec = [{ outer with pos := 0, processing := false, plugItr := none }] ∧
        StackOK R (rewind a).exec ∧ abs R dp (rewind a).exec = ⟨unroll R dp outer.block outer.plugs, false⟩ ∧
        (rewind a).errnum = a.errnum ∧ (rewind a).com = a.com ∧ (rewind a).timeStamp = a.timeStamp ∧
        (rewind a).clientId = a.clientId ∧ (rewind a).arglist = a.arglist := by
  refine ⟨?_, ?_⟩
  · rcases (connectDev_cases c h0).queue hna with ⟨hne, _⟩ | ⟨_, hq⟩
    · exact absurd h2 hne
    · rw [hq]; rfl
  · intro a r _ hok hne
    obtain ⟨outer, h1, h3, h4, h5, h6⟩ := rewind_ok R dp a hok hne
    exact ⟨outer, h1, C12_rewind_initial a outer h1, h3, h4, h5, h6, Timer.rewind_timeStamp a, rewind_clientId a, Timer.rewind_arglist a⟩

/-- … the same queue when the connect completes later, in `_handle_ready_device` on a CONNECTING device
    (`tcp_finish_connect` after POLLOUT) -/
theorem C12_restart_finish (c : CS) (h1 : c.dev.conn = 1) (h2 : (handleReady c).1.dev.conn = 2) :
    (handleReady c).1.dev.acts = loginAction c.dev :: (match c.dev.acts with | a :: r => rewind a :: r | [] => []) := by
  rw [handleReady_connects c h1 h2]; rfl

/-- non-vacuity: the device of `C04`'s examples that is not connected, two client actions queued, `connect()` succeeding at
    once: login first, then the two actions -/
example : let c : CS := ⟨Timer.Ex.tcpDown, { Timer.Ex.envEarly with connects := [0], soerrs := [0] }, [], false⟩
    c.dev.conn = 0 ∧ (connectDev c).aborted = false ∧ (connectDev c).dev.conn = 2 ∧
    (connectDev c).dev.acts.map (fun a => (a.com, a.clientId)) = [(0, 0), (7, 1), (7, 2)] := by decide +kernel

/-- **What the time-out branch of `_process_action` reports.**  The head `a` of the queue is overdue, `rest` is queued
    behind it.  The callbacks grow by: the telemetry line of the time-out (if the client asked for telemetry), then the
    head's completion with the KIND of the time-out, then — in queue order — the completion of every client action of
    `rest`, with `abort` if the kind is the expect failure and with the same kind otherwise; actions of no client (login,
    ping) are dropped silently.  Every client action is thereby reported exactly once and none is left in the queue. -/
theorem C12_timeout_reports_all (rest : List Action) (c : CS) (a : Action) (o : Oracle) (out : List Out) (tmo : Option Time) :
    (onTimeout rest c a o out tmo).2.2.1 =
      out ++ timeoutTele c.dev a ++
        ((if a.clientId != 0 then [Out.finish a.clientId (timeoutErr c.dev)] else []) ++
         (rest.filter (·.clientId != 0)).map fun b =>
            Out.finish b.clientId (if timeoutErr c.dev == .expfail then .abort else timeoutErr c.dev)) ∧
    ∀ cid, cid ≠ 0 →
      fcount cid (onTimeout rest c a o out tmo).2.2.1 = fcount cid out + qcount cid (a :: rest) ∧
      qcount cid (onTimeout rest c a o out tmo).1.dev.acts = 0 := by
  refine ⟨onTimeout_out rest c a o out tmo, fun cid hc => ?_⟩
  rw [onTimeout_eq_failAll]
  have h := C12_fail_all_reports rest c { a with errnum := timeoutErr c.dev } o (out ++ timeoutTele c.dev a) tmo cid hc
  rw [fcount_append, fcount_noFinish cid _ fun x hx => noFinish_of_note (timeoutTele_notes _ _ x hx)] at h
  refine ⟨?_, h.2⟩
  rw [h.1, qcount_cons, qcount_cons]; simp

/-- the three kinds: connect time-out while the device is not CONNECTED, login time-out while it is CONNECTED but not
    logged in, expect failure otherwise -/
theorem C12_timeout_kind (d : Dev) :
    (d.conn ≠ 2 → timeoutErr d = .connectTimeout) ∧
    (d.conn = 2 → d.loggedIn = false → timeoutErr d = .loginTimeout) ∧
    (d.conn = 2 → d.loggedIn = true → timeoutErr d = .expfail) :=
  timeoutErr_cases d

/-- non-vacuity (the pass of `C04_tenure_pass`'s example): client 1 gets the expect failure, client 2 the abort -/
example : (postPoll Timer.Ex.tcpBusy Timer.Ex.envLate ⟨[]⟩).2.2.1.filterMap
    (fun x => match x with | .finish cid e => some (cid, e) | _ => none) = [(1, .expfail), (2, .abort)] := by decide +kernel

/-- **Recovery (partial: what is proved is that no failure is remembered; that the request then succeeds depends on the
    device).**  A device that is CONNECTED, with a positive time-out, `poll` reporting nothing for it, and exactly one —
    not yet looked at — action `a` in its queue (the state after a successful login plus one client enqueue): the pass
    reaches `_process_action` unaborted, and its first iteration runs the statement interpreter on `a` stamped with the
    time of THIS pass — deadline `now + timeout`, whatever happened on this device before.  If the interpreter stalls
    on it, the pass ends with `a` (same client, same script) at the head carrying that fresh time stamp.  With
    `mkAction`'s initial context (`Props/C08`, `C08_initial`) this is a run from the first statement. -/
theorem C12_recover_partial (d : Dev) (env : Env) (o : Oracle) (a : Action) (h2 : d.conn = 2) (hq : d.acts = [a])
    (hts : a.timeStamp = none) (hto : 0 < d.timeout) (hfl : (if d.fd.isSome then env.revents else 0) = 0) :
    ((Pm.Dev2.Login2.postPollReady d env).1.aborted = false ∧
      Pm.Dev2.Login2.speaker (Pm.Dev2.Login2.postPollPre d env).1 = some { a with timeStamp := some env.now }) ∧
    ((innerLoop env.now (loopBound { a with timeStamp := some env.now })
          { (Pm.Dev2.Login2.postPollPre d env).1.dev with wake := none } { a with timeStamp := some env.now } o []).finished = false →
      ∃ h r, (postPoll d env o).1.dev.acts = h :: r ∧ h.timeStamp = some env.now ∧ h.clientId = a.clientId ∧ h.com = a.com) :=
  ⟨recover_speaker d env a h2 hq hts hto hfl, recover_stalled d env o a h2 hq hts hto hfl⟩

/-- non-vacuity: the connected tcp device with one fresh action that waits for the device: after the pass it is at the
    head, stamped with the time of the pass, and its full time-out (1 s) is registered -/
example : let d : Dev := { exTcp with acts := [Timer.Ex.act2] }
    d.conn = 2 ∧ Timer.Ex.act2.timeStamp = none ∧ 0 < d.timeout ∧
    (postPoll d Timer.Ex.envEarly ⟨[]⟩).1.dev.acts.map (·.timeStamp) = [some 400000] ∧
    (postPoll d Timer.Ex.envEarly ⟨[]⟩).2.2.2 = some 1000000 := by decide +kernel

/-- **An attempt is counted once**, however many addresses it walks over: `_connect` sets `last_retry` to the time of the pass
    and raises `retry_count` by one — the back-off (`C12_backoff_one_second`, `C12_no_attempt_within_backoff`) is between
    attempts, not between addresses -/
theorem C12_attempt_counts_once (c : CS) (h0 : c.dev.conn = 0) :
    (connectDev c).dev.retryCount = c.dev.retryCount + 1 ∧ (connectDev c).dev.lastRetry = c.env.now :=
  ⟨(connectDev_cases c h0).retryCount, (connectDev_cases c h0).lastRetry⟩

/-- **What is remembered: `retry_count`.**  (a) Every connect attempt raises it by one (successful or not) and sets
    `last_retry`; (b) `dev_post_poll` never lowers it — in particular NOT after a successful connect or login; (c) it is
    reset in one place only (besides `dev_create`): `dev_enqueue_actions`, when a client request put at least one
    action on a device that is not CONNECTED (`installStep` is the per-device step of `install`).  So the back-off grows
    over the life of the daemon: after seven attempts in total every failed reconnect is followed by a 60 s pause, unless
    a client request for that device arrives while it is down. -/
theorem C12_retry_count (d : Dev) (env : Env) (o : Oracle) (c : CS) (h0 : c.dev.conn = 0)
    (com : Nat) (bnames : List Bytes) (cid : Nat) (tele : Bool) (al : Nat) (acc : List (Bytes × Dev) × Nat) (nd : Bytes × Dev) :
    ((connectDev c).dev.retryCount = c.dev.retryCount + 1 ∧ (connectDev c).dev.lastRetry = c.env.now) ∧
    d.retryCount ≤ (postPoll d env o).1.dev.retryCount ∧
    ∃ d', (Pm.Dev2.Login2.installStep com bnames cid tele al acc nd).1 = acc.1 ++ [(nd.1, d')] ∧
      d'.retryCount = (if (Pm.Daemon.enqueue nd.2 com bnames cid tele al).2 > 0 ∧ nd.2.conn ≠ 2 then 0 else nd.2.retryCount) :=
  ⟨C12_attempt_counts_once c h0, (postPoll_passKeeps d env o).retryLe,
   installStep_retryCount com bnames cid tele al acc nd⟩

end recovery

/-! ## several addresses per host: what one attempt is (`device_tcp.c`: `tcp->addrs`, `tcp->cur`) -/
section addresses
open Pm.Dev2.Walk

/-- **One attempt = one walk over the address list.**  `attemptTried c` / `finishTried c i` / `walkTried n c` are the indices (into
    `tcp->addrs`) for which `tcp_connect_one` is called, in call order (ghosts beside `connectWalk`, same recursion).
    1. `tcp_connect` — NOT_CONNECTED, no descriptor, a host with at least one address — tries the addresses `0, 1, 2, …` in order,
       each once.  It ends NOT_CONNECTED ("connection refused": `cur == NULL`, no descriptor held) **only after every address
       was tried**; otherwise it ends on the **first** address `j` whose `tcp_connect_one` did not fail at once: `cur` stands on
       `j`, its descriptor is held, the device is CONNECTING (EINPROGRESS) or CONNECTED, and no address behind `j` was touched.
    2. `tcp_finish_connect`, when `SO_ERROR` says the pending connect on address `i` failed, goes on with `i+1, i+2, …` in the
       same way: NOT_CONNECTED only when every address behind `i` has failed too (none left: at once), else CONNECTING or
       CONNECTED on the first `j > i` that did not fail at once.
    3. The walk itself, from address `i` with at least `naddr - i` iterations of fuel (both callers give `naddr`): the same
       dichotomy; the connection state is CONNECTED or what it was.
    However many addresses one attempt tries, `_connect` counts it once (`C12_attempt_counts_once`). -/
theorem C12_attempt_walks_all_addresses :
    (∀ c : CS, c.dev.conn = 0 → c.dev.fd = none → 0 < c.dev.naddr →
      ((tcpConnect c).1.dev.conn = 0 ∧ (tcpConnect c).1.dev.cur = none ∧ (tcpConnect c).1.dev.fd = none ∧
          attemptTried c = List.range c.dev.naddr) ∨
      (∃ j, j < c.dev.naddr ∧ (tcpConnect c).1.dev.cur = some j ∧ (tcpConnect c).1.dev.fd.isSome = true ∧
          ((tcpConnect c).1.dev.conn = 1 ∨ (tcpConnect c).1.dev.conn = 2) ∧ attemptTried c = List.range (j + 1))) ∧
    (∀ (c : CS) (i : Nat), c.dev.cur = some i → i < c.dev.naddr → c.dev.conn = 1 →
      ((finishConnectFail c).dev.conn = 0 ∧ (finishConnectFail c).dev.cur = none ∧ (finishConnectFail c).dev.fd = none ∧
          finishTried c i = List.range' (i + 1) (c.dev.naddr - (i + 1))) ∨
      (∃ j, i < j ∧ j < c.dev.naddr ∧ (finishConnectFail c).dev.cur = some j ∧ (finishConnectFail c).dev.fd.isSome = true ∧
          ((finishConnectFail c).dev.conn = 1 ∨ (finishConnectFail c).dev.conn = 2) ∧
          finishTried c i = List.range' (i + 1) (j - i))) ∧
    (∀ (n : Nat) (c : CS) (i : Nat), c.dev.cur = some i → i < c.dev.naddr → c.dev.naddr - i ≤ n → c.dev.fd = none →
      ((connectWalk n c).dev.cur = none ∧ walkTried n c = List.range' i (c.dev.naddr - i) ∧ (connectWalk n c).dev.fd = none ∧
          (connectWalk n c).dev.conn = c.dev.conn) ∨
      (∃ j, i ≤ j ∧ j < c.dev.naddr ∧ (connectWalk n c).dev.cur = some j ∧ walkTried n c = List.range' i (j - i + 1) ∧
          (connectWalk n c).dev.fd.isSome = true ∧
          ((connectWalk n c).dev.conn = 2 ∨ (connectWalk n c).dev.conn = c.dev.conn))) :=
  ⟨tcpConnect_attempt, finishConnectFail_attempt, connectWalk_tried⟩

/-- non-vacuity: a host with three addresses.  The first is unreachable at once, the second refuses at once, the third is in
    progress: all three are tried in order, the device is CONNECTING on the third with its socket (2002) held.  With every
    address failing at once: three tries, "connection refused", no descriptor.  And `tcp_finish_connect` after a failed
    `SO_ERROR` on the first address: the second connects at once — CONNECTED on address 2 -/
example : ex3.conn = 0 ∧ ex3.fd = none ∧ 0 < ex3.naddr ∧
    attemptTried ⟨ex3, env221, [], false⟩ = [0, 1, 2] ∧ (tcpConnect ⟨ex3, env221, [], false⟩).1.dev.cur = some 2 ∧
    (tcpConnect ⟨ex3, env221, [], false⟩).1.dev.fd = some 2002 ∧ (tcpConnect ⟨ex3, env221, [], false⟩).1.dev.conn = 1 ∧
    attemptTried ⟨ex3, env222, [], false⟩ = [0, 1, 2] ∧ (tcpConnect ⟨ex3, env222, [], false⟩).1.dev.cur = none ∧
    (tcpConnect ⟨ex3, env222, [], false⟩).1.dev.fd = none ∧ (tcpConnect ⟨ex3, env222, [], false⟩).1.dev.conn = 0 := by
  decide
example : finishTried ⟨{ ex3 with conn := 1, fd := some 2000 }, { envFin with soerrs := [0] }, [], false⟩ 0 = [1] ∧
    (finishConnectFail ⟨{ ex3 with conn := 1, fd := some 2000 }, { envFin with soerrs := [0] }, [], false⟩).dev.cur = some 1 ∧
    (finishConnectFail ⟨{ ex3 with conn := 1, fd := some 2000 }, { envFin with soerrs := [0] }, [], false⟩).dev.conn = 2 ∧
    (finishConnectFail ⟨{ ex3 with conn := 1, fd := some 2000 }, { envFin with soerrs := [0] }, [], false⟩).dev.fd = some 2001 := by
  decide

/-- **The next attempt starts over at the first address** (an attempt that has exhausted the list leaves
    `tcp->cur == NULL`, one that stopped on address `j` leaves `cur` there: neither is resumed).  Past its two asserts
    `tcp_connect` does not read `tcp->cur` at all — the result and the addresses tried are the same whatever the previous
    attempt left there — and the first address it tries is address 0. -/
theorem C12_next_attempt_restarts_at_first (c : CS) (v : Option Nat) (h0 : c.dev.conn = 0) (hfd : c.dev.fd = none)
    (hna : 0 < c.dev.naddr) :
    tcpConnect { c with dev := { c.dev with cur := v } } = tcpConnect c ∧
    attemptTried { c with dev := { c.dev with cur := v } } = attemptTried c ∧
    (attemptTried c).head? = some 0 := by
  -- the ghost `attemptTried` sets `cur` itself: its clause holds by definition
  refine ⟨tcpConnect_ignores_cur c v h0 hfd, rfl, ?_⟩
  rcases tcpConnect_attempt c h0 hfd hna with ⟨_, _, _, h⟩ | ⟨j, _, _, _, _, h⟩
  · rw [h]; cases hn : c.dev.naddr with
    | zero => omega
    | succ m => simp [List.range_succ_eq_map]
  · rw [h]; simp [List.range_succ_eq_map]

/-- non-vacuity: after the attempt on which every address failed (`cur == NULL`), the next attempt — here with the third
    address in progress — tries `0, 1, 2` again -/
example :
    let d := (tcpConnect ⟨ex3, env222, [], false⟩).1.dev
    d.cur = none ∧ d.conn = 0 ∧ d.fd = none ∧ 0 < d.naddr ∧ attemptTried ⟨d, env221, [], false⟩ = [0, 1, 2] := by
  decide

example : (connectDev ⟨ex3, env222, [], false⟩).dev.retryCount = 1 ∧ (connectDev ⟨ex3, env222, [], false⟩).sys.length = 9 := by
  decide

end addresses

end Pm.Props.C12
