import Pm.HLFind
import Pm.SortFProof
import Pm.SortFuel
import Pm.RoundTrip
/-! # C14 — host-range notation round-trips without changing any name

Property theorems over the hostlist mirrors (`Pm/HL.lean`, `Find.lean`, `Create.lean`, `Sort.lean`, and `Sort2.lean` for
`hostlist_sort`), which are compared with the real `liblsd/hostlist.c` answer by answer on every run. -/
namespace Pm.Props.C14
open Pm

/-- every range the library builds is either a single name or has `lo ≤ hi` -/
def WF (hl : Hostlist) : Prop := ∀ t ∈ hl, t.single = true ∨ t.lo ≤ t.hi

/-! ## pushing a name, finding a name, reconciling widths -/

/-- `hostlist_push_host`: pushing a name appends exactly that name to the expansion, whatever the list —
    merging into the last range (with `_width_equiv` adjusting a width), numeric suffixes of any width with leading
    zeros, digit-terminated prefixes and the fallback for numeric parts beyond `MAX_HOST_SUFFIX` included.
    No other name is added, dropped or renamed. -/
theorem C14_push_expand (hl : Hostlist) (n : Name) (h : WF hl) : expand (pushHost hl n) = expand hl ++ [n] :=
  expand_pushHost' hl n h

/-- `hostlist_find` is sound: whatever index it returns is a position at which the expansion holds exactly that name —
    zero padding is significant (`foo01` is never found as `foo1`), with the digit-shifting retry of
    `hostrange_hn_within`, and with no bound on the numeric part. -/
theorem C14_find_sound (hl : Hostlist) (full : Name) (i : Nat) (h : find hl full = some i) : (expand hl)[i]? = some full :=
  find_sound hl full i h

/-- membership agrees with the expansion in the sound direction -/
theorem C14_find_mem (hl : Hostlist) (full : Name) (i : Nat) (h : find hl full = some i) : full ∈ expand hl :=
  find_mem hl full i h

/-- `_width_equiv` (used when ranges are merged or compared): after a successful call, with its mutation of a width,
    both ranges print every element exactly as before -/
theorem C14_width_equiv_sound {n wn m wm wn' wm' : Nat} (h : widthEquiv n wn m wm = some (wn', wm')) :
    wn' = wm' ∧ (∀ x, n ≤ x → fmtNum wn' x = fmtNum wn x) ∧ (∀ y, m ≤ y → fmtNum wm' y = fmtNum wm y) :=
  widthEquiv_sound h

/-- printing the value of a digit string at the string's own width returns the string, leading zeros included:
    a numeric suffix survives parse → `%0*lu` unchanged -/
theorem C14_fmt_parse (ds : List Char) (h : ds ≠ []) (hall : ∀ c ∈ ds, c.isDigit = true) : fmtNum ds.length (parseNat ds) = ds :=
  fmtNum_parse ds h hall

/-- padding is significant: `foo01` is not a member of the list that holds `foo1` -/
example : find (pushHost [] "foo1".toList) "foo01".toList = none := by decide +kernel
example : find (pushHost (pushHost [] "foo1".toList) "foo01".toList) "foo01".toList = some 1 := by decide +kernel
/-- premises are satisfiable on a non-trivial list (a merged range with a width, then a name that does not merge) -/
example : WF (pushHost (pushHost (pushHost [] "n08".toList) "n09".toList) "n10".toList) := by unfold WF; decide +kernel

/-! ## well-formedness is kept by every operation, so the push theorem applies along any sequence of pushes -/

/-- `WF` here and `HWF` of the helper modules are the same predicate -/
theorem WF_iff_HWF (hl : Hostlist) : WF hl ↔ HWF hl := Iff.rfl

/-- the stronger shape every constructor really produces (`HWFS`: a single name is stored with `lo = hi = 0`,
    a numeric range has `lo ≤ hi`) implies `WF` -/
theorem WF_of_HWFS (hl : Hostlist) (h : HWFS hl) : WF hl := h.toHWF

/-- where every sequence of pushes and deletes starts (`C14_push_all`, `Built.nil`) -/
theorem C14_nil_WF : WF [] := HWF_nil

/-- `hostlist_push_host` keeps every range well formed -/
theorem C14_push_WF (hl : Hostlist) (n : Name) (h : WF hl) : WF (pushHost hl n) := pushHost_HWF hl n h

/-- `hostlist_delete_host` (find, then `hostlist_delete_nth` splitting / shrinking / dropping a range) keeps every
    range well formed -/
theorem C14_delete_WF (hl : Hostlist) (n : Name) (h : WF hl) : WF (deleteHost hl n).1 := deleteHost_HWF hl n h

/-- whatever `hostlist_create` accepts is well formed (a bracket range with `lo > hi` is refused by the parser) -/
theorem C14_create_WF (s : List Char) (hl : Hostlist) (h : create s = .ok hl) : WF hl := create_HWF s hl h

/-- `hostlist_push_host` keeps the strong shape `HWFS`, which the sort theorems need -/
theorem C14_push_WFS (hl : Hostlist) (n : Name) (h : HWFS hl) : HWFS (pushHost hl n) := pushHost_HWFS hl n h
/-- so does `hostlist_delete_host`: what it leaves of a numeric range is numeric with `lo ≤ hi` -/
theorem C14_delete_WFS (hl : Hostlist) (n : Name) (h : HWFS hl) : HWFS (deleteHost hl n).1 := deleteHost_HWFS hl n h
/-- and whatever `hostlist_create` accepts has it -/
theorem C14_create_WFS (s : List Char) (hl : Hostlist) (h : create s = .ok hl) : HWFS hl := create_HWFS s hl h

/-- a list built by pushing names denotes exactly those names, in the order pushed — for every list of names,
    of any length, with duplicates, zero padding, digit-only names and numeric parts beyond `MAX_HOST_SUFFIX` -/
theorem C14_push_all (names : List Name) : expand (names.foldl pushHost []) = names := expand_pushed names

example : expand (["n08", "n09", "n10", "n010", "x", "n11", "7", "n99999999999"].map String.toList |>.foldl pushHost [])
    = ["n08", "n09", "n10", "n010", "x", "n11", "7", "n99999999999"].map String.toList := C14_push_all _
/-- … and that list really is compressed (three ranges + three singles, not eight entries) -/
example : (["n08", "n09", "n10", "n010", "x", "n11", "7", "n99999999999"].map String.toList |>.foldl pushHost []).length = 6 := by
  decide +kernel

/-! ## count and index lookups agree with the expansion -/

/-- `hostlist_count` (the `nhosts` field, maintained as the sum of `hostrange_count` over the ranges) is the number
    of names in the expansion -/
theorem C14_count_expand (hl : Hostlist) (h : WF hl) : (hl.map HostRange.count).sum = (expand hl).length :=
  count_expand hl h

/-- `hostlist_nth`: the mirror `nth` of `Sort.lean` is *defined* as the i-th element of the expansion, so this
    statement about it is empty; the informative one is `C14_nthC_expand` below -/
theorem C14_nth_expand (hl : Hostlist) (i : Nat) : nth hl i = (expand hl)[i]? := rfl

/-- `hostlist_nth` AS CODED (`nthC`: walk the ranges with a running count, print `prefix` + `%0*lu` of `lo + depth`)
    returns exactly the i-th name of the expansion, and NULL (`none`) exactly beyond its end -/
theorem C14_nthC_expand (hl : Hostlist) (i : Nat) (h : WF hl) : nthC hl i = (expand hl)[i]? := nthC_spec hl i h

/-- so the coded walk and the mirror used by the driver agree on well-formed lists -/
theorem C14_nthC_eq_nth (hl : Hostlist) (i : Nat) (h : WF hl) : nthC hl i = nth hl i := nthC_eq_nth hl i h

example : nthC (pushHost (pushHost (pushHost [] "n08".toList) "n09".toList) "n10".toList) 2 = some "n10".toList := by
  decide +kernel
/-- `WF` is needed: on a range with `lo > hi` (which no constructor builds) the coded walk invents a name -/
theorem C14_nthC_needs_WF : nthC [{ pfx := "n".toList, lo := 5, hi := 3, width := 1, single := false }] 0 = some "n5".toList
    ∧ expand [{ pfx := "n".toList, lo := 5, hi := 3, width := 1, single := false }] = [] := nthC_needs_WF

/-! ## membership: `hostlist_find` is complete under the proviso the code needs -/

/- Full-strength statement (FALSE of the code, see `C14_find_complete_counterexample`, known defect F10):
     theorem C14_find_complete (hl) (n) (h : WF hl) (hmem : n ∈ expand hl) : find hl n = some ((expand hl).idxOf n) -/

/-- `hostlist_find` returns the index of the FIRST occurrence of every member name — provided that each entry
    holding the name is a single name, or the name's trailing digit string (the numeric suffix `hostname_create`
    cuts off) has a value of at most `MAX_HOST_SUFFIX` = 2^25 (`Findable`).  This is the extra hypothesis; it is
    exactly what the code needs: `hostrange_hn_within` refuses to look into a numeric range for a name whose
    suffix is "not valid" (`C14_find_proviso_sharp`).  Well-formedness is not needed here. -/
theorem C14_find_complete_partial (hl : Hostlist) (n : Name) (hmem : n ∈ expand hl)
    (hprov : ∀ r ∈ hl, n ∈ r.expand → r.single = true ∨ parseNat (splitDigits n).2 ≤ MAX_HOST_SUFFIX) :
    find hl n = some ((expand hl).idxOf n) :=
  find_complete hl n hmem hprov

/-- names that are not members are not found (contrapositive of soundness) -/
theorem C14_find_none (hl : Hostlist) (n : Name) (h : n ∉ expand hl) : find hl n = none := find_none_of_not_mem hl n h

/-- the proviso cannot be dropped: a numeric range never matches a name whose trailing digit string exceeds 2^25 -/
theorem C14_find_proviso_sharp (r : HostRange) (hs : r.single = false) (n : Name)
    (hbig : ¬ parseNat (splitDigits n).2 ≤ MAX_HOST_SUFFIX) :
    hnWithin r n (splitDigits n).1 (splitDigits n).2 = none :=
  hnWithin_none_of_big r hs n _ _ hbig

/-- F10: `n[100000000-100000001]` is accepted by `hostlist_create`, holds `n100000000`, and `hostlist_find` misses it -/
theorem C14_find_complete_counterexample :
    ∃ hl, create "n[100000000-100000001]".toList = .ok hl ∧ WF hl ∧ "n100000000".toList ∈ expand hl
      ∧ find hl "n100000000".toList = none :=
  ⟨f10List, f10_create, create_HWF _ _ f10_create, f10_mem, f10_find⟩

/-- the bound is on the NAME's whole digit tail, not on the number stored in the range: `n1[00000000-00000001]`
    holds `n100000000` as number 0 of prefix `n1`, and `hostlist_find` misses it too -/
theorem C14_find_complete_counterexample2 :
    ∃ hl, create "n1[00000000-00000001]".toList = .ok hl ∧ "n100000000".toList ∈ expand hl
      ∧ find hl "n100000000".toList = none :=
  ⟨f10bList, f10b_create, f10b_mem, f10b_find⟩

/-- for lists reached from the empty list by pushes and deletes (`Built`) no proviso is needed: `hostlist_push_host`
    stores a name with an oversized numeric part as a single name, and gives numeric ranges a digit-free prefix end -/
theorem C14_find_complete_built (hl : Hostlist) (n : Name) (hb : Built hl) (hmem : n ∈ expand hl) :
    find hl n = some ((expand hl).idxOf n) := find_built hl n hb hmem

/-- in particular every pushed name is found at the position of its first push -/
theorem C14_find_pushed (names : List Name) (n : Name) (hmem : n ∈ names) :
    find (names.foldl pushHost []) n = some (names.idxOf n) := find_pushed names n hmem

example : find (["n08", "n09", "n10", "n99999999999", "n09"].map String.toList |>.foldl pushHost []) "n09".toList = some 1 :=
  C14_find_pushed _ _ (by decide +kernel)
example : Built (pushHost (pushHost [] "n08".toList) "n09".toList) := Built.push _ _ (Built.push _ _ Built.nil)
/-- the proviso of `C14_find_complete_partial` is satisfiable on a list from `hostlist_create` with a digit-ended prefix,
    where the shifting retry of `hostrange_hn_within` is exercised -/
example : find [{ pfx := "n1".toList, lo := 0, hi := 1, width := 1, single := false }] "n11".toList = some 1 := shift_ok.2

example : "n11".toList ∈ expand [{ pfx := "n1".toList, lo := 0, hi := 1, width := 1, single := false }] ∧
    ∀ r ∈ [({ pfx := "n1".toList, lo := 0, hi := 1, width := 1, single := false } : HostRange)],
      "n11".toList ∈ r.expand → r.single = true ∨ parseNat (splitDigits "n11".toList).2 ≤ MAX_HOST_SUFFIX := by decide +kernel

/-- padding is significant: the index `hostlist_find` returns for `n` never holds a different name `m`
    (`foo01` is never found as `foo1`, nor `foo1` as `foo01`) -/
theorem C14_padding_significant (hl : Hostlist) (n m : Name) (i : Nat) (hne : n ≠ m) (h : find hl n = some i) :
    (expand hl)[i]? ≠ some m := by
  rw [find_sound hl n i h]; intro e; exact hne (Option.some.inj e)

example : find [{ pfx := "foo".toList, lo := 1, hi := 3, width := 2, single := false }] "foo1".toList = none := by decide +kernel
example : find [{ pfx := "foo".toList, lo := 1, hi := 3, width := 2, single := false }] "foo01".toList = some 0 := by decide +kernel
example : find [{ pfx := "foo".toList, lo := 1, hi := 3, width := 1, single := false }] "foo01".toList = none := by decide +kernel

/-- membership and index lookups agree: the index `hostlist_find` returns is one at which `hostlist_nth` (as coded)
    returns that very name -/
theorem C14_find_nth (hl : Hostlist) (n : Name) (i : Nat) (h : WF hl) (hf : find hl n = some i) : nthC hl i = some n := by
  rw [nthC_spec hl i h]; exact find_sound hl n i hf

/-! ## deleting one name removes exactly its first occurrence and nothing else -/

/-- `hostlist_delete_nth` removes exactly position `i` of the expansion (splitting a range in two, shrinking it at
    either end, or dropping it) and changes no other name.  (`h` is not used: a numeric range with `lo > hi` holds no
    position and is passed over.) -/
theorem C14_delete_nth (hl : Hostlist) (i : Nat) (h : WF hl) : expand (deleteNth hl i) = (expand hl).eraseIdx i :=
  deleteNth_expand hl i

/- Full-strength statement (FALSE without the proviso, by F10: `f10_delete` — the member is not deleted, 0 is returned):
     theorem C14_delete_one (hl) (n) (h : WF hl) : expand (deleteHost hl n).1 = (expand hl).erase n ∧ … -/

/-- `hostlist_delete_host` removes exactly the FIRST occurrence of the name from the expansion, changes nothing else,
    and returns 1 if the name was a member and 0 otherwise — under the proviso `hprov` of `C14_find_complete_partial`, which
    is the hypothesis the full statement above does not have -/
theorem C14_delete_one (hl : Hostlist) (n : Name) (h : WF hl)
    (hprov : ∀ r ∈ hl, n ∈ r.expand → r.single = true ∨ parseNat (splitDigits n).2 ≤ MAX_HOST_SUFFIX) :
    expand (deleteHost hl n).1 = (expand hl).erase n ∧ (deleteHost hl n).2 = if n ∈ expand hl then 1 else 0 :=
  deleteHost_expand hl n h hprov

/-- without the proviso: whatever `hostlist_delete_host` does, it either removes one position that holds exactly
    that name (returning 1), or leaves the list untouched (returning 0) — it never drops or renames another node
    (`h` is not used) -/
theorem C14_delete_one_weak (hl : Hostlist) (n : Name) (h : WF hl) :
    (∃ i, (expand hl)[i]? = some n ∧ expand (deleteHost hl n).1 = (expand hl).eraseIdx i ∧ (deleteHost hl n).2 = 1)
    ∨ ((deleteHost hl n).1 = hl ∧ (deleteHost hl n).2 = 0) :=
  deleteHost_expand_weak hl n

/-- for lists reached by pushes and deletes no proviso is needed -/
theorem C14_delete_one_built (hl : Hostlist) (n : Name) (hb : Built hl) :
    expand (deleteHost hl n).1 = (expand hl).erase n ∧ (deleteHost hl n).2 = if n ∈ expand hl then 1 else 0 :=
  deleteHost_built hl n hb

/-- F10 again: the member `n100000000` of `n[100000000-100000001]` is not deleted -/
theorem C14_delete_one_counterexample : "n100000000".toList ∈ expand f10List ∧
    deleteHost f10List "n100000000".toList = (f10List, 0) := ⟨f10_mem, f10_delete⟩

example : expand (deleteHost (["n1", "n2", "n3", "x", "n2"].map String.toList |>.foldl pushHost []) "n2".toList).1
    = ["n1", "n3", "x", "n2"].map String.toList := by
  rw [(C14_delete_one_built _ _ (Built.foldl _ _ Built.nil)).1, C14_push_all]; decide +kernel

/-! ## round trip of the compressed string -/

/- Full-strength statement (FALSE of the code, see the three `…_counterexample`s below):
     theorem C14_roundtrip_all (names : List Name) :
       ∃ hl', create (rangedString (names.foldl pushHost [])) = .ok hl' ∧ expand hl' = names -/

/-- compressing a list into host-range notation (`hostlist_ranged_string`) and parsing the string again
    (`hostlist_create`) yields the same names in the same order — for every list whose ranges are well formed, have
    prefixes over the legal alphabet (no `[`, `]`, `,`, blank, tab), whose single names are non-empty, and whose ranges
    hold at most `MAX_RANGE` = 16384 hosts each (`LegalHL`).  Any number of ranges, groups, widths and paddings; the
    re-parsed list may differ as a list of ranges (widths, merging), never in the names it denotes. -/
theorem C14_roundtrip (hl : Hostlist) (h : LegalHL hl) :
    ∃ hl', create (rangedString hl) = .ok hl' ∧ expand hl' = expand hl := roundtrip hl h

/-- the same for lists built by pushing names over the legal alphabet: the string parses back to exactly the names
    pushed, in order.  The extra hypothesis `hsz` (no range of the built list exceeds 16384 hosts) is needed because
    `_parse_single_range` refuses larger ranges, which `hostlist_push_host` builds and `hostlist_ranged_string`
    prints without complaint (`C14_roundtrip_counterexample`). -/
theorem C14_roundtrip_pushed (names : List Name) (hleg : ∀ n ∈ names, LegalName n)
    (hsz : ∀ r ∈ names.foldl pushHost [], r.cnt ≤ MAX_RANGE) :
    ∃ hl', create (rangedString (names.foldl pushHost [])) = .ok hl' ∧ expand hl' = names :=
  roundtrip_pushed names hleg hsz

/-- a range of 16385 consecutive hosts (what pushing `n0 … n16384` builds) prints as `n[0-16384]`, which
    `hostlist_create` refuses with `ERANGE`: the library cannot read back its own output -/
theorem C14_roundtrip_counterexample :
    rangedString bigRange = "n[0-16384]".toList ∧ create (rangedString bigRange) = .error .erange :=
  ⟨rangedString_bigRange, roundtrip_counterexample⟩

/-- the alphabet hypothesis is needed: `hostlist_push_host` accepts the name `a,b`, the printed string splits in two -/
theorem C14_roundtrip_chars_counterexample :
    expand (pushHost [] "a,b".toList) = ["a,b".toList] ∧
    (create (rangedString (pushHost [] "a,b".toList))).map expand = .ok ["a".toList, "b".toList] :=
  roundtrip_chars_counterexample

/-- the non-emptiness hypothesis is needed: the empty name prints as the empty string, which holds no name -/
theorem C14_roundtrip_nonempty_counterexample :
    expand (pushHost [] []) = [[]] ∧ create (rangedString (pushHost [] [])) = .ok [] :=
  roundtrip_nonempty_counterexample

example : LegalHL sampleHL ∧ rangedString sampleHL = "n[08-10,20],login,gpu007".toList :=
  ⟨sampleHL_legal, rangedString_sampleHL⟩
example : (∀ n ∈ sampleNames, LegalName n) ∧ (∀ r ∈ sampleNames.foldl pushHost [], r.cnt ≤ MAX_RANGE) := sampleNames_legal

/-! ## sorting (qsort, then `hostlist_coalesce`, then `hostlist_collapse`) is a permutation of the names

`sortHL` (`Sort2.lean`: `msort`, `coalesce`, `collapse`) is the mirror the daemon model and the differential driver run: glibc's
merge order, the width side effects of `hostrange_cmp`, the assert of `hostrange_intersect`; every loop structurally recursive on a
fuel computed from its input, with an explicit `.fuel` outcome.  None of the bounds is ever exceeded on a well-formed list
(`C14_sort_fuel`): the merge sort and `hostlist_collapse` trivially, the outer loop of `hostlist_coalesce` — which restarts its scan
after every split — by the measure of `SortFuel.lean`, within `(hosts + ranges + 2)⁴` iterations.  So `hostlist_sort` either returns
(and then the theorems below apply) or dies in the assert of `hostrange_intersect` (`C14_sort_total`, F19). -/

/-- sorting never adds, drops or renames a node: whenever `hostlist_sort` returns (no assert, fuel not exhausted),
    the expansion of the result is a permutation of the expansion of the input, duplicates included.  The proof does
    not depend on the order libc's `qsort` produces: the merge sort is only used as "some permutation of the ranges
    whose comparisons may rewrite widths", and each iteration of coalesce (splitting two overlapping ranges into
    up to `2·overlap` pieces) and of collapse (joining two adjacent ranges) preserves the multiset of names.
    `HWFS` (the shape every constructor produces) is needed, `WF` is not enough: `C14_sort_needs_WFS`. -/
theorem C14_sort_perm (hl hl' : Hostlist) (hwf : HWFS hl) (h : sortHL hl = .ok hl') : (expand hl').Perm (expand hl) :=
  sortHL_perm hl hl' hwf h

/-- the sorted list is again of the shape every constructor produces -/
theorem C14_sort_WFS (hl hl' : Hostlist) (hwf : HWFS hl) (h : sortHL hl = .ok hl') : HWFS hl' :=
  sortHL_wfs hl hl' hwf h

/-- in particular membership is unchanged by sorting -/
theorem C14_sort_mem (hl hl' : Hostlist) (hwf : HWFS hl) (h : sortHL hl = .ok hl') (n : Name) :
    n ∈ expand hl' ↔ n ∈ expand hl := (C14_sort_perm hl hl' hwf h).mem_iff

/-- the number of hosts, duplicates counted, is unchanged by sorting -/
theorem C14_sort_count (hl hl' : Hostlist) (hwf : HWFS hl) (h : sortHL hl = .ok hl') :
    (expand hl').length = (expand hl).length := (C14_sort_perm hl hl' hwf h).length_eq

/-- the pieces, for an arbitrary store / id list satisfying the invariant `Inv` (ids distinct and in bounds, ranges `WFS`):
    the merge sort (with the comparison `cmpM`) returns a permutation of the ids and leaves every stored range with the same
    names (`SEq`); the proof never looks at what a comparison answers -/
theorem C14_msort_perm {f : Nat} {st st' : Store} {ids res : List Nat} (h : msort f st ids = .ok (res, st')) :
    res.Perm ids ∧ SEq st st' := msort_perm f st ids res st' h

/-- `hostlist_coalesce` preserves the multiset of names, from any state satisfying `Inv` -/
theorem C14_coalesce_perm {st st' : Store} {ids ids' : List Nat} (hinv : Inv st ids) (h : coalesce st ids = .ok (ids', st')) :
    Inv st' ids' ∧ (den st' ids').Perm (den st ids) := coalesce_spec hinv h

/-- `hostlist_collapse` preserves the multiset of names, from any state satisfying `Inv` -/
theorem C14_collapse_perm {st st' : Store} {ids ids' : List Nat} (hinv : Inv st ids) (h : collapse st ids = .ok (ids', st')) :
    Inv st' ids' ∧ (den st' ids').Perm (den st ids) := collapse_spec hinv h

/-- `hostlist_sort` always ends, within the iteration bounds its mirror computes from the input: on a well-formed list
    `sortHL` never answers `.fuel`.  The merge sort and `hostlist_collapse` are immediate; the outer loop of
    `hostlist_coalesce` restarts its scan at the end of the list after every split, and ends within
    `coalesceFuel = (hosts + ranges + 2)⁴` iterations because `((N - R)·(N+1)² + inv)·(N+1) + i` decreases in each one:
    `N` hosts (never changes), `R ≤ N` ranges (none is empty), `inv ≤ R²` inversions of the sequence of `hi` fields, `i` the scan
    position.  An iteration either moves `i` down by one leaving every `lo`/`hi` alone, or splits at a point range
    (`[a-c],[x-x]` with `a ≤ x < c` becomes `[a-x],[x-c]`: same `R`, the two neighbouring `hi` values `c > x` change places,
    exactly one inversion less), or splits an overlap of more than one host and then adds at least one range. -/
theorem C14_sort_fuel (hl : Hostlist) (hwf : HWFS hl) : sortHL hl ≠ .fuel := sortHL_ne_fuel hl hwf

/-- the same for the loop alone, from any state satisfying `Inv` (ids distinct and in bounds, ranges `WFS`) -/
theorem C14_coalesce_no_fuel {st : Store} {ids : List Nat} (hinv : Inv st ids) : coalesce st ids ≠ .fuel :=
  coalesce_ne_fuel hinv

/-- `hostlist_sort` of a well-formed list either returns a list or dies in `assert(hostrange_cmp(h1, h2) <= 0)` of
    `hostrange_intersect` (which happens: F19, `C14_sort_abort_counterexample`) — there is no third outcome -/
theorem C14_sort_total (hl : Hostlist) (hwf : HWFS hl) : (∃ r, sortHL hl = .ok r) ∨ sortHL hl = .abort :=
  sortHL_total hl hwf

/-- … and when it returns, the result is well formed and holds exactly the same names, duplicates included
    (`C14_sort_perm`, `C14_sort_WFS` without the hypothesis that `sortHL` answered `.ok`) -/
theorem C14_sort_total_perm (hl : Hostlist) (hwf : HWFS hl) :
    (∃ r, sortHL hl = .ok r ∧ (expand r).Perm (expand hl) ∧ HWFS r) ∨ sortHL hl = .abort := by
  rcases sortHL_total hl hwf with ⟨r, h⟩ | h
  · exact Or.inl ⟨r, h, sortHL_spec hl r hwf h⟩
  · exact Or.inr h

/-- for consumers that say "the sort did not return" (`SortRes.Died` = `.abort ∨ .fuel`): on a well-formed list that
    means the assert and nothing else -/
theorem C14_sort_Died_iff (hl : Hostlist) (hwf : HWFS hl) : (sortHL hl).Died ↔ sortHL hl = .abort :=
  sortHL_Died_iff hl hwf

/-- where the abort comes from: the merge sort and `hostlist_collapse` contain no assert, so `hostlist_sort` dies only in an
    iteration of `hostlist_coalesce` … -/
theorem C14_sort_abort_only_coalesce (hl : Hostlist) (h : sortHL hl = .abort) :
    ∃ ids st, msort (hl.length + 1) hl.toArray (List.range hl.length) = .ok (ids, st) ∧ coalesce st ids = .abort :=
  sortHL_abort_only_coalesce hl h

/-- … namely one that looks at two neighbouring numeric ranges which `hostrange_cmp` puts in the wrong order … -/
theorem C14_coalesce_step_abort_iff (st : Store) (ids : List Nat) (i : Nat) :
    coalesceStep st ids i = .abort ↔
      i ≠ 0 ∧ (st[ids[i-1]!]!).single = false ∧ (st[ids[i]!]!).single = false ∧ (cmpM st ids[i-1]! ids[i]!).1 > 0 :=
  coalesceStep_abort_iff st ids i

/-- … which for numeric ranges means: a later prefix on the left; or the same prefix and either reconcilable widths with a
    larger `lo` on the left, or widths `_width_equiv` cannot reconcile with the wider range on the left (F19: `066` after
    `97-100` — the comparator is not a total order across widths, so `qsort` leaves such pairs behind) -/
theorem C14_cmp_pos_iff (st : Store) (p q : Nat) (hp : (st[p]!).single = false) (hq : (st[q]!).single = false) :
    (cmpM st p q).1 > 0 ↔
      (st[q]!).pfx < (st[p]!).pfx ∨
      ((st[p]!).pfx = (st[q]!).pfx ∧
        ((combOk st[p]! st[q]! = true ∧ (st[q]!).lo < (st[p]!).lo) ∨
         (combOk st[p]! st[q]! = false ∧ (st[q]!).width < (st[p]!).width))) :=
  cmpM_pos_iff st p q hp hq

/-- premises of `C14_sort_fuel` / `C14_sort_total` on a list where both kinds of split occur (`n[1-10],n[5-5]` is a point
    split, `m[1-3],m[2-5]` adds ranges), and on the list that aborts -/
example : HWFS (hlOfString "n[1-10],n[5-5],m[1-3],m[2-5],x") ∧
    sortHL (hlOfString "n[1-10],n[5-5],m[1-3],m[2-5],x") = .ok (hlOfString "m[1-2],m[2-3],m[3-5],n[1-5],n[5-10],x") :=
  sortHL_two_splits
example : HWFS (hlOfString "f[97-100,066,97-103]") := by rw [hlOfString_F19]; unfold HWFS; decide

/- Full-strength statement (proved for `HWFS` lists only: `C14_sort_fuel`; open for the others):
     theorem C14_sort_fuel_all (hl : Hostlist) : sortHL hl ≠ .fuel -/

/-- what holds of every list, well formed or not: `hostlist_sort` can report `.fuel` only through the outer loop of
    `hostlist_coalesce` — the merge sort (recursion depth `≤ length`, merge loop `≤ |l| + |r|` steps) and `hostlist_collapse`
    (`i` goes down by one per step) never exceed their bounds.  The hypothesis `sortHL hl = .fuel` is refuted for every `HWFS`
    list by `C14_sort_fuel`, and no list that satisfies it is known: the statement says where a failure of the bound would
    have to come from, not that one exists. -/
theorem C14_sort_fuel_partial (hl : Hostlist) (h : sortHL hl = .fuel) :
    ∃ ids st, msort (hl.length + 1) hl.toArray (List.range hl.length) = .ok (ids, st) ∧ coalesce st ids = .fuel :=
  sortHL_fuel_only_coalesce hl h

/-- the merge sort ends within a recursion depth of the number of ids, whatever the store holds -/
theorem C14_msort_no_fuel (f : Nat) (st : Store) (ids : List Nat) (h : ids.length ≤ f) (hf : 0 < f) : msort f st ids ≠ .fuel :=
  msort_ne_fuel f st ids h hf

/-- `hostlist_collapse` ends within its bound from every state, with or without `Inv` -/
theorem C14_collapse_no_fuel (st : Store) (ids : List Nat) : collapse st ids ≠ .fuel := collapse_ne_fuel st ids

/-- heavy duplication is where the iteration count grows (ten copies of `n[1-30]`: 109364 iterations of the outer loop of
    `hostlist_coalesce` for 300 hosts, more than the square of the size); a small instance, evaluated in the kernel: three
    copies of `n[1-5]` sort to a list that still holds every host three times -/
example : (match sortHL (hlOfString "n[1-5],n[1-5],n[1-5]") with | .ok hl => (expand hl).length | _ => 0) = 15 := by
  decide +kernel

/-- F19: sorting `f[97-100,066,97-103]` dies in `assert(hostrange_cmp(h1, h2) <= 0)` of `hostrange_intersect` -/
theorem C14_sort_abort_counterexample : sortHL (hlOfString "f[97-100,066,97-103]") = .abort := sortHL_F19_abort

/-- `WF` alone is not enough for the sort theorem: two single names `x` stored with different `lo`/`hi` fields (which
    no constructor produces) are joined by `hostlist_collapse` into one, losing a duplicate -/
theorem C14_sort_needs_WFS :
    HWF [⟨['x'], 0, 0, 0, true⟩, ⟨['x'], 1, 1, 0, true⟩] ∧
    sortHL [⟨['x'], 0, 0, 0, true⟩, ⟨['x'], 1, 1, 0, true⟩] = .ok [⟨['x'], 0, 1, 0, true⟩] ∧
    expand [⟨['x'], 0, 0, 0, true⟩, ⟨['x'], 1, 1, 0, true⟩] = [['x'], ['x']] ∧
    expand [⟨['x'], 0, 1, 0, true⟩] = [['x']] := sortHL_HWF_counterexample

example : HWFS (hlOfString "b2,a[1-3],a[2-5],b1") ∧
    sortHL (hlOfString "b2,a[1-3],a[2-5],b1") = .ok (hlOfString "a[1-2],a[2-3],a[3-5],b[1-2]") := sortHL_b2_parsed

end Pm.Props.C14
