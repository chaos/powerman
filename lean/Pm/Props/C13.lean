import Pm.ConfigProof
import Pm.AliasConfig
/-! # C13 — an accepted configuration is an unambiguous node-to-plug map; a configuration that breaks a rule is refused

Theorems over `Pm.ConfigModel.build` (`Pm/ConfigModel.lean`), the executable mirror of `makeDevice` / `makeNode` / `makeAlias`
(`parse_tab.y`), `pluglist_map` (`pluglist.c`), `conf_addnodes` / `conf_add_alias` / `_validate_config` (`parse_util.c`) over
strings, with host ranges expanded by the hostlist mirrors.  The model is compared with the real parser on every run
(`harness/u_confdump.c` against `cfdriver`, `lib/config.py`: accept/refuse, diagnostic class, offending line, full dump).
Helper lemmas: `Pm/ConfigProof.lean` (namespace `Pm.ConfigModel.Proof`), `Pm/AliasConfig.lean`.

All theorems hold for ALL specification lists and ALL line lists (no bound on their number, on the names, on the ranges).

Vocabulary: `steps specs empty 0 pre = .ok c` — the lines `pre` are all accepted and leave the state `c` (`steps` is `run`
without the final `_validate_config`; `build = steps` then `validate`: `build_eq_steps`).  `mapped devs m` — the number of plugs,
over all devices, that carry node `m`.  `plugNames d` / `freeNames d` — the plug names of `d` / of its plugs without node, in
list order.  A `Plug` is a pair (name, optional node), so "no plug carries two nodes" holds by representation. -/
namespace Pm.Props.C13
open Pm Pm.ConfigModel Pm.ConfigModel.Proof

/-! ## sample configurations for the non-vacuity examples -/

def S (s : String) : List Char := s.toList

def sampleSpecs : List Spec := [⟨S "hw", some [S "1", S "2", S "3", S "4"]⟩, ⟨S "fr", none⟩]

/-- two devices (hard-wired / free), ranges against ranges, next-free assignment, zero padding, names that are prefixes of
    one another, an alias of a range -/
def sampleStmts : List Stmt := [
  .device (S "d0") (S "hw"), .device (S "d1") (S "fr"),
  .node (S "t[1-2]") (S "d0") (some (S "[3-4]")),
  .node (S "t10,t1a") (S "d0") none,
  .node (S "n[08-10]") (S "d1") none,
  .node (S "u1") (S "d1") (some (S "p7")),
  .alias (S "all") (S "t[1-2],n[09-10]")]

def accepts (specs : List Spec) (stmts : List Stmt) : Bool := match build specs stmts with | .ok _ => true | .error _ => false

def refusal (specs : List Spec) (stmts : List Stmt) : Option Diag := match build specs stmts with | .ok _ => none | .error e => some e

theorem accepts_iff {specs : List Spec} {stmts : List Stmt} : accepts specs stmts = true ↔ ∃ cfg, build specs stmts = .ok cfg := by
  unfold accepts
  cases build specs stmts with
  | ok c => simp
  | error e => simp

/-- the sample is accepted, and this is its map: d0 `1=t10 2=t1a 3=t1 4=t2`, d1 (plugs prepended) `p7=u1 n10 n09 n08` -/
theorem sample_map : (match build sampleSpecs sampleStmts with
    | .ok c => some (c.devs.map fun d => d.plugs.map fun p => (String.ofList p.name, p.node.map String.ofList), (expand c.nodes).map String.ofList)
    | .error _ => none)
  = some ([[("1", some "t10"), ("2", some "t1a"), ("3", some "t1"), ("4", some "t2")],
           [("p7", some "u1"), ("n10", some "n10"), ("n09", some "n09"), ("n08", some "n08")]],
          ["t1", "t2", "t10", "t1a", "n08", "n09", "n10", "u1"]) := by decide +kernel
example : (match build sampleSpecs sampleStmts with
    | .ok c => some (c.devs.map fun d => d.plugs.map fun p => (String.ofList p.name, p.node.map String.ofList), (expand c.nodes).map String.ofList)
    | .error _ => none)
  = some ([[("1", some "t10"), ("2", some "t1a"), ("3", some "t1"), ("4", some "t2")],
           [("p7", some "u1"), ("n10", some "n10"), ("n09", some "n09"), ("n08", some "n08")]],
          ["t1", "t2", "t10", "t1a", "n08", "n09", "n10", "u1"]) := sample_map

/-! ## 1. accepted configurations -/

/-- **Every node name maps to exactly one plug of exactly one device.**  If the configuration is accepted, then for every
    name `m`: the number of plugs, counted over all devices, that carry `m` is 1 if `m` is in the node list and 0 otherwise. -/
theorem C13_functional (specs : List Spec) (stmts : List Stmt) (cfg : Cfg) (h : build specs stmts = .ok cfg) (m : Name) :
    mapped cfg.devs m = if m ∈ expand cfg.nodes then 1 else 0 := (build_Inv h).count m

/-- … and the node list of an accepted configuration holds no name twice -/
theorem C13_nodes_distinct (specs : List Spec) (stmts : List Stmt) (cfg : Cfg) (h : build specs stmts = .ok cfg) :
    (expand cfg.nodes).Nodup := (build_Inv h).nodup

theorem sample_accepted : accepts sampleSpecs sampleStmts = true := by
  refine accepts_iff.mpr ?_
  cases hb : build sampleSpecs sampleStmts with
  | ok c => exact ⟨c, rfl⟩
  | error e => have h := sample_map; rw [hb] at h; cases h
example : accepts sampleSpecs sampleStmts = true := sample_accepted

/-- **No plug carries two nodes** — immediate from the representation (`Plug.node : Option Name`, as in `pluglist.h`) —
    **and no two plugs of one device share a name**, provided no specification's `plug name` list repeats a name. -/
theorem C13_injective (specs : List Spec) (hspecs : ∀ s ∈ specs, ∀ l, s.plugs = some l → l.Nodup)
    (stmts : List Stmt) (cfg : Cfg) (h : build specs stmts = .ok cfg) : ∀ d ∈ cfg.devs, (plugNames d).Nodup :=
  steps_DistinctPlugs specs hspecs stmts cfg (build_ok h).steps

example : ∀ s ∈ sampleSpecs, ∀ l, s.plugs = some l → l.Nodup := by decide +kernel

/-- the hypothesis is needed: the parser accepts `plug name { "1" "1" }`, and the device then has two plugs called `1` -/
theorem C13_injective_needs_distinct_spec :
    (match build [⟨S "hw", some [S "1", S "1"]⟩] [.device (S "d") (S "hw"), .node (S "a,b") (S "d") none] with
     | .ok c => some (c.devs.map fun d => d.plugs.map fun p => (String.ofList p.name, p.node.map String.ofList))
     | .error _ => none) = some [[("1", some "a"), ("1", some "b")]] := by decide +kernel

/-- **Hard-wired plug names are respected.**  Every device of an accepted configuration follows the first specification of
    its name: it is hard-wired exactly if that specification has a `plug name` list, and then its plug names are exactly that
    list, in order — whatever the node lines did. -/
theorem C13_hardwired (specs : List Spec) (stmts : List Stmt) (cfg : Cfg) (h : build specs stmts = .ok cfg) :
    ∀ d ∈ cfg.devs, ∃ s, findSpec specs d.spec = some s ∧ d.hard = s.plugs.isSome ∧ ∀ l, s.plugs = some l → plugNames d = l :=
  steps_FollowsSpec specs stmts cfg (build_ok h).steps

/-- **A node range paired with a plug range maps the i-th node to the i-th plug.**  If line `k` of an accepted configuration
    is `node nodestr dev plugstr`, both strings parse, they expand to equally many names, and in the FINAL configuration the
    first device called `dev` holds, for every `i`, the plug named by the i-th plug name carrying the i-th node. -/
theorem C13_ith (specs : List Spec) (pre post : List Stmt) (nodestr plugstr : List Char) (dev : Name) (cfg : Cfg)
    (h : build specs (pre ++ .node nodestr dev (some plugstr) :: post) = .ok cfg) :
    ∃ nhl phl d, create nodestr = .ok nhl ∧ create plugstr = .ok phl ∧ cfg.devs.find? (·.name = dev) = some d ∧
      (expand nhl).length = (expand phl).length ∧
      ∀ (i : Nat) (n p : Name), (expand nhl)[i]? = some n → (expand phl)[i]? = some p → (⟨p, some n⟩ : Plug) ∈ d.plugs :=
  node_line_pluglist h

example : accepts sampleSpecs (sampleStmts.take 2 ++ .node (S "t[1-2]") (S "d0") (some (S "[3-4]")) :: sampleStmts.drop 3) = true :=
  sample_accepted

/-- **Without a plug list, on a hard-wired device: the next free plugs in order.**  `d1` is the device as the lines before
    line `k` left it; the i-th node of the line sits, in the final configuration, on the plug named like the i-th plug of `d1`
    that carried no node. -/
theorem C13_ith_hardwired (specs : List Spec) (pre post : List Stmt) (nodestr : List Char) (dev : Name) (cfg : Cfg)
    (h : build specs (pre ++ .node nodestr dev none :: post) = .ok cfg) :
    ∃ nhl c1 d1 d, create nodestr = .ok nhl ∧ steps specs empty 0 pre = .ok c1 ∧ c1.devs.find? (·.name = dev) = some d1 ∧
      cfg.devs.find? (·.name = dev) = some d ∧ d.hard = d1.hard ∧
      (d1.hard = true → ∀ (i : Nat) (n : Name), (expand nhl)[i]? = some n →
          ∃ p, (freeNames d1)[i]? = some p ∧ (⟨p, some n⟩ : Plug) ∈ d.plugs) := by
  obtain ⟨nhl, c1, d1, d, a, b, c, e, f, g, _⟩ := node_line_noplugs h
  exact ⟨nhl, c1, d1, d, a, b, c, e, f, g⟩

/-- **Without a plug list, on a device with free plug names: a plug named like the node.** -/
theorem C13_ith_free (specs : List Spec) (pre post : List Stmt) (nodestr : List Char) (dev : Name) (cfg : Cfg)
    (h : build specs (pre ++ .node nodestr dev none :: post) = .ok cfg) :
    ∃ nhl d, create nodestr = .ok nhl ∧ cfg.devs.find? (·.name = dev) = some d ∧
      (d.hard = false → ∀ n ∈ expand nhl, (⟨n, some n⟩ : Plug) ∈ d.plugs) := by
  obtain ⟨nhl, c1, d1, d, a, _, _, e, f, _, g⟩ := node_line_noplugs h
  exact ⟨nhl, d, a, e, fun hh => g (f ▸ hh)⟩

example : accepts sampleSpecs (sampleStmts.take 3 ++ .node (S "t10,t1a") (S "d0") none :: sampleStmts.drop 4) = true := sample_accepted
example : accepts sampleSpecs (sampleStmts.take 4 ++ .node (S "n[08-10]") (S "d1") none :: sampleStmts.drop 5) = true := sample_accepted

/-- **Every alias expands only to existing nodes, and there is at least one node.**  Every alias of an accepted
    configuration comes from an alias line (its index, name, host string), and each of its members is in the node list. -/
theorem C13_alias (specs : List Spec) (stmts : List Stmt) (cfg : Cfg) (h : build specs stmts = .ok cfg) :
    (∀ a ∈ cfg.aliases, ∀ x ∈ expand a.hl, x ∈ expand cfg.nodes) ∧ expand cfg.nodes ≠ [] ∧
    (∀ a ∈ cfg.aliases, ∃ hosts, stmts[a.stmt]? = some (.alias a.name hosts) ∧ create hosts = .ok a.hl) :=
  ⟨validate_alias (build_ok h).aliases, (build_ok h).nodes,
   by
    have := steps_aliases specs stmts [] empty cfg (by intro a ha; simp [empty] at ha) (build_ok h).steps
    simpa [AliasFrom] using this⟩

/-- … conversely every alias line of an accepted configuration is in the alias list, and every name its host string
    expands to is a configured node -/
theorem C13_alias_line (specs : List Spec) (pre post : List Stmt) (name : Name) (hosts : List Char) (cfg : Cfg)
    (h : build specs (pre ++ .alias name hosts :: post) = .ok cfg) :
    ∃ hl, create hosts = .ok hl ∧ (⟨name, hl, pre.length⟩ : Alias) ∈ cfg.aliases ∧ ∀ x ∈ expand hl, x ∈ expand cfg.nodes :=
  alias_line h

example : accepts sampleSpecs (sampleStmts.take 6 ++ .alias (S "all") (S "t[1-2],n[09-10]") :: sampleStmts.drop 7) = true :=
  sample_accepted

/-! ### aliases in requests

`aliasTable cfg` (`Pm/AliasConfig.lean`) is the alias list of the configuration as the request path of the daemon model holds it
(`Pm.Daemon.Cfg.aliases`): for every alias, in list order, its name and its hosts in iteration order.  `expAliases` is the mirror of
`conf_exp_aliases` (`Pm/Daemon.lean`; closed form, membership, no recursion: `Pm/Props/C01.lean`).  `isAlias tbl n`: `n` is the
name of an alias of the table; `standsFor tbl n`: the hosts of the alias `n`, or `[n]` when `n` is not an alias name;
`membersOf tbl n`: the hosts of the alias `n`, `[]` when there is none. -/

open Pm.ConfigModel.AliasCfg
open Pm.Daemon (aliasOf expAliases)
open Pm.Daemon.AliasPf (isAlias membersOf standsFor)

/-- **Alias names are pairwise distinct** (`_alias_create` refuses a second alias of a name), so which alias a name means does
    not depend on the order of the alias list. -/
theorem C13_alias_names_distinct (specs : List Spec) (stmts : List Stmt) (cfg : Cfg) (h : build specs stmts = .ok cfg) :
    (cfg.aliases.map (·.name)).Nodup :=
  alias_names_nodup h

/-- `list_find_first(conf_aliases, _alias_match, n)` answers with the hosts of THE alias called `n`. -/
theorem C13_alias_lookup (specs : List Spec) (stmts : List Stmt) (cfg : Cfg) (h : build specs stmts = .ok cfg)
    (n : Name) (hs : List Name) :
    aliasOf (aliasTable cfg) n = some hs ↔ ∃ a ∈ cfg.aliases, a.name = n ∧ expand a.hl = hs :=
  aliasOf_table_iff h n hs

/-- **Alias expansion on an accepted configuration.**  For every list `names` of typed names:
    1. as a multiset, `conf_exp_aliases` yields the typed names that are not alias names plus, for every typed occurrence of an
       alias name, the hosts of that alias (`Perm`, and the same by counting);
    2. the names `_hostlist_create_validated` reports as unknown (`209 No such nodes`) are the typed names that are neither
       alias names nor nodes, in the order typed — a host of an alias is never reported;
    3. if every typed name is an alias name, every name of the result is a configured node (`conf_node_exists` holds and it is
       in the node list), so the unknown list is empty: a request naming only aliases never yields `209`. -/
theorem C13_alias_expansion (specs : List Spec) (stmts : List Stmt) (cfg : Cfg) (h : build specs stmts = .ok cfg)
    (names : List Name) :
    ((expAliases (aliasTable cfg) names).Perm (names.flatMap (standsFor (aliasTable cfg))) ∧
     ∀ x, (expAliases (aliasTable cfg) names).count x =
        (names.filter (fun n => !isAlias (aliasTable cfg) n)).count x + (names.flatMap (membersOf (aliasTable cfg))).count x) ∧
    (expAliases (aliasTable cfg) names).filter (fun n => (find cfg.nodes n).isNone) =
      (names.filter (fun n => !isAlias (aliasTable cfg) n)).filter (fun n => (find cfg.nodes n).isNone) ∧
    ((∀ n ∈ names, isAlias (aliasTable cfg) n = true) →
      (∀ x ∈ expAliases (aliasTable cfg) names, (find cfg.nodes x).isSome = true ∧ x ∈ expand cfg.nodes) ∧
      (expAliases (aliasTable cfg) names).filter (fun n => (find cfg.nodes n).isNone) = []) := by
  refine ⟨⟨Pm.Daemon.AliasPf.expAliases_perm _ _, Pm.Daemon.AliasPf.count_expAliases _ _⟩,
    bad_names_find h cfg.nodes (fun _ hx => hx) names, fun hal => ⟨only_aliases_all_nodes h names hal, ?_⟩⟩
  refine List.filter_eq_nil_iff.mpr fun x hx => ?_
  simp [Option.isSome_iff_ne_none.mp (only_aliases_all_nodes h names hal x hx).1]

/-- The same seen from the daemon model.  `plCmd` is the branch of `parseLine` (`_parse_input`) for a command with an argument
    (`ClientPf.parseLine_eq`).  In a daemon `w` that holds the alias table of the accepted configuration and whose node list knows
    (at least) its nodes: a well-formed target expression that expands to alias names only is not answered `209`; the request is
    handed to `install` with the hosts of the typed aliases, in the order typed, as its target list. -/
theorem C13_alias_request_accepted (specs : List Spec) (stmts : List Stmt) (cfg : Cfg) (h : build specs stmts = .ok cfg)
    (w : Pm.Daemon.W) (c : Pm.Daemon.Cli) (com : Pm.Client.Com) (arg : Pm.Client.Bytes) (hl : Hostlist)
    (hals : w.cfg.aliases = aliasTable cfg)
    (hnodes : ∀ x, (find cfg.nodes x).isSome = true → (find w.cfg.nodes x).isSome = true)
    (hc : Pm.Daemon.createR (Pm.Daemon.toChars arg) = .ok hl) (hal : ∀ n ∈ expand hl, isAlias (aliasTable cfg) n = true) :
    Pm.Daemon.ClientPf.plCmd w c com arg = Pm.Daemon.install w c com (expAliases (aliasTable cfg) (expand hl)) ∧
    expAliases (aliasTable cfg) (expand hl) = (expand hl).flatMap (membersOf (aliasTable cfg)) := by
  refine ⟨plCmd_only_aliases h w c com arg hl hals hnodes hc hal, ?_⟩
  rw [Pm.Daemon.AliasPf.expAliases_spec, List.filter_eq_nil_iff.mpr (fun x hx => by simp [hal x hx]), List.nil_append]

/-- nodes t0…t7, u0…u3 on a device with free plug names; aliases `rackt = t0,t1,t2,t3`, `mix = t7,u1,u2`, `dupl = t1,t1` -/
def aliasStmts : List Stmt := [
  .device (S "d1") (S "fr"), .node (S "t[0-7]") (S "d1") none, .node (S "u[0-3]") (S "d1") none,
  .alias (S "rackt") (S "t[0-3]"), .alias (S "mix") (S "t7,u[1-2]"), .alias (S "dupl") (S "t1,t1")]

/-- what the accepted configuration makes of a list of typed names: the target list, and the names that would be reported unknown -/
def aliasRun (typed : List String) : Option (List String × List String) :=
  match build sampleSpecs aliasStmts with
  | .ok c => some (((expAliases (aliasTable c) (typed.map S)).map String.ofList),
                   ((expAliases (aliasTable c) (typed.map S)).filter fun n => (find c.nodes n).isNone).map String.ofList)
  | .error _ => none

def aliasTbl : List (Name × List Name) :=
  [(S "dupl", [S "t1", S "t1"]), (S "mix", [S "t7", S "u1", S "u2"]), (S "rackt", [S "t0", S "t1", S "t2", S "t3"])]
def aliasNodes : Hostlist := [⟨S "t", 0, 7, 1, false⟩, ⟨S "u", 0, 3, 1, false⟩]

/-- one evaluation of `aliasStmts`: accepted, with this alias table and this node list -/
theorem alias_built : ∃ c, build sampleSpecs aliasStmts = .ok c ∧ aliasTable c = aliasTbl ∧ c.nodes = aliasNodes := by
  have h : (match build sampleSpecs aliasStmts with
      | .ok c => decide (aliasTable c = aliasTbl ∧ c.nodes = aliasNodes)
      | .error _ => false) = true := by decide +kernel
  generalize hb : build sampleSpecs aliasStmts = r at h
  cases r with
  | ok c => exact ⟨c, rfl, of_decide_eq_true h⟩
  | error e => cases h

theorem aliasRun_eq (typed : List String) : aliasRun typed =
    some ((expAliases aliasTbl (typed.map S)).map String.ofList,
          ((expAliases aliasTbl (typed.map S)).filter fun n => (find aliasNodes n).isNone).map String.ofList) := by
  obtain ⟨c, hb, ht, hn⟩ := alias_built
  rw [aliasRun, hb]; simp only [ht, hn]

-- the table is in list order (aliases are prepended), hosts in iteration order, repetitions kept
example : (match build sampleSpecs aliasStmts with
    | .ok c => some ((aliasTable c).map fun p => (String.ofList p.1, p.2.map String.ofList)) | .error _ => none)
  = some [("dupl", ["t1", "t1"]), ("mix", ["t7", "u1", "u2"]), ("rackt", ["t0", "t1", "t2", "t3"])] := by
  obtain ⟨c, hb, ht, _⟩ := alias_built
  rw [hb]; simp only [ht]; decide +kernel
-- `on rackt,u3`
example : aliasRun ["rackt", "u3"] = some (["u3", "t0", "t1", "t2", "t3"], []) := by rw [aliasRun_eq]; decide +kernel
-- `status mix,mix`: only alias names typed, nothing unknown
example : aliasRun ["mix", "mix"] = some (["t7", "u1", "u2", "t7", "u1", "u2"], []) := by rw [aliasRun_eq]; decide +kernel
-- `off t2,rackt`: t2 twice
example : aliasRun ["t2", "rackt"] = some (["t2", "t0", "t1", "t2", "t3"], []) := by rw [aliasRun_eq]; decide +kernel
-- `on zz9,rackt,dupl,yy`: the unknown names are the typed non-alias names that are not nodes, in the order typed
example : aliasRun ["zz9", "rackt", "dupl", "yy"] = some (["zz9", "yy", "t0", "t1", "t2", "t3", "t1", "t1"], ["zz9", "yy"]) := by
  rw [aliasRun_eq]; decide +kernel

/-- **The node listing is exactly the node lines.**  The node list of an accepted configuration (what the `nodes` query
    prints, what the dump compares) is the concatenation, in line order, of the expansions of the node lines. -/
theorem C13_nodes_listing (specs : List Spec) (stmts : List Stmt) (cfg : Cfg) (h : build specs stmts = .ok cfg) :
    expand cfg.nodes = nodesOf stmts := by
  have := steps_nodes specs stmts empty cfg 0 Built.nil (build_ok h).steps
  simpa [empty, expand_nil] using this

example : (nodesOf sampleStmts).map String.ofList = ["t1", "t2", "t10", "t1a", "n08", "n09", "n10", "u1"] := by decide +kernel

/-! ## 2. refused configurations: one theorem per rule

Common shape: `hpre : steps specs empty 0 pre = .ok c` (the lines before line `k = pre.length` are accepted and leave state `c`),
a hypothesis saying how line `k` breaks the rule in state `c`, conclusion `build specs (pre ++ line :: post) = .error (class, k)`
whatever follows.  Within one line `pluglist_map` works pair by pair; for its rules the hypothesis
`mapLine d ns1 (some ps1) = .ok d1` says that the pairs before the offending one are fine. -/

/-- unknown specification -/
theorem C13_reject_unknown_spec (specs : List Spec) (pre post : List Stmt) (c : Cfg) (name spec : Name)
    (hpre : steps specs empty 0 pre = .ok c) (h : findSpec specs spec = none) :
    build specs (pre ++ .device name spec :: post) = .error (.specNotFound, pre.length) :=
  build_reject specs pre post _ c _ hpre (step_unknown_spec h)

example : refusal sampleSpecs [.device (S "d0") (S "nospec")] = some (.specNotFound, 0) := by decide +kernel

/-- unknown device -/
theorem C13_reject_unknown_device (specs : List Spec) (pre post : List Stmt) (c : Cfg) (nodestr : List Char) (dev : Name)
    (plugstr : Option (List Char)) (hpre : steps specs empty 0 pre = .ok c) (h : ∀ d ∈ c.devs, d.name ≠ dev) :
    build specs (pre ++ .node nodestr dev plugstr :: post) = .error (.unknownDevice, pre.length) :=
  build_reject specs pre post _ c _ hpre (step_unknown_device h)

example : refusal sampleSpecs [.device (S "d0") (S "hw"), .node (S "t1") (S "d00") none] = some (.unknownDevice, 1) := by decide +kernel

/-- malformed node string (`t[0-3`, `t[3-1]`, …: whatever `hostlist_create` refuses) -/
theorem C13_reject_invalid_node_list (specs : List Spec) (pre post : List Stmt) (c : Cfg) (nodestr : List Char) (dev : Name)
    (plugstr : Option (List Char)) (d : Dev) (e : PErr) (hpre : steps specs empty 0 pre = .ok c)
    (hd : c.devs.find? (·.name = dev) = some d) (h : create nodestr = .error e) :
    build specs (pre ++ .node nodestr dev plugstr :: post) = .error (.invalidNodeList, pre.length) :=
  build_reject specs pre post _ c _ hpre (step_node_error hd (nodeOnDev_invalid_nodes h))

example : refusal sampleSpecs [.device (S "d0") (S "hw"), .node (S "t[0-3") (S "d0") none] = some (.invalidNodeList, 1) := by decide +kernel

/-- malformed plug string -/
theorem C13_reject_invalid_plug_list (specs : List Spec) (pre post : List Stmt) (c : Cfg) (nodestr plugstr : List Char) (dev : Name)
    (d : Dev) (nhl : Hostlist) (e : PErr) (hpre : steps specs empty 0 pre = .ok c)
    (hd : c.devs.find? (·.name = dev) = some d) (hn : create nodestr = .ok nhl) (h : create plugstr = .error e) :
    build specs (pre ++ .node nodestr dev (some plugstr) :: post) = .error (.invalidPlugList, pre.length) :=
  build_reject specs pre post _ c _ hpre (step_node_error hd (nodeOnDev_invalid_plugs hn h))

example : refusal sampleSpecs [.device (S "d0") (S "hw"), .node (S "t1") (S "d0") (some (S "[2-1]"))] = some (.invalidPlugList, 1) := by
  decide +kernel

/-- unknown plug: the plug list of a line for a hard-wired device names something that is not one of its plugs -/
theorem C13_reject_unknown_plug (specs : List Spec) (pre post : List Stmt) (c : Cfg) (nodestr plugstr : List Char) (dev : Name)
    (d d1 : Dev) (nhl phl : Hostlist) (ns1 ns2 ps1 ps2 : List Name) (n p : Name)
    (hpre : steps specs empty 0 pre = .ok c) (hd : c.devs.find? (·.name = dev) = some d) (hh : d.hard = true)
    (hn : create nodestr = .ok nhl) (hp : create plugstr = .ok phl)
    (hns : expand nhl = ns1 ++ n :: ns2) (hps : expand phl = ps1 ++ p :: ps2) (hl : ns1.length = ps1.length)
    (h1 : mapLine d ns1 (some ps1) = .ok d1) (hbad : p ∉ plugNames d) :
    build specs (pre ++ .node nodestr dev (some plugstr) :: post) = .error (.unknownPlug, pre.length) :=
  build_reject specs pre post _ c _ hpre
    (step_node_error hd (by rw [nodeOnDev_some hn hp, hns, hps]; exact mapLine_unknown_plug hh hl h1 hbad))

/-- zero padding is significant in plug names too: `01` is not plug `1` -/
example : refusal sampleSpecs [.device (S "d0") (S "hw"), .node (S "t[1-2]") (S "d0") (some (S "2,01"))] = some (.unknownPlug, 1) := by
  decide +kernel

/-- doubly assigned plug: the plug named by the plug list carries a node already (from an earlier line, or from an earlier
    pair of this line: `d1` is the device after the earlier pairs) -/
theorem C13_reject_plug_assigned (specs : List Spec) (pre post : List Stmt) (c : Cfg) (nodestr plugstr : List Char) (dev : Name)
    (d d1 : Dev) (nhl phl : Hostlist) (ns1 ns2 ps1 ps2 : List Name) (n p : Name) (q : Plug)
    (hpre : steps specs empty 0 pre = .ok c) (hd : c.devs.find? (·.name = dev) = some d)
    (hn : create nodestr = .ok nhl) (hp : create plugstr = .ok phl)
    (hns : expand nhl = ns1 ++ n :: ns2) (hps : expand phl = ps1 ++ p :: ps2) (hl : ns1.length = ps1.length)
    (h1 : mapLine d ns1 (some ps1) = .ok d1) (hq : d1.plugs.find? (·.name = p) = some q) (hbusy : q.node.isSome = true) :
    build specs (pre ++ .node nodestr dev (some plugstr) :: post) = .error (.plugAssigned, pre.length) :=
  build_reject specs pre post _ c _ hpre
    (step_node_error hd (by rw [nodeOnDev_some hn hp, hns, hps]; exact mapLine_plug_assigned hl h1 hq hbusy))

example : refusal sampleSpecs [.device (S "d0") (S "hw"), .node (S "t1") (S "d0") (some (S "2")), .node (S "t2") (S "d0") (some (S "2"))]
    = some (.plugAssigned, 2) := by decide +kernel

/-- … the same without a plug list on a device with free plug names: a plug named like the node exists already
    (it carries a node: on such a device every plug does) -/
theorem C13_reject_plug_assigned_free (specs : List Spec) (pre post : List Stmt) (c : Cfg) (nodestr : List Char) (dev : Name)
    (d d1 : Dev) (nhl : Hostlist) (ns1 ns2 : List Name) (n : Name) (q : Plug)
    (hpre : steps specs empty 0 pre = .ok c) (hd : c.devs.find? (·.name = dev) = some d) (hh : d.hard = false)
    (hn : create nodestr = .ok nhl) (hns : expand nhl = ns1 ++ n :: ns2)
    (h1 : mapLine d ns1 none = .ok d1) (hq : d1.plugs.find? (·.name = n) = some q) (hbusy : q.node.isSome = true) :
    build specs (pre ++ .node nodestr dev none :: post) = .error (.plugAssigned, pre.length) :=
  build_reject specs pre post _ c _ hpre
    (step_node_error hd (by rw [nodeOnDev_none hn, hns]; exact mapLine_named_assigned hh h1 hq hbusy))

/-- a node named like a plug that an earlier line created by a plug list -/
example : refusal sampleSpecs [.device (S "d1") (S "fr"), .node (S "a") (S "d1") (some (S "b")), .node (S "b") (S "d1") none]
    = some (.plugAssigned, 2) := by decide +kernel

/-- more nodes than plugs (plug list given): the pairs up to the end of the plug list are fine, a node is left over -/
theorem C13_reject_more_nodes (specs : List Spec) (pre post : List Stmt) (c : Cfg) (nodestr plugstr : List Char) (dev : Name)
    (d d1 : Dev) (nhl phl : Hostlist) (ns1 ns2 : List Name) (n : Name)
    (hpre : steps specs empty 0 pre = .ok c) (hd : c.devs.find? (·.name = dev) = some d)
    (hn : create nodestr = .ok nhl) (hp : create plugstr = .ok phl)
    (hns : expand nhl = ns1 ++ n :: ns2) (hl : ns1.length = (expand phl).length)
    (h1 : mapLine d ns1 (some (expand phl)) = .ok d1) :
    build specs (pre ++ .node nodestr dev (some plugstr) :: post) = .error (.moreNodes, pre.length) :=
  build_reject specs pre post _ c _ hpre
    (step_node_error hd (by rw [nodeOnDev_some hn hp, hns]; exact mapLine_more_nodes hl h1))

example : refusal sampleSpecs [.device (S "d0") (S "hw"), .node (S "t[1-3]") (S "d0") (some (S "[1-2]"))] = some (.moreNodes, 1) := by
  decide +kernel

/-- more nodes than free plugs (no plug list, hard-wired device) -/
theorem C13_reject_more_nodes_hardwired (specs : List Spec) (pre post : List Stmt) (c : Cfg) (nodestr : List Char) (dev : Name)
    (d : Dev) (nhl : Hostlist) (hpre : steps specs empty 0 pre = .ok c) (hd : c.devs.find? (·.name = dev) = some d)
    (hh : d.hard = true) (hn : create nodestr = .ok nhl) (hmore : (freeNames d).length < (expand nhl).length) :
    build specs (pre ++ .node nodestr dev none :: post) = .error (.moreNodes, pre.length) :=
  build_reject specs pre post _ c _ hpre
    (step_node_error hd (by rw [nodeOnDev_none hn]; exact mapLine_hard_error _ d hh hmore))

example : refusal sampleSpecs [.device (S "d0") (S "hw"), .node (S "t[1-3]") (S "d0") none, .node (S "u[1-2]") (S "d0") none]
    = some (.moreNodes, 2) := by decide +kernel

/-- more plugs than nodes: all nodes are placed, a plug name is left over -/
theorem C13_reject_more_plugs (specs : List Spec) (pre post : List Stmt) (c : Cfg) (nodestr plugstr : List Char) (dev : Name)
    (d d1 : Dev) (nhl phl : Hostlist) (ps1 ps2 : List Name) (p : Name)
    (hpre : steps specs empty 0 pre = .ok c) (hd : c.devs.find? (·.name = dev) = some d)
    (hn : create nodestr = .ok nhl) (hp : create plugstr = .ok phl)
    (hps : expand phl = ps1 ++ p :: ps2) (hl : (expand nhl).length = ps1.length)
    (h1 : mapLine d (expand nhl) (some ps1) = .ok d1) :
    build specs (pre ++ .node nodestr dev (some plugstr) :: post) = .error (.morePlugs, pre.length) :=
  build_reject specs pre post _ c _ hpre
    (step_node_error hd (by rw [nodeOnDev_some hn hp, hps]; exact mapLine_more_plugs hl h1))

example : refusal sampleSpecs [.device (S "d0") (S "hw"), .node (S "t[1-2]") (S "d0") (some (S "[1-3]"))] = some (.morePlugs, 1) := by
  decide +kernel

/-- duplicate node: a line that names a node configured already (on any device), or names a node twice, is refused at
    that line — whatever the plug stage says about it (it may complain first, with its own class) -/
theorem C13_reject_duplicate_node (specs : List Spec) (pre post : List Stmt) (c : Cfg) (nodestr : List Char) (dev : Name)
    (plugstr : Option (List Char)) (nhl : Hostlist) (hpre : steps specs empty 0 pre = .ok c) (hn : create nodestr = .ok nhl)
    (hdup : (∃ n ∈ expand nhl, n ∈ expand c.nodes) ∨ ¬ (expand nhl).Nodup) :
    ∃ cls, build specs (pre ++ .node nodestr dev plugstr :: post) = .error (cls, pre.length) := by
  obtain ⟨e, he⟩ := step_duplicate_node_any (specs := specs) (i := pre.length) (dev := dev) (plugstr := plugstr)
    (steps_Inv pre empty c 0 Inv_empty hpre).built hn hdup
  exact ⟨e, build_reject specs pre post _ c e hpre he⟩

/-- … with the class `duplicate node name` when the plug stage (`nodeOnDev` = the two `hostlist_create` checks and
    `pluglist_map`) has nothing to say -/
theorem C13_reject_duplicate_node_class (specs : List Spec) (pre post : List Stmt) (c : Cfg) (nodestr : List Char) (dev : Name)
    (plugstr : Option (List Char)) (d d' : Dev) (nhl : Hostlist) (hpre : steps specs empty 0 pre = .ok c)
    (hd : c.devs.find? (·.name = dev) = some d) (hf : nodeOnDev nodestr plugstr d = .ok d') (hn : create nodestr = .ok nhl)
    (hdup : (∃ n ∈ expand nhl, n ∈ expand c.nodes) ∨ ¬ (expand nhl).Nodup) :
    build specs (pre ++ .node nodestr dev plugstr :: post) = .error (.dupNodeName, pre.length) :=
  build_reject specs pre post _ c _ hpre (step_duplicate_node (steps_Inv pre empty c 0 Inv_empty hpre).built hd hf hn hdup)

/-- overlapping ranges across two devices; zero padding is significant (`t01` is not `t1`) -/
example : refusal sampleSpecs [.device (S "d0") (S "hw"), .device (S "d1") (S "fr"), .node (S "t[1-3]") (S "d0") none,
    .node (S "t[3-4]") (S "d1") none] = some (.dupNodeName, 3) := by decide +kernel
example : accepts sampleSpecs [.device (S "d0") (S "hw"), .device (S "d1") (S "fr"), .node (S "t[1-3]") (S "d0") none,
    .node (S "t[01-03]") (S "d1") none] = true := by decide +kernel
/-- on one device with free plug names the plug stage complains first -/
example : refusal sampleSpecs [.device (S "d1") (S "fr"), .node (S "t[1-3]") (S "d1") none, .node (S "t[3-4]") (S "d1") none]
    = some (.plugAssigned, 2) := by decide +kernel

/-- duplicate alias name -/
theorem C13_reject_duplicate_alias (specs : List Spec) (pre post : List Stmt) (c : Cfg) (name : Name) (hosts : List Char) (a : Alias)
    (hpre : steps specs empty 0 pre = .ok c) (ha : a ∈ c.aliases) (hn : a.name = name) :
    build specs (pre ++ .alias name hosts :: post) = .error (.badAlias, pre.length) :=
  build_reject specs pre post _ c _ hpre (step_alias_dup ha hn)

/-- malformed alias host string -/
theorem C13_reject_invalid_alias (specs : List Spec) (pre post : List Stmt) (c : Cfg) (name : Name) (hosts : List Char) (e : PErr)
    (hpre : steps specs empty 0 pre = .ok c) (h : create hosts = .error e) :
    build specs (pre ++ .alias name hosts :: post) = .error (.badAlias, pre.length) :=
  build_reject specs pre post _ c _ hpre (step_alias_invalid h)

example : refusal sampleSpecs [.alias (S "a") (S "t1"), .alias (S "a") (S "t2")] = some (.badAlias, 1) := by decide +kernel
example : refusal sampleSpecs [.alias (S "a") (S "t[1-")] = some (.badAlias, 0) := by decide +kernel

/-- alias to a missing node: all lines are accepted one by one (state `c`), but some alias has a member that is not a
    configured node.  Then the configuration is refused, and the diagnostic names (the line of) an alias `b` that has
    such a member — the first one in the order of the alias list, i.e. the one declared last. -/
theorem C13_reject_alias_missing (specs : List Spec) (stmts : List Stmt) (c : Cfg) (hs : steps specs empty 0 stmts = .ok c)
    (a : Alias) (ha : a ∈ c.aliases) (x : Name) (hx : x ∈ expand a.hl) (hnot : x ∉ expand c.nodes) :
    ∃ b ∈ c.aliases, (∃ y ∈ expand b.hl, y ∉ expand c.nodes) ∧ build specs stmts = .error (.aliasMissing, b.stmt) :=
  build_alias_missing hs a ha x hx hnot

example : refusal sampleSpecs [.device (S "d1") (S "fr"), .alias (S "a") (S "t[1-3]"), .node (S "t[1-2]") (S "d1") none]
    = some (.aliasMissing, 1) := by decide +kernel

/-- no nodes at all: all lines are accepted one by one but the node lines configure nothing.  The configuration is refused:
    `no nodes are defined` (index = number of lines), unless an alias with a member comes first in `_validate_config`. -/
theorem C13_reject_no_nodes (specs : List Spec) (stmts : List Stmt) (c : Cfg) (hs : steps specs empty 0 stmts = .ok c)
    (hno : nodesOf stmts = []) :
    build specs stmts = .error (.noNodes, stmts.length) ∨ ∃ b ∈ c.aliases, build specs stmts = .error (.aliasMissing, b.stmt) :=
  build_no_nodes hs hno

example : refusal sampleSpecs [.device (S "d0") (S "hw"), .device (S "d1") (S "fr")] = some (.noNodes, 2) := by decide +kernel
example : refusal sampleSpecs [] = some (.noNodes, 0) := by decide +kernel

/-! ### the hypotheses of the rejection theorems are satisfiable: each theorem applied to concrete lines

`stateAfter`, `devOf`, `hlOf`, `lineOf` compute the state / device / host list / device-after-pairs the hypotheses speak of;
every hypothesis is then checked by evaluation. -/

def stateAfter (pre : List Stmt) : Cfg := match steps sampleSpecs empty 0 pre with | .ok c => c | .error _ => empty
def devOf (c : Cfg) (dev : String) : Dev := (c.devs.find? (·.name = S dev)).getD ⟨[], [], false, []⟩
def hlOf (s : String) : Hostlist := match create (S s) with | .ok h => h | .error _ => []
def lineOf (d : Dev) (ns : List String) (ps : Option (List String)) : Dev :=
  match mapLine d (ns.map S) (ps.map (·.map S)) with | .ok d' => d' | .error _ => d

def pre1 : List Stmt := [.device (S "d0") (S "hw"), .device (S "d1") (S "fr"), .node (S "t9") (S "d0") (some (S "3"))]

/-- the two devices as `pre1` leaves them (`devOf (stateAfter pre1) "d0"`, `… "d1"`), written out: `t9` sits on plug 3 of `d0` -/
def pre1Dev0 : Dev := ⟨S "d0", S "hw", true, [⟨S "1", none⟩, ⟨S "2", none⟩, ⟨S "3", some (S "t9")⟩, ⟨S "4", none⟩]⟩
def pre1Dev1 : Dev := ⟨S "d1", S "fr", false, []⟩
/-- one evaluation of `pre1`: it is accepted, and these are its two devices -/
theorem pre1_run : steps sampleSpecs empty 0 pre1 = .ok (stateAfter pre1) ∧
    (stateAfter pre1).devs.find? (·.name = S "d0") = some pre1Dev0 ∧
    (stateAfter pre1).devs.find? (·.name = S "d1") = some pre1Dev1 := by decide +kernel

example : build sampleSpecs (pre1 ++ .node (S "t[1-2]") (S "d0") (some (S "2,01")) :: [.alias (S "a") (S "t1")])
    = .error (.unknownPlug, 3) :=
  C13_reject_unknown_plug sampleSpecs pre1 _ _ (S "t[1-2]") (S "2,01") (S "d0") _
    (lineOf pre1Dev0 ["t1"] (some ["2"])) (hlOf "t[1-2]") (hlOf "2,01") [S "t1"] [] [S "2"] [] (S "t2") (S "01")
    pre1_run.1 pre1_run.2.1 (by decide +kernel) (by decide +kernel) (by decide +kernel) (by decide +kernel)
    (by decide +kernel) (by decide +kernel) (by decide +kernel) (by decide +kernel)

/-- the second pair of the line names plug 3, which the earlier line `t9` took -/
example : build sampleSpecs (pre1 ++ .node (S "t[1-2]") (S "d0") (some (S "[2-3]")) :: []) = .error (.plugAssigned, 3) :=
  C13_reject_plug_assigned sampleSpecs pre1 _ _ (S "t[1-2]") (S "[2-3]") (S "d0") _
    (lineOf pre1Dev0 ["t1"] (some ["2"])) (hlOf "t[1-2]") (hlOf "[2-3]") [S "t1"] [] [S "2"] [] (S "t2") (S "3")
    ⟨S "3", some (S "t9")⟩
    pre1_run.1 pre1_run.2.1 (by decide +kernel) (by decide +kernel) (by decide +kernel) (by decide +kernel)
    (by decide +kernel) (by decide +kernel) (by decide +kernel) (by decide +kernel)

/-- the same plug twice within one line -/
example : build sampleSpecs (pre1 ++ .node (S "t[1-2]") (S "d1") (some (S "o1,o1")) :: []) = .error (.plugAssigned, 3) :=
  C13_reject_plug_assigned sampleSpecs pre1 _ _ (S "t[1-2]") (S "o1,o1") (S "d1") _
    (lineOf pre1Dev1 ["t1"] (some ["o1"])) (hlOf "t[1-2]") (hlOf "o1,o1") [S "t1"] [] [S "o1"] [] (S "t2") (S "o1")
    ⟨S "o1", some (S "t1")⟩
    pre1_run.1 pre1_run.2.2 (by decide +kernel) (by decide +kernel) (by decide +kernel) (by decide +kernel)
    (by decide +kernel) (by decide +kernel) (by decide +kernel) (by decide +kernel)

example : build sampleSpecs (pre1 ++ .node (S "t[1-3]") (S "d0") (some (S "[1-2]")) :: []) = .error (.moreNodes, 3) :=
  C13_reject_more_nodes sampleSpecs pre1 _ _ (S "t[1-3]") (S "[1-2]") (S "d0") _
    (lineOf pre1Dev0 ["t1", "t2"] (some ["1", "2"])) (hlOf "t[1-3]") (hlOf "[1-2]") [S "t1", S "t2"] [] (S "t3")
    pre1_run.1 pre1_run.2.1 (by decide +kernel) (by decide +kernel) (by decide +kernel) (by decide +kernel)
    (by decide +kernel)

example : build sampleSpecs (pre1 ++ .node (S "t1") (S "d0") (some (S "[1-2]")) :: []) = .error (.morePlugs, 3) :=
  C13_reject_more_plugs sampleSpecs pre1 _ _ (S "t1") (S "[1-2]") (S "d0") _
    (lineOf pre1Dev0 ["t1"] (some ["1"])) (hlOf "t1") (hlOf "[1-2]") [S "1"] [] (S "2")
    pre1_run.1 pre1_run.2.1 (by decide +kernel) (by decide +kernel) (by decide +kernel) (by decide +kernel)
    (by decide +kernel)

/-- three plugs are free on `d0` (plug 3 is taken), four nodes come -/
example : build sampleSpecs (pre1 ++ .node (S "t[1-4]") (S "d0") none :: []) = .error (.moreNodes, 3) :=
  C13_reject_more_nodes_hardwired sampleSpecs pre1 _ _ (S "t[1-4]") (S "d0") _ (hlOf "t[1-4]")
    pre1_run.1 pre1_run.2.1 (by decide +kernel) (by decide +kernel) (by decide +kernel)

/-- `t9` sits on `d0`; configuring it again on the other device passes the plug stage and is a duplicate node name -/
example : build sampleSpecs (pre1 ++ .node (S "t[8-9]") (S "d1") none :: []) = .error (.dupNodeName, 3) :=
  C13_reject_duplicate_node_class sampleSpecs pre1 _ _ (S "t[8-9]") (S "d1") none _
    (lineOf pre1Dev1 ["t8", "t9"] none) (hlOf "t[8-9]")
    pre1_run.1 pre1_run.2.2 (by decide +kernel) (by decide +kernel)
    (Or.inl ⟨S "t9", by decide +kernel, by decide +kernel⟩)

example : ∃ b ∈ (stateAfter (pre1 ++ [.alias (S "a") (S "t[8-9]")])).aliases,
    (∃ y ∈ expand b.hl, y ∉ expand (stateAfter (pre1 ++ [.alias (S "a") (S "t[8-9]")])).nodes) ∧
    build sampleSpecs (pre1 ++ [.alias (S "a") (S "t[8-9]")]) = .error (.aliasMissing, b.stmt) := by
  have h : steps sampleSpecs empty 0 (pre1 ++ [.alias (S "a") (S "t[8-9]")]) = .ok (stateAfter (pre1 ++ [.alias (S "a") (S "t[8-9]")])) ∧
      (⟨S "a", hlOf "t[8-9]", 3⟩ : Alias) ∈ (stateAfter (pre1 ++ [.alias (S "a") (S "t[8-9]")])).aliases ∧
      S "t8" ∈ expand (hlOf "t[8-9]") ∧ S "t8" ∉ expand (stateAfter (pre1 ++ [.alias (S "a") (S "t[8-9]")])).nodes := by decide +kernel
  exact C13_reject_alias_missing sampleSpecs _ _ h.1 _ h.2.1 _ h.2.2.1 h.2.2.2

/-! ## 3. behaviour worth knowing (as the real parser, see the correspondence runs) -/

/-- `makeDevice` does not check for a duplicate device name: two devices called `d` are accepted; node lines reach the
    first one only (`dev_findbyname`), the second keeps all its plugs empty (second conjunct) — so five nodes for the two
    four-plug devices are refused: the free plugs of the second `d` are out of reach (first conjunct, `= none`).  C13 is not
    contradicted (every node is still on exactly one plug of one device), but the `device` listing shows two devices of one
    name. -/
theorem C13_duplicate_device_accepted :
    (match build sampleSpecs [.device (S "d") (S "hw"), .device (S "d") (S "hw"), .node (S "t[1-5]") (S "d") none] with
     | .ok c => some (c.devs.map fun d => (String.ofList d.name, d.plugs.map fun p => p.node.map String.ofList))
     | .error _ => none) = none ∧
    (match build sampleSpecs [.device (S "d") (S "hw"), .device (S "d") (S "hw"), .node (S "t[1-2]") (S "d") none] with
     | .ok c => some (c.devs.map fun d => (String.ofList d.name, d.plugs.map fun p => p.node.map String.ofList))
     | .error _ => none) = some [("d", [some "t1", some "t2", none, none]), ("d", [none, none, none, none])] := by
  decide +kernel

/-- `node "" "d"` is accepted and configures nothing (`hostlist_create("")` is the empty list) -/
theorem C13_empty_node_string_accepted :
    accepts sampleSpecs [.device (S "d0") (S "hw"), .node (S "") (S "d0") none, .node (S "t1") (S "d0") none] = true := by
  decide +kernel

end Pm.Props.C13
