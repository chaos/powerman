import Pm.RedfishProof
import Pm.RfCmdLink
import Pm.RfCmdEx
/-! # C19 — redfishpower (test mode) answers every target once, by the documented parent/child rules, and returns to its prompt

`Pm/Redfish.lean` holds two things: the machine as coded (`runCmd`: the three lists `activecmds` / `delayedcmds` /
`waitcmds`, `send_initial_parent_queries`, `process_waiters`, the phased-`on` check, the status polls, the shell loop)
and the documented rules as pure functions (`specStat`, `specPower`).  Both are compared with the real binary by the
differential driver.  The theorems here hold for **every** well-formed configuration (`WF`: plug names distinct, every
parent defined, no cycles — any size, any depth), every simulated plug state, every target list (duplicates and
unknown plugs included) and every set of failing hosts.

`runCmd` receives the target list already expanded, as plug indices.  The command loop in front of it — splitting
the input line, the command table, `setplugs` / `setpath` / `settimeout` …, the plug table, target resolution of hostlist
expressions, every diagnostic — is the model `Pm/RfCmd.lean` (on strings, same bytes as the real helper); its theorems
are in the last section (`C19_bad_input` …, `C19_targets_resolved`), where the machine theorems are composed with it. -/
namespace Pm.Props.C19
open Pm.Redfish

/-- a three-level forest: chassis 0, blades 1 and 2 (both answered by host 1), nodes 3 (under 1) and 4 (under 2);
    a second tree 5 ▸ 6; host 3 (plug 4) fails every request -/
def exC : Cfg :=
  { plugs := [⟨0, 0, none⟩, ⟨1, 1, some 0⟩, ⟨2, 1, some 0⟩, ⟨3, 2, some 1⟩, ⟨4, 3, some 2⟩, ⟨5, 4, none⟩, ⟨6, 5, some 5⟩],
    failing := [3] }
/-- everything on except blade 2 -/
def exSt : St := [(0, true), (1, true), (2, false), (3, true), (4, true), (5, true), (6, true)]

example : WF exC = true := by decide
/-- a cycle is rejected, and so is an undefined parent, and so is a duplicate name -/
example : WF { plugs := [⟨0, 0, some 1⟩, ⟨1, 0, some 0⟩], failing := [] } = false := by decide
example : WF { plugs := [⟨0, 0, some 7⟩], failing := [] } = false := by decide
example : WF { plugs := [⟨0, 0, none⟩, ⟨0, 1, none⟩], failing := [] } = false := by decide

/-- in a well-formed configuration no plug is its own ancestor -/
theorem C19_WF_acyclic (c : Cfg) (hw : WF c = true) (p : Nat) : isDesc c p p = false := WF_acyclic hw p

/-! ## The helper returns to its prompt -/

/-- `runCmd` reports "done": the shell loop was not cut short by its fuel -/
theorem C19_terminates (c : Cfg) (hw : WF c = true) (st : St) (cmd : Cmd) (targets : List Nat) :
    (runCmd c st cmd targets).2.2 = true := runCmd_done hw st cmd targets

/-- … and "done" means what `shell()` tests before printing `redfishpower> `: all three lists are empty.
    (`finalM` is the machine state `runCmd` ends in: `runCmd_final`.) -/
theorem C19_prompt (c : Cfg) (hw : WF c = true) (st : St) (cmd : Cmd) (targets : List Nat) :
    runCmd c st cmd targets = ((finalM c st cmd targets).out, (finalM c st cmd targets).st, true) ∧
    (finalM c st cmd targets).active = [] ∧ (finalM c st cmd targets).delayed = [] ∧
    (finalM c st cmd targets).waiting = [] := runCmd_prompt hw st cmd targets

example : (runCmd exC exSt .off [3, 4, 99, 3, 0, 6]).2.2 = true := by decide +kernel

/-! ## Exactly one line per target -/

/-- the plugs named by the output lines are the targets, with multiplicity: every targeted plug gets exactly one line -/
theorem C19_one_line_per_target (c : Cfg) (hw : WF c = true) (st : St) (cmd : Cmd) (targets : List Nat) :
    ((runCmd c st cmd targets).1.map linePlug).Perm targets := runCmd_plugs hw st cmd targets

/-- … and that line is `unknown plug specified` exactly for the targets that are not configured; the helper goes on
    (it still terminates and answers the other targets) -/
theorem C19_unknown_reported (c : Cfg) (hw : WF c = true) (st : St) (cmd : Cmd) (targets : List Nat) :
    ((runCmd c st cmd targets).1.map fun l => (linePlug l, isUnk l)).Perm
      (targets.map fun t => (t, !known c t)) := runCmd_unknowns hw st cmd targets

example : (runCmd exC exSt .stat [3, 4, 99, 3]).1 =
    [.unknown 99, .status 4 .off, .status 3 .on, .status 3 .on] := by decide +kernel

/-! ## The documented rules (statements about `specStat` / `specPower`)

`a` is the topmost ancestor of `t` that is not on: `statOf a ≠ on`, everything above `a` is on. -/

/-- `specStat` answers target by target -/
theorem C19_stat_pointwise (c : Cfg) (st : St) (targets : List Nat) :
    specStat c st targets = targets.map (statLine c st) := rfl

/-- status: a descendant of an ancestor that is not on reports that ancestor's off / error state -/
theorem C19_rule_stat (c : Cfg) (hw : WF c = true) (st : St) (t a : Nat) (hk : known c t = true)
    (ha : a ∈ ancUp c t) (hoff : statOf c st a ≠ .on) (habove : ∀ b ∈ ancUp c a, statOf c st b = .on) :
    statLine c st t = .status t (statOf c st a) := specStat_blocked hw st hk ha hoff habove

/-- status: with all ancestors on, a plug reports its own state -/
theorem C19_rule_stat_clear (c : Cfg) (st : St) (t : Nat) (hk : known c t = true)
    (hon : ∀ b ∈ ancUp c t, statOf c st b = .on) : statLine c st t = .status t (statOf c st t) :=
  specStat_clear st hk hon

example : specStat exC exSt [4, 3, 2] = [.status 4 .off, .status 3 .on, .status 2 .off] := by decide +kernel

/-- `on` below an ancestor that is not on is refused, naming the dependency; nothing changes -/
theorem C19_rule_on_refused (c : Cfg) (hw : WF c = true) (st : St) (t a : Nat) (hk : known c t = true)
    (ha : a ∈ ancUp c t) (hoff : statOf c st a ≠ .on) (habove : ∀ b ∈ ancUp c a, statOf c st b = .on) :
    specPower c st .on [t] = ([.dep t .on (statOf c st a) a], st) := specPower_on_blocked hw st hk ha hoff habove

example : specPower exC exSt .on [4] = ([.dep 4 .on .off 2], exSt) := by decide +kernel

/-- `off` below an ancestor that is off is reported `ok`; nothing changes -/
theorem C19_rule_off_below_off (c : Cfg) (hw : WF c = true) (st : St) (t a : Nat) (hk : known c t = true)
    (ha : a ∈ ancUp c t) (hoff : statOf c st a = .off) (habove : ∀ b ∈ ancUp c a, statOf c st b = .on) :
    specPower c st .off [t] = ([.ok t], st) := specPower_off_below_off hw st hk ha hoff habove

/-- `off` below an ancestor in error is refused, naming the dependency -/
theorem C19_rule_off_below_error (c : Cfg) (hw : WF c = true) (st : St) (t a : Nat) (hk : known c t = true)
    (ha : a ∈ ancUp c t) (herr : statOf c st a = .error) (habove : ∀ b ∈ ancUp c a, statOf c st b = .on) :
    specPower c st .off [t] = ([.dep t .off .error a], st) := specPower_off_blocked hw st hk ha herr habove

example : specPower exC exSt .off [4] = ([.ok 4], exSt) := by decide +kernel

/-- requesting `on` for an ancestor and one of its descendants together refuses every known target
    (unknown ones are still reported as unknown); nothing changes -/
theorem C19_rule_phased (c : Cfg) (st : St) (targets : List Nat) (a b : Nat) (ha : a ∈ targets) (hb : b ∈ targets)
    (hka : known c a = true) (hkb : known c b = true) (hd : isDesc c a b = true) :
    specPower c st .on targets = (unknownLines c targets ++ (knownT c targets).map Line.phased, st) :=
  specPower_phased c st targets ha hb hka hkb hd

example : specPower exC exSt .on [5, 3, 99, 1] = ([.unknown 99, .phased 5, .phased 3, .phased 1], exSt) := by
  decide +kernel

/-- powering a parent off (all its ancestors on, its host answering) is `ok` and leaves the parent and every
    descendant off; every other plug keeps its state -/
theorem C19_rule_off_parent (c : Cfg) (hw : WF c = true) (st : St) (p : Nat) (hk : known c p = true)
    (hon : ∀ b ∈ ancUp c p, statOf c st b = .on) (hf : hostFails c p = false) :
    (specPower c st .off [p]).1 = [.ok p] ∧ isOn (specPower c st .off [p]).2 p = false ∧
    (∀ x, isDesc c x p = true → isOn (specPower c st .off [p]).2 x = false) ∧
    (∀ x, x ≠ p → isDesc c x p = false → isOn (specPower c st .off [p]).2 x = isOn st x) :=
  specPower_off_parent hw st hk hon hf

example : ((specPower exC exSt .off [1]).1, [0, 1, 2, 3, 4, 5, 6].map (isOn (specPower exC exSt .off [1]).2)) =
    ([.ok 1], [true, false, false, false, true, true, true]) := by decide +kernel

/-! ## The rules for arbitrary target lists

When the command is not refused, `specPower` is a fold over the known targets sorted by depth, each step looking at what
was decided for the targets above.  In closed form (`powLine`, `finalOn`): the line of a known target `t` depends on its
*blocker* — the topmost ancestor `a` whose effective status `effStat` is not on; `effStat a` is the initial `statOf a`,
except that under `off` a co-target whose host answers counts as off (it is, or is being, switched off). -/

/-- not refused: one `unknown` line per unknown target, `powLine` for each known one; the plug states are `finalOn` -/
theorem C19_rules_closed_form (c : Cfg) (hw : WF c = true) (st : St) (cmd : Cmd) (hc : cmd ≠ .stat) (targets : List Nat)
    (hph : specPhased c cmd targets = false) :
    (specPower c st cmd targets).1.Perm
      (unknownLines c targets ++ (knownT c targets).map (powLine c st cmd (knownT c targets))) ∧
    ∀ x, isOn (specPower c st cmd targets).2 x = finalOn c st cmd (knownT c targets) (knownT c targets) x :=
  specPower_lines hw st hc targets hph

/-- `on`, any target list: each known target is judged exactly as if it were the only target (`C19_rule_on_refused` above) -/
theorem C19_rule_on_each (c : Cfg) (st : St) (T : List Nat) (t : Nat) :
    powLine c st .on T t = (powerLine1 c st .on t).1 := powLine_on c st T t

/-- `off`, any target list: a target below a co-target that answers (everything above that one on) is `ok` -/
theorem C19_rule_off_parent_and_child (c : Cfg) (hw : WF c = true) (st : St) (T : List Nat) (t a : Nat)
    (ha : a ∈ ancUp c t) (haT : a ∈ T) (hf : hostFails c a = false)
    (habove : ∀ b ∈ ancUp c a, effStat c st .off T b = .on) :
    powLine c st .off T t = .ok t := powLine_off_below_target hw st T ha haT hf habove

/-- `off`, any target list: a target that is switched (`succeeds`: no blocker, host answers) ends off, with every
    descendant -/
theorem C19_rule_off_leaves_descendants_off (c : Cfg) (st : St) (T : List Nat) (t x : Nat) (ht : t ∈ T)
    (hs : succeeds c st .off T t = true) (hx : x = t ∨ isDesc c x t = true) :
    finalOn c st .off T T x = false := finalOn_off_below st T ht hs hx

/-- `off` of blade 1, node 3 below it, and node 6 of the other tree (in closed form; `mergeSort` inside `specPower`
    does not reduce in the kernel for more than one target): all three `ok`; 1, 3 and 6 end off, 2 stays off -/
example : (knownT exC [3, 1, 6]).map (powLine exC exSt .off (knownT exC [3, 1, 6])) = [.ok 3, .ok 1, .ok 6] ∧
    [0, 1, 2, 3, 4, 5, 6].map (finalOn exC exSt .off (knownT exC [3, 1, 6]) (knownT exC [3, 1, 6]))
      = [true, false, false, false, true, true, false] := by
  decide +kernel

/-! ## The machine follows the rules -/

/-- the machine's and the rules' tests for "parent and child `on` together" agree -/
theorem C19_phased_check_agrees (c : Cfg) (hw : WF c = true) (st : St) (cmd : Cmd) (targets : List Nat) :
    phasedT c st cmd targets = specPhased c cmd targets := phased_iff hw st cmd targets

/-- `stat`: the lines printed are exactly those of `specStat` (as a multiset), the plug states are untouched -/
theorem C19_refines_stat (c : Cfg) (hw : WF c = true) (st : St) (targets : List Nat) :
    (runCmd c st .stat targets).1.Perm (specStat c st targets) ∧ (runCmd c st .stat targets).2.1 = st :=
  runCmd_stat hw st targets

/-- `on` / `off`: the lines printed are exactly those of `specPower` (as a multiset), and every plug ends in the state
    `specPower` says (the two association lists may list the plugs in different orders) -/
theorem C19_refines_power (c : Cfg) (hw : WF c = true) (st : St) (cmd : Cmd) (hc : cmd ≠ .stat) (targets : List Nat) :
    (runCmd c st cmd targets).1.Perm (specPower c st cmd targets).1 ∧
    ∀ x, isOn (runCmd c st cmd targets).2.1 x = isOn (specPower c st cmd targets).2 x :=
  runCmd_power hw st hc targets

/-- all three commands in one statement (`specRun` = what the driver `RfMain` computes on the rules' side) -/
theorem C19_refines (c : Cfg) (hw : WF c = true) (st : St) (cmd : Cmd) (targets : List Nat) :
    (runCmd c st cmd targets).2.2 = true ∧
    (runCmd c st cmd targets).1.Perm (specRun c st cmd targets).1 ∧
    SameSt (runCmd c st cmd targets).2.1 (specRun c st cmd targets).2 :=
  ⟨runCmd_done hw st cmd targets, runCmd_refines hw st cmd targets⟩

/-- any sequence of commands, each started from the plug states the previous one left: after every command the helper is
    back at its prompt and has printed the rules' lines; machine and rules end with the same plug states.  The two
    sides may start from different association lists as long as they describe the same states. -/
theorem C19_refines_sequence (c : Cfg) (hw : WF c = true) (cmds : List (Cmd × List Nat)) (sm ss : St)
    (h : SameSt sm ss) :
    SeqAgree (machSeq c sm cmds).1 (specSeq c ss cmds).1 ∧ SameSt (machSeq c sm cmds).2 (specSeq c ss cmds).2 :=
  seq_refines hw cmds sm ss h

/-- the rules read the plug states only through `isOn` -/
theorem C19_rules_extensional (c : Cfg) (hw : WF c = true) (a b : St) (h : SameSt a b) (cmd : Cmd) (targets : List Nat) :
    (specRun c a cmd targets).1 = (specRun c b cmd targets).1 ∧
    SameSt (specRun c a cmd targets).2 (specRun c b cmd targets).2 := specRun_congr hw h cmd targets

/-- non-vacuity: a sequence on the example forest — `off` of a blade and a node below it plus an unknown plug, then
    `stat` of everything, then a refused `on`, then an `on` below the failing/off parts -/
def exCmds : List (Cmd × List Nat) :=
  [(.off, [3, 1, 99]), (.stat, [0, 1, 2, 3, 4, 5, 6]), (.on, [1, 3]), (.on, [3, 4, 6, 6])]

/-- one run of the sequence: the machine's lines, command by command, and that each command came to its end -/
theorem exCmds_run : (machSeq exC exSt exCmds).1 =
    [([.unknown 99, .ok 1, .ok 3], true),
     ([.status 0 .on, .status 5 .on, .status 1 .off, .status 3 .off, .status 2 .off, .status 4 .off, .status 6 .on], true),
     ([.phased 1, .phased 3], true),
     ([.dep 3 .on .off 1, .dep 4 .on .off 2, .ok 6, .ok 6], true)] := by decide +kernel

example : (machSeq exC exSt exCmds).1.map (·.2) = [true, true, true, true] := by rw [exCmds_run]; rfl
/-- the machine's lines, command by command (by the theorem: the rules' lines, up to order) -/
example : (machSeq exC exSt exCmds).1.map (·.1) =
    [[.unknown 99, .ok 1, .ok 3],
     [.status 0 .on, .status 5 .on, .status 1 .off, .status 3 .off, .status 2 .off, .status 4 .off, .status 6 .on],
     [.phased 1, .phased 3],
     [.dep 3 .on .off 1, .dep 4 .on .off 2, .ok 6, .ok 6]] := by rw [exCmds_run]; rfl

/-! ## The command layer: any input line, configuration commands, target resolution

`Pm/RfCmd.lean` mirrors `shell()` / `process_cmd()` and the configuration commands on strings: `step s buf` is what one
piece of input (one `fgets`) does to the state `s`: new state, lines printed, and how it ends (`Ctl`): `cont` = back at
the prompt, `exit n`, `abort` (a failed `assert`), `hang` (no prompt ever again), `outside` (behaviour of the real helper
known — see the model — but not described: a number of 20 digits or more in a range; a plug without status path polled;
some commands on tables with cycles).  Compared byte for byte with the real helper on generated sessions
(`lib/redfish.py`, second scenario).

The sentence of the property — "unknown plugs, bad host indices and malformed ranges are reported without terminating
the helper" — is TRUE of those three kinds of input (`C19_diag_…`, `C19_targets_resolved`, `C19_malformed_lines`) and
FALSE of "any input": `C19_bad_input` says exactly which lines can end or wedge the helper, the `_counterexample`s give
the input lines (all reproduced on the real helper). -/
section CommandLayer
open Pm.RfCmd

/-- **Every piece of input, any bytes, in any state whose stored time-out fits an `int`** (`TimeoutOK`: every reachable
    state, `C19_timeout_invariant`).  `StepClass s w ctl` relates the first word `w` of the line to how the step ends; it
    says: the helper is back at its prompt, or
    * it ended with status 0 and the first word is `quit`; or
    * it ended with status 1 and the first word is `setplugs` or `setpath`; or
    * it ended at the model's limit `bignum` (a 20-digit number in a range) and the first word is `setplugs`, `setpath`,
      `stat`, `on` or `off`; or
    * the first word is `stat`, `on` or `off`, the helper is stuck (abort, hang, or outside the model), and the state is
      not `Safe`: the table handed to the machine is not well-formed, or some plug has no status path.
    So no other first word ends the helper: not an unknown command, an empty or over-long line, a `settimeout` of any
    value.  The statement does not say WHY a `setplugs` or `setpath` exits (a plug name that does not parse as a hostlist
    expression again; a plug the list knows and the map does not): the counterexamples below show these two, and by
    `C19_bad_input_partial` neither happens with legal plug names and list and map in step. -/
theorem C19_bad_input (s : State) (buf : List Char) (ht : TimeoutOK s) : StepClass s (firstWord buf) (step s buf).ctl :=
  step_class s buf ht

/-- the stored time-out fits an `int` at start (60) and after every piece of input, any bytes: `settimeout` stores a
    value only when it is a positive decimal `int`.  The second conjunct (one step keeps `TimeoutOK`) uses none of the
    hypotheses: it holds of every state. -/
theorem C19_timeout_invariant (hostArgs failArgs : List Name) (now : Nat) (s0 : State)
    (h0 : init hostArgs failArgs now = some s0) (hn : (now : Int) ≤ LONG_MAX - INT_MAX) (bufs : List (List Char)) :
    TimeoutOK (session s0 bufs).1 ∧ ∀ s buf, TimeoutOK s → TimeoutOK (step s buf).st :=
  ⟨reachable_TimeoutOK hostArgs failArgs now s0 h0 hn bufs, step_TimeoutOK⟩

example : TimeoutOK exState := exState_TimeoutOK

/-- `quit` (as first word, whatever follows) ends the helper with status 0 and prints nothing -/
theorem C19_bad_input_quit (s : State) (buf : List Char) (h : firstWord buf = some (lit "quit")) :
    (step s buf).ctl = .exit 0 ∧ (step s buf).out = [] := step_quit s buf h

/-- Full statement wanted: "`step` returns `cont` unless the line is `quit`, for every line in every reachable state" —
    false (counterexamples below).  Proved: from a `Safe` state (table handed to the machine well-formed: parents defined,
    no cycle; every plug has a status path) with plug list and plug map in step (`Link`:
    every state reached through legal plug names, `C19_reachable`), a line — ANY bytes, `setplugs` and `setpath`
    included — that defines only legal plug names and has no 20-digit number in a range comes back to the prompt, or is
    `quit`.  Extra hypotheses and the inputs they exclude: `Safe s` excludes states reached through `setplugs` with an
    undefined or cyclic parent and `setstatpath` without argument (each a counterexample below); `TimeoutOK` excludes
    nothing reachable (`C19_timeout_invariant`); `LegalSetplugs` excludes plug names with a bracket after the range (`P[1]x[`, `P[1]x[3]`: counterexamples
    below); `≠ bignum` is the limit of the hostlist mirror (`strtoul` saturates at 2^64 - 1; the real helper reports such
    plugs unknown and goes on). -/
theorem C19_bad_input_partial (s : State) (buf : List Char) (hs : Safe s) (ht : TimeoutOK s) (hl : Link s)
    (hleg : LegalSetplugs (argvCreate (cstr buf))) (hb : (step s buf).ctl ≠ bignum) :
    (step s buf).ctl = .cont ∨ ((step s buf).ctl = .exit 0 ∧ firstWord buf = some (lit "quit")) :=
  step_cont s buf hs ht hl hleg hb

/-- Full statement wanted: as for `C19_bad_input_partial` (false).  Proved: the same conclusion for lines that are neither
    `setplugs` nor `setpath`, with `Safe s`, `TimeoutOK s` and `≠ bignum` as there, and no assumption on plug names or on
    list and map. -/
theorem C19_bad_input_other_lines_partial (s : State) (buf : List Char) (hs : Safe s) (ht : TimeoutOK s)
    (h1 : firstWord buf ≠ some (lit "setplugs")) (h2 : firstWord buf ≠ some (lit "setpath"))
    (hb : (step s buf).ctl ≠ bignum) :
    (step s buf).ctl = .cont ∨ ((step s buf).ctl = .exit 0 ∧ firstWord buf = some (lit "quit")) :=
  step_safe s buf hs ht h1 h2 hb

example : Link exState := exState_Link
example : LegalSetplugs (argvCreate (cstr (lit "setplugs Slot[1-3],x[7-9]b 3,0,1,1,1,9 Node5\n"))) :=
  legalSetplugsB_sound _ (by decide +kernel)
example : Safe exState := exState_safe
example : (step exState (lit "stat Node[0-9],zz P[3-1\n")).ctl = .cont := exState_facts.malformed
example : (step exState (lit "\x00quit\n")).ctl = .cont ∧ (step exState (lit " \t quit now\n")).ctl = .exit 0 := exState_facts.quit

/-- a `Safe` state stays `Safe` under every line that is not `setplugs`, `setpath` or `setstatpath`: in particular under
    every `stat` / `on` / `off`, `settimeout`, unknown command, malformed target expression, empty or over-long line -/
theorem C19_safe_kept (s : State) (buf : List Char) (hs : Safe s)
    (h : firstWord buf ≠ some (lit "setplugs") ∧ firstWord buf ≠ some (lit "setpath") ∧
      firstWord buf ≠ some (lit "setstatpath")) : Safe (step s buf).st :=
  step_Safe s buf hs h

/-- over-long lines: `fgets(buf, 256, stdin)` cuts the input into pieces of at most 255 bytes, each handled as a line of
    its own (one prompt each); put together again the pieces are the input -/
theorem C19_long_lines (fuel : Nat) (l : List Char) (h : l.length < fuel) :
    (fgetsSplit fuel l).flatten = l ∧ ∀ p ∈ fgetsSplit fuel l, p.length ≤ 255 := fgetsSplit_spec fuel l h

example : (fgetsSplit 1000 (List.replicate 300 'x' ++ lit "\nstat\n")).map List.length = [255, 46, 5] := by decide +kernel

/-- `setplugs P[1]x[ 0` (plug name `P1x[`): the helper exits with status 1 — `plugs_add` parses the plug NAME again as a
    hostlist expression (`hostlist_push`), which fails -/
theorem C19_bad_input_push_counterexample : runLines "h[0-3]" ["setplugs P[1]x[ 0"] = some ([[]], .exit 1) := by decide +kernel

/-- F39: `settimeout 99999999999999999999` and `settimeout 9223372036854775807` are reported invalid and the old value stays;
    the next `stat` of a known plug is answered.  The largest value accepted is `INT_MAX` -/
theorem C19_bad_input_timeout_f39_fixed :
    runLines "h[0-3]" ["setstatpath s", "settimeout 99999999999999999999", "stat zz", "stat h0"] =
      some ([[], [lit "invalid timeout specified"], [lit "unknown plug specified: zz"], [lit "h0: off"]], .cont) ∧
    runLines "h[0-3]" ["setstatpath s", "settimeout 9223372036854775807", "stat h0", "settimeout 2147483648",
        "settimeout 2147483647", "stat h1"] =
      some ([[], [lit "invalid timeout specified"], [lit "h0: off"], [lit "invalid timeout specified"], [],
             [lit "h1: off"]], .cont) := by
  unfold runLines
  simp only [List.map_cons, List.map_nil]
  repeat rw [lit_chars]
  decide +kernel

/-- `settimeout`: which arguments are refused (message, old value kept) and which are stored -/
theorem C19_diag_settimeout (s : State) (a : Name) (rest : List Name) :
    settimeout s (a :: rest) =
      if (strtol a).2.2 = true ∨ (strtol a).2.1 ≠ a.length ∨ (strtol a).1 ≤ 0 ∨ (strtol a).1 > INT_MAX
      then ok s [lit "invalid timeout specified"] else ok { s with cmdTimeout := (strtol a).1 } :=
  settimeout_spec s a rest

/-- an undefined parent is accepted; `stat` of the child aborts (`assert(root_plugname)`); defining the parent later
    repairs the table -/
theorem C19_bad_input_undefined_parent_counterexample :
    runLines "h[0-3]" ["setstatpath s", "setplugs B 0 A", "stat B"] =
      some ([[], [], []], .abort "send_initial_parent_queries: Assertion `root_plugname' failed") ∧
    runLines "h[0-3]" ["setstatpath s", "setplugs B 0 A", "setplugs A 1", "stat B,A"] =
      some ([[], [], [], [lit "A: off", lit "B: off"]], .cont) := by
  unfold runLines
  simp only [List.map_cons, List.map_nil]
  repeat rw [lit_chars]
  decide +kernel

/-- a cycle (two plugs, or a plug that is its own parent) is accepted; `stat` of a plug on it never returns -/
theorem C19_bad_input_cycle_counterexample :
    runLines "h[0-3]" ["setstatpath s", "setplugs B 0 A", "setplugs A 0 B", "stat B"] =
      some ([[], [], [], []], .hang "plugs_find_root_parent walks a cycle") ∧
    runLines "h[0-3]" ["setstatpath s", "setplugs A 0 A", "stat A"] =
      some ([[], [], []], .hang "plugs_find_root_parent walks a cycle") := by decide +kernel

/-- without a status path, `on` of a child never comes back (the parent query is dropped, the child waits for ever;
    the model stops at `outside`, the real helper was observed to hang) -/
theorem C19_bad_input_no_statpath_counterexample :
    runLines "h[0-3]" ["setonpath o", "setplugs A 0", "setplugs B 0 A", "on B"] =
      some ([[], [], [], []], .outside "a plug without status path is polled or queried") := by decide +kernel

/-- `setplugs P[1]x[3] 0` files the plug as `P1x3` in the list and as `P1x[3]` in the map: unusable under both names, and
    `setpath P1x3 stat s` exits with status 1 -/
theorem C19_bad_input_unmapped_counterexample :
    runLines "h[0-3]" ["setstatpath s", "setplugs P[1]x[3] 0", "stat", "stat P[1]x[3]"] =
      some ([[], [], [lit "plug not mapped: P1x3"], [lit "unknown plug specified: P1x[3]"]], .cont) ∧
    runLines "h[0-3]" ["setplugs P[1]x[3] 0", "setpath P1x3 stat s"] = some ([[], []], .exit 1) := by
  unfold runLines
  simp only [List.map_cons, List.map_nil]
  repeat rw [lit_chars]
  decide +kernel

/-- not a refutation of a statement above, but behaviour a reader of `setplugs` would not expect: the host index passes
    through `int`, so 2^32 names host 0 and 2^32 - 1 is "-1", refused as invalid -/
theorem C19_index_truncation_counterexample :
    runLines "h[0-3]" ["setstatpath s", "setplugs P 4294967296", "stat"] = some ([[], [], [lit "P: off"]], .cont) ∧
    runLines "h[0-3]" ["setplugs P 4294967295"] =
      some ([[lit "setplugs: invalid hostindex 4294967295 specified"]], .cont) := by
  unfold runLines
  simp only [List.map_cons, List.map_nil]
  repeat rw [lit_chars]
  decide +kernel

/-- likewise: a `setplugs` refused for its counts has removed the initial per-host plugs all the same (`h0` is unknown
    afterwards, and `stat` without arguments prints nothing) -/
theorem C19_mismatch_wipes_counterexample :
    runLines "h[0-3]" ["setstatpath s", "stat h0", "setplugs a,b 0,1,2", "stat h0", "stat"] =
      some ([[], [lit "h0: off"], [lit "setplugs: plugs count not equal to host index count"],
             [lit "unknown plug specified: h0"], []], .cont) := by
  unfold runLines
  simp only [List.map_cons, List.map_nil]
  repeat rw [lit_chars]
  decide +kernel

/-! ### which line is answered with which diagnostic -/

/-- a first word that is not one of the thirteen commands: `type "help" for a list of commands`, nothing changes -/
theorem C19_diag_unknown_command (s : State) (c : Name) (args : List Name) (h : c ∉ commandWords) :
    processCmd s (c :: args) = ok s [lit "type \"help\" for a list of commands"] := processCmd_unknown s c args h

/-- a line without words (empty, blanks, or starting with a NUL byte): nothing is printed, nothing changes -/
theorem C19_diag_empty (s : State) : processCmd s [] = ok s [] := processCmd_empty s

example : (step exState (lit "  \t\r\n")).out = [] ∧ (step exState (lit "\x00stat\n")).out = [] ∧
    (step exState (lit "STAT Node0\n")).out = [lit "type \"help\" for a list of commands"] := exState_facts.noWords

/-- `setplugs` with fewer than two arguments: the usage line -/
theorem C19_diag_setplugs_usage (s : State) (av : List Name) (h : av.length < 2) :
    setplugs s av = ok s [lit "Usage: setplugs <plugnames> <hostindices> [<parentplug>]]"] := setplugs_usage s av h

/-- plug names that `hostlist_create` refuses (reversed, open, oversized, non-numeric range): one line, nothing changes -/
theorem C19_diag_setplugs_plugnames (s : State) (a0 a1 : Name) (rest : List Name)
    (hb : (hlArgOK a0 && hlArgOK a1) = true) (h0 : hlCreate a0 = none) :
    setplugs s (a0 :: a1 :: rest) = ok s [lit "setplugs: illegal plugnames input"] :=
  setplugs_illegal_plugnames s a0 a1 rest hb h0

/-- host indices that `hostlist_create` refuses: one line, nothing changes -/
theorem C19_diag_setplugs_hostindices (s : State) (a0 a1 : Name) (rest : List Name) (lplugs : Hostlist)
    (hb : (hlArgOK a0 && hlArgOK a1) = true) (h0 : hlCreate a0 = some lplugs) (h1 : hlCreate a1 = none) :
    setplugs s (a0 :: a1 :: rest) = ok s [lit "setplugs: illegal hostindices input"] :=
  setplugs_illegal_hostindices s a0 a1 rest lplugs hb h0 h1

/-- counts that differ (and not "several plugs, one index"): one line; the only change: the initial plugs are gone -/
theorem C19_diag_setplugs_count (s : State) (a0 a1 : Name) (rest : List Name) (lplugs hostindices : Hostlist)
    (hb : (hlArgOK a0 && hlArgOK a1) = true) (h0 : hlCreate a0 = some lplugs) (h1 : hlCreate a1 = some hostindices)
    (hc : hlCount lplugs ≠ hlCount hostindices) (hs : ¬ (hlCount lplugs > 1 ∧ hlCount hostindices = 1)) :
    setplugs s (a0 :: a1 :: rest) =
      ok (removeInitialPlugs s) [lit "setplugs: plugs count not equal to host index count"] :=
  setplugs_mismatch s a0 a1 rest lplugs hostindices hb h0 h1 hc hs

/-- a host index string that is not a non-negative decimal `int` (overflow of `long`, anything after the digits, negative
    — also after the conversion to `int`): `invalid hostindex` -/
theorem C19_diag_host_index_invalid (s : State) (p his : Name) (par : Option Name) (h : ¬ ValidIndexStr his) :
    setupPlug s p his par = .bad (lit "setplugs: invalid hostindex " ++ his ++ lit " specified") :=
  setupPlug_invalid s p his par h

/-- a valid host index that names no host: `hostindex N out of range` -/
theorem C19_diag_host_index_range (s : State) (p his : Name) (par : Option Name) (h : ValidIndexStr his)
    (hn : nthC s.hosts (hostIndexOf his) = none) :
    setupPlug s p his par =
      .bad (lit "setplugs: hostindex " ++ (toString (toInt32 (strtol his).1)).toList ++ lit " out of range") :=
  setupPlug_range s p his par h hn

example : ¬ ValidIndexStr (lit "-1") ∧ ¬ ValidIndexStr (lit "1x") ∧ ¬ ValidIndexStr (lit "99999999999999999999") ∧
    ValidIndexStr (lit "+3") ∧ ValidIndexStr (lit "007") ∧ hostIndexOf (lit "007") = 7 := by decide +kernel

/-- a target expression that `hostlist_create` refuses: `illegal hosts input`, nothing else happens -/
theorem C19_diag_illegal_hosts (s : State) (cmd : Redfish.Cmd) (a : Name) (rest : List Name) (hb : hlArgOK a = true)
    (h : hlCreate a = none) : powerCmd s cmd (a :: rest) = ok s [lit "illegal hosts input"] :=
  powerCmd_illegal s cmd a rest hb h

example : hlCreate (lit "P[3-1]") = none ∧ hlCreate (lit "P[1-") = none ∧ hlCreate (lit "P[1-100000]") = none ∧
    hlCreate (lit "P1]") = none ∧ hlCreate (lit "P[a-b]") = none := by decide +kernel

/-- a session of malformed lines on the real helper's text: each answered by its one line, the helper goes on -/
theorem C19_malformed_lines : runLines "h[0-3]" ["setstatpath s", "stat P[3-1]", "on P[1-", "off P1]", "stat P[1-100000]", "stat P[a-b]",
      "setplugs P[3-1] 0", "setplugs P0 [0-", "setplugs P[0-1] [0-2]", "setplugs P[0-2] 0,9,1", "setplugs Q -1", "setplugs Q 1x",
      "bogus", "", "stat zz,h1,zz", "setplugs", "setpath h1 cycle x", "settimeout x"] =
    some ([[], [lit "illegal hosts input"], [lit "illegal hosts input"], [lit "illegal hosts input"], [lit "illegal hosts input"],
      [lit "illegal hosts input"], [lit "setplugs: illegal plugnames input"], [lit "setplugs: illegal hostindices input"],
      [lit "setplugs: plugs count not equal to host index count"], [lit "setplugs: hostindex 9 out of range"],
      [lit "setplugs: invalid hostindex -1 specified"], [lit "setplugs: invalid hostindex 1x specified"],
      [lit "type \"help\" for a list of commands"], [], [lit "unknown plug specified: zz", lit "unknown plug specified: h1", lit "unknown plug specified: zz"],
      [lit "Usage: setplugs <plugnames> <hostindices> [<parentplug>]]"], [lit "setpath: invalid command specified"],
      [lit "invalid timeout specified"]], .cont) := by
  unfold runLines
  simp only [List.map_cons, List.map_nil]
  repeat rw [lit_chars]
  decide +kernel

/-! ### `setplugs` accepted: the table is extended as documented and stays well-formed -/

/-- **`setplugs` accepted** (equal counts, no diagnostic, back at the prompt): for every position `j`, the `j`-th plug
    name and the `j`-th index string exist, the index string is valid and names host `host`, and — unless the same name
    occurs again further right in the expression — the table maps the name to (that host, that index, the parent
    given); names the expression does not mention keep what they had once the initial per-host plugs were removed -/
theorem C19_setplugs_pairs (s : State) (a0 a1 : Name) (rest : List Name) (lplugs hostindices : Hostlist) (h : TInv s)
    (hb : (hlArgOK a0 && hlArgOK a1) = true) (h0 : hlCreate a0 = some lplugs) (h1 : hlCreate a1 = some hostindices)
    (hc : hlCount lplugs = hlCount hostindices)
    (hctl : (setplugs s (a0 :: a1 :: rest)).ctl = .cont) (hout : (setplugs s (a0 :: a1 :: rest)).out = []) :
    (∀ j, j < hlCount lplugs → ∃ p his host, nthC lplugs j = some p ∧ nthC hostindices j = some his ∧
        ValidIndexStr his ∧ nthC s.hosts (hostIndexOf his) = some host ∧
        ((∀ j', j < j' → j' < hlCount lplugs → nthC lplugs j' ≠ some p) →
          (setplugs s (a0 :: a1 :: rest)).st.plugMap.lookup p = some (pairData p his host rest.head?))) ∧
    (∀ n, (∀ j, j < hlCount lplugs → nthC lplugs j ≠ some n) →
        (setplugs s (a0 :: a1 :: rest)).st.plugMap.lookup n = (removeInitialPlugs s).plugMap.lookup n) :=
  setplugs_pairs s a0 a1 rest lplugs hostindices h hb h0 h1 hc hctl hout

example : (setplugs exState [lit "Slot[1-3]", lit "3,0,1", lit "Node5"]).st.plugMap.lookup (lit "Slot2") =
    some (pairData (lit "Slot2") (lit "0") (lit "h0") (some (lit "Node5"))) ∧
    (setplugs exState [lit "Slot[1-3]", lit "3,0,1", lit "Node5"]).out = [] := exState_facts.slots

/-- several plugs and ONE index: the loop gives every plug that index -/
theorem C19_setplugs_one_index (s : State) (a0 a1 : Name) (rest : List Name) (lplugs hostindices : Hostlist) (his : Name)
    (hb : (hlArgOK a0 && hlArgOK a1) = true) (h0 : hlCreate a0 = some lplugs) (h1 : hlCreate a1 = some hostindices)
    (hc : hlCount lplugs > 1) (h1' : hlCount hostindices = 1) (hn : nthC hostindices 0 = some his) :
    setplugs s (a0 :: a1 :: rest) =
      setplugsLoop lplugs (fun _ => some his) rest.head? (hlCount lplugs) 0 (removeInitialPlugs s) :=
  setplugs_eq_subst s a0 a1 rest lplugs hostindices his hb h0 h1 hc h1' hn

/-- **the table stays well-formed under every piece of input, any bytes** (`TInv`: plug names distinct, each entry filed
    under its own name, its host index an index into `hosts` naming the recorded host); `hosts` never changes.
    NOT part of well-formedness, because the C code does not keep it: parents defined, no cycles
    (`C19_bad_input_undefined_parent_counterexample`, `C19_bad_input_cycle_counterexample`). -/
theorem C19_table_wellformed (s : State) (buf : List Char) (h : TInv s) :
    (step s buf).st.hosts = s.hosts ∧ TInv (step s buf).st := step_inv s buf h

/-- … so every recorded host index is smaller than the number of hosts -/
theorem C19_host_index_in_range (s : State) (hh : HWF s.hosts) (h : TInv s) (e : Name × PlugData) (he : e ∈ s.plugMap) :
    e.2.hostIdx < (expand s.hosts).length := hostIdx_lt s hh h e he

example : TInv exState := exState_TInv

/-- **reachable states**: the helper started on host names without separators and brackets, then any pieces of input
    whose `setplugs` lines define plug names of that kind (`LegalSetplugs`; the other lines are arbitrary): the table is
    well-formed, and the plug list (`plugs_name_valid`, `stat` without arguments) and the plug map (everything else) name
    the same plugs.  The proviso on plug names is necessary: `C19_bad_input_unmapped_counterexample`. -/
theorem C19_reachable (hostArgs failArgs : List Name) (now : Nat) (s0 : State)
    (h0 : init hostArgs failArgs now = some s0) (hleg : ∀ n ∈ expand (hostsOf hostArgs), LegalName n)
    (bufs : List (List Char)) (hb : ∀ b ∈ bufs, LegalSetplugs (argvCreate (cstr b))) :
    TInv (session s0 bufs).1 ∧ Link (session s0 bufs).1 ∧ Linked (session s0 bufs).1 :=
  reachable_inv hostArgs failArgs now s0 h0 hleg bufs hb

example : ∀ b ∈ exLines.map (fun l => lit l ++ ['\n']), LegalSetplugs (argvCreate (cstr b)) := exLines_legal
example : ∀ n ∈ expand (hostsOf [lit "h[0-3]"]), LegalName n := by decide +kernel

/-! ### target resolution, composed with the machine theorems -/

/-- **`C19_targets_resolved`.**  A `stat` / `on` / `off` line with the hostlist expression `a` (names `expand hl`), from a
    `Safe` state (time-out within `int`: every reachable state) with list and map in step (`Linked`: every reachable state,
    `C19_reachable`) and the command's path set:
    the helper comes back to its prompt; it prints one `unknown plug specified: n` line per unknown name, in expression
    order, then the lines `M` of the machine, which was handed exactly the known names, in expression order, duplicates
    kept (`T`); `M` has exactly one line per element of `T` (`C19_one_line_per_target` through the seam), none of them an
    "unknown plug" line, and `M` is, up to order, what the documented rules prescribe (`C19_refines`) -/
theorem C19_targets_resolved (s : State) (cmd : Redfish.Cmd) (a : Name) (rest : List Name) (hl : Hostlist)
    (hs : Safe s) (ht : TimeoutOK s) (hlk : Linked s) (hp : PathsFor s cmd) (hb : hlArgOK a = true)
    (hc : hlCreate a = some hl) :
    let names := expand hl
    let T := names.filterMap (mIndex s.plugMap)
    let M := (Redfish.runCmd (mCfg s) (mSt s) cmd T).1
    (powerCmd s cmd (a :: rest)).ctl = .cont ∧
    (powerCmd s cmd (a :: rest)).out =
      (names.filter fun n => (mIndex s.plugMap n).isNone).map unknownLine ++ M.map (render s) ∧
    (M.map Redfish.linePlug).Perm T ∧ (∀ l ∈ M, Redfish.isUnk l = false) ∧
    M.Perm (Redfish.specRun (mCfg s) (mSt s) cmd T).1 := by
  intro names T M
  obtain ⟨h1, h2, h3, h4⟩ := powerCmd_resolved s cmd a rest hl hs ht hlk hp hb hc
  exact ⟨h1, h2, h3, h4, powerCmd_rules s cmd names hs⟩

/-- the resolution alone, in any state with list and map in step (no time-out overflow): lines and targets -/
theorem C19_targets_resolved_loop (s : State) (cmd : Redfish.Cmd) (hl : Linked s) (hp : PathsFor s cmd) (names : List Name) :
    resolveLoop s cmd false names =
      ((names.filter fun n => (mIndex s.plugMap n).isNone).map unknownLine, names.filterMap (mIndex s.plugMap), false) :=
  resolveLoop_spec s cmd hl hp names

/-- non-vacuity: the hypotheses hold of `exState` and `on Node[2-5],zz,Node2` … -/
example : Safe exState ∧ TimeoutOK exState ∧ Linked exState ∧ PathsFor exState .on ∧ hlArgOK (lit "Node[2-5],zz,Node2") = true ∧
    (hlCreate (lit "Node[2-5],zz,Node2")).isSome = true :=
  ⟨exState_safe, exState_TimeoutOK, exState_Link.linked, exState_PathsFor_on, exState_facts.target.1, exState_facts.target.2⟩
/-- … and this is the answer (both blades are off: the nodes are refused; `zz` is unknown; `Node2` is answered twice) -/
example : (powerCmd exState .on [lit "Node[2-5],zz,Node2"]).out =
    [lit "unknown plug specified: zz", lit "Node2: cannot perform on, dependency off (host=h0 plug=Blade0)",
     lit "Node3: cannot perform on, dependency off (host=h0 plug=Blade0)",
     lit "Node2: cannot perform on, dependency off (host=h0 plug=Blade0)",
     lit "Node4: cannot perform on, dependency off (host=h1 plug=Blade1)",
     lit "Node5: cannot perform on, dependency off (host=h1 plug=Blade1)"] := exState_facts.powerOn

end CommandLayer

end Pm.Props.C19
