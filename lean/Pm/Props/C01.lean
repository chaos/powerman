import Pm.EnqLine
/-! # C01 — a request commands only the plugs of the nodes it names

"For every on/off/cycle/reset/flash/unflash request, the (device, plug) pairs that receive a device command are a
subset of the image of the client's target expression (after alias and host-range expansion) under the configured
node-to-plug map, and each device is addressed with the plug name configured for that node.  A whole-device
(`*_all`) power script is run only when every plug of that device is mapped to a node named in the request; devices
none of whose nodes were named receive no command on behalf of that request."

What is proved, about the definitions of `Pm/Daemon.lean` themselves (`enqueue` = `dev_enqueue_actions` +
`_enqueue_targeted_actions` for one device, `install` = `_create_command` + `dev_check_actions` + the loop of
`dev_enqueue_actions`, `parseLine` = `_parse_input`) and of `Pm/Dev2.lean` (`stmtSend` = `_process_send`), for every
device (any plug list, any script table), every command slot and every target list.  The limit of the property is
`C01_foreach_in_singlet_counterexample`: a singlet script containing `foreachplug` walks all plugs.

`conf_exp_aliases` is mirrored on expanded name lists (`expAliases`, `Pm/Daemon.lean`; helper lemmas `Pm/AliasProof.lean`):
`hostlist_delete_host` is "erase the first occurrence", `hostlist_push_list` is "append".  The theorems about
`enqueue`/`install` hold for an arbitrary target list; `C01_validated` says which list `_parse_input` passes. -/
namespace Pm.Props.C01
open Pm Pm.Client Pm.Daemon
open Pm.Daemon.Enq
open Pm.Daemon.AliasPf (isAlias membersOf standsFor exAls exNested)
open Pm.Dev2 (Dev Action Stmt Plug ExecCtx Oracle Out stmtSend hsprintf rangedNames topCtx clipTo)

/-- The six power commands are exactly the commands that are not queries (`_is_query_action`). -/
theorem C01_power_commands (com : Com) :
    isQuery (comIdx com) = false ↔ com ∈ [Com.on, .off, .cycle, .reset, .flash, .unflash] :=
  isQuery_comIdx com

/-- History-freedom.  `dev_enqueue_actions` changes nothing of a device but its queue, it only appends to the queue,
    and the appended actions are `newActs d.plugs d.scripts com targets cid tele al`: they depend on the configured
    plugs and scripts of the device and on the request, not on what is queued, buffered, or on the connection. -/
theorem C01_appends (d : Dev) (com : Nat) (targets : List Bytes) (cid : Nat) (tele : Bool) (al : Nat) :
    (enqueue d com targets cid tele al).1.acts = d.acts ++ newActs d.plugs d.scripts com targets cid tele al ∧
    (enqueue d com targets cid tele al).1 = { d with acts := (enqueue d com targets cid tele al).1.acts } :=
  ⟨enqueue_acts d com targets cid tele al, enqueue_frame d com targets cid tele al⟩

/-- Every appended action has one execution context: the script in the slot `a.com` (which exists) at its first
    statement, nothing in progress, with `a.outerPlugs` as its plug list. -/
theorem C01_fresh (d : Dev) (com : Nat) (targets : List Bytes) (cid : Nat) (tele : Bool) (al : Nat) :
    ∀ a ∈ newActs d.plugs d.scripts com targets cid tele al,
      a.exec = [{ block := (d.scripts a.com).getD [], pos := 0, plugs := a.outerPlugs, plugItr := none, plugCopy := none,
                  processing := false }] ∧ (d.scripts a.com).isSome = true :=
  fun _ h => newActs_exec h

/-- First sentence.  An appended action that carries a plug list (singlet or ranged) lists only plugs of this device
    that are mapped to a node named in the request.  (Holds for queries too.) -/
theorem C01_subset (d : Dev) (com : Nat) (targets : List Bytes) (cid : Nat) (tele : Bool) (al : Nat) :
    ∀ a ∈ newActs d.plugs d.scripts com targets cid tele al, ∀ ps, a.outerPlugs = some ps →
      ∀ p ∈ ps, p ∈ d.plugs ∧ ∃ n, p.node = some n ∧ n ∈ targets :=
  fun _ h _ hps => newActs_subset h hps

/-- Sharper form: the plug list is one targeted plug (singlet action, slot `com`), or absent (`_all`, slot `allOf com`),
    or all targeted plugs in configuration order (ranged, slot `rangedOf com`). -/
theorem C01_shape (d : Dev) (com : Nat) (targets : List Bytes) (cid : Nat) (tele : Bool) (al : Nat) :
    ∀ a ∈ newActs d.plugs d.scripts com targets cid tele al,
      (∃ p, p ∈ d.plugs.filter (tgt targets) ∧ a.outerPlugs = some [p] ∧ a.com = com) ∨
      (a.outerPlugs = none ∧ allOf com = some a.com) ∨
      (a.outerPlugs = some (d.plugs.filter (tgt targets)) ∧ rangedOf com = some a.com) :=
  fun _ h => newActs_plugs_shape h

/-- First and second sentence together, for a power command: every plug an appended action can command
    (`Action.commanded`: its plug list, or every plug of the device for an `_all` action) is a plug of this device
    mapped to a node named in the request. -/
theorem C01_commanded (d : Dev) (com : Nat) (targets : List Bytes) (cid : Nat) (tele : Bool) (al : Nat)
    (hq : isQuery com = false) :
    ∀ a ∈ newActs d.plugs d.scripts com targets cid tele al,
      ∀ p ∈ a.commanded d, p ∈ d.plugs ∧ ∃ n, p.node = some n ∧ n ∈ targets :=
  fun _ h => newActs_commanded hq h

/-- Second sentence (the "antisocial" rule).  If an action without a plug list is appended for a power command, it is
    the `_all` variant of that command and EVERY plug of the device is mapped to a node named in the request — in
    particular the device has no unused plug. -/
theorem C01_all_only_if_complete (d : Dev) (com : Nat) (targets : List Bytes) (cid : Nat) (tele : Bool) (al : Nat)
    (hq : isQuery com = false) :
    ∀ a ∈ newActs d.plugs d.scripts com targets cid tele al, a.outerPlugs = none →
      allOf com = some a.com ∧
      d.plugs.all (fun p => match p.node with | some n => targets.contains n | none => false) = true ∧
      ∀ p ∈ d.plugs, ∃ n, p.node = some n ∧ n ∈ targets := by
  intro a h hn
  obtain ⟨hc, hall⟩ := newActs_all h hn
  rcases hall with hall | ⟨hq', _⟩
  · exact ⟨hc, hall, (all_tgt_iff d.plugs targets).mp hall⟩
  · rw [hq] at hq'; cases hq'

/-- What holds for queries: the `_all` variant of a query script is used when every plug is targeted, or — for a
    partial target — when the device has no singlet script for that query.  (Within the property, which speaks of
    power scripts; a status query for part of a device may read the whole device.) -/
theorem C01_all_query (d : Dev) (com : Nat) (targets : List Bytes) (cid : Nat) (tele : Bool) (al : Nat) :
    ∀ a ∈ newActs d.plugs d.scripts com targets cid tele al, a.outerPlugs = none →
      allOf com = some a.com ∧
      (d.plugs.all (fun p => match p.node with | some n => targets.contains n | none => false) = true ∨
       (isQuery com = true ∧ (d.scripts com).isSome = false)) :=
  fun _ h hn => newActs_all h hn

/-- Third sentence, one device.  If no plug of the device is mapped to a node named in the request,
    `dev_enqueue_actions` returns the device unchanged and counts nothing. -/
theorem C01_uninvolved (d : Dev) (com : Nat) (targets : List Bytes) (cid : Nat) (tele : Bool) (al : Nat)
    (h : ∀ p ∈ d.plugs, ∀ n, p.node = some n → n ∉ targets) :
    enqueue d com targets cid tele al = (d, 0) :=
  enqueue_uninvolved com cid tele al ((needsDev_false_iff d targets).mpr h)

/-- Third sentence, the whole request.  Whatever `install` does with a request, the device at any position of the
    device list that the request does not involve (`_command_needs_device` false) is afterwards exactly what it was:
    queue, buffers, connection state, retry counter. -/
theorem C01_install_uninvolved (w : W) (c : Cli) (com : Com) (names : List Name) (i : Nat) (nd : Bytes × Dev)
    (hi : w.devs[i]? = some nd) (h : needsDev nd.2 (names.map ofChars) = false) :
    (install w c com names).1.devs[i]? = some nd :=
  install_uninvolved w c com names i nd hi h

/-- The whole request, any device: it keeps its name, plugs and scripts, and its queue is either untouched (request
    refused) or extended by `newActs` for this request — to which all theorems above apply. -/
theorem C01_install_device (w : W) (c : Cli) (com : Com) (names : List Name) (i : Nat) (nd : Bytes × Dev)
    (hi : w.devs[i]? = some nd) :
    ∃ d', (install w c com names).1.devs[i]? = some (nd.1, d') ∧ d'.plugs = nd.2.plugs ∧ d'.scripts = nd.2.scripts ∧
      (d'.acts = nd.2.acts ∨
       d'.acts = nd.2.acts ++ newActs nd.2.plugs nd.2.scripts (comIdx com) (names.map ofChars) c.id c.telemetry w.alNext) :=
  install_device w c com names i nd hi

/-- Only the requested command.  Every appended action runs the script of the requested command itself, of its `_all`
    variant or of its `_ranged` variant (a request for `off` never enqueues `on`), and carries the client id,
    argument list and telemetry flag of the request. -/
theorem C01_kind (d : Dev) (com : Nat) (targets : List Bytes) (cid : Nat) (tele : Bool) (al : Nat) :
    ∀ a ∈ newActs d.plugs d.scripts com targets cid tele al,
      (a.com = com ∨ allOf com = some a.com ∨ rangedOf com = some a.com) ∧
      a.clientId = cid ∧ a.arglist = al ∧ a.telemetry = tele :=
  fun _ h => newActs_kind h

/-- The returned count is the number of appended actions; and (finding F15) a device the request involves and that
    passed `_command_handled_by_device` is never silently skipped: its count is positive. -/
theorem C01_count (d : Dev) (com : Nat) (targets : List Bytes) (cid : Nat) (tele : Bool) (al : Nat) :
    (enqueue d com targets cid tele al).2 = (newActs d.plugs d.scripts com targets cid tele al).length ∧
    (needsDev d targets = true → handles d com targets = true → 0 < (enqueue d com targets cid tele al).2) := by
  refine ⟨enqueue_count d com targets cid tele al, fun hn hh => ?_⟩
  rw [enqueue_count]
  exact List.length_pos_iff.mpr (newActs_ne_nil hn hh)

/-- The same at the level of the request: unless `install` refuses the request (reply 213, nothing changed), every
    device the request involves has its queue extended by a non-empty list of actions. -/
theorem C01_install_involved (w : W) (c : Cli) (com : Com) (names : List Name) (i : Nat) (nd : Bytes × Dev)
    (hi : w.devs[i]? = some nd) (hneed : needsDev nd.2 (names.map ofChars) = true)
    (hacc : install w c com names ≠ (w, put c (codeLine 213 ++ crlf ++ (if c.quit then [] else prompt)))) :
    ∃ d', (install w c com names).1.devs[i]? = some (nd.1, d') ∧
      d'.acts = nd.2.acts ++ newActs nd.2.plugs nd.2.scripts (comIdx com) (names.map ofChars) c.id c.telemetry w.alNext ∧
      newActs nd.2.plugs nd.2.scripts (comIdx com) (names.map ofChars) c.id c.telemetry w.alNext ≠ [] :=
  install_involved w c com names i nd hi hneed hacc

/-- `install` either refuses (213) or: every involved device passed the capability check, every device went through
    `installDev`, and the client waits for exactly the number of actions created, which is positive. -/
theorem C01_install_cases (w : W) (c : Cli) (com : Com) (names : List Name) :
    install w c com names = (w, put c (codeLine 213 ++ crlf ++ (if c.quit then [] else prompt))) ∨
    ((∀ nd ∈ w.devs, needsDev nd.2 (names.map ofChars) = true → handles nd.2 (comIdx com) (names.map ofChars) = true) ∧
     (install w c com names).1.devs = w.devs.map (installDev (comIdx com) (names.map ofChars) c.id c.telemetry w.alNext) ∧
     0 < installTotal (comIdx com) (names.map ofChars) c.id c.telemetry w.alNext w.devs ∧
     (install w c com names).2 = { c with cmd := some { com, names, error := false, al := w.alNext, pending := installTotal (comIdx com) (names.map ofChars) c.id c.telemetry w.alNext w.devs } }) :=
  install_cases w c com names

/-- The wire, singlet.  The first execution of a `send` in a context whose plug list is the one plug `p` queues, behind what
    the device's output buffer holds, the format with `%s` replaced by `p.name`, the plug name configured for the node.
    (The buffer `dev->to` holds 65536 bytes and beyond that the *oldest queued* bytes are overwritten: `clipTo` = the last
    65536 bytes; the text the daemon meant to send is `.sent …`.  Below the limit the text is simply appended:
    `C01_wire_singlet_below`.) -/
theorem C01_wire_singlet (d : Dev) (a : Action) (o : Oracle) (e : ExecCtx) (fmt : Bytes) (p : Plug)
    (hp : e.processing = false) (hs : e.plugs = some [p]) :
    (stmtSend d a o e fmt).dev = { d with toBuf := clipTo (d.toBuf ++ hsprintf fmt (some p.name)) } ∧
    (stmtSend d a o e fmt).out.head? = some (.sent (hsprintf fmt (some p.name))) :=
  stmtSend_singlet d a o e fmt p hp hs

/-- The wire, singlet, below the limit: if the text fits behind what is queued, it is appended. -/
theorem C01_wire_singlet_below (d : Dev) (a : Action) (o : Oracle) (e : ExecCtx) (fmt : Bytes) (p : Plug)
    (hp : e.processing = false) (hs : e.plugs = some [p]) (hfit : (d.toBuf ++ hsprintf fmt (some p.name)).length ≤ 65536) :
    (stmtSend d a o e fmt).dev = { d with toBuf := d.toBuf ++ hsprintf fmt (some p.name) } ∧
    (stmtSend d a o e fmt).out.head? = some (.sent (hsprintf fmt (some p.name))) :=
  stmtSend_singlet_below d a o e fmt p hp hs hfit

/-- The wire, ranged.  With two plugs or more, `%s` is replaced by the sorted, range-compressed list of the
    configured plug names (`rangedNames`); if the hostlist sort asserts (F19) nothing is written at all.
    (`clipTo` as in `C01_wire_singlet`; below the limit `C01_wire_ranged_below`.) -/
theorem C01_wire_ranged (d : Dev) (a : Action) (o : Oracle) (e : ExecCtx) (fmt : Bytes) (p q : Plug) (r : List Plug)
    (hp : e.processing = false) (hs : e.plugs = some (p :: q :: r)) :
    match rangedNames ((p :: q :: r).map (·.name)) with
    | some n => (stmtSend d a o e fmt).dev = { d with toBuf := clipTo (d.toBuf ++ hsprintf fmt (some n)) } ∧
                (stmtSend d a o e fmt).out.head? = some (.sent (hsprintf fmt (some n)))
    | none => (stmtSend d a o e fmt).dev = d ∧ (stmtSend d a o e fmt).out = [.abortAssert "hostlist_sort assert in _process_send"] :=
  stmtSend_ranged d a o e fmt p q r hp hs

/-- The wire, ranged, below the limit, for the case that the sort succeeds. -/
theorem C01_wire_ranged_below (d : Dev) (a : Action) (o : Oracle) (e : ExecCtx) (fmt : Bytes) (p q : Plug) (r : List Plug)
    (hp : e.processing = false) (hs : e.plugs = some (p :: q :: r)) (n : Bytes)
    (hn : rangedNames ((p :: q :: r).map (·.name)) = some n) (hfit : (d.toBuf ++ hsprintf fmt (some n)).length ≤ 65536) :
    (stmtSend d a o e fmt).dev = { d with toBuf := d.toBuf ++ hsprintf fmt (some n) } ∧
    (stmtSend d a o e fmt).out.head? = some (.sent (hsprintf fmt (some n))) :=
  stmtSend_ranged_below d a o e fmt p q r hp hs n hn hfit

/-- The wire, `_all`.  Without a plug list (or with an empty one) the format is written with no argument.
    (`clipTo` as in `C01_wire_singlet`; below the limit `C01_wire_all_below`.) -/
theorem C01_wire_all (d : Dev) (a : Action) (o : Oracle) (e : ExecCtx) (fmt : Bytes)
    (hp : e.processing = false) (hs : e.plugs = none ∨ e.plugs = some []) :
    (stmtSend d a o e fmt).dev = { d with toBuf := clipTo (d.toBuf ++ hsprintf fmt none) } ∧
    (stmtSend d a o e fmt).out.head? = some (.sent (hsprintf fmt none)) :=
  stmtSend_all d a o e fmt hp hs

/-- The wire, `_all`, below the limit. -/
theorem C01_wire_all_below (d : Dev) (a : Action) (o : Oracle) (e : ExecCtx) (fmt : Bytes)
    (hp : e.processing = false) (hs : e.plugs = none ∨ e.plugs = some []) (hfit : (d.toBuf ++ hsprintf fmt none).length ≤ 65536) :
    (stmtSend d a o e fmt).dev = { d with toBuf := d.toBuf ++ hsprintf fmt none } ∧
    (stmtSend d a o e fmt).out.head? = some (.sent (hsprintf fmt none)) :=
  stmtSend_all_below d a o e fmt hp hs hfit

/-- non-vacuity of the no-overflow hypotheses of `C01_wire_singlet_below` / `C01_wire_ranged_below` / `C01_wire_all_below`: the
    example device's buffer is empty and `on 1\n`, `on [1,3]\n`, `on *\n` are a few bytes -/
example : (exDev.toBuf ++ hsprintf (bstr "on %s\n") (some exP1.name)).length ≤ 65536 ∧
    rangedNames ([exP1, exP3].map (·.name)) = some (bstr "[1,3]") ∧
    (exDev.toBuf ++ hsprintf (bstr "on %s\n") (some (bstr "[1,3]"))).length ≤ 65536 ∧
    (exDev.toBuf ++ hsprintf (bstr "on *\n") none).length ≤ 65536 := by decide +kernel

/-- The wire beyond the limit: a command text of at most 65536 bytes is never cut — what gives way is what was queued *before*
    it (`toDropped` oldest bytes: telnet answers or the unsent rest of earlier texts); the text is queued whole, last. -/
theorem C01_wire_text_whole (old s : Bytes) (hs : s.length ≤ 65536) :
    clipTo (old ++ s) = old.drop (Pm.Dev2.toDropped old s) ++ s :=
  Pm.Dev2.clipTo_append_of_fits old s hs

/-- The wire, second visit.  A `send` that is waiting for its bytes to drain writes nothing. -/
theorem C01_wire_again (d : Dev) (a : Action) (o : Oracle) (e : ExecCtx) (fmt : Bytes) (hp : e.processing = true) :
    (stmtSend d a o e fmt).dev = d ∧ (stmtSend d a o e fmt).out = [] :=
  stmtSend_again d a o e fmt hp

/-- "Each device is addressed with the plug name configured for that node": a `send` run in the context a freshly
    appended singlet action starts with, on the device in whatever state `d'` it then is, writes the format filled with
    `p.name` where `p` is a plug of this device whose node the request names.
    (`clipTo` as in `C01_wire_singlet`; by `C01_wire_text_whole`
    the text itself is whole whenever it is no longer than the buffer.) -/
theorem C01_wire_fresh_singlet (d : Dev) (com : Nat) (targets : List Bytes) (cid : Nat) (tele : Bool) (al : Nat)
    (a : Action) (h : a ∈ newActs d.plugs d.scripts com targets cid tele al) (p : Plug) (hp : a.outerPlugs = some [p])
    (d' : Dev) (o : Oracle) (fmt : Bytes) :
    (stmtSend d' a o (topCtx a) fmt).dev.toBuf = clipTo (d'.toBuf ++ hsprintf fmt (some p.name)) ∧
    p ∈ d.plugs ∧ ∃ n, p.node = some n ∧ n ∈ targets :=
  fresh_singlet_send h hp d' o fmt

/-- From the client's line to the target list.  `_parse_input` either leaves all devices alone or hands the request
    to `install`; then no command of this client was in progress, and the target list is: for a bare `status`/`temp`/
    `beacon`, all configured nodes (a query); otherwise `conf_exp_aliases` applied to the expansion of the host range `arg`
    that follows the command's keyword on the line, every name of which is a configured node.
    (With `w.cfg.aliases = []` this is `names = expand hl`: `C01_alias_identity`.) -/
theorem C01_request (w : W) (c : Cli) (line : Bytes) :
    (parseLine w c line).1.devs = w.devs ∨
    ∃ com names, parseLine w c line = install w c com names ∧ c.cmd = none ∧
      ((isQuery (comIdx com) = true ∧ names = expand w.cfg.nodes) ∨
       (∃ arg hl, scan (kwOf com) (stripWs (line.takeWhile (· != 0))) = some arg ∧ createR (toChars arg) = .ok hl ∧
          names = expAliases w.cfg.aliases (expand hl) ∧ ∀ n ∈ names, (find w.cfg.nodes n).isSome = true)) :=
  parseLine_cases w c line

/-! ### alias expansion (`conf_exp_aliases`)

`expAliases als names` runs the loop of `conf_exp_aliases` on the expanded list `names`: walk the list from the start; the
first name that is the name of an alias (`aliasOf als n = some hosts`: the first alias of that name) is erased (its first
occurrence), `hosts` is appended to a side list, and the walk starts again; a walk that meets no alias name ends the loop and
the side list is appended.  `isAlias als n` = `(aliasOf als n).isSome`; `membersOf als n` = the hosts of alias `n` (`[]` if
there is none); `standsFor als n` = the hosts of alias `n`, or `[n]` if `n` is not an alias name. -/

/-- **What the loop computes.**  The typed names that are not alias names, in the order typed; then, for every occurrence of
    an alias name, in the order typed, the hosts of that alias in the order (and with the repetitions) of its definition.
    A name typed twice is expanded twice. -/
theorem C01_alias_expansion (als : List (Name × List Name)) (names : List Name) :
    expAliases als names = names.filter (fun n => !isAlias als n) ++ names.flatMap (membersOf als) :=
  AliasPf.expAliases_spec als names

/-- Without aliases, and on a list that contains no alias name, `conf_exp_aliases` changes nothing. -/
theorem C01_alias_identity (als : List (Name × List Name)) (names : List Name) :
    expAliases [] names = names ∧ ((∀ n ∈ names, isAlias als n = false) → expAliases als names = names) :=
  ⟨AliasPf.expAliases_nil names, AliasPf.expAliases_no_alias als names⟩

/-- Membership: a name is in the result iff it was typed and is not an alias name, or is a host of a typed alias. -/
theorem C01_alias_members (als : List (Name × List Name)) (names : List Name) (x : Name) :
    x ∈ expAliases als names ↔
      (x ∈ names ∧ aliasOf als x = none) ∨ ∃ a ∈ names, ∃ hs, aliasOf als a = some hs ∧ x ∈ hs :=
  AliasPf.mem_expAliases

/-- As a multiset the result is: each typed name replaced by what it stands for. -/
theorem C01_alias_multiset (als : List (Name × List Name)) (names : List Name) :
    (expAliases als names).Perm (names.flatMap (standsFor als)) :=
  AliasPf.expAliases_perm als names

example : expAliases exAls ["rackt".toList, "u3".toList] = ["u3", "t0", "t1", "t2", "t3"].map String.toList := by decide +kernel
example : expAliases exAls ["mix".toList, "mix".toList] = ["t7", "u1", "u2", "t7", "u1", "u2"].map String.toList := by decide +kernel
example : expAliases exAls ["t2".toList, "rackt".toList] = ["t2", "t0", "t1", "t2", "t3"].map String.toList := by decide +kernel
example : expAliases exAls (["t2", "rackt", "t2", "dupl", "t5"].map String.toList) =
    ["t2", "t2", "t5", "t0", "t1", "t2", "t3", "t1", "t1"].map String.toList := by decide +kernel

/-- **The validated target list.**  If a line typed while no command of this client was in progress leaves the client with
    a command `k`, then: every device went through `dev_enqueue_actions` (`installDev`, to whose `newActs` all theorems above
    apply) for the target list `k.names` with the argument-list id `k.al`; and `k.names` is — for a bare query — all
    configured nodes, otherwise exactly `conf_exp_aliases` of the expansion of the host range typed after the keyword, every
    name of it a configured node (`conf_node_exists`).  Nothing else becomes a target. -/
theorem C01_validated (w : W) (c : Cli) (line : Bytes) (k : CmdC) (h0 : c.cmd = none)
    (hk : (parseLine w c line).2.cmd = some k) :
    (parseLine w c line).1.devs = w.devs.map (installDev (comIdx k.com) (k.names.map ofChars) c.id c.telemetry w.alNext) ∧
    k.al = w.alNext ∧
    ((isQuery (comIdx k.com) = true ∧ k.names = expand w.cfg.nodes) ∨
     (∃ arg hl, scan (kwOf k.com) (stripWs (line.takeWhile (· != 0))) = some arg ∧ createR (toChars arg) = .ok hl ∧
        k.names = expAliases w.cfg.aliases (expand hl) ∧ ∀ n ∈ k.names, (find w.cfg.nodes n).isSome = true)) :=
  parseLine_validated w c line k h0 hk

/-- **Only typed nodes and the members of typed aliases.**  For a power command whose target list is `conf_exp_aliases` of
    the typed names: every plug an appended action can command (its plug list; every plug of the device for `_all`) is a plug
    of this device whose node is a typed name that is not an alias name, or one of the hosts of a typed alias.
    (`C01_commanded` composed with `C01_alias_members`; `ofChars` turns a name into the bytes the plug table holds.) -/
theorem C01_alias_only_members (d : Dev) (com : Nat) (als : List (Name × List Name)) (typed : List Name) (cid : Nat)
    (tele : Bool) (al : Nat) (hq : isQuery com = false) :
    ∀ a ∈ newActs d.plugs d.scripts com ((expAliases als typed).map ofChars) cid tele al,
      ∀ p ∈ a.commanded d, p ∈ d.plugs ∧ ∃ m, p.node = some (ofChars m) ∧
        ((m ∈ typed ∧ aliasOf als m = none) ∨ ∃ b ∈ typed, ∃ hs, aliasOf als b = some hs ∧ m ∈ hs) :=
  fun _ h => alias_commanded hq h

/-- The same for the plug list of any appended action, queries included (`C01_subset` composed with `C01_alias_members`). -/
theorem C01_alias_subset (d : Dev) (com : Nat) (als : List (Name × List Name)) (typed : List Name) (cid : Nat)
    (tele : Bool) (al : Nat) :
    ∀ a ∈ newActs d.plugs d.scripts com ((expAliases als typed).map ofChars) cid tele al, ∀ ps, a.outerPlugs = some ps →
      ∀ p ∈ ps, p ∈ d.plugs ∧ ∃ m, p.node = some (ofChars m) ∧
        ((m ∈ typed ∧ aliasOf als m = none) ∨ ∃ b ∈ typed, ∃ hs, aliasOf als b = some hs ∧ m ∈ hs) :=
  fun _ h _ hps => alias_subset h hps

/-- **No recursion.**  `conf_exp_aliases` expands once.  A name of the result that is itself the name of an alias did not
    come from the user's list (every typed occurrence of an alias name is deleted): it is there, as often as it is listed
    among the hosts of the typed aliases, as a name — its own hosts are not added on its account.  (`_hostlist_create_validated`
    then looks it up like any other name: `209` unless a node of that name exists.  The parser does not forbid a node and
    an alias of the same name, so this can happen in an accepted configuration.) -/
theorem C01_alias_no_recursion (als : List (Name × List Name)) (names : List Name) (b : Name) (hb : isAlias als b = true) :
    (expAliases als names).count b = (names.flatMap (membersOf als)).count b :=
  AliasPf.count_alias_name als names b hb

/-- `outer = inner,t0`, `inner = t1`: typing `outer` yields `inner,t0`; a second expansion would give `t0,t1` -/
example : isAlias exNested "inner".toList = true ∧
    expAliases exNested ["outer".toList] = ["inner".toList, "t0".toList] ∧
    expAliases exNested (expAliases exNested ["outer".toList]) = ["t0".toList, "t1".toList] := by decide +kernel

/-- **A line that is too long never acts.**  `_parse_input` tests `strlen(str) >= CP_LINEMAX` (131072) on the stripped line
    before anything else: such a line — whatever command and targets it spells, whatever the client's state — is answered
    `203 Command too long` (and the prompt) and that is all: every device (queue, buffers, connection) is exactly as it
    was, no argument list is created, the client's command (if any) is untouched.  (The equation behind it is `C06_too_long`.) -/
theorem C01_too_long_never_acts (w : W) (c : Cli) (line : Bytes)
    (h : (stripWs (line.takeWhile (· != 0))).length ≥ 131072) :
    (parseLine w c line).1.devs = w.devs ∧ (parseLine w c line).1.store = w.store ∧
    (parseLine w c line).1.alNext = w.alNext ∧ (parseLine w c line).2.cmd = c.cmd := by
  rw [Pm.Daemon.ClientPf.parseLine_tooLong w c line h]; exact ⟨rfl, rfl, rfl, rfl⟩

/-- non-vacuity: `off `, 131072 times `x`, LF — 131076 bytes once stripped (the bound is on the whole stripped line, keyword
    included) -/
example : (stripWs ((bstr "off " ++ List.replicate 131072 120 ++ [10]).takeWhile (· != 0))).length ≥ 131072 := by
  rw [strip_long (bstr "off ") 131071 (by decide +kernel) (by decide +kernel), List.length_append, List.length_replicate]
  decide +kernel
/-- the same request from client 5 of `exW` (which `off n[1,3]` does act on: the example on `exLine`) -/
example : (parseLine exW exC (bstr "off " ++ List.replicate 131072 120 ++ [10])).1.devs = exW.devs :=
  (C01_too_long_never_acts exW exC _ (by
    rw [strip_long (bstr "off ") 131071 (by decide +kernel) (by decide +kernel), List.length_append, List.length_replicate]
    decide +kernel)).1

/-- The limit of the property.  `_process_foreach` walks the plug list of the *device* for every action that is not of
    a `_ranged` kind.  Request `off n3` on a device with plugs "1" ↦ n1 and "3" ↦ n3 whose singlet `off` script is
    `foreachplug { send "off %s\n" }`: one singlet action for plug "3" is appended (as C01 demands), and the first
    thing its script writes is `off 1\n`.  So at the level of bytes C01 holds for `send`s in the outer block
    (`C01_wire_fresh_singlet`) and needs the hypothesis "singlet scripts contain no `foreachplug`/`foreachnode`" beyond
    it; all shipped device files satisfy it, the configuration parser does not enforce it. -/
theorem C01_foreach_in_singlet_counterexample :
    (newActs [exP1, exP3] exScriptsForeach 10 [[110, 51]] 5 false 2).map
        (fun a => (a.com, a.outerPlugs, twoSteps (exDevWith [exP1, exP3] exScriptsForeach) a))
      = [(10, some [exP3], [111, 102, 102, 32, 49, 10])] :=
  foreach_in_singlet_counterexample

/-! ### the hypotheses are satisfiable

`exDev` has plugs "1" ↦ n1, "2" unused, "3" ↦ n3, "4" ↦ n4 and scripts `off`, `off_ranged`, `off_all`. -/

-- request `off n1,n3`: the device is involved and capable, one action is appended — `off_ranged` for plugs "1","3"
example : needsDev exDev [[110, 49], [110, 51]] = true ∧ handles exDev 10 [[110, 49], [110, 51]] = true ∧
    isQuery 10 = false ∧ (enqueue exDev 10 [[110, 49], [110, 51]] 5 false 2).2 = 1 ∧
    summary (newActs exDev.plugs exDev.scripts 10 [[110, 49], [110, 51]] 5 false 2) = [(11, some [exP1, exP3])] := by
  decide +kernel
-- request `off n3`: the singlet script for plug "3"
example : summary (newActs exDev.plugs exDev.scripts 10 [[110, 51]] 5 false 2) = [(10, some [exP3])] := ex_singlet
-- all three mapped plugs named, but plug "2" is unused: not `off_all`
example : summary (newActs exDev.plugs exDev.scripts 10 [[110, 49], [110, 51], [110, 52]] 5 false 2)
    = [(11, some [exP1, exP3, exP4])] := ex_ranged_mapped
-- a device all of whose plugs are named: `off_all`, no plug list
example : summary (newActs exDevFull.plugs exDevFull.scripts 10 [[110, 51], [110, 49], [120]] 5 false 2) = [(12, none)] := by
  decide +kernel
-- only the singlet script: one action per named plug, in configuration order
example : summary (newActs exDev.plugs exScriptsSinglet 10 [[110, 52], [110, 49]] 5 false 2)
    = [(10, some [exP1]), (10, some [exP4])] := ex_singlets
-- nothing named: uninvolved
example : (∀ p ∈ exDev.plugs, ∀ n, p.node = some n → n ∉ [[122]]) ∧ (enqueue exDev 10 [[122]] 5 false 2).2 = 0 := by
  refine ⟨(needsDev_false_iff exDev [[122]]).mp (by decide +kernel), by decide +kernel⟩
-- the F15 shape (only `off_all`, part of the device named): `implemented` holds but `handles` does not, so the
-- request is refused with 213; `handles` cannot be weakened to `implemented` in `C01_count`
example : needsDev (exDevWith [exP1, exP3] exScriptsAllOnly) [[110, 49]] = true ∧
    implemented (exDevWith [exP1, exP3] exScriptsAllOnly) 10 = true ∧
    handles (exDevWith [exP1, exP3] exScriptsAllOnly) 10 [[110, 49]] = false ∧
    (enqueue (exDevWith [exP1, exP3] exScriptsAllOnly) 10 [[110, 49]] 5 false 2).2 = 0 := by decide +kernel

-- end to end: the line `off n[1,3]` typed by client 5 of `exW` (devices: `exDev`, and a one-plug device for node "z9")
-- is accepted, puts one `off_ranged` action for plugs "1","3" on the first device, nothing on the second, and the client
-- waits for one action
example : (parseLine exW exC exLine).1.devs.map (fun nd => summary nd.2.acts) = [[(11, some [exP1, exP3])], []] ∧
    ((parseLine exW exC exLine).2.cmd.map fun k => (k.com, k.names, k.pending)) = some (Com.off, [['n', '1'], ['n', '3']], 1) := exLine_enq

/-! ### with aliases

`alW`: device `dt` (plugs "0"…"7" ↦ t0…t7), device `du` (plugs "0"…"3" ↦ u0…u3), scripts `on`, `on_ranged`, `off`, `off_ranged`,
`status_all`; aliases `rackt = t0,t1,t2,t3`, `mix = t7,u1,u2`, `dupl = t1,t1`.  `alRun line` = (the client's target list and
the number of actions it waits for, per device the appended actions as (script slot, plug names listed)). -/

-- `on rackt,u3`: the plain name first, then the four hosts of the alias; `on_ranged` for plugs 0-3 of `dt`, `on` for plug 3 of `du`
example : alRun "on rackt,u3\n" =
    (some (["u3", "t0", "t1", "t2", "t3"], 2), [[(8, some ["0", "1", "2", "3"])], [(7, some ["3"])]]) := alRun_on
-- `status mix,mix`: an alias typed twice is expanded twice; no singlet `status` script, so `status_all` on both devices
example : alRun "status mix,mix\n" =
    (some (["t7", "u1", "u2", "t7", "u1", "u2"], 2), [[(3, none)], [(3, none)]]) := alRun_status
-- `off t2,rackt`: t2 is a target twice (typed, and as a host of `rackt`); one `off_ranged` action in which plug 2 is listed once
example : alRun "off t2,rackt\n" =
    (some (["t2", "t0", "t1", "t2", "t3"], 1), [[(11, some ["0", "1", "2", "3"])], []]) := alRun_off
-- `off dupl`: repetitions inside an alias are kept; one singlet `off` for plug 1
example : alRun "off dupl\n" = (some (["t1", "t1"], 1), [[(10, some ["1"])], []]) := alRun_dupl
-- the hypotheses of `C01_validated` hold for `on rackt,u3` typed by the idle client
example : exC.cmd = none ∧ ((parseLine alW exC (bstr "on rackt,u3\n")).2.cmd.map (·.names)) =
    some (expAliases alW.cfg.aliases ["rackt".toList, "u3".toList]) := by decide +kernel
-- an unknown name beside an alias: 209 for that name, nothing enqueued
example : (parseLine alW exC (bstr "on rackt,zz9\n")).2.toBuf = bstr "209 No such nodes: zz9\r\npowerman> " ∧
    (parseLine alW exC (bstr "on rackt,zz9\n")).1.devs.map (fun nd => nd.2.acts.length) = [0, 0] := alRun_unknown

end Pm.Props.C01
