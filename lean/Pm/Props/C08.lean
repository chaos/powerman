import Pm.InterpSends
import Pm.ToBufProps
/-! # C08 — the script interpreter does what the script says

"For every action the bytes powerman sends to the device are precisely the script's send strings in program order with
%s replaced by the plug name (for ranged scripts: the range-compressed list of exactly the targeted plugs); a statement
runs only after all earlier expects have matched against device output, a delay lasts at least its stated time,
foreachplug/foreachnode bodies run once per plug / mapped node of the device (in ranged scripts: per targeted plug) in
plug order, and ifon/ifoff bodies run only when the plug's known state matches.  setplugstate/setresult record the
captured text under the first matching on/off/success pattern for the plug named by the literal, capture or script
argument."

Section A: one theorem per sentence, about the mirror of the corresponding `_process_*` function of
`device.c` (`Pm/Dev2.lean`), for every device state, action, context, oracle and time.
Section B: the stack of execution contexts refines a loop-free reference program — micro-step, run, and
one whole pass of `_process_action` (`C08_refines`; any nesting depth — the mirror's inner loop gets its fuel from the
nesting depth of the block the action stands in, `loopBound`, and never uses it up).  Section C: what is sent until the action completes is the unrolled script's send
texts in order. -/
namespace Pm.Props.C08
open Pm.Dev2.Interp
open Pm.Dev2

/-! ## A1  send -/

/-- **The `%s` argument of a send.**  One plug in the context: its name.  Two or more (a ranged script): the
    range-compressed, sorted list of exactly those plugs' names (`rangedNames`, through the hostlist mirror; it has no
    value when `hostlist_sort` hits its assertion, F19).  No plug list or an empty one: no argument (`%s` prints
    `(null)`). -/
theorem C08_send_argument (fmt : Bytes) :
    (∀ p, sendText fmt (some [p]) = some (hsprintf fmt (some p.name))) ∧
    (∀ p q r, sendText fmt (some (p :: q :: r)) =
        (rangedNames ((p :: q :: r).map (·.name))).map fun n => hsprintf fmt (some n)) ∧
    sendText fmt none = some (hsprintf fmt none) ∧ sendText fmt (some []) = some (hsprintf fmt none) :=
  ⟨fun _ => rfl, fun _ _ _ => rfl, rfl, rfl⟩

/-- **`_process_send`.**  On the first entry (`processing` clear) exactly the formatted text is queued behind what the
    device's output buffer holds, one `Out.sent` record with the same bytes is emitted, and nothing else about the device
    changes; on re-entry nothing is appended and nothing emitted; and the statement reports finished only when the
    output buffer is empty, i.e. every byte has been handed to the descriptor (or the model has stopped at the
    `hostlist_sort` assertion).
    The first clause is not `toBuf := d.toBuf ++ s`: the buffer holds 65536
    bytes and `cbuf_write` overwrites the oldest unsent bytes beyond that (`clipTo` = the last 65536 bytes of `d.toBuf ++ s`):
    so beyond 64 KiB "the bytes powerman sends are precisely the script's send strings" is *false of the C code* — bytes queued
    earlier and not yet written (telnet answers, the unsent rest of an earlier text when `dev->to` was not drained) are lost,
    and of a text longer than 65536 bytes only the tail is sent (`C08_send_bytes_overflow_counterexample`).  Below the limit
    the write is a plain append: `C08_send_bytes_below`.  A script of the daemon itself never has two texts queued (a `send` waits
    until the buffer has drained), so in practice what is overwritten are telnet answers. -/
theorem C08_send_bytes (d : Dev) (a : Action) (o : Oracle) (e : ExecCtx) (fmt : Bytes) :
    (∀ s, e.processing = false → sendText fmt e.plugs = some s →
        (stmtSend d a o e fmt).dev = { d with toBuf := clipTo (d.toBuf ++ s) } ∧
        sents (stmtSend d a o e fmt).out = [s] ∧
        (stmtSend d a o e fmt).finished = (d.toBuf ++ s).isEmpty) ∧
    (e.processing = false → sendText fmt e.plugs = none →
        (stmtSend d a o e fmt).dev = d ∧ hasAbort (stmtSend d a o e fmt).out = true) ∧
    (e.processing = true →
        (stmtSend d a o e fmt).dev = d ∧ (stmtSend d a o e fmt).out = [] ∧
        (stmtSend d a o e fmt).finished = d.toBuf.isEmpty) ∧
    ((stmtSend d a o e fmt).finished = true →
        (stmtSend d a o e fmt).dev.toBuf = [] ∨ hasAbort (stmtSend d a o e fmt).out = true) := by
  refine ⟨?_, ?_, ?_, stmtSend_finished d a o e fmt⟩
  · intro s hp hs
    rw [stmtSend_fresh d a o e fmt s hp hs]
    refine ⟨rfl, ?_, rfl⟩
    rw [sents_append, sents_sendTele]; rfl
  · intro hp hs
    rw [stmtSend_fresh_abort d a o e fmt hp hs]; exact ⟨rfl, rfl⟩
  · intro hp
    rw [stmtSend_reentry d a o e fmt hp]
    exact ⟨rfl, rfl, rfl⟩

/-- the first clause of `C08_send_bytes` as a plain append, under the explicit no-overflow hypothesis: the text fits behind what
    is queued -/
theorem C08_send_bytes_below (d : Dev) (a : Action) (o : Oracle) (e : ExecCtx) (fmt : Bytes) (s : Bytes)
    (hp : e.processing = false) (hs : sendText fmt e.plugs = some s) (hfit : (d.toBuf ++ s).length ≤ 65536) :
    (stmtSend d a o e fmt).dev = { d with toBuf := d.toBuf ++ s } ∧
    sents (stmtSend d a o e fmt).out = [s] ∧
    (stmtSend d a o e fmt).finished = (d.toBuf ++ s).isEmpty := by
  obtain ⟨h1, h2, h3⟩ := (C08_send_bytes d a o e fmt).1 s hp hs
  rw [clipTo_of_le _ hfit] at h1
  exact ⟨h1, h2, h3⟩

/-- **The plain-append form of the first clause of `C08_send_bytes` is false beyond 64 KiB**: a first-visit `send "l\n"` against a full
    buffer (65536 queued bytes) does not leave `toBuf ++ "l\n"` queued: the two oldest queued bytes are gone.  (The C code does
    the same: `cbuf_write` in overwrite mode; `_process_send` logs "buffer overrun, 2 dropped".) -/
theorem C08_send_bytes_overflow_counterexample (a : Action) (o : Oracle) :
    Pm.Dev2.ToBufP.sendCtx.processing = false ∧
    sendText [108, 10] Pm.Dev2.ToBufP.sendCtx.plugs = some [108, 10] ∧
    (stmtSend Pm.Dev2.ToBufP.fullDev a o Pm.Dev2.ToBufP.sendCtx [108, 10]).dev ≠
      { Pm.Dev2.ToBufP.fullDev with toBuf := Pm.Dev2.ToBufP.fullDev.toBuf ++ [108, 10] } ∧
    (stmtSend Pm.Dev2.ToBufP.fullDev a o Pm.Dev2.ToBufP.sendCtx [108, 10]).dev.toBuf =
      Pm.Dev2.ToBufP.fullDev.toBuf.drop 2 ++ [108, 10] :=
  Pm.Dev2.ToBufP.send_append_counterexample a o

/-- non-vacuity of `C08_send_bytes_below`: an empty buffer and a six-byte text fit -/
example : (([] : Bytes) ++ str "on p1\n").length ≤ 65536 := by decide +kernel

/-- what the send does to the telemetry client: the line `send(dev): '…'` is produced exactly when the write did not overrun
    the buffer (`_process_send`: `else if (dropped > 0) err(…) else { … vpf_fun(…) }`) -/
theorem C08_send_telemetry (d : Dev) (a : Action) (o : Oracle) (e : ExecCtx) (fmt : Bytes) (s : Bytes)
    (hp : e.processing = false) (hs : sendText fmt e.plugs = some s) :
    (stmtSend d a o e fmt).out = [Out.sent s] ++
      (if toOverrun d.toBuf s then [] else if a.telemetry then teleMem a.clientId "send(dev): '" s else []) :=
  congrArg StepR.out (stmtSend_fresh d a o e fmt s hp hs)

/-- non-vacuity: plug `p1`, script line `send "on %s\n"`, empty output buffer: `on p1\n` is queued and the statement
    waits for the buffer to drain -/
example :
    let e : ExecCtx := { block := [.send (str "on %s\n")], pos := 0, plugs := some [⟨str "p1", some (str "n1")⟩],
                         plugItr := none, plugCopy := none, processing := false }
    sendText (str "on %s\n") e.plugs = some (str "on p1\n") := by decide +kernel

/-! ## A2  expect -/

/-- **`_process_expect` is a gate.**  It reports finished exactly when the input buffer is not empty and the regex
    oracle answers a match for *this* pattern on *the current buffer* (NUL bytes shown as 0xff); then exactly the
    bytes up to the end of the match are consumed.  In every case the action itself (stack, positions) is untouched. -/
theorem C08_expect_gate (d : Dev) (a : Action) (o : Oracle) (pat : Nat) :
    ((stmtExpect d a o pat).finished = true ↔
        d.fromBuf ≠ [] ∧ ((askRx o pat (rxSubject d.fromBuf)).2.1).isSome = true) ∧
    (∀ offs, d.fromBuf ≠ [] → (askRx o pat (rxSubject d.fromBuf)).2.1 = some offs →
        (stmtExpect d a o pat).dev.fromBuf = d.fromBuf.drop (offs.headD (0, 0)).2.toNat) ∧
    ((stmtExpect d a o pat).finished = false → (stmtExpect d a o pat).dev.fromBuf = d.fromBuf) ∧
    (stmtExpect d a o pat).act = a := by
  refine ⟨stmtExpect_finished_iff d a o pat, ?_, ?_, stmtExpect_act d a o pat⟩
  · intro offs h hm; rw [stmtExpect_match d a o pat offs h hm]
  · intro hf
    by_cases h : d.fromBuf = []
    · rw [stmtExpect_empty d a o pat h]; rfl
    · cases hm : (askRx o pat (rxSubject d.fromBuf)).2.1 with
      | none => rw [stmtExpect_nomatch d a o pat h hm]; rfl
      | some offs => rw [stmtExpect_match d a o pat offs h hm] at hf; cases hf

/-- the oracle's answer, when it raises no `rxMismatch`, is the recorded `regexec` answer to exactly this question -/
theorem C08_oracle_honest (o : Oracle) (pat : Nat) (s : Bytes) (h : (askRx o pat s).2.2 = []) :
    ∃ c rest, o.calls = c :: rest ∧ c.pat = pat ∧ c.subject = s ∧ (askRx o pat s).2.1 = c.answer ∧
      (askRx o pat s).1 = { calls := rest } := askRx_honest o pat s h

/-- **No later statement runs before the expect has matched.**  While the expect the action stands at has not
    matched, a whole trip through `_process_action` (inner `do … while`, then the bookkeeping) leaves the action in
    the queue exactly as it was — same context stack, same statement positions — so nothing behind the expect in its
    block, or in any enclosing block, is executed. -/
theorem C08_expect_blocks (k : CS → Oracle → List Out → Option Time → PA) (rest : List Action) (c : CS) (a : Action)
    (o : Oracle) (out : List Out) (tmo : Option Time) (left : Time) (pat : Nat)
    (hcur : (topCtx a).block[(topCtx a).pos]? = some (.expect pat))
    (h : (stmtExpect { c.dev with wake := none } a o pat).finished = false) :
    (onRun k rest c a o out tmo left).1.dev.acts = a :: rest :=
  onRun_expect_waits k rest c a o out tmo left pat hcur h

/-- the same for any statement that reports "not finished" (an expect without match, a send whose bytes are not yet
    written, a running delay): the `do … while` ends at once, the trip stores the action back at the head of the queue,
    and its stack is what it was — same contexts, blocks, positions and iterators — except possibly for the
    `processing` flag of the top context -/
theorem C08_unfinished_stays (k : CS → Oracle → List Out → Option Time → PA) (rest : List Action) (c : CS) (a : Action)
    (o : Oracle) (out : List Out) (tmo : Option Time) (left : Time) (e : ExecCtx) (stack : List ExecCtx)
    (hex : a.exec = e :: stack)
    (h : (processStmt { c.dev with wake := none } a o c.env.now).finished = false) :
    ∃ a' p', (onRun k rest c a o out tmo left).1.dev.acts = a' :: rest ∧
      a'.exec = { e with processing := p' } :: stack := by
  obtain ⟨p', hp⟩ := unfinished_shape _ a o c.env.now e stack hex h
  exact ⟨_, p', (onRun_stalled_acts k rest c a o out tmo left h).1, hp⟩

/-- non-vacuity: input `"login: "` in the buffer, the oracle answers "no match" — the expect does not finish -/
example :
    let d : Dev := { plugs := [], scripts := fun _ => none, timeout := 0, acts := [], toBuf := [], fromBuf := str "login: ",
                     xmStr := none, xmOffs := [], xmResult := false, xmUsed := false, args := [], nextUid := 0,
                     shortCircuitDelay := false }
    (stmtExpect d default ⟨[⟨7, str "login: ", none⟩]⟩ 7).finished = false := by decide +kernel

/-! ## A3  delay -/

/-- **`_process_delay` lasts at least its stated time.**  The first entry records the current time in `delayStart`
    (later entries leave it alone); the statement reports finished exactly when `now ≥ delayStart + us` — or when the
    test switch `short_circuit_delay` is on. -/
theorem C08_delay_at_least (d : Dev) (a : Action) (o : Oracle) (e : ExecCtx) (now us : Time) :
    (stmtDelay d a o e now us).act.delayStart = (if e.processing then a.delayStart else now) ∧
    ((stmtDelay d a o e now us).finished = true ↔
      (d.shortCircuitDelay = true ∨ now ≥ (stmtDelay d a o e now us).act.delayStart + us)) :=
  ⟨stmtDelay_delayStart d a o e now us, stmtDelay_finished_iff d a o e now us⟩

/-- a real delay never finishes on the pass that starts it, and marks the context as "in a delay" -/
theorem C08_delay_first_entry (d : Dev) (a : Action) (o : Oracle) (e : ExecCtx) (now us : Time)
    (hp : e.processing = false) (hs : d.shortCircuitDelay = false) (hus : 0 < us) :
    (stmtDelay d a o e now us).finished = false ∧
    (stmtDelay d a o e now us).act = setTop { a with delayStart := now } { e with processing := true } :=
  stmtDelay_first_entry_waits d a o e now us hp hs hus

/-- non-vacuity: a one-second delay entered at time 5 is not finished at time 5 -/
example :
    (stmtDelay { plugs := [], scripts := fun _ => none, timeout := 0, acts := [], toBuf := [], fromBuf := [],
                 xmStr := none, xmOffs := [], xmResult := false, xmUsed := false, args := [], nextUid := 0,
                 shortCircuitDelay := false } default ⟨[]⟩ default 5 1000000).finished = false :=
  (C08_delay_first_entry _ _ _ _ 5 1000000 rfl rfl (by decide)).1

/-! ## A4  ifon / ifoff -/

/-- **`_process_ifonoff` runs the body only when the plug's known state matches.**  `nodeState d a.arglist (ctxNode e.plugs)`
    is the state this action's argument list holds for the node of the context's (first) plug — `unknown` when there
    is no plug, no node or no such argument.  On entry (`processing` clear):
    * state `on` for `ifon` / `off` for `ifoff`: the body is pushed as a new context with the same plugs;
    * the opposite known state: nothing is pushed, the action is unchanged;
    * `unknown`: nothing is pushed and the action fails with `expfail`.
    Conversely the stack grows only in the first case.  On return from the body (`processing` set) the flag is
    cleared and nothing else happens. -/
theorem C08_if_only_when_state_matches (d : Dev) (a : Action) (o : Oracle) (e : ExecCtx) (body : List Stmt) (wantOn : Bool) :
    (e.processing = false → nodeState d a.arglist (ctxNode e.plugs) = (if wantOn then .on else .off) →
      (stmtIf d a o e body wantOn).act =
        { a with exec := bodyCtx body (some (e.plugs.getD [])) :: { e with processing := true } :: a.exec.drop 1 }) ∧
    (e.processing = false → nodeState d a.arglist (ctxNode e.plugs) = (if wantOn then .off else .on) →
      (stmtIf d a o e body wantOn).act = a) ∧
    (e.processing = false → nodeState d a.arglist (ctxNode e.plugs) = .unknown →
      (stmtIf d a o e body wantOn).act = { a with errnum := .expfail }) ∧
    (e.processing = true → (stmtIf d a o e body wantOn).act = setTop a { e with processing := false }) ∧
    (a.exec ≠ [] → (stmtIf d a o e body wantOn).act.exec.length > a.exec.length →
      e.processing = false ∧ nodeState d a.arglist (ctxNode e.plugs) = (if wantOn then .on else .off)) ∧
    ((stmtIf d a o e body wantOn).dev = d ∧ (stmtIf d a o e body wantOn).oracle = o ∧
      (stmtIf d a o e body wantOn).out = [] ∧ (stmtIf d a o e body wantOn).finished = true) :=
  ⟨fun hp hst => by rw [stmtIf_fresh d a o e body wantOn hp, hst]; cases wantOn <;> rfl,
   fun hp hst => by rw [stmtIf_fresh d a o e body wantOn hp, hst]; cases wantOn <;> rfl,
   fun hp hst => by rw [stmtIf_fresh d a o e body wantOn hp, hst]; cases wantOn <;> rfl,
   stmtIf_return d a o e body wantOn, stmtIf_pushed_only_if d a o e body wantOn, stmtIf_frame d a o e body wantOn⟩

/-- non-vacuity: the arglist says node `n1` is on; `ifon` in the context of plug `p1 ↦ n1` sees state `on` -/
example :
    let d : Dev := { plugs := [], scripts := fun _ => none, timeout := 0, acts := [], toBuf := [], fromBuf := [],
                     xmStr := none, xmOffs := [], xmResult := false, xmUsed := false,
                     args := [(3, [⟨[110, 49], none, .on, .none⟩])], nextUid := 0, shortCircuitDelay := false }
    let a : Action := { (default : Action) with arglist := 3 }
    nodeState d a.arglist (ctxNode (some [⟨[112, 49], some [110, 49]⟩])) = .on := by decide +kernel

/-! ## A5  setplugstate / setresult -/

/-- **The first matching interpretation decides** (`regexec` seen as a function of pattern and subject): the state
    recorded is that of the first entry of the interpretation list, in list order, whose pattern matches the captured
    text; `unknown` when none does.  The same for `setresult`. -/
theorem C08_first_matching_interp (m : Nat → Bytes → Bool) (s : Bytes) (o : Oracle) :
    (∀ l : List (PState × Nat),
      (pickState (pureAsk m) s l o []).2.1 = ((l.find? fun i => m i.2 s).map (·.1)).getD .unknown) ∧
    (∀ l : List (PResult × Nat),
      (pickResult (pureAsk m) s l o []).2.1 = ((l.find? fun i => m i.2 s).map (·.1)).getD .unknown) :=
  ⟨fun l => by rw [pickState_eq, pickFirst_pure], fun l => by rw [pickResult_eq, pickFirst_pure]⟩

/-- the same against the recorded oracle the mirror really uses: the interpretations are tried in list order, one
    recorded `regexec` call each; if the calls for the first `n` interpretations answered "no match" and the next one
    "match", the state is that of interpretation number `n` and exactly `n+1` recorded calls have been consumed; if
    all answered "no match" the state is `unknown` -/
theorem C08_first_matching_interp_recorded (s : Bytes) (l : List (PState × Nat)) (pre post : List RxCall)
    (hpre : ∀ x ∈ pre, x.answer = none) :
    (∀ c (hlen : pre.length < l.length), c.answer.isSome = true →
      (pickState askRx s l ⟨pre ++ c :: post⟩ []).1 = ⟨post⟩ ∧
      (pickState askRx s l ⟨pre ++ c :: post⟩ []).2.1 = (l[pre.length]'hlen).1) ∧
    (pre.length = l.length →
      (pickState askRx s l ⟨pre ++ post⟩ []).1 = ⟨post⟩ ∧ (pickState askRx s l ⟨pre ++ post⟩ []).2.1 = .unknown) :=
  ⟨fun c hlen hc => by simp only [pickState_eq]; exact pickFirst_first _ s l pre c post [] hpre hc hlen,
   fun hlen => by simp only [pickState_eq]; exact pickFirst_nomatch _ s l pre post [] hpre hlen⟩

/-- the same for the results a `setresult` chooses among -/
theorem C08_first_matching_result_recorded (s : Bytes) (l : List (PResult × Nat)) (pre post : List RxCall)
    (hpre : ∀ x ∈ pre, x.answer = none) :
    (∀ c (hlen : pre.length < l.length), c.answer.isSome = true →
      (pickResult askRx s l ⟨pre ++ c :: post⟩ []).1 = ⟨post⟩ ∧
      (pickResult askRx s l ⟨pre ++ c :: post⟩ []).2.1 = (l[pre.length]'hlen).1) ∧
    (pre.length = l.length →
      (pickResult askRx s l ⟨pre ++ post⟩ []).1 = ⟨post⟩ ∧ (pickResult askRx s l ⟨pre ++ post⟩ []).2.1 = .unknown) :=
  ⟨fun c hlen hc => by simp only [pickResult_eq]; exact pickFirst_first _ s l pre c post [] hpre hc hlen,
   fun hlen => by simp only [pickResult_eq]; exact pickFirst_nomatch _ s l pre post [] hpre hlen⟩

example : (pickState (pureAsk fun pat _ => pat == 2) [] [(.off, 1), (.on, 2), (.off, 2)] ⟨[]⟩ []).2.1 = .on := by decide +kernel

/-- **Which plug, which cell.**  The plug a `setplugstate` is about is named by the literal of the statement if there
    is one, else by the capture group if it took part in the last match, else by the script argument (the name of the
    context's first plug): `chosenName`.  If that name is a plug of this device mapped to a node (`findPlug`) and the
    status capture took part in the match, the action's argument list is rewritten by `writeState`: the cells whose node
    is that plug's node receive the chosen state and the captured text, every other cell is left exactly as it was, and
    no other argument list is touched.  If there is no name, no status capture, or the name is not a mapped plug of this
    device, nothing at all is written.  The statement always finishes and never changes the action.  (No hypothesis on
    `xm_used`: a statement that runs before any `expect` finds no
    capture — `subOf` is `none` — and so falls under "nothing is written": `C07_set_before_expect_harmless`.) -/
theorem C08_setplugstate_writes (d : Dev) (a : Action) (o : Oracle) (e : ExecCtx) (lit : Option Bytes) (pm sm : Int)
    (is : List (PState × Nat)) :
    (∀ n, chosenName d (some n) pm (ctxName e.plugs) = some n) ∧
    (∀ n, subOf d pm = some n → chosenName d none pm (ctxName e.plugs) = some n) ∧
    (subOf d pm = none → chosenName d none pm (ctxName e.plugs) = ctxName e.plugs) ∧
    (∀ pn s plug, chosenName d lit pm (ctxName e.plugs) = some pn → subOf d sm = some s → findPlug d pn = some plug →
      (stmtSetplugstate d a o e lit pm sm is).dev =
        setArgs d a.arglist (writeState (getArgs d a.arglist) (plug.node.getD []) (pickState askRx s is o []).2.1 s) ∧
      getArgs (stmtSetplugstate d a o e lit pm sm is).dev a.arglist =
        writeState (getArgs d a.arglist) (plug.node.getD []) (pickState askRx s is o []).2.1 s ∧
      ∀ id, id ≠ a.arglist → getArgs (stmtSetplugstate d a o e lit pm sm is).dev id = getArgs d id) ∧
    ((chosenName d lit pm (ctxName e.plugs) = none ∨ subOf d sm = none ∨
        ∃ pn, chosenName d lit pm (ctxName e.plugs) = some pn ∧ findPlug d pn = none) →
      stmtSetplugstate d a o e lit pm sm is = ⟨d, a, o, [], true⟩) ∧
    (stmtSetplugstate d a o e lit pm sm is).act = a ∧ (stmtSetplugstate d a o e lit pm sm is).finished = true := by
  refine ⟨fun _ => rfl, ?_, ?_, ?_, fun h => set_sound (now := 0) (rest := []) (.setNone lit pm sm is h), ?_⟩
  · intro n h; simp [chosenName, h]
  · intro h; simp [chosenName, h]
  · intro pn s plug hn hs hp
    rw [set_sound (now := 0) (rest := []) (.setWrite lit pm sm is pn s plug hn hs hp)]
    exact ⟨rfl, getArgs_setArgs .., fun id hid => getArgs_setArgs_ne _ _ _ _ hid⟩
  · obtain ⟨r, h⟩ := Step.total d a o 0 e [] (.setplugstate lit pm sm is)
    rw [set_sound h]; cases h <;> first | exact ⟨rfl, rfl⟩ | contradiction

/-- what `writeState` does to the cells: same length, same nodes; a cell of another node is untouched, a cell of the
    plug's node gets the state and the text -/
theorem C08_writeState_cells (as : List Arg) (node : Bytes) (st : PState) (s : Bytes) :
    (writeState as node st s).length = as.length ∧
    ∀ i (h : i < as.length),
      ((writeState as node st s)[i]?).map (·.node) = some as[i].node ∧
      (as[i].node ≠ node → (writeState as node st s)[i]? = some as[i]) ∧
      (as[i].node = node → (writeState as node st s)[i]? = some { as[i] with state := st, val := some s }) :=
  writeState_spec as node st s

/-- `findPlug`: the first plug of the device with that name, provided it is mapped to a node -/
theorem C08_findPlug (d : Dev) (pn : Bytes) (p : Plug) :
    findPlug d pn = some p ↔ d.plugs.find? (·.name == pn) = some p ∧ p.node.isSome = true := findPlug_some_iff d pn p

/-- `setresult`: plug by capture only; same cell discipline, with the result of the first matching interpretation; a
    result other than `success` for a node of this action is also reported to the client as a diagnostic -/
theorem C08_setresult_writes (d : Dev) (a : Action) (o : Oracle) (pm sm : Int) (is : List (PResult × Nat)) :
    (∀ pn s plug, subOf d pm = some pn → subOf d sm = some s → findPlug d pn = some plug →
      (stmtSetresult d a o pm sm is).dev =
        setArgs d a.arglist (writeResult (getArgs d a.arglist) (plug.node.getD []) (pickResult askRx s is o []).2.1 s) ∧
      (stmtSetresult d a o pm sm is).out = (pickResult askRx s is o []).2.2 ++
        resultDiag d a (plug.node.getD []) (pickResult askRx s is o []).2.1 s) ∧
    ((subOf d pm = none ∨ subOf d sm = none ∨ ∃ pn, subOf d pm = some pn ∧ findPlug d pn = none) →
      stmtSetresult d a o pm sm is = ⟨d, a, o, [], true⟩) ∧
    (stmtSetresult d a o pm sm is).act = a ∧ (stmtSetresult d a o pm sm is).finished = true := by
  refine ⟨?_, stmtSetresult_nothing d a o pm sm is, (stmtSetresult_frame d a o pm sm is).1,
    (stmtSetresult_frame d a o pm sm is).2⟩
  intro pn s plug hn hs hp
  rw [stmtSetresult_writes d a o pm sm is pn s plug hn hs hp]
  exact ⟨rfl, rfl⟩

/-! ## A6  foreachplug / foreachnode -/

/-- **The iterator.**  `nextPlug isNode lst k _` is `pluglist_next` on an iterator standing at index `k` (repeated
    while the plug has no node, for `foreachnode`).  Called with the fuel `_process_foreach` gives it, it returns the
    first plug at or after `k` that is not skipped together with the index just behind it, and every plug in between
    is one that is skipped; it returns nothing exactly when no plug at or after `k` remains to be visited. -/
theorem C08_iterator_step (isNode : Bool) (lst : List Plug) (k : Nat) :
    match nextPlug isNode lst k (lst.length + 1) with
    | some (p, k') => k < k' ∧ k' ≤ lst.length ∧ lst[k' - 1]? = some p ∧ skipped isNode p = false ∧
        (∀ j, k ≤ j → j < k' - 1 → ∀ q, lst[j]? = some q → skipped isNode q = true) ∧
        (lst.drop k).filter (fun p => !skipped isNode p) = p :: (lst.drop k').filter (fun p => !skipped isNode p)
    | none => (lst.drop k).filter (fun p => !skipped isNode p) = [] :=
  nextPlug_spec isNode lst k (lst.length + 1) (by omega)

/-- **Once per plug, in plug order.**  Calling the iterator again and again from index 0 until it returns nothing
    (`visitFrom`) yields, for `foreachplug`, exactly the list; for `foreachnode`, exactly the sublist of plugs mapped
    to a node — each plug once, in list order. -/
theorem C08_foreach_in_order (lst : List Plug) :
    visitFrom false lst (lst.length + 1) 0 = lst ∧
    visitFrom true lst (lst.length + 1) 0 = lst.filter fun p => p.node.isSome :=
  ⟨visit_foreachplug lst, visit_foreachnode lst⟩

/-- **`_process_foreach`.**  The list is the device's plug list, or for a ranged script the context's own plugs (the
    targeted plugs; copied on first use).  If the iterator hands out plug `p`, the body is pushed as a new context whose
    only plug is `p` and the iterator position is stored; if it is exhausted nothing is pushed and the iterator is
    destroyed (`plugItr := none`), so that the next execution of this statement starts again at the first plug.
    Nothing is sent, read or asked. -/
theorem C08_foreach_step (d : Dev) (a : Action) (o : Oracle) (e : ExecCtx) (body : List Stmt) (isNode : Bool) :
    (∀ p k, nextPlug isNode (foreachList d a e) (e.plugItr.getD 0) ((foreachList d a e).length + 1) = some (p, k) →
      (stmtForeach d a o e body isNode).act =
        { a with exec := bodyCtx body (some [p]) :: { foreachCtx a e with plugItr := some k } :: a.exec.drop 1 }) ∧
    (nextPlug isNode (foreachList d a e) (e.plugItr.getD 0) ((foreachList d a e).length + 1) = none →
      (stmtForeach d a o e body isNode).act = setTop a { foreachCtx a e with plugItr := none }) ∧
    ((stmtForeach d a o e body isNode).dev = d ∧ (stmtForeach d a o e body isNode).oracle = o ∧
      (stmtForeach d a o e body isNode).out = [] ∧ (stmtForeach d a o e body isNode).finished = true) :=
  ⟨stmtForeach_next d a o e body isNode, stmtForeach_done d a o e body isNode, stmtForeach_frame d a o e body isNode⟩

/-- which list: not ranged — the device's plugs; ranged — on first use the context's plugs, afterwards the copy -/
theorem C08_foreach_list (d : Dev) (a : Action) (e : ExecCtx) :
    (isRanged a.com = false → foreachList d a e = d.plugs) ∧
    (isRanged a.com = true → e.plugItr = none → e.plugCopy = none → foreachList d a e = e.plugs.getD []) ∧
    (isRanged a.com = true → e.plugItr = none → e.plugCopy = none →
      (foreachCtx a e).plugCopy = some (e.plugs.getD [])) := by
  refine ⟨?_, ?_, ?_⟩
  · intro h; simp [foreachList, h]
  · intro h h1 h2; simp [foreachList, h, h1, h2]
  · intro h h1 h2; simp [foreachCtx, h, h1, h2]

/-- non-vacuity: three plugs, the middle one unmapped — `foreachnode` visits the first and the third -/
example : visitFrom true [⟨[1], some [9]⟩, ⟨[2], none⟩, ⟨[3], some [8]⟩] 4 0 = [⟨[1], some [9]⟩, ⟨[3], some [8]⟩] := by
  decide

/-! ## B  the context stack refines a loop-free reference

The reference (`Pm/InterpSim.lean`): `unroll R dp script plugs` flattens a script into a list of operations `FOp` —
every `foreach` replaced by one copy of its body per plug, every `ifon`/`ifoff` by a guarded block — and `fstep`
executes such a list with a single program counter (`F.rem`, the rest of the program) and one flag (`F.inflight`: the
first operation, a send or a delay, has been started).  `abs R dp stack` is the flat program a stack of `ExecCtx`
stands for.  `R` = the script is a ranged one, `dp` = the plugs of the device. -/

/-- **What the flat program is.**  Statement by statement: a send carries its final text (A1), a setplugstate its
    script argument, `foreachplug` is the body once per plug of the list — the device's plugs, or in a ranged script the
    plugs of the enclosing context, i.e. the targeted plugs — each copy with that one plug as its context; `foreachnode`
    the same over the plugs mapped to a node; `ifon`/`ifoff` a guard on the node of the context's first plug. -/
theorem C08_unroll (R : Bool) (dp : List Plug) (pl : Option (List Plug)) :
    (∀ s r, unroll R dp (s :: r) pl = unrollStmt R dp s pl ++ unroll R dp r pl) ∧ unroll R dp [] pl = [] ∧
    (∀ fmt, unrollStmt R dp (.send fmt) pl = [.send (sendText fmt pl)]) ∧
    (∀ p, unrollStmt R dp (.expect p) pl = [.expect p]) ∧
    (∀ us, unrollStmt R dp (.delay us) pl = [.delay us]) ∧
    (∀ l pm sm is, unrollStmt R dp (.setplugstate l pm sm is) pl = [.setplugstate l pm sm is (ctxName pl)]) ∧
    (∀ pm sm is, unrollStmt R dp (.setresult pm sm is) pl = [.setresult pm sm is]) ∧
    (∀ b, unrollStmt R dp (.foreachplug b) pl =
        (if R then pl.getD [] else dp).flatMap fun p => unroll R dp b (some [p])) ∧
    (∀ b, unrollStmt R dp (.foreachnode b) pl =
        ((if R then pl.getD [] else dp).filter fun p => p.node.isSome).flatMap fun p => unroll R dp b (some [p])) ∧
    (∀ b, unrollStmt R dp (.ifon b) pl = [.guard true (ctxNode pl) (unroll R dp b (some (pl.getD [])))]) ∧
    (∀ b, unrollStmt R dp (.ifoff b) pl = [.guard false (ctxNode pl) (unroll R dp b (some (pl.getD [])))]) := by
  refine ⟨fun s r => unroll_cons R dp s r pl, unroll_nil R dp pl, ?_, ?_, ?_, ?_, ?_, ?_, ?_, ?_, ?_⟩
  · intro fmt; simp [unrollStmt]
  · intro p; simp [unrollStmt]
  · intro us; simp [unrollStmt]
  · intro l pm sm is; simp [unrollStmt]
  · intro pm sm is; simp [unrollStmt]
  · intro b
    have hft : ∀ l : List Plug, l.filter (fun _ => true) = l := fun l => by induction l <;> simp_all
    simp [unrollStmt, eachList, skipped, hft]
  · intro b
    simp only [unrollStmt, eachList, skipped, Bool.true_and]
    congr 2; funext p; cases p.node <;> rfl
  · intro b; simp [unrollStmt]
  · intro b; simp [unrollStmt]

/-- **One micro-step** (`mstep`: one `_process_stmt`, then the bookkeeping `_process_action` does with its answer) of a
    well-formed configuration is either invisible to the reference — pushing a `foreach` body, popping a finished block,
    iterator bookkeeping, returning from an `if`: no output, no change of device or oracle, and the stack denotes the
    same program as before — or it is exactly one `fstep` of the reference on the program the stack denotes: same new
    device state, oracle, output, action fields and outcome, and (unless the action failed or the daemon stopped) the
    new stack denotes the reference's new program.  The configuration stays well-formed. -/
theorem C08_micro_step (R : Bool) (dp : List Plug) (now : Time) (d : Dev) (a : Action) (o : Oracle)
    (hne : a.exec ≠ []) (hinv : Inv R dp d a) :
    Sim R dp now d a o (mstep now d a o) ∧
    ((mstep now d a o).status = .running ∨ (mstep now d a o).status = .stalled →
      Inv R dp (mstep now d a o).dev (mstep now d a o).act) :=
  mstep_sim R dp now d a o hne hinv

/-- **Runs.**  Any number of micro-steps from a well-formed configuration — any script (blocks non-empty), plug list, argument list, device input, oracle answers, time, any point at which earlier passes left the
    action — is a run of at most as many steps of the loop-free reference on the program the stack denotes: same device
    state, same oracle consumption, same output records in the same order, same outcome; and where it stops without
    failing, the stack again denotes what the reference has left, and is well-formed. -/
theorem C08_refines_run (R : Bool) (dp : List Plug) (now : Time) (n : Nat) (d : Dev) (a : Action) (o : Oracle)
    (acc : List Out) (hinv : Inv R dp d a) :
    ∃ k, k ≤ n ∧ RunSim R dp (mrun now n d a o acc) (frun now k d (info a) o (abs R dp a.exec) acc) :=
  refines_run R dp now n d a o acc hinv

/-- **A pass of `_process_action` is such a run.**  For the action at the head of the queue in the running situation
    (`HeadOK`: pass not aborted, device connected, action stamped and within its time-out, `wake` clear, configuration
    well-formed) the mirror `processActionF` computes exactly what `headResult` makes of a run `mrun` of micro-steps:
    stalled — the action goes back to the head of the queue and the time-out is updated; failed — `failAll`;
    daemon assertion — the pass is aborted; completed — the action is dequeued, reported, and the loop goes on with the
    queue behind it. -/
theorem C08_pass_is_run (R : Bool) (dp : List Plug) (fuel : Nat) (c : CS) (a : Action) (rest : List Action) (o : Oracle)
    (out : List Out) (tmo : Option Time) (h : HeadOK R dp c a) (hacts : c.dev.acts = a :: rest) :
    ∃ N fuel', processActionF fuel c o out tmo =
      headResult rest c tmo (timeLeft c a) fuel' (mrun c.env.now N c.dev a o out) :=
  pass_is_run R dp fuel c a rest o out tmo h hacts

/- Hypotheses of `C08_refines`, all inside `Inv R dp c.dev a0` (= `StackOK`, `errnum = success`):
   * `neBlock`: every block of every context has non-empty nested blocks.  Needed: the grammar of device files
     (`stmt_block : '{' stmt_list '}'` with `stmt_list` non-empty) guarantees it; with an empty block the C code
     dereferences `e->cur == NULL` and the mirror reports `abortAssert "cur == NULL"`, which no flat program does.
   * the flags of the contexts are consistent (`CtxOK`, `ParentOK`) and `errnum = success`: true of every fresh action
     (`C08_initial`), kept by every step (`C08_micro_step`), restored by `_rewind_action` (`C08_rewind`).
   There is no hypothesis on the nesting depth: `onRun` runs `innerLoop` with `loopBound a` =
   `depthB (topCtx a).block + 1` iterations of fuel, and the `do … while` pushes at most `depthB` contexts in a row
   (`innerLoop_trip`, `topDepth_le` in `Pm/InterpPass.lean`), as the unbounded C loop does. -/

/-- **C08, refinement.**  One pass of `_process_action` over a queue
    whose head `a0` is to be run — pass not aborted, device connected, action within its time-out — and is well-formed:
    the mirror's result is what `headResult` makes of a run of the *loop-free reference* on the flat program the
    action's stack denotes: same device state, same oracle consumption, same output records (bytes sent, telemetry,
    diagnostics) in the same order, same outcome; `a'` is the action as it goes back into the queue: its fields are the
    reference's, and unless it failed its stack denotes what the reference has left of the program and is well-formed,
    so that the next pass is again covered.  All statement kinds, any nesting depth, any plug list, argument list,
    device input, oracle answers and time; blocks non-empty (as the grammar of device files guarantees). -/
theorem C08_refines (R : Bool) (dp : List Plug) (fuel : Nat) (c : CS) (a0 : Action) (rest : List Action)
    (o : Oracle) (out : List Out) (tmo : Option Time)
    (hnab : c.aborted = false) (hacts : c.dev.acts = a0 :: rest) (hconn : c.dev.conn = 2)
    (hin : c.env.now < (stamp c.env.now a0).timeStamp.getD c.env.now + c.dev.timeout)
    (hinv : Inv R dp c.dev a0) (hne : a0.exec ≠ []) :
    ∃ k fuel' a',
      let fr := frun c.env.now k { c.dev with wake := none } (info a0) o (abs R dp a0.exec) out
      processActionF (fuel + 1) c o out tmo =
        headResult rest c tmo (timeLeft c (stamp c.env.now a0)) fuel' (asMR fr a') ∧
      fr.info = info a' ∧ a'.com = a0.com ∧
      (fr.status = .stalled ∨ fr.status = .done ∨ fr.status = .running →
        fr.f = abs R dp a'.exec ∧ Inv R dp fr.dev a') :=
  pass_refines R dp fuel c a0 rest o out tmo hnab hacts hconn hin hinv hne

/-- the hypotheses hold for a fresh action on a script that uses every statement kind, in a queue of a connected device -/
example : ∃ k fuel' a',
    let fr := frun 5 k { (exCS exScript).dev with wake := none } (info (exAction exScript none)) ⟨[]⟩
                (abs false (exCS exScript).dev.plugs (exAction exScript none).exec) []
    processActionF 100 (exCS exScript) ⟨[]⟩ [] none =
      headResult [] (exCS exScript) none (timeLeft (exCS exScript) (stamp 5 (exAction exScript none))) fuel' (asMR fr a') ∧
    fr.info = info a' ∧ a'.com = 1 ∧
    (fr.status = .stalled ∨ fr.status = .done ∨ fr.status = .running →
      fr.f = abs false (exCS exScript).dev.plugs a'.exec ∧ Inv false (exCS exScript).dev.plugs fr.dev a') :=
  C08_refines false (exCS exScript).dev.plugs 99 (exCS exScript) (exAction exScript none) [] ⟨[]⟩ [] none
    rfl rfl rfl (by decide) (exInv exScript exScript_good []) (by decide)

/-- **The fuel of the mirror's inner loop is never the limit.**  For a well-formed configuration `innerLoop` gives the same
    result for every fuel that covers the nesting depth of the statement the action stands at; `loopBound a` always does: at
    any depth the mirror goes on as the unbounded C loop does. -/
theorem C08_loop_fuel (R : Bool) (dp : List Plug) (now : Time) (d : Dev) (a : Action) (o : Oracle) (acc : List Out)
    (hinv : Inv R dp d a) (hne : a.exec ≠ []) :
    topDepth a ≤ loopBound a ∧
    (∀ f, topDepth a ≤ f → innerLoop now f d a o acc = innerLoop now (loopBound a) d a o acc) ∧
    (topDepth a ≤ 64 → innerLoop now (loopBound a) d a o acc = innerLoop now 64 d a o acc) :=
  ⟨topDepth_le a, fun f hf => innerLoop_fuel_irrelevant R dp now f (loopBound a) d a o acc hinv hne hf (topDepth_le a),
   fun h => innerLoop_fuel_irrelevant R dp now (loopBound a) 64 d a o acc hinv hne (topDepth_le a) h⟩

/-- **A fresh action is well-formed** and denotes the unrolling of its whole script (non-empty blocks, any nesting depth). -/
theorem C08_initial (R : Bool) (dp : List Plug) (script : List Stmt) (plugs : Option (List Plug))
    (hne : script ≠ []) (hnb : neBlock script = true) :
    StackOK R [bodyCtx script plugs] ∧ abs R dp [bodyCtx script plugs] = ⟨unroll R dp script plugs, false⟩ :=
  initial_ok R dp script plugs hne hnb

/-- **`_rewind_action` restores well-formedness** (finding F5): the pre-empted action is again a fresh
    action on its outer block and denotes the unrolling of the whole script. -/
theorem C08_rewind (R : Bool) (dp : List Plug) (a : Action) (h : StackOK R a.exec) (hne : a.exec ≠ []) :
    ∃ outer, a.exec.getLast? = some outer ∧ StackOK R (rewind a).exec ∧
      abs R dp (rewind a).exec = ⟨unroll R dp outer.block outer.plugs, false⟩ ∧
      (rewind a).errnum = a.errnum ∧ (rewind a).com = a.com :=
  rewind_ok R dp a h hne

/-- nesting deeper than 64: for the script `send "x"; send "y"` wrapped in 65 — or 200 — nested `foreachplug`, on a device with
    one mapped plug, one pass of the mirror sends `x`, exactly as the reference does; and so it does at 64 levels -/
example :
    sents (processActionF 200 (exCS (exNest 65)) ⟨[]⟩ [] none).2.2.1 = [[120]] ∧
    sents (frun 5 200 (exDev (exNest 65) []) (info (exAction (exNest 65) none)) ⟨[]⟩
      (abs false (exDev (exNest 65) []).plugs [bodyCtx (exNest 65) none]) []).out = [[120]] ∧
    sents (processActionF 400 (exCS (exNest 200)) ⟨[]⟩ [] none).2.2.1 = [[120]] ∧
    sents (processActionF 200 (exCS (exNest 64)) ⟨[]⟩ [] none).2.2.1 = [[120]] :=
  ⟨depth65_mirror, depth65_reference, depth200_mirror, depth64_mirror⟩

/-- the refinement theorem applies to the 65-deep script: its fresh action is well-formed -/
example : Inv false (exDev (exNest 65) []).plugs (exDev (exNest 65) []) (exAction (exNest 65) none) :=
  exInv (exNest 65) (by decide +kernel) []

/-! ## C  what is sent is the script -/

/-- **C08, sends.**  `Completes R dp a ss`: the action `a` runs, pass after pass, without being pre-empted, to its
    successful completion, each pass being a run of micro-steps on whatever device state, oracle and time that pass
    finds, and `ss` are the payloads of the `Out.sent` records of all passes, in order.  For a fresh action on `script`
    they form a path through the unrolled script (`Path`): every send text of the flat program in program order —
    `foreach` bodies once per plug in plug order — with every guarded block either run in full or not at all, and no
    other text. -/
theorem C08_sends_are_script (R : Bool) (dp : List Plug) (a : Action) (script : List Stmt) (plugs : Option (List Plug))
    (ss : List Bytes) (hfresh : a.exec = [bodyCtx script plugs]) (h : Completes R dp a ss) :
    Path (unroll R dp script plugs) ss :=
  sends_are_script R dp a script plugs ss hfresh h

/-- … and for a script without `ifon`/`ifoff` (at any depth) they are exactly the send texts of the unrolled script,
    in program order; the bytes sent are their concatenation -/
theorem C08_sends_are_script_noif (R : Bool) (dp : List Plug) (a : Action) (script : List Stmt) (plugs : Option (List Plug))
    (ss : List Bytes) (hfresh : a.exec = [bodyCtx script plugs]) (h : Completes R dp a ss)
    (hno : noIfB script = true) :
    ss = sendTexts (unroll R dp script plugs) ∧ ss.flatten = (sendTexts (unroll R dp script plugs)).flatten :=
  sends_are_script_noif R dp a script plugs ss hfresh h (guardFree_unroll R dp script plugs hno)

/-- the passes of `Completes` are what `_process_action` does: see `C08_pass_is_run`; the output a pass adds to what
    was there before is the output of the run started with an empty list -/
theorem C08_run_output (now : Time) (n : Nat) (d : Dev) (a : Action) (o : Oracle) (acc : List Out) :
    mrun now n d a o acc = { mrun now n d a o [] with out := acc ++ (mrun now n d a o []).out } :=
  mrun_acc now n d a o acc

/-- non-vacuity: the script `send "x"` completes in two passes (the second after the buffer has drained) and has then
    sent exactly `x` — which is what the theorem says it must be -/
example : Completes false (exDev [.send [120]] []).plugs (exAction [.send [120]] none) [[120]] ∧
    sendTexts (unroll false (exDev [.send [120]] []).plugs [.send [120]] none) = [[120]] :=
  ⟨exCompletes, by decide +kernel⟩

end Pm.Props.C08
