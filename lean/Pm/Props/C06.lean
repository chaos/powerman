import Pm.ClientStream
import Pm.RunXCli
/-! # C06 — no bytes from any client take the daemon down; every complete line is answered exactly once

The model the theorems speak about (`Pm.Daemon`) is the mirror of `client.c` + the body of `powermand.c:_select_loop`, compared with the real
functions on every run of the check.  In the model "the process is gone" (an `exit` or a failed `assert` reached from
client input) is the flag `W.exited`.

The only exit reachable from a request line is the `hostlist_sort` assertion (known finding F19):
`C06_exit_only_by_sort_assert` is the statement that holds.  The three `…_survives_partial` theorems about whole passes carry the
hypothesis `NoSortAbort`, which is false (see the section "whole passes"): they hold vacuously.

What reaches `_handle_input` is what `_handle_read` put into the client's input buffer: at most `size - used` bytes per
pass (a chunk of 1000 when the buffer is full; it grows up to `MAX_CLIENT_BUF` = 1 MiB), see `Props/C09.lean`,
`C09_read_is_prefix` and `C09_capacity`. -/
namespace Pm.Props.C06
open Pm Pm.Daemon Pm.Client Pm.Daemon.ClientPf

/-- `hostlist_create` as called from `_parse_input` has no fatal outcome (finding F1): for every argument
    string it returns a host list or reports an error — never `lsd_fatal_error` -/
theorem C06_create_never_fatal (s : List Char) : createR s ≠ .fatal :=
  createR_ne_fatal s

example : (match createR "t[5-1]".toList with | .err => true | _ => false) = true := by decide +kernel

/-- A request line — any bytes, any client state, any world — ends the process only through the `hostlist_sort`
    assertion: on the configured node list (request `nodes`) or on the plug list of some device (request `device`).
    (`SortRes.Died r` is `r = .abort ∨ r = .fuel`; `.fuel`, the iteration bound of the sort mirror running out, is a
    modelling artefact that no run has shown and that the model treats like the assert.) -/
theorem C06_exit_only_by_sort_assert (w : W) (c : Cli) (line : Bytes) (h : (parseLine w c line).1.exited = true) :
    w.exited = true ∨ (sortHL w.cfg.nodes).Died ∨ ∃ nd ∈ w.devs, (sortHL (devHosts nd.2)).Died :=
  parseLine_exit_cause w c line h

/-- That exit is live (known finding F19): if sorting the configured node list trips the assertion, the five bytes
    `nodes` from any idle client end the process.  (The hypothesis holds of the concrete list `f[97-100,066,97-103]`:
    `Props/C14.lean`, `C14_sort_abort_counterexample`; it is also replayed by the differential harness.) -/
theorem C06_nodes_sort_exit (w : W) (c : Cli) (hidle : c.cmd = none) (h : sortHL w.cfg.nodes = .abort) :
    (parseLine w c (bstr "nodes\n")).1.exited = true :=
  nodes_exit w c hidle h

/-- `C06_nodes_sort_exit` is the negation of the full statement "for any bytes … powermand keeps running" on every
    world whose configured node list makes `hostlist_sort` assert.  Full statement (false as the code stands, F19):
    `∀ w c line, w.exited = false → (parseLine w c line).1.exited = false`. -/
theorem C06_keeps_running_counterexample (w : W) (c : Cli) (hidle : c.cmd = none) (h0 : w.exited = false)
    (h : sortHL w.cfg.nodes = .abort) :
    ¬ (∀ line, (parseLine w c line).1.exited = w.exited) := by
  intro hall
  have := nodes_exit w c hidle h
  rw [hall, h0] at this; cases this

/-! ## lines that are too long -/

/-- **`203 Command too long`.**  `_parse_input` first cuts the line at its first NUL and strips white space at both ends; if
    what is left has `CP_LINEMAX` = 131072 bytes or more (`TooLong line`), the answer is the line `203 Command too long`
    followed by the prompt (unless the client has quit) — the branch falls through to the end of the function, unlike the
    `208` branch — and nothing else happens, whatever the line says and whatever the client's state, even with a command
    in progress (the length is tested before `c->cmd`): the world — devices, argument lists, counters, the other
    clients, the exit flag — is unchanged; of the client only the output buffer changes; no command is created. -/
theorem C06_too_long (w : W) (c : Cli) (line : Bytes) (h : TooLong line) :
    parseLine w c line =
      (w, { c with toBuf := c.toBuf ++ bstr "203 Command too long\r\n" ++ (if c.quit then [] else prompt) }) := by
  rw [parseLine_tooLong w c line h, render_item203]; simp [put, List.append_assoc]

/-- `TooLong`, spelled out -/
theorem C06_too_long_def (line : Bytes) :
    TooLong line ↔ (stripWs (line.takeWhile (· != 0))).length ≥ 131072 := Iff.rfl

/-- … and every shorter line goes on to the rest of `_parse_input`: `208` while a command is in progress
    (`C04_busy_is_208`), the keyword cascade otherwise -/
theorem C06_not_too_long (w : W) (c : Cli) (line : Bytes) (h : ¬ TooLong line) :
    parseLine w c line =
      if c.cmd.isSome then (w, put c (bstr "208 Command in progress\r\n")) else plIdle w c (reqStr line) := by
  rw [parseLine_eq]; unfold parseLine'; rw [if_neg h, bstr_208, render_item208]

/-- The line is one reply-with-prompt line like `201`: in the terms of `C04_one_reply_per_line`, outcome (b) with no
    informational lines and the terminal code 203. -/
theorem C06_too_long_is_one_reply (w : W) (c : Cli) (line : Bytes) (h : TooLong line) :
    outOf (parseLine w c line).1 (parseLine w c line).2 =
      outOf w c ++ render ([Item.line 203 (bstr "Command too long")] ++ (if promptAfter c.quit 203 then [Item.prompt] else [])) ∧
    (parseLine w c line).2.cmd = c.cmd ∧ (parseLine w c line).1 = w := by
  rw [parseLine_tooLong w c line h]
  refine ⟨?_, rfl, rfl⟩
  cases hq : c.quit <;> simp [outOf, put, promptAfter, render, Item.render, List.append_assoc]

/-- non-vacuity: 131072 times `x` and a line feed is too long; one `x` fewer is not (and is answered `201`) -/
example : TooLong (List.replicate 131072 120 ++ [10]) := (tooLong_xs _).mpr (by decide)
example : ¬ TooLong (List.replicate 131071 120 ++ [10]) := fun h => absurd ((tooLong_xs _).mp h) (by decide)
/-- the client of the example world with `on t1` in progress: the long line is answered 203 *and* the prompt, the command
    stays in progress -/
example : (parseLine Ex.busyWorld Ex.busy (List.replicate 131072 120 ++ [10])).2.toBuf =
      bstr "203 Command too long\r\npowerman> " ∧
    (parseLine Ex.busyWorld Ex.busy (List.replicate 131072 120 ++ [10])).2.cmd = Ex.busy.cmd ∧
    (parseLine Ex.busyWorld Ex.busy (List.replicate 131072 120 ++ [10])).1 = Ex.busyWorld := by
  rw [C06_too_long _ _ _ ((tooLong_xs _).mpr (by decide))]
  rw [bstr_chars, bstr_chars]
  exact ⟨by decide +kernel, rfl, rfl⟩

/-! ## `_handle_input` -/

/-- `linesOf` splits a buffer into its complete lines and the unterminated rest: nothing is lost or reordered, every
    line ends with its one and only LF, the rest contains none.  (These three facts determine `linesOf`.) -/
theorem C06_lines_spec (b : Bytes) :
    (linesOf b).1.flatten ++ (linesOf b).2 = b ∧
    (∀ l ∈ (linesOf b).1, ∃ body, l = body ++ [10] ∧ 10 ∉ body) ∧
    10 ∉ (linesOf b).2 :=
  ⟨linesOf_flatten b, linesOf_line b, linesOf_tail b⟩

example : linesOf (bstr "on t1\r\n\nqui") = ([bstr "on t1\r\n", bstr "\n"], bstr "qui") := by decide +kernel

/-- `_handle_input` calls `_parse_input` on exactly the complete lines of the input buffer, in order, each taken out of
    the buffer before it is parsed, stopping only if the process is gone (`runLines`); the loop bound of the model
    (`fromBuf.length + 1` iterations, and any larger one) always suffices. -/
theorem C06_handles_exactly_the_lines (w : W) (c : Cli) :
    handleInput w c = runLines w c (linesOf c.fromBuf).1 ∧
    ∀ fuel, c.fromBuf.length < fuel → handleInputF fuel w c = handleInput w c :=
  ⟨handleInput_lines w c, fun fuel h => handleInputF_fuel fuel w c h⟩

/-- … and when the process survives, what is left in the buffer is exactly the unterminated rest -/
theorem C06_leaves_the_rest (w : W) (c : Cli) (h : (handleInput w c).1.exited = false) :
    (handleInput w c).2.fromBuf = (linesOf c.fromBuf).2 :=
  handleInput_tail w c h

/-- The result does not depend on how the bytes arrived: handling `a ++ b` at once is the same as handling `a`, then
    appending `b` to what was left and handling again — for every split point, including inside a line, inside a CRLF
    pair, or with the process dying in between (`setFrom c x` is `c` with input buffer `x`). -/
theorem C06_arrival_independent (w : W) (c : Cli) (a b : Bytes) :
    handleInput w (setFrom c (a ++ b)) =
      handleInput (handleInput w (setFrom c a)).1
        (setFrom (handleInput w (setFrom c a)).2 ((handleInput w (setFrom c a)).2.fromBuf ++ b)) :=
  handleInput_split w c a b

example : (handleInput Ex.world (setFrom Ex.idle (bstr "telem" ++ bstr "etry\r\nno"))).2.toBuf =
    render [.line 104 (bstr "Telemetry ON"), .prompt] := by decide +kernel

/-- Every complete line is answered exactly once: unless the process is gone, the client's output grew by one chunk per
    line, in order; a chunk is `3xx* terminal [prompt]` with exactly one terminal line, or empty when the line installed a
    command (whose one terminal line `_act_finish` writes later — `Props/C04.lean`). -/
theorem C06_every_line_answered_once (w : W) (c : Cli) :
    (handleInput w c).1.exited = true ∨
    ∃ chunks : List (List Item), chunks.length = (linesOf c.fromBuf).1.length ∧
      outOf (handleInput w c).1 (handleInput w c).2 = outOf w c ++ render chunks.flatten ∧
      (∀ ch ∈ chunks, AnswerChunk ch) :=
  match handleInput_answers w c with
  | .inl h => .inl h
  | .inr ⟨chunks, h1, h2, h3, _⟩ => .inr ⟨chunks, h1, h2, h3⟩

example : (handleInput Ex.world (setFrom Ex.idle (bstr "\x00\xff\n\nexprange\nquux\n"))).2.toBuf =
    render [.line 201 (bstr "Unknown command"), .prompt, .line 201 (bstr "Unknown command"), .prompt,
            .line 105 (bstr "Hostrange expansion ON"), .prompt, .line 201 (bstr "Unknown command"), .prompt] := by
  rw [bstr_chars, bstr_chars, bstr_chars]
  decide +kernel

/-! ## whole passes

Full statement: `∀ w acc envs, (cliPostPoll w acc envs).exited = w.exited` (for any bytes on any number of connections
the client side of a pass never leaves the process).  It is false as the code stands (`C06_nodes_sort_exit`, F19).

THE HYPOTHESIS `NoSortAbort` IS FALSE.  It is `∀ hl, ¬ (sortHL hl).Died`: it quantifies over ALL host lists, not over the
configured node list and the plug lists of the world at hand, and `sortHL (hlOfString "f[97-100,066,97-103]") = .abort`
(`Props/C14.lean`, `C14_sort_abort_counterexample`) refutes it.  So `C06_client_side_survives_partial`,
`C06_run_survives_partial` and `C06_run_survives_runX_partial` below hold vacuously and say nothing about any run of the
daemon.  What does hold is `C06_exit_only_by_sort_assert` (per request line: the process ends only if sorting the
configured node list or some device's plug list dies) together with `C06_pass_exit_is_client_exit` (the device half of a pass
never ends the process); a statement for whole passes under "the sort dies on none of the lists of THIS world" is not
proved here. -/

/-- `cli_post_poll`: whatever the kernel reports for however many clients — accepts, reads of any bytes, EOF, errors,
    short writes — the client side of the pass does not leave the process.  VACUOUS: the hypothesis `NoSortAbort` is false
    (see the head of this section). -/
theorem C06_client_side_survives_partial (hs : NoSortAbort) (w : W) (acc : Nat) (envs : List FdEnv) :
    (cliPostPoll w acc envs).exited = w.exited :=
  cliPostPoll_exited hs w acc envs

/-- the device half of a pass (`dev_post_poll` with the `_act_finish`/telemetry/diagnostic callbacks) never sets the flag:
    a whole pass of `_select_loop` leaves the process exactly where `cli_post_poll` does — no extra hypothesis -/
theorem C06_pass_exit_is_client_exit (w : W) (p : PassIn) :
    (daemonPass w p).1.exited = (cliPostPoll w p.acc p.envs).exited :=
  daemonPass_exited w p

/-- any number of passes with any kernel answers.  VACUOUS: the hypothesis `NoSortAbort` is false (see the head of this
    section). -/
theorem C06_run_survives_partial (hs : NoSortAbort) (w : W) (ps : List PassIn) :
    (runPasses w ps).exited = w.exited :=
  runPasses_exited hs w ps

example : (runPasses Ex.world [{ now := 0, acc := 1, con := [0], soe := [0], envs := [] },
    { now := 1, acc := 0, con := [0], soe := [0], envs := [{ fd := 1000, rev := 1, rk := 0, data := bstr "telemetry\n", cap := 4096 }] }]).clients.map (·.toBuf) =
    [render [.line 1 (bstr "2.4.4"), .prompt, .line 104 (bstr "Telemetry ON"), .prompt]] := by
  rw [bstr_chars, bstr_chars, bstr_chars]
  decide +kernel

/-- **any number of passes with any kernel answers and any answers of the regex engine in every pass.**  `C06_run_survives_partial`
    is stated over `runPasses`, the plain fold of `daemonPass`, in which only the first pass can see a regex answer (`daemonPass`
    consumes and clears `pendingX`; the driver refills it between passes).  This is the same statement over `runX`
    (`Pm/RunX.lean`, shared with C02, C03, C05, C11, C15): every pass `q` brings its own regex answers `q.rx`, handed over by
    `feed` before the pass; the regex answers are arbitrary in every pass.  VACUOUS like the two above: the hypothesis `NoSortAbort`
    is false (see the head of this section). -/
theorem C06_run_survives_runX_partial (hs : NoSortAbort) (w : W) (qs : List PassX) :
    (runX w qs).exited = w.exited :=
  runX_exited hs w qs

/- the run of the example above as a run of `runX` (no device in `Ex.world`, so no regex answer is ever asked for; runs in which
   an answer fed before a later pass matters are in `Props/C02` and `Props/C11`) -/
example : (runX Ex.world [⟨{ now := 0, acc := 1, con := [0], soe := [0], envs := [] }, []⟩,
    ⟨{ now := 1, acc := 0, con := [0], soe := [0], envs := [{ fd := 1000, rev := 1, rk := 0, data := bstr "telemetry\n", cap := 4096 }] }, []⟩]).clients.map (·.toBuf) =
    [render [.line 1 (bstr "2.4.4"), .prompt, .line 104 (bstr "Telemetry ON"), .prompt]] := by
  rw [bstr_chars, bstr_chars, bstr_chars]
  decide +kernel

end Pm.Props.C06
