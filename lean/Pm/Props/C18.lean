import Pm.LexProof
import Pm.GrammarProof
import Pm.GrammarSemProof
import Pm.GrammarLexProof
/-! # C18 — the configuration reader never misbehaves on any file content

"For any file content supplied as configuration — arbitrary bytes, unterminated or very long strings and numbers, deep or
cyclic includes, any ordering of sections — powermand either starts serving or exits with non-zero status after printing a
diagnostic; it never commits a memory-safety error, aborts or hangs while reading configuration, and an accepted configuration
never makes it abort later for lack of a mandatory element."

## What is proved here, and about what

The theorems of the sections up to "mandatory elements" are about `Pm/LexModel.lean`, a hand-written mirror of the
*hand-written logic* of `src/powerman/parse_lex.l` and `src/powerman/parse_tab.y` (those of the section "the grammar" are about
`Pm/Grammar.lean` and `Pm/GrammarSem.lean`, described at its head):

* the `<lex_str>` rules and the guarded `_string_buf_add` over the 8192-byte `string_buf`      (`lexString`, `lexRaw`, `go`);
* the include stack: `include_stack_ptr`, `MAX_INCLUDE_DEPTH`, the `<<EOF>>` rule            (`includeStep`, `runInc`, `scanAt`);
* `_strtolong`, `_strtodouble`, `_doubletotv`                                                (`strtol0`, `strtolong`, `strtodouble`);
* the acceptance conditions on mandatory elements: `makeScript`, `makeSpec`, `makeDevice`, `makeNode`, `_validate_config`
                                                                                             (`cfgStep`, `cfgAccept`).

The mirror is tied to the real code on every run of the check by `lib/lexlayer.py`: the lexer and grammar regenerated by
flex/bison from the working tree (`harness/u_lexdump.c`) and the compiled model (`LxMain.lean`) get the same generated string
literals, include trees, numbers and item sequences, and every answer is compared (accept/reject class and exact bytes).

## What is NOT covered by any theorem

* the flex automaton and its buffer management (`yy_get_next_buffer`, `yyrealloc`, NUL handling, the default ECHO rule), the
  bison automaton, its value and state stacks and its default reductions — the *language* of the grammar, the token level of
  the lexer and the order and checks of the semantic actions are modelled (`Pm/Grammar.lean`, `Pm/GrammarSem.lean`, section
  "the grammar" below) and compared with the real flex/bison output on every run (`lib/gramlayer.py`), but the generated
  automata themselves (tables, stacks, `YYMAXDEPTH`) are not;
* `malloc`/`xstrdup`/`list_append` (allocation is assumed to succeed or to exit through `lsd_nomem_error`);
* `regcomp` on the patterns of `expect`/`setplugstate` (an oracle of the C library), `getaddrinfo`, `stat`;
* the hostlist library used by `makeNode`/`makeAlias` (C14 has its own layer) and `pluglist_map`'s plug arithmetic (C13);
* the lifetime of the pointers the lexer hands to the grammar (defect F25 — a pointer into flex's buffer — was found by the
  sanitizer run, not by a theorem; `C18_num_conv` speaks about a token that is still NUL-terminated when it is converted).

For all of these the same layer *observes* the real code under ASan+UBSan on mutations of every shipped device file, random
bytes and a regression corpus, with the predicate "exit 0 after OK, or exit 1/2 after a diagnostic; never a signal, a sanitizer
report, or more than 10 s".  That is evidence, reported as observed, not proof. -/
namespace Pm.Props.C18
open Pm.LexModel Pm.LexModel.Proof

/-! ## string literals -/

/-- **Fill.**  For every byte string after an opening quote: if the lexer returns a string token, the token is at most 8191
    bytes long; the buffer it was copied from held at most 8191 bytes, so the closing `*string_buf_ptr = '\0'` went to an
    index ≤ 8191 of the 8192-byte array; and no path of the scanner stores outside `string_buf` — every append goes through
    `_string_buf_add`, whose guard precedes its store (`Raw.overrun` is the outcome of an unguarded store). -/
theorem C18_string_fill (s : List UInt8) :
    (∀ stored, lexString s = .ok stored → stored.length ≤ 8191) ∧
    (∀ buf rest, lexRaw s = .tok buf rest → buf.size ≤ 8191 ∧ buf.size < STRING_BUF) ∧
    lexRaw s ≠ .overrun :=
  ⟨fun _ h => lexString_fill h, fun _ _ h => ⟨lexRaw_fill h, by have := lexRaw_fill h; unfold STRING_BUF; omega⟩, lexRaw_ne_overrun s⟩

/-- the bound is attained and tight: 8191 plain bytes are accepted, 8192 are refused -/
example : lexString (List.replicate 8191 0x78 ++ [0x22]) = .ok (List.replicate 8191 0x78) :=
  lexString_plain _ [] (by intro c hc; rw [List.eq_of_mem_replicate hc]; unfold Plain; decide) (by rw [List.length_replicate]; decide)
example : lexString (List.replicate 8192 0x78 ++ [0x22]) = .tooLong :=
  lexString_plain_long _ _ (by intro c hc; rw [List.eq_of_mem_replicate hc]; unfold Plain; decide) (by rw [List.length_replicate]; decide)

/-- **Totality.**  Every input yields exactly one of four outcomes — a token, or one of three ways to leave through
    `err_exit` with a diagnostic — and never the fifth constructor of the model, a store outside the buffer.  (That the
    function is total is Lean's termination check: the scanner consumes one byte per step.) -/
theorem C18_string_total (s : List UInt8) :
    ((∃ stored, lexString s = .ok stored) ∨ lexString s = .errNewline ∨ lexString s = .tooLong ∨ lexString s = .unterminated) ∧
    ((lexString s).outcome = .token ∨ (lexString s).outcome = .exitDiag "parse error" ∨ (lexString s).outcome = .exitDiag "string too long") ∧
    (lexString s).outcome ≠ .undefined := by
  refine ⟨lexString_total s, outcome_defined s, ?_⟩
  rcases outcome_defined s with h | h | h <;> rw [h] <;> decide

/-- all four outcomes occur -/
example : lexString [0x61, 0x22] = .ok [0x61] := by decide
example : lexString [0x61, 0x0a, 0x22] = .errNewline := by decide
example : lexString [0x61, 0x5c] = .unterminated := by decide
example : lexString [] = .unterminated := by decide

/-- **Escapes, letters.**  `\a \b \e \f \n \r \t \v` store BEL, BS, ESC, FF, LF, CR, HT, VT. -/
theorem C18_string_escapes (rest : List UInt8) :
    lexString (0x5c :: 0x61 :: 0x22 :: rest) = .ok [0x07] ∧ lexString (0x5c :: 0x62 :: 0x22 :: rest) = .ok [0x08] ∧
    lexString (0x5c :: 0x65 :: 0x22 :: rest) = .ok [0x1b] ∧ lexString (0x5c :: 0x66 :: 0x22 :: rest) = .ok [0x0c] ∧
    lexString (0x5c :: 0x6e :: 0x22 :: rest) = .ok [0x0a] ∧ lexString (0x5c :: 0x72 :: 0x22 :: rest) = .ok [0x0d] ∧
    lexString (0x5c :: 0x74 :: 0x22 :: rest) = .ok [0x09] ∧ lexString (0x5c :: 0x76 :: 0x22 :: rest) = .ok [0x0b] := by
  refine ⟨?_, ?_, ?_, ?_, ?_, ?_, ?_, ?_⟩ <;> rw [lexString_escape] <;> rfl

/-- **Escapes, any other byte.**  A backslash followed by a byte that is none of `a b e f n r t v` (and does not start three
    digits) stores that byte: `\"` a quote, `\\` a backslash, backslash-newline a newline, `\x` an `x`, a byte ≥ 0x80 itself;
    backslash-NUL stores a NUL, which ends the C string. -/
theorem C18_string_escapes_other (c : UInt8) (rest : List UInt8)
    (h : c ≠ 0x61 ∧ c ≠ 0x62 ∧ c ≠ 0x65 ∧ c ≠ 0x66 ∧ c ≠ 0x6e ∧ c ≠ 0x72 ∧ c ≠ 0x74 ∧ c ≠ 0x76) :
    lexString (0x5c :: c :: 0x22 :: rest) = .ok (if c = 0 then [] else [c]) := by
  obtain ⟨h1, h2, h3, h4, h5, h6, h7, h8⟩ := h
  rw [lexString_escape]
  simp only [escValue, h1, h2, h3, h4, h5, h6, h7, h8, if_false, cstr]
  by_cases hc : c = 0 <;> simp [hc]

example (rest : List UInt8) : lexString (0x5c :: 0x22 :: 0x22 :: rest) = .ok [0x22] := C18_string_escapes_other 0x22 rest (by decide)
example (rest : List UInt8) : lexString (0x5c :: 0x0a :: 0x22 :: rest) = .ok [0x0a] := C18_string_escapes_other 0x0a rest (by decide)
example (rest : List UInt8) : lexString (0x5c :: 0xe9 :: 0x22 :: rest) = .ok [0xe9] := C18_string_escapes_other 0xe9 rest (by decide)

/-- **Escapes, octal.**  A backslash followed by three *decimal* digits stores one byte: `strtol(digits, NULL, 8)` — the value
    of the longest prefix of octal digits — reduced modulo 256 by the `char` parameter; a resulting NUL ends the C string. -/
theorem C18_string_escapes_octal (d1 d2 d3 : UInt8) (rest : List UInt8)
    (h1 : isDigit d1 = true) (h2 : isDigit d2 = true) (h3 : isDigit d3 = true) :
    lexString (0x5c :: d1 :: d2 :: d3 :: 0x22 :: rest) = .ok (cstr #[octByte d1 d2 d3]) :=
  lexString_octal d1 d2 d3 rest h1 h2 h3

/-- `\101` = `A`; `\377` = 0xff; `\400` = 256 → 0; `\777` = 511 → 0xff; `\189` → `1` (stops at `8`); `\089` → 0; `\800` → 0 -/
theorem C18_string_octal_values :
    octByte 0x31 0x30 0x31 = 0x41 ∧ octByte 0x33 0x37 0x37 = 0xff ∧ octByte 0x34 0x30 0x30 = 0 ∧ octByte 0x37 0x37 0x37 = 0xff ∧
    octByte 0x31 0x38 0x39 = 1 ∧ octByte 0x30 0x38 0x39 = 0 ∧ octByte 0x38 0x30 0x30 = 0 := by decide

/-- fewer than three digits: `\08x` is the escape `\0` (the character `0`) followed by the run `8x` -/
example : lexString [0x5c, 0x30, 0x38, 0x78, 0x22] = .ok [0x30, 0x38, 0x78] := by decide
/-- in the middle of a literal, with a NUL byte in a run: the rest of *that run* is dropped, later tokens are kept
    (`ab<NUL>cd\tef` is stored as `ab<TAB>ef`) -/
example : lexString [0x61, 0x62, 0x00, 0x63, 0x64, 0x5c, 0x74, 0x65, 0x66, 0x22] = .ok [0x61, 0x62, 0x09, 0x65, 0x66] := by decide

/-- one step of the scanner at a backslash anywhere in a literal (the general form of the three theorems above) -/
theorem C18_string_escape_step (rest : List UInt8) (skip : Bool) (buf : Array UInt8) :
    go (0x5c :: rest) 0 skip buf =
      match escTok rest with
      | none => .eof
      | some (v, n) =>
        match stringBufAdd buf v with
        | .cont b => go rest n false b
        | .exitTooLong => .tooLong
        | .overrun => .overrun :=
  go_backslash rest skip buf

/-- **Plain literals.**  A literal without backslash, quote, newline and NUL, shorter than 8192 bytes, is stored unchanged,
    whatever follows its closing quote. -/
theorem C18_string_plain (s rest : List UInt8) (hp : ∀ c ∈ s, c ≠ 0x5c ∧ c ≠ 0x22 ∧ c ≠ 0x0a ∧ c ≠ 0) (hl : s.length < 8192) :
    lexString (s ++ 0x22 :: rest) = .ok s :=
  lexString_plain s rest hp hl

/-- … and from 8192 bytes on it is refused with "string too long", whatever follows. -/
theorem C18_string_plain_too_long (s tail : List UInt8) (hp : ∀ c ∈ s, c ≠ 0x5c ∧ c ≠ 0x22 ∧ c ≠ 0x0a ∧ c ≠ 0) (hl : s.length ≥ 8192) :
    lexString (s ++ tail) = .tooLong :=
  lexString_plain_long s tail hp hl

example : lexString ([0x25, 0x73, 0x0d, 0xc3, 0xa9] ++ 0x22 :: [0x20, 0x7d]) = .ok [0x25, 0x73, 0x0d, 0xc3, 0xa9] :=
  C18_string_plain _ _ (by decide) (by decide)

/-! ## includes -/

/-- **Include depth.**  From the outermost file, for *any* sequence of include directives and ends of file:
    the stack pointer stays below `MAX_INCLUDE_DEPTH` (so `include_stack[ptr]`, `linenum[ptr+1]`, `filename[ptr+1]` and
    `include_stack[ptr-1]` are inside their 10-element arrays: `IncRes.oob` is unreachable);
    nine nested includes are pushed, the tenth is refused with "Includes nested too deeply" whatever follows. -/
theorem C18_include_depth (es : List IncEv) :
    (runInc 0 es ≠ .oob ∧ ∀ p, runInc 0 es = .cont p → p < MAX_INCLUDE_DEPTH) ∧
    (∀ n, n ≤ 9 → runInc 0 (List.replicate n .incl) = .cont n) ∧
    (∀ n, n ≥ MAX_INCLUDE_DEPTH → runInc 0 (List.replicate n .incl ++ es) = .tooDeep) :=
  ⟨runInc_inv es 0 (by decide), fun n h => by simpa using runInc_pushes n 0 (by omega), fun n h => runInc_too_deep n es h⟩

example : runInc 0 [.incl, .incl, .eof, .incl, .eof, .eof, .eof] = .done := by decide
example : runInc 0 [.incl, .incl, .eof, .incl] = .cont 2 := by decide

/-- **Cycles terminate.**  `scanAt` is a total function of the file tree (Lean's termination check: the include budget
    `MAX_INCLUDE_DEPTH - 1 - include_stack_ptr` decreases at every include, the remaining items of the current file at every
    other token), so reading any finite set of regular files ends.  For a set `S` of files closed under "the first include
    directive of a file of `S` names a file of `S`" — a file including itself, `a` including `b` including `a`, any longer cycle —
    the scan of a file of `S` never returns to its includer: it ends in the "Includes nested too deeply" refusal, after at most
    9 pushes (the budget), at whatever depth it starts. -/
theorem C18_include_cycle (fs : Nat → File) (S : Nat → Prop) (hS : ∀ f, S f → CycleFile fs S f)
    (k f : Nat) (items : List Item) (acc : List Nat) (hf : S f) (h : fs f = .reg items) :
    ∃ toks, scanAt fs k items acc = .tooDeep toks :=
  scanAt_cycle fs S hS k f items acc hf h

/-- the budget of `scanAt` and the lexer's test `include_stack_ptr >= MAX_INCLUDE_DEPTH - 1` are the same thing -/
theorem C18_include_budget (ptr : Nat) (h : ptr ≤ MAX_INCLUDE_DEPTH - 1) :
    (includeStep ptr .incl = .tooDeep ↔ MAX_INCLUDE_DEPTH - 1 - ptr = 0) ∧
    (∀ p, includeStep ptr .incl = .cont p → MAX_INCLUDE_DEPTH - 1 - ptr = (MAX_INCLUDE_DEPTH - 1 - p) + 1) :=
  budget_agrees ptr h

/-- `a` includes `b` includes `a`: the hypotheses of `C18_include_cycle` hold, and the scan of the whole configuration ends in
    the refusal after the tokens in front of the includes were read five times each -/
def abFs : Nat → File := fun f => if f = 0 then .reg [.tok 1, .incl 1, .tok 9] else if f = 1 then .reg [.tok 2, .incl 0] else .missing
example : ∀ f, (f = 0 ∨ f = 1) → CycleFile abFs (fun f => f = 0 ∨ f = 1) f := by
  intro f hf
  rcases hf with rfl | rfl
  · exact ⟨[.tok 1], 1, [.tok 9], rfl, by simp [noIncl], .inr rfl⟩
  · exact ⟨[.tok 2], 0, [], rfl, by simp [noIncl], .inl rfl⟩
example : scanConfig abFs = .tooDeep [1, 2, 1, 2, 1, 2, 1, 2, 1, 2] := by decide
/-- a chain of depth 9 is read completely, in order; depth 10 is refused -/
example : scanConfig (fun f => if f < 9 then .reg [.tok f, .incl (f + 1)] else if f = 9 then .reg [.tok 9] else .missing) = .ok [0, 1, 2, 3, 4, 5, 6, 7, 8, 9] := by decide
example : scanConfig (fun f => if f < 10 then .reg [.tok f, .incl (f + 1)] else .reg [.tok 10]) = .tooDeep [0, 1, 2, 3, 4, 5, 6, 7, 8, 9] := by decide

/-! ## numbers -/

/-- **Numeric conversions.**  Let `tok` consist of digits and dots (a superset of the lexer's three numeric token classes
    `[0-9]+`, `[0-9]+.[0-9]*`, `.[0-9]+`) and be followed in memory by its terminating NUL and then by *anything*.
    `strtol(tok, &end, 0)` as used by `_strtolong` gives the same value and the same `end` as if nothing followed the NUL, and
    `end` stays inside the token: the conversion never reads meaning from, nor points, outside the token.
    `_strtolong` returns only values of the `long` range — anything else is the "under/overflow" exit; no digits at all is the
    "error parsing long integer value" exit.  `_strtodouble`+`_doubletotv` accept a numeric token only if the double-to-`time_t`
    conversions are defined (finding F27: values above `INT_MAX` are the "time value out of range" exit, and
    `HUGE_VAL` the "double value would cause overflow" exit). -/
theorem C18_num_conv (tok junk : List UInt8) (h : ∀ c ∈ tok, isDigit c = true ∨ c = 0x2e) :
    (strtol0 (tok ++ 0 :: junk) = strtol0 (tok ++ [0]) ∧ (strtol0 (tok ++ 0 :: junk)).consumed ≤ tok.length) ∧
    (∀ v, strtolong (tok ++ 0 :: junk) = .val v → LONG_MIN ≤ v ∧ v ≤ LONG_MAX) ∧
    (strtolong (tok ++ 0 :: junk) = .errParse ↔ (strtol0 (tok ++ [0])).consumed = 0) ∧
    (∀ b, strtodouble tok = .val b → b = true) := by
  have h0 := strtol0_token tok junk h
  refine ⟨h0, fun v hv => strtolong_range hv, ?_, fun b hb => strtodouble_defined hb⟩
  rw [strtolong_parse, h0.1]

/-- the range statement holds for arbitrary memory, not only for tokens (`_strtolong` is also applied to the port of
    `host:port`) -/
theorem C18_num_conv_range (mem : List UInt8) (v : Int) (h : strtolong mem = .val v) : LONG_MIN ≤ v ∧ v ≤ LONG_MAX :=
  strtolong_range h

example : strtol0 ([0x31, 0x30] ++ 0 :: [0x37, 0x78]) = { value := 10, consumed := 2 } := by decide
example : strtolong ([0x30, 0x31, 0x30] ++ [0]) = .val 8 := by decide                       -- `$010` is octal
example : strtolong ([0x2e, 0x35] ++ [0]) = .errParse := by decide                          -- `$.5`
example : strtolong ("9223372036854775808".toUTF8.toList ++ [0]) = .errRange := by decide +kernel
example : strtolong ("9223372036854775807".toUTF8.toList ++ [0]) = .val 9223372036854775807 := by decide +kernel
example : strtodouble "2147483647".toUTF8.toList = .val true := by decide +kernel
example : strtodouble "2147483648".toUTF8.toList = .errTimeRange := by decide +kernel
example : strtodouble "1.5".toUTF8.toList = .val true := by decide +kernel

/-! ## mandatory elements -/

/-- **Mandatory elements.**  A sequence of specification / device / node items, in any order, that the reader accepts has at
    least one node and one device, and every device was instantiated from a specification that has a login script: what
    `_enqueue_login` → `_create_exec_ctx` → `list_iterator_create(dev->scripts[PM_LOG_IN])` asserts at the first connect holds.
    (The other rejections — duplicate script, unknown specification, unknown device, duplicate node, no nodes — are the
    `CfgErr` constructors; each is an `_errormsg`/`err` + `exit(1)` in the C code.) -/
theorem C18_mandatory (items : List CfgItem) (c : Cfg) (h : cfgAccept items = .ok c) :
    c.nodes ≠ [] ∧ c.devs ≠ [] ∧ ∀ d ∈ c.devs, PM_LOG_IN ∈ d.2 :=
  cfgAccept_mandatory h

example : cfgAccept [.spec 1 [2, 0], .device 1 1, .node 7 1] = .ok { specs := [(1, [2, 0])], devs := [(1, [2, 0])], nodes := [7] } := by rfl
example : cfgAccept [.spec 1 [2], .device 1 1, .node 7 1] = .error .noLogin := by rfl
example : cfgAccept [.device 1 1, .spec 1 [0], .node 7 1] = .error .noSpec := by rfl
example : cfgAccept [.spec 1 [0], .device 1 1] = .error .noNodes := by rfl

/-! ## the grammar

`Pm/Grammar.lean` is an LL(1) parser on token lists for the language of `src/powerman/parse_tab.y`, with the token level of
`parse_lex.l` in front of it and (`Pm/GrammarSem.lean`) the checks of the semantic actions behind it; `lib/gramlayer.py`
compares all three with the real `conf_init()` (flex/bison regenerated from the tree) on sentences derived from the rules, on
token-level mutations of them, and on every shipped device file: token stream, every completed item with its statement trees,
accept/reject, diagnostic and `file::line`. -/

open Pm.Grammar Pm.Grammar.Proof

/-- **The token level is total.**  For any file system (include files present or missing, including one another) and any
    content — arbitrary bytes — the model of the scanner ends in one of the ways the real scanner ends: end of input, "parse
    error" (a newline in a string), "string too long", "Includes nested too deeply", a missing include file.  Its fuel (bytes of
    the buffer + 1, per file) is never exhausted: some rule of `INITIAL` always matches a non-empty piece (flex's catch-all `.`
    and `\n`) and every step consumes at least one byte; no store goes outside `string_buf`, also when an included file ends
    inside a literal and hands a partly filled buffer to the including file; nothing is left `unmodelled`.  String bodies are
    scanned by `strGo`, which is `LexModel.go` — the function the string theorems above are about — with the buffer kept at
    the end of the input. -/
theorem C18_lex_total (fs : Bytes → Option Bytes) (main content : Bytes) :
    ((lexFile fs main content).2 ≠ .fuel ∧ ∀ w, (lexFile fs main content).2 ≠ .unmodelled w) ∧
    ∀ s pend skip buf, (strGo s pend skip buf).forget = go s pend skip buf := by
  have h := lexFile_ok fs main content
  refine ⟨⟨?_, ?_⟩, strGo_forget⟩
  · intro he; rw [he] at h; exact h
  · intro w he; rw [he] at h; exact h

/-- keywords need no blanks between them (`yesno` is two tokens), a prefix of a keyword is junk, `plug   name` is one token, a
    comment that is not ended by a newline is junk (the `#` is `TOK_UNRECOGNIZED`, the words after it are scanned) -/
example : lexToks "yesno".toUTF8.toList = .inl [.yes, .no] := by decide +kernel
example : lexToks "nod".toUTF8.toList = .inl [.no, .unrecognized] := by decide +kernel
example : lexToks "plug \t name{".toUTF8.toList = .inl [.plugName, .begin_] := by decide +kernel
example : lexToks "node # x\n$1.5.2".toUTF8.toList = .inl [.node, .matchpos, .numericVal "1.5".toUTF8.toList, .numericVal ".2".toUTF8.toList] := by decide +kernel
example : lexToks "# on".toUTF8.toList = .inl [.unrecognized, .on] := by decide +kernel
example : lexToks "\"a\nb\"".toUTF8.toList = .inr (.errNewline [] 1) := by decide +kernel
/-- a string literal that begins in an included file and ends in the including one is one token -/
example : (lexFile (fun n => if n = "i".toUTF8.toList then some "listen \"ab".toUTF8.toList else none) [] "include \"i\" cd\" 7".toUTF8.toList).1.map (·.tok)
    = [.listen, .stringVal "ab cd".toUTF8.toList, .numericVal "7".toUTF8.toList] := by decide +kernel

/-- **The parser is total, with the stated fuel.**  `parseConfig toks` runs the LL parser with fuel `toks.length + 1`.  For
    every token list it answers with a tree or with the index of one offending token, an index between 0 and the number of
    tokens (the latter: the input ends too early); the fuel is never exhausted, and any larger amount of fuel gives the very
    same answer (tree, rest and log), so the bound is not a restriction.  (Termination itself is Lean's check: every function
    recurses on the fuel.)  In the real parser the offending token is bison's look-ahead when `yyerror()` is called: the
    diagnostic is `parse error: file::line` with the line of that token. -/
theorem C18_parse_total (toks : List Token) :
    ((∃ ast, parseConfig toks = .ok ast) ∨ ∃ i, i ≤ toks.length ∧ parseConfig toks = .error (.syntax i)) ∧
    parseConfig toks ≠ .error .fuel ∧
    ∀ f, toks.length < f → parseF f toks = parseF (toks.length + 1) toks := by
  have ht := parse_total toks
  refine ⟨?_, ht.1, fun f hf => parseF_fuel toks f (toks.length + 1) hf (by omega)⟩
  cases h : parseConfig toks with
  | ok a => exact .inl ⟨a, rfl⟩
  | error e =>
    cases e with
    | «syntax» i => exact .inr ⟨i, ht.2 i h, rfl⟩
    | fuel => exact absurd h ht.1

/-- an empty file is a sentence; `node "a" "b"` is one; `node "a"` ends too early (index 2 = number of tokens);
    `node "a" }` has its offending token at index 2 -/
example : parseConfig [] = .ok [] := rfl
example : parseConfig [.node, .stringVal [0x61], .stringVal [0x62]] = .ok [.node [0x61] [0x62] none 4] := rfl
example : parseConfig [.node, .stringVal [0x61]] = .error (.syntax 2) := rfl
example : parseConfig [.node, .stringVal [0x61], .end_] = .error (.syntax 2) := rfl

/-- **Shape of an accepted file.**  Whatever the tokens, a file the grammar accepts is a list of the seven kinds of items
    (`Item`: `listen`, `tcpwrappers` with or without `yes|no`, `plug_log_level`, `device` with a name, a specification name, a
    target and optional flags, `node` with a node list, a device name and an optional plug list, `alias`, `specification`) in
    which every specification has a name and at least one item (`timeout`, `pingperiod`, plug list, script — in any order and
    number), every plug list at least one name, every script one of the 25 named kinds and a non-empty body of statements of
    the nine kinds, every sub-block at any depth at least one statement, every `setresult` two match positions and at least one
    `success=` interpretation, every `setplugstate` a state match position and either a literal plug, or a plug match position,
    or neither (`astWF`).  The semantic actions are called on exactly this tree, in post-order (`parseLog = evAst ast`).
    Every `device` / `node` / `alias` item converts to a line of `ConfigModel` (`toCfgStmt`), the other items to none. -/
theorem C18_parse_sound_shape (toks : List Token) (ast : Ast) (h : parseConfig toks = .ok ast) :
    astWF ast = true ∧ parseLog toks = (evAst ast, none) ∧
    ∀ it ∈ ast, ((toCfgStmt it).isSome = true ↔ (∃ a b c d rd, it = .device a b c d rd) ∨ (∃ a b c rd, it = .node a b c rd) ∨ (∃ a b rd, it = .alias a b rd)) := by
  refine ⟨parse_shape toks ast h, parseLog_ok toks ast h, ?_⟩
  intro it _
  cases it <;> simp [toCfgStmt]

/-- a specification with a two-level nest, a device line with flags and a node line with a plug list: accepted, well-formed -/
example : astWF [.spec [0x73] [.script 0 [.block .foreachplug [.block .ifon [.send [0x78]]]] 13] 14] = true := by decide
example : parseConfig [.spec, .stringVal [0x73], .begin_, .script, .login, .begin_, .foreachplug, .begin_, .ifon, .begin_, .send,
    .stringVal [0x78], .end_, .end_, .end_, .end_] = .ok [.spec [0x73] [.script 0 [.block .foreachplug [.block .ifon [.send [0x78]]]] 15] 16] := rfl
/-- an empty block, an empty specification, `setresult` without interpretation are refused, at the token that should have been
    a statement / an item / `success` -/
example : parseConfig [.spec, .stringVal [0x73], .begin_, .script, .login, .begin_, .end_, .end_] = .error (.syntax 6) := rfl
example : parseConfig [.spec, .stringVal [0x73], .begin_, .end_] = .error (.syntax 3) := rfl
example : parseConfig [.spec, .stringVal [0x73], .begin_, .script, .login, .begin_, .setresult, .matchpos, .numericVal [0x31], .matchpos,
    .numericVal [0x32], .end_, .end_] = .error (.syntax 11) := rfl

/-- **Conversions are total on accepted input.**  A statement list on which every conversion of `makePreStmt` succeeded
    (`stmtsSemOK`: `_strtolong` on every `$N`, `_strtodouble`/`_doubletotv` on every `delay`) converts to the statements of
    `SpecCheck` (`nsub` = `re_nsub` of `regcomp`, `usOf` = the microseconds of `_doubletotv`: oracles); and a file the whole
    reader accepts (`runConfig … = valid`) has only such statements: every completed specification converts to a
    `SpecCheck.SpecD` with the same script kinds, among them a login script. -/
theorem C18_parse_conversion_total (nsub usOf : Bytes → Nat) :
    (∀ body, stmtsSemOK body = true → (toSStmts nsub usOf body).isSome = true) ∧
    (∀ (env : Env) (fs : Bytes → Option Bytes) (main content : Bytes), (runConfig env fs main content).final = .valid →
      ∃ ast s, parseConfig (tokensOf fs main content) = .ok ast ∧ runEvs env {} (evAst ast) = .ok s ∧
        ∀ r ∈ s.specs, ∃ d, toSpecD nsub usOf r = some d ∧ d.scripts.map (·.1) = r.scripts.map (·.1) ∧
          d.scripts.any (fun p => p.1 == 0) = true) := by
  refine ⟨toSStmts_total nsub usOf, ?_⟩
  intro env fs main content h
  obtain ⟨ast, s, hp, _, hr, hi, _⟩ := accepted_mandatory h
  exact ⟨ast, s, hp, hr, fun r hr' => toSpecD_total nsub usOf hi r hr'⟩

/-- `$.5` is accepted by the grammar and refused by the action (`_strtolong`: "error parsing long integer value"); `$010` is
    octal 8; `$4294967297` is stored in an `int`: 1 -/
example : stmtsSemOK [.setplugstate none none [0x2e, 0x35] [] 5] = false := by decide
example : toSStmts (fun _ => 0) (fun _ => 0) [.setplugstate none (some [0x30, 0x31, 0x30]) [0x31] [] 5] = some [.setplugstate false 8 1] := by rfl
example : mpVal "4294967297".toUTF8.toList = .ok 1 := by decide +kernel

/-- **What the grammar alone leaves open.**  Each of these token lists is a sentence: a file without any item (no device, no
    node); a specification without login script; a specification without `timeout`; a device whose specification is defined
    nowhere; a node whose device is defined nowhere; `timeout` given twice. -/
theorem C18_mandatory_grammar_alone_counterexample :
    parseConfig [] = .ok [] ∧
    (∃ ast, parseConfig [.spec, .stringVal [0x73], .begin_, .devTimeout, .numericVal [0x31], .end_] = .ok ast) ∧
    (∃ ast, parseConfig [.spec, .stringVal [0x73], .begin_, .script, .login, .begin_, .send, .stringVal [0x78], .end_, .end_] = .ok ast) ∧
    (∃ ast, parseConfig [.device, .stringVal [0x64], .stringVal [0x73], .stringVal [0x68]] = .ok ast) ∧
    (∃ ast, parseConfig [.node, .stringVal [0x6e], .stringVal [0x64]] = .ok ast) ∧
    (∃ ast, parseConfig [.spec, .stringVal [0x73], .begin_, .devTimeout, .numericVal [0x31], .devTimeout, .numericVal [0x32], .end_] = .ok ast) :=
  ⟨rfl, ⟨_, rfl⟩, ⟨_, rfl⟩, ⟨_, rfl⟩, ⟨_, rfl⟩, ⟨_, rfl⟩⟩

/-- **Mandatory elements: what the grammar gives, what the actions add, what is left.**  For a file the reader accepts
    (`runConfig … = valid`: the lexer reached the end of input, `yyparse` returned, `_validate_config` agreed):
    * from the grammar: the tree is well-formed (`astWF`: no empty specification, plug list, script or block);
    * from the actions (`makeScript`, `makeSpec`, `makeDevice`): every completed specification has a login script — what
      `_enqueue_login` needs at the first connect — and no script kind twice, and every device was instantiated from a
      completed specification;
    * from `_validate_config`: at least one node is configured.
    Not supplied by anyone: a `timeout` — see `C18_timeout_default_counterexample`. -/
theorem C18_mandatory_from_grammar (env : Env) (fs : Bytes → Option Bytes) (main content : Bytes)
    (h : (runConfig env fs main content).final = .valid) :
    ∃ ast s, parseConfig (tokensOf fs main content) = .ok ast ∧ astWF ast = true ∧ runEvs env {} (evAst ast) = .ok s ∧
      (∀ r ∈ s.specs, hasLogin r.scripts = true ∧ (r.scripts.map (·.1)).Nodup) ∧
      (∀ d ∈ s.cfg.devs, ∃ r ∈ s.specs, toChars r.name = d.spec ∧ hasLogin r.scripts = true) ∧
      Pm.expand s.cfg.nodes ≠ [] := by
  obtain ⟨ast, s, hp, hw, hr, hi, hn⟩ := accepted_mandatory h
  refine ⟨ast, s, hp, hw, hr, fun r hr' => ⟨(hi.specs r hr').1, (hi.specs r hr').2.2⟩, ?_, hn⟩
  intro d hd
  obtain ⟨r, hr', he⟩ := hi.devs d hd
  exact ⟨r, hr', he, (hi.specs r hr').1⟩

def okConf : List UInt8 :=
  "specification \"s\" { script login { send \"x\" } }\ndevice \"d\" \"s\" \"a |&\"\nnode \"n1\" \"d\"\n".toUTF8.toList

/-- the `timeout` statements of the specifications completed, in order (`none`: the specification has none) -/
def specTimeouts (out : List Out) : List (Option Bytes) := out.filterMap fun o => match o with | .spec r => some r.timeout | _ => none

/-- one run of the reader on `okConf`: its verdict and the specifications it completed -/
theorem okConf_run :
    (runConfig {} (fun _ => none) [] okConf).final = .valid ∧
    specTimeouts (runConfig {} (fun _ => none) [] okConf).out = [none] := by decide +kernel

/-- the hypothesis is satisfiable: this text is accepted -/
example : (runConfig {} (fun _ => none) [] okConf).final = .valid := okConf_run.1

/-- the same without login script: refused by `makeSpec` at the closing brace of the specification (line 1), although the
    tokens are a sentence; with the device line first: refused by `makeDevice` (look-ahead: the next line) -/
example : (runConfig {} (fun _ => none) [] "specification \"s\" { script status { send \"x\" } }\ndevice \"d\" \"s\" \"a |&\"\nnode \"n1\" \"d\"\n".toUTF8.toList).final
    = .err .noLogin (some ([], 1)) := by decide +kernel
example : (runConfig {} (fun _ => none) [] "device \"d\" \"s\" \"a |&\"\nspecification \"s\" { script login { send \"x\" } }\n".toUTF8.toList).final
    = .err .specNotFound (some ([], 2)) := by decide +kernel

/-- **No default for `timeout`.**  The accepted text above has one specification, without `timeout` statement; and a
    specification without one converts to a `SpecD` with `timeoutUs = 0`, which `SpecCheck.specOK` refuses (`C17`): neither the
    grammar, nor `makeSpec`, nor `_validate_config` supplies or demands a time-out; the device gets `timeout = 0`, which
    `device.c` reads as "no time-out". -/
theorem C18_timeout_default_counterexample :
    (runConfig {} (fun _ => none) [] okConf).final = .valid ∧
    specTimeouts (runConfig {} (fun _ => none) [] okConf).out = [none] ∧
    ∀ (r : SpecRec), r.timeout = none → ∀ nsub usOf d, toSpecD nsub usOf r = some d → d.timeoutUs = 0 ∧ Pm.SpecCheck.specOK d = false := by
  refine ⟨okConf_run.1, okConf_run.2, ?_⟩
  intro r hr nsub usOf d hd
  unfold toSpecD at hd
  split at hd
  · cases hd; simp [hr, Pm.SpecCheck.specOK]
  · cases hd

end Pm.Props.C18
