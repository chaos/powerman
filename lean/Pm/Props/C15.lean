import Pm.ClientStream
import Pm.TablesCheck
import Pm.StreamWhole
import Pm.StreamReplace
import Pm.RunXCli
/-! # C15 — what powermand writes to a client is a grammatical stream of protocol lines

"Everything powermand writes to a client is a sequence of CRLF-terminated lines `NNN text` with NNN among the documented
1xx/2xx/3xx codes, starting with the 001 banner and a prompt; 3xx lines appear only between a request and its terminal
line, a prompt appears only directly after the banner or a terminal line."

The structure of the output is made explicit by `render : List Item → Bytes` (`Item.line code text` ↦ `NNN␠text\r\n`,
`Item.prompt` ↦ `powerman> `): every function of `client.c` that appends to a client's `to` buffer is shown to append
`render items` for an item list of the right shape.  An item is a *single* protocol line only if its text is `clean`
(contains neither CR nor LF); lines with fixed text are proved clean, lines that embed data (node names, host ranges,
device names, captured device text) are clean when the embedded data is.  That is where the per-step theorems of
sections 3–5 need a hypothesis:

* the ranged strings come out of `hostlist_sort` + `hostlist_ranged_string`, whose output alphabet those sections do not
  characterise;
* the telemetry line passes through `String.replace` (substitution of the device name);
* node, device and plug names are configuration data.

(Captured device text is not among the reasons: a `303` value is shown up to its first CR or LF, `C15_value_clean`; finding
F16, `C15_stream_f16_fixed`.)

So the per-step preservation theorems of sections 3–5 carry the hypothesis "the data-carrying lines of this step are
clean" and are named `…_partial`.  Helper lemmas: `Pm/ClientProof.lean`, `Pm/ClientStream.lean`.

Section 7 ("whole runs") does not go through the `…_partial` theorems: it proves the full statement by induction over runs,
with one hypothesis about data, `Good` (the strings of the configuration contain no CR/LF).  With a ghost history of what
every pass handed to `write(2)` (`histOf`), the per-client invariant `SInv` is shown to hold for every client of every world reachable from start-up by
any list of pass inputs (`C15_run`, no hypothesis about data), and — the configuration being free of CR/LF (`Good`, which
the run preserves) — every line of every stream is a clean protocol line (`C15_run_clean`, `C15_run_streamOK`), the `305`
telemetry line included, whose text goes through `String.replace` (`C15_replace_clean`).  What was written to the
descriptor of a client that is gone is covered too (`C15_run_departed`).  The hostlist mirror's alphabet is characterised
on the way (`C15_ranged_string_clean`, `C15_sort_clean`, `C15_request_names_clean`).
Helper lemmas: `Pm/StreamClean.lean`, `StreamLine.lean`, `StreamRun.lean`, `StreamDev.lean`, `Dev2Ledger.lean`,
`StreamWhole.lean`, `StreamReplace.lean`.

The proviso of the property ("as long as unsent output stays below the 1 MiB buffer") is carried by the *model*, not by
the theorems: `put` appends to an unbounded `toBuf`, the model never drops a byte queued for a client, so the theorems
need no such hypothesis.  In C `_client_printf` → `cbuf_write(c->to, …, &dropped)` overwrites the oldest unsent bytes once
`to` has reached `MAX_CLIENT_BUF` (and logs "dropped %d chars"): there the stream loses bytes from its middle and model and
code part ways.  (The overflow theorems of `Props/C09` are about the *input* buffers.) -/
namespace Pm.Props.C15
open Pm Pm.Daemon Pm.Client Pm.Daemon.ClientPf

/-! ## 1. the grammar -/

/-- The recogniser (`srun`, `sstep` in `Pm/ClientStream.lean`) accepts exactly the prefixes of
    `banner prompt (3xx | 208 | terminal prompt?)*`: the first item is a line with code 001, the second the prompt; every
    later line has a documented code (301–309, 208, or a terminal code 101–105, 201–205, 209–211, 213); a prompt is accepted
    only directly after a terminal line other than 208. -/
example : wfStream [.line 1 (bstr "2.4.4"), .prompt, .line 306 (bstr "t[1-2]"), .line 103 (bstr "Query complete"), .prompt,
    .line 208 (bstr "Command in progress"), .line 305 (bstr "send(d): 'on 1\\n'"), .line 102 (bstr "Command completed successfully"),
    .prompt, .line 101 (bstr "Goodbye")] = true := by decide
/-- no banner -/
example : wfStream [.prompt] = false := by decide
/-- a prompt after an informational line -/
example : wfStream [.line 1 [], .prompt, .line 306 [], .prompt] = false := by decide
/-- a prompt after `208` -/
example : wfStream [.line 1 [], .prompt, .line 208 [], .prompt] = false := by decide
/-- two prompts in a row -/
example : wfStream [.line 1 [], .prompt, .line 103 [], .prompt, .prompt] = false := by decide
/-- an undocumented code -/
example : wfStream [.line 1 [], .prompt, .line 212 []] = false := by decide

/-- `StreamOK bytes`: the bytes are `render items` for a grammatical item list that has got past banner and first prompt
    and whose every line is clean — in particular they tokenise into CRLF-terminated lines and prompts in that one way -/
theorem C15_streamOK_wf (bytes : Bytes) (h : StreamOK bytes) :
    ∃ items, bytes = render items ∧ wfStream items = true ∧ ∀ i ∈ items, i.clean = true :=
  h.wf

/-! ## 2. the banner -/

/-- the `accept` branch of `cli_post_poll` appends a client whose output buffer is the `001` banner with the version
    string, then the prompt — and nothing else happens to the client list there (the per-client handling follows) -/
theorem C15_banner (w : W) (envs : List FdEnv) :
    cliPostPoll w 1 envs =
      (cliAccept { w with sys := [], caps := envs.map fun (e : FdEnv) => (e.fd, e.cap) } 1).clients.foldl (ClientPf.cliStep envs)
        (cliAccept { w with sys := [], caps := envs.map fun (e : FdEnv) => (e.fd, e.cap) } 1) ∧
    (cliAccept w 1).clients = w.clients ++ [newClient w] ∧
    (newClient w).toBuf = render [Item.line 1 w.cfg.version, Item.prompt] ∧
    (newClient w).cmd = none ∧ (newClient w).quit = false :=
  ⟨cliPostPoll_eq w 1 envs, rfl, newClient_banner w, rfl, rfl⟩

/-- so a new client starts with a grammatical stream, provided the version string is one line -/
theorem C15_banner_stream (w : W) (hv : cleanText w.cfg.version = true) : StreamOK (newClient w).toBuf :=
  banner_streamOK w hv

example : ((cliPostPoll Ex.world 1 []).clients.map (·.toBuf)) = [bstr "001 2.4.4\r\npowerman> "] := by
  rw [bstr_chars]
  decide +kernel

/-! ## 3. immediate replies (`_parse_input`) -/

/-- One request line: unless the process is gone, the client's cumulative output grows by `render items` where `items` is
    empty (a command was installed) or `3xx* terminal [prompt]`; every line of `items` that does not embed data (code
    other than 304, 306, 307, 209) is a clean line with fixed text; and if the data-carrying lines are clean too, a
    grammatical stream stays grammatical.  (`pre` stands for the bytes written to the descriptor in earlier passes.)

    Full statement: the same without the hypothesis `DataClean dataCodesP items`.  The hypothesis is extra because the
    texts of 304/306/307/209 lines are built from configured names by `hostlist_ranged_string`/`hostlist_sort`, whose
    output alphabet is not characterised here; it excludes configurations whose node, plug or device names contain CR or LF. -/
theorem C15_request_preserves_stream_partial (pre : Bytes) (w : W) (c : Cli) (line : Bytes) (h : StreamOK (pre ++ outOf w c)) :
    (parseLine w c line).1.exited = true ∨
    (∃ items, outOf (parseLine w c line).1 (parseLine w c line).2 = outOf w c ++ render items ∧
      (items = [] ∨ Reply infoCodesP termCodesP (promptAfter (parseLine w c line).2.quit) items) ∧
      FixedClean dataCodesP items ∧
      (DataClean dataCodesP items → StreamOK (pre ++ outOf (parseLine w c line).1 (parseLine w c line).2))) :=
  parseLine_stream pre w c line h

/-- the `help` text is fifteen clean `301` lines -/
theorem C15_help_lines : helpText = render helpItems ∧ helpItems.length = 15 ∧
    (∀ i ∈ helpItems, i.lineIn [301] = true) ∧ (∀ i ∈ helpItems, i.clean = true) :=
  ⟨helpText_eq, rfl, by decide +kernel, helpItems_clean⟩

/-- the reply to `device` is `304` lines only (then `103`) -/
theorem C15_device_lines (w : W) (arg : Option Bytes) (b : Bytes) (h : deviceReply w arg = some b) :
    ∃ items, b = render items ∧ ∀ i ∈ items, i.lineIn [304] = true :=
  deviceReply_some w arg b h

/-! ## 4. a client's whole share of a pass (`_handle_read`, `_handle_write`, `_handle_input`) -/

/-- If the client survives the pass, its cumulative output grew by exactly one answer chunk per complete request line —
    whatever was read, written or half-written in between (`_handle_write` only moves bytes from the buffer to the
    descriptor) — and, the data-carrying lines being clean, a grammatical stream stays grammatical.
    Full statement: without the hypothesis on the data-carrying lines (see `C15_request_preserves_stream_partial`). -/
theorem C15_client_pass_preserves_stream_partial (w : W) (c : Cli) (e : Option FdEnv) (c' : Cli)
    (h : (clientPass w c e).2 = some c') :
    (clientPass w c e).1.exited = true ∨
    ∃ chunks : List (List Item), outOf (clientPass w c e).1 c' = outOf w c ++ render chunks.flatten ∧
      (∀ ch ∈ chunks, AnswerChunk ch) ∧
      ∀ pre, StreamOK (pre ++ outOf w c) → (∀ ch ∈ chunks, DataClean dataCodesP ch) →
        StreamOK (pre ++ outOf (clientPass w c e).1 c') :=
  clientPass_stream w c e c' h

/-! ## 5. the completion path (`_act_finish` and the telemetry / diagnostic callbacks) -/

/-- The final reply is the rendering of its items: informational lines with codes 302/303 only, then one terminal line with
    code 102, 103, 210 or 211 and fixed, clean text. -/
theorem C15_final_reply_items (exprange : Bool) (k : CmdC) :
    finalReply exprange k = (finalInfos exprange k).map (fun infos => render (infos ++ [finalTerm k])) ∧
    (∀ infos, finalInfos exprange k = some infos → ∀ i ∈ infos, i.lineIn [302, 303] = true) ∧
    (∃ code text, finalTerm k = Item.line code text ∧ code ∈ [102, 103, 210, 211] ∧ cleanText text = true) :=
  ⟨finalReply_eq exprange k, fun infos h => finalInfos_info exprange k infos h, finalTerm_spec k⟩

/-- Whatever a device pass reports (`outs`: completions, telemetry, diagnostics, in any number and order), every client's
    buffer only gets a sequence of chunks appended, each either *progress* (305, 308, 309 lines) or a *final reply*
    (`308? (302|303)* terminal prompt`); no other field of the client changes except `cmd`, nothing else in the world
    changes; and if the appended lines are clean, a grammatical stream stays grammatical.

    Full statement: without `∀ i ∈ items, i.clean`.  The hypothesis is extra because these lines embed device names
    (308), ranged strings from `hostlist_sort` (302, 303), text run through `String.replace` (305) and captured
    device text (303 of a temperature query: clean whatever the device sent, `C15_value_clean`). -/
theorem C15_completion_preserves_stream_partial (w : W) (name : Bytes) (outs : List Pm.Dev2.Out) :
    ∃ G : Cli → Cli, (applyOuts w name outs).1.clients = w.clients.map G ∧
      ∀ x, ∃ items, Appends x (G x) items ∧ Chunks items ∧
        ∀ pre, StreamOK (pre ++ x.toBuf) → (∀ i ∈ items, i.clean = true) → StreamOK (pre ++ (G x).toBuf) :=
  applyOuts_stream w name outs

/-- the same for a single `_act_finish` -/
theorem C15_act_finish_preserves_stream_partial (w : W) (id : Nat) (err : Pm.Dev2.ActErr) (name : Bytes) :
    ∃ G : Cli → Cli, (actFinish w id err name).1.clients = w.clients.map G ∧
      ∀ x, ∃ items, Appends x (G x) items ∧ Chunks items ∧
        ∀ pre, StreamOK (pre ++ x.toBuf) → (∀ i ∈ items, i.clean = true) → StreamOK (pre ++ (G x).toBuf) :=
  actFinish_stream w id err name

example : ((applyOuts Ex.busyWorld (bstr "d") [.diag 1 (bstr "t1: bad"), .finish 1 .success]).1.clients.map (·.toBuf)) =
    [render [.line 309 (bstr "t1: bad"), .line 102 (bstr "Command completed successfully"), .prompt]] := by
  rw [bstr_chars, bstr_chars, bstr_chars]
  decide +kernel

/-! ## 6. payloads from the device side -/

/-- `dbg_memstr` turns any bytes into printable ASCII (32…126): the text inside `send(dev): '…'` / `recv(dev): '…'`
    telemetry can never contain CR, LF or any control byte, whatever the device sent -/
theorem C15_memstr_clean (bs : Bytes) : ∀ x ∈ Pm.Dev2.memstr bs, 32 ≤ x.toNat ∧ x.toNat ≤ 126 :=
  memstr_print bs

example : Pm.Dev2.memstr [13, 10, 0, 255, 65] = bstr "\\r\\n\\000\\377A" := by decide +kernel

/-- hence every telemetry text built by `teleMem` is one clean line (its prefix being one) -/
theorem C15_telemetry_clean (cid : Nat) (pre : String) (bs : Bytes) (hp : cleanText (Pm.Dev2.str pre) = true) :
    ∀ o ∈ Pm.Dev2.teleMem cid pre bs, ∀ c t, o = Pm.Dev2.Out.telemetry c t → cleanText t = true :=
  teleMem_clean cid pre bs hp

/-- The `309` diagnostic of `setresult` is `node: text` where `node` is the node name of one of the device's plugs and
    `text` — the captured status — is cut at the first CR or LF and at 1023 bytes: the part after the node name can never
    break the line. -/
theorem C15_diag_clean (d : Pm.Dev2.Dev) (a : Pm.Dev2.Action) (o : Pm.Dev2.Oracle) (p s : Int)
    (i : List (Pm.Dev2.PResult × Nat)) :
    ∀ x ∈ (Pm.Dev2.stmtSetresult d a o p s i).out, ∀ c t, x = Pm.Dev2.Out.diag c t →
      ∃ node txt, t = node ++ Pm.Dev2.str ": " ++ txt ∧ cleanText txt = true ∧ txt.length ≤ 1023 ∧
        ∃ pl ∈ d.plugs, pl.node = some node :=
  setresult_diag d a o p s i

/-- The `303` lines of a temperature reply are clean lines, *whatever the device's captured values are* (they are shown up
    to their first CR or LF: finding F16), provided the node names and the ranged string of the nodes without a value contain no
    CR/LF (configuration data through the hostlist mirror: the remaining proviso). -/
theorem C15_stream_values (ex : Bool) (k : CmdC) (infos : List Item) (hcom : k.com = .temp)
    (h : finalInfos ex k = some infos)
    (hn : ∀ a ∈ entriesOf k, cleanText (ofChars a.node) = true)
    (hr : ∀ r, sortedRanged (((entriesOf k).filter (·.val.isNone)).map (·.node)) = some r → cleanText r = true) :
    ∀ i ∈ infos, i.clean = true :=
  finalInfos_temp_clean ex k infos hcom h hn hr

/-- the value shown is clean for any bytes -/
theorem C15_value_clean (v : Bytes) : cleanText (firstLine v) = true := firstLine_clean v

/-- The witness of finding F16, a captured value `1\r\n102 x`, forges no terminal line inside the reply: the reply is one `303`
    line (the value up to its first CR) and the real terminal line. -/
theorem C15_stream_f16_fixed :
    finalReply false f16Cmd = some (render [Item.line 303 (bstr "n: 1"), Item.line 103 (bstr "Query complete")]) :=
  finalReply_not_forged

/-- Every reply format of `client_proto.h` — regenerated from the source on every run — is a non-empty sequence of complete
    `NNN␠text CRLF` lines with `NNN` among the documented codes and nothing after the last CRLF (decided by the kernel over the
    whole table).  (That the reply texts the model writes are those of the header is `Pm.TablesCheck.proto_agrees`.) -/
theorem C15_proto_table_wf : Pm.Generated.protoTable.all (fun p => Pm.TablesCheck.fmtOK p.1 p.2) = true := Pm.TablesCheck.proto_wf
/-- … and that is not vacuous: the table holds at least 25 reply formats (more than the name says: a count, not mere
    non-emptiness) -/
theorem C15_proto_table_nonempty : (Pm.Generated.protoTable.filter fun p => Pm.TablesCheck.isReply p.1).length ≥ 25 := Pm.TablesCheck.proto_replies_present

/-! ## 7. whole runs

`streamOf w0 ss c` is everything ever queued for client `c` when the passes `ss` have run from the start-up world `w0`:
what earlier passes handed to `write(2)` on its descriptor (`histOf`, a ghost record — the system-call log `w.sys` is
reset at the beginning of every pass), what the last pass wrote, and what still waits in `to`.  The runs are `runX` of
`Pm/RunX.lean` (see its header); `Step` and `passX` are this layer's abbreviations for `PassX` and `stepX` of that file.

`cl : Prop`, in `C15_run_departed` and in the theorems about the invariant `RunInv cl H w`, switches the bookkeeping of
cleanliness on: every such theorem holds for every `cl`, and `Good` is assumed only under it (`hg : cl → Good w0`).  With
`cl := False` nothing is assumed about data and the grammar alone is proved (`C15_run`); with `cl := True` and `Good w0` every
line is in addition a clean line (`C15_run_clean`). -/

open Pm.Daemon.StreamPf

/-- a run whose passes bring no regex answer is a run of `ClientPf.runPasses` -/
theorem C15_run_plain (w : W) (ps : List PassIn) : runX w (ps.map fun p => ⟨p, []⟩) = runPasses w ps :=
  ClientPf.runX_runPasses w ps

/-- the ghost record is empty at start-up and grows, when a pass begins, by what the log of the world says was written -/
theorem C15_history (w0 : W) (ss : List Step) (p : Step) (fd : Nat) :
    histOf w0 [] fd = [] ∧ histOf w0 (ss ++ [p]) fd = histOf w0 ss fd ++ written (runX w0 ss).sys fd :=
  ⟨rfl, histOf_snoc w0 ss p fd⟩

/-- The *strict* recogniser `trun` accepts `001 prompt ((3xx|208)* terminal prompt)* (3xx|208)*`: every terminal line
    (other than 208) is followed at once by the prompt.  It is the language of a client that has not quit; the lax
    recogniser `srun`/`wfStream` above also covers replies without prompt (after `quit` or end of file). -/
example : strictStream [.line 1 (bstr "2.4.4"), .prompt, .line 306 (bstr "t[1-2]"), .line 103 (bstr "Query complete"), .prompt,
    .line 208 (bstr "Command in progress"), .line 305 (bstr "send(d): 'on 1\\n'"), .line 102 (bstr "Command completed successfully"),
    .prompt] = true := by decide
/-- a terminal line without prompt: lax yes, strict no -/
example : wfStream [.line 1 [], .prompt, .line 103 [], .line 103 []] = true ∧
    strictStream [.line 1 [], .prompt, .line 103 [], .line 103 []] = false := by decide
/-- stopping directly after a terminal line is not a state of a client that has not quit -/
example : strictStream [.line 1 [], .prompt, .line 103 []] = false := by decide
/-- the strict language is contained in the lax one -/
theorem C15_strict_lax (items : List Item) (h : strictStream items = true) : wfStream items = true := by
  exact strictStream_lax items h

/-- **C15 over whole runs — structure.**  From start-up (no client, no client's action queued, id counter positive, empty log, no connection accepted yet), after
    any number of passes with any kernel answers (connections, reads, writes, short writes, errors, device traffic, regex
    answers, timeouts), for every client `c` of the world reached, everything ever queued for `c` is `render items` for an
    item list that

    * the recogniser accepts: `001` banner, prompt, then lines with documented codes, a prompt only directly after a terminal
      line other than 208;
    * as long as the client has not quit (`quit` command, end of file, i/o error) even the strict recogniser accepts, in the
      state where no prompt is owed: every terminal line so far was followed at once by the prompt;
    * ends with the prompt when the client is idle and has not quit (`AtPrompt`): the server is waiting for a request and
      has said so — in particular no `305`/`309` line of a device callback came after that prompt (`C15_ledger`).

    No hypothesis about configuration data or device behaviour.  (Lines are *items* here; that the text of an item contains
    no CR/LF, so that the items are the lines a reader of the bytes sees, is `C15_run_clean`.) -/
theorem C15_run (w0 : W) (hs : Startup w0) (ss : List Step) (c : Cli) (hc : c ∈ (runX w0 ss).clients) :
    ∃ items, streamOf w0 ss c = render items ∧ wfStream items = true ∧
      (c.quit = false → strictStream items = true) ∧ AtPrompt c items := by
  obtain ⟨items, e, h1, h2, h3, _⟩ := (stream_run False w0 hs (fun h => h.elim) ss c hc).view
  exact ⟨items, e, h1, h2, h3⟩

/-- **C15 over whole runs — every line is a line.**  If in addition the static data of the start-up world is free of CR/LF
    (`Good`: version string, configured node names — the node list being in the shape the hostlist constructors produce —,
    alias hosts, device names, nodes wired to plugs, specification names), then every item of every client's stream is a
    clean protocol line `NNN␠text CRLF` with no CR/LF inside `text`, and the target names of a command in progress are
    clean.  This covers the lines that embed data: `304`, `306`, `307` (configured names through `hostlist_sort` and
    `hostlist_ranged_string`), `209` (names out of the request, through `sscanf %s` and `hostlist_create`), `302`/`303`
    (targets of the command; captured device values cut at CR/LF), `308` (device names), `309` (plug nodes; captured text
    cut at CR/LF), `305` (`dbg_memstr` output, decimal numbers, fixed text, then `String.replace`). -/
theorem C15_run_clean (w0 : W) (hs : Startup w0) (hg : Good w0) (ss : List Step) (c : Cli) (hc : c ∈ (runX w0 ss).clients) :
    ∃ items, streamOf w0 ss c = render items ∧ wfStream items = true ∧
      (c.quit = false → strictStream items = true) ∧ AtPrompt c items ∧ (∀ i ∈ items, i.clean = true) ∧ CmdClean c := by
  obtain ⟨items, e, h1, h2, h3, h4⟩ := (stream_run True w0 hs (fun _ => hg) ss c hc).view
  obtain ⟨hlines, hcmd⟩ := h4 trivial
  exact ⟨items, e, h1, h2, h3, fun i hi => (hlines i hi).clean, hcmd⟩

/-- `String.replace` (which puts the device name into a telemetry text) creates no CR/LF: decoding, replacing and encoding
    again gives bytes of the text and of the name (and the parentheses) only -/
theorem C15_replace_clean (name t : Bytes) (hn : cleanText name = true) (ht : cleanText t = true) :
    cleanText (teleText name t) = true :=
  replaceClean name t hn ht

/-- Hence, in the terms of the per-step theorems above: every client's cumulative output is `StreamOK` -/
theorem C15_run_streamOK (w0 : W) (hs : Startup w0) (hg : Good w0) (ss : List Step) (c : Cli)
    (hc : c ∈ (runX w0 ss).clients) : StreamOK (streamOf w0 ss c) :=
  (stream_run True w0 hs (fun _ => hg) ss c hc).streamOK replaceClean

/-- a concrete run: `A` with plug `1` ↦ `a1`; client 1 connects, is sent the banner, asks `nodes` and `help` in one read and
    is sent the replies in the next pass; client 2 connects, its descriptor takes 7 bytes, it asks `status a1` (accepted:
    a command is in progress), then `quit` and `nodes` (both answered `208`).  The hypotheses hold, … -/
example : Startup Ex.w0 ∧ Good Ex.w0 := ⟨Ex.startup, Ex.good⟩
/-- … two clients are live, one idle, one busy, none has quit, and their streams are spread over history, log and buffer -/
example : (runX Ex.w0 Ex.run).clients.map (fun c => (c.id, c.fd, c.quit, c.cmd.isSome)) = [(1, 1000, false, false), (2, 1001, false, true)] ∧
    histOf Ex.w0 Ex.run 1000 = bstr "001 2\r\npowerman> " ∧ histOf Ex.w0 Ex.run 1001 = [] ∧
    written (runX Ex.w0 Ex.run).sys 1001 = bstr "001 2\r\n" ∧
    (runX Ex.w0 Ex.run).clients.map (·.toBuf) = [[], bstr "powerman> 208 Command in progress\r\n208 Command in progress\r\n"] := by
  rw [bstr_chars, bstr_chars, bstr_chars]
  decide +kernel
example : ∀ c ∈ (runX Ex.w0 Ex.run).clients, ∃ items, streamOf Ex.w0 Ex.run c = render items ∧ wfStream items = true ∧
    (c.quit = false → strictStream items = true) ∧ AtPrompt c items ∧ (∀ i ∈ items, i.clean = true) ∧ CmdClean c :=
  fun c hc => C15_run_clean Ex.w0 Ex.startup Ex.good Ex.run c hc

/-- a run through the device phase (`IsolationProof.Two`): both clients ask `status a1`; the device answers client 1's
    action, the regex answers of pass 4 make `expect` and `setplugstate` succeed: client 1 gets its final reply and the
    prompt and is idle again, client 2 still waits (one action queued, `pending = 1`) -/
example : (runX Ex.w0 Ex.run2).clients.map (fun c => (c.id, c.cmd.isSome, queued (runX Ex.w0 Ex.run2).devs c.id, pend c)) =
      [(1, false, 0, 0), (2, true, 1, 1)] ∧
    (runX Ex.w0 Ex.run2).clients.map (streamOf Ex.w0 Ex.run2) =
      [bstr "001 2\r\npowerman> 302 on:      a1\r\n302 off:     \r\n302 unknown: \r\n103 Query complete\r\npowerman> ",
       bstr "001 2\r\npowerman> "] := by
  rw [bstr_chars, bstr_chars]
  decide +kernel

/-- **The last words of a client that is gone.**  For a descriptor that was handed out (`1000 ≤ fd < 1000 + nacc`; numbers
    are not reused) and belongs to no live client, everything that was ever written to it is the beginning of a stream
    satisfying the per-client invariant for the record `c` the client had when it was destroyed; `rest` is what it had
    queued but was never sent.  (So the `101 Goodbye` flushed by `quit`, and whatever went out before a hang-up, obeys the
    grammar too; and with `Good` the lines are clean.) -/
theorem C15_run_departed (cl : Prop) (w0 : W) (hs : Startup w0) (hg : cl → Good w0) (ss : List Step) (fd : Nat) (h1 : 1000 ≤ fd)
    (h2 : fd < 1000 + (runX w0 ss).nacc) (h3 : ∀ c ∈ (runX w0 ss).clients, c.fd ≠ fd) :
    ∃ (c : Cli) (rest : Bytes) (items : List Item), writtenOf w0 ss fd ++ rest = render items ∧ wfStream items = true ∧
      (c.quit = false → strictStream items = true) ∧ (cl → ∀ i ∈ items, i.clean = true) := by
  obtain ⟨c, rest, h⟩ := departed_run cl w0 hs hg ss fd h1 h2 h3
  obtain ⟨items, e, h1, h2, _, h4⟩ := h.view
  exact ⟨c, rest, items, e, h1, h2, fun hcl i hi => ((h4 hcl).1 i hi).clean⟩

/-- client 1 sends `nodes`, `quit`, `nodes` in one read: the banner, the reply, `101 Goodbye` are written (the descriptor
    is made blocking), the client is destroyed in the same pass; the reply to the second `nodes` is never sent -/
example : (runX Ex.w0 [⟨Ex.p1, []⟩, ⟨Ex.pq, []⟩]).clients = [] ∧ (runX Ex.w0 [⟨Ex.p1, []⟩, ⟨Ex.pq, []⟩]).nacc = 1 ∧
    writtenOf Ex.w0 [⟨Ex.p1, []⟩, ⟨Ex.pq, []⟩] 1000 = bstr "001 2\r\npowerman> 306 a1\r\n103 Query complete\r\npowerman> 101 Goodbye\r\n" := by
  rw [bstr_chars]
  decide +kernel

/-! ### the invariant, step by step

`RunInv cl H w`: ids and descriptors of the live clients are pairwise distinct and below their counters, the ghost history
`H` is empty for descriptors not handed out yet, the static data is `Good` (when `cl`), every client satisfies the
per-client invariant `SInv` for `H c.fd ++ outOf w c`, so does what was written to the descriptor of every client that is
gone (`Departed`), and no client has more actions queued than its command waits for (the ledger). -/

/-- holds at start-up (there is no client) -/
theorem C15_inv_init (cl : Prop) (w0 : W) (hs : Startup w0) (hg : cl → Good w0) : RunInv cl (fun _ => []) w0 :=
  RunInv.init cl w0 hs hg

/-- the start-up conditions, and the cleanliness of the static data, survive `dev_initial_connect` (which queues login
    actions and opens sockets): the runs above may start from the world after it -/
theorem C15_startup_initial_connect (w0 : W) (hs : Startup w0) (now : Nat) (con soe : List Nat) :
    Startup (initialConnect w0 now con soe).1 ∧ (Good w0 → Good (initialConnect w0 now con soe).1) :=
  ⟨hs.initialConnect now con soe, fun hg => hg.initialConnect now con soe⟩

/-- `Good` holds of a world whose node list was built the way the configuration parser builds it (`Built`: pushes and
    deletions from the empty list) from names without CR/LF, the other strings of the configuration containing none either.
    (A quoted string of `powerman.conf` may contain `\r` and `\n` — the lexer has escapes for them —: such a node, alias,
    device or plug name is what `Good` excludes.) -/
theorem C15_good_of_config (w : W) (hv : cleanText w.cfg.version = true) (hb : Built w.cfg.nodes)
    (hn : ∀ n ∈ expand w.cfg.nodes, cleanName n = true) (ha : ∀ a ∈ w.cfg.aliases, ∀ n ∈ a.2, cleanName n = true)
    (hd : GoodDevs w.devs) (hs : ∀ p ∈ w.specs, cleanText p.2 = true) : Good w :=
  Good.of_built w hv hb hn ha hd hs

/-- kept by `accept`: the new client's stream is the `001` banner and the prompt, on a descriptor without history -/
theorem C15_inv_accept (cl : Prop) (H : Hist) (w : W) (h : RunInv cl H w) (acc : Nat) : RunInv cl H (cliAccept w acc) :=
  h.accept acc

/-- kept by one client's turn in `cli_post_poll` (`_handle_read`, `_handle_write`, `_handle_input` with every request line,
    the record written back — or the client destroyed and unlinked) -/
theorem C15_inv_client_turn (cl : Prop) (H : Hist) (w : W) (h : RunInv cl H w) (envs : List FdEnv) (c0 : Cli) (hc0 : c0 ∈ w.clients) :
    RunInv cl H (ClientPf.cliStep envs w c0) :=
  h.cliStep envs c0 hc0

/-- the callbacks of a device (`_act_finish`, telemetry, diagnostics, in any number and order) extend every client's
    stream by an `Ext` step, the callback texts being clean (when `cl`) — provided every telemetry/diagnostic callback for a
    client comes while `pending` still covers a completion to come (`q`, `Fwd`: the ledger, `C15_device_ledger`); `pending`
    goes down by at most the number of completions delivered -/
theorem C15_inv_callbacks (cl : Prop) (w : W) (name : Bytes) (outs : List Pm.Dev2.Out) (hu : UniqueIds w.clients)
    (hname : cl → cleanText name = true) (houts : cl → OutsClean outs)
    (q : Nat → Nat) (hq : ∀ x ∈ w.clients, q x.id ≤ pend x) (hfwd : ∀ x ∈ w.clients, Pm.Dev2.Fwd x.id (q x.id) outs) :
    CliExt cl (fun cid => Pm.Dev2.fcount cid outs) w (applyOuts w name outs).1 :=
  applyOuts_ext cl w name outs hu hname houts q hq hfwd

/-- **The ledger, device half.**  Over one device's share of `dev_post_poll`, for every client id `cid ≠ 0`: the completions
    reported plus the actions still queued do not exceed the actions queued before, and before every telemetry or
    diagnostic callback for `cid` fewer completions for `cid` have been reported than it had actions queued: the text
    belongs to an action that is still at the head of the queue. -/
theorem C15_device_ledger (d : Pm.Dev2.Dev) (env : Pm.Dev2.Env) (o : Pm.Dev2.Oracle) (cid : Nat) (hc : cid ≠ 0) :
    Pm.Dev2.fcount cid (Pm.Dev2.postPoll d env o).2.2.1 + Pm.Dev2.qcount cid (Pm.Dev2.postPoll d env o).1.dev.acts
      ≤ Pm.Dev2.qcount cid d.acts ∧
    Pm.Dev2.Fwd cid (Pm.Dev2.qcount cid d.acts) (Pm.Dev2.postPoll d env o).2.2.1 :=
  Pm.Dev2.postPoll_ledger d env o cid hc

/-- **The ledger over whole runs.**  In every world reachable from start-up, no client has more actions queued on the
    devices than its command waits for (`pend c` = `pending` of the command, 0 when idle).  So an idle client has no
    action queued anywhere, and no completion, telemetry or diagnostic callback is addressed to it: `3xx` lines appear only
    while a command is in progress (or inside an immediate reply). -/
theorem C15_ledger (w0 : W) (hs : Startup w0) (ss : List Step) (c : Cli) (hc : c ∈ (runX w0 ss).clients) :
    queued (runX w0 ss).devs c.id ≤ pend c :=
  ledger_run w0 hs ss c hc

/-- and they are: whatever the device sends and the regex engine answers, the telemetry and diagnostic texts of one
    device's share of `dev_post_poll` contain no CR/LF, the nodes wired to the device's plugs containing none -/
theorem C15_device_callbacks_clean (d : Pm.Dev2.Dev) (env : Pm.Dev2.Env) (o : Pm.Dev2.Oracle) (hd : PlugsClean d) :
    OutsClean (Pm.Dev2.postPoll d env o).2.2.1 :=
  (postPoll_clean d env o hd).2

/-- kept by one device's share of `dev_post_poll` with its callbacks delivered (`worldAt a rest`: the world while the
    device phase has processed `a.devs` and still has `rest` to do) -/
theorem C15_inv_device_turn (cl : Prop) (H : Hist) (p : PassIn) (a : DevAcc) (nd : Bytes × Pm.Dev2.Dev) (rest : List (Bytes × Pm.Dev2.Dev))
    (h : RunInv cl H (Isolation.worldAt a (nd :: rest))) : RunInv cl H (Isolation.worldAt (devPass p a nd) rest) :=
  h.ofDevTurn p a nd rest

/-- kept by a whole pass of the daemon loop; the history takes in the log the pass discards -/
theorem C15_inv_pass (cl : Prop) (H : Hist) (w : W) (h : RunInv cl H w) (p : PassIn) :
    RunInv cl (histNext H w) (daemonPass w p).1 :=
  h.ofDaemonPass p

/-- … also when regex answers are supplied before the pass -/
theorem C15_inv_step (cl : Prop) (H : Hist) (w : W) (h : RunInv cl H w) (st : Step) : RunInv cl (histNext H w) (passX w st) :=
  h.passX st

/-! ### the alphabet of the hostlist mirror, and of a request -/

/-- `hostlist_ranged_string` adds digits and `[ ] , -` to the stored prefixes: no CR/LF unless a prefix has one -/
theorem C15_ranged_string_clean (hl : Hostlist) (h : HLClean hl) : cleanName (rangedString hl) = true :=
  rangedString_clean hl h

/-- `hostlist_sort` keeps a list clean (it stands for the same names) -/
theorem C15_sort_clean (hl hl' : Hostlist) (hwf : HWFS hl) (hc : HLClean hl) (h : sortHL hl = .ok hl') : HLClean hl' :=
  sortHL_clean hl hl' hwf hc h

/-- the argument `sscanf("%s")` cuts out of a request line contains no white space, in particular no CR/LF; and the names
    `hostlist_create` makes of it are clean -/
theorem C15_request_names_clean (kw s a : Bytes) (hl : Hostlist) (h : scan kw s = some a) (hc : createR (toChars a) = .ok hl) :
    cleanText a = true ∧ ∀ n ∈ expand hl, cleanName n = true :=
  ⟨scan_clean kw s a h, expand_clean hl (createR_scan_clean kw s a hl h hc)⟩

example : scan kwOn (bstr "on t[1-2]\rx") = some (bstr "t[1-2]") := by decide +kernel

/-- the `302`/`303` lines of a final reply are clean when the target names are (whatever the devices reported) -/
theorem C15_final_reply_clean (ex : Bool) (k : CmdC) (infos : List Item) (h : finalInfos ex k = some infos)
    (hn : ∀ n ∈ k.names, cleanName n = true) : ∀ i ∈ infos, i.clean = true :=
  finalInfos_clean ex k infos h hn

/-- One request line, with the texts known: the process is gone (sort assertion), or the line is answered
    `3xx* terminal [prompt]` — `101` only with `quit` set, `208` only with a command in progress, and all lines clean if the
    static data is —, or a command is installed whose target names are clean; the static data stays clean.  (`LineOut` is the
    inductive of `Pm/StreamLine.lean` with these three cases, `exit`, `reply`, `installed`; each fact named here is a field of
    its case.) -/
theorem C15_request (cl : Prop) (w : W) (c : Cli) (line : Bytes) : LineOut cl w c (parseLine w c line) :=
  parseLine_out cl w c line

end Pm.Props.C15
