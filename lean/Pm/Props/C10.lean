import Pm.Dev2Login2
import Pm.ToBufProof
import Pm.LsdListTop
/-! # C10 — one conversation at a time per device, and login comes first

"On each device connection powerman runs scripts strictly one after another in request order: it never sends bytes
belonging to a different action while the current script is still waiting for its expected reply, and completions
are reported in that order.  After every connection or reconnection the login script runs to completion before any
other script sends anything on that connection."

Property theorems, and the evaluations of the example list `exList` that the examples of §5 share; the helper lemmas live in
`Pm/Dev2Proof.lean` (the loop iteration `bodyStep`), `Pm/Dev2Login.lean`, `Pm/Dev2Login2.lean`, `Pm/ToBufProof.lean` (the
output buffer, §4) and `Pm/LsdListTop.lean` (the list container, §5).  The model they speak
about (`Pm.Dev2`, `Pm.Daemon.enqueue`) is the mirror of `device.c` + `device_tcp.c` + `device_pipe.c` compared with the
real functions on every run of the check.  Every theorem is for all queues, scripts, fuel, kernel answers (`Env`) and
regex answers (`Oracle`); no bounds.

Vocabulary (all defined in the helper modules, none changes the model):
* `LoginHead d` — if `d` is CONNECTED (`conn = 2`) and not logged in, the head of `d.acts` is the login action (`com = 0`).
* `Reach d0 d` — `d` is obtained from `d0` by any sequence of: `connectDev` on a NOT_CONNECTED device
  (`dev_initial_connect`), `postPoll` passes that do not end in a modelled abort, `Pm.Daemon.enqueue` calls, and the two
  field updates `Pm.Daemon` makes (`args := store`, `retryCount := 0`).
* `finishesOf out` — client ids of the `Out.finish` entries of `out`, in order; `clientIds acts` — client ids of the
  client actions (`clientId ≠ 0`) of a queue, in order; `sentsOf out` — payloads of the `Out.sent` entries, in order;
  `sentBytes out` — their concatenation.
* `bodyStep c o out tmo` — one iteration of the `while` loop of `_process_action`, returning the state and a flag
  "the loop goes on" (`C10_process_action_is_iterated_step` is the proof that this reading is right);
  `iterStates fuel c o out tmo` — the states in which the iterations of one run begin;
  `speaker c` — the action whose statements an iteration starting in `c` executes, if any;
  `spoken c o` — the output of the statement interpreter (`innerLoop`) in that iteration. -/
namespace Pm.Props.C10
open Pm.Dev2
open Pm.Dev2.Login2

/-! ## 1. login first -/

/-- connecting (either transport) establishes the invariant -/
theorem C10_connect_establishes (c : CS) (h0 : c.dev.conn = 0) (hna : (connectDev c).aborted = false) :
    LoginHead (connectDev c).dev := connectDev_loginHead c h0 hna

/-- a pass of `_process_action` that does not end in a modelled abort keeps it: as long as the device is connected and
    not logged in, the only action that can run (the head) is the login action -/
theorem C10_login_first_preserved (fuel : Nat) (c : CS) (o : Oracle) (out : List Out) (tmo : Option Time)
    (h : LoginHead c.dev) (hna : (processActionF fuel c o out tmo).1.aborted = false) :
    LoginHead (processActionF fuel c o out tmo).1.dev :=
  loginHead_preserved fuel c o out tmo h hna

/-- `_handle_ready_device` keeps the invariant, whatever the kernel reports (hang-up, error, a finished or failed
    non-blocking connect, a write, a read through the telnet filter) — aborted or not.  When it completes a connect,
    the login action is put in front of the queue at that moment. -/
theorem C10_handle_ready_keeps_login_first (c : CS) (h : LoginHead c.dev) : LoginHead (handleReady c).1.dev :=
  handleReady_loginHead c h

/-- non-vacuity: a CONNECTING device whose connect completes in this call — afterwards it is CONNECTED, not logged in,
    and the login action (script 0) is the queue -/
example : LoginHead Ex.connecting ∧ Ex.connecting.conn = 1 ∧
    (handleReady { dev := Ex.connecting, env := Ex.envOut, sys := [] }).1.dev.conn = 2 ∧
    (handleReady { dev := Ex.connecting, env := Ex.envOut, sys := [] }).1.dev.loggedIn = false ∧
    (handleReady { dev := Ex.connecting, env := Ex.envOut, sys := [] }).1.dev.acts.map (·.com) = [0] :=
  ⟨LoginHead.of_not_connected (by decide), by decide, by decide, by decide, by decide⟩

/-- appending actions behind the queue (this is what `_enqueue_ping` does inside `dev_post_poll`, with the ping
    action and `lastPing`) keeps the invariant -/
theorem C10_append_keeps_login_first (d : Dev) (l : List Action) (t : Option Time) (h : LoginHead d) :
    LoginHead { d with acts := d.acts ++ l, lastPing := t } :=
  h.append l rfl rfl rfl

/-- a client command (`dev_enqueue_actions`: any command, targets, client) keeps the invariant: its actions go behind
    the head -/
theorem C10_enqueue_keeps_login_first (d : Dev) (com : Nat) (targets : List Bytes) (cid : Nat) (tele : Bool) (al : Nat)
    (h : LoginHead d) : LoginHead (Pm.Daemon.enqueue d com targets cid tele al).1 :=
  enqueue_loginHead d com targets cid tele al h

/-- non-vacuity: a client `off` enqueued on a device that has just connected lands behind the login -/
example : Ex.connected.conn = 2 ∧ Ex.connected.loggedIn = false ∧ Ex.fresh.acts.map (·.com) = [0, 10] := by
  decide +kernel

/-- the whole of `dev_post_poll` (descriptor events, reconnect, ping, `_process_action`) keeps the invariant when the
    pass does not end in a modelled abort (an assertion of the C program, a kernel or regex answer the harness did
    not supply, fuel) -/
theorem C10_post_poll_keeps_login_first (d : Dev) (env : Env) (o : Oracle) (h : LoginHead d)
    (hna : (postPoll d env o).1.aborted = false) : LoginHead (postPoll d env o).1.dev :=
  postPoll_loginHead d env o h hna

/-- non-vacuity: a pass on the freshly connected device does not abort, the device stays connected and not logged in
    (the login's `send` is waiting to be flushed) -/
example : (postPoll Ex.fresh Ex.env0 ⟨[]⟩).1.aborted = false ∧ (postPoll Ex.fresh Ex.env0 ⟨[]⟩).1.dev.conn = 2 ∧
    (postPoll Ex.fresh Ex.env0 ⟨[]⟩).1.dev.loggedIn = false := by decide +kernel

/-- **Login first, everywhere.**  In every state reachable from a NOT_CONNECTED, logged-out device:
    a CONNECTED device has either completed a login on this connection (`loggedIn`, which only the completion of a
    `com = 0` action sets) or has the login action at the head of its queue — so the login script is the one that
    runs; and a device that is not CONNECTED is logged out, so every new connection starts in the second case. -/
theorem C10_login_first_everywhere (d0 d : Dev) (h : Reach d0 d) (hc : d0.conn = 0) (hl : d0.loggedIn = false) :
    (d.conn = 2 → d.loggedIn = true ∨ ∃ a r, d.acts = a :: r ∧ a.com = 0) ∧ (d.conn ≠ 2 → d.loggedIn = false) :=
  h.login_first hc hl

/-- the same as the invariant alone (needs only `conn = 0` initially) -/
theorem C10_login_head_everywhere (d0 d : Dev) (h : Reach d0 d) (hc : d0.conn = 0) : LoginHead d := h.loginHead hc

/-- non-vacuity: initial connect, a client command, a pass — reachable, connected, not logged in -/
example : Reach Ex.dev0 (postPoll Ex.fresh Ex.env0 ⟨[]⟩).1.dev ∧ Ex.dev0.conn = 0 ∧ Ex.dev0.loggedIn = false :=
  ⟨Reach.pass _ _ _ (Reach.enqueue _ _ _ _ _ _ (Reach.connect _ _ Reach.init (by decide) (by decide))) (by decide +kernel),
   by decide, by decide⟩

/-- `Reach` covers what the daemon does: a device pass of `Pm.Daemon.devPass` after which the daemon is alive leaves
    the device in a state reachable from the one it had … -/
theorem C10_reach_covers_devPass (p : Pm.Daemon.PassIn) (a : Pm.Daemon.DevAcc) (nd : Bytes × Dev) (d0 : Dev)
    (h : Reach d0 nd.2) (hd : (Pm.Daemon.devPass p a nd).dead = false) :
    ∃ d', (Pm.Daemon.devPass p a nd).devs = a.devs ++ [(nd.1, d')] ∧ Reach d0 d' :=
  devPass_reach p a nd d0 h hd

/-- … and so does a client command installed by `Pm.Daemon.install`, for every device of the daemon -/
theorem C10_reach_covers_install (w : Pm.Daemon.W) (c : Pm.Daemon.Cli) (com : Pm.Client.Com) (names : List Pm.Name) :
    ∀ x ∈ (Pm.Daemon.install w c com names).1.devs,
      ∃ nd ∈ w.devs, x.1 = nd.1 ∧ ∀ d0, Reach d0 nd.2 → Reach d0 x.2 :=
  install_reach w c com names

/-! ## 2. completions are reported in request order -/

/-- **FIFO, one run of `_process_action`.**  The completions the run adds to the output are, in order, client actions
    that left the *front* of the queue (`l`), and the client actions still queued afterwards are the rest in the same
    order.  So if an earlier and a later action of the queue both complete in this run, the earlier one is reported
    first; no action is reported while it stays queued; none leaves the queue unreported.  Positions, not `uid`s
    (which are not unique in the model).  Holds for aborted runs too. -/
theorem C10_fifo_run (fuel : Nat) (c : CS) (o : Oracle) (out : List Out) (tmo : Option Time) :
    ∃ l, finishesOf (processActionF fuel c o out tmo).2.2.1 = finishesOf out ++ l ∧
         l ++ clientIds (processActionF fuel c o out tmo).1.dev.acts = clientIds c.dev.acts :=
  processActionF_fifo fuel c o out tmo

/-- the same as a prefix statement -/
theorem C10_fifo_run_prefix (fuel : Nat) (c : CS) (o : Oracle) (out : List Out) (tmo : Option Time) :
    ∃ n, finishesOf (processActionF fuel c o out tmo).2.2.1 = finishesOf out ++ (clientIds c.dev.acts).take n :=
  processActionF_fifo_prefix fuel c o out tmo

/-- **FIFO, a whole `dev_post_poll` pass**: descriptor events, reconnect (which puts a login action in front and drops
    an interrupted one) and the ping leave the client actions of the queue alone; the completions of the pass are a
    prefix of them.  Hypothesis `NoClientLogin`: no *client* action uses script slot 0 — `_disconnect` drops a head with
    `com = 0` without reporting it (`C10_fifo_needs_no_client_login_counterexample`); `dev_enqueue_actions` never
    creates one (`enqueue_spec`, and `Pm.Daemon.comIdx` is never 0). -/
theorem C10_fifo_pass (d : Dev) (env : Env) (o : Oracle) (h : NoClientLogin d) :
    NoClientLogin (postPoll d env o).1.dev ∧
    finishesOf (postPoll d env o).2.2.1 ++ clientIds (postPoll d env o).1.dev.acts = clientIds d.acts :=
  postPoll_fifo d env o h

/-- the hypothesis of `C10_fifo_pass` is needed: a client action (client 9) with script slot 0 at the head of a
    connected device is dropped by `_disconnect` (here after a hang-up) without any completion being reported -/
theorem C10_fifo_needs_no_client_login_counterexample :
    let d : Dev := { Ex.ready with acts := [{ loginAction Ex.ready with clientId := 9 }] }
    let env : Env := { Ex.env0 with revents := 4, sockets := [], connects := [] }
    clientIds d.acts = [9] ∧ finishesOf (postPoll d env ⟨[]⟩).2.2.1 = [] ∧ clientIds (postPoll d env ⟨[]⟩).1.dev.acts = [] := by
  decide +kernel

/-- **FIFO over a whole history** (`runHist`: passes, client commands, initial connect, the daemon's two field
    updates, in any order): at every moment, the completions reported so far, in order, followed by the client
    actions still queued, in queue order, equal the client actions queued at the start followed by the client actions
    enqueued since, in request order.  Completions are therefore reported in request order, exactly once each.
    `Ev.ok`: client commands carry a client id `≠ 0` and a command `≠ 0` (slot 0 is the login script). -/
theorem C10_fifo_history (evs : List Ev) (d : Dev) (h : NoClientLogin d) (hev : ∀ e ∈ evs, e.ok) :
    (runHist d evs).2.1 ++ clientIds (runHist d evs).1.acts = clientIds d.acts ++ (runHist d evs).2.2 :=
  runHist_fifo evs d h hev

/-- non-vacuity: clients 1 and 2 ask `on` (a script that finishes at once), client 3 asks `off` (a script that waits);
    one pass reports 1 then 2, and 3 stays queued -/
example : NoClientLogin Ex.ready ∧ (∀ e ∈ Ex.hist, e.ok) ∧
    (runHist Ex.ready Ex.hist).2.1 = [1, 2] ∧ (runHist Ex.ready Ex.hist).2.2 = [1, 2, 3] ∧
    clientIds (runHist Ex.ready Ex.hist).1.acts = [3] :=
  ⟨fun a ha => by simp [Ex.ready, Ex.dev0] at ha, fun e he => by
      simp only [Ex.hist, List.mem_cons, List.not_mem_nil, or_false] at he
      rcases he with rfl | rfl | rfl | rfl <;> simp [Ev.ok],
   by decide +kernel, by decide +kernel, by decide +kernel⟩

/-- non-vacuity for the error branch: the login of the freshly connected device times out in the second pass; the
    client action behind it (client 3) is reported, the queue holds no client action any more -/
example : (runHist Ex.fresh [.pass Ex.env0 ⟨[]⟩, .pass Ex.envLate ⟨[]⟩]).2.1 = [3] ∧
    clientIds (runHist Ex.fresh [.pass Ex.env0 ⟨[]⟩, .pass Ex.envLate ⟨[]⟩]).1.acts = [] := by decide +kernel

/-! ## 3. only the head of the queue sends -/

/-- `_process_action` is the iteration of `bodyStep`: run one iteration; if it says "go on", continue from the state it
    returns, else that state is the result.  (This is what makes `bodyStep`, `iterStates`, `speaker`, `spoken` —
    definitions of the proof, not of the model — say something about the model.) -/
theorem C10_process_action_is_iterated_step (fuel : Nat) (c : CS) (o : Oracle) (out : List Out) (tmo : Option Time) :
    processActionF (fuel + 1) c o out tmo =
      if (bodyStep c o out tmo).2 then
        processActionF fuel (bodyStep c o out tmo).1.1 (bodyStep c o out tmo).1.2.1 (bodyStep c o out tmo).1.2.2.1
          (bodyStep c o out tmo).1.2.2.2
      else (bodyStep c o out tmo).1 :=
  processActionF_succ fuel c o out tmo

/-- whoever speaks in an iteration is the head of the queue at that moment (with its time stamp set), on a
    CONNECTED device, in a loop that is not aborted -/
theorem C10_speaker_is_head (c : CS) (a : Action) (h : speaker c = some a) :
    ∃ a0 rest, c.dev.acts = a0 :: rest ∧ a = stamp c.env.now a0 ∧ c.dev.conn = 2 ∧ c.aborted = false :=
  speaker_is_head c a h

/-- **One iteration sends exactly what the statement interpreter, applied to the head of the queue, sends.**
    Nothing else in an iteration — time-out telemetry, completions, the error branch with its reconnect — produces an
    `Out.sent`; and when there is no speaker (empty queue, aborted, deadline passed, not connected) nothing is sent. -/
theorem C10_iteration_sends_what_head_says (c : CS) (o : Oracle) (out : List Out) (tmo : Option Time) :
    sentsOf (bodyStep c o out tmo).1.2.2.1 = sentsOf out ++ sentsOf (spoken c o) :=
  bodyStep_sents c o out tmo

/-- **Only the head speaks, one run of `_process_action`**: everything the run sends is, in order, what the heads of
    the successive iterations said. -/
theorem C10_run_sends_what_heads_say (fuel : Nat) (c : CS) (o : Oracle) (out : List Out) (tmo : Option Time) :
    sentsOf (processActionF fuel c o out tmo).2.2.1 =
      sentsOf out ++ (iterStates fuel c o out tmo).flatMap fun s => sentsOf (spoken s.1 s.2) :=
  processActionF_sents fuel c o out tmo

/-- what an iteration says depends on the head only: the actions queued behind it can be replaced by any others
    without changing the output of the interpreter (it is handed the device record, which contains the queue, but
    never looks at it) -/
theorem C10_rest_of_queue_is_not_consulted (c : CS) (o : Oracle) (a0 : Action) (rest rest' : List Action)
    (h : c.dev.acts = a0 :: rest) :
    spoken { c with dev := { c.dev with acts := a0 :: rest' } } o = spoken c o :=
  spoken_rest_indep c o a0 rest rest' h

/-- **A head that is waiting blocks everything behind it.**  If the head's statement did not finish in this iteration
    (an `expect` whose reply has not arrived, a `send` not yet flushed, a `delay` not yet over), the loop ends — no
    other action is looked at in this pass, so none can send — and the head, as the interpreter left it, is still
    the head for the next pass. -/
theorem C10_waiting_head_blocks (c : CS) (o : Oracle) (out : List Out) (tmo : Option Time) (a : Action)
    (hs : speaker c = some a)
    (hst : (innerLoop c.env.now (loopBound a) { c.dev with wake := none } a o []).finished = false) :
    (bodyStep c o out tmo).2 = false ∧
    (bodyStep c o out tmo).1.1.dev.acts = (innerLoop c.env.now (loopBound a) { c.dev with wake := none } a o []).act :: c.dev.acts.tail :=
  bodyStep_stalled c o out tmo a hs hst

/-- **Before login completed, only the login script sends.**  Start a run of `_process_action` in a state satisfying
    `LoginHead` (every reachable state does).  Then in every iteration of the run that begins on a connection that is
    not logged in, the speaker — the only source of sent bytes in that iteration — is the login action. -/
theorem C10_only_login_speaks_before_login (fuel : Nat) (c : CS) (o : Oracle) (out : List Out) (tmo : Option Time)
    (h : LoginHead c.dev) :
    ∀ s ∈ iterStates fuel c o out tmo, ∀ a, speaker s.1 = some a → s.1.dev.loggedIn = false → a.com = 0 :=
  login_speaks_first fuel c o out tmo h

/-- non-vacuity: on the freshly connected device (queue: login, then client 3's `off` whose script sends "o") the
    speaker is the login action, its `send` is not yet flushed (so it has not finished), and the pass sends the
    login's "l" and nothing else -/
example :
    let c : CS := { dev := Ex.fresh, env := Ex.env0, sys := [] }
    LoginHead c.dev ∧ (speaker c).map (·.com) = some 0 ∧
    ((speaker c).map fun a => (innerLoop c.env.now (loopBound a) { c.dev with wake := none } a ⟨[]⟩ []).finished) = some false ∧
    sentsOf (processActionF 10 c ⟨[]⟩ [] none).2.2.1 = [[108]] :=
  ⟨fun _ _ => ⟨_, _, rfl, rfl⟩, by decide +kernel, by decide +kernel, by decide +kernel⟩

/-! ## 4. the device output buffer -/

/-- **`_handle_ready_device` and the buffer**: afterwards the buffer is `clipTo (kept ++ reply)`, where `kept` is the whole
    buffer as it was, or what stays of it behind the non-empty prefix `wr` that a successful `write` took (the kernel
    takes as much as it has room for: `wr ++ kept` is the buffer as it was, in order, nothing lost or repeated), and
    `reply` is empty or the telnet option replies to the bytes just read (tcp devices only; `readOf c.dev bs` is the
    prefix of what the kernel had, `bs`, that the input buffer asked for: `C09_read_is_prefix`).
    The buffer is not simply `kept ++ reply`: it holds 65536 bytes,
    `clipTo` keeps the last 65536 — a device that floods `IAC DO x` and does not read makes the oldest queued bytes give way.
    The hypothesis is the capacity invariant (`C09_device_out_capacity`; every reachable buffer satisfies it).  Below the
    limit the plain append holds: `C10_handle_ready_buffer_below`. -/
theorem C10_handle_ready_buffer (c : CS) (hcap : c.dev.toBuf.length ≤ 65536) :
    ∃ kept reply, (handleReady c).1.dev.toBuf = clipTo (kept ++ reply) ∧
      (kept = c.dev.toBuf ∨ (∃ wr, wr ≠ [] ∧ wr ++ kept = c.dev.toBuf ∧ Sys.write wr true ∈ (handleReady c).1.sys)) ∧
      (reply = [] ∨ ∃ bs, c.env.read = some (some bs) ∧ c.dev.isPipe = false ∧
          reply = telnetReplies c.dev.tstate c.dev.tcmd (readOf c.dev bs)) :=
  handleReady_buf c hcap

/-- the plain-append form, under the explicit no-overflow hypothesis: what is queued and the replies this call can
    add (`readyReplies c`: those to the bytes the `read` hands over, on a tcp device) fit the buffer -/
theorem C10_handle_ready_buffer_below (c : CS) (hfit : c.dev.toBuf.length + (readyReplies c).length ≤ 65536) :
    ∃ kept reply, (handleReady c).1.dev.toBuf = kept ++ reply ∧
      (kept = c.dev.toBuf ∨ (∃ wr, wr ≠ [] ∧ wr ++ kept = c.dev.toBuf ∧ Sys.write wr true ∈ (handleReady c).1.sys)) ∧
      (reply = [] ∨ ∃ bs, c.env.read = some (some bs) ∧ c.dev.isPipe = false ∧
          reply = telnetReplies c.dev.tstate c.dev.tcmd (readOf c.dev bs)) :=
  handleReady_buf_below c hfit

/-- non-vacuity of the capacity hypothesis and of the no-overflow hypothesis (the fresh device's queue is empty, the pass can add
    the three bytes `IAC WILL SGA`) -/
example : ({ dev := Ex.fresh, env := Ex.envTelnet, sys := [] } : CS).dev.toBuf.length ≤ 65536 ∧
    ({ dev := Ex.fresh, env := Ex.envTelnet, sys := [] } : CS).dev.toBuf.length +
      (readyReplies { dev := Ex.fresh, env := Ex.envTelnet, sys := [] }).length = 3 := by decide +kernel

/-- the telnet replies are `IAC WILL x` / `IAC WONT x` triples and nothing else -/
theorem C10_telnet_replies_shape (st : Nat) (cmd : UInt8) (bs : Bytes) :
    ∃ chunks : List Bytes, telnetReplies st cmd bs = chunks.flatten ∧
      ∀ ch ∈ chunks, ∃ b, ch = [255, 251, b] ∨ ch = [255, 252, b] :=
  telnetReplies_shape st cmd bs

/-- `telnetReplies` is the reply part of `telnetFilter`: queued behind what is queued, the last 65536 bytes kept (each answer
    is one overwriting `cbuf_write` of 3 bytes, and a sequence of such writes leaves what one write of the concatenation
    leaves: `clipTo_clipTo_append`) -/
theorem C10_telnet_filter_buffer (d : Dev) (bs : Bytes) :
    (telnetFilter d bs).toBuf = clipTo (d.toBuf ++ telnetReplies d.tstate d.tcmd bs) :=
  telnetFilter_toBuf d bs

/-- below the limit the replies are appended -/
theorem C10_telnet_filter_buffer_below (d : Dev) (bs : Bytes)
    (hfit : (d.toBuf ++ telnetReplies d.tstate d.tcmd bs).length ≤ 65536) :
    (telnetFilter d bs).toBuf = d.toBuf ++ telnetReplies d.tstate d.tcmd bs := by
  rw [telnetFilter_toBuf, clipTo_of_le _ hfit]

example : telnetReplies 0 0 [255, 253, 3, 65, 255, 253, 1] = [255, 251, 3, 255, 252, 1] := by decide

/-- **`_process_action` and the buffer.**  After a run, either the buffer is the buffer before followed by the
    payloads of the run's `send` statements in order (and neither the connection state nor the retry counter moved),
    or the run took its error branch on the CONNECTED device: `_reconnect` went through `_disconnect`, which flushes
    both buffers — the buffer is empty, nothing was sent after the flush (the error branch leaves the loop), and the
    flush is visible: the device is no longer CONNECTED or one more connect attempt has been counted.
    The buffer afterwards is not simply `c.dev.toBuf ++ …`: `clipTo` keeps the last 65536
    bytes — a `send` against a full buffer overwrites the oldest queued bytes (`cbuf_write`, overwrite mode; `_process_send`
    logs "buffer overrun" and goes on).  The hypothesis is the capacity invariant (`C09_device_out_capacity`).  Below the
    limit: `C10_process_action_buffer_below`. -/
theorem C10_process_action_buffer (fuel : Nat) (c : CS) (o : Oracle) (out : List Out) (tmo : Option Time)
    (hcap : c.dev.toBuf.length ≤ 65536) :
    ((processActionF fuel c o out tmo).1.dev.toBuf = clipTo (c.dev.toBuf ++ (passSents fuel c o out tmo).flatten) ∧
       (processActionF fuel c o out tmo).1.dev.conn = c.dev.conn ∧
       (processActionF fuel c o out tmo).1.dev.retryCount = c.dev.retryCount) ∨
    ((processActionF fuel c o out tmo).1.dev.toBuf = [] ∧ c.dev.conn = 2 ∧
       ((processActionF fuel c o out tmo).1.dev.conn ≠ 2 ∨
        (processActionF fuel c o out tmo).1.dev.retryCount = c.dev.retryCount + 1)) :=
  processActionF_buf fuel c o out tmo hcap

/-- `C10_process_action_buffer` as a plain append, under the explicit no-overflow
    hypothesis: what is queued and what the run sends fit the buffer -/
theorem C10_process_action_buffer_below (fuel : Nat) (c : CS) (o : Oracle) (out : List Out) (tmo : Option Time)
    (hfit : c.dev.toBuf.length + (passSents fuel c o out tmo).flatten.length ≤ 65536) :
    ((processActionF fuel c o out tmo).1.dev.toBuf = c.dev.toBuf ++ (passSents fuel c o out tmo).flatten ∧
       (processActionF fuel c o out tmo).1.dev.conn = c.dev.conn ∧
       (processActionF fuel c o out tmo).1.dev.retryCount = c.dev.retryCount) ∨
    ((processActionF fuel c o out tmo).1.dev.toBuf = [] ∧ c.dev.conn = 2 ∧
       ((processActionF fuel c o out tmo).1.dev.conn ≠ 2 ∨
        (processActionF fuel c o out tmo).1.dev.retryCount = c.dev.retryCount + 1)) :=
  processActionF_buf_below fuel c o out tmo hfit

/-- non-vacuity of the no-overflow hypothesis: the run on the fresh device sends the login's one byte into an empty queue -/
example :
    let c : CS := { dev := Ex.fresh, env := Ex.env0, sys := [] }
    c.dev.toBuf.length + (passSents 10 c ⟨[]⟩ [] none).flatten.length = 1 := by decide +kernel

/-- `passSents` is what the run sent: `C10_run_sends_what_heads_say` with the name `passSents` for its right-hand side -/
theorem C10_passSents (fuel : Nat) (c : CS) (o : Oracle) (out : List Out) (tmo : Option Time) :
    sentsOf (processActionF fuel c o out tmo).2.2.1 = sentsOf out ++ passSents fuel c o out tmo :=
  C10_run_sends_what_heads_say fuel c o out tmo

/-- **A whole `dev_post_poll` pass and the buffer.**  With `kept` and `reply` as in `C10_handle_ready_buffer`:
    afterwards the buffer is `kept ++ reply ++` the payloads of this pass's `send` statements, in that order; or — an
    i/o error (`(postPollReady d env).2`) on a device that was not NOT_CONNECTED made the pass disconnect before
    `_process_action` — just those payloads; or — `_process_action` took its error branch on the connected device —
    empty.  Telnet replies and `send` payloads are therefore the only bytes ever appended, the replies go in before
    anything this pass sends, and a script's bytes are never interleaved with another script's
    (`C10_run_sends_what_heads_say`).
    The buffer is not simply `kept ++ reply ++ sentBytes …` (or `sentBytes …`):
    `clipTo` keeps the last 65536 bytes of that; what is lost beyond the capacity is always the *oldest* of what was queued, so
    the order statement stands.  The hypothesis is the capacity invariant (`C09_device_out_capacity`).  Below the limit the
    plain append holds: `C10_post_poll_buffer_below`. -/
theorem C10_post_poll_buffer (d : Dev) (env : Env) (o : Oracle) (hcap : d.toBuf.length ≤ 65536) :
    ∃ kept reply,
      (kept = d.toBuf ∨ (∃ wr, wr ≠ [] ∧ wr ++ kept = d.toBuf ∧ Sys.write wr true ∈ (postPollReady d env).1.sys)) ∧
      (reply = [] ∨ ∃ bs, env.read = some (some bs) ∧ d.isPipe = false ∧
        reply = telnetReplies d.tstate d.tcmd (readOf d bs)) ∧
      ((postPoll d env o).1.dev.toBuf = clipTo (kept ++ reply ++ sentBytes (postPoll d env o).2.2.1) ∨
       ((postPoll d env o).1.dev.toBuf = clipTo (sentBytes (postPoll d env o).2.2.1) ∧
          (postPollReady d env).2 = true ∧ (postPollReady d env).1.dev.conn ≠ 0) ∨
       ((postPoll d env o).1.dev.toBuf = [] ∧ (postPollPre d env).1.dev.conn = 2 ∧
          ((postPoll d env o).1.dev.conn ≠ 2 ∨
           (postPoll d env o).1.dev.retryCount = (postPollPre d env).1.dev.retryCount + 1))) :=
  postPoll_buf d env o hcap

/-- `C10_post_poll_buffer` as a plain append, under the explicit no-overflow hypothesis: what is queued, the telnet replies this
    pass can add and what this pass sends fit the buffer together -/
theorem C10_post_poll_buffer_below (d : Dev) (env : Env) (o : Oracle)
    (hfit : d.toBuf.length + (readyReplies { dev := d, env := env, sys := [] }).length +
      (sentBytes (postPoll d env o).2.2.1).length ≤ 65536) :
    ∃ kept reply,
      (kept = d.toBuf ∨ (∃ wr, wr ≠ [] ∧ wr ++ kept = d.toBuf ∧ Sys.write wr true ∈ (postPollReady d env).1.sys)) ∧
      (reply = [] ∨ ∃ bs, env.read = some (some bs) ∧ d.isPipe = false ∧
        reply = telnetReplies d.tstate d.tcmd (readOf d bs)) ∧
      ((postPoll d env o).1.dev.toBuf = kept ++ reply ++ sentBytes (postPoll d env o).2.2.1 ∨
       ((postPoll d env o).1.dev.toBuf = sentBytes (postPoll d env o).2.2.1 ∧
          (postPollReady d env).2 = true ∧ (postPollReady d env).1.dev.conn ≠ 0) ∨
       ((postPoll d env o).1.dev.toBuf = [] ∧ (postPollPre d env).1.dev.conn = 2 ∧
          ((postPoll d env o).1.dev.conn ≠ 2 ∨
           (postPoll d env o).1.dev.retryCount = (postPollPre d env).1.dev.retryCount + 1))) :=
  postPoll_buf_below d env o hfit

/-- non-vacuity of the no-overflow hypothesis (4 bytes in all) -/
example : Ex.fresh.toBuf.length + (readyReplies { dev := Ex.fresh, env := Ex.envTelnet, sys := [] }).length +
    (sentBytes (postPoll Ex.fresh Ex.envTelnet ⟨[]⟩).2.2.1).length = 4 := by decide +kernel

/-- `postPollReady`, `postPollPre` are the first stages of `postPoll` (descriptor events; then reconnect and ping) -/
theorem C10_post_poll_stages (d : Dev) (env : Env) (o : Oracle) :
    postPoll d env o =
      if (postPollReady d env).1.aborted then ((postPollReady d env).1, o, [], none)
      else processAction (postPollPre d env).1 o [] (postPollPre d env).2 :=
  postPoll_eq d env o

/-- non-vacuity, first case: the device answers the connect with a telnet `IAC DO SUPPRESS-GO-AHEAD`; after the pass
    the buffer holds the reply `IAC WILL SUPPRESS-GO-AHEAD` and then the login's "l" -/
example : (postPoll Ex.fresh Ex.envTelnet ⟨[]⟩).1.dev.toBuf = [255, 251, 3, 108] ∧
    sentBytes (postPoll Ex.fresh Ex.envTelnet ⟨[]⟩).2.2.1 = [108] := by decide +kernel

/-- non-vacuity, third case: the login times out, the error branch disconnects (and reconnects at once): the "l"
    that was waiting in the buffer is gone -/
example : (postPoll Ex.fresh Ex.env0 ⟨[]⟩).1.dev.toBuf = [108] ∧
    (postPoll (postPoll Ex.fresh Ex.env0 ⟨[]⟩).1.dev Ex.envLate ⟨[]⟩).1.dev.toBuf = [] ∧
    (postPoll (postPoll Ex.fresh Ex.env0 ⟨[]⟩).1.dev Ex.envLate ⟨[]⟩).1.dev.retryCount = 2 := by decide +kernel

/-! ## 5. the queue itself: `liblsd/list.c` at node level refines a plain list

Sections 1–4 carry every queue of the daemon (`dev->acts`, `act->exec`, the client list, the device list, plug lists,
statement lists, interpretation lists) as a plain Lean `List`.  In C they are liblsd `List`s: singly linked nodes taken
from a per-process free list, `head`, `tail` = address of the `next` field that holds the final `NULL`, `count`, and a chain of
registered iterators (`pos`, `prev` = address of a `next` field) that `list_node_create` / `list_node_destroy` patch so that
they survive insertions and removals made while they are alive — which `device.c` / `client.c` do.

`Pm/LsdList.lean` mirrors `list.c` function by function *with the nodes as memory cells with addresses* (compared with the real
code op by op by `lib/listlayer.py` / `harness/u_list.c`, complete state after every call).  `valid` is the representation
invariant (an executable check; it implies the one structural assertion of `list.c`,
`(i->pos == *i->prev) || (i->pos == (*i->prev)->next)`, for every iterator); `contents` reads the items off the chain from
`head`.  Every function of the model returns `none` where the C code would die (assertion, `NULL` / wild dereference, a loop
that does not end).  The theorems below hold for **every** valid state — any length, any node addresses, any number of
iterators anywhere — and every argument.

The iterators are described by the *list with cursors* `Abs` (`Pm/LsdListAbs.lean`): the items, and per iterator a cursor
`(j, g)` — it stands at gap `j` of the list; `g`: the item after the gap is the one it returned last (`list_remove` takes
it) and the next to return is the one after that.  `absOf l` is the list with cursors of a node-level state (the cursor is the
place the harness prints).  `Abs.ahead a k` = the items iterator `k` has still to return, `Abs.removable a k` = what
`list_remove` would take.  Not modelled: threads, `malloc` failure, callbacks that modify the list they are called from. -/

section list
open Pm.LsdList

/-- the list `1 2 3 4` with two iterators: handle 0 has returned `1` and `2`, handle 1 has returned `1` -/
def exList : LList Nat :=
  match LsdList.run (LsdList.create { cells := #[], free := [] } true)
      [.append 1, .append 2, .append 3, .append 4, .itCreate 0, .next 0, .next 0, .itCreate 1, .next 1] with
  | some (_, l) => l
  | none => LsdList.create { cells := #[], free := [] } true

/-- what the examples of this section say about `exList` itself and about the calls on the whole list -/
structure ExListWhole : Prop where
  state : LsdList.valid exList = true ∧ contents exList = [1, 2, 3, 4] ∧ (absOf exList).curs = [(1, (0, true)), (0, (1, true))] ∧
    (absOf exList).ahead 0 = [3, 4] ∧ (absOf exList).ahead 1 = [2, 3, 4] ∧ (absOf exList).removable 0 = some 2
  destroy : (LsdList.destroy exList).map (·.1) = some [1, 2, 3, 4]
  walks : findFirst exList (fun x => x > 2) = some (some 3) ∧ forEach exList (fun x => if x == 3 then -1 else 0) = some (-3)
  deleteEven : (deleteAll exList (fun x => x % 2 == 0)).map (fun r => (r.1, r.2.1, contents r.2.2)) = some (2, [2, 4], [1, 3]) ∧
    (deleteAll exList (fun x => x % 2 == 0)).map (fun r => (absOf r.2.2).curs) = some [(1, (1, false)), (0, (1, false))]
  deleteOdd : (deleteAll exList (fun x => x % 2 == 1)).map (fun r => ((absOf r.2.2).ahead 0, (absOf r.2.2).ahead 1)) = some ([4], [2, 4])
  sort : (LsdList.sort exList (fun x y => (y : Int) - x)).map (fun l => (contents l, (absOf l).curs, LsdList.valid l)) =
      some ([4, 3, 2, 1], [(1, (0, false)), (0, (0, false))], true) ∧
    (LsdList.sort exList (fun _ _ => -1)).map (fun l => (contents l, LsdList.valid l)) = some ([4, 3, 2, 1], true)

theorem exList_whole : ExListWhole :=
  ⟨by decide +kernel, by decide +kernel, by decide +kernel, by decide +kernel, by decide +kernel, by decide +kernel⟩

/-- … and about runs of calls and the calls on its iterators -/
structure ExListIter : Prop where
  run : ((LsdList.run exList [.remove 1, .append 9, .insert 0 7, .deleteAll (fun x => x % 2 == 1), .sort (fun x y => (y : Int) - x),
      .next 0, .pop, .itDestroy 1, .next 0, .next 0]).map (·.1)) =
    some [.item (some 1), .item (some 9), .item (some 7), .deleted 3 [7, 3, 9], .unit, .item (some 4), .item (some 4), .unit,
      .item (some 2), .item none]
  fifo : (LsdList.run exList ([5, 6].map Op.enqueue ++ List.replicate 6 Op.dequeue)).map (·.1) =
    some ([5, 6].map (fun x => Res.item (some x)) ++ [1, 2, 3, 4, 5, 6].map (fun x => Res.item (some x)))
  drain : (LsdList.run exList (List.replicate 4 (Op.next 1))).map (·.1) =
    some [.item (some 2), .item (some 3), .item (some 4), .item none]
  find : (LsdList.find (fun x => x == 3) (exList.cells.size + 2) exList 1).map (fun r => (r.1, (absOf r.2).ahead 1)) =
    some (some 3, [4])
  insert : (absOf exList).curOf 0 = some (1, true) ∧
    (LsdList.insert exList 0 9).map (fun l => (contents l, (absOf l).ahead 0, (absOf l).ahead 1)) =
      some ([1, 9, 2, 3, 4], [3, 4], [9, 2, 3, 4]) ∧
    (LsdList.append exList 9).map (fun l => ((absOf l).ahead 0, (absOf l).ahead 1)) = some ([3, 4, 9], [2, 3, 4, 9]) ∧
    (LsdList.prepend exList 9).map (fun l => ((absOf l).ahead 0, (absOf l).ahead 1)) = some ([3, 4], [2, 3, 4])

theorem exList_iter : ExListIter :=
  ⟨by decide +kernel, by decide +kernel, by decide +kernel, by decide +kernel, by decide +kernel⟩

example : LsdList.valid exList = true ∧ contents exList = [1, 2, 3, 4] ∧ (absOf exList).curs = [(1, (0, true)), (0, (1, true))] ∧
    (absOf exList).ahead 0 = [3, 4] ∧ (absOf exList).ahead 1 = [2, 3, 4] ∧ (absOf exList).removable 0 = some 2 := exList_whole.state

/-- `list_create` on a consistent node memory (for instance the empty one, or the one `list_destroy` leaves behind) gives a
    valid empty list; `list_destroy` of a valid list calls the deletion function (when there is one) on
    exactly the items, in order, and leaves a consistent node memory. -/
theorem C10_list_create_destroy (hp : Heap α) (fdel : Bool) (ho : HeapOk hp) :
    LsdList.valid (LsdList.create hp fdel) = true ∧ contents (LsdList.create hp fdel) = [] ∧
    (∀ l : LList α, LsdList.valid l = true →
      ∃ hp', LsdList.destroy l = some (if l.fdel then contents l else [], hp') ∧ HeapOk hp') :=
  ⟨(create_valid hp fdel ho).1, (create_valid hp fdel ho).2.1, fun _ h => destroy_valid h⟩

example : HeapOk ({ cells := #[], free := [] } : Heap Nat) := heapOk_empty
example : (LsdList.destroy exList).map (·.1) = some [1, 2, 3, 4] := exList_whole.destroy

/-- `valid`, the executable check the driver evaluates, is exactly the representation invariant the proofs use:
    there is a chain of distinct nodes from `head` to `NULL` carrying the items, `count` is its length, `tail` is the address of
    the field holding the final `NULL`, the free cells are distinct, exist and are not on the chain, the iterator handles are
    distinct and every iterator has a place on the chain. -/
theorem C10_list_valid_iff (l : LList α) : LsdList.valid l = true ↔ ∃ ns items, Rep l ns items := valid_iff l

/-- **The C code never dies, and it is a list.**  From any valid state, any sequence of calls of the whole API —
    append / prepend / push / enqueue / pop / dequeue / peek / count / is_empty / find_first / delete_all / for_each / sort with
    **any** pure callbacks (inconsistent comparison functions included), iterator create / reset / destroy / next / insert /
    find / remove / delete on any number of iterators, interleaved in any way — in which iterator handles are used properly
    (`okRun`: a handle is registered when used and not registered twice; this is the `magic` assertion of `list.c`): no
    assertion fires, no `NULL` or wild pointer is dereferenced, every loop ends; the final state is valid (hence every
    state on the way); and all answers and the final items and cursors are those of the list with cursors. -/
theorem C10_list_run (l : LList α) (ops : List (Op α)) (h : LsdList.valid l = true) (hok : (absOf l).okRun ops) :
    ∃ rs l', LsdList.run l ops = some (rs, l') ∧ LsdList.valid l' = true ∧ (absOf l).run ops = some (rs, absOf l') :=
  run_valid h ops hok

/-- conversely the model dies in a sequence of calls only where the list with cursors is undefined — and that is undefined
    only by misuse of a handle (`Abs.apply_isSome`: a call is defined iff `okOp`) -/
theorem C10_list_dies_only_on_handle_misuse (l : LList α) (ops : List (Op α)) (h : LsdList.valid l = true) :
    (LsdList.run l ops = none ↔ (absOf l).run ops = none) ∧ ∀ (a : Abs α) (op : Op α), (a.apply op).isSome = a.okOp op :=
  ⟨run_none_iff h ops, Abs.apply_isSome⟩

example : ((LsdList.run exList [.remove 1, .append 9, .insert 0 7, .deleteAll (fun x => x % 2 == 1), .sort (fun x y => (y : Int) - x),
    .next 0, .pop, .itDestroy 1, .next 0, .next 0]).map (·.1)) =
    some [.item (some 1), .item (some 9), .item (some 7), .deleted 3 [7, 3, 9], .unit, .item (some 4), .item (some 4), .unit,
      .item (some 2), .item none] := exList_iter.run

/-- `list_append` / `list_enqueue` put the item at the end, `list_prepend` / `list_push` at the front. -/
theorem C10_list_append_prepend (l : LList α) (x : α) (h : LsdList.valid l = true) :
    (∃ l', LsdList.append l x = some l' ∧ LsdList.enqueue l x = some l' ∧ LsdList.valid l' = true ∧ contents l' = contents l ++ [x]) ∧
    (∃ l', LsdList.prepend l x = some l' ∧ LsdList.push l x = some l' ∧ LsdList.valid l' = true ∧ contents l' = x :: contents l) := by
  obtain ⟨l1, e1, h1, c1, _⟩ := append_valid h x
  obtain ⟨l2, e2, h2, c2, _⟩ := prepend_valid h x
  exact ⟨⟨l1, e1, e1, h1, c1⟩, ⟨l2, e2, e2, h2, c2⟩⟩

/-- `list_pop` / `list_dequeue` take the first item (`NULL` on the empty list), `list_peek` shows it, `list_count` /
    `list_is_empty` are the length. -/
theorem C10_list_pop_peek_count (l : LList α) (h : LsdList.valid l = true) :
    (∃ l', LsdList.pop l = some ((contents l).head?, l') ∧ LsdList.dequeue l = some ((contents l).head?, l') ∧
      LsdList.valid l' = true ∧ contents l' = (contents l).tail) ∧
    LsdList.peek l = some (contents l).head? ∧ countOf l = (contents l).length ∧ LsdList.isEmpty l = (contents l).isEmpty := by
  obtain ⟨l1, e1, h1, c1, _⟩ := pop_valid h
  exact ⟨⟨l1, e1, e1, h1, c1⟩, peek_valid h, (count_valid h).1, (count_valid h).2⟩

/-- **The action queue is a FIFO** ("runs scripts strictly one after another in request order"): enqueue any items on any
    valid list, then dequeue as many times as there are items: they come out in the order they were in / went in, and the
    list is empty. -/
theorem C10_list_fifo (l : LList α) (xs : List α) (h : LsdList.valid l = true) :
    ∃ l', LsdList.run l (xs.map Op.enqueue ++ List.replicate (contents l ++ xs).length Op.dequeue) =
        some (xs.map (fun x => Res.item (some x)) ++ (contents l ++ xs).map (fun x => Res.item (some x)), l') ∧
      LsdList.valid l' = true ∧ contents l' = [] :=
  run_fifo l xs h

example : (LsdList.run exList ([5, 6].map Op.enqueue ++ List.replicate 6 Op.dequeue)).map (·.1) =
    some ([5, 6].map (fun x => Res.item (some x)) ++ [1, 2, 3, 4, 5, 6].map (fun x => Res.item (some x))) := exList_iter.fifo

/-- `list_find_first` returns the first item the callback accepts; `list_for_each` visits the items in order and returns
    their number, or minus the position at which the callback returned a negative value. -/
theorem C10_list_find_first_for_each (l : LList α) (f : α → Bool) (g : α → Int) (h : LsdList.valid l = true) :
    findFirst l f = some ((contents l).find? f) ∧ forEach l g = some (forEachAbs g (contents l) 0) :=
  ⟨findFirst_valid h f, forEach_valid h g⟩

example : findFirst exList (fun x => x > 2) = some (some 3) ∧ forEach exList (fun x => if x == 3 then -1 else 0) = some (-3) := exList_whole.walks

/-- **`list_delete_all`** removes exactly the items the callback accepts and keeps the others in order — also under live
    iterators, which stay valid; it returns the number of removed items and calls the deletion function (when there is one)
    on exactly these, in order. -/
theorem C10_list_delete_all (l : LList α) (f : α → Bool) (h : LsdList.valid l = true) :
    ∃ l', deleteAll l f = some ((contents l).countP f, if l.fdel then (contents l).filter f else [], l') ∧
      LsdList.valid l' = true ∧ contents l' = (contents l).filter (fun x => !f x) :=
  let ⟨l', e, hv, hc, _⟩ := deleteAll_valid h f; ⟨l', e, hv, hc⟩

example : (deleteAll exList (fun x => x % 2 == 0)).map (fun r => (r.1, r.2.1, contents r.2.2)) = some (2, [2, 4], [1, 3]) ∧
    (deleteAll exList (fun x => x % 2 == 0)).map (fun r => (absOf r.2.2).curs) = some [(1, (1, false)), (0, (1, false))] := exList_whole.deleteEven

/-- **`list_delete_all` under a live iterator**: afterwards the iterator has still to return exactly the surviving items it
    had still to return, in order (none twice, none lost, no removed one). -/
theorem C10_list_delete_all_under_iterators (l : LList α) (f : α → Bool) (k : Nat) (h : LsdList.valid l = true)
    (hk : (iterOf l k).isSome) :
    ∃ n dl l', deleteAll l f = some (n, dl, l') ∧ LsdList.valid l' = true ∧
      (absOf l').ahead k = ((absOf l).ahead k).filter (fun x => !f x) :=
  deleteAll_ahead_valid h f k hk

example : (deleteAll exList (fun x => x % 2 == 1)).map (fun r => ((absOf r.2.2).ahead 0, (absOf r.2.2).ahead 1)) = some ([4], [2, 4]) := exList_whole.deleteOdd

/-- **`list_sort`** — the in-place insertion sort on pointers — gives `sortList`, the insertion sort on a plain list, for
    **every** pure comparison function; the result has exactly the items it was given; when the comparison is a total
    preorder (`x ≥ y` implies `y ≤ x`, `≤` transitive) it is sorted; the state stays valid, and every iterator is reset (when
    there are at least two items — with fewer, nothing happens at all, iterators included). -/
theorem C10_list_sort (l : LList α) (cmp : α → α → Int) (h : LsdList.valid l = true) :
    ∃ l', LsdList.sort l cmp = some l' ∧ LsdList.valid l' = true ∧ contents l' = sortList cmp (contents l) ∧
      (contents l').Perm (contents l) ∧
      ((∀ a b, 0 ≤ cmp a b → cmp b a ≤ 0) → (∀ a b c, cmp a b ≤ 0 → cmp b c ≤ 0 → cmp a c ≤ 0) → SortedBy cmp (contents l')) ∧
      absOf l' = (absOf l).sort cmp := by
  obtain ⟨l', e, hv, hc, ha⟩ := sort_valid h cmp
  exact ⟨l', e, hv, hc, by rw [hc]; exact sortList_perm cmp _, fun h1 h2 => by rw [hc]; exact sortList_sorted cmp h1 h2 _, ha⟩

/-- **`list_sort` is stable** ("Note: The sort algorithm is stable", `list.h`), for a sign-consistent transitive comparison:
    every ascending subsequence of the list before — in particular any two items that compare equal — is a subsequence of the
    list after. -/
theorem C10_list_sort_stable (l : LList α) (cmp : α → α → Int) (h : LsdList.valid l = true)
    (hsym : ∀ a b, cmp a b ≤ 0 ↔ 0 ≤ cmp b a) (htrans : ∀ a b c, cmp a b ≤ 0 → cmp b c ≤ 0 → cmp a c ≤ 0)
    (sub : List α) (hsub : sub.Sublist (contents l)) (hasc : SortedBy cmp sub) :
    ∃ l', LsdList.sort l cmp = some l' ∧ sub.Sublist (contents l') := by
  obtain ⟨l', e, _, hc, _⟩ := sort_valid h cmp
  exact ⟨l', e, by rw [hc]; exact sortList_stable cmp hsym htrans _ _ hsub hasc⟩

/-- by the last digit: `12` stays in front of `2`, `11` in front of `1` -/
example : sortList (fun x y => ((x % 10 : Nat) : Int) - ((y % 10 : Nat) : Int)) [12, 11, 2, 1, 3] = [11, 1, 12, 2, 3] := by decide

/-- descending; then an inconsistent comparison ("everything is smaller than everything"): still a permutation, still valid -/
example : (LsdList.sort exList (fun x y => (y : Int) - x)).map (fun l => (contents l, (absOf l).curs, LsdList.valid l)) =
      some ([4, 3, 2, 1], [(1, (0, false)), (0, (0, false))], true) ∧
    (LsdList.sort exList (fun _ _ => -1)).map (fun l => (contents l, LsdList.valid l)) = some ([4, 3, 2, 1], true) := exList_whole.sort

/-! ### iterators -/

/-- **`list_next`** returns the first of the items the iterator has still to return (`NULL` when there is none); that item
    is no longer ahead, it is what `list_remove` would now take; the list is unchanged and no other iterator moves. -/
theorem C10_list_next (l : LList α) (k : Nat) (h : LsdList.valid l = true) (hk : (iterOf l k).isSome) :
    ∃ l', LsdList.next l k = some (((absOf l).ahead k).head?, l') ∧ LsdList.valid l' = true ∧ contents l' = contents l ∧
      (absOf l').ahead k = ((absOf l).ahead k).tail ∧ (absOf l').removable k = ((absOf l).ahead k).head? ∧
      ∀ k', k' ≠ k → (absOf l').curOf k' = (absOf l).curOf k' :=
  next_valid h k hk

/-- **An iterator left alone returns exactly what is ahead of it, each item once, in order, then `NULL`.** -/
theorem C10_list_iterate (l : LList α) (k n : Nat) (h : LsdList.valid l = true) (hk : (iterOf l k).isSome) :
    ∃ l', LsdList.run l (List.replicate n (Op.next k)) = some ((List.range n).map (fun i => Res.item ((absOf l).ahead k)[i]?), l') ∧
      contents l' = contents l ∧ (absOf l').ahead k = ((absOf l).ahead k).drop n :=
  iterate_valid h k n hk

example : (LsdList.run exList (List.replicate 4 (Op.next 1))).map (·.1) =
    some [.item (some 2), .item (some 3), .item (some 4), .item none] := exList_iter.drain

/-- **`list_find (i, f, key)`** returns the first item the callback accepts among those the iterator has still to return
    (`NULL` when there is none); afterwards the iterator has still to return what follows that item (nothing, after `NULL`). -/
theorem C10_list_find (l : LList α) (k : Nat) (f : α → Bool) (h : LsdList.valid l = true) (hk : (iterOf l k).isSome) :
    ∃ l', LsdList.find f (l.cells.size + 2) l k = some (((absOf l).ahead k).find? f, l') ∧ LsdList.valid l' = true ∧
      contents l' = contents l ∧ (absOf l').ahead k = (((absOf l).ahead k).dropWhile (fun x => !f x)).tail :=
  find_valid h k f hk

example : (LsdList.find (fun x => x == 3) (exList.cells.size + 2) exList 1).map (fun r => (r.1, (absOf r.2).ahead 1)) =
    some (some 3, [4]) := exList_iter.find

/-- **Insertion, seen from every iterator.**  Every insertion of `list.c` is `list_node_create` at some gap `f` of the list:
    `list_append` / `list_enqueue` at the last gap, `list_prepend` / `list_push` at gap 0, `list_insert (i, x)` at the gap of
    `i`'s own cursor.  For an iterator with cursor `(j, g)`: if `f ≤ j` the new item is **behind** it — it will not be
    returned, and what the iterator has still to return is unchanged; if `f > j` it is **ahead** — it will be returned, at
    its place among the items still to return.  In particular: a prepended item is never returned by an existing iterator;
    an iterator never returns what it inserts itself; an appended item is returned by every iterator except those whose
    cursor is at the last gap (an iterator that has returned `NULL`, or was created on the empty list: `f = j`).
    What `list_remove` would take is never changed by an insertion. -/
theorem C10_list_insertion_seen_by_iterators (a : Abs α) (f : Nat) (x : α) (k j : Nat) (g : Bool)
    (hc : a.curOf k = some (j, g)) (hf : f ≤ a.items.length) :
    (a.createAt f x).items = a.items.insertIdx f x ∧
    (a.createAt f x).ahead k = (if f ≤ j then a.ahead k else (a.ahead k).insertIdx (f - (j + g.toNat)) x) ∧
    (a.createAt f x).removable k = a.removable k :=
  ⟨rfl, Abs.ahead_createAt a f x k j g hc hf, Abs.removable_createAt a f x k⟩

/-- … and the node-level model does exactly that: `list_insert` through the iterator `k` inserts at `k`'s gap, in front of the
    item `k` returned last (when it remembers one), and the state stays valid. -/
theorem C10_list_insert (l : LList α) (k : Nat) (x : α) (h : LsdList.valid l = true) (hk : (iterOf l k).isSome) :
    ∃ l' c, (absOf l).curOf k = some c ∧ LsdList.insert l k x = some l' ∧ LsdList.valid l' = true ∧
      absOf l' = (absOf l).createAt c.1 x ∧ contents l' = (contents l).insertIdx c.1 x :=
  insert_valid h k x hk

example : (absOf exList).curOf 0 = some (1, true) ∧
    (LsdList.insert exList 0 9).map (fun l => (contents l, (absOf l).ahead 0, (absOf l).ahead 1)) =
      some ([1, 9, 2, 3, 4], [3, 4], [9, 2, 3, 4]) ∧
    (LsdList.append exList 9).map (fun l => ((absOf l).ahead 0, (absOf l).ahead 1)) = some ([3, 4, 9], [2, 3, 4, 9]) ∧
    (LsdList.prepend exList 9).map (fun l => ((absOf l).ahead 0, (absOf l).ahead 1)) = some ([3, 4], [2, 3, 4]) := exList_iter.insert

/-- **Removal, seen from every iterator.**  Every removal of `list.c` is `list_node_destroy` of the item at some index `f`:
    `list_pop` / `list_dequeue` at 0, `list_remove` / `list_delete` through an iterator at that iterator's remembered item,
    `list_delete_all` at every matching item in turn.  For an iterator whose next item has index `p = j + g`: an item behind
    it (`f < p`) leaves what it has still to return unchanged; an item ahead of it (`f ≥ p`) disappears from there — **an
    item removed before it is reached is never returned**. -/
theorem C10_list_removal_seen_by_iterators (a : Abs α) (f : Nat) (k j : Nat) (g : Bool) (hc : a.curOf k = some (j, g)) :
    (a.destroyAt f).items = a.items.eraseIdx f ∧
    (a.destroyAt f).ahead k = (if f < j + g.toNat then a.ahead k else (a.ahead k).eraseIdx (f - (j + g.toNat))) :=
  ⟨rfl, Abs.ahead_destroyAt a f k j g hc⟩

/-- **`list_remove`** through the iterator `k` removes and returns `removable k` (`NULL`, and nothing happens, when there is
    none); the state stays valid. -/
theorem C10_list_remove (l : LList α) (k : Nat) (h : LsdList.valid l = true) (hk : (iterOf l k).isSome) :
    ∃ l' c, (absOf l).curOf k = some c ∧ LsdList.remove l k = some ((absOf l).removable k, l') ∧ LsdList.valid l' = true ∧
      absOf l' = (if c.2 then (absOf l).destroyAt c.1 else absOf l) :=
  remove_valid h k hk

/-- **What `list_remove` will take, after a removal elsewhere.**  An iterator that remembers the item it returned last
    (cursor `(j, true)`) forgets it when that item is removed (`f = j`) — *and also when the item after it is removed*
    (`f = j + 1`: `list_node_destroy` sets `i->prev = pp` for every iterator whose `pos` is the removed node); any other
    removal leaves it as it is. -/
theorem C10_list_removable_after_removal (a : Abs α) (f : Nat) (k j : Nat) (hc : a.curOf k = some (j, true)) :
    (a.destroyAt f).removable k = if f = j ∨ f = j + 1 then none else a.removable k :=
  Abs.removable_destroyAt a f k j hc

/-- **No call moves an item from behind an iterator to ahead of it** — so no item is returned twice: `list_next` takes the
    returned item out of `ahead` (`C10_list_next`), and after any other call that does not restart the iterator
    (`list_iterator_reset` of it, `list_sort`) everything it has still to return was already ahead of it, or is the item this
    very call inserted. -/
theorem C10_list_never_back (l : LList α) (op : Op α) (k : Nat) (r : LsdList.Res α) (l' : LList α) (h : LsdList.valid l = true)
    (hk : (iterOf l k).isSome) (hr : op.restarts k = false) (e : op.apply l = some (r, l')) :
    (iterOf l' k).isSome ∧ LsdList.valid l' = true ∧ ∀ y ∈ (absOf l').ahead k, y ∈ (absOf l).ahead k ∨ y ∈ op.inserted :=
  never_back_valid h e k hk hr

/-- **`list.h` promises more than `list.c` does (1).**  "`list_remove`: removes from the list the last item returned via list
    iterator": iterator 0 has returned `1`; another iterator removes `2`, the item *after* it; `1` is still in the list and is
    still the last item iterator 0 returned — but `list_remove (0)` now returns `NULL` and removes nothing
    (and `list_insert (0, x)` would put `x` *after* `1`, not before it). -/
theorem C10_list_remove_forgets_counterexample :
    (LsdList.run (LsdList.create { cells := #[], free := [] } false)
      [.append 1, .append 2, .append 3, .itCreate 0, .next 0, .itCreate 1, .next 1, .next 1, .remove 1, .remove 0, .insert 0 9]).map
        (fun x => (x.1, contents x.2)) =
    some ([.item (some 1), .item (some 2), .item (some 3), .unit, .item (some 1), .unit, .item (some 1), .item (some 2),
           .item (some 2), .item none, .item (some 9)], [1, 9, 3]) := by decide +kernel

/-- **`list.h` promises more than `list.c` does (2).**  An iterator created on the empty list (or one that has returned
    `NULL`) stands at the last gap; items appended afterwards go *behind* it: `list_next` keeps returning `NULL` although the
    list is not empty and none of its items was ever returned. -/
theorem C10_list_iterator_on_empty_list_counterexample :
    (LsdList.run (LsdList.create { cells := #[], free := [] } false) [.itCreate 0, .append 1, .append 2, .next 0, .itReset 0, .next 0]).map
        (fun x => (x.1, contents x.2)) =
    some ([.unit, .item (some 1), .item (some 2), .item none, .unit, .item (some 1)], [1, 2]) := by decide +kernel

end list

end Pm.Props.C10
