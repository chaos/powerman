import Pm.RedfishSt
/-! The shell loop terminates (every list drains). -/
namespace Pm.Redfish

/-- rounds an in-flight message still needs -/
def rem (i : PM) : Nat := if i.cmd = .stat then 1 else if i.waitState then 1 else 2

theorem rem_pos (i : PM) : 1 ≤ rem i := by
  unfold rem; repeat' split
  all_goals omega
theorem rem_le (i : PM) : rem i ≤ 2 := by
  unfold rem; repeat' split
  all_goals omega

/-- a power message carries the operator's command `C`; once the command was "sent" the simulated state agrees -/
def Good (C : Cmd) (st : St) (i : PM) : Prop :=
  i.cmd = .stat ∨ (i.cmd = C ∧ (i.waitState = true → isOn st i.plug = (C == .on)))

def below (c : Cfg) (z : Option Nat) (a : Nat) : Prop :=
  match z with | none => True | some x => a = x ∨ x ∈ ancUp c a

/-- The termination measure.  Waiter `w` has an in-flight message `i` on an ancestor (at or below `z`, if given) that
    will reach it in time: a waiter needs two rounds per level below an in-flight ancestor (one for the status query of
    the next plug down, one for its answer), so `rem i + 2·depth w ≤ k + 2·depth i` when `i` is still to be processed in
    this round (`rest`), and one round less to spare when `i` only runs in the next round (`later`). -/
def Fr (c : Cfg) (k : Nat) (rest later : List PM) (w : PM) (z : Option Nat) : Prop :=
  ∃ i, ((i ∈ rest ∧ rem i + 2 * depth c w.plug ≤ k + 2 * depth c i.plug) ∨
        (i ∈ later ∧ rem i + 2 * depth c w.plug + 1 ≤ k + 2 * depth c i.plug)) ∧
       i.plug ∈ ancUp c w.plug ∧ below c z i.plug

theorem Fr_mono {c : Cfg} {k : Nat} {rest later rest' later' : List PM} {w : PM} {z : Option Nat}
    (h : Fr c k rest later w z) (h1 : ∀ i ∈ rest, i ∈ rest') (h2 : ∀ i ∈ later, i ∈ later') :
    Fr c k rest' later' w z := by
  obtain ⟨i, hi, r⟩ := h
  refine ⟨i, ?_, r⟩
  rcases hi with ⟨a, b⟩ | ⟨a, b⟩
  · exact Or.inl ⟨h1 i a, b⟩
  · exact Or.inr ⟨h2 i a, b⟩

theorem Fr_none {c : Cfg} {k : Nat} {rest later : List PM} {w : PM} {z : Option Nat}
    (h : Fr c k rest later w z) : Fr c k rest later w none := by
  obtain ⟨i, hi, r, _⟩ := h
  exact ⟨i, hi, r, trivial⟩

theorem below_trans {c : Cfg} (hw : WF c = true) {x y a : Nat} (h : below c (some x) a) (hxy : x = y ∨ y ∈ ancUp c x) :
    below c (some y) a := by
  unfold below at *
  rcases h with rfl | h
  · exact hxy
  · rcases hxy with rfl | hxy
    · exact Or.inr h
    · exact Or.inr (anc_trans hw h hxy)

theorem Fr_up {c : Cfg} (hw : WF c = true) {k : Nat} {rest later : List PM} {w : PM} {x y : Nat}
    (h : Fr c k rest later w (some x)) (hxy : x = y ∨ y ∈ ancUp c x) : Fr c k rest later w (some y) := by
  obtain ⟨i, hi, r, b⟩ := h
  exact ⟨i, hi, r, below_trans hw b hxy⟩

theorem Fr_drop {c : Cfg} {k : Nat} {i : PM} {rest later : List PM} {w : PM} {z : Option Nat}
    (h : Fr c k (i :: rest) later w z) (hn : ¬ (i.plug ∈ ancUp c w.plug ∧ below c z i.plug)) :
    Fr c k rest later w z := by
  obtain ⟨i0, hi, r, b⟩ := h
  refine ⟨i0, ?_, r, b⟩
  rcases hi with ⟨a, bd⟩ | hi
  · rcases List.mem_cons.1 a with rfl | a
    · exact absurd ⟨r, b⟩ hn
    · exact Or.inl ⟨a, bd⟩
  · exact Or.inr hi

theorem below_child {c : Cfg} (hw : WF c = true) {w a a0 : Nat} (ha : a ∈ ancUp c w) (h0 : a0 ∈ ancUp c w)
    (hb : a ∈ ancUp c a0) : below c (some (childOf c w a)) a0 := by
  have hx := childOf_spec hw ha
  unfold below
  rcases hx.2 with e | e
  · -- the child is w itself: a0 is above w, but below a = parent w
    exfalso
    rw [e] at hx
    rw [ancUp_cons hw hx.1] at h0
    rcases List.mem_cons.1 h0 with rfl | h0
    · exact anc_irrefl hw _ hb
    · exact anc_irrefl hw _ (anc_trans hw hb h0)
  · rcases anc_comparable hw h0 e with h | h | h
    · exact Or.inl h
    · -- a0 above x
      exfalso
      rw [ancUp_cons hw hx.1] at h
      rcases List.mem_cons.1 h with rfl | h
      · exact anc_irrefl hw _ hb
      · exact anc_irrefl hw _ (anc_trans hw hb h)
    · exact Or.inr h

/-- Invariant inside one round of the shell loop, with `k` rounds left.  The batch being processed is cut at the
    current position: `P` = messages of the batch already processed, `rest` = still to be processed in this round,
    `new` = appended to the active list during this round (they run next round, like `m.delayed`). -/
structure RInv (c : Cfg) (k : Nat) (C : Cmd) (P rest new : List PM) (m : M) : Prop where
  act : m.active = P ++ rest ++ new
  rest_ok : ∀ i ∈ rest, rem i ≤ k ∧ Good C m.st i
  later_ok : ∀ i ∈ new ++ m.delayed, rem i + 1 ≤ k ∧ Good C m.st i
  wait_ok : ∀ w ∈ m.waiting, (w.cmd = .stat ∨ w.cmd = C) ∧ w.waitState = false
  fr : ∀ w ∈ m.waiting, Fr c k rest (new ++ m.delayed) w none
  /-- a processed message `j` above a waiter is no witness any more, and `plugActive` may still see it in the active
      list and suppress a query: then the waiter has a live witness at or below `j` -/
  stale : ∀ w ∈ m.waiting, ∀ j ∈ P, j.plug ∈ ancUp c w.plug → Fr c k rest (new ++ m.delayed) w (some j.plug)

theorem mem_keepF_off {c : Cfg} {a : Nat} {s : Stat} {ws : List PM} {w : PM} (hs : s ≠ .on) :
    w ∈ keepF c a s ws ↔ w ∈ ws ∧ a ∉ ancUp c w.plug := by
  simp [keepF, hs, descB, List.mem_filter, isDesc]

theorem mem_keepF_on {c : Cfg} {a : Nat} {ws : List PM} {w : PM} :
    w ∈ keepF c a .on ws ↔ w ∈ ws ∧ (a ∈ ancUp c w.plug → parentOf c w.plug ≠ some a) := by
  simp [keepF, descB, directB, List.mem_filter, isDesc, parentOf]
  intro _
  constructor
  · rintro (h | h) h'
    · exact absurd h' h
    · exact h
  · intro h
    by_cases h' : a ∈ ancUp c w.plug
    · exact Or.inr (h h')
    · exact Or.inl h'

theorem mem_movedF_on {c : Cfg} {a : Nat} {ws : List PM} {w : PM} :
    w ∈ movedF c a .on ws ↔ w ∈ ws ∧ a ∈ ancUp c w.plug ∧ parentOf c w.plug = some a := by
  simp [movedF, descB, directB, List.mem_filter, isDesc, parentOf]

theorem mem_movedF {c : Cfg} {a : Nat} {s : Stat} {ws : List PM} {w : PM} :
    w ∈ movedF c a s ws ↔ s = .on ∧ w ∈ ws ∧ a ∈ ancUp c w.plug ∧ parentOf c w.plug = some a := by
  by_cases hs : s = .on
  · subst hs; simp [mem_movedF_on]
  · simp [movedF, hs]

theorem keepF_sub {c : Cfg} {a : Nat} {s : Stat} {ws : List PM} {w : PM} (h : w ∈ keepF c a s ws) : w ∈ ws := by
  unfold keepF at h
  split at h <;> exact (List.mem_filter.1 h).1

theorem waiter_fate {c : Cfg} {a : Nat} {s : Stat} {ws : List PM} {w : PM} (hw : w ∈ ws) :
    w ∈ keepF c a s ws ∨ (s ≠ .on ∧ a ∈ ancUp c w.plug) ∨
      (s = .on ∧ w ∈ movedF c a s ws ∧ a ∈ ancUp c w.plug) := by
  by_cases ha : a ∈ ancUp c w.plug
  · by_cases hs : s = .on
    · subst hs
      by_cases hp : parentOf c w.plug = some a
      · exact .inr (.inr ⟨rfl, mem_movedF_on.2 ⟨hw, ha, hp⟩, ha⟩)
      · exact .inl (mem_keepF_on.2 ⟨hw, fun _ => hp⟩)
    · exact .inr (.inl ⟨hs, ha⟩)
  · by_cases hs : s = .on
    · subst hs; exact .inl (mem_keepF_on.2 ⟨hw, fun h => absurd h ha⟩)
    · exact .inl ((mem_keepF_off hs).2 ⟨hw, ha⟩)

theorem RInv_pw_off {c : Cfg} {k : Nat} {C : Cmd} {P rest new : List PM} {i : PM} {m : M} {s : Stat}
    (h : RInv c k C P (i :: rest) new m) (hs : s ≠ .on) :
    RInv c k C (P ++ [i]) rest new (processWaiters c m i.plug s) := by
  rw [processWaiters_eq']
  simp only [hs, ne_eq, not_false_eq_true, if_true]
  have hmv : movedF c i.plug s m.waiting = [] := by simp [movedF, hs]
  constructor
  · simp [afterPass1, hmv, h.act]
  · intro j hj; exact h.rest_ok j (List.mem_cons_of_mem _ hj)
  · exact h.later_ok
  · intro w hw; exact h.wait_ok w ((mem_keepF_off hs).1 hw).1
  · intro w hw
    have ⟨hw1, hw2⟩ := (mem_keepF_off hs).1 hw
    exact Fr_drop (h.fr w hw1) (fun hh => hw2 hh.1)
  · intro w hw j hj hja
    have ⟨hw1, hw2⟩ := (mem_keepF_off hs).1 hw
    rcases List.mem_append.1 hj with hj | hj
    · exact Fr_drop (h.stale w hw1 j hj hja) (fun hh => hw2 hh.1)
    · simp at hj; subst hj; exact absurd hja hw2

theorem plugActive_item {m : M} {x : Nat} {cmd : Cmd} (h : plugActive m x cmd = true) : ∃ j ∈ m.active, j.plug = x := by
  unfold plugActive at h
  rw [List.any_eq_true] at h
  obtain ⟨j, hj, h⟩ := h
  simp at h
  exact ⟨j, hj, h.1⟩

theorem Fr_k3 {c : Cfg} (hw : WF c = true) {k : Nat} {rest later : List PM} {w : PM} {z : Option Nat}
    (h : Fr c k rest later w z) : 3 ≤ k := by
  obtain ⟨i0, hi, r, _⟩ := h
  have := depth_anc_lt hw r
  have := rem_pos i0
  rcases hi with ⟨_, b⟩ | ⟨_, b⟩ <;> omega

theorem fr_split {c : Cfg} (hw : WF c = true) {k : Nat} {i : PM} {rest later : List PM} {w : PM}
    (h : Fr c k (i :: rest) later w none) (ha : i.plug ∈ ancUp c w.plug) :
    Fr c k rest later w (some (childOf c w.plug i.plug)) ∨ 1 + 2 * depth c w.plug ≤ k + 2 * depth c i.plug := by
  obtain ⟨i0, hi, r, _⟩ := h
  have hp := rem_pos i0
  rcases anc_comparable hw r ha with e | e | e
  · right; rw [← e]; rcases hi with ⟨_, b⟩ | ⟨_, b⟩ <;> omega
  · right; have := depth_anc_lt hw e; rcases hi with ⟨_, b⟩ | ⟨_, b⟩ <;> omega
  · left
    refine ⟨i0, ?_, r, below_child hw ha r e⟩
    rcases hi with ⟨a, bd⟩ | hi
    · rcases List.mem_cons.1 a with rfl | a
      · exact absurd e (anc_irrefl hw _)
      · exact Or.inl ⟨a, bd⟩
    · exact Or.inr hi

theorem RInv_pw_on {c : Cfg} (hw : WF c = true) {k : Nat} {C : Cmd} {P rest new : List PM} {i : PM} {m : M}
    (h : RInv c k C P (i :: rest) new m) :
    ∃ new', RInv c k C (P ++ [i]) rest new' (processWaiters c m i.plug .on) := by
  rw [processWaiters_eq']
  simp only [ne_eq, not_true_eq_false, if_false]
  obtain ⟨qs, e, hq1, hq2⟩ := pass2_fold c i.plug (keepF c i.plug .on m.waiting) (afterPass1 c m i.plug .on)
  rw [e]
  refine ⟨new ++ movedF c i.plug .on m.waiting ++ qs, ?_⟩
  have hsub : ∀ j ∈ new ++ m.delayed, j ∈ (new ++ movedF c i.plug .on m.waiting ++ qs) ++ m.delayed := by
    intro j hj
    rcases List.mem_append.1 hj with hj | hj
    · exact List.mem_append_left _ (List.mem_append_left _ (List.mem_append_left _ hj))
    · exact List.mem_append_right _ hj
  -- the key fact: every kept waiter below `i.plug` has a frontier at or below the child
  have NF : ∀ w ∈ keepF c i.plug .on m.waiting, i.plug ∈ ancUp c w.plug →
      Fr c k rest ((new ++ movedF c i.plug .on m.waiting ++ qs) ++ m.delayed) w (some (childOf c w.plug i.plug)) := by
    intro w hwk ha
    have ⟨hw1, hw2⟩ := mem_keepF_on.1 hwk
    have hx := childOf_spec hw ha
    have hxa : i.plug ∈ ancUp c (childOf c w.plug i.plug) := childOf_anc hw ha
    have hxw : childOf c w.plug i.plug ∈ ancUp c w.plug := childOf_proper hw ha (hw2 ha)
    rcases fr_split hw (h.fr w hw1) ha with hl | B
    · exact Fr_mono hl (fun _ a => a) hsub
    · obtain ⟨j, hj, hjx⟩ := plugActive_item (hq2 w hwk (isDesc_iff.2 ha))
      have hdx := depth_childOf hw ha
      have hr := rem_le j
      generalize childOf c w.plug i.plug = x at *
      simp only [afterPass1, h.act] at hj
      simp only [List.mem_append, List.mem_cons] at hj
      rcases hj with (((hj | hj | hj) | hj) | hj) | hj
      · have := h.stale w hw1 j hj (hjx ▸ hxw)
        rw [hjx] at this
        refine Fr_mono (Fr_drop this ?_) (fun _ a => a) hsub
        rintro ⟨_, hb⟩
        rcases hb with hb | hb
        · rw [hb] at hxa; exact anc_irrefl hw _ hxa
        · exact anc_irrefl hw _ (anc_trans hw hb hxa)
      · subst hj; rw [hjx] at hxa; exact absurd hxa (anc_irrefl hw _)
      · exact ⟨j, Or.inl ⟨hj, by rw [hjx]; omega⟩, hjx ▸ hxw, Or.inl hjx⟩
      · exact ⟨j, Or.inr ⟨by simp [hj], by rw [hjx]; omega⟩, hjx ▸ hxw, Or.inl hjx⟩
      · exact ⟨j, Or.inr ⟨by simp [hj], by rw [hjx]; omega⟩, hjx ▸ hxw, Or.inl hjx⟩
      · exact ⟨j, Or.inr ⟨by simp [hj], by rw [hjx]; omega⟩, hjx ▸ hxw, Or.inl hjx⟩
  constructor
  · simp [afterPass1, h.act]
  · intro j hj; exact h.rest_ok j (List.mem_cons_of_mem _ hj)
  · intro j hj
    simp only [afterPass1] at hj ⊢
    simp only [List.mem_append] at hj
    rcases hj with ((hj | hj) | hj) | hj
    · exact h.later_ok j (by simp [hj])
    · have ⟨h1, h2, _⟩ := mem_movedF_on.1 hj
      have k3 := Fr_k3 hw (h.fr j h1)
      have := rem_le j
      have wk := h.wait_ok j h1
      refine ⟨by omega, ?_⟩
      rcases wk.1 with e | e
      · exact Or.inl e
      · exact Or.inr ⟨e, by simp [wk.2]⟩
    · obtain ⟨w, hwk, _, rfl, _⟩ := hq1 j hj
      have k3 := Fr_k3 hw (h.fr w (mem_keepF_on.1 hwk).1)
      exact ⟨by simp [rem, query]; omega, Or.inl rfl⟩
    · exact h.later_ok j (by simp [hj])
  · intro w hwk; exact h.wait_ok w (mem_keepF_on.1 hwk).1
  · intro w hwk
    have ⟨hw1, hw2⟩ := mem_keepF_on.1 hwk
    by_cases ha : i.plug ∈ ancUp c w.plug
    · exact Fr_none (NF w hwk ha)
    · exact Fr_mono (Fr_drop (h.fr w hw1) (fun hh => ha hh.1)) (fun _ a => a) hsub
  · intro w hwk j hj hja
    have ⟨hw1, hw2⟩ := mem_keepF_on.1 hwk
    by_cases ha : i.plug ∈ ancUp c w.plug
    · have nf := NF w hwk ha
      have hxa : i.plug ∈ ancUp c (childOf c w.plug i.plug) := childOf_anc hw ha
      rcases List.mem_append.1 hj with hj | hj
      · -- old stale entry: the witness may have been `i`
        obtain ⟨i1, hi1, r1, b1⟩ := h.stale w hw1 j hj hja
        rcases hi1 with ⟨hm, bd⟩ | hi1
        · rcases List.mem_cons.1 hm with rfl | hm
          · exact Fr_up hw (Fr_up hw nf (Or.inr hxa)) b1
          · exact ⟨i1, Or.inl ⟨hm, bd⟩, r1, b1⟩
        · exact ⟨i1, Or.inr ⟨hsub _ hi1.1, hi1.2⟩, r1, b1⟩
      · simp at hj; subst hj
        exact Fr_up hw nf (Or.inr hxa)
    · rcases List.mem_append.1 hj with hj | hj
      · exact Fr_mono (Fr_drop (h.stale w hw1 j hj hja) (fun hh => ha hh.1)) (fun _ a => a) hsub
      · simp at hj; subst hj; exact absurd hja ha

theorem RInv_congr {c : Cfg} {k : Nat} {C : Cmd} {P rest new : List PM} {m m' : M}
    (h : RInv c k C P rest new m) (e1 : m'.active = m.active) (e2 : m'.delayed = m.delayed)
    (e3 : m'.waiting = m.waiting) (e4 : m'.st = m.st) : RInv c k C P rest new m' := by
  constructor
  · rw [e1]; exact h.act
  · rw [e4]; exact h.rest_ok
  · rw [e2, e4]; exact h.later_ok
  · rw [e3]; exact h.wait_ok
  · rw [e2, e3]; exact h.fr
  · rw [e2, e3]; exact h.stale

theorem RInv_outIf {c : Cfg} {k : Nat} {C : Cmd} {P rest new : List PM} {m : M} (b : Bool) (l : Line)
    (h : RInv c k C P rest new m) : RInv c k C P rest new (outIf m b l) := by
  obtain ⟨f1, f2, f3, f4⟩ := outIf_fields m b l
  exact RInv_congr h f1 f2 f3 f4

theorem Good_powerSt {c : Cfg} {C : Cmd} {st : St} {j : PM} (p : Nat) (h : Good C st j) :
    Good C (powerSt c st C p) j := by
  rcases h with h | ⟨h1, h2⟩
  · exact Or.inl h
  · cases C with
    | stat => exact Or.inl h1
    | on =>
      refine Or.inr ⟨h1, fun hwt => ?_⟩
      have := h2 hwt
      rw [isOn_powerSt_on]; simp at this ⊢; exact Or.inr this
    | off =>
      refine Or.inr ⟨h1, fun hwt => ?_⟩
      have := h2 hwt
      have hf : (Cmd.off == Cmd.on) = false := rfl
      rw [isOn_powerSt_off _ _ _ _ _ (by decide)]; rw [hf] at this ⊢; simp [this]

theorem Fr_replace {c : Cfg} {k : Nat} {i i' : PM} {rest later later' : List PM} {w : PM} {z : Option Nat}
    (h : Fr c k (i :: rest) later w z) (hp : i'.plug = i.plug) (hr : rem i' + 1 ≤ rem i) (hm : i' ∈ later')
    (hsub : ∀ j ∈ later, j ∈ later') : Fr c k rest later' w z := by
  obtain ⟨i0, hi, r, b⟩ := h
  rcases hi with ⟨a, bd⟩ | hi
  · rcases List.mem_cons.1 a with rfl | a
    · exact ⟨i', Or.inr ⟨hm, by rw [hp]; omega⟩, hp ▸ r, hp ▸ b⟩
    · exact ⟨i0, Or.inl ⟨a, bd⟩, r, b⟩
  · exact ⟨i0, Or.inr ⟨hsub _ hi.1, hi.2⟩, r, b⟩

theorem RInv_fresh {c : Cfg} (hw : WF c = true) {k : Nat} {C : Cmd} {P rest new : List PM} {i i' : PM} {m : M}
    (h : RInv c k C P (i :: rest) new m) (hc : i.cmd ≠ .stat) (hwt : i.waitState = false)
    (hi' : i' = { i with output := true, waitState := true }) :
    RInv c k C (P ++ [i]) rest new
      { m with st := powerSt c m.st i.cmd i.plug, delayed := m.delayed ++ [i'] } := by
  have hi := h.rest_ok i (by simp)
  have hC : i.cmd = C := by rcases hi.2 with e | e; exact absurd e hc; exact e.1
  have hri : rem i = 2 := by simp [rem, hc, hwt]
  have hri' : rem i' = 1 := by simp [rem, hc, hi']
  have hpl : i'.plug = i.plug := by simp [hi']
  have hcm : i'.cmd = i.cmd := by simp [hi']
  have hsub : ∀ j ∈ new ++ m.delayed, j ∈ new ++ (m.delayed ++ [i']) := by
    intro j hj
    rcases List.mem_append.1 hj with hj | hj
    · exact List.mem_append_left _ hj
    · exact List.mem_append_right _ (List.mem_append_left _ hj)
  have hmem : i' ∈ new ++ (m.delayed ++ [i']) := by simp
  clear hi'
  subst hC
  constructor
  · simp [h.act]
  · intro j hj
    have := h.rest_ok j (List.mem_cons_of_mem _ hj)
    exact ⟨this.1, Good_powerSt _ this.2⟩
  · intro j hj
    simp only [List.mem_append, List.mem_singleton] at hj
    rcases hj with hj | hj | hj
    · have := h.later_ok j (by simp [hj]); exact ⟨this.1, Good_powerSt _ this.2⟩
    · have := h.later_ok j (by simp [hj]); exact ⟨this.1, Good_powerSt _ this.2⟩
    · subst hj
      refine ⟨by omega, Or.inr ⟨hcm, fun _ => ?_⟩⟩
      rw [hpl]
      cases hcc : i.cmd with
      | stat => exact absurd hcc hc
      | on => rw [isOn_powerSt_on]; simp
      | off => rw [isOn_powerSt_off _ _ _ _ _ (by decide)]; simp
  · exact h.wait_ok
  · intro w hwm
    exact Fr_replace (i' := i') (h.fr w hwm) hpl (by omega) hmem hsub
  · intro w hwm j hj hja
    rcases List.mem_append.1 hj with hj | hj
    · exact Fr_replace (i' := i') (h.stale w hwm j hj hja) hpl (by omega) hmem hsub
    · simp at hj; subst hj
      obtain ⟨i0, hi0, r, _⟩ := h.fr w hwm
      rcases anc_comparable hw r hja with e | e | e
      · exact Fr_replace (i' := i') ⟨i0, hi0, r, Or.inl e⟩ hpl (by omega) hmem hsub
      · have := depth_anc_lt hw e
        have := rem_pos i0
        refine ⟨i', Or.inr ⟨hmem, ?_⟩, hpl ▸ hja, Or.inl hpl⟩
        rw [hpl]
        rcases hi0 with ⟨_, b⟩ | ⟨_, b⟩ <;> omega
      · exact Fr_replace (i' := i') ⟨i0, hi0, r, Or.inr e⟩ hpl (by omega) hmem hsub

theorem RInv_step {c : Cfg} (hw : WF c = true) {k : Nat} {C : Cmd} {P rest new : List PM} {i : PM} {m : M}
    (h : RInv c k C P (i :: rest) new m) :
    ∃ new', RInv c k C (P ++ [i]) rest new' (processOne c m i) := by
  by_cases hf : hostFails c i.plug = true
  · rw [processOne_fail _ _ _ hf]
    exact ⟨new, RInv_pw_off (RInv_outIf _ _ h) (by decide)⟩
  · have hf : hostFails c i.plug = false := by simpa using hf
    by_cases hc : i.cmd = .stat
    · rw [processOne_stat _ _ _ hf hc]
      generalize statStr c m i.plug = s
      by_cases hs : s = .on
      · subst hs; exact RInv_pw_on hw (RInv_outIf _ _ h)
      · exact ⟨new, RInv_pw_off (RInv_outIf _ _ h) hs⟩
    · cases hwt : i.waitState
      · rw [processOne_fresh _ _ _ hf hc hwt]
        exact ⟨new, RInv_fresh hw h hc hwt rfl⟩
      · rcases (h.rest_ok i (by simp)).2 with e | ⟨e1, e2⟩
        · exact absurd e hc
        · have hst := e2 hwt
          have hs : (statStr c m i.plug == .on) = (i.cmd == .on) := by
            unfold statStr; rw [hst, e1]; cases C <;> decide
          rw [processOne_done _ _ _ hf hc hwt hs]
          have h' : RInv c k C P (i :: rest) new { m with out := m.out ++ [.ok i.plug] } :=
            RInv_congr h rfl rfl rfl rfl
          generalize statStr c m i.plug = s
          by_cases hs : s = .on
          · subst hs; exact RInv_pw_on hw h'
          · exact ⟨new, RInv_pw_off h' hs⟩

/-- Invariant at the top of the shell loop (`RInv` with nothing processed yet): every in-flight message finishes
    within `k` rounds and every waiter is within reach of one, by the bound of `Fr`; at `k = 0` all three lists are
    empty (`SInv_zero`). -/
structure SInv (c : Cfg) (k : Nat) (C : Cmd) (m : M) : Prop where
  items : ∀ i ∈ m.active ++ m.delayed, rem i ≤ k ∧ Good C m.st i
  wait_ok : ∀ w ∈ m.waiting, (w.cmd = .stat ∨ w.cmd = C) ∧ w.waitState = false
  fr : ∀ w ∈ m.waiting, ∃ i ∈ m.active ++ m.delayed, i.plug ∈ ancUp c w.plug ∧
        rem i + 2 * depth c w.plug ≤ k + 2 * depth c i.plug

theorem RInv_fold {c : Cfg} (hw : WF c = true) {k : Nat} {C : Cmd} (rest : List PM) :
    ∀ (P new : List PM) (m : M), RInv c k C P rest new m →
    ∃ new', RInv c k C (P ++ rest) [] new' (rest.foldl (fun m pm => processOne c m pm) m) := by
  induction rest with
  | nil => intro P new m h; exact ⟨new, by simpa using h⟩
  | cons i rest ih =>
    intro P new m h
    obtain ⟨new', h'⟩ := RInv_step hw h
    obtain ⟨new'', h''⟩ := ih (P ++ [i]) new' _ h'
    exact ⟨new'', by simpa using h''⟩

/-- one trip round the shell loop, as in `runLoop` -/
def roundM (c : Cfg) (m : M) : M :=
  let m := { m with active := m.active ++ m.delayed, delayed := [] }
  let batch := m.active
  let m := batch.foldl (fun m pm => processOne c m pm) m
  { m with active := m.active.drop batch.length }

def isDone (m : M) : Bool := m.active.isEmpty && m.delayed.isEmpty && m.waiting.isEmpty

theorem runLoop_succ (c : Cfg) (f : Nat) (m : M) :
    runLoop c (f + 1) m = if isDone m then m else runLoop c f (roundM c m) := by
  rfl

theorem SInv_round {c : Cfg} (hw : WF c = true) {k : Nat} {C : Cmd} {m : M} (h : SInv c (k + 1) C m) :
    SInv c k C (roundM c m) := by
  have h0 : RInv c (k + 1) C [] (m.active ++ m.delayed) []
      { m with active := m.active ++ m.delayed, delayed := [] } := by
    constructor
    · simp
    · exact h.items
    · intro i hi; simp at hi
    · exact h.wait_ok
    · intro w hwm
      obtain ⟨i, hi, r, b⟩ := h.fr w hwm
      exact ⟨i, Or.inl ⟨hi, b⟩, r, trivial⟩
    · intro w _ j hj; simp at hj
  obtain ⟨new', h1⟩ := RInv_fold hw (m.active ++ m.delayed) [] [] _ h0
  simp only [List.nil_append] at h1
  unfold roundM
  simp only
  generalize List.foldl (fun m pm => processOne c m pm) { m with active := m.active ++ m.delayed, delayed := [] }
    (m.active ++ m.delayed) = m' at h1
  have hact := h1.act
  simp only [List.append_nil] at hact
  constructor
  · intro i hi
    simp only [hact, List.drop_left] at hi
    have := h1.later_ok i hi
    exact ⟨by omega, this.2⟩
  · exact h1.wait_ok
  · intro w hwm
    obtain ⟨i, hi, r, _⟩ := h1.fr w hwm
    simp only [hact, List.drop_left]
    rcases hi with ⟨hi, _⟩ | ⟨hi, b⟩
    · simp at hi
    · exact ⟨i, hi, r, by omega⟩

theorem SInv_zero {c : Cfg} {C : Cmd} {m : M} (h : SInv c 0 C m) : isDone m = true := by
  have ha : m.active ++ m.delayed = [] := by
    cases hl : m.active ++ m.delayed with
    | nil => rfl
    | cons i l =>
      have := (h.items i (by rw [hl]; simp)).1
      have := rem_pos i
      omega
  have hwt : m.waiting = [] := by
    cases hl : m.waiting with
    | nil => rfl
    | cons w l =>
      obtain ⟨i, hi, _⟩ := h.fr w (by rw [hl]; simp)
      rw [ha] at hi; simp at hi
  simp at ha
  simp [isDone, ha.1, ha.2, hwt]

theorem runLoop_done {c : Cfg} (hw : WF c = true) {C : Cmd} (k : Nat) : ∀ (f : Nat) (m : M), SInv c k C m → k < f →
    isDone (runLoop c f m) = true := by
  induction k with
  | zero =>
    intro f m h hf
    obtain ⟨f, rfl⟩ : ∃ g, f = g + 1 := ⟨f - 1, by omega⟩
    rw [runLoop_succ]; simp [SInv_zero h]
  | succ k ih =>
    intro f m h hf
    obtain ⟨f, rfl⟩ : ∃ g, f = g + 1 := ⟨f - 1, by omega⟩
    rw [runLoop_succ]
    by_cases hd : isDone m = true
    · simp [hd]
    · simp only [hd, Bool.false_eq_true, if_false]
      exact ih f _ (SInv_round hw h) (by omega)

end Pm.Redfish
