import Pm.LibPmModel
/-! glibc's `%d` / `strtol` and C strings at byte level.  `Pm/LibPmModel.lean` and `Pm/Serial.lean` both model them, with the same
    text for `isSpace`, `isDigit`, `digitsVal`, `toInt32` and `cstr`: the facts are shown here for the first copy, and
    `Pm/SerialProof.lean` takes them over by unfolding (`Pm/LexProof.lean` the one about strings without NUL). -/
namespace Pm.LibPmModel

theorem isDigit_iff (a : UInt8) : isDigit a = true ↔ 48 ≤ a.toNat ∧ a.toNat ≤ 57 := by
  simp [isDigit]

theorem isSpace_iff (a : UInt8) : isSpace a = true ↔ a.toNat = 32 ∨ (9 ≤ a.toNat ∧ a.toNat ≤ 13) := by
  unfold isSpace
  simp only [Bool.or_eq_true, beq_iff_eq, Bool.and_eq_true, decide_eq_true_eq]
  constructor
  · rintro (h | h)
    · subst h; left; rfl
    · right; exact h
  · rintro (h | h)
    · left; exact UInt8.toNat_inj.mp h
    · right; exact h

theorem toInt32_small (n : Nat) (h : n < 2147483648) : toInt32 (n : Int) = n := by
  unfold toInt32
  simp only
  have : ((n : Int) % 4294967296) = n := by omega
  rw [this]
  split
  · omega
  · rfl

theorem takeWhile_digits (ds rest : Bytes) (hd : ∀ d ∈ ds, isDigit d = true) (hr : ∀ x r, rest = x :: r → isDigit x = false) :
    List.takeWhile isDigit (ds ++ rest) = ds := by
  rw [List.takeWhile_append_of_pos (by simpa using hd)]
  cases rest with
  | nil => simp
  | cons x r => simp [hr x r rfl]

/-- a digit is neither white space nor a sign: both scanners take it as the first character of the number -/
theorem digit_plain (a : UInt8) (h : isDigit a = true) : isSpace a = false ∧ a ≠ 45 ∧ a ≠ 43 := by
  have ha := (isDigit_iff a).mp h
  refine ⟨?_, ?_, ?_⟩
  · rw [← Bool.not_eq_true, isSpace_iff]; omega
  · rintro rfl; simp at ha
  · rintro rfl; simp at ha

theorem cstr_append_of_nonul (a b : Bytes) (h : ∀ x ∈ a, x ≠ 0) : cstr (a ++ b) = a ++ cstr b := by
  unfold cstr
  rw [List.takeWhile_append_of_pos (by simpa using h)]

theorem cstr_of_nonul (a : Bytes) (h : ∀ x ∈ a, x ≠ 0) : cstr a = a := by
  have := cstr_append_of_nonul a [] h
  simpa [cstr] using this

theorem digit_ne_zero (d : UInt8) (h : isDigit d = true) : d ≠ 0 := by
  intro h0; subst h0; simp [isDigit] at h

end Pm.LibPmModel
