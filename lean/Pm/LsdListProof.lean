import Pm.LsdListAbs
/-! # What the list with cursors does

On `Abs` (`Pm/LsdListAbs.lean`) alone, pure list reasoning: what an iterator has still to return (`ahead`) under `list_next`,
under insertions and removals at any place; what `list_remove` would take (`removable`); `list_delete_all` and `list_find` in
closed form; the only way a call is undefined is misuse of an iterator handle (`Abs.apply_isSome`); no call moves an item from
behind an iterator to ahead of it (`Abs.apply_ahead`); an iterator left alone returns what is ahead of it (`Abs.run_next_drain`). -/

namespace Pm.LsdList
variable {α : Type}

theorem drop_succ_insertIdx_le : ∀ (l : List α) (f p : Nat) (x : α), f ≤ p → (l.insertIdx f x).drop (p + 1) = l.drop p
  | _, 0, _, _, _ => by simp
  | [], _ + 1, _, _, _ => by simp
  | _ :: _, f + 1, 0, _, h => absurd h (Nat.not_succ_le_zero f)
  | _ :: l, f + 1, p + 1, x, h => by
    rw [List.insertIdx_succ_cons, List.drop_succ_cons, List.drop_succ_cons]
    exact drop_succ_insertIdx_le l f p x (Nat.le_of_succ_le_succ h)

theorem drop_insertIdx_ge : ∀ (l : List α) (f p : Nat) (x : α), p ≤ f → f ≤ l.length →
    (l.insertIdx f x).drop p = (l.drop p).insertIdx (f - p) x
  | _, _, 0, _, _, _ => rfl
  | _, 0, p + 1, _, h, _ => absurd h (Nat.not_succ_le_zero p)
  | [], f + 1, _ + 1, _, _, hf => absurd hf (Nat.not_succ_le_zero f)
  | _ :: l, f + 1, p + 1, x, h, hf => by
    rw [List.insertIdx_succ_cons, List.drop_succ_cons, List.drop_succ_cons, Nat.add_sub_add_right]
    exact drop_insertIdx_ge l f p x (Nat.le_of_succ_le_succ h) (Nat.le_of_succ_le_succ hf)

theorem drop_eraseIdx_ge : ∀ (l : List α) (f p : Nat), p ≤ f → (l.eraseIdx f).drop p = (l.drop p).eraseIdx (f - p)
  | _, _, 0, _ => rfl
  | [], _, _ + 1, _ => by simp
  | _ :: _, 0, p + 1, h => absurd h (Nat.not_succ_le_zero p)
  | _ :: l, f + 1, p + 1, h => by
    rw [List.eraseIdx_cons_succ, List.drop_succ_cons, List.drop_succ_cons, Nat.add_sub_add_right]
    exact drop_eraseIdx_ge l f p (Nat.le_of_succ_le_succ h)

theorem take_eraseIdx_le : ∀ (l : List α) (f p : Nat), p ≤ f → (l.eraseIdx f).take p = l.take p
  | _, _, 0, _ => rfl
  | [], _, _ + 1, _ => rfl
  | _ :: _, 0, p + 1, h => absurd h (Nat.not_succ_le_zero p)
  | x :: l, f + 1, p + 1, h => congrArg (x :: ·) (take_eraseIdx_le l f p (Nat.le_of_succ_le_succ h))

theorem take_eraseIdx_lt : ∀ (l : List α) (f p : Nat), f < p → (l.eraseIdx f).take (p - 1) = (l.take p).eraseIdx f
  | [], _, _, _ => by simp
  | _ :: _, _, 0, h => absurd h (Nat.not_lt_zero _)
  | _ :: _, 0, _ + 1, _ => rfl
  | _ :: _, f + 1, 1, h => absurd (Nat.lt_of_succ_lt_succ h) (Nat.not_lt_zero f)
  | x :: l, f + 1, p + 2, h => congrArg (x :: ·) (take_eraseIdx_lt l f (p + 1) (Nat.lt_of_succ_lt_succ h))

theorem drop_eraseIdx_le : ∀ (l : List α) (f p : Nat), f ≤ p → (l.eraseIdx f).drop p = l.drop (p + 1)
  | [], _, _, _ => by simp
  | _ :: _, 0, _, _ => rfl
  | _ :: _, f + 1, 0, h => absurd h (Nat.not_succ_le_zero f)
  | _ :: l, f + 1, p + 1, h => by
    rw [List.eraseIdx_cons_succ, List.drop_succ_cons, List.drop_succ_cons]
    exact drop_eraseIdx_le l f p (Nat.le_of_succ_le_succ h)

theorem lookup_map_snd {β γ : Type} (f : β → γ) : ∀ (l : List (Nat × β)) (k : Nat),
    (l.map (fun ki => (ki.1, f ki.2))).lookup k = (l.lookup k).map f := by
  intro l k
  induction l with
  | nil => simp
  | cons a rest ih =>
    obtain ⟨k', v'⟩ := a
    simp only [List.map_cons, List.lookup_cons]
    cases k == k' <;> simp [ih]

theorem lookup_map_set {β : Type} (k k' : Nat) (v : β) : ∀ (l : List (Nat × β)),
    (l.map (fun kc => if kc.1 = k then (k, v) else kc)).lookup k' =
      if k' = k then (l.lookup k).map (fun _ => v) else l.lookup k' := by
  intro l
  induction l with
  | nil => simp
  | cons a rest ih =>
    obtain ⟨k0, v0⟩ := a
    by_cases e0 : k0 = k
    · subst e0
      simp only [List.map_cons, if_true, List.lookup_cons, ih, beq_self_eq_true, Option.map_some]
      by_cases e : k' = k0
      · subst e; simp
      · have : (k' == k0) = false := by simpa using e
        simp [e, this]
    · have e1 : (k == k0) = false := by simpa using Ne.symm e0
      simp only [List.map_cons, e0, if_false, List.lookup_cons, ih, e1]
      by_cases e : k' = k0
      · subst e; simp [e0]
      · have : (k' == k0) = false := by simpa using e
        simp only [this]

theorem lookup_eraseP_ne {β : Type} (k k' : Nat) (hne : k ≠ k') : ∀ (l : List (Nat × β)),
    (l.eraseP (fun kc => kc.1 == k')).lookup k = l.lookup k := by
  intro l
  induction l with
  | nil => simp
  | cons a rest ih =>
    obtain ⟨k0, v0⟩ := a
    rw [List.eraseP_cons]
    by_cases e : k0 = k'
    · subst e
      have e1 : (k == k0) = false := by simpa using hne
      simp [List.lookup_cons, e1]
    · have e2 : (k0 == k') = false := by simpa using e
      simp only [e2, cond_false, List.lookup_cons, ih]

/-! ### how indices move: the arithmetic of the two cursor maps, once -/

theorem curCreate_shift {f j g : Nat} (hg : g ≤ 1) (hp : j + g ≠ f) :
    (if f ≤ j then j + 1 else j) + g = if f ≤ j + g then j + g + 1 else j + g := by
  split <;> split <;> omega

theorem curCreate_le {f j g n : Nat} (h : j + g ≤ n) : (if f ≤ j then j + 1 else j) + g ≤ n + 1 := by
  split <;> omega

theorem curDestroy_shift {f j g : Nat} (hg : g ≤ 1) (hjf : j ≠ f) :
    (if f < j then j - 1 else j) + g = if f < j + g then j + g - 1 else j + g := by
  split <;> split <;> omega

theorem curDestroy_le {f j g n : Nat} (hg : g ≤ 1) (hle : j + g ≤ n) (hf : f < n) (hjf : j ≠ f) :
    (if f < j then j - 1 else j) + g ≤ n - 1 := by
  split <;> omega

theorem curDestroy_pos (i j : Nat) (g : Bool) :
    (curDestroy i (j, g)).1 + (curDestroy i (j, g)).2.toNat = if i < j + g.toNat then j + g.toNat - 1 else j + g.toNat := by
  have hg1 : g.toNat ≤ 1 := by cases g <;> simp
  unfold curDestroy
  by_cases h1 : j + g.toNat = i ∨ j = i
  · rw [if_pos h1]
    show i + 0 = _
    split <;> omega
  · have hs := curDestroy_shift (f := i) hg1 (fun e => h1 (.inr e))
    rw [if_neg h1]
    by_cases h2 : i < j
    · rw [if_pos h2] at hs ⊢; exact hs
    · rw [if_neg h2] at hs ⊢; exact hs

/-! ## what an iterator has still to return -/

theorem Abs.curOf_setCur (a : Abs α) (k k' : Nat) (c : Nat × Bool) :
    (a.setCur k c).curOf k' = if k' = k then (a.curOf k).map (fun _ => c) else a.curOf k' :=
  lookup_map_set k k' c a.curs

theorem Abs.next_curOf (a : Abs α) (k : Nat) (r : Option α) (a' : Abs α) (h : a.next k = some (r, a')) : (a'.curOf k).isSome := by
  unfold Abs.next at h
  cases hc : a.curOf k with
  | none => simp [hc] at h
  | some c =>
    simp only [hc, Option.map_some, Option.some.injEq, Prod.mk.injEq] at h
    rw [← h.2, Abs.curOf_setCur, if_pos rfl, hc]; rfl

theorem Abs.curOf_createAt (a : Abs α) (f : Nat) (x : α) (k : Nat) : (a.createAt f x).curOf k = (a.curOf k).map (curCreate f) := by
  unfold Abs.curOf Abs.createAt
  exact lookup_map_snd (curCreate f) a.curs k

theorem Abs.curOf_destroyAt (a : Abs α) (f : Nat) (k : Nat) : (a.destroyAt f).curOf k = (a.curOf k).map (curDestroy f) := by
  unfold Abs.curOf Abs.destroyAt
  exact lookup_map_snd (curDestroy f) a.curs k

theorem Abs.remove_cases {a a' : Abs α} {k : Nat} {r : Option α} (h : a.remove k = some (r, a')) :
    a' = a ∨ ∃ f, a' = a.destroyAt f := by
  obtain ⟨c, -, e⟩ := Option.map_eq_some_iff.mp h
  by_cases hc : c.2 = true
  · rw [if_pos hc] at e
    cases e
    exact .inr ⟨_, rfl⟩
  · rw [if_neg hc] at e
    cases e
    exact .inl rfl

theorem Abs.remove_fdel (a : Abs α) (k : Nat) (r : Option α) (a' : Abs α) (h : a.remove k = some (r, a')) : a'.fdel = a.fdel := by
  rcases Abs.remove_cases h with rfl | ⟨f, rfl⟩ <;> rfl

theorem Abs.pop_items (a : Abs α) : a.pop.1 = a.items.head? ∧ a.pop.2.items = a.items.tail := by
  unfold Abs.pop
  cases h : a.items with
  | nil => simp [h]
  | cons x xs => simp [Abs.destroyAt, h]

theorem Abs.ahead_length_le (a : Abs α) (k : Nat) : (a.ahead k).length ≤ a.items.length := by
  unfold Abs.ahead
  split
  · rw [List.length_drop]; exact Nat.sub_le _ _
  · exact Nat.zero_le _

theorem Abs.behind_length_le (a : Abs α) (k : Nat) : (a.behind k).length ≤ a.items.length := by
  unfold Abs.behind
  split
  · exact List.length_take_le' _ _
  · exact Nat.zero_le _

theorem Abs.behind_getElem? (a : Abs α) (k : Nat) {i : Nat} {d : α} (hd : a.items[i]? = some d) :
    (a.behind k)[i]? = some d ∨ (a.behind k).length ≤ i := by
  unfold Abs.behind
  cases a.curOf k with
  | none => exact .inr (Nat.zero_le _)
  | some c =>
    by_cases h : i < c.1 + c.2.toNat
    · exact .inl ((List.getElem?_take_of_lt h).trans hd)
    · exact .inr (Nat.le_trans (List.length_take_le _ _) (Nat.le_of_not_lt h))

/-- **`list_next`** returns the first item the iterator has still to return (`NULL` when there is none), that item is then
    behind the iterator, the list is unchanged, and no other iterator moves. -/
theorem Abs.next_spec (a : Abs α) (k : Nat) (h : (a.curOf k).isSome) :
    ∃ a', a.next k = some ((a.ahead k).head?, a') ∧ a'.items = a.items ∧ a'.ahead k = (a.ahead k).tail ∧
      a'.removable k = (a.ahead k).head? ∧ ∀ k', k' ≠ k → a'.curOf k' = a.curOf k' := by
  obtain ⟨⟨j, g⟩, hc⟩ := Option.isSome_iff_exists.mp h
  have hcur : (a.setCur k (if g then j + 1 else j, decide (j + g.toNat < a.items.length))).curOf k =
      some (if g then j + 1 else j, decide (j + g.toNat < a.items.length)) := by
    rw [Abs.curOf_setCur, if_pos rfl, hc]; rfl
  refine ⟨a.setCur k (if g then j + 1 else j, decide (j + g.toNat < a.items.length)),
    by simp [Abs.next, Abs.ahead, hc], rfl, ?_, ?_, fun k' hne => by rw [Abs.curOf_setCur, if_neg hne]⟩
  · simp only [Abs.ahead, hcur, hc]
    show List.drop _ a.items = _
    by_cases hlt : j + g.toNat < a.items.length
    · have hd : decide (j + g.toNat < a.items.length) = true := by simpa using hlt
      simp only [hd, List.tail_drop]
      cases g <;> rfl
    · have hd : decide (j + g.toNat < a.items.length) = false := by simpa using hlt
      simp only [hd, List.tail_drop]
      rw [List.drop_eq_nil_of_le (by cases g <;> simp at hlt ⊢ <;> omega), List.drop_eq_nil_of_le (by omega)]
  · simp only [Abs.removable, Abs.ahead, hcur, hc]
    show (if decide (j + g.toNat < a.items.length) = true then a.items[if g = true then j + 1 else j]? else none) = _
    by_cases hlt : j + g.toNat < a.items.length
    · have hd : decide (j + g.toNat < a.items.length) = true := by simpa using hlt
      simp only [hd, if_true, List.head?_drop]
      cases g <;> rfl
    · have hd : decide (j + g.toNat < a.items.length) = false := by simpa using hlt
      simp only [hd, List.head?_drop]
      simp [List.getElem?_eq_none (Nat.le_of_not_lt hlt)]

/-- **insertion at gap `f`** (`list_append`: `f` = length, `list_prepend`: 0, `list_insert` by an iterator: that iterator's
    own gap), seen from an iterator with cursor `(j, g)`: when `f ≤ j` the new item is behind it and what it has still to
    return is unchanged; when `f > j` the new item is ahead, at its place. -/
theorem Abs.ahead_createAt (a : Abs α) (f : Nat) (x : α) (k j : Nat) (g : Bool) (hc : a.curOf k = some (j, g))
    (hf : f ≤ a.items.length) :
    (a.createAt f x).ahead k = if f ≤ j then a.ahead k else (a.ahead k).insertIdx (f - (j + g.toNat)) x := by
  have hg1 : g.toNat ≤ 1 := by cases g <;> simp
  simp only [Abs.ahead, Abs.curOf_createAt, hc, Option.map_some, curCreate]
  show List.drop _ (a.items.insertIdx f x) = _
  by_cases h : f ≤ j
  · simp only [h, if_true]
    rw [Nat.add_right_comm]
    exact drop_succ_insertIdx_le _ _ _ _ (by omega)
  · simp only [h, if_false]
    exact drop_insertIdx_ge _ _ _ _ (by omega) hf

/-- **removal of the item at index `f`** (`list_pop` / `list_dequeue`: 0, `list_remove` by an iterator, `list_delete_all`),
    seen from an iterator whose next item has index `p = j + g`: an item behind it (`f < p`) leaves what it has still to return
    unchanged; an item ahead of it disappears from there. -/
theorem Abs.ahead_destroyAt (a : Abs α) (f : Nat) (k j : Nat) (g : Bool) (hc : a.curOf k = some (j, g)) :
    (a.destroyAt f).ahead k = if f < j + g.toNat then a.ahead k else (a.ahead k).eraseIdx (f - (j + g.toNat)) := by
  simp only [Abs.ahead, Abs.curOf_destroyAt, hc, Option.map_some]
  show List.drop _ (a.items.eraseIdx f) = _
  rw [curDestroy_pos]
  by_cases h : f < j + g.toNat
  · rw [if_pos h, if_pos h, drop_eraseIdx_le _ _ _ (Nat.le_sub_one_of_lt h), Nat.sub_add_cancel (Nat.zero_lt_of_lt h)]
  · rw [if_neg h, if_neg h]
    exact drop_eraseIdx_ge _ _ _ (Nat.le_of_not_lt h)

theorem Abs.behind_destroyAt (a : Abs α) (f k : Nat) : (a.destroyAt f).behind k = (a.behind k).eraseIdx f := by
  unfold Abs.behind
  rw [Abs.curOf_destroyAt]
  cases a.curOf k with
  | none => rfl
  | some c =>
    show (a.items.eraseIdx f).take ((curDestroy f (c.1, c.2)).1 + (curDestroy f (c.1, c.2)).2.toNat) = _
    rw [curDestroy_pos]
    by_cases h : f < c.1 + c.2.toNat
    · rw [if_pos h]
      exact take_eraseIdx_lt a.items f _ h
    · rw [if_neg h, List.eraseIdx_of_length_le (Nat.le_trans (List.length_take_le _ _) (Nat.le_of_not_lt h))]
      exact take_eraseIdx_le a.items f _ (Nat.le_of_not_lt h)

/-- insertion never changes what `list_remove` would take -/
theorem Abs.removable_createAt (a : Abs α) (f : Nat) (x : α) (k : Nat) :
    (a.createAt f x).removable k = a.removable k := by
  simp only [Abs.removable, Abs.curOf_createAt]
  cases hc : a.curOf k with
  | none => rfl
  | some c =>
    obtain ⟨j, g⟩ := c
    simp only [Option.map_some, curCreate]
    cases g with
    | false => rfl
    | true =>
      show (a.items.insertIdx f x)[if f ≤ j then j + 1 else j]? = a.items[j]?
      rw [List.getElem?_insertIdx]
      by_cases h : f ≤ j
      · have h1 : ¬ j + 1 < f := by omega
        have h2 : ¬ j + 1 = f := by omega
        simp [h, h1, h2]
      · have h1 : j < f := by omega
        simp [h, h1]

/-- removal of the item at index `f` makes an iterator forget the item it returned last when that item is the one removed
    (`f = j`) — **and also when the item after it is removed** (`f = j + 1`); otherwise it is kept -/
theorem Abs.removable_destroyAt (a : Abs α) (f : Nat) (k j : Nat) (hc : a.curOf k = some (j, true)) :
    (a.destroyAt f).removable k = if f = j ∨ f = j + 1 then none else a.removable k := by
  simp only [Abs.removable, Abs.curOf_destroyAt, hc, Option.map_some, curDestroy]
  by_cases h1 : f = j
  · subst h1; simp
  · by_cases h2 : f = j + 1
    · subst h2; simp
    · have h3 : ¬ j + true.toNat = f := by simp; omega
      have h4 : ¬ j = f := fun e => h1 e.symm
      simp only [h3, h4, or_self, if_false, h1, h2]
      by_cases h5 : f < j
      · simp only [h5, if_true]
        show (a.items.eraseIdx f)[j - 1]? = a.items[j]?
        have h6 : ¬ j - 1 < f := by omega
        have h7 : j - 1 + 1 = j := by omega
        simp [List.getElem?_eraseIdx, h6, h7]
      · simp only [h5, if_false]
        show (a.items.eraseIdx f)[j]? = a.items[j]?
        have h6 : j < f := by omega
        simp [List.getElem?_eraseIdx, h6]

/-! ## `list_delete_all` is `filter`, also for what an iterator has still to return -/

/-- one step of `list_delete_all` at gap `i`, on the whole list or on what is behind an iterator (a prefix, which may end
    before `i`): a marked item taken away at `i` is an item filtered out -/
theorem keep_eraseIdx {f : α → Bool} {l : List α} {i : Nat} {d : α} (hl : l[i]? = some d ∨ l.length ≤ i) (hfd : f d = true) :
    (l.eraseIdx i).take i ++ ((l.eraseIdx i).drop i).filter (fun x => !f x) = l.take i ++ (l.drop i).filter (fun x => !f x) := by
  rcases hl with h | h
  · obtain ⟨hk, hdk⟩ := List.getElem?_eq_some_iff.mp h
    rw [take_eraseIdx_le l i i (Nat.le_refl i), drop_eraseIdx_le l i i (Nat.le_refl i), List.drop_eq_getElem_cons hk, hdk,
      List.filter_cons_of_neg (by rw [hfd]; decide)]
  · rw [List.eraseIdx_of_length_le h]

theorem keep_succ {f : α → Bool} {l : List α} {i : Nat} {d : α} (hl : l[i]? = some d ∨ l.length ≤ i) (hfd : f d = false) :
    l.take (i + 1) ++ (l.drop (i + 1)).filter (fun x => !f x) = l.take i ++ (l.drop i).filter (fun x => !f x) := by
  rcases hl with h | h
  · obtain ⟨hk, hdk⟩ := List.getElem?_eq_some_iff.mp h
    rw [List.take_succ_eq_append_getElem hk, List.drop_eq_getElem_cons hk, hdk, List.filter_cons_of_pos (by rw [hfd]; rfl),
      List.append_assoc]
    rfl
  · rw [List.take_of_length_le h, List.take_of_length_le (Nat.le_succ_of_le h), List.drop_eq_nil_of_le h,
      List.drop_eq_nil_of_le (Nat.le_succ_of_le h)]

/-- **`list_delete_all` on the list with cursors**, from gap `i` on: with enough fuel the walk ends; it removes exactly the
    items `f` accepts and keeps the others in order, counts them, and hands them to the deletion function in order; what is
    behind an iterator is filtered in the same way as the whole list -/
theorem Abs.deleteAllFrom_spec (f : α → Bool) :
    ∀ (fuel : Nat) (a : Abs α) (i n : Nat) (del : List α), a.items.length - i < fuel →
      ∃ a', Abs.deleteAllFrom f fuel a i n del =
          some (n + (a.items.drop i).countP f, del ++ (if a.fdel then (a.items.drop i).filter f else []), a') ∧
        a'.items = a.items.take i ++ (a.items.drop i).filter (fun x => !f x) ∧ a'.fdel = a.fdel ∧
        ∀ k, (a'.curOf k).isSome = (a.curOf k).isSome ∧
          a'.behind k = (a.behind k).take i ++ ((a.behind k).drop i).filter (fun x => !f x) := by
  intro fuel a i n del
  induction fuel, a, i, n, del using Abs.deleteAllFrom.induct f with
  | case1 => intro h; omega
  | case2 fuel a i n del hd =>
    intro _
    have hk := List.getElem?_eq_none_iff.mp hd
    refine ⟨a, by simp [Abs.deleteAllFrom, hd, List.drop_eq_nil_of_le hk], by simp [List.drop_eq_nil_of_le hk, List.take_of_length_le hk], rfl,
      fun k => ⟨rfl, ?_⟩⟩
    have hb : (a.behind k).length ≤ i := Nat.le_trans (a.behind_length_le k) hk
    rw [List.take_of_length_le hb, List.drop_eq_nil_of_le hb]
    exact (List.append_nil _).symm
  | case3 fuel a i n del d hd hfd ih =>
    intro hfuel
    obtain ⟨hk, hdk⟩ := List.getElem?_eq_some_iff.mp hd
    obtain ⟨a', e, hi, hf, hcur⟩ := ih (by simp [Abs.destroyAt, List.length_eraseIdx, hk]; omega)
    have e1 : (a.destroyAt i).items.drop i = a.items.drop (i + 1) := drop_eraseIdx_le a.items i i (Nat.le_refl i)
    have e3 : (a.destroyAt i).fdel = a.fdel := rfl
    rw [e1, e3] at e
    refine ⟨a', ?_, hi.trans (keep_eraseIdx (.inl hd) hfd), hf, fun k => ⟨?_, ?_⟩⟩
    · rw [Abs.deleteAllFrom]
      simp only [hd, hfd, if_true, e, List.drop_eq_getElem_cons hk, hdk, List.countP_cons_of_pos hfd, List.filter_cons_of_pos hfd]
      cases a.fdel <;> simp <;> omega
    · rw [(hcur k).1, Abs.curOf_destroyAt, Option.isSome_map]
    · rw [(hcur k).2, Abs.behind_destroyAt]
      exact keep_eraseIdx (a.behind_getElem? k hd) hfd
  | case4 fuel a i n del d hd hfd ih =>
    intro hfuel
    obtain ⟨hk, hdk⟩ := List.getElem?_eq_some_iff.mp hd
    obtain ⟨a', e, hi, hf, hcur⟩ := ih (by omega)
    refine ⟨a', ?_, hi.trans (keep_succ (.inl hd) (Bool.eq_false_iff.mpr hfd)), hf,
      fun k => ⟨(hcur k).1, (hcur k).2.trans (keep_succ (a.behind_getElem? k hd) (Bool.eq_false_iff.mpr hfd))⟩⟩
    rw [Abs.deleteAllFrom]
    simp only [hd, hfd, Bool.false_eq_true, if_false, e, List.drop_eq_getElem_cons hk, hdk, List.countP_cons_of_neg hfd, List.filter_cons_of_neg hfd]

/-- **`list_delete_all (l, f, key)`** removes exactly the items `f` accepts, keeps the others in order, returns their number,
    and calls the deletion function (when there is one) on exactly the removed items, in order. -/
theorem Abs.deleteAll_spec (a : Abs α) (f : α → Bool) :
    ∃ a', a.deleteAll f = some (a.items.countP f, if a.fdel then a.items.filter f else [], a') ∧
      a'.items = a.items.filter (fun x => !f x) ∧ a'.fdel = a.fdel := by
  obtain ⟨a', e, hi, hf, -⟩ := Abs.deleteAllFrom_spec f (a.items.length + 1) a 0 0 [] (by omega)
  exact ⟨a', by simpa [Abs.deleteAll] using e, by simpa using hi, hf⟩

/-- **`list_delete_all` under a live iterator**: afterwards the iterator has still to return exactly the surviving items it
    had still to return, in order. -/
theorem Abs.deleteAll_ahead (a : Abs α) (f : α → Bool) (k : Nat) (hk : (a.curOf k).isSome) (r : Nat × List α × Abs α)
    (h : a.deleteAll f = some r) : (r.2.2.curOf k).isSome ∧ r.2.2.ahead k = (a.ahead k).filter (fun x => !f x) := by
  obtain ⟨a', e, hi, -, hcur⟩ := Abs.deleteAllFrom_spec f (a.items.length + 1) a 0 0 [] (by omega)
  cases (show some r = some _ from h.symm.trans e)
  obtain ⟨hs, hb⟩ := hcur k
  refine ⟨hs.trans hk, ?_⟩
  -- behind and ahead make up the list, before and after; the list and what is behind are both filtered
  have h1 := a'.behind_append_ahead k (hs.trans hk)
  rw [hi, hb, ← a.behind_append_ahead k hk] at h1
  exact List.append_cancel_left (h1.trans (List.filter_append ..))

/-! ## `list_find` in closed form -/

theorem Abs.find_spec (f : α → Bool) (k : Nat) :
    ∀ (fuel : Nat) (a : Abs α), (a.curOf k).isSome → (a.ahead k).length < fuel →
      ∃ a', Abs.find f fuel a k = some ((a.ahead k).find? f, a') ∧ a'.items = a.items ∧
        a'.ahead k = ((a.ahead k).dropWhile (fun x => !f x)).tail ∧ (a'.curOf k).isSome ∧
        ∀ k', k' ≠ k → a'.curOf k' = a.curOf k' := by
  intro fuel
  induction fuel with
  | zero => intro a _ h; omega
  | succ fuel ih =>
    intro a hk hfuel
    obtain ⟨a1, e, hitems, hah, _, ho⟩ := Abs.next_spec a k hk
    have hk1 := Abs.next_curOf a k _ _ e
    rw [Abs.find, e]
    cases hx : a.ahead k with
    | nil =>
      rw [hx] at hah
      exact ⟨a1, by simp, hitems, by simp [hah], hk1, ho⟩
    | cons v rest =>
      rw [hx] at hah hfuel
      simp only [List.head?_cons, List.tail_cons] at hah ⊢
      by_cases hf : f v = true
      · exact ⟨a1, by simp [hf], hitems, by simp [hf, hah], hk1, ho⟩
      · have hf' : f v = false := by simpa using hf
        obtain ⟨a2, e2, hi2, ha2, hk2, ho2⟩ := ih a1 hk1 (by rw [hah]; simp at hfuel; omega)
        refine ⟨a2, ?_, by rw [hi2, hitems], ?_, hk2, fun k' hne => (ho2 k' hne).trans (ho k' hne)⟩
        · simp only [hf', Bool.false_eq_true, if_false, e2, hah, List.find?_cons]
        · rw [ha2, hah]; simp [hf']

/-- **`list_find (i, f, key)`** with the fuel `Op.find` gives it: it returns the first item the callback accepts among those
    the iterator has still to return (`NULL` when there is none), and the iterator has then still to return what follows that
    item; no other iterator moves. -/
theorem Abs.findOp_spec (a : Abs α) (k : Nat) (f : α → Bool) (hk : (a.curOf k).isSome) :
    ∃ a', a.findOp k f = some ((a.ahead k).find? f, a') ∧ a'.items = a.items ∧
      a'.ahead k = ((a.ahead k).dropWhile (fun x => !f x)).tail ∧ (a'.curOf k).isSome ∧
      ∀ k', k' ≠ k → a'.curOf k' = a.curOf k' :=
  Abs.find_spec f k _ a hk (Nat.lt_succ_of_le (Nat.le_succ_of_le (a.ahead_length_le k)))

/-! ## handle discipline: the only way a call can be undefined -/

theorem Abs.apply_isSome (a : Abs α) (op : Op α) : (a.apply op).isSome = a.okOp op := by
  cases op with
  | deleteAll f =>
    obtain ⟨a', e, _⟩ := Abs.deleteAll_spec a f
    simp [Abs.apply, Abs.okOp, e]
  | find k f =>
    cases hc : a.curOf k with
    | none => simp [Abs.apply, Abs.okOp, Abs.findOp, Abs.find, Abs.next, hc]
    | some c =>
      obtain ⟨a', hr, -⟩ := a.findOp_spec k f (by rw [hc]; rfl)
      simp [Abs.apply, Abs.okOp, hr, hc]
  | itCreate k => cases hc : a.curOf k <;> simp [Abs.apply, Abs.okOp, hc]
  | itReset k => cases hc : a.curOf k <;> simp [Abs.apply, Abs.okOp, Abs.itReset, hc]
  | itDestroy k => cases hc : a.curOf k <;> simp [Abs.apply, Abs.okOp, Abs.itDestroy, hc]
  | next k => cases hc : a.curOf k <;> simp [Abs.apply, Abs.okOp, Abs.next, hc]
  | insert k x => cases hc : a.curOf k <;> simp [Abs.apply, Abs.okOp, Abs.insert, hc]
  | remove k => cases hc : a.curOf k <;> simp [Abs.apply, Abs.okOp, Abs.remove, hc]
  | delete k => cases hc : a.curOf k <;> simp [Abs.apply, Abs.okOp, Abs.delete, Abs.remove, hc]
  | _ => simp [Abs.apply, Abs.okOp]

theorem Abs.run_isSome : ∀ (ops : List (Op α)) (a : Abs α), a.okRun ops → (a.run ops).isSome = true := by
  intro ops
  induction ops with
  | nil => intro a _; rfl
  | cons op ops ih =>
    intro a h
    obtain ⟨h1, h2⟩ := h
    rw [← Abs.apply_isSome] at h1
    obtain ⟨⟨r, a'⟩, e⟩ := Option.isSome_iff_exists.mp h1
    have := ih a' (h2 r a' e)
    obtain ⟨x, hx⟩ := Option.isSome_iff_exists.mp this
    simp [Abs.run, e, hx]

/-! ## no call moves an item from behind an iterator to ahead of it -/

/-- every cursor lies within the list -/
def Abs.Wf (a : Abs α) : Prop := ∀ k c, a.curOf k = some c → c.1 + c.2.toNat ≤ a.items.length

/-- from `a` to `a'` nothing has moved from behind the iterator `k` to ahead of it, apart from the items `ins` -/
def Abs.NoBack (k : Nat) (ins : List α) (a a' : Abs α) : Prop :=
  (a'.curOf k).isSome ∧ ∀ y ∈ a'.ahead k, y ∈ a.ahead k ∨ y ∈ ins

theorem Abs.NoBack.trans {k : Nat} {ins : List α} {a a1 a2 : Abs α} (h1 : Abs.NoBack k ins a a1) (h2 : Abs.NoBack k [] a1 a2) :
    Abs.NoBack k ins a a2 :=
  ⟨h2.1, fun y hy => (h2.2 y hy).elim (h1.2 y) (nomatch ·)⟩

theorem Abs.NoBack.of_eq {k : Nat} {ins : List α} {a a' : Abs α} (hk : (a.curOf k).isSome) (hc : a'.curOf k = a.curOf k)
    (hi : a'.items = a.items) : Abs.NoBack k ins a a' :=
  ⟨hc ▸ hk, fun y hy => .inl (by simpa only [Abs.ahead, hc, hi] using hy)⟩

theorem Abs.NoBack.createAt {k : Nat} {a : Abs α} (hk : (a.curOf k).isSome) {f : Nat} (x : α) (hf : f ≤ a.items.length) :
    Abs.NoBack k [x] a (a.createAt f x) := by
  obtain ⟨⟨j, g⟩, hc⟩ := Option.isSome_iff_exists.mp hk
  refine ⟨by simp [Abs.curOf_createAt, hc], ?_⟩
  intro y hy
  rw [Abs.ahead_createAt a f x k j g hc hf] at hy
  by_cases hfj : f ≤ j
  · rw [if_pos hfj] at hy; exact .inl hy
  · rw [if_neg hfj] at hy
    by_cases hle : f - (j + g.toNat) ≤ (a.ahead k).length
    · exact ((List.mem_insertIdx hle).mp hy).symm.imp_right (by simp [·])
    · rw [List.insertIdx_of_length_lt (by omega)] at hy
      exact .inl hy

theorem Abs.NoBack.destroyAt {k : Nat} {ins : List α} {a : Abs α} (hk : (a.curOf k).isSome) (f : Nat) :
    Abs.NoBack k ins a (a.destroyAt f) := by
  obtain ⟨⟨j, g⟩, hc⟩ := Option.isSome_iff_exists.mp hk
  refine ⟨by simp [Abs.curOf_destroyAt, hc], ?_⟩
  intro y hy
  rw [Abs.ahead_destroyAt a f k j g hc] at hy
  by_cases hfj : f < j + g.toNat
  · rw [if_pos hfj] at hy; exact .inl hy
  · rw [if_neg hfj] at hy; exact .inl (List.mem_of_mem_eraseIdx hy)

theorem Abs.NoBack.next {k k' : Nat} {ins : List α} {a a' : Abs α} {r : Option α} (hk : (a.curOf k).isSome)
    (h : a.next k' = some (r, a')) : Abs.NoBack k ins a a' := by
  have hk' : (a.curOf k').isSome := by
    cases hc : a.curOf k' with
    | none => simp [Abs.next, hc] at h
    | some c => rfl
  obtain ⟨a1, e, hitems, hah, _, hoth⟩ := Abs.next_spec a k' hk'
  rw [e] at h
  cases h
  by_cases hkk : k = k'
  · subst hkk
    exact ⟨Abs.next_curOf a k _ _ e, fun y hy => .inl (List.mem_of_mem_tail (hah ▸ hy))⟩
  · exact .of_eq hk (hoth k hkk) hitems

theorem Abs.NoBack.remove {k k' : Nat} {ins : List α} {a a' : Abs α} {r : Option α} (hk : (a.curOf k).isSome)
    (h : a.remove k' = some (r, a')) : Abs.NoBack k ins a a' := by
  rcases Abs.remove_cases h with rfl | ⟨f, rfl⟩
  · exact .of_eq hk rfl rfl
  · exact .destroyAt hk f

/-- **no call moves an item from behind an iterator to ahead of it**: after any call that does not restart the iterator `k`
    (`list_iterator_reset` of it, `list_sort`), everything `k` has still to return was already ahead of it before the call, or
    is the item this very call inserted.  (`list_next` on `k` takes the first of them away: `Abs.next_spec`.) -/
theorem Abs.apply_ahead (a : Abs α) (hw : a.Wf) (op : Op α) (k : Nat) (r : Res α) (a' : Abs α) (h : a.apply op = some (r, a'))
    (hk : (a.curOf k).isSome) (hr : op.restarts k = false) : Abs.NoBack k op.inserted a a' := by
  have same : Abs.NoBack k op.inserted a a := .of_eq hk rfl rfl
  have hpop : Abs.NoBack k [] a a.pop.2 := by
    unfold Abs.pop
    cases a.items[0]? with
    | none => exact .of_eq hk rfl rfl
    | some v => exact .destroyAt hk 0
  cases op with
  | append x => cases h; exact .createAt hk x (Nat.le_refl _)
  | enqueue x => cases h; exact .createAt hk x (Nat.le_refl _)
  | prepend x => cases h; exact .createAt hk x (Nat.zero_le _)
  | push x => cases h; exact .createAt hk x (Nat.zero_le _)
  | pop => cases h; exact hpop
  | dequeue => cases h; exact hpop
  | peek => cases h; exact same
  | isEmpty => cases h; exact same
  | count => cases h; exact same
  | findFirst f => cases h; exact same
  | forEach f => cases h; exact same
  | deleteAll f =>
    obtain ⟨x, hd, e⟩ := Option.map_eq_some_iff.mp h
    cases e
    obtain ⟨hs, ha⟩ := Abs.deleteAll_ahead a f k hk x hd
    exact ⟨hs, fun y hy => .inl (List.mem_filter.mp (ha ▸ hy)).1⟩
  | sort cmp => simp [Op.restarts] at hr
  | itCreate k' =>
    have hne : (k == k') = false := by
      cases hkk : k == k' with
      | false => rfl
      | true => rw [eq_of_beq hkk] at hr; simp [Op.restarts] at hr
    simp only [Abs.apply] at h
    by_cases hc : (a.curOf k').isSome = true
    · rw [if_pos hc] at h; cases h
    · rw [if_neg hc] at h
      cases h
      exact .of_eq hk (by simp [Abs.itCreate, Abs.curOf, List.lookup_cons, hne]) rfl
  | itReset k' =>
    have hne : ¬ k = k' := by intro e; subst e; simp [Op.restarts] at hr
    obtain ⟨a1, h1, e⟩ := Option.map_eq_some_iff.mp h
    obtain ⟨c, -, rfl⟩ := Option.map_eq_some_iff.mp h1
    cases e
    exact .of_eq hk (by rw [Abs.curOf_setCur, if_neg hne]) rfl
  | itDestroy k' =>
    have hne : ¬ k = k' := by intro e; subst e; simp [Op.restarts] at hr
    obtain ⟨a1, h1, e⟩ := Option.map_eq_some_iff.mp h
    obtain ⟨c, -, rfl⟩ := Option.map_eq_some_iff.mp h1
    cases e
    exact .of_eq hk (lookup_eraseP_ne k k' hne a.curs) rfl
  | next k' =>
    obtain ⟨⟨v, a1⟩, hn, e⟩ := Option.map_eq_some_iff.mp h
    cases e
    exact .next hk hn
  | insert k' x =>
    obtain ⟨a1, h1, e⟩ := Option.map_eq_some_iff.mp h
    obtain ⟨c, hc, rfl⟩ := Option.map_eq_some_iff.mp h1
    cases e
    exact .createAt hk x (Nat.le_trans (Nat.le_add_right _ _) (hw k' c hc))
  | find k' f =>
    obtain ⟨⟨v, a1⟩, hn, e⟩ := Option.map_eq_some_iff.mp h
    cases e
    have hk' : (a.curOf k').isSome := (Abs.apply_isSome a (.find k' f)).symm.trans (by rw [h]; rfl)
    obtain ⟨a2, e2, hi, ha, hs, ho⟩ := a.findOp_spec k' f hk'
    rw [e2] at hn
    cases hn
    by_cases hkk : k = k'
    · subst hkk
      exact ⟨hs, fun y hy => .inl ((List.dropWhile_sublist _).subset (List.mem_of_mem_tail (ha ▸ hy)))⟩
    · exact .of_eq hk (ho k hkk) hi
  | remove k' =>
    obtain ⟨⟨v, a1⟩, h1, e⟩ := Option.map_eq_some_iff.mp h
    cases e
    exact .remove hk h1
  | delete k' =>
    obtain ⟨⟨n, dl, a1⟩, h1, e⟩ := Option.map_eq_some_iff.mp h
    obtain ⟨⟨v, a2⟩, h2, e2⟩ := Option.map_eq_some_iff.mp h1
    cases e
    have ha : a1 = a2 := by cases v <;> cases e2 <;> rfl
    exact ha ▸ .remove hk h2

theorem Abs.run_next_drain (k : Nat) : ∀ (n : Nat) (a : Abs α), (a.curOf k).isSome →
    ∃ a', a.run (List.replicate n (Op.next k)) = some ((List.range n).map (fun i => Res.item (a.ahead k)[i]?), a') ∧
      a'.items = a.items ∧ a'.ahead k = (a.ahead k).drop n ∧ (a'.curOf k).isSome := by
  intro n
  induction n with
  | zero => intro a hk; exact ⟨a, rfl, rfl, by simp, hk⟩
  | succ n ih =>
    intro a hk
    obtain ⟨a1, e, hitems, hah, _, _⟩ := Abs.next_spec a k hk
    have hk1 := Abs.next_curOf a k _ _ e
    obtain ⟨a2, e2, hitems2, hah2, hk2⟩ := ih a1 hk1
    refine ⟨a2, ?_, by rw [hitems2, hitems], by rw [hah2, hah, List.drop_tail], hk2⟩
    simp only [List.replicate_succ, Abs.run, Abs.apply, e, Option.map_some, e2]
    rw [List.range_succ_eq_map]
    simp only [List.map_cons, List.map_map, hah, List.head?_eq_getElem?]
    congr 2
    congr 1
    apply List.map_congr_left
    intro i _
    simp [List.getElem?_tail]

end Pm.LsdList
