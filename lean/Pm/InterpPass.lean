import Pm.InterpSim
/-! C08, section B: the micro-steps of `Pm/InterpSim.lean` are what `innerLoop`, `onRun` and `processActionF`
    (the mirror of `_process_action`) really do with the action at the head of the queue. -/
namespace Pm.Dev2.Interp

/-- nesting depth of the statement the action stands at -/
def topDepth (a : Action) : Nat :=
  match a.exec with
  | e :: _ => ((e.block[e.pos]?).map depthS).getD 0
  | [] => 0

theorem depthB_getElem (l : List Stmt) (i : Nat) (s : Stmt) (hs : l[i]? = some s) : depthS s ≤ depthB l := by
  induction l generalizing i with
  | nil => simp at hs
  | cons x xs ih =>
    cases i with
    | zero => simp at hs; subst hs; simp only [depthB]; omega
    | succ j => have := ih j (by simpa using hs); simp only [depthB]; omega

theorem depthS_each (s : Stmt) (n : Bool) (b : List Stmt) (hk : s.kind = .each n b) : depthS s = depthB b + 1 := by
  rw [kind_each hk]; cases n <;> simp [depthS]

theorem depthS_cond (s : Stmt) (w : Bool) (b : List Stmt) (hk : s.kind = .cond w b) : depthS s = depthB b + 1 := by
  rw [kind_cond hk]; cases w <;> simp [depthS]

theorem depthS_leaf (s : Stmt) (hk : s.kind = .leaf) : depthS s = 0 := by
  cases s <;> simp [Stmt.kind] at hk <;> simp [depthS]

theorem topDepth_of (a : Action) (e : ExecCtx) (rest : List ExecCtx) (s : Stmt) (hex : a.exec = e :: rest)
    (hcur : e.block[e.pos]? = some s) : topDepth a = depthS s := by
  simp [topDepth, hex, hcur]

theorem topDepth_body (a : Action) (b : List Stmt) (pl : Option (List Plug)) (rest : List ExecCtx)
    (hex : a.exec = bodyCtx b pl :: rest) : topDepth a ≤ depthB b := by
  simp only [topDepth, hex, bodyCtx]
  cases h : b[0]? with
  | none => simp
  | some s => simpa using depthB_getElem b 0 s h

theorem mrun_succ_running (now : Time) (n : Nat) (d : Dev) (a : Action) (o : Oracle) (acc : List Out)
    (hne : a.exec ≠ []) (h : (mstep now d a o).status = .running) :
    mrun now (n + 1) d a o acc =
      mrun now n (mstep now d a o).dev (mstep now d a o).act (mstep now d a o).oracle (acc ++ (mstep now d a o).out) := by
  have : a.exec.isEmpty = false := by simpa using hne
  rw [mrun]; simp [this, h]

theorem mrun_succ_stop (now : Time) (n : Nat) (d : Dev) (a : Action) (o : Oracle) (acc : List Out)
    (hne : a.exec ≠ []) (h : (mstep now d a o).status ≠ .running) :
    mrun now (n + 1) d a o acc =
      ⟨(mstep now d a o).dev, (mstep now d a o).act, (mstep now d a o).oracle, acc ++ (mstep now d a o).out,
        (mstep now d a o).status⟩ := by
  have : a.exec.isEmpty = false := by simpa using hne
  rw [mrun]; simp [this, h]

theorem mrun_done (now : Time) (n : Nat) (d : Dev) (a : Action) (o : Oracle) (acc : List Out) (h : a.exec = []) :
    mrun now (n + 1) d a o acc = ⟨d, a, o, acc, .done⟩ := by
  rw [mrun]; simp [h]

/-- one turn of the `do … while` that goes round again: a micro-step without output, the configuration stays well-formed,
    and the new top stands at a statement nested less deeply -/
structure PushedTurn (R : Bool) (dp : List Plug) (now : Time) (d : Dev) (a : Action) (o : Oracle) : Prop where
  dev : (processStmt d a o now).dev = d
  oracle : (processStmt d a o now).oracle = o
  out : (processStmt d a o now).out = []
  mstep : mstep now d a o = ⟨d, (processStmt d a o now).act, o, [], .running⟩
  inv : Inv R dp d (processStmt d a o now).act
  ne : (processStmt d a o now).act.exec ≠ []
  depth : topDepth (processStmt d a o now).act < topDepth a

theorem pushed_turn (R : Bool) (dp : List Plug) (now : Time) (d : Dev) (a : Action) (o : Oracle) (hinv : Inv R dp d a)
    (hne : a.exec ≠ []) (hpu : pushed d a o now = true) : PushedTurn R dp now d a o := by
  cases hex : a.exec with
  | nil => exact absurd hex hne
  | cons e rest =>
    obtain ⟨s, hcur⟩ := getElem?_some_of_lt (hinv.ok.headPos (by rw [hex]; rfl))
    unfold pushed at hpu
    simp only [Bool.and_eq_true, decide_eq_true_eq] at hpu
    -- the statement that pushed is a `foreach` or an `if`, and the new top stands in its body
    obtain ⟨p1, p2, p3, _, b, pl, x, hx, hk⟩ := (processStmt_step (d := d) (o := o) (now := now) hex hcur).push hex hpu.2
    have p5 : topDepth (processStmt d a o now).act < topDepth a := by
      have := topDepth_body _ b pl x hx
      have hd : depthS s = depthB b + 1 := hk.elim (fun ⟨n, hk⟩ => depthS_each s n b hk) fun ⟨w, hk⟩ => depthS_cond s w b hk
      rw [topDepth_of a e rest s hex hcur]; omega
    have hm := mstep_push now d a o hpu.1 hpu.2
    rw [p1, p2, p3] at hm
    have hkeep := (mstep_sim R dp now d a o hne hinv).2
    rw [hm] at hkeep
    refine ⟨p1, p2, p3, hm, hkeep (Or.inl rfl), ?_, p5⟩
    intro h; rw [h] at hpu; simp at hpu

theorem nopush_of_depth0 (R : Bool) (dp : List Plug) (now : Time) (d : Dev) (a : Action) (o : Oracle) (hinv : Inv R dp d a)
    (hne : a.exec ≠ []) (h0 : topDepth a ≤ 0) : pushed d a o now = false := by
  cases hpu : pushed d a o now with
  | false => rfl
  | true => have := (pushed_turn R dp now d a o hinv hne hpu).depth; omega

theorem innerLoop_pushed (now : Time) (fuel : Nat) (d : Dev) (a : Action) (o : Oracle) (acc : List Out)
    (h : pushed d a o now = true) :
    innerLoop now (fuel + 1) d a o acc =
      innerLoop now fuel (processStmt d a o now).dev (processStmt d a o now).act (processStmt d a o now).oracle
        (acc ++ (processStmt d a o now).out) := by
  rw [innerLoop]; unfold pushed at h; simp only [h, ↓reduceIte]

/-- the `do … while` of `_process_action`: some pushes — each a micro-step that the run function takes too, without any
    output — and then one statement that pushes nothing; every fuel that covers the nesting depth of the statement the action
    stands at gives that result (`loopBound a` does: `topDepth_le`) -/
theorem innerLoop_settles (R : Bool) (dp : List Plug) (now : Time) : ∀ (n : Nat) (d : Dev) (a : Action) (o : Oracle),
    Inv R dp d a → a.exec ≠ [] → topDepth a ≤ n →
    ∃ j a1,
      (∀ m acc', mrun now (m + j) d a o acc' = mrun now m d a1 o acc') ∧
      Inv R dp d a1 ∧ a1.exec ≠ [] ∧ a1.timeStamp = a.timeStamp ∧ a1.com = a.com ∧ a1.clientId = a.clientId ∧
      pushed d a1 o now = false ∧
      ∀ fuel acc, topDepth a ≤ fuel →
        innerLoop now fuel d a o acc = { processStmt d a1 o now with out := acc ++ (processStmt d a1 o now).out } := by
  intro n
  induction n with
  | zero =>
    intro d a o hinv hne hdep
    have hnp := nopush_of_depth0 R dp now d a o hinv hne hdep
    exact ⟨0, a, fun _ _ => rfl, hinv, hne, rfl, rfl, rfl, hnp, fun fuel acc _ => innerLoop_nopush now fuel d a o acc hnp⟩
  | succ n ih =>
    intro d a o hinv hne hdep
    cases hpu : pushed d a o now with
    | false => exact ⟨0, a, fun _ _ => rfl, hinv, hne, rfl, rfl, rfl, hpu, fun fuel acc _ => innerLoop_nopush now fuel d a o acc hpu⟩
    | true =>
      obtain ⟨p1, p2, p3, hm, hinv1, hne1, hdep1⟩ := pushed_turn R dp now d a o hinv hne hpu
      have hfrm := mstep_frame now d a o
      rw [hm] at hfrm
      obtain ⟨j, a1, h1, h2, h3, h4, h5, h6, h7, h8⟩ := ih d (processStmt d a o now).act o hinv1 hne1 (by omega)
      refine ⟨j + 1, a1, ?_, h2, h3, h4.trans hfrm.timeStamp, h5.trans hfrm.com, h6.trans hfrm.clientId, h7, ?_⟩
      · intro m acc'
        rw [← Nat.add_assoc, mrun_succ_running now (m + j) d a o acc' hne (by rw [hm]), hm]
        simp only [List.append_nil]
        exact h1 m acc'
      · intro fuel acc hf
        cases fuel with
        | zero => omega
        | succ f => rw [innerLoop_pushed now f d a o acc hpu, p1, p2, p3, List.append_nil]; exact h8 f acc (by omega)

theorem innerLoop_trip (R : Bool) (dp : List Plug) (now : Time) (fuel : Nat) (d : Dev) (a : Action) (o : Oracle)
    (acc : List Out) (hinv : Inv R dp d a) (hne : a.exec ≠ []) (hdep : topDepth a ≤ fuel) :
    ∃ j a1,
      (∀ n acc', mrun now (n + j) d a o acc' = mrun now n d a1 o acc') ∧
      Inv R dp d a1 ∧ a1.exec ≠ [] ∧ a1.timeStamp = a.timeStamp ∧ a1.com = a.com ∧ a1.clientId = a.clientId ∧
      pushed d a1 o now = false ∧
      innerLoop now fuel d a o acc = { processStmt d a1 o now with out := acc ++ (processStmt d a1 o now).out } := by
  obtain ⟨j, a1, h1, h2, h3, h4, h5, h6, h7, h8⟩ := innerLoop_settles R dp now fuel d a o hinv hne hdep
  exact ⟨j, a1, h1, h2, h3, h4, h5, h6, h7, h8 fuel acc hdep⟩

theorem innerLoop_fuel_irrelevant (R : Bool) (dp : List Plug) (now : Time) (f1 f2 : Nat) (d : Dev) (a : Action)
    (o : Oracle) (acc : List Out) (hinv : Inv R dp d a) (hne : a.exec ≠ []) (h1 : topDepth a ≤ f1) (h2 : topDepth a ≤ f2) :
    innerLoop now f1 d a o acc = innerLoop now f2 d a o acc := by
  obtain ⟨_, _, _, _, _, _, _, _, _, h⟩ := innerLoop_settles R dp now f1 d a o hinv hne h1
  rw [h f1 acc h1, h f2 acc h2]

/-! ### the queue field of the device is not looked at by any statement -/

def withActsM (X : List Action) (m : MR) : MR := { m with dev := { m.dev with acts := X } }

theorem acts_mstep (X : List Action) (now : Time) (d : Dev) (a : Action) (o : Oracle) :
    mstep now { d with acts := X } a o = withActsM X (mstep now d a o) := by
  unfold mstep
  rw [Login2.processStmt_acts]
  obtain ⟨rd, ra, ro, rout, rfin⟩ := processStmt d a o now
  simp only [Login2.withActs, apply_ite (withActsM X)]
  rfl

theorem acts_mrun (X : List Action) (now : Time) : ∀ (n : Nat) (d : Dev) (a : Action) (o : Oracle) (acc : List Out),
    mrun now n { d with acts := X } a o acc = withActsM X (mrun now n d a o acc) := by
  intro n
  induction n with
  | zero => intro d a o acc; rfl
  | succ n ih =>
    intro d a o acc
    rw [mrun, mrun, acts_mstep]
    split
    · rfl
    · have h1 : (withActsM X (mstep now d a o)).status = (mstep now d a o).status := rfl
      simp only [h1]
      split
      · exact ih _ _ _ _
      · rfl

/-- what `_process_action` makes of the run of the head action: `rest` is the queue behind it, `left` the time to its
    deadline, `fuel'` the loop fuel left for the actions behind it -/
def headResult (rest : List Action) (c : CS) (tmo : Option Time) (left : Time) (fuel' : Nat) (m : MR) : PA :=
  match m.status with
  | .aborted => ({ c with dev := { m.dev with acts := m.act :: rest }, aborted := true }, m.oracle, m.out, tmo)
  | .stalled => ({ c with dev := { m.dev with acts := m.act :: rest } }, m.oracle, m.out,
      upd (match m.dev.wake with | some w => upd tmo w | none => tmo) left)
  | .failed => failAll rest { c with dev := m.dev } m.act m.oracle m.out tmo
  | .done =>
    processActionF fuel'
      { c with dev := { m.dev with acts := rest, loggedIn := m.dev.loggedIn || m.act.com == 0,
                                    statActions := m.dev.statActions + 1, xmStr := none, xmResult := false, xmUsed := false } }
      m.oracle (m.out ++ (if m.act.clientId != 0 then [Out.finish m.act.clientId .success] else [])) tmo
  | .running => ({ c with dev := { m.dev with acts := m.act :: rest }, aborted := true }, m.oracle,
      m.out ++ [Out.abortAssert "model: fuel exhausted"], tmo)

theorem headResult_acts (rest : List Action) (c : CS) (tmo : Option Time) (left : Time) (fuel' : Nat) (X : List Action) (m : MR) :
    headResult rest c tmo left fuel' (withActsM X m) = headResult rest c tmo left fuel' m := by
  unfold headResult withActsM
  cases m.status <;> rfl

theorem headResult_dev (rest : List Action) (c : CS) (tmo : Option Time) (left : Time) (fuel' : Nat) (D : Dev) (m : MR) :
    headResult rest { c with dev := D } tmo left fuel' m = headResult rest c tmo left fuel' m := by
  unfold headResult
  cases m.status <;> rfl

/-- `mstep` when nothing was pushed, as the cascade `onRun` goes through -/
theorem mstep_of_nopush (now : Time) (d : Dev) (a : Action) (o : Oracle) (h : pushed d a o now = false) :
    mstep now d a o =
      if hasAbort (processStmt d a o now).out then
        ⟨(processStmt d a o now).dev, (processStmt d a o now).act, (processStmt d a o now).oracle, (processStmt d a o now).out, .aborted⟩
      else if !(processStmt d a o now).finished then
        ⟨(processStmt d a o now).dev, (processStmt d a o now).act, (processStmt d a o now).oracle, (processStmt d a o now).out, .stalled⟩
      else if (processStmt d a o now).act.errnum == .success then
        ⟨(processStmt d a o now).dev, advance (processStmt d a o now).act, (processStmt d a o now).oracle, (processStmt d a o now).out, .running⟩
      else ⟨(processStmt d a o now).dev, (processStmt d a o now).act, (processStmt d a o now).oracle, (processStmt d a o now).out, .failed⟩ := by
  unfold pushed at h
  unfold mstep
  simp only [h, Bool.false_eq_true, ↓reduceIte]

/-- the fuel `onRun` gives the `do … while` covers every push the statement the action stands at can cause -/
theorem topDepth_le (a : Action) : topDepth a ≤ loopBound a := by
  unfold loopBound
  cases hex : a.exec with
  | nil => simp [topDepth, hex]
  | cons e rest =>
    rw [topCtx_of_exec a e rest hex]
    cases hcur : e.block[e.pos]? with
    | none => simp [topDepth, hex, hcur]
    | some s =>
      rw [topDepth_of a e rest s hex hcur]
      have := depthB_getElem e.block e.pos s hcur
      omega

theorem wake_none_eq (d : Dev) (h : d.wake = none) : { d with wake := none } = d := by
  cases d; simp_all

/-- what is assumed of the pass when the head action is run: the pass goes on, the device is connected, the action has
    its time stamp and is within its time-out, `wake` is clear, the configuration is well-formed -/
structure HeadOK (R : Bool) (dp : List Plug) (c : CS) (a : Action) : Prop where
  nab : c.aborted = false
  wake : c.dev.wake = none
  conn : c.dev.conn = 2
  stamped : a.timeStamp.isSome = true
  inTime : c.env.now < a.timeStamp.getD c.env.now + c.dev.timeout
  inv : Inv R dp c.dev a
  ne : a.exec ≠ []

def timeLeft (c : CS) (a : Action) : Time := a.timeStamp.getD c.env.now + c.dev.timeout - c.env.now

/-- What `onRun_refines_k` assumes of the loop `processActionF fuelk` it hands the queue on to when the head action goes on to its
    next statement: started on any state whose queue is again `a' :: rest` in the running situation, it computes what `headResult`
    makes of a run of `a'`.  `restOK` proves it for every `fuelk`, by induction with `onRun_refines_k` as the step. -/
def RestOK (R : Bool) (dp : List Plug) (fuelk : Nat) (rest : List Action) (tmo : Option Time) : Prop :=
  ∀ (c' : CS) (a' : Action) (o' : Oracle) (out' : List Out), HeadOK R dp c' a' → c'.dev.acts = a' :: rest →
    ∃ N' fuel', processActionF fuelk c' o' out' tmo =
      headResult rest c' tmo (timeLeft c' a') fuel' (mrun c'.env.now N' c'.dev a' o' out')

/-- One turn of `_process_action` for the head action, given `RestOK` for the turns that follow.  The `do … while` is some pushes
    and one statement that pushes nothing (`innerLoop_trip`): the pushes are micro-steps of the run (`j` of them), and what
    `onRun` does with that statement's answer — assertion, not finished, failed, script finished, next statement — is the case
    analysis of `mstep` (`mstep_of_nopush`) followed by `headResult`; only "next statement" goes round the loop again, with the
    action advanced and `HeadOK` kept. -/
theorem onRun_refines_k (R : Bool) (dp : List Plug) (fuelk : Nat) (rest : List Action) (tmo : Option Time)
    (hk : RestOK R dp fuelk rest tmo) (c : CS) (a : Action) (o : Oracle) (out : List Out) (h : HeadOK R dp c a) :
    ∃ N fuel', onRun (processActionF fuelk) rest c a o out tmo (timeLeft c a) =
      headResult rest c tmo (timeLeft c a) fuel' (mrun c.env.now N c.dev a o out) := by
  obtain ⟨j, a1, h1, h2, h3, h4, h5, h6, h7, h8⟩ :=
    innerLoop_trip R dp c.env.now (loopBound a) c.dev a o [] h.inv h.ne (topDepth_le a)
  have hm := mstep_of_nopush c.env.now c.dev a1 o h7
  have hkeep := (mstep_sim R dp c.env.now c.dev a1 o h3 h2).2
  have hfrm := mstep_frame c.env.now c.dev a1 o
  have hpf := (processStmt_spec c.dev a1 o c.env.now).writes
  have hwk := processStmt_wake c.dev a1 o c.env.now
  have htmo : (processStmt c.dev a1 o c.env.now).dev.timeout = c.dev.timeout := by rw [hpf.dev]
  unfold onRun
  simp only [wake_none_eq c.dev h.wake, h8, List.nil_append]
  generalize processStmt c.dev a1 o c.env.now = r at *
  by_cases hab : hasAbort r.out = true
  · -- an assertion of the daemon
    simp only [hab, ↓reduceIte] at hm ⊢
    refine ⟨1 + j, 0, ?_⟩
    rw [h1 1 out, mrun_succ_stop c.env.now 0 c.dev a1 o out h3 (by rw [hm]; simp), hm]
    rfl
  · simp only [hab, Bool.false_eq_true, ↓reduceIte] at hm ⊢
    by_cases hfin : r.finished = true
    · simp only [hfin, Bool.not_true, Bool.false_eq_true, ↓reduceIte] at hm ⊢
      by_cases herr : (r.act.errnum == ActErr.success) = true
      · simp only [herr, ↓reduceIte] at hm ⊢
        rw [hm] at hkeep hfrm
        simp only [true_or, forall_const] at hkeep
        by_cases hemp : (advance r.act).exec.isEmpty = true
        · -- the action is complete
          simp only [hemp, ↓reduceIte]
          refine ⟨2 + j, fuelk, ?_⟩
          rw [h1 2 out, mrun_succ_running c.env.now 1 c.dev a1 o out h3 (by rw [hm]), hm]
          rw [mrun_done _ _ _ _ _ _ (by simpa using hemp)]
          simp only [headResult, List.append_assoc]
        · -- on to its next statement
          simp only [hemp, Bool.false_eq_true, ↓reduceIte]
          have hne' : (advance r.act).exec ≠ [] := by simpa using hemp
          have hts : (advance r.act).timeStamp = a.timeStamp := by rw [hfrm.timeStamp, h4]
          have hok' : HeadOK R dp { c with dev := { r.dev with acts := advance r.act :: rest } } (advance r.act) :=
            { nab := h.nab
              wake := by simp only; rw [hwk hfin]; exact h.wake
              conn := by simp only; rw [hpf.conn]; exact h.conn
              stamped := by rw [hts]; exact h.stamped
              inTime := by simp only; rw [hts, htmo]; exact h.inTime
              inv := ⟨hkeep.ranged, hkeep.plugs, hkeep.ok, hkeep.err⟩
              ne := hne' }
          obtain ⟨N', fuel', hN⟩ := hk _ (advance r.act) r.oracle (out ++ r.out) hok' rfl
          refine ⟨N' + (1 + j), fuel', ?_⟩
          rw [hN, ← Nat.add_assoc, h1 (N' + 1) out, mrun_succ_running c.env.now N' c.dev a1 o out h3 (by rw [hm]), hm]
          simp only
          have hacts := acts_mrun (advance r.act :: rest) c.env.now N' r.dev (advance r.act) r.oracle (out ++ r.out)
          rw [hacts, headResult_acts, headResult_dev]
          have : timeLeft { c with dev := { r.dev with acts := advance r.act :: rest } } (advance r.act) = timeLeft c a := by
            simp only [timeLeft]; rw [hts, htmo]
          rw [this]
      · -- the statement failed the action
        simp only [herr, Bool.false_eq_true, ↓reduceIte] at hm ⊢
        refine ⟨1 + j, 0, ?_⟩
        rw [h1 1 out, mrun_succ_stop c.env.now 0 c.dev a1 o out h3 (by rw [hm]; simp), hm]
        rfl
    · -- the statement did not finish
      simp only [hfin, Bool.not_false, ↓reduceIte] at hm ⊢
      refine ⟨1 + j, 0, ?_⟩
      rw [h1 1 out, mrun_succ_stop c.env.now 0 c.dev a1 o out h3 (by rw [hm]; simp), hm]
      rfl

theorem acts_self (d : Dev) (X : List Action) (h : d.acts = X) : { d with acts := X } = d := by
  cases d; simp_all

theorem stamp_of_some (now : Time) (a : Action) (h : a.timeStamp.isSome = true) : stamp now a = a := by
  unfold stamp
  have : a.timeStamp.isNone = false := by cases h' : a.timeStamp <;> simp_all
  simp [this]

/-- `processActionF` on a queue whose head is to be run: pass not aborted, device connected, the action (stamped now if it
    was not) within its time-out -/
theorem processActionF_run (fuel : Nat) (c : CS) (a : Action) (rest : List Action) (o : Oracle) (out : List Out)
    (tmo : Option Time) (hnab : c.aborted = false) (hacts : c.dev.acts = a :: rest) (hconn : c.dev.conn = 2)
    (hin : c.env.now < (stamp c.env.now a).timeStamp.getD c.env.now + c.dev.timeout) :
    processActionF (fuel + 1) c o out tmo =
      onRun (processActionF fuel) rest c (stamp c.env.now a) o out tmo (timeLeft c (stamp c.env.now a)) := by
  rw [processActionF, processActionBody]
  simp only [hnab, Bool.false_eq_true, ↓reduceIte, hacts]
  have h1 : ¬ (c.env.now ≥ (stamp c.env.now a).timeStamp.getD c.env.now + c.dev.timeout) := by
    unfold Time at *; omega
  simp only [h1, ↓reduceIte, hconn, timeLeft]
  rfl

/-- … in the running situation: the action has its stamp -/
theorem processActionF_head (fuel : Nat) (c : CS) (a : Action) (rest : List Action) (o : Oracle) (out : List Out)
    (tmo : Option Time) (R : Bool) (dp : List Plug) (h : HeadOK R dp c a) (hacts : c.dev.acts = a :: rest) :
    processActionF (fuel + 1) c o out tmo = onRun (processActionF fuel) rest c a o out tmo (timeLeft c a) := by
  have hs := stamp_of_some c.env.now a h.stamped
  have := processActionF_run fuel c a rest o out tmo h.nab hacts h.conn (by rw [hs]; exact h.inTime)
  rwa [hs] at this

theorem restOK (R : Bool) (dp : List Plug) (rest : List Action) (tmo : Option Time) :
    ∀ fuelk, RestOK R dp fuelk rest tmo := by
  intro fuelk
  induction fuelk with
  | zero =>
    intro c' a' o' out' h hacts
    refine ⟨0, 0, ?_⟩
    simp only [processActionF, mrun, headResult]
    rw [acts_self c'.dev _ hacts]
  | succ f ih =>
    intro c' a' o' out' h hacts
    rw [processActionF_head f c' a' rest o' out' tmo R dp h hacts]
    exact onRun_refines_k R dp f rest tmo ih c' a' o' out' h

/-- C08, one pass of `_process_action`: for the action at the head of the queue, in the running situation, what the
    mirror computes is what `headResult` makes of a run of micro-steps of that action -/
theorem pass_is_run (R : Bool) (dp : List Plug) (fuel : Nat) (c : CS) (a : Action) (rest : List Action) (o : Oracle)
    (out : List Out) (tmo : Option Time) (h : HeadOK R dp c a) (hacts : c.dev.acts = a :: rest) :
    ∃ N fuel', processActionF fuel c o out tmo =
      headResult rest c tmo (timeLeft c a) fuel' (mrun c.env.now N c.dev a o out) :=
  restOK R dp rest tmo fuel c a o out h hacts

theorem onRun_wake (k : CS → Oracle → List Out → Option Time → PA) (rest : List Action) (c : CS) (a : Action)
    (o : Oracle) (out : List Out) (tmo : Option Time) (left : Time) :
    onRun k rest c a o out tmo left = onRun k rest { c with dev := { c.dev with wake := none } } a o out tmo left := by
  unfold onRun; rfl

theorem stamp_stamped (now : Time) (a : Action) : (stamp now a).timeStamp.isSome = true := by
  unfold stamp; split
  · rfl
  · rename_i h; cases h' : a.timeStamp <;> simp_all

theorem stamp_fields (now : Time) (a : Action) : (stamp now a).exec = a.exec ∧ (stamp now a).com = a.com ∧
    (stamp now a).errnum = a.errnum ∧ info (stamp now a) = info a := by
  unfold stamp; split <;> simp [info]

theorem mrun_com (now : Time) : ∀ (n : Nat) (d : Dev) (a : Action) (o : Oracle) (acc : List Out),
    (mrun now n d a o acc).act.com = a.com := by
  intro n
  induction n with
  | zero => intro d a o acc; rfl
  | succ n ih =>
    intro d a o acc
    rw [mrun]
    have hf := (mstep_frame now d a o).com
    split
    · rfl
    · split
      · rw [ih, hf]
      · exact hf

/-- the machine state at the end of a reference run: the reference's device, oracle, output and outcome, and the action
    `a'` the machine holds -/
def asMR (fr : FR) (a' : Action) : MR := ⟨fr.dev, a', fr.oracle, fr.out, fr.status⟩

/-- **C08, refinement.**  One pass of `_process_action` over a queue whose head `a0` is to be run (pass not aborted,
    device connected, action within its time-out) and is well-formed: what the mirror computes is what `headResult`
    makes of a run of the *loop-free reference* on the flat program the action's context stack denotes — same device
    state, same regex-oracle consumption, same output records in the same order, same outcome (stalled / failed /
    completed / daemon assertion / model fuel) — and the action left in the queue again denotes what the reference has
    left of the program. -/
theorem pass_refines (R : Bool) (dp : List Plug) (fuel : Nat) (c : CS) (a0 : Action) (rest : List Action) (o : Oracle)
    (out : List Out) (tmo : Option Time)
    (hnab : c.aborted = false) (hacts : c.dev.acts = a0 :: rest) (hconn : c.dev.conn = 2)
    (hin : c.env.now < (stamp c.env.now a0).timeStamp.getD c.env.now + c.dev.timeout)
    (hinv : Inv R dp c.dev a0) (hne : a0.exec ≠ []) :
    ∃ k fuel' a',
      let fr := frun c.env.now k { c.dev with wake := none } (info a0) o (abs R dp a0.exec) out
      processActionF (fuel + 1) c o out tmo =
        headResult rest c tmo (timeLeft c (stamp c.env.now a0)) fuel' (asMR fr a') ∧
      fr.info = info a' ∧ a'.com = a0.com ∧
      (fr.status = .stalled ∨ fr.status = .done ∨ fr.status = .running →
        fr.f = abs R dp a'.exec ∧ Inv R dp fr.dev a') := by
  obtain ⟨s1, s2, s3, s4⟩ := stamp_fields c.env.now a0
  have hok : HeadOK R dp { c with dev := { c.dev with wake := none } } (stamp c.env.now a0) :=
    { nab := hnab, wake := rfl, conn := hconn, stamped := stamp_stamped _ _, inTime := hin
      inv := ⟨by rw [s2]; exact hinv.ranged, hinv.plugs, by rw [s1]; exact hinv.ok, by rw [s3]; exact hinv.err⟩
      ne := by rw [s1]; exact hne }
  -- the first iteration of the loop, by hand: the action is stamped and `wake` is cleared
  have hfirst : processActionF (fuel + 1) c o out tmo =
      onRun (processActionF fuel) rest { c with dev := { c.dev with wake := none } } (stamp c.env.now a0) o out tmo
        (timeLeft c (stamp c.env.now a0)) := by
    rw [← onRun_wake]; exact processActionF_run fuel c a0 rest o out tmo hnab hacts hconn hin
  obtain ⟨N, fuel', hN⟩ := onRun_refines_k R dp fuel rest tmo (restOK R dp rest tmo fuel) _ (stamp c.env.now a0) o out hok
  obtain ⟨k, _, hk⟩ := refines_run R dp c.env.now N { c.dev with wake := none } (stamp c.env.now a0) o out hok.inv
  have htl : timeLeft { c with dev := { c.dev with wake := none } } (stamp c.env.now a0) = timeLeft c (stamp c.env.now a0) := rfl
  rw [htl] at hN
  rw [s4, s1] at hk
  have hcom := mrun_com c.env.now N { c.dev with wake := none } (stamp c.env.now a0) o out
  rw [s2] at hcom
  generalize mrun c.env.now N { c.dev with wake := none } (stamp c.env.now a0) o out = m at *
  refine ⟨k, fuel', m.act, ?_, hk.info, ?_, ?_⟩
  · rw [hfirst, hN, headResult_dev]
    congr 1
    simp only [asMR, hk.dev, hk.oracle, hk.out, hk.status]
  · exact hcom
  · intro h
    rw [hk.status] at h
    rw [hk.dev]
    exact hk.cont h

end Pm.Dev2.Interp
