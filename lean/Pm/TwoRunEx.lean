import Pm.FrameEx
import Pm.RunXTwo
import Pm.TwoRunC05
/-! Example runs for the non-vacuity examples of `Props/C11` (two-run back-pressure) and `Props/C05`.

    World `Two.w3x` of `Pm/IsolationProof.lean`: device `A` (node `a1`), clients 1 (descriptor 1000) and 2 (descriptor 1001), both
    with `status a1` in flight and the banner still in their output buffers.  Client 2 is the one that stops reading.

    The hypotheses of the run theorems are decided by Boolean functions that walk along the runs (`readerRunXB`, `faithfulXB`,
    `alongB (goneXB fs)`, `cliHypsB`, `devHypsB`), so that each family of runs is evaluated once (`checked`, `checkedG`). -/
namespace Pm.Daemon.TwoRun.Ex
open Pm Pm.Client Pm.Daemon Pm.Daemon.Isolation Pm.Daemon.TwoRun

/-- pass A: the device answers client 1's action; both client descriptors are reported writable -/
def pA : PassIn := { now := 4000, acc := 0, con := [0], soe := [0], envs :=
  [{ fd := 2000, rev := 1, rk := 0, data := bstr "1 on\n", cap := 100 }, { fd := 1001, rev := 2, rk := 0, data := [], cap := 100 },
   { fd := 1000, rev := 2, rk := 0, data := [], cap := 100 }] }
/-- pass B: a third client connects, client 1 asks `status a1` again, client 2 sends `help` (answered 208: its command is still in
    progress), the device takes the bytes of client 2's action -/
def pB : PassIn := { now := 5000, acc := 1, con := [0], soe := [0], envs :=
  [{ fd := 2000, rev := 2, rk := 0, data := [], cap := 100 }, { fd := 1001, rev := 3, rk := 0, data := bstr "help\n", cap := 100 },
   { fd := 1000, rev := 3, rk := 0, data := bstr "status a1\n", cap := 100 }] }
def ps : List PassIn := [pA, pB]

theorem iso3x : Iso Two.w3x :=
  have h : ∀ w : W, Iso w → Iso { w with pendingX := Two.xs4 } := fun _ h => ⟨h.1.congr rfl rfl rfl, h.2.congr rfl rfl rfl⟩
  h _ Two.iso3

/-- the second run: descriptor 1001 is never reported writable -/
def ps' : List PassIn := ps.map (stuckIn 1001)

/-- pass V, first run: the device answers client 1's action; nothing is reported for client 2's descriptor 1001 -/
def pV : PassIn := { now := 4000, acc := 0, con := [0], soe := [0], envs :=
  [{ fd := 2000, rev := 1, rk := 0, data := bstr "1 on\n", cap := 100 }, { fd := 1000, rev := 2, rk := 0, data := [], cap := 100 }] }
/-- pass V, second run: descriptor 1001 reports `POLLERR` — client 2 is destroyed -/
def pV' : PassIn := { now := 4000, acc := 0, con := [0], soe := [0], envs :=
  [{ fd := 2000, rev := 1, rk := 0, data := bstr "1 on\n", cap := 100 }, { fd := 1000, rev := 2, rk := 0, data := [], cap := 100 },
   { fd := 1001, rev := 8, rk := 0, data := [], cap := 0 }] }
/-- pass W (both runs): the device takes the bytes of client 2's action, which is still queued -/
def pW : PassIn := { now := 5000, acc := 0, con := [0], soe := [0], envs := [{ fd := 2000, rev := 2, rk := 0, data := [], cap := 100 }] }
def ppV : List (PassIn × PassIn) := [(pV, pV'), (pW, pW)]

/-- after the two stuck passes `ps`/`ps'`: a pass in which descriptor 1001 reports `POLLERR` in the second run only -/
def pZ : PassIn := { now := 6000, acc := 0, con := [0], soe := [0], envs := [] }
def pZ' : PassIn := { now := 6000, acc := 0, con := [0], soe := [0], envs := [{ fd := 1001, rev := 8, rk := 0, data := [], cap := 0 }] }
def pp1 : List (PassIn × PassIn) := ps.map fun p => (p, stuckIn 1001 p)


deriving instance DecidableEq for FdEnv, Pm.Dev2.RxCall

/-! ## Boolean checkers for the hypotheses about a run -/

def inertB (envs : List FdEnv) (c : Cli) : Bool :=
  (ClientPf.cpRev c (envs.find? (·.fd == c.fd)) &&& 1 == 0) && (ClientPf.cpRev c (envs.find? (·.fd == c.fd)) &&& 4 == 0) &&
  (c.fromBuf.idxOf? 10).isNone

theorem inertB_sound (envs : List FdEnv) (c : Cli) (h : inertB envs c = true) : Inert envs c := by
  simp only [inertB, Bool.and_eq_true, beq_iff_eq, Option.isNone_iff_eq_none] at h
  exact ⟨h.1.1, h.1.2, h.2⟩

def idsFreshB (w : W) : Bool :=
  decide ((ids w).Nodup) && (ids w).all (fun i => decide (0 < i) && decide (i < w.nextId)) &&
  w.devs.all (fun nd => nd.2.acts.all fun a => decide (a.clientId < w.nextId)) && decide (0 < w.nextId)

theorem idsFreshB_sound (w : W) (h : idsFreshB w = true) : IdsFresh w := by
  simp only [idsFreshB, Bool.and_eq_true, decide_eq_true_eq, List.all_eq_true] at h
  obtain ⟨⟨⟨h1, h2⟩, h3⟩, h4⟩ := h
  exact ⟨h1, fun i hi => (h2 i hi).1, fun i hi => (h2 i hi).2, fun nd hnd a ha => h3 nd hnd a ha, h4⟩

/-- the hypotheses of `ARel.init`, decided -/
def soleB (s fs : Nat) (w : W) : Bool := (w.clients.all fun c => c.fd != fs || c.id == s) && decide (fs < 1000 + w.nacc)

theorem soleB_sound {s fs : Nat} {w : W} (h : soleB s fs w = true) : (∀ c ∈ w.clients, c.fd = fs → c.id = s) ∧ fs < 1000 + w.nacc := by
  simp only [soleB, Bool.and_eq_true, decide_eq_true_eq] at h
  exact ⟨fun c hc hfd => by simpa [hfd] using List.all_eq_true.mp h.1 c hc, h.2⟩

def noDevOn (fs : Nat) (w : W) : Bool := w.devs.all fun nd => nd.2.fd != some fs

theorem noDevOn_sound {fs : Nat} {w : W} (h : noDevOn fs w = true) : ∀ nd ∈ w.devs, nd.2.fd ≠ some fs :=
  fun nd hnd => by simpa using List.all_eq_true.mp h nd hnd

/-- `ReaderRunX`, decided -/
def readerRunXB (fs : Nat) : W → List PassX → Bool
  | _, [] => true
  | w, q :: r => (q.p.envs.find? (·.fd == fs)).all (fun e => decide (e.rev < 4 ∧ (2 ≤ e.rev → 0 < e.cap))) && noDevOn fs w &&
      readerRunXB fs (stepX w q) r

theorem readerRunXB_sound {fs : Nat} : ∀ (qs : List PassX) (w : W), readerRunXB fs w qs = true → ReaderRunX fs w qs := by
  intro qs
  induction qs with
  | nil => intro _ _; trivial
  | cons q r ih =>
    intro w h
    simp only [readerRunXB, Bool.and_eq_true] at h
    refine ⟨⟨fun e he => ?_, noDevOn_sound h.1.2⟩, ih _ h.2⟩
    have := h.1.1
    rw [he, Option.all_some] at this
    exact of_decide_eq_true this

/-- `FaithfulX`, decided -/
def faithfulXB (s fs : Nat) : W → List PassX → Bool :=
  everyB fun w => w.sys.all (fun x => !blocksOn fs x) && (cliRec w s).all fun c => decide (c.toBuf.length ≤ cliBufMax)

theorem faithfulXB_sound {s fs : Nat} {w : W} {qs : List PassX} (h : faithfulXB s fs w qs = true) : FaithfulX s fs w qs := by
  have key := fun n => Bool.and_eq_true_iff.mp (everyB_take qs w h n)
  exact ⟨fun n x hx => by simpa using List.all_eq_true.mp (key n).1 x hx,
    fun n c hc => by have := (key n).2; rw [hc] at this; simpa using this⟩

/-- `GonePass`, decided -/
def gonePassB (fs : Nat) (w w' : W) (p p' : PassIn) : Bool :=
  decide (p'.now = p.now ∧ p'.acc = p.acc ∧ p'.con = p.con ∧ p'.soe = p.soe ∧
    p'.envs.filter (fun e => e.fd != fs) = p.envs.filter (fun e => e.fd != fs)) &&
  noDevOn fs w &&
  (w.clients.all fun c => c.fd != fs || inertB p.envs c) && (w'.clients.all fun c => c.fd != fs || inertB p'.envs c) &&
  idsFreshB w && idsFreshB w' &&
  !((cliPostPoll w p.acc p.envs).devs.foldl (devPass p) (acc0 (cliPostPoll w p.acc p.envs))).dead &&
  !((cliPostPoll w' p'.acc p'.envs).devs.foldl (devPass p') (acc0 (cliPostPoll w' p'.acc p'.envs))).dead

theorem gonePassB_sound {fs : Nat} {w w' : W} {p p' : PassIn} (h : gonePassB fs w w' p p' = true) : GonePass fs w w' p p' := by
  simp only [gonePassB, Bool.and_eq_true, decide_eq_true_eq, Bool.not_eq_true'] at h
  obtain ⟨⟨⟨⟨⟨⟨⟨⟨h1, h2, h3, h4, h5⟩, h6⟩, h7⟩, h8⟩, h9⟩, h10⟩, h11⟩, h12⟩ := h
  exact {
    now := h1, acc := h2, con := h3, soe := h4
    others := others_of_filter p.envs p'.envs fs h5
    devfd := noDevOn_sound h6
    inert := fun c hc hfd => inertB_sound _ _ (by simpa [hfd] using List.all_eq_true.mp h7 c hc)
    inert' := fun c hc hfd => inertB_sound _ _ (by simpa [hfd] using List.all_eq_true.mp h8 c hc)
    ids := idsFreshB_sound w h9, ids' := idsFreshB_sound w' h10
    alive := h11, alive' := h12 }

/-- `GoneX`, decided -/
def goneXB (fs : Nat) (w w' : W) (q q' : PassX) : Bool :=
  decide (q'.rx = q.rx) && gonePassB fs (feed w q.rx) (feed w' q'.rx) q.p q'.p

theorem goneXB_sound {fs : Nat} (w w' : W) (q q' : PassX) (h : goneXB fs w w' q q' = true) : GoneX fs w w' q q' := by
  simp only [goneXB, Bool.and_eq_true, decide_eq_true_eq] at h
  exact ⟨h.1, gonePassB_sound h.2⟩

/-! ## the runs from `Two.w3x` -/

/-- what evaluation has to establish about the runs from `Two.w3x` -/
theorem checked :
    soleB 2 1001 Two.w3x = true ∧ readerRunXB 1001 Two.w3x (ps.map .plain) = true ∧
    faithfulXB 2 1001 Two.w3x (ps'.map .plain) = true ∧
    alongB (goneXB 1001) Two.w3x Two.w3x (ppV.map plain2) = true ∧
    alongB (goneXB 1001) (runPasses Two.w3x (pp1.map (·.1))) (runPasses Two.w3x (pp1.map (·.2))) ([(pZ, pZ')].map plain2) = true := by
  decide +kernel

open Pm.Dev2 (outCid) in
/-- what evaluation has to establish about `Two.w3` and `Two.w4` for the examples of `Props/C11` (`Two.w3` is reached from the
    start-up world by three passes: evaluated once) -/
theorem checkedW3 :
    (((devStep Two.p4 Two.w3x ⟨Two.xs4⟩ ([65], (Two.w3x.devs.map (·.2)).headD Two.devA)).2.2.1.map outCid) = [some 1, none] ∧
      (cliRec Two.w4 1).map (fun c => (c.toBuf.drop 17, c.cmd.isSome)) =
      some (bstr "302 on:      a1\r\n302 off:     \r\n302 unknown: \r\n103 Query complete\r\npowerman> ", false) ∧
      (cliRec Two.w4 2).map (fun c => (c.toBuf, c.cmd.map (·.pending))) = (cliRec Two.w3x 2).map (fun c => (c.toBuf, c.cmd.map (·.pending)))) ∧
    (((cliRec Two.w3 1).map fun c => c.cmd.isSome) = some true) ∧
    ((cliRec Two.w3 1).map (fun c => ((parseLine Two.w3 c Two.line).2.toBuf.drop c.toBuf.length,
      (parseLine Two.w3 c Two.line).1.devs.map fun nd => nd.2.acts.length)) =
      some (bstr "208 Command in progress\r\n", [2])) ∧
    (((cliRec Two.w3 2).map fun c => c.cmd.map (·.al)) = some (some 2)) ∧
    ((storeArgs Two.w3x 1).map (fun a => psNum a.state) = [0] ∧ (storeArgs Two.w4 1).map (fun a => psNum a.state) = [2] ∧
      (storeArgs Two.w3x 2).map (fun a => psNum a.state) = [0] ∧ (storeArgs Two.w4 2).map (fun a => psNum a.state) = [0]) ∧
    (Two.w3.clients.all (Pm.Daemon.Ex.quietB []) = true ∧ Two.w3.clients.map (·.toBuf.isEmpty) = [false, false]) ∧
    ((cliRec Two.w3 2).map (fun c =>
      (ClientPf.cpRev c (some { fd := 1001, rev := 1, rk := 0, data := Two.line, cap := 0 }) &&& 2,
      (clientPass Two.w3 c (some { fd := 1001, rev := 1, rk := 0, data := Two.line, cap := 0 })).2.map fun c' =>
      (c'.quit, c'.toBuf.drop c.toBuf.length))) =
      some (0, some (false, bstr "208 Command in progress\r\n"))) ∧
    ((cliRec Two.w3 2).map (fun c => (capOf { Two.w3 with caps := [(1001, 0)] } c.fd, c.quit, c.blocking, c.toBuf.isEmpty)) =
      some (0, false, false, false)) := by
  rw [ClientPf.bstr_chars, ClientPf.bstr_chars]
  decide +kernel

theorem onlyS : ∀ c ∈ Two.w3x.clients, c.fd = 1001 → c.id = 2 := (soleB_sound checked.1).1

theorem fresh : 1001 < 1000 + Two.w3x.nacc := (soleB_sound checked.1).2

theorem readerRun : ReaderRun 1001 Two.w3x ps := (readerRunX_plain 1001 ps _).mp (readerRunXB_sound _ _ checked.2.1)

theorem faithful : Faithful 2 1001 Two.w3x ps' := (faithfulX_plain 2 1001 _ ps').mp (faithfulXB_sound checked.2.2.1)

theorem brel0 : BRel 1001 Two.w3x Two.w3x := (ARel.init 2 1001 Two.w3x onlyS fresh).toB

theorem goneRun : GoneRun 1001 Two.w3x Two.w3x ppV := (goneRunX_plain 1001 ppV _ _).mp (AlongX.ofB goneXB_sound _ _ _ checked.2.2.2.1)

theorem goneAfterStuck : GoneRun 1001 (runPasses Two.w3x (pp1.map (·.1))) (runPasses Two.w3x (pp1.map (·.2))) [(pZ, pZ')] :=
  (goneRunX_plain 1001 _ _ _).mp (AlongX.ofB goneXB_sound _ _ _ checked.2.2.2.2)

/-! ## C05 with a general client phase

Worlds `wa`, `wb`: `Ex.w1`, `Ex.w2` of `Pm/FrameEx.lean` (devices `A`, `B`/`B'`, `C`; client 1 on descriptor 1000 has an `on a1`
queued on `A`; client 2 on descriptor 1001 has an `on b1` queued on `B`) with the three nodes configured.  Client 1 is tracked;
client 2 (it observes `B`) is not: `F = isFd 1001`. -/

open Pm.Dev2 (Plug RxCall) in
/-- `NotObs`, decided -/
def notObsB (PB : List Plug) (als : List (Name × List Name)) (line : Bytes) : Bool :=
  decide (ClientPf.TooLong line) || casePrefix kwHelp (ClientPf.reqStr line) || casePrefix kwNodes (ClientPf.reqStr line) ||
  casePrefix kwTelemetry (ClientPf.reqStr line) || casePrefix kwExprange (ClientPf.reqStr line) || casePrefix kwQuit (ClientPf.reqStr line) ||
  (match ClientPf.plMatch (ClientPf.reqStr line) with
   | none =>
     if casePrefix kwStatus (ClientPf.reqStr line) || casePrefix kwTemp (ClientPf.reqStr line) || casePrefix kwBeacon (ClientPf.reqStr line) then false
     else match ClientPf.plDevArg (ClientPf.reqStr line) with
       | some a => !Hit PB (ClientPf.devTarg a)
       | none => true
   | some (_, arg) => match createR (toChars arg) with
     | .ok hl => !Touch PB ((expAliases als (expand hl)).map ofChars)
     | _ => true)

open Pm.Dev2 (Plug) in
theorem notObsB_sound (PB : List Plug) (als : List (Name × List Name)) (line : Bytes) (h : notObsB PB als line = true) :
    NotObs PB als line := by
  intro hl a1 a2 a3 a4 a5
  unfold notObsB at h
  simp only [hl, decide_false, a1, a2, a3, a4, a5, Bool.or_false, Bool.false_or] at h
  unfold RestP
  split
  · rename_i hm
    rw [hm] at h
    dsimp only at h
    split
    · rename_i hb; rw [if_pos hb] at h; cases h
    · rename_i hb
      rw [if_neg hb] at h
      intro a ha
      rw [ha] at h
      simpa using h
  · rename_i com arg hm
    rw [hm] at h
    dsimp only at h
    intro hl2 hc
    rw [hc] at h
    simpa using h

open Pm.Dev2 (Plug) in
/-- `CliHyps` for the same pass input in both runs, decided -/
def cliHypsB (F : Nat → Bool) (PB : List Plug) (w w' : W) (p : PassIn) : Bool :=
  !F (1000 + w.nacc) &&
  ((servedIn w p).all fun c => F c.fd || (turnLines c (p.envs.find? (·.fd == c.fd))).all (notObsB PB w.cfg.aliases)) &&
  (w.clients.all fun c => !F c.fd || inertB p.envs c) && (w'.clients.all fun c => !F c.fd || inertB p.envs c) &&
  idsFreshB w && idsFreshB w'

open Pm.Dev2 (Plug) in
theorem cliHypsB_sound {F : Nat → Bool} {PB : List Plug} {w w' : W} {p : PassIn} (h : cliHypsB F PB w w' p = true) :
    CliHyps F PB w w' p p := by
  simp only [cliHypsB, Bool.and_eq_true, Bool.not_eq_true'] at h
  obtain ⟨⟨⟨⟨⟨h1, h2⟩, h3⟩, h4⟩, h5⟩, h6⟩ := h
  exact {
    acc := rfl, evs := fun _ _ => rfl, newfd := h1
    lines := fun c hc hF l hl => by
      have := List.all_eq_true.mp h2 c hc
      rw [hF, Bool.false_or, List.all_eq_true] at this
      exact notObsB_sound PB _ l (this l hl)
    inert := fun c hc hF => inertB_sound _ _ (by simpa [hF] using List.all_eq_true.mp h3 c hc)
    inert' := fun c hc hF => inertB_sound _ _ (by simpa [hF] using List.all_eq_true.mp h4 c hc)
    ids := idsFreshB_sound w h5, ids' := idsFreshB_sound w' h6 }

open Pm.Dev2 (RxCall) in
/-- `DevHyps` for the same pass input in both runs, decided -/
def devHypsB (Q : Bytes → Bool) (j : Nat) (w0 w0' : W) (p : PassIn) (xp xB xB' xq : List RxCall) : Bool :=
  decide (j < w0.devs.length) && !w0.exited &&
  decide (w0.pendingX = xp ++ (xB ++ xq)) && decide (w0'.pendingX = xp ++ (xB' ++ xq)) &&
  Pm.Daemon.Ex.othersB Q j w0.devs &&
  (match w0.devs[j]? with
    | some B => Pm.Daemon.Ex.plugsOut Q B.2.plugs && Pm.Daemon.Ex.exactB p ((w0.devs.take j).foldl (devPass p) (acc0 w0)) [B] xB
    | none => false) &&
  (match w0'.devs[j]? with
    | some B' => Pm.Daemon.Ex.plugsOut Q B'.2.plugs && Pm.Daemon.Ex.exactB p ((w0'.devs.take j).foldl (devPass p) (acc0 w0')) [B'] xB'
    | none => false) &&
  !(w0.devs.foldl (devPass p) (acc0 w0)).dead && !(w0'.devs.foldl (devPass p) (acc0 w0')).dead &&
  Pm.Daemon.Ex.exactB p (acc0 w0) (w0.devs.take j) xp && Pm.Daemon.Ex.exactB p (acc0 w0') (w0'.devs.take j) xp &&
  decide ((accAt p (acc0 w0) w0.devs (j + 1)).w.nsock = (accAt p (acc0 w0') w0'.devs (j + 1)).w.nsock ∧
    (accAt p (acc0 w0) w0.devs (j + 1)).w.npair = (accAt p (acc0 w0') w0'.devs (j + 1)).w.npair ∧
    (accAt p (acc0 w0) w0.devs (j + 1)).w.nfork = (accAt p (acc0 w0') w0'.devs (j + 1)).w.nfork)

open Pm.Dev2 (RxCall) in
theorem devHypsB_sound {Q : Bytes → Bool} (F : Nat → Bool) {j : Nat} {w0 w0' : W} {p : PassIn} {xp xB xB' xq : List RxCall}
    (h : devHypsB Q j w0 w0' p xp xB xB' xq = true) : DevHyps Q F j w0 w0' p p xp xB xB' xq := by
  simp only [devHypsB, Bool.and_eq_true, decide_eq_true_eq, Bool.not_eq_true'] at h
  obtain ⟨⟨⟨⟨⟨⟨⟨⟨⟨⟨⟨h1, hex⟩, hx⟩, hx'⟩, ho⟩, hB⟩, hB'⟩, alive⟩, alive'⟩, E1⟩, E1'⟩, c1, c2, c3⟩ := h
  exact {
    j_lt := h1, ex := hex, clock := ⟨rfl, rfl, rfl⟩, hx := hx, hx' := hx'
    others := Pm.Daemon.Ex.othersB_sound Q j p w0.devs ho
    hB := fun B0 hB0 => by
      rw [hB0, Bool.and_eq_true] at hB
      exact ⟨Pm.Daemon.Ex.qOffB Q _ hB.1, Pm.Daemon.Ex.exactB_sound _ _ _ _ hB.2⟩
    hB' := fun B0 hB0 => by
      rw [hB0, Bool.and_eq_true] at hB'
      exact ⟨Pm.Daemon.Ex.qOffB Q _ hB'.1, Pm.Daemon.Ex.exactB_sound _ _ _ _ hB'.2⟩
    alive := alive, alive' := alive'
    E1 := Pm.Daemon.Ex.exactB_sound _ _ _ _ E1, E1' := Pm.Daemon.Ex.exactB_sound _ _ _ _ E1'
    c1 := c1, c2 := c2, c3 := c3 }

/-- "no tracked client has an action on the device at position `j`", decided -/
def nobB (F : Nat → Bool) (j : Nat) (w : W) : Bool :=
  match w.devs[j]? with
  | some B => B.2.acts.all fun x => w.clients.all fun c => F c.fd || x.clientId != c.id
  | none => true

theorem nobB_sound (F : Nat → Bool) (j : Nat) (w : W) (h : nobB F j w = true) :
    ∀ B, w.devs[j]? = some B → ∀ x ∈ B.2.acts, ∀ c ∈ w.clients, F c.fd = false → x.clientId ≠ c.id := by
  intro B hB x hx c hc hF
  unfold nobB at h
  rw [hB] at h
  have := List.all_eq_true.mp (List.all_eq_true.mp h x hx) c hc
  rw [hF] at this
  simpa using this

/-- the three nodes configured -/
def cfgN : Cfg := { plugs := [], has := [], nodes := pushHost (pushHost (pushHost [] ['a', '1']) ['b', '1']) ['c', '1'], version := [] }
/-- `B` healthy -/
def wa : W := { Pm.Daemon.Ex.w1 with cfg := cfgN }
/-- `B` emitting garbage -/
def wb : W := { Pm.Daemon.Ex.w2 with cfg := cfgN }
/-- pass 1: client 1 sends `help` while its command is in progress (answered 208); `A` completes the command -/
def q1 : PassIn := { now := 2000, acc := 0, con := [0], soe := [0], envs := [{ fd := 1000, rev := 1, rk := 0, data := bstr "help\n", cap := 0 }] }
/-- pass 2: a third client connects; client 1 is written to and sends `on a1` (installed on `A`) and `device a1` (answered 208) -/
def q2 : PassIn := { now := 3000, acc := 1, con := [0], soe := [0], envs := [{ fd := 1000, rev := 3, rk := 0, data := bstr "on a1\ndevice a1\n", cap := 100 }] }

def FB : Nat → Bool := isFd 1001
def PBx : List Pm.Dev2.Plug := [Pm.Daemon.Ex.plugB]

theorem hQB : ∀ nb, Pm.Daemon.Ex.Q nb = false → ∃ pl ∈ PBx, pl.node = some nb := by
  intro nb h
  have : nb = Pm.Daemon.Ex.nodeB := by simpa [Pm.Daemon.Ex.Q] using h
  exact ⟨Pm.Daemon.Ex.plugB, by simp [PBx], by rw [this]; rfl⟩

/-- the worlds after the first pass -/
def va : W := (daemonPass (withX wa Pm.Daemon.Ex.xA) q1).1
def vb : W := (daemonPass (withX wb (Pm.Daemon.Ex.xA ++ Pm.Daemon.Ex.xB')) q1).1

/-- the two runs: pass inputs and recorded regex answers, pass by pass -/
def runsG : List ((PassIn × List Pm.Dev2.RxCall) × (PassIn × List Pm.Dev2.RxCall)) :=
  [((q1, Pm.Daemon.Ex.xA), (q1, Pm.Daemon.Ex.xA ++ Pm.Daemon.Ex.xB')), ((q2, []), (q2, Pm.Daemon.Ex.xB'))]

/-! ### why the untracked clients have to be inert: an observer of `B` that goes on typing

`wh`: as `wa`, but the healthy `B` has its answer `OK` in the buffer, so client 2's `on b1` completes in pass 1; in `wb` (sick `B'`) it
never does.  In pass 2 client 2 sends `on a1` — a line that does not observe `B`: executed in the healthy run, answered `208` in the
sick one.  `A` runs and completes it (pass 3, healthy run only).  In pass 4 client 1 — which never observed `B` — asks `device a1`
and is told `actions=002` in one run and `actions=001` in the other. -/

def devBok : Pm.Dev2.Dev := { Pm.Daemon.Ex.devB with fromBuf := [79, 75, 10] }
def wh : W := { wa with devs := [([65], Pm.Daemon.Ex.devA), ([66], devBok), ([67], Pm.Daemon.Ex.devC)] }
def xOK : List Pm.Dev2.RxCall := [{ pat := 1, subject := [79, 75, 10], answer := some [(0, 3)] }]
def r1 : PassIn := { now := 2000, acc := 0, con := [0], soe := [0], envs := [] }
def r2 : PassIn := { now := 3000, acc := 0, con := [0], soe := [0], envs := [{ fd := 1001, rev := 3, rk := 0, data := bstr "on a1\n", cap := 100 }, { fd := 2000, rev := 2, rk := 0, data := [], cap := 100 }] }
def r3 : PassIn := { now := 4000, acc := 0, con := [0], soe := [0], envs := [{ fd := 2000, rev := 3, rk := 0, data := [79, 75, 10], cap := 100 }] }
def r4 : PassIn := { now := 5000, acc := 0, con := [0], soe := [0], envs := [{ fd := 1000, rev := 3, rk := 0, data := bstr "device a1\n", cap := 100 }] }
def runH : List (PassIn × List Pm.Dev2.RxCall) := [(r1, xOK ++ xOK), (r2, []), (r3, xOK), (r4, [])]
def runS : List (PassIn × List Pm.Dev2.RxCall) :=
  [(r1, xOK ++ Pm.Daemon.Ex.xB'), (r2, Pm.Daemon.Ex.xB'), (r3, Pm.Daemon.Ex.xB'), (r4, Pm.Daemon.Ex.xB')]

/-- what evaluation has to establish about the runs from `wa`, `wb`, `wh` -/
theorem checkedG :
    (nobB FB 1 wa = true ∧ nobB FB 1 wb = true ∧ nobB FB 1 wh = true) ∧
    (cliHypsB FB PBx (withX wa Pm.Daemon.Ex.xA) (withX wb (Pm.Daemon.Ex.xA ++ Pm.Daemon.Ex.xB')) q1 = true ∧
      devHypsB Pm.Daemon.Ex.Q 1 (cliPostPoll (withX wa Pm.Daemon.Ex.xA) q1.acc q1.envs)
        (cliPostPoll (withX wb (Pm.Daemon.Ex.xA ++ Pm.Daemon.Ex.xB')) q1.acc q1.envs) q1 Pm.Daemon.Ex.xA [] Pm.Daemon.Ex.xB' [] = true) ∧
    cliHypsB FB PBx (withX va []) (withX vb Pm.Daemon.Ex.xB') q2 = true ∧
      devHypsB Pm.Daemon.Ex.Q 1 (cliPostPoll (withX va []) q2.acc q2.envs) (cliPostPoll (withX vb Pm.Daemon.Ex.xB') q2.acc q2.envs)
        q2 [] [] Pm.Daemon.Ex.xB' [] = true := by
  decide +kernel

theorem rel0 : MRel Pm.Daemon.Ex.Q FB 1 PBx wa wb where
  cfg := rfl
  specs := rfl
  alNext := rfl
  nextId := rfl
  nacc := rfl
  nsock := rfl
  npair := rfl
  nfork := rfl
  ex := rfl
  ex' := rfl
  store := fun _ => rfl
  devs := ⟨Pm.Daemon.Ex.rel0.devs, by
    intro B B' hB hB'
    have e1 : wa.devs[1]? = some Pm.Daemon.Ex.B := rfl
    have e2 : wb.devs[1]? = some Pm.Daemon.Ex.B' := rfl
    rw [e1] at hB; rw [e2] at hB'
    cases hB; cases hB'
    exact ⟨rfl, rfl, rfl⟩⟩
  tab := rfl
  gok := by
    intro c hc hF k hk
    have hc : c ∈ [Pm.Daemon.Ex.cli1, Pm.Daemon.Ex.cli2] := hc
    simp only [List.mem_cons, List.not_mem_nil, or_false] at hc
    rcases hc with rfl | rfl
    · cases hk; exact Pm.Daemon.Ex.namesQ
    · simp [FB, isFd, Pm.Daemon.Ex.cli2] at hF
  sys := rfl
  nob := nobB_sound FB 1 wa checkedG.1.1
  nob' := nobB_sound FB 1 wb checkedG.1.2.1

theorem cli1h : CliHyps FB PBx (withX wa Pm.Daemon.Ex.xA) (withX wb (Pm.Daemon.Ex.xA ++ Pm.Daemon.Ex.xB')) q1 q1 :=
  cliHypsB_sound checkedG.2.1.1

theorem dev1h : DevHyps Pm.Daemon.Ex.Q FB 1 (cliPostPoll (withX wa Pm.Daemon.Ex.xA) q1.acc q1.envs)
    (cliPostPoll (withX wb (Pm.Daemon.Ex.xA ++ Pm.Daemon.Ex.xB')) q1.acc q1.envs) q1 q1 Pm.Daemon.Ex.xA [] Pm.Daemon.Ex.xB' [] :=
  devHypsB_sound FB checkedG.2.1.2

theorem cli2h : CliHyps FB PBx (withX va []) (withX vb Pm.Daemon.Ex.xB') q2 q2 := cliHypsB_sound checkedG.2.2.1

theorem dev2h : DevHyps Pm.Daemon.Ex.Q FB 1 (cliPostPoll (withX va []) q2.acc q2.envs)
    (cliPostPoll (withX vb Pm.Daemon.Ex.xB') q2.acc q2.envs) q2 q2 [] [] Pm.Daemon.Ex.xB' [] :=
  devHypsB_sound FB checkedG.2.2.2

theorem goodG : GenRun Pm.Daemon.Ex.Q FB 1 PBx wa wb runsG :=
  .cons _ _ _ _ _ _ _ _ _ _ _ cli1h dev1h (.cons _ _ _ _ _ _ _ _ _ _ _ cli2h dev2h (.nil _ _))

theorem twoPassesG : MRel Pm.Daemon.Ex.Q FB 1 PBx (passes wa (runsG.map (·.1))) (passes wb (runsG.map (·.2))) :=
  passes_gen Pm.Daemon.Ex.Q FB 1 PBx hQB wa wb runsG rel0 goodG

theorem relH : MRel Pm.Daemon.Ex.Q FB 1 PBx wh wb :=
  { rel0 with
    devs := ⟨⟨rfl, fun i hi => by
      match i with
      | 0 => rfl
      | 1 => exact absurd rfl hi
      | 2 => rfl
      | _ + 3 => rfl⟩, by
      intro B B' hB hB'
      have e1 : wh.devs[1]? = some ([66], devBok) := rfl
      have e2 : wb.devs[1]? = some Pm.Daemon.Ex.B' := rfl
      rw [e1] at hB; rw [e2] at hB'
      cases hB; cases hB'
      exact ⟨rfl, rfl, rfl⟩⟩
    nob := nobB_sound FB 1 wh checkedG.1.2.2 }

end Pm.Daemon.TwoRun.Ex

/-! axiom audit of the two-run modules -/
section AxiomChecks
open Pm.Daemon.TwoRun
#print axioms clientPass_rel
#print axioms foldl_merge
#print axioms cliPostPoll_merge
#print axioms backpressure
#print axioms vanish
#print axioms stuck_then_gone
#print axioms pass_gen
#print axioms passes_gen
#print axioms Ex.goodG
#print axioms Ex.goneRun
#print axioms Ex.readerRun
#print axioms Ex.faithful
end AxiomChecks
