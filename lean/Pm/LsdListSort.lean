import Pm.LsdListLoop
import Pm.LsdListSortProof
/-! # `list_sort` on a represented list

The in-place insertion sort of `list.c` (`pp` / `ppPrev` / `ppPos`, three pointer assignments per move) computes `sortList`, the
insertion sort on a plain list (`Pm/LsdListAbs.lean`; what it does to the items: `Pm/LsdListSortProof.lean`), for *every* pure
comparison function — consistent or not: the inner loop always stops at the last item of the sorted part at the latest, so no
`NULL` is dereferenced; the chain stays a chain of the same nodes; `tail` is the address of the final `NULL` again; every
iterator is reset (when the list has at least two items). -/
namespace Pm.LsdList
variable {α : Type}

/-- the three pointer assignments of `list_sort` that move the node at position `m` to position `t < m`.  In the proof `q` is
    the moved node and `r` the node in front of it; `s` is the node at position `t` and `u` the node in front of that one. -/
theorem sortMove_spec {l : LList α} {ns : List Nat} {items : List α} (h : Chain l ns items) (m t q : Nat) (x : α)
    (hm : 1 ≤ m) (ht : t < m) (hq : ns[m]? = some q) (hx : items[m]? = some x) :
    ∃ cells head, sortMove l (fieldAt ns m) (fieldAt ns t) = some { l with cells := cells, head := head } ∧
      Chain ({ l with cells := cells, head := head } : LList α) ((ns.eraseIdx m).insertIdx t q) ((items.eraseIdx m).insertIdx t x) ∧
      cells.size = l.cells.size := by
  have hmlt : m < ns.length := (List.getElem?_eq_some_iff.mp hq).1
  have hm1 : m - 1 + 1 = m := Nat.sub_add_cancel hm
  have hm1lt : m - 1 < m := Nat.sub_lt hm Nat.one_pos
  have htn : t < ns.length := Nat.lt_trans ht hmlt
  obtain ⟨r, hr⟩ : ∃ r, ns[m - 1]? = some r := ⟨ns[m - 1]'(Nat.lt_trans hm1lt hmlt), by simp⟩
  obtain ⟨s, hs⟩ : ∃ s, ns[t]? = some s := ⟨ns[t]'htn, by simp⟩
  have hcr := h.cell (m - 1) r hr
  rw [hm1, hq] at hcr
  have hcq := h.cell m q hq
  rw [hx] at hcq
  have hrq : r ≠ q := fun e => Nat.ne_of_lt hm1lt (h.inj (m - 1) m r hr (e ▸ hq))
  have hqs : q < l.cells.size := h.lt_size m q hq
  have hrs : r < l.cells.size := h.lt_size (m - 1) r hr
  have hppm : fieldAt ns m = .next r := by rw [← hm1]; exact fieldAt_succ ns (m - 1) r hr
  -- the intermediate (imaginary) state: node m unlinked
  have hmid : Chain ({ l with cells := l.cells.setIfInBounds r ⟨items[m - 1]?, ns[m + 1]?⟩ } : LList α)
      (ns.eraseIdx m) (items.eraseIdx m) := by
    refine h.erase m hmlt ?_ ?_ ?_
    · have : m ≠ 0 := Nat.pos_iff_ne_zero.mp hm
      simp [this]
    · intro n _ hn
      rw [hr] at hn
      have : n = r := by simpa using hn.symm
      subst this; simp [hrs]
    · intro k n hk hk1 _
      have : r ≠ n := fun e => hk1 (h.inj (m - 1) k r hr (e ▸ hk) ▸ hm1)
      simp [this]
  have hqe : ∀ (k : Nat), (ns.eraseIdx m)[k]? ≠ some q := h.inj.eraseIdx_ne hq
  have hlen : (ns.eraseIdx m).length = ns.length - 1 := List.length_eraseIdx_of_lt hmlt
  have hte : (ns.eraseIdx m)[t]? = some s := by rw [List.getElem?_eraseIdx_of_lt ht, hs]
  unfold sortMove
  rw [h.ptr m q hq]
  have hl1 : load l (.next q) = some ns[m + 1]? := by
    have := h.load (m + 1) hmlt; rwa [fieldAt_succ ns m q hq] at this
  have hl2 : load l (fieldAt ns t) = some (some s) := by rw [h.load t (Nat.le_of_lt htn), hs]
  simp only [hl1, hl2, hppm]
  have hst1 : store l (.next q) (some s) = some { l with cells := l.cells.setIfInBounds q ⟨some x, some s⟩ } := by
    simp [store, hcq]
  simp only [hst1]
  cases t with
  | zero =>
    have hc3 : (l.cells.setIfInBounds q { data := some x, next := some s })[r]? = some ⟨items[m - 1]?, some q⟩ := by
      simp [Ne.symm hrq, hcr]
    simp only [fieldAt, store, hc3]
    refine ⟨_, _, rfl, ?_, by simp⟩
    refine hmid.insert 0 q x (Nat.zero_le _) hqe ?_ ?_ ?_ ?_
    · simp [hte, hrq, hqs]
    · simp
    · intro n h0; exact absurd rfl h0
    · intro k n hk _
      have hnq : q ≠ n := fun e => hqe k (e ▸ hk)
      by_cases e : r = n
      · subst e; simp [hrs]
      · simp [hnq, e]
  | succ t' =>
    have ht'm : t' < m := Nat.lt_of_succ_lt ht
    obtain ⟨u, hu⟩ : ∃ u, ns[t']? = some u := ⟨ns[t']'(Nat.lt_trans ht'm hmlt), by simp⟩
    have hcu := h.cell t' u hu
    rw [hs] at hcu
    have huq : u ≠ q := fun e => Nat.ne_of_lt ht'm (h.inj t' m u hu (e ▸ hq))
    have hur : u ≠ r := fun e => Nat.ne_of_lt (Nat.lt_sub_of_add_lt ht) (h.inj t' (m - 1) u hu (e ▸ hr))
    have hus : u < l.cells.size := h.lt_size t' u hu
    have hc2 : (l.cells.setIfInBounds q { data := some x, next := some s })[u]? = some ⟨items[t']?, some s⟩ := by
      simp [Ne.symm huq, hcu]
    have hc3 : ((l.cells.setIfInBounds q { data := some x, next := some s }).setIfInBounds u
        { data := items[t']?, next := some q })[r]? = some ⟨items[m - 1]?, some q⟩ := by
      simp [Ne.symm hrq, hur, hcr]
    simp only [fieldAt_succ ns t' u hu, store, hc2, hc3]
    refine ⟨_, _, rfl, ?_, by simp⟩
    have hue : (ns.eraseIdx m)[t']? = some u := by rw [List.getElem?_eraseIdx_of_lt ht'm, hu]
    refine hmid.insert (t' + 1) q x (hlen ▸ Nat.le_sub_one_of_lt htn) hqe ?_ ?_ ?_ ?_
    · simp [hte, hrq, huq, hqs]
    · simp
    · intro n _ hn
      simp at hn; rw [hue] at hn
      have : n = u := by simpa using hn.symm
      subst this
      simp [List.getElem?_eraseIdx, ht'm, Ne.symm hur, hus]
    · intro k n hk hk1
      have hnq : q ≠ n := fun e => hqe k (e ▸ hk)
      have hnu : u ≠ n := fun e => hk1 ((h.inj.eraseIdx m) t' k u hue (e ▸ hk) ▸ rfl)
      by_cases e : r = n
      · subst e; simp [hrs]
      · simp [hnq, hnu, e]

theorem sortFindPos_spec {l : LList α} {ns : List Nat} {items : List α} (h : Chain l ns items) (f : α → α → Int) (x : α) :
    ∀ (fuel k : Nat), sortPos f x (items.drop k) < (items.drop k).length → sortPos f x (items.drop k) < fuel →
      sortFindPos l f x fuel (fieldAt ns k) = some (fieldAt ns (k + sortPos f x (items.drop k))) := by
  intro fuel
  induction fuel with
  | zero => intro k _ h2; omega
  | succ fuel ih =>
    intro k hhit hfuel
    have hk : k < items.length := by
      rcases Nat.lt_or_ge k items.length with h1 | h1
      · exact h1
      · simp [List.drop_eq_nil_of_le h1] at hhit
    have hkn : k < ns.length := by rw [← h.len]; exact hk
    obtain ⟨q, hq⟩ : ∃ q, ns[k]? = some q := ⟨ns[k]'hkn, by simp⟩
    have hd : items[k]? = some items[k] := by simp [List.getElem?_eq_getElem hk]
    have hdo : dataOf l q = some items[k] := by rw [h.dataOf k q hq, hd]
    rw [List.drop_eq_getElem_cons hk] at hhit hfuel ⊢
    simp only [sortFindPos, h.ptr k q hq, hdo, sortPos] at hhit hfuel ⊢
    split
    · rename_i hf
      simp only [hf, if_true, List.length_cons] at hhit hfuel
      have := ih (k + 1) (by omega) (by omega)
      rw [fieldAt_succ ns k q hq] at this
      rw [this]; congr 2; omega
    · simp

theorem fieldAt_move (ns : List Nat) (m t q : Nat) (ht : t < m) (hm : m < ns.length) :
    fieldAt ((ns.eraseIdx m).insertIdx t q) (m + 1) = fieldAt ns m ∧
    (t + 1 < m → fieldAt ((ns.eraseIdx m).insertIdx t q) m = fieldAt ns (m - 1)) ∧
    fieldAt ((ns.eraseIdx m).insertIdx t q) (t + 1) = .next q ∧
    fieldAt ((ns.eraseIdx m).insertIdx t q) t = fieldAt ns t := by
  have hlen : (ns.eraseIdx m).length = ns.length - 1 := by simp [List.length_eraseIdx, hm]
  have hle : t ≤ (ns.eraseIdx m).length := by omega
  refine ⟨?_, ?_, ?_, ?_⟩
  · rw [fieldAt_insertIdx _ t q _ hle]
    have h1 : ¬ m + 1 ≤ t := by omega
    have h2 : ¬ m = t := by omega
    simp [h1, h2, fieldAt_eraseIdx]
  · intro h3
    rw [fieldAt_insertIdx _ t q _ hle]
    have h1 : ¬ m ≤ t := by omega
    have h2 : ¬ m = t + 1 := by omega
    have h4 : m - 1 ≤ m := by omega
    simp [h1, h2, h4, fieldAt_eraseIdx]
  · rw [fieldAt_insertIdx _ t q _ hle]
    have h1 : ¬ t + 1 ≤ t := by omega
    simp [h1]
  · rw [fieldAt_insertIdx _ t q _ hle, fieldAt_eraseIdx]
    have h1 : t ≤ m := by omega
    simp [h1]

/-- the inner loop and the move: when `x`, the first item behind the part done so far, is smaller than the last item `y` of
    that part, the inner loop stops in front of the first item `x` is smaller than, at the latest in front of `y`, and the
    three assignments move the node of `x` there: on the items this is `insLast`; only cells and `head` change -/
theorem sortInsert_spec {l : LList α} {ns : List Nat} {done rest : List α} {x y : α} (f : α → α → Int)
    (h : Chain l ns (done ++ x :: rest)) (hlast : done.getLast? = some y) (hf : f x y < 0) {q : Nat}
    (hq : ns[done.length]? = some q) :
    sortPos f x done ≤ done.length - 1 ∧
    sortFindPos l f x (l.cells.size + 1) .head = some (fieldAt ns (sortPos f x done)) ∧
    ∃ cells head, sortMove l (fieldAt ns done.length) (fieldAt ns (sortPos f x done)) = some { l with cells := cells, head := head } ∧
      Chain ({ l with cells := cells, head := head } : LList α) ((ns.eraseIdx done.length).insertIdx (sortPos f x done) q)
        (insLast f x done ++ rest) ∧
      cells.size = l.cells.size := by
  have hmlt : done.length < ns.length := (List.getElem?_eq_some_iff.mp hq).1
  have hy : done[done.length - 1]? = some y := by rw [← List.getLast?_eq_getElem?]; exact hlast
  have hdone : 1 ≤ done.length := Nat.pos_of_ne_zero fun e => by rw [List.length_eq_zero_iff.mp e] at hlast; cases hlast
  have htle : sortPos f x done ≤ done.length - 1 := sortPos_hit f x done _ y hy hf
  have htlt : sortPos f x done < done.length := Nat.lt_of_le_of_lt htle (Nat.sub_lt hdone Nat.one_pos)
  have hpos : sortPos f x (done ++ x :: rest) = sortPos f x done := sortPos_append f x _ done htlt
  have hfind := sortFindPos_spec h f x (l.cells.size + 1) 0
    (by rw [List.drop_zero, hpos, List.length_append]; exact Nat.lt_of_lt_of_le htlt (Nat.le_add_right _ _))
    (by rw [List.drop_zero, hpos]
        exact Nat.lt_succ_of_le (Nat.le_trans (Nat.le_of_lt (Nat.lt_trans htlt hmlt)) h.length_le))
  rw [List.drop_zero, hpos, Nat.zero_add] at hfind
  refine ⟨htle, hfind, ?_⟩
  have hitems : ((done ++ x :: rest).eraseIdx done.length).insertIdx (sortPos f x done) x = insLast f x done ++ rest := by
    rw [List.eraseIdx_append_of_length_le (Nat.le_refl _), Nat.sub_self, List.eraseIdx_cons_zero,
      insertIdx_append_le x rest done _ (Nat.le_of_lt htlt), insertIdx_sortPos]
    simp [insLast, hlast, hf]
  exact hitems ▸ sortMove_spec h done.length (sortPos f x done) q x hdone htlt hq (by simp)

/-- one round of the outer loop, as an equation: the item `x` behind the part done so far is put in its place (`insLast`), and
    `ppPrev` / `pp` are again the fields in front of and behind the last node of the part done -/
theorem sortLoop_step (f : α → α → Int) {l : LList α} {ns : List Nat} {done rest : List α} {x : α}
    (h : Chain l ns (done ++ x :: rest)) (hdone : 1 ≤ done.length) (fuel : Nat) :
    ∃ cells head ns', sortLoop f (fuel + 1) l (fieldAt ns (done.length - 1)) (fieldAt ns done.length) =
        sortLoop f fuel { l with cells := cells, head := head } (fieldAt ns' done.length) (fieldAt ns' (done.length + 1)) ∧
      Chain ({ l with cells := cells, head := head } : LList α) ns' (insLast f x done ++ rest) ∧ ns'.Perm ns ∧
      cells.size = l.cells.size := by
  have hlen : ns.length = done.length + (rest.length + 1) := by rw [← h.len]; simp
  have hmlt : done.length < ns.length := by omega
  have hd1 : done.length - 1 < done.length := Nat.sub_lt hdone Nat.one_pos
  have hd1n : done.length - 1 < ns.length := Nat.lt_trans hd1 hmlt
  obtain ⟨q, hq⟩ : ∃ q, ns[done.length]? = some q := ⟨ns[done.length]'hmlt, by simp⟩
  obtain ⟨r, hr⟩ : ∃ r, ns[done.length - 1]? = some r := ⟨ns[done.length - 1]'hd1n, by simp⟩
  obtain ⟨y, hy⟩ : ∃ y, done[done.length - 1]? = some y := ⟨done[done.length - 1]'hd1, by simp⟩
  have hlast : done.getLast? = some y := by rw [List.getLast?_eq_getElem?]; exact hy
  have hdx : dataOf l q = some x := by rw [h.dataOf _ q hq]; simp
  have hdy : dataAt l (fieldAt ns (done.length - 1)) = some y := by
    simp [dataAt, h.ptr _ r hr, h.dataOf _ r hr, List.getElem?_append_left hd1, hy]
  simp only [sortLoop, h.load done.length (Nat.le_of_lt hmlt), hq, hdx, hdy]
  by_cases hf : f x y < 0
  · obtain ⟨htle, hfind, cells, head, e1, hc1, hs1⟩ := sortInsert_spec f h hlast hf hq
    have htn : sortPos f x done < ns.length := Nat.lt_of_le_of_lt htle hd1n
    obtain ⟨fm1, fm2, fm3, fm4⟩ := fieldAt_move ns done.length (sortPos f x done) q (Nat.lt_of_le_of_lt htle hd1) hmlt
    have hle : sortPos f x done ≤ (ns.eraseIdx done.length).length := by
      rw [List.length_eraseIdx_of_lt hmlt]; exact Nat.le_sub_one_of_lt htn
    refine ⟨cells, head, _, ?_, hc1, (List.perm_insertIdx q _ hle).trans (perm_eraseIdx ns _ q hq).symm, hs1⟩
    simp only [hf, if_true, hfind, e1]
    rw [fm1]
    by_cases hpp : fieldAt ns (done.length - 1) = fieldAt ns (sortPos f x done)
    · -- ppPrev = &(*ppPrev)->next: *ppPrev is now the moved node
      have heq : done.length - 1 = sortPos f x done := fieldAt_inj ns h.inj _ _ (Nat.le_of_lt hd1n) (Nat.le_of_lt htn) hpp
      have hptr := hc1.ptr (sortPos f x done) q (by rw [List.getElem?_insertIdx_self, if_pos hle])
      rw [fm4] at hptr
      rw [if_pos hpp, hpp, hptr]
      show sortLoop f fuel _ (.next q) _ = _
      rw [← fm3, ← heq, Nat.sub_add_cancel hdone]
    · have hne : done.length - 1 ≠ sortPos f x done := fun e => hpp (by rw [e])
      rw [if_neg hpp, fm2 (Nat.add_lt_of_lt_sub (Nat.lt_of_le_of_ne htle (Ne.symm hne)))]
  · refine ⟨l.cells, l.head, ns, ?_, ?_, List.Perm.refl _, rfl⟩
    · simp only [hf, if_false, fieldAt_succ ns done.length q hq]
    · simpa [insLast, hlast, hf] using h

theorem sortLoop_spec (f : α → α → Int) :
    ∀ (rest done : List α) (fuel : Nat) (l : LList α) (ns : List Nat), Chain l ns (done ++ rest) → 1 ≤ done.length →
      rest.length < fuel →
      ∃ cells head ns', sortLoop f fuel l (fieldAt ns (done.length - 1)) (fieldAt ns done.length) =
          some ({ l with cells := cells, head := head }, fieldAt ns' ns'.length) ∧
        Chain ({ l with cells := cells, head := head } : LList α) ns' (sortAux f done rest) ∧ ns'.Perm ns ∧
        cells.size = l.cells.size := by
  intro rest
  induction rest with
  | nil =>
    intro done fuel l ns h hdone hfuel
    obtain ⟨fuel, rfl⟩ : ∃ m, fuel = m + 1 := ⟨fuel - 1, by omega⟩
    have e : done.length = ns.length := by rw [← h.len]; simp
    refine ⟨l.cells, l.head, ns, ?_, by simpa [sortAux] using h, List.Perm.refl _, rfl⟩
    rw [e]
    simp only [sortLoop, h.load ns.length (Nat.le_refl _), List.getElem?_eq_none (Nat.le_refl _)]
  | cons x rest ih =>
    intro done fuel l ns h hdone hfuel
    obtain ⟨fuel, rfl⟩ : ∃ m, fuel = m + 1 := ⟨fuel - 1, by omega⟩
    obtain ⟨c1, h1, ns1, e1, hc1, hp1, hs1⟩ := sortLoop_step f h hdone fuel
    have hl : (insLast f x done).length = done.length + 1 := (insLast_perm f x done).length_eq
    obtain ⟨c2, h2, ns2, e2, hc2, hp2, hs2⟩ := ih (insLast f x done) fuel _ ns1 hc1 (hl ▸ Nat.le_add_left 1 _)
      (Nat.lt_of_succ_lt_succ hfuel)
    rw [hl, Nat.add_sub_cancel] at e2
    exact ⟨c2, h2, ns2, e1.trans e2, hc2, hp2.trans hp1, hs2.trans hs1⟩

theorem sort_abs {l : LList α} {ns : List Nat} {a : Abs α} (h : RepA l ns a) (f : α → α → Int) :
    ∃ l' ns', sort l f = some l' ∧ RepA l' ns' (a.sort f) := by
  unfold sort Abs.sort
  rw [h.rep.count, h.len]
  by_cases hgt : ns.length > 1
  · simp only [hgt, if_true]
    obtain ⟨h0, hh0⟩ : ∃ h0, ns[0]? = some h0 := ⟨ns[0]'(by omega), by simp⟩
    have hptr := h.rep.toChain.ptr 0 h0 hh0
    have hf0 : fieldAt ns 0 = Ref.head := rfl
    rw [hf0] at hptr
    simp only [hptr]
    have hil := h.len
    cases hitems : a.items with
    | nil => rw [hitems] at hil; simp at hil; omega
    | cons x0 rest =>
      have hch : Chain l ns ([x0] ++ rest) := by simpa [hitems] using h.rep.toChain
      have hrl : rest.length < l.cells.size + 1 := by
        have := h.rep.toChain.length_le; rw [hitems] at hil; simp at hil; omega
      obtain ⟨cells, head, ns', e, hc, hp, hsz⟩ := sortLoop_spec f rest [x0] (l.cells.size + 1) l ns hch (by simp) hrl
      simp only [List.length_singleton, Nat.sub_self, hf0, fieldAt_succ ns 0 h0 hh0] at e
      simp only [e]
      have pl : Place ns' { pos := head, prev := .head } 0 false := ⟨by simp, rfl, hc.head⟩
      have hr : Rep (⟨cells, l.free, head, fieldAt ns' ns'.length, l.count,
          l.iters.map (fun ki => (ki.1, ({ pos := head, prev := .head } : Iter))), l.fdel⟩ : LList α) ns' (sortList f (x0 :: rest)) := by
        refine ⟨hc.congr rfl rfl, h.rep.count.trans hp.length_eq.symm, rfl, h.rep.freeNodup, ?_, ?_, ?_⟩
        · intro p hpf
          refine ⟨hsz ▸ (h.rep.freeOk p hpf).1, fun k hk => ?_⟩
          obtain ⟨k', hk'⟩ := List.mem_iff_getElem?.mp (hp.mem_iff.mp (List.mem_iff_getElem?.mpr ⟨k, hk⟩))
          exact (h.rep.freeOk p hpf).2 k' hk'
        · simp only [List.map_map]; exact h.rep.keys
        · intro ki hki
          obtain ⟨ki0, _, rfl⟩ := List.mem_map.mp hki
          exact ⟨0, false, pl⟩
      refine ⟨_, ns', rfl, ?_, ?_⟩
      · simpa [hitems] using hr
      · rw [hr.absOf_eq]
        simp [h.curs, h.fdel, pl.cur hc.inj, Function.comp_def]
  · simp only [hgt, if_false]
    exact ⟨l, ns, rfl, h⟩

end Pm.LsdList
