/- C04 / C02 / C11 in the abstract: the bookkeeping between device queues and client commands.
   Abstracts everything except who owns which queued action and who is owed a completion. -/
namespace Pm.Pending

structure Action where
  cid : Nat                -- client id; 0 = internal (login, ping): no callback
deriving DecidableEq

structure Cmd where
  pending : Nat
  error : Bool

structure Client where
  id : Nat
  cmd : Option Cmd
  terminals : Nat          -- ghost: terminal replies written for accepted commands
  accepted : Nat           -- ghost: commands accepted so far

structure State where
  clients : List Client
  queues : List (List Action)       -- one FIFO per device
  nextId : Nat

def queued (s : State) (cid : Nat) : Nat := (s.queues.map fun q => q.countP (·.cid = cid)).sum

/-- `_act_finish(client_id, err)` -/
def finishOne (cid : Nat) (err : Bool) (cl : List Client) : List Client :=
  cl.map fun c =>
    if c.id = cid then
      match c.cmd with
      | some cmd =>
        if cmd.pending = 1 then { c with cmd := none, terminals := c.terminals + 1 }     -- reply + prompt
        else { c with cmd := some { pending := cmd.pending - 1, error := cmd.error || err } }
      | none => c            -- would be `assert(c->cmd != NULL)`: shown unreachable below
    else c

inductive Ev where
  | newClient
  | gone (cid : Nat)                               -- client destroyed at any moment
  | request (cid : Nat) (perDev : List Nat)        -- accepted line: perDev[i] actions appended to queue i
  | complete (dev : Nat) (err : Bool)              -- head of queue `dev` leaves (success or error)
  | login (dev : Nat)                              -- internal action prepended

def appendN (q : List Action) (cid n : Nat) : List Action := q ++ List.replicate n ⟨cid⟩

/-- queue `i` gets `ns[i]` actions of client `cid`; queues the list does not reach stay as they are -/
def zipAppend (cid : Nat) : List (List Action) → List Nat → List (List Action)
  | q :: qs, n :: ns => appendN q cid n :: zipAppend cid qs ns
  | qs, [] => qs
  | [], _ => []

def totalFor : List (List Action) → List Nat → Nat
  | _ :: qs, n :: ns => n + totalFor qs ns
  | _, _ => 0

def setNth {α} : List α → Nat → α → List α
  | [], _, _ => []
  | _ :: xs, 0, a => a :: xs
  | x :: xs, n + 1, a => x :: setNth xs n a

def step (s : State) : Ev → State
  | .newClient => { s with clients := s.clients ++ [⟨s.nextId, none, 0, 0⟩], nextId := s.nextId + 1 }
  | .gone cid => { s with clients := s.clients.filter (·.id ≠ cid) }
  | .request cid perDev =>
    match s.clients.find? (·.id = cid) with
    | some c =>
      if c.cmd.isSome ∨ cid = 0 then s                                   -- busy: 208, nothing enqueued
      else
        let n := totalFor s.queues perDev
        if n = 0 then s                                                  -- 213, no command installed
        else { s with queues := zipAppend cid s.queues perDev,
                      clients := s.clients.map fun c => if c.id = cid then { c with cmd := some ⟨n, false⟩, accepted := c.accepted + 1 } else c }
    | none => s
  | .complete dev err =>
    match s.queues[dev]? with
    | some (a :: rest) =>
      { s with queues := setNth s.queues dev rest, clients := if a.cid = 0 then s.clients else finishOne a.cid err s.clients }
    | _ => s
  | .login dev =>
    match s.queues[dev]? with
    | some q => { s with queues := setNth s.queues dev (⟨0⟩ :: q) }
    | none => s

/-- the invariant: what a client is owed is exactly what is queued in its name -/
structure Inv (s : State) : Prop where
  owed : ∀ c ∈ s.clients, c.id ≠ 0 ∧ match c.cmd with
    | some cmd => cmd.pending = queued s c.id ∧ 0 < cmd.pending
    | none => queued s c.id = 0
  uniq : s.clients.Pairwise (·.id ≠ ·.id)
  fresh : (∀ c ∈ s.clients, c.id < s.nextId) ∧ (∀ q ∈ s.queues, ∀ a ∈ q, a.cid < s.nextId) ∧ 0 < s.nextId
  ghost : ∀ c ∈ s.clients, c.accepted = c.terminals + (if c.cmd.isSome then 1 else 0)

def init (ndev : Nat) : State := { clients := [], queues := List.replicate ndev [], nextId := 1 }

theorem inv_init (ndev : Nat) : Inv (init ndev) := by
  refine ⟨by simp [init], by simp [init], ⟨by simp [init], ?_, by simp [init]⟩, by simp [init]⟩
  intro q hq a ha
  simp only [init] at hq
  rw [(List.mem_replicate.mp hq).2] at ha
  cases ha

/-- `queued` as a function of the queues alone: what the inductions over the queue list run over -/
def cnt (cid : Nat) (qs : List (List Action)) : Nat := (qs.map fun q => q.countP (·.cid = cid)).sum

theorem Inv.owedCnt {s : State} (h : Inv s) {c : Client} (hc : c ∈ s.clients) : c.id ≠ 0 ∧ match c.cmd with
    | some cmd => cmd.pending = cnt c.id s.queues ∧ 0 < cmd.pending
    | none => cnt c.id s.queues = 0 := h.owed c hc

theorem Inv.idLt {s : State} (h : Inv s) : ∀ c ∈ s.clients, c.id < s.nextId := h.fresh.1

theorem Inv.cidLt {s : State} (h : Inv s) : ∀ q ∈ s.queues, ∀ a ∈ q, a.cid < s.nextId := h.fresh.2.1

theorem Inv.nextPos {s : State} (h : Inv s) : 0 < s.nextId := h.fresh.2.2

theorem cnt_setNth (cid : Nat) : ∀ (qs : List (List Action)) (dev : Nat) (q q' : List Action), qs[dev]? = some q →
    cnt cid (setNth qs dev q') + q.countP (·.cid = cid) = cnt cid qs + q'.countP (·.cid = cid)
  | [], _, _, _, h => by simp at h
  | q0 :: qs, 0, q, q', h => by
    simp only [List.getElem?_cons_zero, Option.some.injEq] at h
    subst h
    simp only [setNth, cnt, List.map_cons, List.sum_cons]
    omega
  | q0 :: qs, dev + 1, q, q', h => by
    have := cnt_setNth cid qs dev q q' (by simpa using h)
    simp only [setNth, cnt, List.map_cons, List.sum_cons] at this ⊢
    omega

theorem cnt_setNth_tail (cid : Nat) (qs : List (List Action)) (dev : Nat) (a : Action) (rest : List Action)
    (h : qs[dev]? = some (a :: rest)) : cnt cid (setNth qs dev rest) + (if a.cid = cid then 1 else 0) = cnt cid qs := by
  have := cnt_setNth cid qs dev _ rest h
  rw [List.countP_cons] at this
  simp only [decide_eq_true_eq] at this
  omega

theorem cnt_setNth_cons (cid : Nat) (x : Action) (qs : List (List Action)) (dev : Nat) (q : List Action)
    (h : qs[dev]? = some q) : cnt cid (setNth qs dev (x :: q)) = cnt cid qs + (if x.cid = cid then 1 else 0) := by
  have := cnt_setNth cid qs dev q (x :: q) h
  rw [List.countP_cons] at this
  simp only [decide_eq_true_eq] at this
  omega

theorem countP_replicate_cid (cid c n : Nat) :
    (List.replicate n (⟨c⟩ : Action)).countP (·.cid = cid) = if c = cid then n else 0 := by
  induction n with
  | zero => simp
  | succ n ih => rw [List.replicate_succ, List.countP_cons, ih]; split <;> simp_all

theorem cnt_zipAppend (cid c : Nat) : ∀ (qs : List (List Action)) (ns : List Nat),
    cnt cid (zipAppend c qs ns) = cnt cid qs + (if c = cid then totalFor qs ns else 0)
  | [], [] => by simp [zipAppend, totalFor, cnt]
  | [], _ :: _ => by simp [zipAppend, totalFor, cnt]
  | _ :: _, [] => by simp [zipAppend, totalFor]
  | q :: qs, n :: ns => by
    have := cnt_zipAppend cid c qs ns
    simp only [zipAppend, totalFor, cnt, appendN, List.map_cons, List.sum_cons, List.countP_append,
      countP_replicate_cid] at this ⊢
    split <;> simp_all <;> omega

theorem setNth_eq {α} : ∀ (l : List α) (n : Nat) (a : α), setNth l n a = l.set n a
  | [], _, _ => rfl
  | _ :: _, 0, _ => rfl
  | x :: xs, n + 1, a => congrArg (x :: ·) (setNth_eq xs n a)

theorem mem_setNth {α} (l : List α) (n : Nat) (a x : α) (h : x ∈ setNth l n a) : x = a ∨ x ∈ l :=
  (List.mem_or_eq_of_mem_set (setNth_eq l n a ▸ h)).symm

theorem uniq_eq {cl : List Client} (hu : cl.Pairwise (·.id ≠ ·.id)) {a b : Client} (ha : a ∈ cl) (hb : b ∈ cl)
    (h : a.id = b.id) : a = b := by
  induction cl with
  | nil => cases ha
  | cons x xs ih =>
    rw [List.pairwise_cons] at hu
    rcases List.mem_cons.mp ha with rfl | ha' <;> rcases List.mem_cons.mp hb with rfl | hb'
    · rfl
    · exact absurd h (hu.1 b hb')
    · exact absurd h.symm (hu.1 a ha')
    · exact ih hu.2 ha' hb'

theorem cnt_zero_of_fresh (cid : Nat) : ∀ (qs : List (List Action)), (∀ q ∈ qs, ∀ a ∈ q, a.cid ≠ cid) → cnt cid qs = 0
  | [], _ => rfl
  | q :: qs, h => by
    have h1 : q.countP (·.cid = cid) = 0 := by
      apply List.countP_eq_zero.mpr
      intro a ha
      simpa using h q (by simp) a ha
    have h2 := cnt_zero_of_fresh cid qs (fun q' hq' a ha => h q' (by simp [hq']) a ha)
    simp only [cnt, List.map_cons, List.sum_cons] at h2 ⊢
    omega

/-! ### the invariant is inductive -/

theorem inv_newClient (s : State) (h : Inv s) : Inv (step s .newClient) := by
  have hq0 : queued s s.nextId = 0 :=
    cnt_zero_of_fresh s.nextId s.queues (fun q hq a ha => Nat.ne_of_lt (h.cidLt q hq a ha))
  refine ⟨?_, ?_, ⟨?_, ?_, ?_⟩, ?_⟩
  · intro c hc
    simp only [step, List.mem_append, List.mem_singleton] at hc
    rcases hc with hc | rfl
    · exact h.owed c hc
    · exact ⟨Nat.ne_of_gt h.nextPos, hq0⟩
  · simp only [step]
    rw [List.pairwise_append]
    refine ⟨h.uniq, by simp, ?_⟩
    intro a ha b hb
    simp only [List.mem_singleton] at hb; subst hb
    exact Nat.ne_of_lt (h.idLt a ha)
  · intro c hc
    simp only [step, List.mem_append, List.mem_singleton] at hc
    rcases hc with hc | rfl
    · exact Nat.lt_succ_of_lt (h.idLt c hc)
    · exact Nat.lt_succ_self _
  · intro q hq a ha; exact Nat.lt_succ_of_lt (h.cidLt q hq a ha)
  · exact Nat.succ_pos _
  · intro c hc
    simp only [step, List.mem_append, List.mem_singleton] at hc
    rcases hc with hc | rfl
    · exact h.ghost c hc
    · simp

theorem inv_gone (s : State) (cid : Nat) (h : Inv s) : Inv (step s (.gone cid)) := by
  refine ⟨?_, h.uniq.filter _, ⟨?_, h.cidLt, h.nextPos⟩, ?_⟩
  · intro c hc; exact h.owed c (List.mem_filter.mp hc).1
  · intro c hc; exact h.idLt c (List.mem_filter.mp hc).1
  · intro c hc; exact h.ghost c (List.mem_filter.mp hc).1

theorem inv_login (s : State) (dev : Nat) (h : Inv s) : Inv (step s (.login dev)) := by
  simp only [step]
  cases hq : s.queues[dev]? with
  | none => exact h
  | some q =>
    simp only
    refine ⟨?_, h.uniq, ⟨h.idLt, ?_, h.nextPos⟩, h.ghost⟩
    · intro c hc
      obtain ⟨hne, ho⟩ := h.owedCnt hc
      refine ⟨hne, ?_⟩
      show match c.cmd with
        | some cmd => cmd.pending = cnt c.id (setNth s.queues dev (⟨0⟩ :: q)) ∧ 0 < cmd.pending
        | none => cnt c.id (setNth s.queues dev (⟨0⟩ :: q)) = 0
      rw [cnt_setNth_cons c.id ⟨0⟩ s.queues dev q hq, if_neg (Ne.symm hne)]
      exact ho
    · intro q' hq' a ha
      rcases mem_setNth _ _ _ _ hq' with rfl | hq'
      · rcases List.mem_cons.mp ha with rfl | ha
        · exact h.nextPos
        · exact h.cidLt q (List.mem_of_getElem? hq) a ha
      · exact h.cidLt q' hq' a ha

theorem mem_zipAppend (cid : Nat) : ∀ (qs : List (List Action)) (ns : List Nat) (q' : List Action) (a : Action),
    q' ∈ zipAppend cid qs ns → a ∈ q' → a.cid = cid ∨ ∃ q ∈ qs, a ∈ q
  | [], [], _, _, h, _ => by simp [zipAppend] at h
  | [], _ :: _, _, _, h, _ => by simp [zipAppend] at h
  | q :: qs, [], q', a, h, ha => by simp only [zipAppend] at h; exact Or.inr ⟨q', h, ha⟩
  | q :: qs, n :: ns, q', a, h, ha => by
    simp only [zipAppend, List.mem_cons] at h
    rcases h with rfl | h
    · simp only [appendN, List.mem_append] at ha
      rcases ha with ha | ha
      · exact Or.inr ⟨q, by simp, ha⟩
      · rw [(List.mem_replicate.mp ha).2]; exact Or.inl rfl
    · rcases mem_zipAppend cid qs ns q' a h ha with h' | ⟨q0, hq0, ha0⟩
      · exact Or.inl h'
      · exact Or.inr ⟨q0, by simp [hq0], ha0⟩

theorem pairwise_map_id {cl : List Client} (f : Client → Client) (hf : ∀ c, (f c).id = c.id)
    (hu : cl.Pairwise (·.id ≠ ·.id)) : (cl.map f).Pairwise (·.id ≠ ·.id) := by
  rw [List.pairwise_map]
  exact hu.imp (fun {a b} h => by rw [hf a, hf b]; exact h)

/-- new queues, and the client records changed by an `f` that keeps the ids: the invariant holds again if what each record
    is owed matches the new queues and its two counters still agree -/
theorem Inv.map_clients {s : State} (h : Inv s) (qs : List (List Action)) (f : Client → Client) (hfid : ∀ c, (f c).id = c.id)
    (hq : ∀ q ∈ qs, ∀ a ∈ q, a.cid < s.nextId)
    (howed : ∀ c ∈ s.clients, match (f c).cmd with
      | some cmd => cmd.pending = cnt c.id qs ∧ 0 < cmd.pending
      | none => cnt c.id qs = 0)
    (hghost : ∀ c ∈ s.clients, (f c).accepted = (f c).terminals + (if (f c).cmd.isSome then 1 else 0)) :
    Inv { s with queues := qs, clients := s.clients.map f } := by
  refine ⟨fun c' hc' => ?_, pairwise_map_id f hfid h.uniq, ⟨fun c' hc' => ?_, hq, h.nextPos⟩, fun c' hc' => ?_⟩ <;>
    obtain ⟨c0, hc0, rfl⟩ := List.mem_map.mp hc'
  · rw [hfid]; exact ⟨(h.owed c0 hc0).1, howed c0 hc0⟩
  · rw [hfid]; exact h.idLt c0 hc0
  · exact hghost c0 hc0

theorem inv_request (s : State) (cid : Nat) (perDev : List Nat) (h : Inv s) : Inv (step s (.request cid perDev)) := by
  simp only [step]
  cases hfind : s.clients.find? (·.id = cid) with
  | none => exact h
  | some c =>
    simp only
    have hcmem : c ∈ s.clients := List.mem_of_find?_eq_some hfind
    have hcid : c.id = cid := by simpa using List.find?_some hfind
    split
    · exact h
    · rename_i hfree
      have hnone : c.cmd = none := by
        cases hcc : c.cmd with
        | none => rfl
        | some _ => exact absurd (Or.inl (by simp [hcc])) hfree
      split
      · exact h
      · rename_i hn
        have hq0 : cnt cid s.queues = 0 := by
          have := (h.owedCnt hcmem).2; rw [hnone] at this; rw [← hcid]; exact this
        refine h.map_clients _ _ (fun x => by split <;> rfl) ?_ ?_ ?_
        · intro q' hq' a ha
          rcases mem_zipAppend cid _ _ q' a hq' ha with h' | ⟨q0, hq0', ha0⟩
          · rw [h', ← hcid]; exact h.idLt c hcmem
          · exact h.cidLt q0 hq0' a ha0
        · intro c0 hc0
          have ho := (h.owedCnt hc0).2
          by_cases hid : c0.id = cid
          · simp only [hid, if_true]
            rw [cnt_zipAppend, hq0]
            simp
            omega
          · simp only [hid, if_false]
            rw [cnt_zipAppend]
            have : ¬ (cid = c0.id) := fun h => hid h.symm
            simpa [this] using ho
        · intro c0 hc0
          have hg := h.ghost c0 hc0
          by_cases hid : c0.id = cid
          · have : c0 = c := uniq_eq h.uniq hc0 hcmem (by rw [hid, hcid])
            subst this
            simp only [hid, if_true]
            rw [hnone] at hg
            simp at hg ⊢
            omega
          · simp only [hid, if_false]; exact hg

theorem inv_complete (s : State) (dev : Nat) (err : Bool) (h : Inv s) : Inv (step s (.complete dev err)) := by
  simp only [step]
  split
  next a rest hq =>
    have hcnt := fun cid => cnt_setNth_tail cid s.queues dev a rest hq
    have hfq : ∀ q ∈ setNth s.queues dev rest, ∀ x ∈ q, x.cid < s.nextId := by
      intro q' hq' x hx
      rcases mem_setNth _ _ _ _ hq' with rfl | hq'
      · exact h.cidLt _ (List.mem_of_getElem? hq) x (by simp [hx])
      · exact h.cidLt q' hq' x hx
    by_cases h0 : a.cid = 0
    · simp only [h0, if_true]
      have := h.map_clients (setNth s.queues dev rest) id (fun _ => rfl) hfq ?_ h.ghost
      · simpa using this
      intro c hc
      obtain ⟨hne, ho⟩ := h.owedCnt hc
      have := hcnt c.id
      have hne' : ¬ (a.cid = c.id) := by rw [h0]; exact fun h => hne h.symm
      simp only [hne', if_false, Nat.add_zero] at this
      rw [id, this]; exact ho
    · simp only [h0, if_false]
      refine h.map_clients _ _ (fun x => by split; split; split <;> rfl; rfl; rfl) hfq ?_ ?_
      · intro c0 hc0
        have ho := (h.owedCnt hc0).2
        have hc := hcnt c0.id
        by_cases hid : c0.id = a.cid
        · have e1 : cnt a.cid (setNth s.queues dev rest) + 1 = cnt a.cid s.queues := by simpa using hcnt a.cid
          rw [hid] at ho ⊢
          simp only [if_true]
          cases hcmd : c0.cmd with
          | none => rw [hcmd] at ho; simp only at ho; omega
          | some cmd =>
            rw [hcmd] at ho
            simp only at ho ⊢
            by_cases hp1 : cmd.pending = 1
            · simp only [hp1, if_true]; omega
            · simp only [hp1, if_false]; omega
        · have hid' : ¬ (a.cid = c0.id) := fun h => hid h.symm
          simp only [hid', if_false, Nat.add_zero] at hc
          simp only [hid, if_false]
          rw [hc]; exact ho
      · intro c0 hc0
        have hg := h.ghost c0 hc0
        split
        · split
          · rename_i cmd hcmd
            rw [hcmd] at hg
            split <;> simp at hg ⊢ <;> omega
          · exact hg
        · exact hg
  next => exact h

/-- C04 / C02 / C11 backbone: over every interleaving of connects, departures, accepted and busy
    request lines, device completions (successful or failed) and login insertions, what each live
    client is owed equals what is queued in its name. -/
theorem inv_run (ndev : Nat) (evs : List Ev) : Inv (evs.foldl step (init ndev)) := by
  have : ∀ s, Inv s → Inv (evs.foldl step s) := by
    induction evs with
    | nil => intro s h; exact h
    | cons e es ih =>
      intro s h
      apply ih
      cases e with
      | newClient => exact inv_newClient s h
      | gone cid => exact inv_gone s cid h
      | request cid pd => exact inv_request s cid pd h
      | complete d e => exact inv_complete s d e h
      | login d => exact inv_login s d h
  exact this _ (inv_init ndev)

/-- the `assert(c->cmd != NULL)` in `_act_finish` is unreachable: a completion that still finds its
    client finds it with a command -/
theorem act_finish_assert_safe (s : State) (h : Inv s) (dev : Nat) (a : Action) (rest : List Action)
    (hq : s.queues[dev]? = some (a :: rest)) (c : Client) (hc : c ∈ s.clients) (hid : c.id = a.cid) :
    c.cmd.isSome = true := by
  obtain ⟨hne, ho⟩ := h.owedCnt hc
  have hcnt := cnt_setNth_tail c.id s.queues dev a rest hq
  simp only [hid.symm, if_true] at hcnt
  cases hcmd : c.cmd with
  | some _ => rfl
  | none => rw [hcmd] at ho; simp only at ho; omega

/-- exactly one terminal reply per accepted command: at any time, accepted = answered + (1 if one is
    in progress) -/
theorem one_reply_per_command (ndev : Nat) (evs : List Ev) :
    ∀ c ∈ (evs.foldl step (init ndev)).clients, c.accepted = c.terminals + (if c.cmd.isSome then 1 else 0) :=
  (inv_run ndev evs).ghost

end Pm.Pending

