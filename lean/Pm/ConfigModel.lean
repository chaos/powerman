import Pm.Create
/-! # Configuration model (C13): `device` / `node` / `alias` lines → node-to-plug map

Executable mirror, over strings, of what `powermand` does with the `device`, `node` and `alias` lines of `powerman.conf`:
`parse_tab.y` (`makeDevice`, `makeNode`, `makeAlias`, `findSpec`), `pluglist.c` (`pluglist_create`, `pluglist_map`,
`_pluglist_map_one`, `_pluglist_map_next`), `parse_util.c` (`conf_addnodes`, `conf_node_exists`, `conf_add_alias`,
`_alias_create`, `_validate_config`).  Host-range strings are expanded with the hostlist mirrors (`create`, `expand`);
`conf_nodes` is a hostlist built by `pushHost`, `conf_node_exists` is `find` on it.

The model is compared with the real parser on every run (`harness/u_confdump.c` against the `cfdriver` executable,
`lib/config.py`).  The order of checks and of effects is the order of the C code:

* `makeDevice`: `findSpec` (first specification of that name) or `device specification not found`; the device is APPENDED to the
  device list; there is no check for a duplicate device name (two devices of one name may exist; `dev_findbyname` returns the first).
* `makeNode`: `dev_findbyname` or `unknown device` → `hostlist_create(nodestr)` or `invalid node list` → `hostlist_create(plugstr)`
  or `invalid plug list` → `pluglist_map` (`unknown plug name` / `plug already assigned` / `more nodes than plugs` /
  `more plugs than nodes`) → `conf_addnodes` or `duplicate node name`.  `pluglist_map` runs to its end before `conf_addnodes` starts.
* `makeAlias`: `bad alias` for a duplicate alias name, and for a host string `hostlist_create` refuses; aliases are PUSHED (prepended).
* `_validate_config`, after the last line: per alias in list order `alias 'a' references nonexistent node 'n'`, then
  `no nodes are defined`.  The real code prints every such message and exits 1; the model reports the first one printed. -/
namespace Pm.ConfigModel
open Pm

/-- a device specification as far as plugs go: `plugs = some l` for a `plug name { … }` list (hard-wired plugs) -/
structure Spec where
  name : Name
  plugs : Option (List Name)
deriving Repr

/-- one configuration line -/
inductive Stmt where
  | device (name spec : Name)
  | node (nodes : List Char) (dev : Name) (plugs : Option (List Char))
  | alias (name : Name) (hosts : List Char)
deriving Repr

/-- `Plug` of `pluglist.h` -/
structure Plug where
  name : Name
  node : Option Name
deriving DecidableEq, Repr

/-- the part of `Device` the configuration lines touch; `hard` = `pl->hardwired` -/
structure Dev where
  name : Name
  spec : Name
  hard : Bool
  plugs : List Plug
deriving DecidableEq, Repr

/-- `alias_t`, plus the index of the line that declared it (for the diagnostic) -/
structure Alias where
  name : Name
  hl : Hostlist
  stmt : Nat
deriving DecidableEq, Repr

/-- `dev_devices` (plugs in the C list order), `conf_nodes`, `conf_aliases` (C list order) -/
structure Cfg where
  devs : List Dev
  nodes : Hostlist
  aliases : List Alias
deriving DecidableEq, Repr

/-- one constructor per message text -/
inductive DiagClass where
  | specNotFound        -- device specification not found
  | unknownDevice       -- unknown device
  | invalidNodeList     -- invalid node list
  | invalidPlugList     -- invalid plug list
  | unknownPlug         -- unknown plug name
  | plugAssigned        -- plug already assigned
  | moreNodes           -- more nodes than plugs
  | morePlugs           -- more plugs than nodes
  | dupNodeName         -- duplicate node name
  | badAlias            -- bad alias
  | aliasMissing        -- alias '…' references nonexistent node '…'
  | noNodes             -- no nodes are defined
deriving DecidableEq, Repr

/-- diagnostic class and index of the offending line (`noNodes`: the number of lines) -/
abbrev Diag := DiagClass × Nat

def DiagClass.text : DiagClass → String
  | .specNotFound => "specNotFound" | .unknownDevice => "unknownDevice" | .invalidNodeList => "invalidNodeList"
  | .invalidPlugList => "invalidPlugList" | .unknownPlug => "unknownPlug" | .plugAssigned => "plugAssigned"
  | .moreNodes => "moreNodes" | .morePlugs => "morePlugs" | .dupNodeName => "dupNodeName" | .badAlias => "badAlias"
  | .aliasMissing => "aliasMissing" | .noNodes => "noNodes"

/-! ### `pluglist.c` -/

/-- assign `node` to the first plug called `name` (`_pluglist_find_any` returns the first) -/
def setFirst (name node : Name) : List Plug → List Plug
  | [] => []
  | p :: ps => if p.name = name then { p with node := some node } :: ps else p :: setFirst name node ps

/-- `_pluglist_map_one` -/
def mapOne (d : Dev) (node name : Name) : Except DiagClass Dev :=
  match d.plugs.find? (·.name = name) with
  | none => if d.hard then .error .unknownPlug else .ok { d with plugs := ⟨name, some node⟩ :: d.plugs }   -- list_push prepends
  | some p => if p.node.isSome then .error .plugAssigned else .ok { d with plugs := setFirst name node d.plugs }

/-- assign `node` to the first free plug -/
def setNextFree (node : Name) : List Plug → Option (List Plug)
  | [] => none
  | p :: ps => if p.node.isNone then some ({ p with node := some node } :: ps)
               else (setNextFree node ps).map (p :: ·)

/-- `_pluglist_map_next` -/
def mapNext (d : Dev) (node : Name) : Except DiagClass Dev :=
  match setNextFree node d.plugs with
  | some ps => .ok { d with plugs := ps }
  | none => .error .moreNodes

/-- `pluglist_map` on the expanded node list and the expanded plug list (`none`: no plug list given) -/
def mapLine (d : Dev) : List Name → Option (List Name) → Except DiagClass Dev
  | [], none => .ok d
  | n :: ns, none =>
    match (if d.hard then mapNext d n else mapOne d n n) with
    | .error e => .error e
    | .ok d' => mapLine d' ns none
  | [], some [] => .ok d
  | [], some (_ :: _) => .error .morePlugs
  | _ :: _, some [] => .error .moreNodes
  | n :: ns, some (p :: ps) =>
    match mapOne d n p with
    | .error e => .error e
    | .ok d' => mapLine d' ns (some ps)

/-! ### `parse_util.c` -/

/-- `conf_node_exists` -/
def nodeExists (known : Hostlist) (n : Name) : Bool := (find known n).isSome

/-- `conf_addnodes` -/
def addNodes (known : Hostlist) : List Name → Except DiagClass Hostlist
  | [] => .ok known
  | n :: ns => if nodeExists known n then .error .dupNodeName else addNodes (pushHost known n) ns

/-! ### `parse_tab.y` -/

/-- `findSpec`: the first specification of that name -/
def findSpec (specs : List Spec) (name : Name) : Option Spec := specs.find? (·.name = name)

/-- `pluglist_create` -/
def newPlugs (s : Spec) : List Plug := (s.plugs.getD []).map fun n => ⟨n, none⟩

/-- `makeDevice` -/
def makeDevice (specs : List Spec) (c : Cfg) (name spec : Name) : Except DiagClass Cfg :=
  match findSpec specs spec with
  | none => .error .specNotFound
  | some s => .ok { c with devs := c.devs ++ [{ name, spec, hard := s.plugs.isSome, plugs := newPlugs s }] }   -- list_append

/-- run `f` on the first device called `name` (`dev_findbyname`), or `unknown device` -/
def updDev (name : Name) (f : Dev → Except DiagClass Dev) : List Dev → Except DiagClass (List Dev)
  | [] => .error .unknownDevice
  | d :: ds =>
    if d.name = name then
      match f d with
      | .error e => .error e
      | .ok d' => .ok (d' :: ds)
    else
      match updDev name f ds with
      | .error e => .error e
      | .ok ds' => .ok (d :: ds')

/-- the two `hostlist_create` validations of `makeNode`, then `pluglist_map` -/
def nodeOnDev (nodestr : List Char) (plugstr : Option (List Char)) (d : Dev) : Except DiagClass Dev :=
  match create nodestr with
  | .error _ => .error .invalidNodeList
  | .ok nhl =>
    match plugstr with
    | none => mapLine d (expand nhl) none
    | some ps =>
      match create ps with
      | .error _ => .error .invalidPlugList
      | .ok phl => mapLine d (expand nhl) (some (expand phl))

/-- `makeNode` -/
def makeNode (c : Cfg) (nodestr : List Char) (dev : Name) (plugstr : Option (List Char)) : Except DiagClass Cfg :=
  match updDev dev (nodeOnDev nodestr plugstr) c.devs with
  | .error e => .error e
  | .ok devs =>
    match create nodestr with
    | .error _ => .error .invalidNodeList            -- not reached: `nodeOnDev` has refused already
    | .ok nhl =>
      match addNodes c.nodes (expand nhl) with
      | .error e => .error e
      | .ok nodes => .ok { c with devs := devs, nodes := nodes }

/-- `makeAlias` / `conf_add_alias` / `_alias_create` -/
def makeAlias (c : Cfg) (idx : Nat) (name : Name) (hosts : List Char) : Except DiagClass Cfg :=
  if c.aliases.any (·.name = name) then .error .badAlias
  else match create hosts with
    | .error _ => .error .badAlias
    | .ok hl => .ok { c with aliases := ⟨name, hl, idx⟩ :: c.aliases }                  -- list_push prepends

/-- some member of the alias is not a configured node -/
def aliasBad (nodes : Hostlist) (a : Alias) : Bool := (expand a.hl).any fun h => !nodeExists nodes h

/-- `_validate_config` (the first message it prints) -/
def validate (c : Cfg) (n : Nat) : Except Diag Cfg :=
  match c.aliases.find? (aliasBad c.nodes) with
  | some a => .error (.aliasMissing, a.stmt)
  | none => if (expand c.nodes).isEmpty then .error (.noNodes, n) else .ok c

/-- one configuration line -/
def step (specs : List Spec) (c : Cfg) (i : Nat) : Stmt → Except DiagClass Cfg
  | .device name spec => makeDevice specs c name spec
  | .node nodes dev plugs => makeNode c nodes dev plugs
  | .alias name hosts => makeAlias c i name hosts

/-- the lines from number `i` on, then `_validate_config` -/
def run (specs : List Spec) : Cfg → Nat → List Stmt → Except Diag Cfg
  | c, i, [] => validate c i
  | c, i, s :: rest =>
    match step specs c i s with
    | .error e => .error (e, i)
    | .ok c' => run specs c' (i + 1) rest

def empty : Cfg := ⟨[], [], []⟩

/-- `conf_init` on a configuration with the given specifications and lines -/
def build (specs : List Spec) (stmts : List Stmt) : Except Diag Cfg := run specs empty 0 stmts

end Pm.ConfigModel
