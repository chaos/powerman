import Pm.Dev2Proof
import Pm.Dev2Walk
import Pm.Dev2Clip
import Pm.Logic
/-! What one pass of `dev_post_poll` can do, as a flat list of moves on the pass state `PA` = (connection state with the log
    of system calls, oracle, reports so far, registered time-out): `Move`, `Run`, `Pass`, and `postPoll_run` (a pass is a
    sequence of moves).  An invariant of the pass is checked against the list once (`Pass.keeps`), a relation between the
    state before and after likewise (`Pass.related`).  Then what users read off a move without looking at the list: what it
    reports (`Move.says`), whom it serves (`Served`; counted per client in `Pm/Dev2Count.lean`: `Move.count`), what it never
    touches (`Move.static`), that an abort stays (`Move.aborted`). -/
namespace Pm.Dev2
open Login2

/-- the queue emptied and the match object recycled (error branch of `_process_action`) -/
def failed (c : CS) : CS := { c with dev := { c.dev with acts := [], xmStr := none, xmResult := false, xmUsed := false } }

/-- the run of the statement interpreter on the head `a0` of the queue, stamped -/
def headRun (c : CS) (o : Oracle) (a0 : Action) : StepR :=
  innerLoop c.env.now (loopBound (stamp c.env.now a0)) { c.dev with wake := none } (stamp c.env.now a0) o []

/-- the three stages of `dev_post_poll`: `ready` is `_handle_ready_device`; `after false` (`link`) is `_reconnect` and
    `_enqueue_ping`; `after true` (`loop`) is the loop of `_process_action`.  The last two share a constructor because the error
    branch of the loop calls `_reconnect` too: `connect` and `wait` are moves of `after b` for either `b` -/
inductive Stage where | ready | after (loop : Bool)
abbrev Stage.link := Stage.after false
abbrev Stage.loop := Stage.after true

/-- **What `dev_post_poll` can do in one move.**  Source and target are pass states; every target is written out, so a
    move is a function of its constructor's arguments and its source, and the reports (`out`), the system calls (`sys`) and
    the kernel's answers (`env`) are part of the state: no labels are needed.

    A move is a *transaction*, not an atom: the smallest piece of the pass after which the invariants of the device hold
    again.  `_connect` comes with its `_enqueue_login` and the error branch on a CONNECTED device with its `_disconnect`
    (between the two halves `LoginHead` is false), one run of the interpreter comes with what `_process_action` makes of its
    outcome (before `advance` nothing is known about the match object), and the address walk stays inside `connectDev` /
    `Tel.readyFinish` (inside `tcp_connect` descriptor and connection state disagree).

    What is about *why or when the loop stops* is not in the relation and stays on `processActionF_induct` with
    `bodyStep_branches`: a stalled head ends the run, the timer coverage after the last iteration, what is sent iteration by
    iteration, that a flush of the output buffer ends the loop.  `bodyStep_run` ties the two: an iteration is a sequence of
    moves. -/
inductive Move : Stage → PA → PA → Prop
  /-- the entry `assert` of `_handle_ready_device` fires: a descriptor is held by a device that is NOT_CONNECTED -/
  | assert (c o out tmo) : c.dev.fd.isSome = true → c.dev.conn = 0 →
      Move .ready (c, o, out, tmo)
        ({ c with sys := c.sys ++ [.abort "assert connect_state != NOT_CONNECTED"], aborted := true }, o, out, tmo)
  /-- POLLOUT while CONNECTED: one `write`; what it took leaves `dev->to` -/
  | write (c o out tmo) (wr : Bytes) (ok : Bool) (kept : Bytes) : (if ok then wr else []) ++ kept = c.dev.toBuf →
      Move .ready (c, o, out, tmo) ({ c with sys := c.sys ++ [.write wr ok], dev := { c.dev with toBuf := kept } }, o, out, tmo)
  /-- POLLIN: `_handle_read` and the telnet filter (what it writes: `read_dev`, `read_env`) -/
  | read (c o out tmo) : Move .ready (c, o, out, tmo) ((Tel.readyRd (clipRead c)).1, o, out, tmo)
  /-- POLLOUT while CONNECTING: `tcp_finish_connect`, then the login action in front if the device is CONNECTED (`readyFinish_dev`) -/
  | finish (c o out tmo) : c.dev.conn = 1 → c.dev.fd.isSome = true → Move .ready (c, o, out, tmo) ((Tel.readyFinish c).1, o, out, tmo)
  /-- `_reconnect` of a device that is not NOT_CONNECTED begins with `_disconnect` (`disconnectDev_cs`) -/
  | disconnect (c o out tmo) : c.dev.conn ≠ 0 → Move .link (c, o, out, tmo) (disconnectDev c, o, out, tmo)
  /-- `_connect`, always on a NOT_CONNECTED device: the attempt is counted, the transport connects or walks its addresses, and
      the login action is put in front if the device is CONNECTED at once (`connectDev_frame`) -/
  | connect (b : Bool) (c o out tmo) : c.dev.conn = 0 → Move (.after b) (c, o, out, tmo) (connectDev c, o, out, tmo)
  /-- a time-out is registered: the rest of a back-off, of a ping period, of the head's deadline -/
  | wait (b : Bool) (c o out tmo) (left : Time) : 0 < left → Move (.after b) (c, o, out, tmo) (c, o, out, upd tmo left)
  /-- `_enqueue_ping`: the ping period is over, a ping action goes behind the queue -/
  | ping (c o out tmo) (now : Time) : Move .link (c, o, out, tmo) (appendPing now c, o, out, tmo)
  /-- `_process_action` looks at the head: it gets its time stamp -/
  | stamp (c o out tmo) (a0 : Action) (rest : List Action) : c.dev.acts = a0 :: rest →
      Move .loop (c, o, out, tmo) ({ c with dev := { c.dev with acts := Dev2.stamp c.env.now a0 :: rest } }, o, out, tmo)
  /-- telemetry of the time-out branch -/
  | note (c o out tmo) (a : Action) (rest : List Action) : c.dev.acts = a :: rest →
      Move .loop (c, o, out, tmo) (c, o, out ++ Fd.timeoutTele c.dev a, tmo)
  /-- the error branch on a device that is not CONNECTED: everybody is told, the queue is emptied -/
  | failIdle (c o out tmo) (a : Action) (rest : List Action) (e : ActErr) : c.dev.acts = a :: rest → c.dev.conn ≠ 2 →
      Move .loop (c, o, out, tmo) (failed c, o, out ++ (headFin a e ++ restFin rest e), tmo)
  /-- … and on a CONNECTED one: then `_disconnect` -/
  | failConn (c o out tmo) (a : Action) (rest : List Action) (e : ActErr) : c.dev.acts = a :: rest → c.dev.conn = 2 →
      Move .loop (c, o, out, tmo) (disconnectDev (failed c), o, out ++ (headFin a e ++ restFin rest e), tmo)
  /-- the interpreter ran on the head and an assertion fired -/
  | runAbort (c o out tmo) (a0 : Action) (rest : List Action) (r : StepR) : c.dev.acts = a0 :: rest → c.dev.conn = 2 →
      headRun c o a0 = r → hasAbort r.out = true →
      Move .loop (c, o, out, tmo) ({ c with dev := { r.dev with acts := r.act :: rest }, aborted := true }, r.oracle, out ++ r.out, tmo)
  /-- … the head stalled: it stays, its wake-up and its deadline are registered -/
  | runStall (c o out tmo) (a0 : Action) (rest : List Action) (r : StepR) (left : Time) : c.dev.acts = a0 :: rest →
      c.dev.conn = 2 → headRun c o a0 = r → r.finished = false → 0 < left → hasAbort r.out = false →
      Move .loop (c, o, out, tmo) ({ c with dev := { r.dev with acts := r.act :: rest } }, r.oracle, out ++ r.out,
        upd (match r.dev.wake with | some w => upd tmo w | none => tmo) left)
  /-- … the script is over: the head leaves the queue, its client is told, the match object is recycled -/
  | runDone (c o out tmo) (a0 : Action) (rest : List Action) (r : StepR) : c.dev.acts = a0 :: rest → c.dev.conn = 2 →
      headRun c o a0 = r → r.finished = true → (advance r.act).exec = [] → hasAbort r.out = false → r.act.errnum = .success →
      Move .loop (c, o, out, tmo)
        ({ c with dev := { r.dev with acts := rest, loggedIn := r.dev.loggedIn || (advance r.act).com == 0,
                                      statActions := r.dev.statActions + 1, xmStr := none, xmResult := false, xmUsed := false } },
         r.oracle, out ++ r.out ++ headFin (advance r.act) .success, tmo)
  /-- … the next statement is due -/
  | runNext (c o out tmo) (a0 : Action) (rest : List Action) (r : StepR) : c.dev.acts = a0 :: rest → c.dev.conn = 2 →
      headRun c o a0 = r → r.finished = true → (advance r.act).exec ≠ [] → hasAbort r.out = false → r.act.errnum = .success →
      Move .loop (c, o, out, tmo) ({ c with dev := { r.dev with acts := advance r.act :: rest } }, r.oracle, out ++ r.out, tmo)
  /-- … the action failed: the error branch, on a CONNECTED device -/
  | runFail (c o out tmo) (a0 : Action) (rest : List Action) (r : StepR) : c.dev.acts = a0 :: rest → c.dev.conn = 2 →
      headRun c o a0 = r → r.finished = true → r.act.errnum ≠ .success → hasAbort r.out = false →
      Move .loop (c, o, out, tmo) (disconnectDev (failed { c with dev := r.dev }), r.oracle, out ++ r.out ++ failFins rest r.act, tmo)
  /-- the model's fuel is used up (never: `InterpPass`) -/
  | fuel (c o out tmo) : Move .loop (c, o, out, tmo) ({ c with aborted := true }, o, out ++ [Out.abortAssert "model: fuel exhausted"], tmo)

/-- a sequence of moves of one stage -/
inductive Run (k : Stage) : PA → PA → Prop
  | refl (s : PA) : Run k s s
  | tail {a b c : PA} : Run k a b → Move k b c → Run k a c

theorem Run.single {k : Stage} {a b : PA} (h : Move k a b) : Run k a b := .tail (.refl a) h
theorem Run.trans {k : Stage} {a b c : PA} (h1 : Run k a b) (h2 : Run k b c) : Run k a c := by
  induction h2 with
  | refl => exact h1
  | tail _ hs ih => exact .tail ih hs

/-- a property of the pass state that every move keeps is kept by a sequence of moves -/
theorem Run.keeps {k : Stage} {I : PA → Prop} (hI : ∀ s s', Move k s s' → I s → I s') {s s' : PA} (h : Run k s s') (hs : I s) :
    I s' := by
  induction h with
  | refl => exact hs
  | tail _ hm ih => exact hI _ _ hm ih

/-- a reflexive, transitive relation that holds of every move holds of a sequence of moves -/
theorem Run.related {k : Stage} {R : PA → PA → Prop} (hrefl : ∀ s, R s s) (htrans : ∀ {a b c}, R a b → R b c → R a c)
    (hR : ∀ s s', Move k s s' → R s s') {s s' : PA} (h : Run k s s') : R s s' := by
  induction h with
  | refl => exact hrefl _
  | tail _ hm ih => exact htrans ih (hR _ _ hm)

/-- a pass: the moves of the three stages, in this order -/
def Pass (s s' : PA) : Prop := ∃ m n, Run .ready s m ∧ Run .link m n ∧ Run .loop n s'

theorem Pass.keeps {I : PA → Prop} (hI : ∀ k s s', Move k s s' → I s → I s') {s s' : PA} (h : Pass s s') (hs : I s) : I s' :=
  let ⟨_, _, h1, h2, h3⟩ := h; h3.keeps (hI _) (h2.keeps (hI _) (h1.keeps (hI _) hs))

theorem Pass.related {R : PA → PA → Prop} (hrefl : ∀ s, R s s) (htrans : ∀ {a b c}, R a b → R b c → R a c)
    (hR : ∀ k s s', Move k s s' → R s s') {s s' : PA} (h : Pass s s') : R s s' :=
  let ⟨_, _, h1, h2, h3⟩ := h
  htrans (h1.related hrefl htrans (hR _)) (htrans (h2.related hrefl htrans (hR _)) (h3.related hrefl htrans (hR _)))

/-! ### the targets of the moves: what the functions named in them do to the pass state

These are the lemmas to use in the `read`, `finish` and `run…` cases of a case analysis of `Move` (`disconnect` and `connect`:
`disconnectDev_cs`, `connectDev_frame` of `Pm/Dev2Walk.lean`). -/

theorem headRun_writes (c : CS) (o : Oracle) (a0 : Action) :
    StmtWrites { c.dev with wake := none } (stamp c.env.now a0) (headRun c o a0) :=
  innerLoop_writes _ _ _ _ _ [] (fun _ h => nomatch h)

theorem headRun_clientId (c : CS) (o : Oracle) (a0 : Action) : (headRun c o a0).act.clientId = a0.clientId :=
  (headRun_writes c o a0).clientId.trans (stamp_clientId _ _)
theorem headRun_com (c : CS) (o : Oracle) (a0 : Action) : (headRun c o a0).act.com = a0.com :=
  (headRun_writes c o a0).com.trans (stamp_com _ _)

theorem read_dev (c : CS) :
    (Tel.readyRd (clipRead c)).1.dev =
      { c.dev with fromSize := clipSize c, fromBuf := (Tel.readyRd (clipRead c)).1.dev.fromBuf,
                   tstate := (Tel.readyRd (clipRead c)).1.dev.tstate, tcmd := (Tel.readyRd (clipRead c)).1.dev.tcmd,
                   toBuf := (Tel.readyRd (clipRead c)).1.dev.toBuf } := by
  have h : ∀ c1 : CS, (Tel.readyRd c1).1.dev =
      { c1.dev with fromBuf := (Tel.readyRd c1).1.dev.fromBuf, tstate := (Tel.readyRd c1).1.dev.tstate,
                    tcmd := (Tel.readyRd c1).1.dev.tcmd, toBuf := (Tel.readyRd c1).1.dev.toBuf } := by
    intro c1
    unfold Tel.readyRd
    split
    · split
      · rfl
      · dsimp only
        split
        · rfl
        · unfold telnetFilter; rfl
    · rfl
    · rfl
  exact (h _).trans (by rw [clipRead_dev])

theorem read_env (c : CS) : (Tel.readyRd (clipRead c)).1.env = { c.env with read := (clipRead c).env.read } := by
  have h : ∀ c1 : CS, (Tel.readyRd c1).1.env = c1.env := by
    intro c1
    unfold Tel.readyRd
    split
    · exact ite_cases (P := fun x : CS × Bool => x.1.env = c1.env) (fun _ => rfl) fun _ => rfl
    · rfl
    · rfl
  rw [h]
  unfold clipRead
  split <;> rfl

theorem read_aborted (c : CS) (h : c.aborted = true) : (Tel.readyRd (clipRead c)).1.aborted = true := by
  have h1 := (clipRead_aborted c).trans h
  generalize clipRead c = c1 at h1
  unfold Tel.readyRd
  split
  · exact ite_cases (P := fun x : CS × Bool => x.1.aborted = true) (fun _ => h1) fun _ => h1
  · exact h1
  · rfl

theorem disconnectDev_aborted (c : CS) : (disconnectDev c).aborted = c.aborted := by rw [disconnectDev_cs]

theorem connectDev_aborted (c : CS) (h : c.aborted = true) : (connectDev c).aborted = true := by
  rw [Fd.connectDev_eq]
  have hb : (Fd.bump c).aborted = true := h
  generalize Fd.bump c = c1 at hb
  have key : ∀ r : CS × Bool, r.1.aborted = true → (Fd.connTail r).aborted = true := fun r hr => by
    unfold Fd.connTail; exact ite_cases (P := fun x : CS => x.aborted = true) (fun _ => hr) fun _ => hr
  refine ite_cases (P := fun r : CS × Bool => (Fd.connTail r).aborted = true) (fun _ => key _ ?_) fun _ => key _ ((tcpConnect_frame c1).aborted hb)
  rcases pipeConnect_cases c1 with ⟨_, e⟩ | ⟨_, _, e⟩ | ⟨_, _, e⟩ | ⟨_, _, _, _, _, _, e⟩ <;> rw [e]
  exact hb

/-- finishing a connect: the connection layer moves the pass state within `WalkFrame` (`c1`), and if the device is CONNECTED
    now the login action is put in front -/
theorem readyFinish_dev (c : CS) (h1 : c.dev.conn = 1) :
    ∃ c1, WalkFrame c c1 ∧ ((c1.dev.conn ≠ 2 ∧ (Tel.readyFinish c).1 = c1) ∨
      (c1.dev.conn = 2 ∧ (Tel.readyFinish c).1 = { c1 with dev := enqueueLogin c1.dev })) := by
  unfold Tel.readyFinish
  by_cases hp : c.dev.isPipe = true
  · rw [if_pos hp]
    exact ⟨_, .step (.rfl' _) _ _ _ (.cons rfl .nil) fun _ => rfl, Or.inl ⟨by rw [show _ = c.dev.conn from rfl, h1]; decide, rfl⟩⟩
  rw [if_neg hp]
  have hw : WalkFrame c (if (finishConnectOne c).2 then (finishConnectOne c).1 else finishConnectFail (finishConnectOne c).1) :=
    ite_cases (fun _ => finishConnectOne_frame c) fun _ => (finishConnectOne_frame c).trans (finishConnectFail_frame _)
  generalize (if (finishConnectOne c).2 then (finishConnectOne c).1 else finishConnectFail (finishConnectOne c).1) = c1 at hw ⊢
  refine ⟨c1, hw, ?_⟩
  unfold Tel.finishTail
  by_cases h0 : (c1.dev.conn == 0) = true
  · rw [if_pos h0]; exact Or.inl ⟨by rw [eq_of_beq h0]; decide, rfl⟩
  rw [if_neg h0]
  by_cases h2 : (c1.dev.conn == 2) = true
  · rw [if_pos h2]; exact Or.inr ⟨eq_of_beq h2, rfl⟩
  · rw [if_neg h2]; exact Or.inl ⟨fun h => h2 (by rw [h]; rfl), rfl⟩

/-- … seen from the telnet decoder and the connect counter: the read bit is skipped; an i/o error is reported exactly when every
    remaining address failed (NOT_CONNECTED); and either decoder and counter are as they were and no connection is up, or a
    connection came up — on the pending address or on a later one — with the decoder at rest and one more connect counted -/
theorem readyFinish_tel (c : CS) (h1 : c.dev.conn = 1) :
    (Tel.readyFinish c).2.2 = true ∧ (Tel.readyFinish c).2.1 = ((Tel.readyFinish c).1.dev.conn == 0) ∧
    ((TelSame c.dev (Tel.readyFinish c).1.dev ∧ (Tel.readyFinish c).1.dev.conn ≠ 2) ∨ TelUp c.dev (Tel.readyFinish c).1.dev) := by
  unfold Tel.readyFinish
  by_cases hp : c.dev.isPipe = true
  · rw [if_pos hp]
    exact ⟨rfl, by rw [show _ = (c.dev.conn == 0) from rfl, h1]; rfl, .inl ⟨⟨rfl, rfl, rfl⟩, by rw [show _ = c.dev.conn from rfl, h1]; decide⟩⟩
  rw [if_neg hp]
  have hT : (TelSame c.dev (if (finishConnectOne c).2 then (finishConnectOne c).1 else finishConnectFail (finishConnectOne c).1).dev ∧
        (if (finishConnectOne c).2 then (finishConnectOne c).1 else finishConnectFail (finishConnectOne c).1).dev.conn ≠ 2) ∨
      TelUp c.dev (if (finishConnectOne c).2 then (finishConnectOne c).1 else finishConnectFail (finishConnectOne c).1).dev := by
    have fail : ∀ c1 : CS, TelSame c.dev c1.dev → c1.dev.conn = 1 →
        (TelSame c.dev (finishConnectFail c1).dev ∧ (finishConnectFail c1).dev.conn ≠ 2) ∨ TelUp c.dev (finishConnectFail c1).dev :=
      fun c1 ⟨t1, t2, t3⟩ hc => (finishConnectFail_tel c1).imp
        (fun ⟨⟨a1, a2, a3⟩, b⟩ => ⟨⟨a1.trans t1, a2.trans t2, a3.trans t3⟩, b.elim (fun h => by rw [h]; decide) fun h => by rw [h, hc]; decide⟩)
        fun ⟨b1, b2, b3, b4⟩ => ⟨b1, b2, b3, by rw [b4, t3]⟩
    rcases finishConnectOne_outcomes c with ⟨r, e⟩ | ⟨x, r, e⟩ | e <;> rw [e]
    · exact .inr ⟨rfl, rfl, rfl, rfl⟩
    · exact fail _ ⟨rfl, rfl, rfl⟩ h1
    · exact fail _ ⟨rfl, rfl, rfl⟩ h1
  generalize (if (finishConnectOne c).2 then (finishConnectOne c).1 else finishConnectFail (finishConnectOne c).1) = c1 at hT ⊢
  unfold Tel.finishTail
  by_cases h0 : (c1.dev.conn == 0) = true
  · rw [if_pos h0]; exact ⟨rfl, h0.symm, hT⟩
  rw [if_neg h0]
  by_cases h2 : (c1.dev.conn == 2) = true
  · rw [if_pos h2]; exact ⟨rfl, (Bool.eq_false_iff.2 h0).symm, hT⟩
  · rw [if_neg h2]; exact ⟨rfl, (Bool.eq_false_iff.2 h0).symm, hT⟩

/-! ### the pass is a sequence of moves -/

theorem readyWrite_run (c o out tmo) (hfd : c.dev.fd.isSome = true) :
    Run .ready (c, o, out, tmo) ((Tel.readyWrite c).1, o, out, tmo) := by
  rcases Tel.readyWrite_cases c with ⟨h1, h⟩ | ⟨io, h⟩ | ⟨wr, ok, kept, io, hk, _, h⟩ <;> rw [h]
  · exact .single (.finish c o out tmo h1 hfd)
  · exact .refl _
  · exact .single (.write c o out tmo wr ok kept hk)

/-- `_handle_ready_device`, called (as `dev_post_poll` does) only when a descriptor is held -/
theorem handleReady_run (c o out tmo) (hfd : c.dev.fd.isSome = true) :
    Run .ready (c, o, out, tmo) ((handleReady c).1, o, out, tmo) := by
  rw [Tel.handleReady_eq]
  have hne : c.dev.fd ≠ none := fun h => by rw [h] at hfd; cases hfd
  by_cases h0 : (c.dev.conn == 0) = true
  · rw [if_pos h0]; exact .single (.assert _ _ _ _ hfd (eq_of_beq h0))
  rw [if_neg h0, if_neg (by simpa using hne)]
  by_cases h2 : (c.env.revents &&& 4 != 0 || c.env.revents &&& 8 != 0 || c.env.revents &&& 16 != 0) = true
  · rw [if_pos h2]; exact .refl _
  rw [if_neg h2]
  have h1 := readyWrite_run c o out tmo hfd
  generalize Tel.readyWrite c = r at *
  by_cases h3 : r.2.1 = true
  · rw [if_pos h3]; exact h1
  rw [if_neg h3]
  by_cases h4 : r.2.2 = true
  · rw [if_pos h4]; exact h1
  rw [if_neg h4]
  unfold Tel.readyRead
  exact h1.trans (ite_cases (P := fun x : CS × Bool => Run .ready (r.1, o, out, tmo) (x.1, o, out, tmo))
    (fun _ => .single (.read ..)) fun _ => .refl _)

/-- what every move of `_handle_ready_device` keeps of the device, `_handle_ready_device` keeps — called with a descriptor or
    without one (`Fd.handleReady_noFd`).  The moves of this stage do not look at the oracle, the reports or the time-out. -/
theorem handleReady_keeps {I : Dev → Prop} (hI : ∀ {s s' : PA}, Move .ready s s' → I s.1.dev → I s'.1.dev) (c : CS) (h : I c.dev) :
    I (handleReady c).1.dev := by
  cases hfd : c.dev.fd with
  | none => rw [Fd.handleReady_noFd c hfd]; exact h
  | some x => exact (handleReady_run c ⟨[]⟩ [] none (by rw [hfd]; rfl)).keeps (I := fun s => I s.1.dev) (fun _ _ => hI) h

theorem reconnectDev_tail (b : Bool) (c o out tmo) :
    Run (.after b) (if (c.dev.conn != 0) = true then disconnectDev c else c, o, out, tmo)
      ((reconnectDev c tmo).1, o, out, (reconnectDev c tmo).2) := by
  obtain ⟨c1, hc1, h0, ⟨_, e⟩ | ⟨_, hlt, e⟩⟩ := reconnectDev_cases c tmo <;> rw [e, ← hc1]
  · exact .single (.connect b c1 o out tmo h0)
  · exact .single (.wait b c1 o out tmo _ (by unfold Time at *; omega))

theorem reconnectDev_run (c o out tmo) : Run .link (c, o, out, tmo) ((reconnectDev c tmo).1, o, out, (reconnectDev c tmo).2) := by
  refine Run.trans ?_ (reconnectDev_tail false c o out tmo)
  exact ite_cases (P := fun x => Run .link (c, o, out, tmo) (x, o, out, tmo))
    (fun h => .single (.disconnect c o out tmo (by simpa using h))) fun _ => .refl _

theorem failed_tail (c o out tmo) (h2 : c.dev.conn = 2) :
    Run .loop (disconnectDev (failed c), o, out, tmo) ((reconnectDev (failed c) tmo).1, o, out, (reconnectDev (failed c) tmo).2) := by
  have := reconnectDev_tail true (failed c) o out tmo
  rwa [if_pos (by show (c.dev.conn != 0) = true; rw [h2]; rfl)] at this

theorem bodyStep_run (c o out tmo) : Run .loop (c, o, out, tmo) (bodyStep c o out tmo).1 := by
  rcases bodyStep_branches c o out tmo with ⟨_, e⟩ | ⟨a0, rest, ts, _, hacts, _, h⟩
  · rw [e]; exact .refl _
  have hst : Run .loop (c, o, out, tmo) ({ c with dev := { c.dev with acts := stamp c.env.now a0 :: rest } }, o, out, tmo) :=
    .single (.stamp c o out tmo a0 rest hacts)
  rcases h with ⟨_, e⟩ | ⟨hlt, _, e⟩ | ⟨hlt, h2, e⟩ <;> rw [e]
  · rw [Fd.onTimeout_eq_failAll]
    have hn : Run .loop (c, o, out, tmo) ({ c with dev := { c.dev with acts := stamp c.env.now a0 :: rest } }, o,
        out ++ Fd.timeoutTele c.dev (stamp c.env.now a0), tmo) :=
      hst.tail (.note _ o out tmo _ rest rfl)
    by_cases h2 : c.dev.conn = 2
    · rw [failAll_connected _ _ _ _ _ _ h2]
      exact (hn.tail (.failConn _ o _ tmo (stamp c.env.now a0) rest (Fd.timeoutErr c.dev) rfl h2)).trans (failed_tail c o _ tmo h2)
    · rw [failAll_other _ _ _ _ _ _ h2]
      exact hn.tail (.failIdle _ o _ tmo (stamp c.env.now a0) rest (Fd.timeoutErr c.dev) rfl h2)
  · exact hst.tail (.wait _ _ o out tmo _ (by unfold Time at *; omega))
  · rcases onRunStep_branches rest c (stamp c.env.now a0) o out tmo _ (headRun c o a0) rfl with
      ⟨hA, e⟩ | ⟨hA, hF, e⟩ | ⟨hA, hF, hS, hX, e⟩ | ⟨hA, hF, hS, hX, e⟩ | ⟨hA, hF, hE, e⟩ <;> rw [e]
    · exact .single (.runAbort c o out tmo a0 rest _ hacts h2 rfl hA)
    · exact .single (.runStall c o out tmo a0 rest _ _ hacts h2 rfl hF (by unfold Time at *; omega) hA)
    · exact .single (.runDone c o out tmo a0 rest _ hacts h2 rfl hF hX hA hS)
    · exact .single (.runNext c o out tmo a0 rest _ hacts h2 rfl hF hX hA hS)
    · have h2' : (headRun c o a0).dev.conn = 2 := (headRun_writes c o a0).conn.trans h2
      rw [failAll_connected _ _ _ _ _ _ h2']
      exact (Run.single (.runFail c o out tmo a0 rest _ hacts h2 rfl hF hE hA)).trans
        (failed_tail { c with dev := (headRun c o a0).dev } _ _ tmo h2')

theorem processActionF_run (fuel : Nat) (c o out tmo) : Run .loop (c, o, out, tmo) (processActionF fuel c o out tmo) :=
  processActionF_induct (Inv := fun c' o' out' tmo' => Run .loop (c, o, out, tmo) (c', o', out', tmo')) (Post := Run .loop (c, o, out, tmo))
    (fun c' o' out' tmo' h => h.tail (.fuel c' o' out' tmo'))
    (fun c' o' out' tmo' h _ => h.trans (bodyStep_run c' o' out' tmo'))
    (fun c' o' out' tmo' h _ => h.trans (bodyStep_run c' o' out' tmo')) fuel c o out tmo (.refl _)

theorem postPollReady_run (d : Dev) (env : Env) (o out tmo) :
    Run .ready ({ dev := d, env := env, sys := [] }, o, out, tmo) ((postPollReady d env).1, o, out, tmo) := by
  unfold postPollReady
  cases hd : d.fd.isSome
  · rw [if_neg (by simp)]; exact .refl _
  · exact ite_cases (P := fun x : CS × Bool => Run .ready ({ dev := d, env := env, sys := [] }, o, out, tmo) (x.1, o, out, tmo))
      (fun _ => handleReady_run { dev := d, env := env, sys := [] } o out tmo hd) fun _ => .refl _

theorem postPollPing_run (now : Time) (p : CS × Option Time) (o out) :
    Run .link (p.1, o, out, p.2) ((postPollPing now p).1, o, out, (postPollPing now p).2) := by
  rcases postPollPing_cases now p with e | ⟨left, hl, e⟩ | e <;> rw [e]
  · exact .single (.ping ..)
  · exact .single (.wait _ _ _ _ _ _ hl)
  · exact .refl _

theorem postPollLink_run (d : Dev) (env : Env) (o out) :
    Run .link ((postPollReady d env).1, o, out, none) ((postPollPre d env).1, o, out, (postPollPre d env).2) := by
  unfold postPollPre
  refine Run.trans ?_ (postPollPing_run env.now _ o out)
  unfold postPollReconnect
  exact ite_cases (P := fun x : CS × Option Time => Run .link ((postPollReady d env).1, o, out, none) (x.1, o, out, x.2))
    (fun _ => reconnectDev_run _ o out none) fun _ => .refl _

/-- **a pass of `dev_post_poll` is a sequence of moves** -/
theorem postPoll_run (d : Dev) (env : Env) (o : Oracle) :
    Pass ({ dev := d, env := env, sys := [] }, o, [], none) (postPoll d env o) := by
  rcases postPoll_cases d env o with ⟨_, e⟩ | ⟨_, e⟩ <;> rw [e]
  · exact ⟨_, _, postPollReady_run d env o [] none, .refl _, .refl _⟩
  · exact ⟨_, _, postPollReady_run d env o [] none, postPollLink_run d env o [], processActionF_run ..⟩

/-! ### an abort stays; the static part of the device -/

theorem Move.aborted {k : Stage} {s s' : PA} (h : Move k s s') (ha : s.1.aborted = true) : s'.1.aborted = true := by
  cases h with
  | assert | runAbort | fuel => rfl
  | write | wait | ping | stamp | note | failIdle | runStall | runDone | runNext => exact ha
  | read c => exact read_aborted c ha
  | finish c _ _ _ h1 =>
    obtain ⟨c1, hw, ⟨_, e⟩ | ⟨_, e⟩⟩ := readyFinish_dev c h1 <;> rw [e] <;> exact hw.aborted ha
  | disconnect c | failConn c | runFail c => exact (disconnectDev_aborted _).trans ha
  | connect _ c => exact connectDev_aborted c ha

theorem Move.static {k : Stage} {s s' : PA} (h : Move k s s') :
    s'.1.dev.plugs = s.1.dev.plugs ∧ s'.1.dev.scripts = s.1.dev.scripts := by
  have run (c : CS) (o : Oracle) (a0 : Action) :
      (headRun c o a0).dev.plugs = c.dev.plugs ∧ (headRun c o a0).dev.scripts = c.dev.scripts :=
    ⟨by rw [(headRun_writes c o a0).dev], by rw [(headRun_writes c o a0).dev]⟩
  cases h with
  | assert | write | wait | ping | stamp | note | failIdle | fuel => exact ⟨rfl, rfl⟩
  | read c => exact ⟨by rw [read_dev], by rw [read_dev]⟩
  | finish c _ _ _ h1 =>
    obtain ⟨c1, hw, ⟨_, e⟩ | ⟨_, e⟩⟩ := readyFinish_dev c h1 <;> rw [e] <;> exact ⟨hw.dev.plugs, hw.dev.scripts⟩
  | disconnect c => exact ⟨by rw [disconnectDev_cs], by rw [disconnectDev_cs]⟩
  | failConn c => exact ⟨by rw [disconnectDev_cs]; rfl, by rw [disconnectDev_cs]; rfl⟩
  | connect _ c =>
    obtain ⟨d1, hf, _, ⟨e, _⟩ | ⟨e, _⟩⟩ := connectDev_frame c <;> rw [e] <;> exact ⟨hf.plugs, hf.scripts⟩
  | runAbort c o _ _ a0 _ _ _ _ hr | runStall c o _ _ a0 _ _ _ _ _ hr | runDone c o _ _ a0 _ _ _ _ hr
  | runNext c o _ _ a0 _ _ _ _ hr => exact hr ▸ run c o a0
  | runFail c o _ _ a0 _ _ _ _ hr => exact hr ▸ ⟨by rw [disconnectDev_cs]; exact (run c o a0).1, by rw [disconnectDev_cs]; exact (run c o a0).2⟩

/-! ### what a move reports -/

/-- what a move says on behalf of the head `a` of the queue: the telemetry of its time-out, or what the interpreter reports -/
def SaidFor (c : CS) (o : Oracle) (a : Action) (said : List Out) : Prop :=
  said = Fd.timeoutTele c.dev a ∨ said = (headRun c o a).out

theorem SaidFor.noFinish {c : CS} {o : Oracle} {a : Action} {said : List Out} (h : SaidFor c o a said) :
    ∀ x ∈ said, isFinish x = false := by
  rcases h with rfl | rfl
  · exact fun x hx => noFinish_of_note (timeoutTele_notes c.dev a x hx)
  · exact (headRun_writes c o a).noFinish

/-- reports are only added: first what is said for the head of the queue (or the note that the model's fuel is used up), then
    completions -/
theorem Move.says {k : Stage} {s s' : PA} (h : Move k s s') :
    ∃ said fins, s'.2.2.1 = s.2.2.1 ++ said ++ fins ∧ (∀ x ∈ fins, ∃ c e, x = Out.finish c e) ∧
      (said = [] ∨ said = [Out.abortAssert "model: fuel exhausted"] ∨
       ∃ a rest, s.1.dev.acts = a :: rest ∧ SaidFor s.1 s.2.1 a said) := by
  have nof : ∀ x ∈ ([] : List Out), ∃ c e, x = Out.finish c e := fun _ h => nomatch h
  cases h with
  | assert | write | read | finish | disconnect | connect | wait | ping | stamp =>
    exact ⟨[], [], (List.append_nil _).symm.trans (List.append_nil _).symm, nof, .inl rfl⟩
  | note c _ _ _ a rest ha => exact ⟨_, [], (List.append_nil _).symm, nof, .inr (.inr ⟨a, rest, ha, .inl rfl⟩)⟩
  | failIdle c _ _ _ a rest e | failConn c _ _ _ a rest e => exact ⟨[], _, by rw [List.append_nil], fail_finish a rest e, .inl rfl⟩
  | runAbort c _ _ _ a0 rest r ha _ hr | runStall c _ _ _ a0 rest r _ ha _ hr | runNext c _ _ _ a0 rest r ha _ hr =>
    exact ⟨r.out, [], (List.append_nil _).symm, nof, .inr (.inr ⟨a0, rest, ha, .inr (hr ▸ rfl)⟩)⟩
  | runDone c _ _ _ a0 rest r ha _ hr => exact ⟨r.out, _, rfl, headFin_finish _ _, .inr (.inr ⟨a0, rest, ha, .inr (hr ▸ rfl)⟩)⟩
  | runFail c _ _ _ a0 rest r ha _ hr => exact ⟨r.out, _, rfl, fail_finish _ _ _, .inr (.inr ⟨a0, rest, ha, .inr (hr ▸ rfl)⟩)⟩
  | fuel => exact ⟨_, [], (List.append_nil _).symm, nof, .inr (.inl rfl)⟩

theorem rewind_clientId (a : Action) : (rewind a).clientId = a.clientId := by
  unfold rewind; split <;> rfl
theorem rewind_com (a : Action) : (rewind a).com = a.com := by
  unfold rewind; split <;> rfl

/-! ### whom a move serves: completions against the client actions of the queue -/

namespace Login2

/-- the client ids of the completions in an output, in order -/
def finishesOf (l : List Out) : List Nat := l.filterMap fun x => match x with | .finish cid _ => some cid | _ => none
/-- the client ids of the client actions (`clientId ≠ 0`: not login, not ping) of a queue, in queue order -/
def clientIds (acts : List Action) : List Nat := (acts.filter (·.clientId != 0)).map (·.clientId)

@[simp] theorem finishesOf_append (l m : List Out) : finishesOf (l ++ m) = finishesOf l ++ finishesOf m := by
  simp [finishesOf]
@[simp] theorem clientIds_nil : clientIds [] = [] := rfl
theorem clientIds_cons (a : Action) (r : List Action) :
    clientIds (a :: r) = (if a.clientId != 0 then [a.clientId] else []) ++ clientIds r := by
  unfold clientIds; by_cases h : a.clientId = 0 <;> simp [h]
theorem clientIds_append (l m : List Action) : clientIds (l ++ m) = clientIds l ++ clientIds m := by
  simp [clientIds]
theorem clientIds_cons_congr (a b : Action) (r : List Action) (h : a.clientId = b.clientId) :
    clientIds (a :: r) = clientIds (b :: r) := by simp [clientIds_cons, h]

theorem finishesOf_noFinish (l : List Out) (h : ∀ x ∈ l, isFinish x = false) : finishesOf l = [] := by
  refine List.filterMap_eq_nil_iff.2 fun x hx => ?_
  have := h x hx
  cases x <;> first | rfl | cases this

theorem finishesOf_headFin (a : Action) (e : ActErr) : finishesOf (headFin a e) = (if a.clientId != 0 then [a.clientId] else []) := by
  unfold headFin; by_cases h : a.clientId = 0 <;> simp [h, finishesOf]

theorem finishesOf_restFin (e : ActErr) (rest : List Action) : finishesOf (restFin rest e) = clientIds rest := by
  unfold restFin
  generalize (if e == ActErr.expfail then ActErr.abort else e) = e'
  unfold finishesOf clientIds
  induction rest.filter (·.clientId != 0) with
  | nil => rfl
  | cons b r ih => simp [ih]

theorem enqueueLogin_clientIds (d : Dev) : clientIds (enqueueLogin d).acts = clientIds d.acts := by
  unfold enqueueLogin
  cases d.acts with
  | nil => simp [clientIds_cons, loginAction]
  | cons a r => simp [clientIds_cons, loginAction, rewind_clientId]

theorem connectDev_clientIds (c : CS) : clientIds (connectDev c).dev.acts = clientIds c.dev.acts := by
  obtain ⟨d1, hf, _, ⟨e, _⟩ | ⟨e, _⟩⟩ := connectDev_frame c
  · rw [e, enqueueLogin_clientIds, hf.acts]
  · rw [e, hf.acts]

end Login2

/-- from `s` to `s'` reports are only added (`new`), and the completions among them are exactly the client actions that left the
    front of the queue, in queue order: FIFO (C10), conservation (C04) and routing (C11) in one statement -/
def Served (s s' : PA) : Prop :=
  ∃ new, s'.2.2.1 = s.2.2.1 ++ new ∧ finishesOf new ++ clientIds s'.1.dev.acts = clientIds s.1.dev.acts

theorem Served.refl (s : PA) : Served s s := ⟨[], (List.append_nil _).symm, rfl⟩
theorem Served.trans {a b c : PA} : Served a b → Served b c → Served a c
  | ⟨l, h1, h2⟩, ⟨m, h3, h4⟩ =>
    ⟨l ++ m, by rw [h3, h1, List.append_assoc], by rw [finishesOf_append, List.append_assoc, h4, h2]⟩

theorem Served.quiet {s s' : PA} (new : List Out) (ho : s'.2.2.1 = s.2.2.1 ++ new) (hn : ∀ x ∈ new, isFinish x = false)
    (hq : clientIds s'.1.dev.acts = clientIds s.1.dev.acts) : Served s s' :=
  ⟨new, ho, by rw [finishesOf_noFinish new hn, hq]; rfl⟩

theorem Served.same {s s' : PA} (ho : s'.2.2.1 = s.2.2.1) (hq : clientIds s'.1.dev.acts = clientIds s.1.dev.acts) : Served s s' :=
  .quiet [] (by rw [ho, List.append_nil]) (fun _ h => nomatch h) hq

theorem Served.all {s s' : PA} {a : Action} {rest : List Action} (e : ActErr) (hs : clientIds s.1.dev.acts = clientIds (a :: rest))
    (ho : s'.2.2.1 = s.2.2.1 ++ (headFin a e ++ restFin rest e)) (hq : s'.1.dev.acts = []) : Served s s' := by
  refine ⟨_, ho, ?_⟩
  rw [hq, finishesOf_append, finishesOf_headFin, finishesOf_restFin, hs, clientIds_cons, clientIds_nil, List.append_nil]

theorem Move.served {s s' : PA} (h : Move .loop s s') : Served s s' := by
  -- what the interpreter reports holds no completion, and the head it hands back belongs to the same client
  have said (c : CS) (o : Oracle) (a0 : Action) (rest : List Action) (ha : c.dev.acts = a0 :: rest) {out : List Out} {tmo tmo' : Option Time}
      {ab : Bool} : Served (c, o, out, tmo)
        ({ c with dev := { (headRun c o a0).dev with acts := (headRun c o a0).act :: rest }, aborted := ab }, (headRun c o a0).oracle,
          out ++ (headRun c o a0).out, tmo') :=
    .quiet _ rfl (headRun_writes c o a0).noFinish (by rw [ha]; exact clientIds_cons_congr _ _ _ (headRun_clientId c o a0))
  cases h with
  | connect _ c => exact .same rfl (connectDev_clientIds c)
  | wait => exact .refl _
  | stamp c _ _ _ a0 rest ha => exact .same rfl (by rw [ha]; exact clientIds_cons_congr _ _ _ (stamp_clientId _ _))
  | note c _ _ _ a => exact .quiet _ rfl (fun x hx => noFinish_of_note (timeoutTele_notes c.dev a x hx)) rfl
  | failIdle c _ _ _ a rest e ha => exact .all e (congrArg clientIds ha) rfl rfl
  | failConn c _ _ _ a rest e ha => exact .all e (congrArg clientIds ha) rfl (disconnectDev_empty _ rfl)
  | fuel => exact .quiet _ rfl (fun x hx => List.mem_singleton.1 hx ▸ rfl) rfl
  | runAbort c o _ _ a0 rest r ha _ hr | runStall c o _ _ a0 rest r _ ha _ hr =>
    subst hr
    exact said c o a0 rest ha
  | runNext c o _ _ a0 rest r ha _ hr =>
    subst hr
    exact .quiet _ rfl (headRun_writes c o a0).noFinish (by
      rw [ha]; exact clientIds_cons_congr _ _ _ ((advance_clientId _).trans (headRun_clientId c o a0)))
  | runDone c o _ _ a0 rest r ha _ hr =>
    subst hr
    refine ⟨_, List.append_assoc .., ?_⟩
    rw [finishesOf_append, finishesOf_noFinish _ (headRun_writes c o a0).noFinish, finishesOf_headFin, ha, clientIds_cons,
      advance_clientId, headRun_clientId]; rfl
  | runFail c o _ _ a0 rest r ha _ hr =>
    -- first what the interpreter reports (the head keeps its place), then the error branch
    subst hr
    exact (said c o a0 rest ha (tmo' := none) (ab := false)).trans (.all _ rfl rfl (disconnectDev_empty _ rfl))

theorem processActionF_served (fuel : Nat) (c : CS) (o : Oracle) (out : List Out) (tmo : Option Time) :
    Served (c, o, out, tmo) (processActionF fuel c o out tmo) :=
  (processActionF_run fuel c o out tmo).related Served.refl Served.trans fun _ _ => Move.served

theorem Login2.mem_clientIds {cid : Nat} {l : List Action} (h : cid ∈ clientIds l) : ∃ a ∈ l, a.clientId = cid := by
  unfold clientIds at h
  obtain ⟨a, ha, rfl⟩ := List.mem_map.1 h
  exact ⟨a, (List.mem_filter.1 ha).1, rfl⟩

/-- C11 routing, device half: every completion one pass of `_process_action` reports carries the client id of an action that
    was in this device's queue when the pass began -/
theorem finishes_owned (fuel : Nat) (c : CS) (o : Oracle) (out : List Out) (tmo : Option Time) :
    ∀ cid e, Out.finish cid e ∈ (processActionF fuel c o out tmo).2.2.1 →
      Out.finish cid e ∈ out ∨ ∃ a ∈ c.dev.acts, a.clientId = cid := by
  intro cid e h
  obtain ⟨new, h1, h2⟩ := processActionF_served fuel c o out tmo
  rw [h1] at h
  refine (List.mem_append.1 h).imp id fun hn => mem_clientIds (l := c.dev.acts) ?_
  show cid ∈ clientIds c.dev.acts
  rw [← h2]
  exact List.mem_append_left _ (List.mem_filterMap.2 ⟨_, hn, rfl⟩)

/-- the same for the entry point the pass really uses (fuel computed from the queue) -/
theorem processAction_finishes_owned (c : CS) (o : Oracle) (tmo : Option Time) :
    ∀ cid e, Out.finish cid e ∈ (processAction c o [] tmo).2.2.1 → ∃ a ∈ c.dev.acts, a.clientId = cid := by
  intro cid e h
  rcases finishes_owned _ c o [] tmo cid e h with h1 | h1
  · simp at h1
  · exact h1

/-! ### … when no client action uses the login slot: the whole pass -/

namespace Login2

/-- client actions never use script slot 0 (login): needed because `_disconnect` drops a head with `com = 0` silently -/
def NoClientLogin (d : Dev) : Prop := ∀ a ∈ d.acts, a.com = 0 → a.clientId = 0

theorem ncl_of_acts {d : Dev} (l : List Action) (hl : d.acts = l) (h : ∀ a ∈ l, a.com = 0 → a.clientId = 0) :
    NoClientLogin d := by unfold NoClientLogin; rw [hl]; exact h

theorem ncl_cons_congr {a b : Action} {rest : List Action} (h : ∀ x ∈ a :: rest, x.com = 0 → x.clientId = 0)
    (h1 : b.com = a.com) (h2 : b.clientId = a.clientId) : ∀ x ∈ b :: rest, x.com = 0 → x.clientId = 0 := by
  intro x hx
  simp only [List.mem_cons] at hx
  rcases hx with rfl | hx
  · rw [h1, h2]; exact h a (by simp)
  · exact h x (by simp [hx])

theorem enqueueLogin_ncl (d : Dev) (h : NoClientLogin d) : NoClientLogin (enqueueLogin d) := by
  unfold enqueueLogin NoClientLogin at *
  intro a ha
  simp only [List.mem_cons] at ha
  rcases ha with rfl | ha
  · intro _; rfl
  · cases hacts : d.acts with
    | nil => rw [hacts] at ha; simp at ha
    | cons x r =>
      rw [hacts] at ha h
      simp only [List.mem_cons] at ha
      rcases ha with rfl | ha
      · rw [rewind_com, rewind_clientId]; exact h x (by simp)
      · exact h a (by simp [ha])

theorem connectDev_ncl (c : CS) (h : NoClientLogin c.dev) : NoClientLogin (connectDev c).dev := by
  obtain ⟨d1, hf, _, he⟩ := connectDev_frame c
  have hn : NoClientLogin d1 := by unfold NoClientLogin; rw [hf.acts]; exact h
  rcases he with ⟨e, _⟩ | ⟨e, _⟩
  · rw [e]; exact enqueueLogin_ncl _ hn
  · rw [e]; exact hn

theorem disconnectDev_acts (c : CS) : (disconnectDev c).dev.acts = Timer.dropLogin c.dev.acts := by
  rw [disconnectDev_cs]

theorem disconnectDev_ncl (c : CS) (h : NoClientLogin c.dev) :
    NoClientLogin (disconnectDev c).dev ∧ clientIds (disconnectDev c).dev.acts = clientIds c.dev.acts := by
  unfold NoClientLogin at *
  rw [disconnectDev_acts]
  cases hacts : c.dev.acts with
  | nil => simp [Timer.dropLogin]
  | cons a r =>
    rw [hacts] at h
    rw [Timer.dropLogin]
    split
    · rename_i h0
      have := h a (by simp) (by simpa using h0)
      exact ⟨fun b hb => h b (by simp [hb]), by simp [clientIds_cons, this]⟩
    · exact ⟨h, rfl⟩

theorem appendPing_clients (now : Time) (c : CS) (h : NoClientLogin c.dev) :
    NoClientLogin (appendPing now c).dev ∧ clientIds (appendPing now c).dev.acts = clientIds c.dev.acts := by
  unfold appendPing NoClientLogin
  constructor
  · intro a ha
    simp only [List.mem_append, List.mem_singleton] at ha
    rcases ha with ha | rfl
    · exact h a ha
    · intro h6; simp [pingAction] at h6
  · simp [clientIds_append, clientIds_cons, pingAction, loginAction]

end Login2

theorem Move.ncl {k : Stage} {s s' : PA} (h : Move k s s') (hi : NoClientLogin s.1.dev) : NoClientLogin s'.1.dev := by
  cases h with
  | assert | write | wait | note | fuel => exact hi
  | read c => rw [read_dev]; exact hi
  | finish c _ _ _ h1 =>
    obtain ⟨c1, hw, ⟨_, e⟩ | ⟨_, e⟩⟩ := readyFinish_dev c h1 <;> rw [e]
    · exact ncl_of_acts _ hw.dev.acts hi
    · exact enqueueLogin_ncl _ (ncl_of_acts _ hw.dev.acts hi)
  | disconnect c => exact (disconnectDev_ncl c hi).1
  | connect _ c => exact connectDev_ncl c hi
  | ping c _ _ _ now => exact (appendPing_clients now c hi).1
  | failIdle => exact fun _ h => nomatch h
  | failConn | runFail => exact ncl_of_acts [] (disconnectDev_empty _ rfl) fun _ h => nomatch h
  | stamp c _ _ _ a0 rest ha => exact ncl_cons_congr (ha ▸ hi) (stamp_com _ _) (stamp_clientId _ _)
  | runAbort c o _ _ a0 rest r ha _ hr | runStall c o _ _ a0 rest r _ ha _ hr =>
    exact hr ▸ ncl_cons_congr (ha ▸ hi) (headRun_com c o a0) (headRun_clientId c o a0)
  | runNext c o _ _ a0 rest r ha _ hr =>
    exact hr ▸ ncl_cons_congr (ha ▸ hi) ((advance_com _).trans (headRun_com c o a0)) ((advance_clientId _).trans (headRun_clientId c o a0))
  | runDone c _ _ _ a0 rest r ha => exact fun x hx => hi x (ha ▸ List.mem_cons_of_mem _ hx)

/-- before `_process_action` nobody is told anything, and the client actions of the queue stay (`_disconnect` drops a login action
    silently: hence `NoClientLogin`) -/
theorem Move.served_of_ncl {s s' : PA} : ∀ {k : Stage}, Move k s s' → NoClientLogin s.1.dev → Served s s'
  | .loop, h, _ => h.served
  | .ready, h, _ => by
    cases h with
    | assert | write => exact .refl _
    | read c => exact .same rfl (by rw [read_dev])
    | finish c _ _ _ h1 =>
      obtain ⟨c1, hw, ⟨_, e⟩ | ⟨_, e⟩⟩ := readyFinish_dev c h1 <;> rw [e]
      · exact .same rfl (congrArg clientIds hw.dev.acts)
      · exact .same rfl ((enqueueLogin_clientIds _).trans (congrArg clientIds hw.dev.acts))
  | .link, h, hi => by
    cases h with
    | wait => exact .refl _
    | disconnect c => exact .same rfl (disconnectDev_ncl c hi).2
    | connect _ c => exact .same rfl (connectDev_clientIds c)
    | ping c _ _ _ now => exact .same rfl (appendPing_clients now c hi).2

theorem Pass.served {s s' : PA} (h : Pass s s') (hi : NoClientLogin s.1.dev) : NoClientLogin s'.1.dev ∧ Served s s' :=
  h.related (R := fun s s' => NoClientLogin s.1.dev → NoClientLogin s'.1.dev ∧ Served s s')
    (fun s hs => ⟨hs, .refl s⟩) (fun f g hs => ⟨(g (f hs).1).1, (f hs).2.trans (g (f hs).1).2⟩)
    (fun _ _ _ hm hs => ⟨hm.ncl hs, hm.served_of_ncl hs⟩) hi

end Pm.Dev2
