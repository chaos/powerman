import Pm.HLDefs
/-! Helper lemmas for property C14: well-formedness is preserved by push, delete and create; count and nth agree
    with the expansion; printing and parsing of numbers are inverse to each other. -/
namespace Pm

/-! ## well-formedness is preserved -/

theorem HWF_nil : HWF [] := by intro t ht; simp at ht
theorem HWFS_nil : HWFS [] := by intro t ht; simp at ht

theorem HWF_cons {r : HostRange} {rs : Hostlist} : HWF (r :: rs) ↔ r.WF ∧ HWF rs :=
  List.forall_mem_cons

theorem pushRange_HWF (hl : Hostlist) (r : HostRange) (hr : r.WF) (h : HWF hl) :
    HWF (pushRange hl r) :=
  pushRange_forall h hr fun t _ ht hts hrs hadj => by
    have h1 := HostRange.WF.le ht hts
    have h2 := hr.le hrs
    exact Or.inr (show t.lo ≤ r.hi by omega)

theorem HostRange.WFS.extend {t r : HostRange} (w : Nat) (ht : t.WFS) (hr : r.WFS) (hts : t.single = false)
    (hrs : r.single = false) (hadj : t.hi + 1 = r.lo) : ({ t with hi := r.hi, width := w } : HostRange).WFS := by
  have h1 := ht.le hts
  have h2 := hr.le hrs
  exact Or.inr ⟨hts, show t.lo ≤ r.hi by omega⟩

theorem pushRange_HWFS (hl : Hostlist) (r : HostRange) (hr : r.WFS) (h : HWFS hl) : HWFS (pushRange hl r) :=
  pushRange_forall h hr fun _ w ht => ht.extend w hr

theorem nameRange_WFS (n : Name) : (nameRange n).WFS := by
  rcases nameRange_cases n with e | ⟨_, _, e⟩ <;> rw [e]
  · exact Or.inl ⟨rfl, rfl, rfl⟩
  · exact Or.inr ⟨rfl, Nat.le_refl _⟩

theorem pushHost_HWFS (hl : Hostlist) (n : Name) (h : HWFS hl) : HWFS (pushHost hl n) :=
  pushHost_eq hl n ▸ pushRange_HWFS hl _ (nameRange_WFS n) h

theorem pushHost_HWF (hl : Hostlist) (n : Name) (h : HWF hl) : HWF (pushHost hl n) :=
  pushHost_eq hl n ▸ pushRange_HWF hl _ (nameRange_WFS n).wf h

theorem foldl_pushHost_HWFS (names : List Name) : ∀ (hl : Hostlist), HWFS hl → HWFS (names.foldl pushHost hl) :=
  fun _ h => names.foldlRecOn pushHost h fun hl h n _ => pushHost_HWFS hl n h

theorem foldl_pushHost_HWF (names : List Name) : ∀ (hl : Hostlist), HWF hl → HWF (names.foldl pushHost hl) :=
  fun _ h => names.foldlRecOn pushHost h fun hl h n _ => pushHost_HWF hl n h

theorem expand_foldl_pushHost (names : List Name) : ∀ (hl : Hostlist), HWF hl →
    expand (names.foldl pushHost hl) = expand hl ++ names := by
  induction names with
  | nil => intro hl _; simp
  | cons n ns ih =>
    intro hl h
    rw [List.foldl_cons, ih _ (pushHost_HWF hl n h), expand_pushHost' hl n h, List.append_assoc, List.singleton_append]

theorem expand_pushed (names : List Name) : expand (names.foldl pushHost []) = names := by
  simpa [expand_nil] using expand_foldl_pushHost names [] HWF_nil

/-- `hostlist_push_list`: pushing ranges one after the other denotes what the list of those ranges denotes -/
theorem expand_foldl_pushRange : ∀ (rs hl : Hostlist), HWF hl → HWF rs →
    expand (rs.foldl pushRange hl) = expand hl ++ expand rs ∧ HWF (rs.foldl pushRange hl)
  | [], hl, h, _ => by simpa [expand_nil] using h
  | r :: rs, hl, h, hrs => by
    obtain ⟨hr, hrs⟩ := HWF_cons.mp hrs
    obtain ⟨e, w⟩ := expand_foldl_pushRange rs _ (pushRange_HWF hl r hr h) hrs
    exact ⟨by rw [List.foldl_cons, e, expand_pushRange' hl r hr h, expand_cons, List.append_assoc], w⟩

/-- a property of ranges that survives the extension of a numeric range by an adjacent numeric one survives any number of
    pushes -/
theorem foldl_pushRange_forall {P : HostRange → Prop}
    (hext : ∀ t r w, P t → P r → t.single = false → r.single = false → t.hi + 1 = r.lo → P { t with hi := r.hi, width := w }) :
    ∀ (rs hl : Hostlist), (∀ t ∈ hl, P t) → (∀ r ∈ rs, P r) → ∀ t ∈ rs.foldl pushRange hl, P t
  | [], _, h, _ => h
  | r :: rs, hl, h, hrs => by
    obtain ⟨hr, hrs⟩ := List.forall_mem_cons.mp hrs
    exact foldl_pushRange_forall hext rs _ (pushRange_forall h hr fun t w ht => hext t r w ht hr) hrs

/-- what `hostlist_delete_nth` leaves of the range holding position `n` (`n < r.cnt`) -/
def delHead (r : HostRange) (n : Nat) : Hostlist :=
  if r.single then []
  else if r.lo + n = r.lo then (if r.lo + 1 > r.hi then [] else [{ r with lo := r.lo + 1 }])
  else if r.lo + n = r.hi then [{ r with hi := r.hi - 1 }]
  else [{ r with hi := r.lo + n - 1 }, { r with lo := r.lo + n + 1 }]

theorem deleteNth_cons (r : HostRange) (rs : Hostlist) (n : Nat) :
    deleteNth (r :: rs) n = if n < r.cnt then delHead r n ++ rs else r :: deleteNth rs (n - r.cnt) := by
  rw [deleteNth]
  unfold delHead
  simp only [apply_ite (· ++ rs), List.nil_append, List.cons_append]

/-- what is left of the range is made of numeric sub-ranges of it -/
theorem mem_delHead {r : HostRange} {n : Nat} {t : HostRange} (hn : n < r.cnt) (ht : t ∈ delHead r n) :
    r.single = false ∧ ∃ lo hi, t = { r with lo := lo, hi := hi } ∧ r.lo ≤ lo ∧ lo ≤ hi ∧ hi ≤ r.hi := by
  unfold delHead at ht
  unfold HostRange.cnt at hn
  cases hs : r.single <;> simp only [hs, if_true, Bool.false_eq_true, if_false, List.not_mem_nil] at ht hn
  replace hn : r.lo + n ≤ r.hi := by omega
  refine ⟨rfl, ?_⟩
  split at ht
  · split at ht
    · cases ht
    · exact ⟨r.lo + 1, r.hi, List.mem_singleton.mp ht, by omega, by omega, Nat.le_refl _⟩
  · split at ht
    · exact ⟨r.lo, r.hi - 1, List.mem_singleton.mp ht, Nat.le_refl _, by omega, by omega⟩
    · rcases List.mem_cons.mp ht with e | ht
      · exact ⟨r.lo, r.lo + n - 1, e, Nat.le_refl _, by omega, by omega⟩
      · exact ⟨r.lo + n + 1, r.hi, List.mem_singleton.mp ht, by omega, by omega, Nat.le_refl _⟩

/-- a property of ranges inherited by the numeric sub-ranges of a numeric range survives `hostlist_delete_nth` -/
theorem deleteNth_forall {P : HostRange → Prop}
    (hsub : ∀ r lo hi, P r → r.single = false → r.lo ≤ lo → lo ≤ hi → hi ≤ r.hi → P { r with lo := lo, hi := hi }) :
    ∀ (hl : Hostlist) (n : Nat), (∀ t ∈ hl, P t) → ∀ t ∈ deleteNth hl n, P t
  | [], _, h => by simp [deleteNth]
  | r :: rs, n, h => by
    obtain ⟨hr, hrs⟩ := List.forall_mem_cons.mp h
    rw [deleteNth_cons]
    split
    · rename_i hn
      refine List.forall_mem_append.mpr ⟨fun t ht => ?_, hrs⟩
      obtain ⟨hs, lo, hi, rfl, h1, h2, h3⟩ := mem_delHead hn ht
      exact hsub r lo hi hr hs h1 h2 h3
    · exact List.forall_mem_cons.mpr ⟨hr, deleteNth_forall hsub rs _ hrs⟩

theorem deleteHost_forall {P : HostRange → Prop}
    (hsub : ∀ r lo hi, P r → r.single = false → r.lo ≤ lo → lo ≤ hi → hi ≤ r.hi → P { r with lo := lo, hi := hi })
    (hl : Hostlist) (n : Name) (h : ∀ t ∈ hl, P t) : ∀ t ∈ (deleteHost hl n).1, P t := by
  unfold deleteHost
  split
  · exact deleteNth_forall hsub _ _ h
  · exact h

theorem deleteHost_HWFS (hl : Hostlist) (n : Name) (h : HWFS hl) : HWFS (deleteHost hl n).1 :=
  deleteHost_forall (fun _ _ _ _ hs _ h2 _ => Or.inr ⟨hs, h2⟩) hl n h

theorem deleteHost_HWF (hl : Hostlist) (n : Name) (h : HWF hl) : HWF (deleteHost hl n).1 :=
  deleteHost_forall (fun _ _ _ _ _ _ h2 _ => Or.inr h2) hl n h

/-! ### `create` -/

/-- equality of parse results is decidable (for the evaluated examples) -/
instance instDecEqExceptC14 {ε α : Type} [DecidableEq ε] [DecidableEq α] : DecidableEq (Except ε α) := fun a b =>
  match a, b with
  | .ok x, .ok y => if h : x = y then isTrue (by rw [h]) else isFalse (by intro e; cases e; exact h rfl)
  | .error x, .error y => if h : x = y then isTrue (by rw [h]) else isFalse (by intro e; cases e; exact h rfl)
  | .ok _, .error _ => isFalse (by intro e; cases e)
  | .error _, .ok _ => isFalse (by intro e; cases e)

theorem mapM_except_mem {ε α β : Type} (f : α → Except ε β) :
    ∀ (l : List α) (rs : List β), l.mapM f = .ok rs → ∀ r ∈ rs, ∃ x ∈ l, f x = .ok r := by
  intro l
  induction l with
  | nil => intro rs h r hr; simp [pure, Except.pure] at h; subst h; simp at hr
  | cons a l ih =>
    intro rs h r hr
    rw [List.mapM_cons] at h
    cases hfa : f a with
    | error e => rw [hfa] at h; cases h
    | ok b =>
      rw [hfa] at h
      cases hl : l.mapM f with
      | error e => rw [hl] at h; cases h
      | ok bs =>
        rw [hl] at h
        simp [pure, Except.pure, bind, Except.bind] at h
        subst h
        rcases List.mem_cons.mp hr with rfl | hr
        · exact ⟨a, by simp, hfa⟩
        · obtain ⟨x, hx, hfx⟩ := ih bs hl r hr
          exact ⟨x, by simp [hx], hfx⟩

/-- `_parse_single_range` answers only at its end, past the test `lo > hi` -/
theorem parseSingleRange_le (s : List Char) (r : RangeSpec) (h : parseSingleRange s = .ok r) : r.lo ≤ r.hi := by
  unfold parseSingleRange at h
  simp only at h
  split at h
  · cases h
  split at h
  · cases h
  split at h
  · cases h
  split at h
  · cases h
  split at h
  · cases h
  cases h
  exact Nat.le_of_not_lt ‹_›

/-- one token of `_hostlist_create_bracketed` -/
def createTok (hl : Hostlist) (tok : List Char) : Except PErr Hostlist :=
  match splitOnFirst '[' tok with
  | (pfx, some rest) =>
    match splitOnFirst ']' rest with
    | (body, some sfx) =>
      match parseRangeList body with
      | .error e => .error e
      | .ok rs => if sfx.isEmpty then .ok (rs.foldl (fun h r => pushSpec h pfx r) hl)
                  else .ok (rs.foldl (fun h r => pushSpecSuffix h pfx sfx r) hl)
    | (_, none) => .error .einval
  | (_, none) => if tok.contains ']' then .error .einval else .ok (pushHost hl tok)

theorem create_eq (s : List Char) : create s = (tokens s).foldlM createTok [] := rfl

/-- the ranges one token of `_hostlist_create_bracketed` hands to `hostlist_push_range`, in order -/
def tokRanges (tok : List Char) : Except PErr Hostlist :=
  match splitOnFirst '[' tok with
  | (pfx, some rest) =>
    match splitOnFirst ']' rest with
    | (body, some sfx) =>
      match parseRangeList body with
      | .error e => .error e
      | .ok rs =>
        .ok (if sfx.isEmpty then rs.map fun r => { pfx, lo := r.lo, hi := r.hi, width := r.width, single := false }
             else rs.flatMap fun r => (List.range (r.hi + 1 - r.lo)).map fun i =>
               { pfx := pfx ++ fmtNum r.width (r.lo + i) ++ sfx, lo := 0, hi := 0, width := 0, single := true })
    | (_, none) => .error .einval
  | (_, none) => if tok.contains ']' then .error .einval else .ok [nameRange tok]

theorem createTok_eq (hl : Hostlist) (tok : List Char) :
    createTok hl tok = (tokRanges tok).map (·.foldl pushRange hl) := by
  unfold createTok tokRanges
  rcases splitOnFirst '[' tok with ⟨pfx, _ | rest⟩
  · dsimp only
    split
    · rfl
    · exact congrArg Except.ok (pushHost_eq hl tok)
  · dsimp only
    rcases splitOnFirst ']' rest with ⟨body, _ | sfx⟩
    · rfl
    · dsimp only
      cases parseRangeList body with
      | error e => rfl
      | ok rs =>
        dsimp only
        split
        · exact congrArg Except.ok (List.foldl_map (g := pushRange) ..).symm
        · refine congrArg Except.ok ?_
          show _ = List.foldl pushRange hl _
          rw [List.foldl_flatMap]
          exact congrArg (List.foldl · hl rs) (funext fun h => funext fun r => (List.foldl_map ..).symm)

theorem foldlM_createTok (toks : List (List Char)) : ∀ (acc : Hostlist),
    toks.foldlM createTok acc = (toks.mapM tokRanges).map fun rss => rss.flatten.foldl pushRange acc := by
  induction toks with
  | nil => intro acc; rfl
  | cons t ts ih =>
    intro acc
    rw [List.foldlM_cons, List.mapM_cons, createTok_eq]
    cases tokRanges t with
    | error e => rfl
    | ok rs =>
      show ts.foldlM createTok (rs.foldl pushRange acc) = _
      rw [ih]
      cases ts.mapM tokRanges with
      | error e => rfl
      | ok rss => simp [Except.map, bind, Except.bind, pure, Except.pure, List.foldl_append]

/-- `hostlist_create` pushes, onto the empty list, the ranges its tokens stand for -/
theorem create_push (s : List Char) :
    create s = ((tokens s).mapM tokRanges).map fun rss => rss.flatten.foldl pushRange [] :=
  foldlM_createTok _ _

/-- what every range that `hostlist_create` pushes satisfies, and adjacent extension keeps, every range of the created list
    satisfies -/
theorem create_forall {P : HostRange → Prop} {s : List Char} {hl : Hostlist}
    (hext : ∀ t r w, P t → P r → t.single = false → r.single = false → t.hi + 1 = r.lo → P { t with hi := r.hi, width := w })
    (hP : ∀ tok ∈ tokens s, ∀ rs, tokRanges tok = .ok rs → ∀ r ∈ rs, P r) (h : create s = .ok hl) : ∀ r ∈ hl, P r := by
  rw [create_push] at h
  cases hm : (tokens s).mapM tokRanges with
  | error e => rw [hm] at h; cases h
  | ok rss =>
    rw [hm] at h; cases h
    refine foldl_pushRange_forall hext _ [] (fun _ h => nomatch h) fun r hr => ?_
    obtain ⟨rs, hrs, hr⟩ := List.mem_flatten.mp hr
    obtain ⟨tok, htok, e⟩ := mapM_except_mem _ _ _ hm rs hrs
    exact hP tok htok rs e r hr

theorem tokRanges_WFS {tok : List Char} {rs : Hostlist} (h : tokRanges tok = .ok rs) : HWFS rs := by
  unfold tokRanges at h
  split at h
  · split at h
    · split at h
      · cases h
      · rename_i ss hss
        cases h
        intro r hr
        split at hr
        · obtain ⟨x, hx, rfl⟩ := List.mem_map.mp hr
          obtain ⟨y, _, hy⟩ := mapM_except_mem _ _ _ hss x hx
          exact Or.inr ⟨rfl, parseSingleRange_le y x hy⟩
        · obtain ⟨x, _, hr⟩ := List.mem_flatMap.mp hr
          obtain ⟨i, _, rfl⟩ := List.mem_map.mp hr
          exact Or.inl ⟨rfl, rfl, rfl⟩
    · cases h
  · split at h
    · cases h
    · cases h; exact fun r hr => List.mem_singleton.mp hr ▸ nameRange_WFS tok

theorem create_HWFS (s : List Char) (hl : Hostlist) (h : create s = .ok hl) : HWFS hl :=
  create_forall (fun _ _ w ht hr => ht.extend w hr) (fun _ _ _ h => tokRanges_WFS h) h

theorem create_HWF (s : List Char) (hl : Hostlist) (h : create s = .ok hl) : HWF hl :=
  (create_HWFS s hl h).toHWF

/-! ## count and nth agree with the expansion -/

/-- a well-formed range holds a name that starts with its prefix, and a single name is its prefix: what the names of a list
    have in common (an alphabet, non-emptiness), its prefixes have -/
theorem HostRange.pfx_of_expand (r : HostRange) (hwf : r.WF) :
    ∃ t, r.pfx ++ t ∈ r.expand ∧ (r.single = true → t = []) := by
  cases hs : r.single
  · refine ⟨fmtNum r.width r.lo, ?_, nofun⟩
    rw [HostRange.expand_nonsingle r hs]
    exact mem_numSeg.mpr ⟨r.lo, Nat.le_refl _, by have := hwf.le hs; omega, rfl⟩
  · exact ⟨[], by simp [HostRange.expand, hs], fun _ => rfl⟩

theorem mem_expand {hl : Hostlist} {r : HostRange} {n : Name} (hr : r ∈ hl) (hn : n ∈ r.expand) : n ∈ expand hl :=
  List.mem_flatMap.mpr ⟨r, hr, hn⟩

theorem HostRange.expand_length (r : HostRange) : r.expand.length = r.cnt := by
  unfold HostRange.expand HostRange.cnt
  split <;> simp

theorem HostRange.count_eq_cnt (r : HostRange) (h : r.WF) : r.count = r.cnt := by
  unfold HostRange.count HostRange.cnt
  split
  · rfl
  · rename_i hs; have := h.le (by simpa using hs); omega

theorem expand_length_cnt : ∀ (hl : Hostlist), (expand hl).length = (hl.map HostRange.cnt).sum
  | [] => rfl
  | r :: rs => by
    rw [expand_cons, List.length_append, expand_length_cnt rs, HostRange.expand_length]
    simp

/-- `hostlist_count` (the `nhosts` field, kept as the sum of `hostrange_count`) is the length of the expansion -/
theorem count_expand : ∀ (hl : Hostlist), HWF hl → (hl.map HostRange.count).sum = (expand hl).length
  | [], _ => rfl
  | r :: rs, h => by
    obtain ⟨hr, hrs⟩ := HWF_cons.mp h
    rw [expand_cons, List.length_append, ← count_expand rs hrs, HostRange.expand_length,
      ← HostRange.count_eq_cnt r hr]
    simp

/-- `_hostrange_string(hr, depth)` -/
def hostrangeString (r : HostRange) (depth : Nat) : Name :=
  r.pfx ++ (if r.single then [] else fmtNum r.width (r.lo + depth))

/-- `hostlist_nth` as coded: walk the ranges keeping the running `count` of hosts passed -/
def nthGo : Hostlist → Nat → Nat → Option Name
  | [], _, _ => none
  | r :: rs, count, n =>
    if n ≤ r.count - 1 + count then some (hostrangeString r (n - count))
    else nthGo rs (count + r.count) n

/-- `hostlist_nth` as coded (the mirror `nth` in `Sort.lean` is *defined* as `(expand hl)[n]?`) -/
def nthC (hl : Hostlist) (n : Nat) : Option Name := nthGo hl 0 n

theorem HostRange.expand_get (r : HostRange) (k : Nat) (hk : k < r.cnt) :
    r.expand[k]? = some (hostrangeString r k) := by
  unfold HostRange.cnt at hk
  unfold hostrangeString
  by_cases hs : r.single = true
  · simp [hs] at hk ⊢
    subst hk
    simp [HostRange.expand, hs]
  · have hs' : r.single = false := by simpa using hs
    simp [hs'] at hk ⊢
    rw [HostRange.expand_nonsingle r hs', numSeg_get _ _ _ _ _ (by omega)]; rfl

theorem nthGo_spec : ∀ (hl : Hostlist) (count n : Nat), HWF hl → count ≤ n →
    nthGo hl count n = (expand hl)[n - count]?
  | [], _, _, _, _ => by simp [nthGo, expand_nil]
  | r :: rs, count, n, h, hcn => by
    obtain ⟨hr, hrs⟩ := HWF_cons.mp h
    obtain ⟨k, rfl⟩ := Nat.exists_eq_add_of_le hcn
    have hl := HostRange.expand_length r
    have hpos : 0 < r.cnt := by
      rw [← HostRange.count_eq_cnt r hr]; unfold HostRange.count; split <;> omega
    rw [nthGo, expand_cons, HostRange.count_eq_cnt r hr, Nat.add_sub_cancel_left]
    by_cases hk : k < r.cnt
    · rw [if_pos (by omega), List.getElem?_append_left (hl ▸ hk), HostRange.expand_get r _ hk]
    · rw [if_neg (by omega), nthGo_spec rs _ _ hrs (by omega), List.getElem?_append_right (by omega), hl]
      congr 1; omega

theorem nthC_spec (hl : Hostlist) (n : Nat) (h : HWF hl) : nthC hl n = (expand hl)[n]? := by
  unfold nthC; rw [nthGo_spec hl 0 n h (Nat.zero_le _)]; simp

theorem nthC_eq_nth (hl : Hostlist) (n : Nat) (h : HWF hl) : nthC hl n = nth hl n := nthC_spec hl n h

/-! ## numeric printing and parsing are inverse to each other -/

theorem parseNat_eq_ofDigitChars (l : List Char) : parseNat l = Nat.ofDigitChars 10 l 0 := by
  unfold parseNat Nat.ofDigitChars
  congr 1
  funext a c
  rw [Nat.mul_comm]; rfl

theorem parseNat_toDigits (n : Nat) : parseNat (Nat.toDigits 10 n) = n := by
  rw [parseNat_eq_ofDigitChars]; exact Nat.ofDigitChars_ten_toDigits

theorem parseNat_append (l m : List Char) : parseNat (l ++ m) = 10 ^ m.length * parseNat l + parseNat m := by
  rw [parseNat_eq_ofDigitChars, parseNat_eq_ofDigitChars, parseNat_eq_ofDigitChars,
    Nat.ofDigitChars_append, Nat.ofDigitChars_eq_ofDigitChars_zero]

theorem parseNat_replicate_zero (k : Nat) : parseNat (List.replicate k '0') = 0 := by
  rw [parseNat_eq_ofDigitChars, Nat.ofDigitChars_replicate_zero]; simp

/-- `strtoul` of what `%0*lu` printed is the number printed -/
theorem parseNat_fmtNum (w n : Nat) : parseNat (fmtNum w n) = n := by
  unfold fmtNum
  rw [parseNat_append, parseNat_replicate_zero, parseNat_toDigits]; simp

theorem fmtNum_digits (w n : Nat) : ∀ c ∈ fmtNum w n, c.isDigit = true := by
  intro c hc
  unfold fmtNum at hc
  rcases List.mem_append.mp hc with h | h
  · rw [List.mem_replicate] at h; rw [h.2]; rfl
  · exact Nat.isDigit_of_mem_toDigits (by decide) (by decide) h

theorem fmtNum_ne_nil (w n : Nat) : fmtNum w n ≠ [] := by
  unfold fmtNum
  intro h
  have := List.append_eq_nil_iff.mp h
  exact Nat.toDigits_ne_nil this.2

theorem fmtNum_length (w n : Nat) : (fmtNum w n).length = max w (ndig n) := by
  unfold fmtNum
  rw [List.length_append, List.length_replicate, zeroPadded_eq, ← ndig]
  omega

theorem fmtNum_inj {w x y : Nat} (h : fmtNum w x = fmtNum w y) : x = y := by
  have := congrArg parseNat h
  rwa [parseNat_fmtNum, parseNat_fmtNum] at this

theorem parseNat_suffix_le (l m : List Char) : parseNat m ≤ parseNat (l ++ m) := by
  rw [parseNat_append]; omega

end Pm
