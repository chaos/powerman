import Pm.Serial
import Pm.ScanfProof
/-! # Proofs about `Pm/Serial.lean`: after `_serial_setup` the line is raw, the character format is the one asked for

Property theorems are in `Pm/Props/C09.lean` (section 10). -/
namespace Pm.Serial
open Pm.Generated.Termios

/-! ## bit sets -/

theorem clr_and_self (w m : Nat) : clr w m &&& m = 0 := by
  simp [clr, Nat.and_xor_distrib_right, Nat.and_assoc]

theorem clr_and_disj (w m k : Nat) (h : m &&& k = 0) : clr w m &&& k = w &&& k := by
  unfold clr; rw [Nat.and_xor_distrib_right, Nat.and_assoc, h]; simp

theorem or_and_disj (w m k : Nat) (h : m &&& k = 0) : (w ||| m) &&& k = w &&& k := by
  rw [Nat.and_or_distrib_right, h]; simp

theorem and_or_zero_left {k a b : Nat} (h : (a ||| b) &&& k = 0) : a &&& k = 0 := by
  rw [Nat.and_or_distrib_right] at h; exact (Nat.or_eq_zero_iff.mp h).1

theorem and_or_zero_right {k a b : Nat} (h : (a ||| b) &&& k = 0) : b &&& k = 0 := by
  rw [Nat.and_or_distrib_right] at h; exact (Nat.or_eq_zero_iff.mp h).2

@[simp] theorem flag_zero (m : Nat) : flag 0 m = false := by simp [flag]
theorem flag_clr_self (w m : Nat) : flag (clr w m) m = false := by simp [flag, clr_and_self]

/-! ## `_serial_setup` step by step -/

theorem bind_eq_ok {ε α β} {x : Except ε α} {f : α → Except ε β} {b : β} (h : x >>= f = .ok b) : ∃ a, x = .ok a ∧ f a = .ok b := by
  cases x with
  | error e => cases h
  | ok a => exact ⟨a, rfl, h⟩

theorem toOption_some {ε α} {x : Except ε α} {a : α} (h : x.toOption = some a) : x = .ok a := by
  cases x with
  | error e => cases h
  | ok b => exact congrArg _ (Option.some.inj h)

theorem serialSetup_some {t t' : Termios} {p : Params} (h : serialSetup t p = some t') :
    ∃ t1 t2 t3 t4, setBaud t p.baud = .ok t1 ∧ setDatabits t1 p.databits = .ok t2 ∧ setStopbits t2 p.stopbits = .ok t3 ∧
      setParity t3 p.parity = .ok t4 ∧ t' = setRaw t4 := by
  obtain ⟨t1, h1, h⟩ := bind_eq_ok (toOption_some h)
  obtain ⟨t2, h2, h⟩ := bind_eq_ok h
  obtain ⟨t3, h3, h⟩ := bind_eq_ok h
  obtain ⟨t4, h4, h⟩ := bind_eq_ok h
  exact ⟨t1, t2, t3, t4, h1, h2, h3, h4, (Except.ok.inj h).symm⟩

theorem serialSetup_of_steps {t t1 t2 t3 t4 : Termios} {p : Params} (h1 : setBaud t p.baud = .ok t1)
    (h2 : setDatabits t1 p.databits = .ok t2) (h3 : setStopbits t2 p.stopbits = .ok t3) (h4 : setParity t3 p.parity = .ok t4) :
    serialSetup t p = some (setRaw t4) := by
  simp [serialSetup, serialSetupE, h1, h2, h3, h4, bind, Except.bind, Except.toOption, pure, Except.pure]

theorem serialSetup_raw {t t' : Termios} {p : Params} (h : serialSetup t p = some t') :
    t'.iflag = 0 ∧ t'.lflag = 0 ∧ flag t'.oflag OPOST = false := by
  obtain ⟨t1, t2, t3, t4, -, -, -, -, rfl⟩ := serialSetup_some h
  exact ⟨rfl, rfl, flag_clr_self _ _⟩

theorem ttyOut_raw {t : Termios} (h : flag t.oflag OPOST = false) (bs : Bytes) : ttyOut t bs = bs := by
  simp [ttyOut, h]

/-! ## exactly which input flags matter -/

/-- the input side is transparent as soon as these ten conditions hold (whatever the rest of the flag words and the
    control characters are) -/
structure RawIn (t : Termios) : Prop where
  istrip : flag t.iflag ISTRIP = false
  inlcr : flag t.iflag INLCR = false
  igncr : flag t.iflag IGNCR = false
  icrnl : flag t.iflag ICRNL = false
  iuclc : (flag t.iflag IUCLC && flag t.lflag IEXTEN) = false
  ixon : flag t.iflag IXON = false
  parmrk : flag t.iflag PARMRK = false
  isig : flag t.lflag ISIG = false
  icanon : flag t.lflag ICANON = false
  echo : flag t.lflag ECHO = false

theorem inStep_rawIn {t : Termios} (h : RawIn t) (st : InSt) (hn : st.lnext = false) (c : UInt8) :
    inStep t st c = { st with done := st.done ++ [c] } := by
  have h5 := h.iuclc
  simp only [Bool.and_eq_false_iff] at h5
  by_cases hx : flag t.lflag EXTPROC = true
  · rcases h5 with h5 | h5 <;>
      simp [inStep, hn, preops, h.istrip, h5, hx]
  · rcases h5 with h5 | h5 <;>
      simp [inStep, hn, preops, inCharMap, recvChar, anyRestart, putQueue, canonMode, h.istrip, h.inlcr, h.igncr, h.icrnl, h5, h.ixon,
        h.parmrk, h.isig, h.icanon, h.echo, hx]

theorem foldl_rawIn {t : Termios} (h : RawIn t) (bs : Bytes) (st : InSt) (hn : st.lnext = false) :
    bs.foldl (inStep t) st = { st with done := st.done ++ bs } := by
  induction bs generalizing st with
  | nil => simp
  | cons c r ih =>
    rw [List.foldl_cons, inStep_rawIn h st hn, ih { st with done := st.done ++ [c] } hn]
    simp

theorem ttyInSt_rawIn {t : Termios} (h : RawIn t) (bs : Bytes) : ttyInSt t bs = { done := bs } := by
  unfold ttyInSt
  rw [foldl_rawIn h bs {} rfl]
  by_cases he : flag t.lflag ECHONL = true
  · simp [h.echo, he, processEchoes, procOps]
  · simp [h.echo, he]

theorem ttyIn_of_rawIn {t : Termios} (h : RawIn t) (bs : Bytes) : ttyIn t bs = (bs, []) := by
  simp [ttyIn, ttyInSt_rawIn h]

theorem rawIn_of_zero {t : Termios} (hi : t.iflag = 0) (hl : t.lflag = 0) : RawIn t := by
  constructor <;> simp [hi, hl]

theorem ttyIn_raw {t : Termios} (hi : t.iflag = 0) (hl : t.lflag = 0) (bs : Bytes) : ttyIn t bs = (bs, []) :=
  ttyIn_of_rawIn (rawIn_of_zero hi hl) bs

theorem pollReadable_raw {t : Termios} (hi : t.iflag = 0) (hl : t.lflag = 0) (bs : Bytes) :
    pollReadable t bs = decide (bs.length ≥ (if t.vtime == 0 && t.vmin != 0 then t.vmin else 1)) := by
  simp [pollReadable, ttyInSt_rawIn (rawIn_of_zero hi hl), canonMode, hl]

/-! ## exactly which output flags matter -/

/-- with `OPOST` set but none of `ONLCR OCRNL ONOCR OLCUC` and no tab expansion, output is still passed as written -/
structure PlainOut (t : Termios) : Prop where
  onlcr : flag t.oflag ONLCR = false
  ocrnl : flag t.oflag OCRNL = false
  onocr : flag t.oflag ONOCR = false
  olcuc : flag t.oflag OLCUC = false
  tabs : (t.oflag &&& TABDLY == XTABS) = false

theorem outChar_plain {t : Termios} (h : PlainOut t) (s : Col) (c : UInt8) : (outChar t s c).1 = [c] := by
  unfold outChar
  -- the projection goes to the leaves first: the cases are then on a cascade of byte lists, not of pairs with column records
  simp only [h.onlcr, h.ocrnl, h.onocr, h.olcuc, h.tabs, Bool.false_and, Bool.false_eq_true, if_false, apply_ite Prod.fst, beq_iff_eq]
  by_cases h10 : c = 10
  · rw [if_pos h10, h10]
  · rw [if_neg h10]
    by_cases h13 : c = 13
    · rw [if_pos h13, h13]
    · rw [if_neg h13]
      by_cases h9 : c = 9
      · rw [if_pos h9, h9]
      · rw [if_neg h9]
        by_cases h8 : c = 8
        · rw [if_pos h8, h8]
        · rw [if_neg h8, ite_self]

theorem outChars_plain {t : Termios} (h : PlainOut t) (s : Col) (bs : Bytes) : (outChars t s bs).1 = bs := by
  induction bs generalizing s with
  | nil => rfl
  | cons c r ih =>
    simp only [outChars]
    have h1 := outChar_plain h s c
    have h2 := ih (outChar t s c).2
    generalize outChar t s c = x at *
    obtain ⟨o, s'⟩ := x
    generalize outChars t s' r = y at *
    obtain ⟨o', s''⟩ := y
    simp_all

theorem ttyOut_of_plain {t : Termios} (h : flag t.oflag OPOST = false ∨ PlainOut t) (bs : Bytes) : ttyOut t bs = bs := by
  rcases h with h | h
  · exact ttyOut_raw h bs
  · unfold ttyOut
    split
    · exact outChars_plain h {} bs
    · rfl

/-! ## the character format -/

theorem lookupBaud_mem {baud : Int} {b : Nat} (h : lookupBaud baud = some b) :
    ∃ n : Nat, (n : Int) = baud ∧ (n, b) ∈ baudmap := by
  unfold lookupBaud at h
  cases hf : baudmap.find? (fun p => (p.1 : Int) == baud) with
  | none => simp [hf] at h
  | some x =>
    simp [hf] at h
    refine ⟨x.1, ?_, ?_⟩
    · have := List.find?_some hf; simpa using this
    · have := List.mem_of_find?_eq_some hf; rw [← h]; exact this

/-- every row of `baudmap[]` (re-checked against the generated table on every build): the constant is a speed that
    `cfset[io]speed` accept, it lies inside `CBAUD`, and it is the `B…` constant <termios.h> gives to that number of
    bits per second -/
theorem baudmap_good : ∀ x ∈ baudmap, x.2 ≠ 0 ∧ badSpeed x.2 = false ∧ x.2 &&& CBAUD = x.2 ∧ x ∈ stdBaud := by decide

theorem lookupBaud_of_mem : ∀ x ∈ baudmap, lookupBaud (x.1 : Int) = some x.2 := by decide

theorem setBaud_ok {t t1 : Termios} {baud : Int} (h : setBaud t baud = .ok t1) :
    ∃ n b : Nat, (n : Int) = baud ∧ (n, b) ∈ baudmap ∧
      t1 = { t with ispeed := b, ospeed := b, iflag := clr t.iflag IBAUD0, cflag := clr (clr t.cflag CBAUD ||| b) CBAUD ||| b } := by
  unfold setBaud at h
  cases hl : lookupBaud baud with
  | none => simp [hl] at h
  | some b =>
    obtain ⟨n, hn, hm⟩ := lookupBaud_mem hl
    obtain ⟨h0, hb, -, -⟩ := baudmap_good _ hm
    simp [hl, cfsetispeed, cfsetospeed, hb, h0] at h
    exact ⟨n, b, hn, hm, h.symm⟩

theorem setBaud_none {t : Termios} {baud : Int} (hl : lookupBaud baud = none) : setBaud t baud = .error .baud := by
  simp [setBaud, hl]

theorem setBaud_some {t : Termios} {baud : Int} {b : Nat} (hl : lookupBaud baud = some b) : ∃ t1, setBaud t baud = .ok t1 := by
  obtain ⟨n, hn, hm⟩ := lookupBaud_mem hl
  obtain ⟨h0, hb, -, -⟩ := baudmap_good _ hm
  simp [setBaud, hl, cfsetispeed, cfsetospeed, hb, h0]

theorem setDatabits_ok {t t' : Termios} {d : Int} (h : setDatabits t d = .ok t') :
    (d = 7 ∧ t' = { t with cflag := clr t.cflag CSIZE ||| CS7 }) ∨ (d = 8 ∧ t' = { t with cflag := clr t.cflag CSIZE ||| CS8 }) := by
  unfold setDatabits at h
  by_cases h7 : d = 7
  · subst h7; simp at h; exact .inl ⟨rfl, h.symm⟩
  · by_cases h8 : d = 8
    · subst h8; simp at h; exact .inr ⟨rfl, h.symm⟩
    · simp [h7, h8] at h

theorem setStopbits_ok {t t' : Termios} {d : Int} (h : setStopbits t d = .ok t') :
    (d = 1 ∧ t' = { t with cflag := clr t.cflag CSTOPB }) ∨ (d = 2 ∧ t' = { t with cflag := t.cflag ||| CSTOPB }) := by
  unfold setStopbits at h
  by_cases h1 : d = 1
  · subst h1; simp at h; exact .inl ⟨rfl, h.symm⟩
  · by_cases h2 : d = 2
    · subst h2; simp at h; exact .inr ⟨rfl, h.symm⟩
    · simp [h1, h2] at h

/-- the three ways parity can be asked for -/
def parityNone (c : UInt8) : Bool := c == 110 || c == 78
def parityEven (c : UInt8) : Bool := c == 101 || c == 69
def parityOdd (c : UInt8) : Bool := c == 111 || c == 79

theorem setParity_eq (t : Termios) (c : UInt8) : setParity t c =
    if parityNone c then .ok { t with cflag := clr t.cflag PARENB }
    else if parityEven c then .ok { t with cflag := clr (t.cflag ||| PARENB) PARODD }
    else if parityOdd c then .ok { t with cflag := t.cflag ||| PARENB ||| PARODD }
    else .error .parity := rfl

theorem setParity_ok {t t' : Termios} {c : UInt8} (h : setParity t c = .ok t') :
    (parityNone c = true ∧ t' = { t with cflag := clr t.cflag PARENB }) ∨
    (parityNone c = false ∧ parityEven c = true ∧ t' = { t with cflag := clr (t.cflag ||| PARENB) PARODD }) ∨
    (parityNone c = false ∧ parityEven c = false ∧ parityOdd c = true ∧ t' = { t with cflag := t.cflag ||| PARENB ||| PARODD }) := by
  rw [setParity_eq] at h
  cases hn : parityNone c <;> rw [hn] at h
  · cases he : parityEven c <;> rw [he] at h
    · cases ho : parityOdd c <;> rw [ho] at h
      · cases h
      · exact .inr (.inr ⟨rfl, rfl, rfl, (Except.ok.inj h).symm⟩)
    · exact .inr (.inl ⟨rfl, rfl, (Except.ok.inj h).symm⟩)
  · exact .inl ⟨rfl, (Except.ok.inj h).symm⟩

/-! ### what each step does to `c_cflag`: its own bits, and nothing else -/

theorem and_sub_zero {b k m : Nat} (h : b &&& m = 0) (hk : k &&& m = k) : b &&& k = 0 := by
  rw [← hk, Nat.and_comm k m, ← Nat.and_assoc, h]; simp

theorem sub_disj {b m k : Nat} (hb : b &&& m = b) (hk : m &&& k = 0) : b &&& k = 0 := by
  rw [← hb, Nat.and_assoc, hk]; simp

theorem and_or_self (w m : Nat) : w &&& m ||| m = m := by
  apply Nat.eq_of_testBit_eq; intro i
  simp only [Nat.testBit_or, Nat.testBit_and]
  cases w.testBit i <;> cases m.testBit i <;> rfl

theorem or_self_and (w m : Nat) : (w ||| m) &&& m = m := by
  rw [Nat.and_or_distrib_right, Nat.and_self]; exact and_or_self _ _

theorem clr_or_and (w : Nat) {m v : Nat} (hv : v &&& m = v) : (clr w m ||| v) &&& m = v := by
  rw [Nat.and_or_distrib_right, clr_and_self, hv, Nat.zero_or]

/-- from `t` to `t'` nothing changes but the bits `m` of `c_cflag` -/
structure Touches (m : Nat) (t t' : Termios) : Prop where
  rest : t' = { t with cflag := t'.cflag }
  frame : ∀ k, m &&& k = 0 → t'.cflag &&& k = t.cflag &&& k

theorem Touches.clear (t : Termios) (m : Nat) : Touches m t { t with cflag := clr t.cflag m } :=
  ⟨rfl, fun _ hk => clr_and_disj _ _ _ hk⟩

theorem Touches.set (t : Termios) (m : Nat) : Touches m t { t with cflag := t.cflag ||| m } :=
  ⟨rfl, fun _ hk => or_and_disj _ _ _ hk⟩

theorem Touches.write (t : Termios) {m v : Nat} (hv : v &&& m = v) : Touches m t { t with cflag := clr t.cflag m ||| v } :=
  ⟨rfl, fun k hk => by
    show (clr t.cflag m ||| v) &&& k = t.cflag &&& k
    rw [or_and_disj _ _ _ (sub_disj hv hk), clr_and_disj _ _ _ hk]⟩

theorem Touches.trans {m m' : Nat} {t t' t'' : Termios} (h : Touches m t t') (h' : Touches m' t' t'') : Touches (m ||| m') t t'' :=
  ⟨by rw [h'.rest, h.rest], fun k hk => by rw [h'.frame k (and_or_zero_right hk), h.frame k (and_or_zero_left hk)]⟩

theorem setDatabits_touches {t t' : Termios} {d : Int} (h : setDatabits t d = .ok t') : Touches CSIZE t t' := by
  rcases setDatabits_ok h with ⟨-, rfl⟩ | ⟨-, rfl⟩
  · exact .write t (by decide)
  · exact .write t (by decide)

theorem setStopbits_touches {t t' : Termios} {d : Int} (h : setStopbits t d = .ok t') : Touches CSTOPB t t' := by
  rcases setStopbits_ok h with ⟨-, rfl⟩ | ⟨-, rfl⟩
  · exact .clear t CSTOPB
  · exact .set t CSTOPB

theorem setParity_touches {t t' : Termios} {c : UInt8} (h : setParity t c = .ok t') : Touches (PARENB ||| PARODD) t t' := by
  rcases setParity_ok h with ⟨-, rfl⟩ | ⟨-, -, rfl⟩ | ⟨-, -, -, rfl⟩
  · exact ⟨rfl, fun k hk => clr_and_disj _ _ _ (and_or_zero_left hk)⟩
  · exact (Touches.set t PARENB).trans (.clear _ PARODD)
  · exact (Touches.set t PARENB).trans (.set _ PARODD)

theorem setBaud_frame {t t1 : Termios} {baud : Int} (h : setBaud t baud = .ok t1) {k : Nat} (hk : CBAUD &&& k = 0) :
    t1.cflag &&& k = t.cflag &&& k := by
  obtain ⟨n, b, -, hm, rfl⟩ := setBaud_ok h
  obtain ⟨-, -, hin, -⟩ := baudmap_good _ hm
  have hb := sub_disj hin hk
  simp only [or_and_disj _ _ _ hb, clr_and_disj _ _ _ hk]

theorem setBaud_own {t t1 : Termios} {baud : Int} (h : setBaud t baud = .ok t1) :
    ∃ n b : Nat, (n : Int) = baud ∧ (n, b) ∈ baudmap ∧ t1.cflag &&& CBAUD = b ∧ t1.ispeed = b ∧ t1.ospeed = b := by
  obtain ⟨n, b, hn, hm, rfl⟩ := setBaud_ok h
  obtain ⟨-, -, hin, -⟩ := baudmap_good _ hm
  exact ⟨n, b, hn, hm, clr_or_and _ hin, rfl, rfl⟩

theorem setDatabits_own {t t' : Termios} {d : Int} (h : setDatabits t d = .ok t') :
    (d = 7 ∧ t'.cflag &&& CSIZE = CS7) ∨ (d = 8 ∧ t'.cflag &&& CSIZE = CS8) := by
  rcases setDatabits_ok h with ⟨hd, rfl⟩ | ⟨hd, rfl⟩
  · exact .inl ⟨hd, clr_or_and _ (by decide)⟩
  · exact .inr ⟨hd, clr_or_and _ (by decide)⟩

theorem setStopbits_own {t t' : Termios} {d : Int} (h : setStopbits t d = .ok t') :
    (d = 1 ∧ t'.cflag &&& CSTOPB = 0) ∨ (d = 2 ∧ t'.cflag &&& CSTOPB = CSTOPB) := by
  rcases setStopbits_ok h with ⟨hd, rfl⟩ | ⟨hd, rfl⟩
  · exact .inl ⟨hd, clr_and_self _ _⟩
  · exact .inr ⟨hd, or_self_and _ _⟩

theorem setParity_own {t t' : Termios} {c : UInt8} (h : setParity t c = .ok t') :
    (parityNone c = true ∧ t'.cflag &&& PARENB = 0) ∨
    (parityNone c = false ∧ parityEven c = true ∧ t'.cflag &&& PARENB = PARENB ∧ t'.cflag &&& PARODD = 0) ∨
    (parityNone c = false ∧ parityEven c = false ∧ parityOdd c = true ∧ t'.cflag &&& PARENB = PARENB ∧ t'.cflag &&& PARODD = PARODD) := by
  rcases setParity_ok h with ⟨h1, rfl⟩ | ⟨h1, h2, rfl⟩ | ⟨h1, h2, h3, rfl⟩
  · exact .inl ⟨h1, clr_and_self _ _⟩
  · exact .inr (.inl ⟨h1, h2, (clr_and_disj _ _ _ (by decide)).trans (or_self_and _ _), clr_and_self _ _⟩)
  · exact .inr (.inr ⟨h1, h2, h3, (or_and_disj _ _ _ (by decide)).trans (or_self_and _ _), or_self_and _ _⟩)

theorem setRaw_cflag (t : Termios) : (setRaw t).cflag = t.cflag := rfl

theorem setRaw_speed {t : Termios} : (setRaw t).ispeed = t.ispeed ∧ (setRaw t).ospeed = t.ospeed := ⟨rfl, rfl⟩

/-- the bits of `c_cflag` that name the character format -/
def fmtMask : Nat := CBAUD ||| CSIZE ||| CSTOPB ||| PARENB ||| PARODD

/-- everything `_serial_setup` does to `c_cflag`: the four fields of the character format hold what `p` asks for, and no bit
    outside them changes -/
structure CflagSet (t t' : Termios) (p : Params) : Prop where
  baud : ∃ n b : Nat, (n : Int) = p.baud ∧ (n, b) ∈ baudmap ∧ (n, b) ∈ stdBaud ∧ t'.cflag &&& CBAUD = b ∧ t'.ispeed = b ∧ t'.ospeed = b
  databits : (p.databits = 7 ∧ t'.cflag &&& CSIZE = CS7) ∨ (p.databits = 8 ∧ t'.cflag &&& CSIZE = CS8)
  stopbits : (p.stopbits = 1 ∧ t'.cflag &&& CSTOPB = 0) ∨ (p.stopbits = 2 ∧ t'.cflag &&& CSTOPB = CSTOPB)
  parity : (parityNone p.parity = true ∧ t'.cflag &&& PARENB = 0) ∨
    (parityNone p.parity = false ∧ parityEven p.parity = true ∧ t'.cflag &&& PARENB = PARENB ∧ t'.cflag &&& PARODD = 0) ∨
    (parityNone p.parity = false ∧ parityEven p.parity = false ∧ parityOdd p.parity = true ∧ t'.cflag &&& PARENB = PARENB ∧ t'.cflag &&& PARODD = PARODD)
  frame : ∀ k, fmtMask &&& k = 0 → t'.cflag &&& k = t.cflag &&& k

theorem serialSetup_cflag {t t' : Termios} {p : Params} (h : serialSetup t p = some t') : CflagSet t t' p := by
  obtain ⟨t1, t2, t3, t4, h1, h2, h3, h4, rfl⟩ := serialSetup_some h
  have s4 := setParity_touches h4
  have s34 := (setStopbits_touches h3).trans s4
  have s234 := (setDatabits_touches h2).trans s34
  refine ⟨?_, ?_, ?_, (setParity_own h4 :), ?_⟩ <;> rw [setRaw_cflag]
  · rw [setRaw_speed.1, setRaw_speed.2]
    obtain ⟨n, b, hn, hm, hc, hi, ho⟩ := setBaud_own h1
    obtain ⟨-, -, -, hstd⟩ := baudmap_good _ hm
    refine ⟨n, b, hn, hm, hstd, ?_, ?_, ?_⟩
    · rw [s234.frame CBAUD (by decide), hc]
    · rw [s234.rest]; exact hi
    · rw [s234.rest]; exact ho
  · rw [s34.frame CSIZE (by decide)]
    exact setDatabits_own h2
  · rw [s4.frame CSTOPB (by decide)]
    exact setStopbits_own h3
  · intro k hk
    -- the masks of the four steps lie inside `fmtMask`
    rw [s234.frame k (sub_disj (by decide) hk), setBaud_frame h1 (sub_disj (by decide) hk)]

theorem serialSetup_rest {t t' : Termios} {p : Params} (h : serialSetup t p = some t') :
    t'.oflag = clr t.oflag OPOST ∧ t'.vmin = 1 ∧ t'.vtime = 0 ∧
    t'.vintr = t.vintr ∧ t'.vquit = t.vquit ∧ t'.verase = t.verase ∧ t'.vkill = t.vkill ∧ t'.veof = t.veof ∧
    t'.vstart = t.vstart ∧ t'.vstop = t.vstop ∧ t'.vsusp = t.vsusp ∧ t'.veol = t.veol := by
  obtain ⟨t1, t2, t3, t4, h1, h2, h3, h4, rfl⟩ := serialSetup_some h
  obtain ⟨n, b, -, -, rfl⟩ := setBaud_ok h1
  rw [(setParity_touches h4).rest, (setStopbits_touches h3).rest, (setDatabits_touches h2).rest]
  exact ⟨rfl, rfl, rfl, rfl, rfl, rfl, rfl, rfl, rfl, rfl, rfl, rfl⟩

theorem serialSetup_speed {t t' : Termios} {p : Params} (h : serialSetup t p = some t') :
    ∃ n b : Nat, (n : Int) = p.baud ∧ (n, b) ∈ stdBaud ∧ cfgetospeed t' = b ∧ cfgetispeed t' = b ∧ t'.ispeed = b ∧ t'.ospeed = b := by
  obtain ⟨n, b, hn, -, hs, hc, hi, ho⟩ := (serialSetup_cflag h).baud
  exact ⟨n, b, hn, hs, hc, by simp [cfgetispeed, (serialSetup_raw h).1, hc], hi, ho⟩

theorem serialSetup_stopbits {t t' : Termios} {p : Params} (h : serialSetup t p = some t') :
    (p.stopbits = 1 ∧ flag t'.cflag CSTOPB = false) ∨ (p.stopbits = 2 ∧ flag t'.cflag CSTOPB = true) := by
  rcases (serialSetup_cflag h).stopbits with ⟨h1, hz⟩ | ⟨h2, hz⟩
  · exact .inl ⟨h1, by simp [flag, hz]⟩
  · exact .inr ⟨h2, by simp [flag, hz]; decide⟩

theorem serialSetup_parity {t t' : Termios} {p : Params} (h : serialSetup t p = some t') :
    (parityNone p.parity = true ∧ flag t'.cflag PARENB = false) ∨
    (parityEven p.parity = true ∧ flag t'.cflag PARENB = true ∧ flag t'.cflag PARODD = false) ∨
    (parityOdd p.parity = true ∧ flag t'.cflag PARENB = true ∧ flag t'.cflag PARODD = true) := by
  rcases (serialSetup_cflag h).parity with ⟨h1, hz⟩ | ⟨-, h2, hz, hz'⟩ | ⟨-, -, h3, hz, hz'⟩
  · exact .inl ⟨h1, by simp [flag, hz]⟩
  · exact .inr (.inl ⟨h2, by simp [flag, hz]; decide, by simp [flag, hz']⟩)
  · exact .inr (.inr ⟨h3, by simp [flag, hz]; decide, by simp [flag, hz']; decide⟩)

/-! ## what is refused -/

/-- the bauds of the table -/
def supportedBauds : List Nat := baudmap.map (·.1)

theorem lookupBaud_isSome_iff (baud : Int) : (lookupBaud baud).isSome = true ↔ ∃ n ∈ supportedBauds, (n : Int) = baud := by
  constructor
  · intro h
    obtain ⟨b, hb⟩ := Option.isSome_iff_exists.mp h
    obtain ⟨n, hn, hm⟩ := lookupBaud_mem hb
    exact ⟨n, List.mem_map.mpr ⟨(n, b), hm, rfl⟩, hn⟩
  · rintro ⟨n, hn, rfl⟩
    obtain ⟨x, hx, rfl⟩ := List.mem_map.mp hn
    rw [lookupBaud_of_mem x hx]; rfl

theorem setDatabits_err {t : Termios} {d : Int} (h7 : d ≠ 7) (h8 : d ≠ 8) : setDatabits t d = .error .databits := by
  simp [setDatabits, h7, h8]

theorem setStopbits_err {t : Termios} {d : Int} (h1 : d ≠ 1) (h2 : d ≠ 2) : setStopbits t d = .error .stopbits := by
  simp [setStopbits, h1, h2]

theorem setParity_err {t : Termios} {c : UInt8} (hn : parityNone c = false) (he : parityEven c = false) (ho : parityOdd c = false) :
    setParity t c = .error .parity := by
  rw [setParity_eq, hn, he, ho]; rfl

theorem setDatabits_7 (t : Termios) : setDatabits t 7 = .ok { t with cflag := clr t.cflag CSIZE ||| CS7 } := by simp [setDatabits]
theorem setDatabits_8 (t : Termios) : setDatabits t 8 = .ok { t with cflag := clr t.cflag CSIZE ||| CS8 } := by simp [setDatabits]
theorem setStopbits_1 (t : Termios) : setStopbits t 1 = .ok { t with cflag := clr t.cflag CSTOPB } := by simp [setStopbits]
theorem setStopbits_2 (t : Termios) : setStopbits t 2 = .ok { t with cflag := t.cflag ||| CSTOPB } := by simp [setStopbits]

theorem setParity_some {t : Termios} {c : UInt8} (h : parityNone c = true ∨ parityEven c = true ∨ parityOdd c = true) :
    ∃ t', setParity t c = .ok t' := by
  rw [setParity_eq]
  cases hn : parityNone c
  · cases he : parityEven c
    · rcases h with h | h | h
      · rw [hn] at h; cases h
      · rw [he] at h; cases h
      · rw [h]; exact ⟨_, rfl⟩
    · exact ⟨_, rfl⟩
  · exact ⟨_, rfl⟩

/-- the parameters name a character format `_serial_setup` knows -/
def GoodParams (p : Params) : Prop :=
  (∃ n ∈ supportedBauds, (n : Int) = p.baud) ∧ (p.databits = 7 ∨ p.databits = 8) ∧ (p.stopbits = 1 ∨ p.stopbits = 2) ∧
  (parityNone p.parity = true ∨ parityEven p.parity = true ∨ parityOdd p.parity = true)

theorem serialSetupE_error (t : Termios) (p : Params) :
    (serialSetupE t p = .error .baud ↔ ¬ ∃ n ∈ supportedBauds, (n : Int) = p.baud) ∧
    (serialSetupE t p = .error .databits ↔ (∃ n ∈ supportedBauds, (n : Int) = p.baud) ∧ ¬(p.databits = 7 ∨ p.databits = 8)) ∧
    (serialSetupE t p = .error .stopbits ↔ (∃ n ∈ supportedBauds, (n : Int) = p.baud) ∧ (p.databits = 7 ∨ p.databits = 8) ∧ ¬(p.stopbits = 1 ∨ p.stopbits = 2)) ∧
    (serialSetupE t p = .error .parity ↔ (∃ n ∈ supportedBauds, (n : Int) = p.baud) ∧ (p.databits = 7 ∨ p.databits = 8) ∧ (p.stopbits = 1 ∨ p.stopbits = 2) ∧
        ¬(parityNone p.parity = true ∨ parityEven p.parity = true ∨ parityOdd p.parity = true)) ∧
    ((∃ t', serialSetupE t p = .ok t') ↔ GoodParams p) := by
  unfold GoodParams
  rw [← lookupBaud_isSome_iff]
  -- the four checks run in the order baud, data bits, stop bits, parity: the first that fails names the error
  cases hl : lookupBaud p.baud with
  | none => simp [serialSetupE, setBaud_none hl, bind, Except.bind]
  | some b =>
    obtain ⟨t1, h1⟩ := setBaud_some (t := t) hl
    by_cases hd : p.databits = 7 ∨ p.databits = 8
    · obtain ⟨t2, h2⟩ : ∃ t2, setDatabits t1 p.databits = .ok t2 := by
        rcases hd with hd | hd <;> rw [hd]
        · exact ⟨_, setDatabits_7 _⟩
        · exact ⟨_, setDatabits_8 _⟩
      by_cases hs : p.stopbits = 1 ∨ p.stopbits = 2
      · obtain ⟨t3, h3⟩ : ∃ t3, setStopbits t2 p.stopbits = .ok t3 := by
          rcases hs with hs | hs <;> rw [hs]
          · exact ⟨_, setStopbits_1 _⟩
          · exact ⟨_, setStopbits_2 _⟩
        by_cases hp : parityNone p.parity = true ∨ parityEven p.parity = true ∨ parityOdd p.parity = true
        · obtain ⟨t4, h4⟩ := setParity_some (t := t3) hp
          simp [serialSetupE, h1, h2, h3, h4, bind, Except.bind, pure, Except.pure, hd, hs, hp]
        · have h4 : setParity t3 p.parity = .error .parity := by
            simp only [not_or, Bool.not_eq_true] at hp
            exact setParity_err hp.1 hp.2.1 hp.2.2
          simp [serialSetupE, h1, h2, h3, h4, bind, Except.bind, hd, hs, hp]
      · have h3 : setStopbits t2 p.stopbits = .error .stopbits := by
          simp only [not_or] at hs; exact setStopbits_err hs.1 hs.2
        simp [serialSetupE, h1, h2, h3, bind, Except.bind, hd, hs]
    · have h2 : setDatabits t1 p.databits = .error .databits := by
        simp only [not_or] at hd; exact setDatabits_err hd.1 hd.2
      simp [serialSetupE, h1, h2, bind, Except.bind, hd]

theorem serialSetup_isSome_iff (t : Termios) (p : Params) : (∃ t', serialSetup t p = some t') ↔ GoodParams p := by
  obtain ⟨-, -, -, -, hok⟩ := serialSetupE_error t p
  rw [← hok]
  unfold serialSetup
  cases serialSetupE t p <;> simp [Except.toOption]

/-! ## the flags string -/

theorem dropWhile_nil_iff {α} (p : α → Bool) (l : List α) : l.dropWhile p = [] ↔ l.all p = true := by
  induction l with
  | nil => simp
  | cons a r ih =>
    by_cases h : p a = true
    · simp [h, ih]
    · simp [h]

theorem ite_ne {α} {c : Prop} [Decidable c] {x y z : α} (hx : x ≠ z) (hy : y ≠ z) : (if c then x else y) ≠ z := by
  split <;> assumption

theorem scanD_eof_iff (s : Bytes) : scanD s = .eof ↔ s.all isSpace = true := by
  rw [← dropWhile_nil_iff]
  unfold scanD
  by_cases he : (s.dropWhile isSpace).isEmpty = true
  · simp [List.isEmpty_iff.mp he]
  · have hne : s.dropWhile isSpace ≠ [] := by simpa [List.isEmpty_iff] using he
    simp only [he, hne, Bool.false_eq_true, ↓reduceIte, iff_false]
    -- past the white space the answer is `.fail` or `.ok`
    exact ite_ne nofun nofun

/-- what the `sscanf` answers: `EOF` when the first `%d` meets the end of the input, otherwise the number of conversions -/
theorem sscanfFlags_fst (s : Bytes) :
    (scanD s = .eof ∧ (sscanfFlags s).1 = -1) ∨ (scanD s ≠ .eof ∧ 0 ≤ (sscanfFlags s).1 ∧ (sscanfFlags s).1 ≤ 4) := by
  unfold sscanfFlags
  cases scanD s with
  | eof => simp
  | fail => simp
  | ok v r =>
    simp only
    split
    · split
      · split
        · split <;> simp
        · simp
      · simp
    · simp

theorem sscanfFlags_neg_iff (s : Bytes) : (sscanfFlags s).1 < 0 ↔ s.all isSpace = true := by
  rw [← scanD_eof_iff]
  rcases sscanfFlags_fst s with ⟨he, h⟩ | ⟨he, h, -⟩
  · exact ⟨fun _ => he, fun _ => by omega⟩
  · exact ⟨fun hn => by omega, fun h' => absurd h' he⟩

theorem sscanfFlags_range (s : Bytes) : -1 ≤ (sscanfFlags s).1 ∧ (sscanfFlags s).1 ≤ 4 := by
  rcases sscanfFlags_fst s with ⟨-, h⟩ | ⟨-, h, h'⟩ <;> omega

theorem sscanfFlags_blank {s : Bytes} (h : s.all isSpace = true) : sscanfFlags s = (-1, defaults) := by
  have he := (scanD_eof_iff s).mpr h
  simp [sscanfFlags, he]

theorem parseFlags_some (s : Bytes) : parseFlags s = some (sscanfFlags (cstr s)).2 := by
  have h := sscanfFlags_range (cstr s)
  unfold parseFlags
  generalize sscanfFlags (cstr s) = r at *
  obtain ⟨n, p⟩ := r
  have h1 : ¬ n < -1 := by simp at h; omega
  have h2 : ¬ n > 4 := by simp at h; omega
  simp [h1, h2]

theorem parseFlags_blank {s : Bytes} (h : (cstr s).all isSpace = true) : parseFlags s = some defaults := by
  rw [parseFlags_some, sscanfFlags_blank h]

/-! ### a flags string in its documented shape is read as written -/

/- `isSpace`, `isDigit`, `digitsVal`, `toInt32` and `cstr` are written as in `Pm/LibPmModel.lean`: what `Pm/ScanfProof.lean` shows
   of those holds of these by unfolding -/
theorem toInt32_small (n : Nat) (h : n < 2147483648) : toInt32 (n : Int) = n := LibPmModel.toInt32_small n h

/-- a run of decimal digits followed by something that is not a digit -/
structure Digits (ds rest : Bytes) : Prop where
  all : ∀ d ∈ ds, isDigit d = true
  ne : ds ≠ []
  stop : ∀ x r, rest = x :: r → isDigit x = false
  small : digitsVal ds < 2147483648

theorem takeWhile_digits {ds rest : Bytes} (h : Digits ds rest) : List.takeWhile isDigit (ds ++ rest) = ds :=
  LibPmModel.takeWhile_digits ds rest h.all h.stop

theorem dropWhile_digits {ds rest : Bytes} (h : Digits ds rest) : List.dropWhile isDigit (ds ++ rest) = rest := by
  rw [List.dropWhile_append_of_pos (by simpa using h.all)]
  cases rest with
  | nil => simp
  | cons x r => simp [h.stop x r rfl]

theorem scanD_digits {ds rest : Bytes} (h : Digits ds rest) : scanD (ds ++ rest) = .ok (digitsVal ds : Int) rest := by
  have htw := takeWhile_digits h
  have hdw := dropWhile_digits h
  obtain ⟨a, ds', rfl⟩ := List.exists_cons_of_ne_nil h.ne
  obtain ⟨hsp, h45, h43⟩ : isSpace a = false ∧ a ≠ 45 ∧ a ≠ 43 := LibPmModel.digit_plain a (h.all a (by simp))
  have hv := h.small
  unfold scanD
  simp only [List.cons_append, List.dropWhile_cons, hsp, Bool.false_eq_true, ↓reduceIte, List.isEmpty_cons]
  split
  · rename_i r e; simp at e; exact absurd e.1 h45
  · rename_i r e; simp at e; exact absurd e.1 h43
  · rw [← List.cons_append]
    simp only [htw, hdw]
    simp only [List.isEmpty_cons, Bool.false_eq_true, ↓reduceIte]
    have : ¬ ((digitsVal (a :: ds') : Int) > 9223372036854775807) := by omega
    simp only [this, ↓reduceIte]
    rw [toInt32_small _ hv]

theorem sscanfFlags_full {b d s : Bytes} {c : UInt8} (hb : Digits b (44 :: (d ++ c :: s))) (hd : Digits d (c :: s)) (hs : Digits s []) :
    sscanfFlags (b ++ 44 :: (d ++ c :: s)) = (4, ⟨digitsVal b, digitsVal d, c, digitsVal s⟩) := by
  unfold sscanfFlags
  rw [scanD_digits hb]
  simp only
  rw [scanD_digits hd]
  simp only
  have := scanD_digits hs
  rw [List.append_nil] at this
  rw [this]

/-- the shorter forms: what is missing keeps its default -/
theorem sscanfFlags_baud_only {b : Bytes} (hb : Digits b []) :
    sscanfFlags b = (1, { defaults with baud := digitsVal b }) := by
  have := scanD_digits hb
  rw [List.append_nil] at this
  unfold sscanfFlags; rw [this]

theorem sscanfFlags_no_stopbits {b d : Bytes} {c : UInt8} (hb : Digits b (44 :: (d ++ [c]))) (hd : Digits d [c]) :
    sscanfFlags (b ++ 44 :: (d ++ [c])) = (3, { defaults with baud := digitsVal b, databits := digitsVal d, parity := c }) := by
  unfold sscanfFlags
  rw [scanD_digits hb]
  simp only
  rw [scanD_digits hd]
  simp [scanD]

theorem digits_ne_zero {ds rest : Bytes} (h : Digits ds rest) : ∀ x ∈ ds, x ≠ 0 :=
  fun x hx => LibPmModel.digit_ne_zero x (h.all x hx)

theorem parseFlags_full {b d s : Bytes} {c : UInt8} (hb : Digits b (44 :: (d ++ c :: s))) (hd : Digits d (c :: s)) (hs : Digits s [])
    (hc : c ≠ 0) : parseFlags (b ++ 44 :: (d ++ c :: s)) = some ⟨digitsVal b, digitsVal d, c, digitsVal s⟩ := by
  have h0 : cstr (b ++ 44 :: (d ++ c :: s)) = b ++ 44 :: (d ++ c :: s) := LibPmModel.cstr_of_nonul _ fun x hx => by
    simp only [List.mem_append, List.mem_cons] at hx
    rcases hx with hx | rfl | hx | rfl | hx
    · exact digits_ne_zero hb x hx
    · decide
    · exact digits_ne_zero hd x hx
    · exact hc
    · exact digits_ne_zero hs x hx
  rw [parseFlags_some, h0, sscanfFlags_full hb hd hs]

/-! ## below the line discipline -/

theorem u8_and_255 (b : UInt8) : b &&& 255 = b := by
  apply UInt8.eq_of_toBitVec_eq
  apply BitVec.eq_of_toNat_eq
  simp only [UInt8.toBitVec_and, BitVec.toNat_and]
  show b.toNat &&& 255 = b.toNat
  have h : b.toNat < 2 ^ 8 := b.toNat_lt
  have := Nat.and_two_pow_sub_one_eq_mod b.toNat 8
  simp at this
  omega

theorem u8_and_127_of_lt (b : UInt8) (h : b.toNat < 128) : b &&& 127 = b := by
  apply UInt8.toNat_inj.mp
  rw [UInt8.toNat_and]
  have := Nat.and_two_pow_sub_one_eq_mod b.toNat 7
  simp at this
  show b.toNat &&& 127 = b.toNat
  omega

theorem charBits_of_CS7 {t : Termios} (h : t.cflag &&& CSIZE = CS7) : charBits t = 7 := by
  simp [charBits, h]; decide
theorem charBits_of_CS8 {t : Termios} (h : t.cflag &&& CSIZE = CS8) : charBits t = 8 := by
  simp [charBits, h]; decide

theorem uartTx_8 {t : Termios} (h : charBits t = 8) (bs : Bytes) : uartTx t bs = bs := by
  unfold uartTx; rw [h]
  have : (2 ^ 8 - 1 : Nat).toUInt8 = 255 := by decide
  rw [this]; simp [u8_and_255]

theorem uartTx_7 {t : Termios} (h : charBits t = 7) (bs : Bytes) : uartTx t bs = bs.map (· &&& 127) := by
  unfold uartTx; rw [h]
  have : (2 ^ 7 - 1 : Nat).toUInt8 = 127 := by decide
  rw [this]

theorem uartRx_of_CREAD {t : Termios} (hr : flag t.cflag CREAD = true) (bs : Bytes) : uartRx t bs = uartTx t bs := by
  unfold uartRx; rw [hr]; rfl

theorem uartRx_8 {t : Termios} (hr : flag t.cflag CREAD = true) (h : charBits t = 8) (bs : Bytes) : uartRx t bs = bs := by
  rw [uartRx_of_CREAD hr, uartTx_8 h]

theorem uartRx_7 {t : Termios} (hr : flag t.cflag CREAD = true) (h : charBits t = 7) (bs : Bytes) : uartRx t bs = bs.map (· &&& 127) := by
  rw [uartRx_of_CREAD hr, uartTx_7 h]

theorem map_and_127_ascii (bs : Bytes) (h : ∀ b ∈ bs, b.toNat < 128) : bs.map (· &&& 127) = bs := by
  induction bs with
  | nil => rfl
  | cons a r ih =>
    simp only [List.map_cons]
    rw [u8_and_127_of_lt a (h a (by simp)), ih (fun b hb => h b (by simp [hb]))]

theorem serialSetup_CREAD {t t' : Termios} {p : Params} (h : serialSetup t p = some t') : flag t'.cflag CREAD = flag t.cflag CREAD := by
  unfold flag; rw [(serialSetup_cflag h).frame CREAD (by decide)]

theorem serialSetup_charBits {t t' : Termios} {p : Params} (h : serialSetup t p = some t') :
    (p.databits = 7 ∧ charBits t' = 7) ∨ (p.databits = 8 ∧ charBits t' = 8) := by
  rcases (serialSetup_cflag h).databits with ⟨h7, hz⟩ | ⟨h8, hz⟩
  · exact .inl ⟨h7, charBits_of_CS7 hz⟩
  · exact .inr ⟨h8, charBits_of_CS8 hz⟩

theorem serialSetup_uartTx {t t' : Termios} {p : Params} (h : serialSetup t p = some t') (bs : Bytes) :
    (p.databits = 8 → uartTx t' bs = bs) ∧ (p.databits = 7 → uartTx t' bs = bs.map (· &&& 127)) := by
  rcases serialSetup_charBits h with ⟨h7, hc⟩ | ⟨h8, hc⟩
  · exact ⟨fun e => by omega, fun _ => uartTx_7 hc bs⟩
  · exact ⟨fun _ => uartTx_8 hc bs, fun e => by omega⟩

theorem serialSetup_uartRx {t t' : Termios} {p : Params} (h : serialSetup t p = some t') (hr : flag t.cflag CREAD = true) (bs : Bytes) :
    (p.databits = 8 → uartRx t' bs = bs) ∧ (p.databits = 7 → uartRx t' bs = bs.map (· &&& 127)) := by
  rw [uartRx_of_CREAD (by rw [serialSetup_CREAD h, hr])]
  exact serialSetup_uartTx h bs

/-! ## `poll` after the set-up -/

theorem serialSetup_poll {t t' : Termios} {p : Params} (h : serialSetup t p = some t') (bs : Bytes) :
    pollReadable t' bs = decide (bs.length ≥ 1) := by
  obtain ⟨hi, hl, -⟩ := serialSetup_raw h
  obtain ⟨-, hm, ht, -⟩ := serialSetup_rest h
  rw [pollReadable_raw hi hl, hm, ht]
  simp

theorem serialSetup_poll_ok {t t' : Termios} {p : Params} (h : serialSetup t p = some t') (bs : Bytes) (hne : bs ≠ []) :
    pollReadable t' bs = true := by
  rw [serialSetup_poll h]
  have hl : 1 ≤ bs.length := List.length_pos_iff.mpr hne
  simpa using hl

end Pm.Serial

#print axioms Pm.Serial.serialSetup_raw
#print axioms Pm.Serial.ttyOut_raw
#print axioms Pm.Serial.ttyIn_raw
#print axioms Pm.Serial.serialSetup_cflag
#print axioms Pm.Serial.serialSetup_rest
#print axioms Pm.Serial.serialSetupE_error
#print axioms Pm.Serial.serialSetup_isSome_iff
#print axioms Pm.Serial.parseFlags_some
#print axioms Pm.Serial.parseFlags_blank
#print axioms Pm.Serial.parseFlags_full
#print axioms Pm.Serial.sscanfFlags_baud_only
#print axioms Pm.Serial.sscanfFlags_no_stopbits
#print axioms Pm.Serial.uartTx_7
#print axioms Pm.Serial.uartRx_8
#print axioms Pm.Serial.map_and_127_ascii
#print axioms Pm.Serial.serialSetup_CREAD
#print axioms Pm.Serial.serialSetup_poll_ok
#print axioms Pm.Serial.baudmap_good
#print axioms Pm.Serial.ttyIn_of_rawIn
#print axioms Pm.Serial.ttyOut_of_plain
