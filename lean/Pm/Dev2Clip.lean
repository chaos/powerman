import Pm.Dev2
/-! Basic facts about `clipRead`, the capacity half of `device.c:_handle_read` (`cbuf_write_from_fd` before the bytes land):
    it touches only `env.read` (cut to the planned length), `dev.fromSize` (grown) and `dev.fromBuf` (oldest bytes
    dropped, only at `MAX_DEV_BUF`).  Everything else is as before, so every lemma about the read branch of
    `_handle_ready_device` — stated for arbitrary delivered bytes — applies to the clipped state. -/
namespace Pm.Dev2

@[simp] theorem clipRead_sys (c : CS) : (clipRead c).sys = c.sys := by unfold clipRead; split <;> rfl
@[simp] theorem clipRead_aborted (c : CS) : (clipRead c).aborted = c.aborted := by unfold clipRead; split <;> rfl
@[simp] theorem clipRead_acts (c : CS) : (clipRead c).dev.acts = c.dev.acts := by unfold clipRead; split <;> rfl
@[simp] theorem clipRead_conn (c : CS) : (clipRead c).dev.conn = c.dev.conn := by unfold clipRead; split <;> rfl
@[simp] theorem clipRead_loggedIn (c : CS) : (clipRead c).dev.loggedIn = c.dev.loggedIn := by unfold clipRead; split <;> rfl
@[simp] theorem clipRead_fd (c : CS) : (clipRead c).dev.fd = c.dev.fd := by unfold clipRead; split <;> rfl
@[simp] theorem clipRead_isPipe (c : CS) : (clipRead c).dev.isPipe = c.dev.isPipe := by unfold clipRead; split <;> rfl
@[simp] theorem clipRead_cpid (c : CS) : (clipRead c).dev.cpid = c.dev.cpid := by unfold clipRead; split <;> rfl
@[simp] theorem clipRead_env_revents (c : CS) : (clipRead c).env.revents = c.env.revents := by unfold clipRead; split <;> rfl
@[simp] theorem clipRead_env_sockets (c : CS) : (clipRead c).env.sockets = c.env.sockets := by unfold clipRead; split <;> rfl
@[simp] theorem clipRead_env_connects (c : CS) : (clipRead c).env.connects = c.env.connects := by unfold clipRead; split <;> rfl
@[simp] theorem clipRead_env_soerrs (c : CS) : (clipRead c).env.soerrs = c.env.soerrs := by unfold clipRead; split <;> rfl
@[simp] theorem clipRead_env_writeOk (c : CS) : (clipRead c).env.writeOk = c.env.writeOk := by unfold clipRead; split <;> rfl
@[simp] theorem clipRead_env_pairs (c : CS) : (clipRead c).env.pairs = c.env.pairs := by unfold clipRead; split <;> rfl
@[simp] theorem clipRead_env_pids (c : CS) : (clipRead c).env.pids = c.env.pids := by unfold clipRead; split <;> rfl
@[simp] theorem clipRead_env_wcap (c : CS) : (clipRead c).env.wcap = c.env.wcap := by unfold clipRead; split <;> rfl

/-- the number of oldest unread bytes that give way, whatever the kernel answers (`dropOf d bs` when it has `bs`) -/
def clipDrop (c : CS) : Nat := match c.env.read with | some r => (devReadPlan c.dev r).2.2 | none => 0
/-- the size of `dev->from` afterwards: a full buffer grows before the `read`, also when that then fails or hands over nothing
    (`sizeAfter d bs` when the kernel has `bs`) -/
def clipSize (c : CS) : Nat := match c.env.read with | some r => (devReadPlan c.dev r).2.1 | none => c.dev.fromSize

theorem clipRead_dev (c : CS) : (clipRead c).dev = { c.dev with fromSize := clipSize c, fromBuf := c.dev.fromBuf.drop (clipDrop c) } := by
  unfold clipRead clipSize clipDrop; split <;> simp_all

theorem clipRead_fromBuf (c : CS) : (clipRead c).dev.fromBuf = c.dev.fromBuf.drop (clipDrop c) := by rw [clipRead_dev]
theorem clipRead_fromSize (c : CS) : (clipRead c).dev.fromSize = clipSize c := by rw [clipRead_dev]

theorem clipRead_read_none (c : CS) (h : c.env.read = none) : clipRead c = c := by
  unfold clipRead; rw [h]
theorem clipRead_read_err (c : CS) (h : c.env.read = some none) : (clipRead c).env.read = some none := by
  unfold clipRead; rw [h]; rfl
theorem clipRead_read_isNone (c : CS) : (clipRead c).env.read.isNone = c.env.read.isNone := by
  cases h : c.env.read with
  | none => rw [clipRead_read_none c h, h]
  | some r => unfold clipRead; rw [h]; rfl

/-- the bytes one `read` takes when the kernel has `bs` for a device in state `d`: the first `n` of them,
    `n = min (free space, or a chunk when the buffer is full) |bs|` -/
def readOf (d : Dev) (bs : Bytes) : Bytes := bs.take (devReadPlan d (some bs)).1

theorem clipRead_read_data (c : CS) (bs : Bytes) (h : c.env.read = some (some bs)) :
    (clipRead c).env.read = some (some (readOf c.dev bs)) := by
  unfold clipRead; rw [h]; rfl

theorem readOf_prefix (d : Dev) (bs : Bytes) : readOf d bs <+: bs := List.take_prefix _ _

theorem readOf_length (d : Dev) (bs : Bytes) : (readOf d bs).length = (devReadPlan d (some bs)).1 := by
  unfold readOf
  rw [List.length_take]
  have := Pm.Cbuf.readPlan_n_le_avail d.fromSize d.fromBuf.length devBufMax bs.length
  unfold devReadPlan
  simp only
  omega

theorem readOf_congr {d d' : Dev} (h1 : d'.fromSize = d.fromSize) (h2 : d'.fromBuf = d.fromBuf) (bs : Bytes) :
    readOf d' bs = readOf d bs := by
  unfold readOf devReadPlan; rw [h1, h2]

/-- the number of oldest unread bytes one `read` overwrites when the kernel has `bs` (0 unless the buffer is full at
    `MAX_DEV_BUF`) -/
def dropOf (d : Dev) (bs : Bytes) : Nat := (devReadPlan d (some bs)).2.2
/-- the size of `dev->from` after that `read` -/
def sizeAfter (d : Dev) (bs : Bytes) : Nat := (devReadPlan d (some bs)).2.1
/-- the device after the capacity half of a `read` for which the kernel has `bs` -/
def devClip (d : Dev) (bs : Bytes) : Dev := { d with fromSize := sizeAfter d bs, fromBuf := d.fromBuf.drop (dropOf d bs) }

theorem clipRead_data_eq (c : CS) (bs : Bytes) (h : c.env.read = some (some bs)) :
    clipRead c = { c with env := { c.env with read := some (some (readOf c.dev bs)) }, dev := devClip c.dev bs } := by
  unfold clipRead devClip sizeAfter dropOf readOf; rw [h]; rfl

theorem readOf_nil (d : Dev) : readOf d [] = [] := by unfold readOf; simp

theorem dropOf_nil (d : Dev) : dropOf d [] = 0 := by
  unfold dropOf devReadPlan; exact (Pm.Cbuf.readPlan_zero _ _ _).2

/-- a `read` that hands over nothing (end of file, `EAGAIN`, an error) changes nothing but, possibly, the size -/
theorem clipRead_dev_nodata (c : CS) (h : ∀ bs, c.env.read = some (some bs) → bs = []) :
    (clipRead c).dev = { c.dev with fromSize := clipSize c } := by
  rw [clipRead_dev]
  have : clipDrop c = 0 := by
    unfold clipDrop
    cases hr : c.env.read with
    | none => rfl
    | some r =>
      cases r with
      | none => exact (Pm.Cbuf.readPlan_zero _ _ _).2
      | some bs => rw [h bs hr]; exact (Pm.Cbuf.readPlan_zero _ _ _).2
  rw [this, List.drop_zero]

/-- something to hand out, something read: the request is never for zero bytes -/
theorem readOf_ne_nil (d : Dev) (bs : Bytes) (h : bs ≠ []) : readOf d bs ≠ [] := by
  intro h0
  have hl := readOf_length d bs
  rw [h0] at hl
  unfold devReadPlan at hl
  rw [Pm.Cbuf.readPlan_n_eq] at hl
  have : 0 < bs.length := List.length_pos_iff.mpr h
  simp only [List.length_nil] at hl
  unfold Pm.Cbuf.chunk at hl
  split at hl <;> omega

@[simp] theorem devClip_statConnects (d : Dev) (bs : Bytes) : (devClip d bs).statConnects = d.statConnects := rfl
@[simp] theorem devClip_isPipe (d : Dev) (bs : Bytes) : (devClip d bs).isPipe = d.isPipe := rfl
@[simp] theorem devClip_tstate (d : Dev) (bs : Bytes) : (devClip d bs).tstate = d.tstate := rfl
@[simp] theorem devClip_tcmd (d : Dev) (bs : Bytes) : (devClip d bs).tcmd = d.tcmd := rfl
@[simp] theorem devClip_toBuf (d : Dev) (bs : Bytes) : (devClip d bs).toBuf = d.toBuf := rfl
@[simp] theorem devClip_acts (d : Dev) (bs : Bytes) : (devClip d bs).acts = d.acts := rfl

end Pm.Dev2
