import Pm.InterpPass
/-! C08, section C: the bytes sent while an action runs to completion are the send texts of its unrolled script, in order -/
namespace Pm.Dev2.Interp

/-- the sequences of send texts a flat program can produce: every operation in order, a guard either replaced by its
    body or skipped; a send whose text does not exist (`hostlist_sort` assertion) cannot be passed -/
inductive Path : List FOp → List Bytes → Prop where
  | nil : Path [] []
  | send (t : Bytes) (r : List FOp) (ss : List Bytes) : Path r ss → Path (.send (some t) :: r) (t :: ss)
  | expect (p : Nat) (r : List FOp) (ss : List Bytes) : Path r ss → Path (.expect p :: r) ss
  | delay (us : Time) (r : List FOp) (ss : List Bytes) : Path r ss → Path (.delay us :: r) ss
  | setplugstate (l : Option Bytes) (pm sm : Int) (is : List (PState × Nat)) (t : Option Bytes) (r : List FOp) (ss : List Bytes) :
      Path r ss → Path (.setplugstate l pm sm is t :: r) ss
  | setresult (pm sm : Int) (is : List (PResult × Nat)) (r : List FOp) (ss : List Bytes) :
      Path r ss → Path (.setresult pm sm is :: r) ss
  | taken (w : Bool) (n : Option Bytes) (body r : List FOp) (ss : List Bytes) :
      Path (body ++ r) ss → Path (.guard w n body :: r) ss
  | skipped (w : Bool) (n : Option Bytes) (body r : List FOp) (ss : List Bytes) :
      Path r ss → Path (.guard w n body :: r) ss

/-- … from a reference state: a send or delay that has been started has already produced what it produces -/
def PathF (f : F) (ss : List Bytes) : Prop :=
  match f.rem with
  | .send _ :: r => if f.inflight then Path r ss else Path f.rem ss
  | .delay _ :: r => if f.inflight then Path r ss else Path f.rem ss
  | rem => Path rem ss

theorem sents_expectPure (d tel cid o pat) : sents (expectPure d tel cid o pat).2.2.1 = [] := by
  refine sents_notes (cid := cid) ?_
  have hrx := askRx_to cid o pat (rxSubject d.fromBuf)
  unfold expectPure
  dsimp only
  split
  · exact notes_nil
  · split
    · exact hrx
    · exact notes_append hrx (notes_ite (teleMem_to _ _ _) notes_nil)

theorem sents_setplugstatePure (d al o t l pm sm is) : sents (setplugstatePure d al o t l pm sm is).2.2 = [] := by
  unfold setplugstatePure
  split
  · rfl
  · split
    · exact sents_notes (pickState_to 0 _ _ _ _ notes_nil)
    · rfl

theorem sents_setresultPure (d al cid o pm sm is) : sents (setresultPure d al cid o pm sm is).2.2 = [] := by
  unfold setresultPure
  split
  · rfl
  · split
    · exact sents_notes (cid := cid) (notes_append (pickResult_to cid _ _ _ _ notes_nil) (notes_ite (notes_one (by simp [noteTo])) notes_nil))
    · rfl

theorem sents_delayTeleI (i us) : sents (delayTeleI i us) = [] := by
  unfold delayTeleI; split <;> rfl

theorem sents_classify_abort (site : String) : hasAbort [Out.abortAssert site] = true := rfl

theorem pathF_fresh (r : List FOp) (ss : List Bytes) : PathF ⟨r, false⟩ ss = Path r ss := by
  unfold PathF; split <;> simp

/-- one step of the reference extends the path by what it sent -/
theorem fstep_path (now : Time) (d : Dev) (i : FA) (o : Oracle) (f : F)
    (hs : (fstep now d i o f).status = .running ∨ (fstep now d i o f).status = .stalled) :
    ∀ ss, PathF (fstep now d i o f).f ss → PathF f (sents (fstep now d i o f).out ++ ss) := by
  obtain ⟨rem, infl⟩ := f
  intro ss
  cases rem with
  | nil => exact id
  | cons op r =>
    cases op with
    | send text =>
      cases infl with
      | true =>
        simp only [fstep, Bool.not_true, Bool.false_eq_true, ↓reduceIte, sents_nil, List.nil_append]
        intro h
        change Path r ss
        split at h
        · rwa [pathF_fresh] at h
        · exact h
      | false =>
        cases text with
        | none => simp [fstep] at hs
        | some t =>
          simp only [fstep, Bool.not_false, ↓reduceIte, sents_append, sents_sendTele, List.append_nil]
          intro h
          refine Path.send t r ss ?_
          split at h
          · rwa [pathF_fresh] at h
          · exact h
    | expect pat =>
      simp only [fstep, sents_expectPure, List.nil_append]
      intro h
      split at h
      · rw [pathF_fresh] at h; cases infl <;> exact Path.expect pat r ss h
      · exact h
    | delay us =>
      have hout : sents (fstep now d i o ⟨.delay us :: r, infl⟩).out = [] := by
        simp only [fstep]; split <;> (split <;> simp [sents_delayTeleI])
      have hf : (fstep now d i o ⟨.delay us :: r, infl⟩).f = ⟨r, false⟩ ∨
          (fstep now d i o ⟨.delay us :: r, infl⟩).f = ⟨.delay us :: r, true⟩ := by
        simp only [fstep]; repeat' split
        all_goals simp
      rw [hout]
      intro h
      have hr : Path r ss := by
        rcases hf with hf | hf <;> rw [hf] at h
        · rwa [pathF_fresh] at h
        · exact h
      cases infl
      · exact Path.delay us r ss hr
      · exact hr
    | setplugstate lit pm sm is target =>
      simp only [fstep, sents_setplugstatePure, List.nil_append, pathF_fresh]
      intro h; cases infl <;> exact Path.setplugstate lit pm sm is target r ss h
    | setresult pm sm is =>
      simp only [fstep, sents_setresultPure, List.nil_append, pathF_fresh]
      intro h; cases infl <;> exact Path.setresult pm sm is r ss h
    | guard w node body =>
      have goal : ∀ ss, PathF ⟨.guard w node body :: r, infl⟩ ss = Path (.guard w node body :: r) ss := fun _ => by
        cases infl <;> rfl
      rw [goal]
      by_cases hc : condHolds w (nodeState d i.arglist node) = true
      · simp only [fstep, hc, ↓reduceIte, sents_nil, List.nil_append, pathF_fresh]
        exact Path.taken w node body r ss
      · by_cases hu : (nodeState d i.arglist node == .unknown) = true
        · simp [fstep, hc, hu] at hs
        · simp only [fstep, hc, Bool.false_eq_true, ↓reduceIte, hu, sents_nil, List.nil_append, pathF_fresh]
          exact Path.skipped w node body r ss

theorem pathF_nil (f : F) (h : f.rem = []) : PathF f [] := by
  unfold PathF; simp only [h]; exact Path.nil

/-- a run of the reference extends the path by what it sent, and at the end of the program nothing is left to send -/
theorem frun_path (now : Time) : ∀ (k : Nat) (d : Dev) (i : FA) (o : Oracle) (f : F) (acc : List Out),
    ((frun now k d i o f acc).status = .stalled ∨ (frun now k d i o f acc).status = .done ∨
      (frun now k d i o f acc).status = .running) →
    ∃ em, sents (frun now k d i o f acc).out = sents acc ++ em ∧
      (∀ ss, PathF (frun now k d i o f acc).f ss → PathF f (em ++ ss)) ∧
      ((frun now k d i o f acc).status = .done → (frun now k d i o f acc).f.rem = []) := by
  intro k
  induction k with
  | zero =>
    intro d i o f acc _
    exact ⟨[], by simp [frun], fun ss h => by simpa [frun] using h, fun h => by simp [frun] at h⟩
  | succ k ih =>
    intro d i o f acc hs
    rw [frun] at hs ⊢
    by_cases hemp : f.rem.isEmpty = true
    · simp only [hemp, ↓reduceIte]
      exact ⟨[], by simp, fun ss h => by simpa using h, fun _ => by simpa using hemp⟩
    · simp only [hemp, Bool.false_eq_true, ↓reduceIte] at hs ⊢
      by_cases hrun : (fstep now d i o f).status = .running
      · simp only [hrun, ↓reduceIte] at hs ⊢
        obtain ⟨em, h1, h2, h3⟩ := ih _ _ _ _ _ hs
        have hp := fstep_path now d i o f (Or.inl hrun)
        refine ⟨sents (fstep now d i o f).out ++ em, ?_, ?_, h3⟩
        · rw [h1]; simp
        · intro ss h
          rw [List.append_assoc]
          exact hp _ (h2 ss h)
      · simp only [hrun, ↓reduceIte] at hs ⊢
        have hst : (fstep now d i o f).status = .stalled := by
          rcases hs with h | h | h
          · exact h
          · exact absurd h (fstep_ne_done now d i o f)
          · first | exact absurd h hrun | exact h.elim
        have hp := fstep_path now d i o f (Or.inr hst)
        refine ⟨sents (fstep now d i o f).out, by simp, fun ss h => hp ss h, ?_⟩
        intro h; rw [hst] at h; cases h

/-- an uninterrupted execution of an action over any number of passes, down to its completion: each pass is a run of
    micro-steps on whatever device state, oracle and time the pass finds (only the plug list is the device's own), the
    next pass goes on with the action as the previous one left it; the list is what the passes sent, in order -/
inductive Completes (R : Bool) (dp : List Plug) : Action → List Bytes → Prop where
  | last (now : Time) (n : Nat) (d : Dev) (a : Action) (o : Oracle) :
      Inv R dp d a → (mrun now n d a o []).status = .done →
      Completes R dp a (sents (mrun now n d a o []).out)
  | pass (now : Time) (n : Nat) (d : Dev) (a : Action) (o : Oracle) (ss : List Bytes) :
      Inv R dp d a → (mrun now n d a o []).status = .stalled →
      Completes R dp (mrun now n d a o []).act ss →
      Completes R dp a (sents (mrun now n d a o []).out ++ ss)

/-- what an action sends until it completes is a path through the program its stack denotes -/
theorem completes_path (R : Bool) (dp : List Plug) (a : Action) (ss : List Bytes) (h : Completes R dp a ss) :
    PathF (abs R dp a.exec) ss := by
  induction h with
  | last now n d a o hinv hdone =>
    obtain ⟨k, _, hk⟩ := refines_run R dp now n d a o [] hinv
    obtain ⟨em, h1, h2, h3⟩ := frun_path now k d (info a) o (abs R dp a.exec) [] (by rw [hk.status, hdone]; simp)
    rw [hk.out] at h1
    simp only [sents_nil, List.nil_append] at h1
    rw [h1]
    have := h2 [] (pathF_nil _ (h3 (by rw [hk.status, hdone])))
    simpa using this
  | pass now n d a o ss hinv hst _ ih =>
    obtain ⟨k, _, hk⟩ := refines_run R dp now n d a o [] hinv
    obtain ⟨em, h1, h2, _⟩ := frun_path now k d (info a) o (abs R dp a.exec) [] (by rw [hk.status, hst]; simp)
    rw [hk.out] at h1
    simp only [sents_nil, List.nil_append] at h1
    rw [h1]
    apply h2
    rw [(hk.cont (Or.inl hst)).1]
    exact ih

/-- the send texts of a flat program, in order -/
def sendTexts : List FOp → List Bytes
  | [] => []
  | .send (some t) :: r => t :: sendTexts r
  | _ :: r => sendTexts r

def guardFree : List FOp → Bool
  | [] => true
  | .guard _ _ _ :: _ => false
  | _ :: r => guardFree r

/-- without guards there is one path -/
theorem path_guardFree (p : List FOp) (ss : List Bytes) (h : Path p ss) (hg : guardFree p = true) : ss = sendTexts p := by
  induction h with
  | nil => rfl
  | send t r ss _ ih => simp only [sendTexts]; rw [ih (by simpa [guardFree] using hg)]
  | expect p r ss _ ih => simp only [sendTexts]; exact ih (by simpa [guardFree] using hg)
  | delay us r ss _ ih => simp only [sendTexts]; exact ih (by simpa [guardFree] using hg)
  | setplugstate l pm sm is t r ss _ ih => simp only [sendTexts]; exact ih (by simpa [guardFree] using hg)
  | setresult pm sm is r ss _ ih => simp only [sendTexts]; exact ih (by simpa [guardFree] using hg)
  | taken w n body r ss _ _ => simp [guardFree] at hg
  | skipped w n body r ss _ _ => simp [guardFree] at hg

/-- **C08, sends.**  A fresh action on `script` with context plugs `plugs`, run without interruption to its successful
    completion, over any number of passes, against any device behaviour: the texts handed to the device, in order, are
    a path through the unrolled script — every send text in program order, `foreach` bodies once per plug in plug
    order, `if` bodies either in full or not at all. -/
theorem sends_are_script (R : Bool) (dp : List Plug) (a : Action) (script : List Stmt) (plugs : Option (List Plug))
    (ss : List Bytes) (hfresh : a.exec = [bodyCtx script plugs]) (h : Completes R dp a ss) :
    Path (unroll R dp script plugs) ss := by
  have := completes_path R dp a ss h
  rw [hfresh, abs_fresh R dp _ _ rfl rfl] at this
  simp only [bodyCtx, List.drop_zero, cont, List.flatMap_nil, List.append_nil] at this
  unfold PathF at this
  split at this <;> simpa using this

/-- … and for a script without `ifon`/`ifoff` exactly the send texts of the unrolled script, so that the bytes sent are
    their concatenation -/
theorem sends_are_script_noif (R : Bool) (dp : List Plug) (a : Action) (script : List Stmt) (plugs : Option (List Plug))
    (ss : List Bytes) (hfresh : a.exec = [bodyCtx script plugs]) (h : Completes R dp a ss)
    (hg : guardFree (unroll R dp script plugs) = true) :
    ss = sendTexts (unroll R dp script plugs) ∧ ss.flatten = (sendTexts (unroll R dp script plugs)).flatten := by
  have := path_guardFree _ _ (sends_are_script R dp a script plugs ss hfresh h) hg
  exact ⟨this, by rw [this]⟩

mutual
/-- the script contains no `ifon` / `ifoff`, at any depth -/
def noIfS : Stmt → Bool
  | .ifon _ => false
  | .ifoff _ => false
  | .foreachplug b => noIfB b
  | .foreachnode b => noIfB b
  | _ => true
def noIfB : List Stmt → Bool
  | [] => true
  | s :: r => noIfS s && noIfB r
end

theorem guardFree_append (p q : List FOp) : guardFree (p ++ q) = (guardFree p && guardFree q) := by
  induction p with
  | nil => simp [guardFree]
  | cons x xs ih => cases x <;> simp [guardFree, ih]

theorem guardFree_flatMap {α} (l : List α) (g : α → List FOp) (h : ∀ x ∈ l, guardFree (g x) = true) :
    guardFree (l.flatMap g) = true := by
  induction l with
  | nil => simp [guardFree]
  | cons x xs ih =>
    simp only [List.flatMap_cons, guardFree_append, Bool.and_eq_true]
    exact ⟨h x (by simp), ih (fun y hy => h y (by simp [hy]))⟩

mutual
theorem guardFree_unrollStmt (R : Bool) (dp : List Plug) : ∀ (s : Stmt) (pl : Option (List Plug)), noIfS s = true →
    guardFree (unrollStmt R dp s pl) = true
  | .send _, _, _ => by simp [unrollStmt, guardFree]
  | .expect _, _, _ => by simp [unrollStmt, guardFree]
  | .delay _, _, _ => by simp [unrollStmt, guardFree]
  | .setplugstate _ _ _ _, _, _ => by simp [unrollStmt, guardFree]
  | .setresult _ _ _, _, _ => by simp [unrollStmt, guardFree]
  | .foreachplug b, pl, h => by
    simp only [unrollStmt]
    exact guardFree_flatMap _ _ (fun p _ => guardFree_unroll R dp b (some [p]) (by simpa [noIfS] using h))
  | .foreachnode b, pl, h => by
    simp only [unrollStmt]
    exact guardFree_flatMap _ _ (fun p _ => guardFree_unroll R dp b (some [p]) (by simpa [noIfS] using h))
  | .ifon _, _, h => by simp [noIfS] at h
  | .ifoff _, _, h => by simp [noIfS] at h
theorem guardFree_unroll (R : Bool) (dp : List Plug) : ∀ (l : List Stmt) (pl : Option (List Plug)), noIfB l = true →
    guardFree (unroll R dp l pl) = true
  | [], _, _ => by simp [unroll, guardFree]
  | s :: r, pl, h => by
    simp only [noIfB, Bool.and_eq_true] at h
    simp only [unroll, guardFree_append, Bool.and_eq_true]
    exact ⟨guardFree_unrollStmt R dp s pl h.1, guardFree_unroll R dp r pl h.2⟩
end

theorem mrun_acc (now : Time) : ∀ (n : Nat) (d : Dev) (a : Action) (o : Oracle) (acc : List Out),
    mrun now n d a o acc = { mrun now n d a o [] with out := acc ++ (mrun now n d a o []).out } := by
  intro n
  induction n with
  | zero => intro d a o acc; simp [mrun]
  | succ n ih =>
    intro d a o acc
    rw [mrun, mrun]
    split
    · simp
    · split
      · rw [ih _ _ _ (acc ++ _), ih _ _ _ ([] ++ _)]; simp
      · simp

theorem stackOK_mem_pos (R : Bool) (stack : List ExecCtx) (h : StackOK R stack) (c : ExecCtx) (hc : c ∈ stack) :
    c.pos < c.block.length := by
  cases stack with
  | nil => simp at hc
  | cons e rest =>
    obtain ⟨⟨_, _, hpos⟩, _, hpar⟩ := (stackOK_cons R e rest).mp h
    rcases List.mem_cons.mp hc with rfl | hc
    · exact hpos
    · exact parentOK_pos c (hpar c hc)

/-- `_rewind_action` on an action that has a stack: the outermost context, back at its first statement, flags clear -/
theorem rewind_eq (a : Action) (hne : a.exec ≠ []) :
    ∃ outer, a.exec.getLast? = some outer ∧
      rewind a = { a with exec := [{ outer with pos := 0, processing := false, plugItr := none }] } := by
  cases hl : a.exec.getLast? with
  | none => exact absurd (List.getLast?_eq_none_iff.mp hl) hne
  | some outer => exact ⟨outer, rfl, by unfold rewind; rw [hl]⟩

/-- `_rewind_action` re-establishes the invariant: the action is again a fresh action on its outer block, and denotes the
    unrolling of the whole script -/
theorem rewind_ok (R : Bool) (dp : List Plug) (a : Action) (h : StackOK R a.exec) (hne : a.exec ≠ []) :
    ∃ outer, a.exec.getLast? = some outer ∧ StackOK R (rewind a).exec ∧
      abs R dp (rewind a).exec = ⟨unroll R dp outer.block outer.plugs, false⟩ ∧
      (rewind a).errnum = a.errnum ∧ (rewind a).com = a.com := by
  obtain ⟨outer, hl, hr⟩ := rewind_eq a hne
  have hmem : outer ∈ a.exec := List.mem_of_getLast? hl
  have hc := h.ctx hmem
  have hpos := stackOK_mem_pos R a.exec h outer hmem
  rw [hr]
  refine ⟨outer, hl, ?_, ?_, rfl, rfl⟩
  · rw [stackOK_cons]
    refine ⟨⟨ctxOK_clean R _ hc.1.1 rfl rfl, hc.2, ?_⟩, by simp, by simp⟩
    simp only; omega
  · rw [abs_fresh R dp _ _ rfl rfl]; simp [cont]

/-! ### concrete values for the non-vacuity examples -/

/-- `send "x"; send "y"` inside `n` nested `foreachplug` -/
def exNest : Nat → List Stmt
  | 0 => [.send [120], .send [121]]
  | n + 1 => [.foreachplug (exNest n)]

/-- a script using every statement kind: `send "on %s\n"; expect; foreachnode { ifoff { send "%s" } ; delay }` -/
def exScript : List Stmt :=
  [.send [111, 110, 32, 37, 115, 10], .expect 3, .setplugstate none 1 2 [(.on, 4), (.off, 5)],
   .foreachnode [.ifoff [.send [37, 115]], .delay 10], .setresult 1 2 [(.success, 6)]]

def exAction (script : List Stmt) (plugs : Option (List Plug)) : Action :=
  { uid := 1, com := 1, exec := [bodyCtx script plugs], clientId := 7, telemetry := false, errnum := .success,
    timeStamp := none, delayStart := 0, arglist := 0 }

/-- a connected device with plugs `p ↦ n` and `q` (unmapped) whose queue holds one fresh action on `script` -/
def exDev (script : List Stmt) (toBuf : Bytes) : Dev :=
  { plugs := [⟨[112], some [110]⟩, ⟨[113], none⟩], scripts := fun _ => none, timeout := 1000000,
    acts := [exAction script none],
    toBuf := toBuf, fromBuf := [], xmStr := none, xmOffs := [], xmResult := false, xmUsed := false,
    args := [(0, [⟨[110], none, .off, .none⟩])], nextUid := 2, shortCircuitDelay := false, conn := 2 }

def exCS (script : List Stmt) : CS :=
  { dev := exDev script [],
    env := { now := 5, revents := 0, sockets := [], connects := [], soerrs := [], read := none, writeOk := true }, sys := [] }

theorem exScript_good : exScript ≠ [] ∧ neBlock exScript = true := by decide

theorem exInv (script : List Stmt) (h : script ≠ [] ∧ neBlock script = true) (toBuf : Bytes) :
    Inv false (exDev script toBuf).plugs (exDev script toBuf) (exAction script none) :=
  ⟨rfl, rfl, (initial_ok false [] script none h.1 h.2).1, rfl⟩

/-- the one-statement script `send "x"` completes in two passes (the second after the output buffer has drained) and has
    then sent exactly `x` -/
theorem exCompletes : Completes false (exDev [.send [120]] []).plugs (exAction [.send [120]] none) [[120]] := by
  have h1 := exInv [.send [120]] (by decide) []
  have hst : (mrun 5 5 (exDev [.send [120]] []) (exAction [.send [120]] none) ⟨[]⟩ []).status = .stalled := by decide +kernel
  obtain ⟨k, _, hk⟩ := refines_run false _ 5 5 (exDev [.send [120]] []) (exAction [.send [120]] none) ⟨[]⟩ [] h1
  have h2 := (hk.cont (Or.inl hst)).2
  have h2' : Inv false (exDev [.send [120]] []).plugs (exDev [.send [120]] [])
      (mrun 5 5 (exDev [.send [120]] []) (exAction [.send [120]] none) ⟨[]⟩ []).act :=
    ⟨h2.ranged, rfl, h2.ok, h2.err⟩
  have hdone : (mrun 9 5 (exDev [.send [120]] []) (mrun 5 5 (exDev [.send [120]] []) (exAction [.send [120]] none) ⟨[]⟩ []).act ⟨[]⟩ []).status = .done := by
    decide +kernel
  have := Completes.pass 5 5 _ _ ⟨[]⟩ _ h1 hst (Completes.last 9 5 _ _ ⟨[]⟩ h2' hdone)
  have hs : sents (mrun 5 5 (exDev [.send [120]] []) (exAction [.send [120]] none) ⟨[]⟩ []).out ++
      sents (mrun 9 5 (exDev [.send [120]] []) (mrun 5 5 (exDev [.send [120]] []) (exAction [.send [120]] none) ⟨[]⟩ []).act ⟨[]⟩ []).out
      = [[120]] := by decide +kernel
  rw [hs] at this
  exact this

/-- nesting deeper than 64: with 65 — or 200 — `foreachplug` around `send "x"; send "y"` one pass of the mirror sends `x`, as
    the reference does (the inner loop has `loopBound` turns, one more than the nesting depth: `topDepth_le`) -/
theorem depth65_mirror : sents (processActionF 200 (exCS (exNest 65)) ⟨[]⟩ [] none).2.2.1 = [[120]] := by decide +kernel

theorem depth200_mirror : sents (processActionF 400 (exCS (exNest 200)) ⟨[]⟩ [] none).2.2.1 = [[120]] := by decide +kernel

theorem depth65_reference :
    sents (frun 5 200 (exDev (exNest 65) []) (info (exAction (exNest 65) none)) ⟨[]⟩
      (abs false (exDev (exNest 65) []).plugs [bodyCtx (exNest 65) none]) []).out = [[120]] := by decide +kernel

theorem depth64_mirror : sents (processActionF 200 (exCS (exNest 64)) ⟨[]⟩ [] none).2.2.1 = [[120]] := by decide +kernel

/-- a statement that reports "not finished" leaves the stack as it was — same contexts, same blocks, same positions,
    same iterators — except possibly for the `processing` flag of the top context (a send or delay that has started) -/
theorem unfinished_shape (d : Dev) (a : Action) (o : Oracle) (now : Time) (e : ExecCtx) (rest : List ExecCtx)
    (hex : a.exec = e :: rest) (h : (processStmt d a o now).finished = false) :
    ∃ p', (processStmt d a o now).act.exec = { e with processing := p' } :: rest := by
  rcases located a with hn | ⟨e', rest', s, hex', hcur⟩
  · rw [processStmt_null d a o now hn] at h; cases h
  · cases hex.symm.trans hex'; exact (processStmt_step hex hcur).flag hex (.inr h)

end Pm.Dev2.Interp
