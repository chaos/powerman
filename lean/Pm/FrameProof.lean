import Pm.FrameConn
import Pm.FrameOracle
import Pm.PassRules
/-! For C05, daemon level (over the cut of a pass in `Pm/PassRules.lean` and of the callbacks in `Pm/Deliver.lean`): the frame of
    `applyOuts`, the single-run frame of one device's step inside the pass (`devPass_client`, `_devs`, `_store_cell`,
    `_store_nodes`, `_rest`), what the step reads, what `install` writes, and the two-run lemma for `applyOuts`. -/
namespace Pm.Daemon
open Pm Pm.Client
open Pm.Dev2 (Oracle CS Env Dev Action outCid cell)

/-! ### `applyOuts`: callbacks reach only the client they are addressed to -/

/-- everything of the world except the client list -/
def sansClients (w : W) : W := { w with clients := [] }

theorem updCli_sans (w : W) (id : Nat) (f : Cli → Cli) : sansClients (updCli w id f) = sansClients w := rfl

@[simp] theorem put_id (c : Cli) (b : Bytes) : (put c b).id = c.id := rfl

theorem recOut_other (name : Bytes) (cells : Nat → List ArgC) (g : Nat) (o : Pm.Dev2.Out) (c : Cli) (h : outCid o ≠ some g) :
    recOut name cells g o c = c := by
  cases o with
  | finish cid e => exact if_neg fun e => h (by rw [e]; rfl)
  | telemetry cid t => exact if_neg fun e => h (by rw [e]; rfl)
  | diag cid t => exact if_neg fun e => h (by rw [e]; rfl)
  | sent _ => rfl
  | rxMismatch _ _ => rfl
  | abortAssert _ => rfl

theorem applyOuts_sans (w : W) (name : Bytes) (outs : List Pm.Dev2.Out) : sansClients (applyOuts w name outs).1 = sansClients w := by
  obtain ⟨G, h, _⟩ := applyOuts_map w name outs
  rw [h]; rfl

theorem applyOuts_other (w : W) (name : Bytes) (outs : List Pm.Dev2.Out) (g : Nat) (h : ∀ x ∈ outs, outCid x ≠ some g) :
    cliRec (applyOuts w name outs).1 g = cliRec w g := by
  rw [applyOuts_rec]
  refine (map_self _ _ fun c => ?_).symm
  induction outs generalizing c with
  | nil => rfl
  | cons o r ih => rw [recRun_cons, recOut_other name _ g o c (h o (by simp)), ih (fun x hx => h x (by simp [hx]))]

theorem devStep_frame (Q : Bytes → Bool) (C L : Nat → Prop) (p : PassIn) (w : W) (o : Oracle) (nd : Bytes × Dev)
    (hQ : Pm.Dev2.QOff Q nd.2) (h0 : C 0 ∧ L 0) (hacts : Pm.Dev2.Keys (fun c al => C c ∧ L al) nd.2.acts) :
    Pm.Dev2.PAFrame Q C L { nd.2 with args := w.store } (devStep p w o nd) :=
  Pm.Dev2.postPoll_frame Q C L _ _ _ hQ h0 hacts

theorem devPass_sans (p : PassIn) (a : DevAcc) (nd : Bytes × Dev) (hd : a.dead = false) :
    sansClients (devPass p a nd).w = sansClients (afterStep a.w (devStep p a.w a.oracle nd).1) := by
  rw [devPass_alive _ _ _ hd]
  exact applyOuts_sans _ _ _

theorem devPass_client (p : PassIn) (a : DevAcc) (nd : Bytes × Dev) (g : Nat) (hg : g ≠ 0)
    (hq : ∀ x ∈ nd.2.acts, x.clientId ≠ g) : cliRec (devPass p a nd).w g = cliRec a.w g := by
  cases hd : a.dead with
  | true => rw [devPass_dead _ _ _ hd]
  | false =>
    rw [devPass_alive _ _ _ hd]
    have h := devStep_frame (fun _ => false) (fun c => c ≠ g) (fun _ => True) p a.w a.oracle nd
      (fun _ _ _ _ => rfl) ⟨fun e => hg e.symm, trivial⟩ (fun x hx => ⟨hq x hx, trivial⟩)
    rw [applyOuts_other _ _ _ g (fun x hx e => h.addr x hx g e rfl)]
    rfl

/-- C05 frame, devices: the step appends exactly one entry, under the device's own name, to the processed devices;
    nothing already there is touched (and the devices still to come are not in the accumulator at all) -/
theorem devPass_devs (p : PassIn) (a : DevAcc) (nd : Bytes × Dev) :
    ∃ d', (devPass p a nd).devs = a.devs ++ [(nd.1, d')] ∧ d'.plugs = nd.2.plugs ∧ d'.scripts = nd.2.scripts := by
  cases hd : a.dead with
  | true => rw [devPass_dead _ _ _ hd]; exact ⟨nd.2, rfl, rfl, rfl⟩
  | false =>
    rw [devPass_alive _ _ _ hd]
    have h := devStep_frame (fun _ => false) (fun _ => True) (fun _ => True) p a.w a.oracle nd
      (fun _ _ _ _ => rfl) ⟨trivial, trivial⟩ (fun x hx => ⟨trivial, trivial⟩)
    exact ⟨_, rfl, h.plugs, h.scripts⟩

theorem devPass_store_eq (p : PassIn) (a : DevAcc) (nd : Bytes × Dev) (hd : a.dead = false) :
    (devPass p a nd).w.store = (devStep p a.w a.oracle nd).1.dev.args := by
  have := congrArg W.store (devPass_sans p a nd hd)
  simpa [sansClients, afterStep] using this

theorem devPass_store_cell (p : PassIn) (a : DevAcc) (nd : Bytes × Dev) (al : Nat) (hal : al ≠ 0)
    (hq : ∀ x ∈ nd.2.acts, x.arglist ≠ al) : (devPass p a nd).w.store.lookup al = a.w.store.lookup al := by
  cases hd : a.dead with
  | true => rw [devPass_dead _ _ _ hd]
  | false =>
    rw [devPass_store_eq _ _ _ hd]
    have h := devStep_frame (fun _ => false) (fun _ => True) (fun x => x ≠ al) p a.w a.oracle nd
      (fun _ _ _ _ => rfl) ⟨trivial, fun e => hal e.symm⟩ (fun x hx => ⟨trivial, hq x hx⟩)
    exact h.store.outside al (fun hn => hn rfl)

/-- C05 frame, store (by node): in every arglist, the entries of nodes that are not wired to this device are kept — so
    a request spanning this device and others keeps the per-node results of the others -/
theorem devPass_store_nodes (p : PassIn) (a : DevAcc) (nd : Bytes × Dev) (Q : Bytes → Bool) (hQ : Pm.Dev2.QOff Q nd.2) (al : Nat) :
    (cell (devPass p a nd).w.store al).filter (fun x => Q x.node) = (cell a.w.store al).filter (fun x => Q x.node) := by
  cases hd : a.dead with
  | true => rw [devPass_dead _ _ _ hd]
  | false =>
    rw [devPass_store_eq _ _ _ hd]
    have h := devStep_frame Q (fun _ => True) (fun _ => True) p a.w a.oracle nd
      hQ ⟨trivial, trivial⟩ (fun x hx => ⟨trivial, trivial⟩)
    exact h.store.nodes al

theorem devPass_rest (p : PassIn) (a : DevAcc) (nd : Bytes × Dev) :
    { (devPass p a nd).w with clients := a.w.clients, store := a.w.store, nsock := a.w.nsock, npair := a.w.npair, nfork := a.w.nfork } = a.w ∧
    a.w.nsock ≤ (devPass p a nd).w.nsock ∧ a.w.npair ≤ (devPass p a nd).w.npair ∧ a.w.nfork ≤ (devPass p a nd).w.nfork := by
  cases hd : a.dead with
  | true => rw [devPass_dead _ _ _ hd]; exact ⟨rfl, Nat.le_refl _, Nat.le_refl _, Nat.le_refl _⟩
  | false =>
    obtain ⟨G, hG, _⟩ := applyOuts_map (afterStep a.w (devStep p a.w a.oracle nd).1) nd.1 (devStep p a.w a.oracle nd).2.2.1
    have hw : (devPass p a nd).w = { afterStep a.w (devStep p a.w a.oracle nd).1 with
        clients := (afterStep a.w (devStep p a.w a.oracle nd).1).clients.map G } := by
      rw [← hG, devPass_alive _ _ _ hd]
    generalize (devPass p a nd).w = w' at hw ⊢
    subst hw
    exact ⟨rfl, Nat.le_add_right _ _, Nat.le_add_right _ _, Nat.le_add_right _ _⟩

/-- the same descriptor events for the descriptor of `nd` -/
def SameEvents (p p' : PassIn) (nd : Bytes × Dev) : Prop :=
  ∀ fd, nd.2.fd = some fd → p.envs.find? (fun x => x.fd == fd) = p'.envs.find? (fun x => x.fd == fd)

/-- the kernel answers a device sees depend, of the pass input and the world, only on: the three counters (which number
    the descriptors and pids it may be handed), the clock, the `connect`/`SO_ERROR` answers, and the descriptor event
    addressed to its own descriptor — in particular not on the store -/
theorem devEnv_reads (p p' : PassIn) (w w' : W) (nd : Bytes × Dev)
    (h1 : w.nsock = w'.nsock) (h2 : w.npair = w'.npair) (h3 : w.nfork = w'.nfork)
    (hn : p.now = p'.now) (hc : p.con = p'.con) (he : p.soe = p'.soe) (hev : SameEvents p p' nd) :
    devEnv p w nd = devEnv p' w' nd := by
  have hpp : ∀ s : Pm.Dev2.Store, Pm.Dev2.prePoll { nd.2 with args := s } = Pm.Dev2.prePoll nd.2 := fun _ => rfl
  have hmk : mkDevEnv w { nd.2 with args := w.store } p.now p.con p.soe p.envs
      = mkDevEnv w' { nd.2 with args := w'.store } p'.now p'.con p'.soe p'.envs := by
    unfold mkDevEnv maxCalls
    dsimp only
    rw [h1, h2, h3, hn, hc, he]
    cases hfd : nd.2.fd with
    | none => rfl
    | some fd => simp only [hev fd hfd]
  unfold devEnv
  dsimp only
  rw [hpp w.store, hpp w'.store, hmk]

theorem devStep_reads (p p' : PassIn) (w w' : W) (o : Oracle) (nd : Bytes × Dev)
    (hs : w.store = w'.store) (h1 : w.nsock = w'.nsock) (h2 : w.npair = w'.npair) (h3 : w.nfork = w'.nfork)
    (hn : p.now = p'.now) (hc : p.con = p'.con) (he : p.soe = p'.soe) (hev : SameEvents p p' nd) :
    devStep p w o nd = devStep p' w' o nd := by
  unfold devStep
  rw [devEnv_reads p p' w w' nd h1 h2 h3 hn hc he hev, hs]

/-- the entry device `nd` leaves in the processed list when the accumulator is `a` -/
def stepped (p : PassIn) (a : DevAcc) (nd : Bytes × Dev) : Bytes × Dev :=
  (nd.1, if a.dead then nd.2 else (devStep p a.w a.oracle nd).1.dev)

theorem devPass_devs_eq (p : PassIn) (a : DevAcc) (nd : Bytes × Dev) : (devPass p a nd).devs = a.devs ++ [stepped p a nd] := by
  cases hd : a.dead with
  | true => rw [devPass_dead _ _ _ hd]; simp [stepped, hd]
  | false => rw [devPass_alive _ _ _ hd]; simp [stepped, hd]

/-- the accumulator when the turn of device number `i` comes -/
def accAt (p : PassIn) (a : DevAcc) (l : List (Bytes × Dev)) (i : Nat) : DevAcc := (l.take i).foldl (devPass p) a

@[simp] theorem accAt_zero (p a l) : accAt p a l 0 = a := by simp [accAt]
theorem accAt_succ_cons (p a nd r i) : accAt p a (nd :: r) (i + 1) = accAt p (devPass p a nd) r i := by simp [accAt]
theorem accAt_all (p a) (l : List (Bytes × Dev)) : accAt p a l l.length = l.foldl (devPass p) a := by simp [accAt]

theorem foldl_from {p : PassIn} {a : DevAcc} {l : List (Bytes × Dev)} {i : Nat} {nd : Bytes × Dev} (hi : l[i]? = some nd) :
    l.foldl (devPass p) a = (l.drop (i + 1)).foldl (devPass p) (devPass p (accAt p a l i) nd) := by
  obtain ⟨hlt, rfl⟩ := List.getElem?_eq_some_iff.mp hi
  unfold accAt
  rw [← List.foldl_cons, ← List.foldl_append, List.getElem_cons_drop, List.take_append_drop]

/-- the processed-device entries a list of devices leaves, each stepped from the accumulator of its own turn -/
def steppedList (p : PassIn) : DevAcc → List (Bytes × Dev) → List (Bytes × Dev)
  | _, [] => []
  | a, nd :: r => stepped p a nd :: steppedList p (devPass p a nd) r

theorem foldl_devs (p : PassIn) (l : List (Bytes × Dev)) (a : DevAcc) :
    (l.foldl (devPass p) a).devs = a.devs ++ steppedList p a l := by
  induction l generalizing a with
  | nil => simp [steppedList]
  | cons nd r ih => rw [List.foldl_cons, ih, devPass_devs_eq, List.append_assoc]; rfl

theorem steppedList_length (p : PassIn) (l : List (Bytes × Dev)) (a : DevAcc) : (steppedList p a l).length = l.length := by
  induction l generalizing a with
  | nil => rfl
  | cons nd r ih => simp [steppedList, ih]

theorem steppedList_names (p : PassIn) (l : List (Bytes × Dev)) (a : DevAcc) : (steppedList p a l).map (·.1) = l.map (·.1) := by
  induction l generalizing a with
  | nil => rfl
  | cons nd r ih => simp [steppedList, ih, stepped]

theorem steppedList_get (p : PassIn) (l : List (Bytes × Dev)) (a : DevAcc) (i : Nat) (nd : Bytes × Dev) (h : l[i]? = some nd) :
    (steppedList p a l)[i]? = some (stepped p (accAt p a l i) nd) := by
  induction l generalizing a i with
  | nil => simp at h
  | cons x r ih =>
    cases i with
    | zero => simp at h; subst h; simp [steppedList]
    | succ i => simp at h; simp [steppedList, accAt_succ_cons, ih _ _ h]

theorem foldl_devs_length (p : PassIn) (l : List (Bytes × Dev)) (a : DevAcc) :
    (l.foldl (devPass p) a).devs.length = a.devs.length + l.length := by
  rw [foldl_devs]; simp [steppedList_length]

/-! ### `install`: every device involved gets its actions in the same call -/

/-- what `install` does to one device -/
def instDev (com : Nat) (targets : List Bytes) (cid : Nat) (tele : Bool) (al : Nat) (nd : Bytes × Dev) : Bytes × Dev :=
  let r := enqueue nd.2 com targets cid tele al
  (nd.1, if r.2 > 0 && r.1.conn != 2 then { r.1 with retryCount := 0 } else r.1)

/-- `install` either refuses (the world is unchanged) or replaces *every* device by its enqueued version at once, opens
    one new arglist, and touches nothing else -/
theorem install_world (w : W) (c : Cli) (com : Com) (names : List Name) :
    (install w c com names).1 = w ∨
    ∃ args, (install w c com names).1 =
      { w with devs := w.devs.map (instDev (comIdx com) (names.map ofChars) c.id c.telemetry w.alNext),
               store := (w.alNext, args) :: w.store, alNext := w.alNext + 1 } := by
  rcases ClientPf.install_outcomes w c com names with e | ⟨_, _, e⟩ <;> rw [e]
  · exact .inl rfl
  · exact .inr ⟨_, rfl⟩

/-! ### two runs: what `_act_finish` reads of the store -/

theorem filterMap_congr' {α β} (f g : α → Option β) (l : List α) (h : ∀ x ∈ l, f x = g x) : l.filterMap f = l.filterMap g := by
  induction l with
  | nil => rfl
  | cons x r ih =>
    rw [List.filterMap_cons, List.filterMap_cons, h x (by simp), ih (fun y hy => h y (by simp [hy]))]

/-- the targets of a command are `Q`-nodes -/
def NamesQ (Q : Bytes → Bool) (names : List Name) : Prop := ∀ nb : Bytes, toChars nb ∈ names → Q nb = true

theorem entriesOf_agree (Q : Bytes → Bool) (k : CmdC) (s s' : Pm.Dev2.Store) (hS : Pm.Dev2.SAgree Q s s') (hN : NamesQ Q k.names) :
    Reply.entriesOf { k with args := (cell s k.al).map argC } = Reply.entriesOf { k with args := (cell s' k.al).map argC } := by
  unfold Reply.entriesOf
  dsimp only
  apply filterMap_congr'
  intro n hn
  rw [List.find?_map, List.find?_map]
  congr 1
  have hi : ∀ x : Pm.Dev2.Arg, ((fun (y : ArgC) => y.node == n) ∘ argC) x = true → Q x.node = true := by
    intro x hx
    have : toChars x.node = n := by simpa [argC] using hx
    exact hN x.node (by rw [this]; exact hn)
  rw [← Pm.Dev2.find?_filter_of_imp _ (fun g => Q g.node) hi, ← Pm.Dev2.find?_filter_of_imp _ (fun g => Q g.node) hi (cell s' k.al), hS k.al]

/-- client `g`'s command, if it has one, targets `Q`-nodes only -/
def GOk (Q : Bytes → Bool) (w : W) (g : Nat) : Prop := ∀ c, cliRec w g = some c → ∀ k, c.cmd = some k → NamesQ Q k.names

/-- two runs of `applyOuts` with the same callbacks, on worlds that agree on client `g`'s record and on the store entries
    of `Q`-nodes (where `g`'s targets lie): client `g`'s record is the same afterwards.  (The record goes through `recRun`, which
    reads of the store only the reply entries of `g`'s command: those of `Q`-nodes.) -/
theorem applyOuts_rel (Q : Bytes → Bool) (w w' : W) (name : Bytes) (outs : List Pm.Dev2.Out) (g : Nat)
    (hc : cliRec w g = cliRec w' g) (hS : Pm.Dev2.SAgree Q w.store w'.store) (hG : GOk Q w g) :
    cliRec (applyOuts w name outs).1 g = cliRec (applyOuts w' name outs).1 g ∧ GOk Q (applyOuts w name outs).1 g := by
  unfold GOk
  rw [applyOuts_rec, applyOuts_rec, ← hc]
  cases hq : cliRec w g with
  | none => exact ⟨Eq.refl none, fun _ h => nomatch h⟩
  | some c =>
    obtain ⟨h1, h2⟩ := recRun_cmd name (cellsOf w) g outs c
    refine ⟨congrArg some (h2 (cellsOf w') fun k hk => (entriesOf_agree Q k w.store w'.store hS (hG c hq k hk)).symm).symm,
      fun c' hc' k' hk' => ?_⟩
    obtain ⟨k, g1, _, g3, _⟩ := h1 k' (Option.some.inj hc' ▸ hk')
    rw [g3]; exact hG c hq k g1

end Pm.Daemon
