import Pm.FrameProof
import Pm.ClientStream
/-! Two runs of one pass that differ in one device `B` (position `j`).  The device phase: the relation between the two
    accumulators that every step preserves (`AccCore`, `AccRel`), the hypotheses on the two runs (`FoldHyps`) and the resulting
    non-interference theorem (`fold_noninterference`).  The other devices need only be the same up to `strip`: a device enters its
    step with the shared store in place of its own stale copy.  Then one whole pass (`PassRel`, `pass_rel_core`).  The last section
    is about one run: the poll timeout a pass ends with is the minimum of the devices' wake-up times (`foldl_tmo_le`; used for the
    timer properties as well). -/
namespace Pm.Daemon
open Pm Pm.Client
open Pm.Dev2 (Oracle CS Env Dev Action outCid cell SAgree QOn QOff ActsOK NoMis withArgs)

/-- a processed-device entry without its (stale) copy of the store -/
def strip (nd : Bytes × Dev) : Bytes × Dev := (nd.1, withArgs nd.2 [])

theorem strip_fst {nd nd' : Bytes × Dev} (h : strip nd = strip nd') : nd.1 = nd'.1 := by
  have := congrArg Prod.fst h; exact this

theorem strip_withArgs {nd nd' : Bytes × Dev} (h : strip nd = strip nd') (s : Pm.Dev2.Store) :
    ({ nd.2 with args := s } : Dev) = { nd'.2 with args := s } := by
  have h2 : withArgs nd.2 [] = withArgs nd'.2 [] := congrArg Prod.snd h
  have := congrArg (fun d => withArgs d s) h2
  exact this

/-- a device enters its step only through `strip` -/
theorem devStep_strip (p : PassIn) (w : W) (o : Oracle) {nd nd' : Bytes × Dev} (h : strip nd = strip nd') :
    devStep p w o nd = devStep p w o nd' := by
  have e := strip_withArgs h w.store
  unfold devStep devEnv
  dsimp only
  rw [e]

/-- the two lists hold the same devices, stale store copies apart -/
abbrev SameDevs (l l' : List (Bytes × Dev)) : Prop := l.map strip = l'.map strip

/-- what the device's step hands back besides its own state: the oracle remainder, the callbacks, the timeout -/
def stepOut (p : PassIn) (a : DevAcc) (nd : Bytes × Dev) : Oracle × List Pm.Dev2.Out × Option Nat := (devStep p a.w a.oracle nd).2

/-- the two pass inputs agree on what is not addressed to a particular descriptor -/
def SameClock (p p' : PassIn) : Prop := p.now = p'.now ∧ p.con = p'.con ∧ p.soe = p'.soe

theorem SameClock.now {p p' : PassIn} (h : SameClock p p') : p.now = p'.now := h.1
theorem SameClock.con {p p' : PassIn} (h : SameClock p p') : p.con = p'.con := h.2.1
theorem SameClock.soe {p p' : PassIn} (h : SameClock p p') : p.soe = p'.soe := h.2.2

/-- the part of the relation between the accumulators of the two runs that the differing device must keep: client `g`
    has the same record (and targets `Q`-nodes only), the stores agree on the entries of `Q`-nodes, and the devices
    processed so far are the same except at position `j` (and except for their stale store copies: `len` and `devs` together are
    `DevsRel j a.devs a'.devs`, `AccCore.devsRel`) -/
structure AccCore (Q : Bytes → Bool) (g j : Nat) (a a' : DevAcc) : Prop where
  cli : cliRec a.w g = cliRec a'.w g
  gok : GOk Q a.w g
  store : SAgree Q a.w.store a'.w.store
  len : a.devs.length = a'.devs.length
  devs : ∀ i, i ≠ j → (a.devs[i]?).map strip = (a'.devs[i]?).map strip

/-- the full relation: moreover the descriptor/pid counters and the oracle are the same -/
structure AccRel (Q : Bytes → Bool) (g j : Nat) (a a' : DevAcc) : Prop extends AccCore Q g j a a' where
  nsock : a.w.nsock = a'.w.nsock
  npair : a.w.npair = a'.w.npair
  nfork : a.w.nfork = a'.w.nfork
  oracle : a.oracle = a'.oracle

theorem devStep_rel (Q : Bytes → Bool) (p p' : PassIn) (a a' : DevAcc) (nd : Bytes × Dev) {g j : Nat}
    (hr : AccRel Q g j a a') (hp : SameClock p p') (hev : SameEvents p p' nd) (hQ : QOn Q nd.2) (hA : ActsOK Q nd.2.acts) :
    ∃ t', devStep p' a'.w a'.oracle nd = ((devStep p a.w a.oracle nd).1.withArgs t', (devStep p a.w a.oracle nd).2) ∧
      SAgree Q (devStep p a.w a.oracle nd).1.dev.args t' := by
  unfold devStep
  rw [← devEnv_reads p p' a.w a'.w nd hr.nsock hr.npair hr.nfork hp.now hp.con hp.soe hev, ← hr.oracle]
  exact Pm.Dev2.postPoll_rel Q { nd.2 with args := a.w.store } (devEnv p a.w nd) a.oracle a'.w.store hr.store hQ hA

theorem devs_snoc {l l' : List (Bytes × Dev)} {j : Nat} (x x' : Bytes × Dev) (hlen : l.length = l'.length)
    (h : ∀ i, i ≠ j → (l[i]?).map strip = (l'[i]?).map strip) (hx : l.length ≠ j → strip x = strip x') :
    ∀ i, i ≠ j → ((l ++ [x])[i]?).map strip = ((l' ++ [x'])[i]?).map strip := by
  intro i hi
  rcases Nat.lt_trichotomy i l.length with h1 | h1 | h1
  · rw [List.getElem?_append_left h1, List.getElem?_append_left (hlen ▸ h1)]
    exact h i hi
  · subst h1
    rw [List.getElem?_concat_length, hlen, List.getElem?_concat_length, Option.map_some, Option.map_some, hx hi]
  · have h2 : (l ++ [x]).length ≤ i := by rw [List.length_append]; exact h1
    have h2' : (l' ++ [x']).length ≤ i := by rw [List.length_append, ← hlen]; exact h1
    rw [List.getElem?_eq_none h2, List.getElem?_eq_none h2']

/-- a healthy device, stepped in both runs from entries that differ in their stale store copy at most: the relation is kept, and
    what the step hands back (oracle remainder, callbacks, timeout) is the same -/
theorem devPass_rel (Q : Bytes → Bool) (p p' : PassIn) (a a' : DevAcc) (nd nd' : Bytes × Dev) {g j : Nat} (hs : strip nd = strip nd')
    (hr : AccRel Q g j a a') (hd : a.dead = false) (hd' : a'.dead = false)
    (hp : SameClock p p') (hev : SameEvents p p' nd) (hQ : QOn Q nd.2) (hA : ActsOK Q nd.2.acts) :
    AccRel Q g j (devPass p a nd) (devPass p' a' nd') ∧ stepOut p a nd = stepOut p' a' nd' := by
  obtain ⟨t', h1, h2⟩ := devStep_rel Q p p' a a' nd hr hp hev hQ hA
  rw [devStep_strip p' a'.w a'.oracle hs] at h1
  have hso : stepOut p a nd = stepOut p' a' nd' := by unfold stepOut; rw [h1]
  refine ⟨?_, hso⟩
  rw [devPass_alive _ _ _ hd, devPass_alive _ _ _ hd', h1]
  generalize devStep p a.w a.oracle nd = r at *
  dsimp only
  have hw1 : cliRec (afterStep a.w r.1) g = cliRec (afterStep a'.w (r.1.withArgs t')) g := hr.cli
  have hw2 : SAgree Q (afterStep a.w r.1).store (afterStep a'.w (r.1.withArgs t')).store := h2
  have hw3 : GOk Q (afterStep a.w r.1) g := hr.gok
  rw [← strip_fst hs]
  obtain ⟨hc, hg⟩ := applyOuts_rel Q _ _ nd.1 r.2.2.1 g hw1 hw2 hw3
  have hs1 := applyOuts_sans (afterStep a.w r.1) nd.1 r.2.2.1
  have hs' := applyOuts_sans (afterStep a'.w (r.1.withArgs t')) nd.1 r.2.2.1
  generalize applyOuts (afterStep a.w r.1) nd.1 r.2.2.1 = x at *
  generalize applyOuts (afterStep a'.w (r.1.withArgs t')) nd.1 r.2.2.1 = x' at *
  have e : x.1.store = r.1.dev.args := congrArg W.store hs1
  have e' : x'.1.store = t' := congrArg W.store hs'
  have n : x.1.nsock = a.w.nsock + countSock r.1.sys := congrArg W.nsock hs1
  have n' : x'.1.nsock = a'.w.nsock + countSock r.1.sys := congrArg W.nsock hs'
  have m : x.1.npair = a.w.npair + countPair r.1.sys := congrArg W.npair hs1
  have m' : x'.1.npair = a'.w.npair + countPair r.1.sys := congrArg W.npair hs'
  have k : x.1.nfork = a.w.nfork + countFork r.1.sys := congrArg W.nfork hs1
  have k' : x'.1.nfork = a'.w.nfork + countFork r.1.sys := congrArg W.nfork hs'
  exact {
    cli := hc
    gok := hg
    store := by dsimp only; rw [e, e']; exact h2
    nsock := by dsimp only; rw [n, n', hr.nsock]
    npair := by dsimp only; rw [m, m', hr.npair]
    nfork := by dsimp only; rw [k, k', hr.nfork]
    oracle := rfl
    len := by simp [hr.len]
    devs := devs_snoc _ _ hr.len hr.devs (fun _ => rfl) }

/-- the differing device `B` (position `j`), stepped in each run from its own state: `AccCore` is kept provided client `g` has
    nothing queued on it and `Q` contains none of its nodes -/
theorem devPass_relB (Q : Bytes → Bool) (p p' : PassIn) (a a' : DevAcc) (nd nd' : Bytes × Dev) {g j : Nat}
    (hr : AccCore Q g j a a') (hj : a.devs.length = j) (hg : g ≠ 0)
    (hq : ∀ x ∈ nd.2.acts, x.clientId ≠ g) (hq' : ∀ x ∈ nd'.2.acts, x.clientId ≠ g)
    (hQ : QOff Q nd.2) (hQ' : QOff Q nd'.2) : AccCore Q g j (devPass p a nd) (devPass p' a' nd') where
  cli := by rw [devPass_client p a nd g hg hq, devPass_client p' a' nd' g hg hq']; exact hr.cli
  gok := by
    intro c hc k hk
    rw [devPass_client p a nd g hg hq] at hc
    exact hr.gok c hc k hk
  store := by
    intro al
    rw [devPass_store_nodes p a nd Q hQ al, devPass_store_nodes p' a' nd' Q hQ' al]
    exact hr.store al
  len := by rw [devPass_devs_eq, devPass_devs_eq]; simp [hr.len]
  devs := by
    rw [devPass_devs_eq, devPass_devs_eq]
    exact devs_snoc _ _ hr.len hr.devs (fun h => absurd hj h)

/-- a stretch of devices that are the same in both runs -/
theorem foldl_rel (Q : Bytes → Bool) (p p' : PassIn) {l l' : List (Bytes × Dev)} (hs : SameDevs l l') (a a' : DevAcc) {g j : Nat}
    (hr : AccRel Q g j a a') (hp : SameClock p p')
    (hd : (l.foldl (devPass p) a).dead = false) (hd' : (l'.foldl (devPass p') a').dead = false)
    (hl : ∀ nd ∈ l, SameEvents p p' nd ∧ QOn Q nd.2 ∧ ActsOK Q nd.2.acts) :
    AccRel Q g j (l.foldl (devPass p) a) (l'.foldl (devPass p') a') ∧
    ∀ i nd nd', l[i]? = some nd → l'[i]? = some nd' → stepOut p (accAt p a l i) nd = stepOut p' (accAt p' a' l' i) nd' := by
  induction l generalizing l' a a' with
  | nil => cases l' with | nil => exact ⟨hr, fun i nd nd' h => by simp at h⟩ | cons _ _ => simp [SameDevs] at hs
  | cons x r ih =>
    cases l' with | nil => simp [SameDevs] at hs | cons x' r' => ?_
    simp only [SameDevs, List.map_cons, List.cons.injEq] at hs
    obtain ⟨hx, hs⟩ := hs
    have hlx := hl x (by simp)
    obtain ⟨h1, h2⟩ := devPass_rel Q p p' a a' x x' hx hr (alive_of_foldl p (x :: r) a hd) (alive_of_foldl p' (x' :: r') a' hd')
      hp hlx.1 hlx.2.1 hlx.2.2
    obtain ⟨h3, h4⟩ := ih hs _ _ h1 hd hd' (fun nd hnd => hl nd (by simp [hnd]))
    refine ⟨h3, ?_⟩
    intro i nd nd' hi hi'
    cases i with
    | zero => simp at hi hi'; subst hi hi'; simpa using h2
    | succ i => simp at hi hi'; rw [accAt_succ_cons, accAt_succ_cons]; exact h4 i nd nd' hi hi'

/-! ### further oracle answers behind the ones a stretch of devices consumes -/

/-- the accumulator with the regex answers `o` in place of its own -/
def withOr (a : DevAcc) (o : Oracle) : DevAcc := { a with oracle := o }

@[simp] theorem withOr_withOr (a : DevAcc) (o o' : Oracle) : withOr (withOr a o) o' = withOr a o' := rfl
@[simp] theorem withOr_oracle (a : DevAcc) (o : Oracle) : (withOr a o).oracle = o := rfl
theorem withOr_self (a : DevAcc) : withOr a a.oracle = a := rfl

theorem devStep_ext (p : PassIn) (a : DevAcc) (nd : Bytes × Dev) (r : List Pm.Dev2.RxCall) (h : NoMis (stepOut p a nd).2.1) :
    devStep p a.w (Pm.Dev2.ext a.oracle r) nd = Pm.Dev2.PA.ext (devStep p a.w a.oracle nd) r :=
  Pm.Dev2.postPoll_ext { nd.2 with args := a.w.store } (devEnv p a.w nd) a.oracle r h

theorem stepOut_ext (p : PassIn) (a : DevAcc) (nd : Bytes × Dev) (r : List Pm.Dev2.RxCall) (h : NoMis (stepOut p a nd).2.1) :
    stepOut p (withOr a (Pm.Dev2.ext a.oracle r)) nd = (Pm.Dev2.ext (stepOut p a nd).1 r, (stepOut p a nd).2) :=
  congrArg Prod.snd (devStep_ext p a nd r h)

theorem devPass_ext (p : PassIn) (a : DevAcc) (nd : Bytes × Dev) (r : List Pm.Dev2.RxCall)
    (h : a.dead = false → NoMis (stepOut p a nd).2.1) :
    devPass p (withOr a (Pm.Dev2.ext a.oracle r)) nd = withOr (devPass p a nd) (Pm.Dev2.ext (devPass p a nd).oracle r) := by
  cases hd : a.dead with
  | true => rw [devPass_dead p a nd hd, devPass_dead p (withOr a (Pm.Dev2.ext a.oracle r)) nd hd]; rfl
  | false =>
    have hd2 : (withOr a (Pm.Dev2.ext a.oracle r)).dead = false := hd
    rw [devPass_alive _ _ _ hd, devPass_alive _ _ _ hd2]
    rw [show devStep p (withOr a (Pm.Dev2.ext a.oracle r)).w (withOr a (Pm.Dev2.ext a.oracle r)).oracle nd = _ from
      devStep_ext p a nd r (h hd)]
    rfl

theorem accAt_ext (p : PassIn) (l : List (Bytes × Dev)) (a : DevAcc) (r : List Pm.Dev2.RxCall) (i : Nat)
    (h : ∀ k nd, l[k]? = some nd → (accAt p a l k).dead = false → NoMis (stepOut p (accAt p a l k) nd).2.1) :
    accAt p (withOr a (Pm.Dev2.ext a.oracle r)) l i = withOr (accAt p a l i) (Pm.Dev2.ext (accAt p a l i).oracle r) := by
  induction l generalizing a i with
  | nil => simp [accAt]
  | cons x t ih =>
    cases i with
    | zero => simp
    | succ i =>
      rw [accAt_succ_cons, accAt_succ_cons, devPass_ext p a x r (by simpa using h 0 x rfl)]
      exact ih _ i (fun k nd hk => by have := h (k + 1) nd (by simpa using hk); rwa [accAt_succ_cons] at this)

theorem foldl_ext (p : PassIn) (l : List (Bytes × Dev)) (a : DevAcc) (r : List Pm.Dev2.RxCall)
    (h : ∀ i nd, l[i]? = some nd → (accAt p a l i).dead = false → NoMis (stepOut p (accAt p a l i) nd).2.1) :
    l.foldl (devPass p) (withOr a (Pm.Dev2.ext a.oracle r)) =
      withOr (l.foldl (devPass p) a) (Pm.Dev2.ext (l.foldl (devPass p) a).oracle r) := by
  rw [← accAt_all, ← accAt_all]
  exact accAt_ext p l a r _ h

/-- the answers `xs` are exactly what the devices `l` ask the regex oracle when started from `a`: they are never out of
    step with it and use it up -/
def ExactOn (p : PassIn) (a : DevAcc) (l : List (Bytes × Dev)) (xs : List Pm.Dev2.RxCall) : Prop :=
  (∀ i nd, l[i]? = some nd → NoMis (stepOut p (accAt p (withOr a ⟨xs⟩) l i) nd).2.1) ∧
  (l.foldl (devPass p) (withOr a ⟨xs⟩)).oracle.calls = []

theorem ExactOn.inStep {p : PassIn} {a : DevAcc} {l : List (Bytes × Dev)} {xs : List Pm.Dev2.RxCall} (h : ExactOn p a l xs) (i : Nat)
    (nd : Bytes × Dev) (hi : l[i]? = some nd) : NoMis (stepOut p (accAt p (withOr a ⟨xs⟩) l i) nd).2.1 := h.1 i nd hi
theorem ExactOn.usedUp {p : PassIn} {a : DevAcc} {l : List (Bytes × Dev)} {xs : List Pm.Dev2.RxCall} (h : ExactOn p a l xs) :
    (l.foldl (devPass p) (withOr a ⟨xs⟩)).oracle.calls = [] := h.2

theorem AccCore.acc0 {Q : Bytes → Bool} {g j : Nat} {w0 w0' : W} (hcli : cliRec w0 g = cliRec w0' g) (hgok : GOk Q w0 g)
    (hst : SAgree Q w0.store w0'.store) : AccCore Q g j (acc0 w0) (acc0 w0') := ⟨hcli, hgok, hst, rfl, fun _ _ => rfl⟩

theorem AccCore.withOr {Q : Bytes → Bool} {g j : Nat} {a a' : DevAcc} (h : AccCore Q g j a a') (o o' : Oracle) :
    AccCore Q g j (withOr a o) (withOr a' o') := ⟨h.cli, h.gok, h.store, h.len, h.devs⟩

theorem withOr_split (a : DevAcc) (xs r : List Pm.Dev2.RxCall) (h : a.oracle.calls = xs ++ r) :
    a = withOr (withOr a ⟨xs⟩) (Pm.Dev2.ext (withOr a ⟨xs⟩).oracle r) := by
  obtain ⟨w, y, m, t, ⟨calls⟩, d, dd⟩ := a
  simp only at h
  subst h
  rfl

theorem ext_nil (o : Oracle) (r : List Pm.Dev2.RxCall) (h : o.calls = []) : Pm.Dev2.ext o r = ⟨r⟩ := by
  unfold Pm.Dev2.ext; rw [h]; rfl

theorem foldl_exact (p : PassIn) (l : List (Bytes × Dev)) (a : DevAcc) (xs r : List Pm.Dev2.RxCall)
    (hx : a.oracle.calls = xs ++ r) (hE : ExactOn p a l xs) :
    l.foldl (devPass p) a = withOr (l.foldl (devPass p) (withOr a ⟨xs⟩)) ⟨r⟩ := by
  have h1 := foldl_ext p l (withOr a ⟨xs⟩) r (fun i nd hi _ => hE.inStep i nd hi)
  rw [← withOr_split a xs r hx] at h1
  rw [h1, ext_nil _ _ hE.usedUp]

/-- What is assumed of two runs of the device phase, over `pre ++ B :: post` from the accumulator `a0` and over
    `pre' ++ B' :: post'` from `a0'`.  `B` and `B'` are arbitrary devices; nothing is assumed of their state. -/
structure FoldHyps (Q : Bytes → Bool) (g : Nat) (p p' : PassIn) (pre pre' post post' : List (Bytes × Dev)) (B B' : Bytes × Dev)
    (a0 a0' : DevAcc) (xp xB xB' xq : List Pm.Dev2.RxCall) : Prop where
  sameBefore : SameDevs pre pre'
  sameBehind : SameDevs post post'
  clock : SameClock p p'
  core : AccCore Q g pre.length a0 a0'
  fresh : a0.devs = []
  nsock : a0.w.nsock = a0'.w.nsock
  npair : a0.w.npair = a0'.w.npair
  nfork : a0.w.nfork = a0'.w.nfork
  /-- the recorded regex answers: `xp` for the devices before `B`, then `B`'s own, then the common rest -/
  calls : a0.oracle.calls = xp ++ (xB ++ xq)
  calls' : a0'.oracle.calls = xp ++ (xB' ++ xq)
  others : ∀ nd ∈ pre ++ post, SameEvents p p' nd ∧ QOn Q nd.2 ∧ ActsOK Q nd.2.acts
  g0 : g ≠ 0
  noG : ∀ x ∈ B.2.acts, x.clientId ≠ g
  noG' : ∀ x ∈ B'.2.acts, x.clientId ≠ g
  off : QOff Q B.2
  off' : QOff Q B'.2
  /-- no modelled `assert` in either run -/
  alive : ((pre ++ B :: post).foldl (devPass p) a0).dead = false
  alive' : ((pre' ++ B' :: post').foldl (devPass p') a0').dead = false
  E1 : ExactOn p a0 pre xp
  E1' : ExactOn p' a0' pre' xp
  E2 : ExactOn p (pre.foldl (devPass p) a0) [B] xB
  E2' : ExactOn p' (pre'.foldl (devPass p') a0') [B'] xB'
  /-- `B` and `B'` are handed the same number of new descriptors and pids -/
  c1 : (devPass p (pre.foldl (devPass p) a0) B).w.nsock = (devPass p' (pre'.foldl (devPass p') a0') B').w.nsock
  c2 : (devPass p (pre.foldl (devPass p) a0) B).w.npair = (devPass p' (pre'.foldl (devPass p') a0') B').w.npair
  c3 : (devPass p (pre.foldl (devPass p) a0) B).w.nfork = (devPass p' (pre'.foldl (devPass p') a0') B').w.nfork

section
variable {Q : Bytes → Bool} {g : Nat} {p p' : PassIn} {pre pre' post post' : List (Bytes × Dev)} {B B' : Bytes × Dev}
  {a0 a0' : DevAcc} {xp xB xB' xq : List Pm.Dev2.RxCall}

/-- The two runs up to and including the differing device: the accumulators are related again once both runs have passed it,
    and every device before it fires the same callbacks and registers the same timeout in both runs.  Each run is cut at the
    oracle answers its stretch consumes (`foldl_exact`), so that `foldl_rel` applies to `pre` with the common answers `xp`; `B`
    and `B'` use up `xB` and `xB'` and leave the same remainder `xq`. -/
theorem fold_upto (h : FoldHyps Q g p p' pre pre' post post' B B' a0 a0' xp xB xB' xq) :
    AccRel Q g pre.length (devPass p (pre.foldl (devPass p) a0) B) (devPass p' (pre'.foldl (devPass p') a0') B') ∧
    ∀ i nd nd', pre[i]? = some nd → pre'[i]? = some nd' →
      (stepOut p (accAt p a0 pre i) nd).2 = (stepOut p' (accAt p' a0' pre' i) nd').2 := by
  have hd := h.alive
  have hd' := h.alive'
  rw [List.foldl_append, List.foldl_cons] at hd hd'
  replace hd := alive_of_foldl p (B :: post) _ hd
  replace hd' := alive_of_foldl p' (B' :: post') _ hd'
  have e1 := foldl_exact p pre a0 xp (xB ++ xq) h.calls h.E1
  have e1' := foldl_exact p' pre' a0' xp (xB' ++ xq) h.calls' h.E1'
  have r0 : AccRel Q g pre.length (withOr a0 ⟨xp⟩) (withOr a0' ⟨xp⟩) :=
    { toAccCore := h.core.withOr _ _, nsock := h.nsock, npair := h.npair, nfork := h.nfork, oracle := rfl }
  have hlen0 : (withOr a0 ⟨xp⟩).devs.length = 0 := congrArg List.length h.fresh
  have E2 := h.E2
  have E2' := h.E2'
  have hc1 := h.c1
  have hc2 := h.c2
  have hc3 := h.c3
  rw [e1] at hd E2 hc1 hc2 hc3 ⊢
  rw [e1'] at hd' E2' hc1 hc2 hc3 ⊢
  obtain ⟨r1, s1⟩ := foldl_rel Q p p' h.sameBefore _ _ r0 h.clock hd hd' (fun nd hnd => h.others nd (List.mem_append_left _ hnd))
  constructor
  · have hXlen : (pre.foldl (devPass p) (withOr a0 ⟨xp⟩)).devs.length = pre.length := by
      rw [foldl_devs_length, hlen0, Nat.zero_add]
    generalize pre.foldl (devPass p) (withOr a0 ⟨xp⟩) = X at *
    generalize pre'.foldl (devPass p') (withOr a0' ⟨xp⟩) = X' at *
    have e2 : devPass p (withOr X ⟨xB ++ xq⟩) B = withOr (devPass p (withOr X ⟨xB⟩) B) ⟨xq⟩ := by
      simpa only [List.foldl_cons, List.foldl_nil, withOr_withOr] using foldl_exact p [B] (withOr X ⟨xB ++ xq⟩) xB xq rfl E2
    have e2' : devPass p' (withOr X' ⟨xB' ++ xq⟩) B' = withOr (devPass p' (withOr X' ⟨xB'⟩) B') ⟨xq⟩ := by
      simpa only [List.foldl_cons, List.foldl_nil, withOr_withOr] using foldl_exact p' [B'] (withOr X' ⟨xB' ++ xq⟩) xB' xq rfl E2'
    exact { toAccCore := devPass_relB Q p p' _ _ B B' (r1.toAccCore.withOr _ _) hXlen h.g0 h.noG h.noG' h.off h.off'
            nsock := hc1, npair := hc2, nfork := hc3, oracle := by rw [e2, e2', withOr_oracle, withOr_oracle] }
  · intro i nd nd' hi hi'
    have a1 := accAt_ext p pre (withOr a0 ⟨xp⟩) (xB ++ xq) i (fun k x hk _ => h.E1.inStep k x hk)
    have a1' := accAt_ext p' pre' (withOr a0' ⟨xp⟩) (xB' ++ xq) i (fun k x hk _ => h.E1'.inStep k x hk)
    rw [← withOr_split a0 xp (xB ++ xq) h.calls] at a1
    rw [← withOr_split a0' xp (xB' ++ xq) h.calls'] at a1'
    rw [a1, a1', stepOut_ext p _ nd _ (h.E1.inStep i nd hi), stepOut_ext p' _ nd' _ (h.E1'.inStep i nd' hi')]
    exact congrArg (fun x => x.2) (s1 i nd nd' hi hi')

theorem fold_behind (h : FoldHyps Q g p p' pre pre' post post' B B' a0 a0' xp xB xB' xq) :
    AccRel Q g pre.length ((pre ++ B :: post).foldl (devPass p) a0) ((pre' ++ B' :: post').foldl (devPass p') a0') ∧
    ∀ i nd nd', post[i]? = some nd → post'[i]? = some nd' →
      stepOut p (accAt p (devPass p (pre.foldl (devPass p) a0) B) post i) nd =
      stepOut p' (accAt p' (devPass p' (pre'.foldl (devPass p') a0') B') post' i) nd' := by
  have hd := h.alive
  have hd' := h.alive'
  rw [List.foldl_append, List.foldl_cons] at hd hd' ⊢
  rw [List.foldl_append, List.foldl_cons]
  exact foldl_rel Q p p' h.sameBehind _ _ (fold_upto h).1 h.clock hd hd' (fun nd hnd => h.others nd (List.mem_append_right _ hnd))

/-- **Non-interference of the device phase**: after both runs the accumulators are related -/
theorem fold_noninterference (h : FoldHyps Q g p p' pre pre' post post' B B' a0 a0' xp xB xB' xq) :
    AccRel Q g pre.length ((pre ++ B :: post).foldl (devPass p) a0) ((pre' ++ B' :: post').foldl (devPass p') a0') :=
  (fold_behind h).1

/-- every device before `B` fires the same callbacks and registers the same timeout in both runs, and every device after `B`
    moreover leaves the same oracle remainder -/
theorem fold_noninterference_steps (h : FoldHyps Q g p p' pre pre' post post' B B' a0 a0' xp xB xB' xq) :
    (∀ i nd nd', pre[i]? = some nd → pre'[i]? = some nd' →
      (stepOut p (accAt p a0 pre i) nd).2 = (stepOut p' (accAt p' a0' pre' i) nd').2) ∧
    (∀ i nd nd', post[i]? = some nd → post'[i]? = some nd' →
      stepOut p (accAt p (devPass p (pre.foldl (devPass p) a0) B) post i) nd =
      stepOut p' (accAt p' (devPass p' (pre'.foldl (devPass p') a0') B') post' i) nd') :=
  ⟨(fold_upto h).2, (fold_behind h).2⟩

end

/-! ### one whole pass -/

/-- two device lists that differ, stale store copies apart, at most at position `j` -/
def DevsRel (j : Nat) (l l' : List (Bytes × Dev)) : Prop :=
  l.length = l'.length ∧ ∀ i, i ≠ j → (l[i]?).map strip = (l'[i]?).map strip

theorem AccCore.devsRel {Q : Bytes → Bool} {g j : Nat} {a a' : DevAcc} (h : AccCore Q g j a a') : DevsRel j a.devs a'.devs :=
  ⟨h.len, h.devs⟩

/-- the relation between the two worlds, between passes -/
structure PassRel (Q : Bytes → Bool) (g j : Nat) (w w' : W) : Prop where
  cli : cliRec w g = cliRec w' g
  gok : GOk Q w g
  store : SAgree Q w.store w'.store
  nsock : w.nsock = w'.nsock
  npair : w.npair = w'.npair
  nfork : w.nfork = w'.nfork
  devs : DevsRel j w.devs w'.devs
  ex : w.exited = false
  ex' : w'.exited = false

theorem daemonPass_devs (w : W) (p : PassIn) (hex : (cliPostPoll w p.acc p.envs).exited = false) :
    (daemonPass w p).1.devs = steppedList p (acc0 (cliPostPoll w p.acc p.envs)) (cliPostPoll w p.acc p.envs).devs := by
  rw [daemonPass_world, devPhase_run p _ hex]
  show ((cliPostPoll w p.acc p.envs).devs.foldl (devPass p) (acc0 (cliPostPoll w p.acc p.envs))).devs = _
  rw [foldl_devs]
  exact List.nil_append _

/-- the device phase of one pass re-establishes the relation, whatever worlds `w0`, `w0'` the client phase leaves, as long as
    they agree on what `PassRel` records; the two device lists are split explicitly at the differing device -/
theorem pass_rel_core {Q : Bytes → Bool} {g : Nat} {w w' : W} {p p' : PassIn} {xp xB xB' xq : List Pm.Dev2.RxCall}
    {w0 w0' : W} {pre pre' post post' : List (Bytes × Dev)} {B B' : Bytes × Dev}
    (hw0 : cliPostPoll w p.acc p.envs = w0) (hw0' : cliPostPoll w' p'.acc p'.envs = w0')
    (hex : w0.exited = false) (hex' : w0'.exited = false)
    (hs : w0.devs = pre ++ B :: post) (hs' : w0'.devs = pre' ++ B' :: post')
    (h : FoldHyps Q g p p' pre pre' post post' B B' (acc0 w0) (acc0 w0') xp xB xB' xq) :
    PassRel Q g pre.length (daemonPass w p).1 (daemonPass w' p').1 := by
  have hrel := fold_noninterference h
  have ex : (daemonPass w p).1.exited = false := by rw [ClientPf.daemonPass_exited, hw0]; exact hex
  have ex' : (daemonPass w' p').1.exited = false := by rw [ClientPf.daemonPass_exited, hw0']; exact hex'
  rw [daemonPass_world, hw0, devPhase_run p _ hex, hs] at ex ⊢
  rw [daemonPass_world, hw0', devPhase_run p' _ hex', hs'] at ex' ⊢
  exact ⟨hrel.cli, hrel.gok, hrel.store, hrel.nsock, hrel.npair, hrel.nfork, hrel.devsRel, ex, ex'⟩

/-- what the relation says when the two runs have the very same other devices -/
theorem pass_noninterference {Q : Bytes → Bool} {g : Nat} {w w' : W} {p p' : PassIn} {xp xB xB' xq : List Pm.Dev2.RxCall}
    {w0 w0' : W} {pre post : List (Bytes × Dev)} {B B' : Bytes × Dev}
    (hw0 : cliPostPoll w p.acc p.envs = w0) (hw0' : cliPostPoll w' p'.acc p'.envs = w0')
    (hex : w0.exited = false) (hex' : w0'.exited = false)
    (hdevs : w0.devs = pre ++ B :: post) (hdevs' : w0'.devs = pre ++ B' :: post)
    (h : FoldHyps Q g p p' pre pre post post B B' (acc0 w0) (acc0 w0') xp xB xB' xq) :
    cliRec (daemonPass w p).1 g = cliRec (daemonPass w' p').1 g ∧
    (∀ i, i ≠ pre.length → ((daemonPass w p).1.devs[i]?).map strip = ((daemonPass w' p').1.devs[i]?).map strip) ∧
    SAgree Q (daemonPass w p).1.store (daemonPass w' p').1.store :=
  have hr := pass_rel_core hw0 hw0' hex hex' hdevs hdevs' h
  ⟨hr.cli, hr.devs.2, hr.store⟩

/-! ### the poll timeout is the minimum of the devices' wake-up times: no device can postpone another's wake-up -/

/-- the optional timeout `x` is set and at most `t` -/
def leOpt (x : Option Nat) (t : Nat) : Prop := ∃ t', x = some t' ∧ t' ≤ t

theorem leOpt_minOpt_right (x : Option Nat) (t : Nat) : leOpt (minOpt x (some t)) t := by
  cases x with
  | none => exact ⟨t, rfl, Nat.le_refl _⟩
  | some y => exact ⟨min y t, rfl, Nat.min_le_right _ _⟩

theorem leOpt_minOpt_left (x y : Option Nat) (t : Nat) (h : leOpt x t) : leOpt (minOpt x y) t := by
  obtain ⟨t', rfl, ht⟩ := h
  cases y with
  | none => exact ⟨t', rfl, ht⟩
  | some z => exact ⟨min t' z, rfl, Nat.le_trans (Nat.min_le_left _ _) ht⟩

theorem devPass_tmo (p : PassIn) (a : DevAcc) (nd : Bytes × Dev) :
    (devPass p a nd).tmo = if a.dead then a.tmo else minOpt a.tmo (stepOut p a nd).2.2 := by
  cases hd : a.dead with
  | true => rw [devPass_dead _ _ _ hd]; rfl
  | false => rw [devPass_alive _ _ _ hd]; rfl

theorem devPass_tmo_keeps (p : PassIn) (a : DevAcc) (nd : Bytes × Dev) (t : Nat) (h : leOpt a.tmo t) : leOpt (devPass p a nd).tmo t := by
  rw [devPass_tmo]
  split
  · exact h
  · exact leOpt_minOpt_left _ _ _ h

theorem foldl_tmo_keeps (p : PassIn) (l : List (Bytes × Dev)) (a : DevAcc) (t : Nat) (h : leOpt a.tmo t) :
    leOpt (l.foldl (devPass p) a).tmo t := by
  induction l generalizing a with
  | nil => exact h
  | cons x r ih => exact ih _ (devPass_tmo_keeps p a x t h)

theorem foldl_tmo_le (p : PassIn) (l : List (Bytes × Dev)) (a : DevAcc) (i : Nat) (nd : Bytes × Dev) (t : Nat)
    (hi : l[i]? = some nd) (hd : (accAt p a l i).dead = false) (ht : (stepOut p (accAt p a l i) nd).2.2 = some t) :
    leOpt (l.foldl (devPass p) a).tmo t := by
  rw [foldl_from hi]
  apply foldl_tmo_keeps
  rw [devPass_tmo, hd, ht]
  exact leOpt_minOpt_right _ _

end Pm.Daemon
