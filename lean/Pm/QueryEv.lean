import Pm.FrameDev
/-! # The writes of one device's turn, as a function of the turn

`setplugstate` and `setresult` are the only statements that write the shared arglist store.  This module defines, beside
each mirror function of `Pm/Dev2.lean` on the path from `_process_stmt` up to `dev_post_poll`, a *ghost* function with the
same arguments and the same control flow that returns the list of **write events** (`WEv`) of that piece of the turn, in
the order the writes happen — `stmtEv`, `innerLoopEv`, `onRunEv`, `processActionFEv`, `postPollEv` — and proves that the
store after the piece is exactly the store before with the events applied in order (`…_args`).  The model functions
themselves are not touched; the ghost functions call them for every state they need.

Where an event comes from (`EvOK`: a `setplugstate`/`setresult` statement at the current position of an action of the device's
queue, run in a state with the device's own plug list) is proved in the same induction along the ghost function (`Tracks`). -/
namespace Pm.Dev2.QEv
open Pm.Dev2

/-- what is written: a state (by `setplugstate`) or a result (by `setresult`) -/
inductive WKind where
  | state (st : PState)
  | result (r : PResult)
deriving DecidableEq, Repr

/-- one write into an arglist: by which action (client id, arglist id, script slot), for which plug / node, what, the
    captured text that was interpreted (it becomes the cell's value), and the subject of the regex match it was cut from
    (the device's match register `xmatch` at that moment).  `dev` is the device's name; it is filled in at the daemon
    level (`Pm/QueryRun.lean`). -/
structure WEv where
  dev : Bytes := []
  cid : Nat
  al : Nat
  com : Nat
  plug : Bytes
  node : Bytes
  kind : WKind
  text : Bytes
  subject : Option Bytes
deriving DecidableEq, Repr

/-- what the write does to one arglist element -/
def upd (ev : WEv) (g : Arg) : Arg :=
  if g.node == ev.node then
    match ev.kind with
    | .state st => { g with state := st, val := some ev.text }
    | .result r => { g with result := r, val := some ev.text }
  else g

def applyEv (as : List Arg) (ev : WEv) : List Arg := as.map (upd ev)

/-- the write applied to the store (`setArgs` on the event's arglist) -/
def applyStore (s : Store) (ev : WEv) : Store := (ev.al, applyEv (cell s ev.al) ev) :: s.filter (·.1 ≠ ev.al)

theorem upd_node (ev : WEv) (g : Arg) : (upd ev g).node = g.node := by
  unfold upd; split
  · split <;> rfl
  · rfl

/-! ## one statement -/

/-- the write of the statement the action stands at: one event if it is a `setplugstate` / `setresult` that finds its
    plug and its captured text, none otherwise -/
def stmtEv (d : Dev) (a : Action) (o : Oracle) : List WEv :=
  match (topCtx a).block[(topCtx a).pos]? with
  | some (.setplugstate lit pm sm is) =>
    (match spsTarget d (topCtx a) lit pm sm with
     | none => []
     | some (s, plug) =>
       [{ cid := a.clientId, al := a.arglist, com := a.com, plug := plug.name, node := plug.node.getD [],
          kind := .state (pickState askRx s is o []).2.1, text := s, subject := d.xmStr }])
  | some (.setresult pm sm is) =>
    (match srTarget d pm sm with
     | none => []
     | some (s, plug) =>
       [{ cid := a.clientId, al := a.arglist, com := a.com, plug := plug.name, node := plug.node.getD [],
          kind := .result (pickResult askRx s is o []).2.1, text := s, subject := d.xmStr }])
  | _ => []

/-- the captured status text and the plug a `setplugstate` / `setresult` writes for, given the name of the plug (if there is one):
    what `spsTarget` and `srTarget` have in common -/
def target (d : Dev) (name : Option Bytes) (sm : Int) : Option (Bytes × Plug) :=
  match name with
  | none => none
  | some pn => match subOf d sm, findPlug d pn with
    | some s, some plug => some (s, plug)
    | _, _ => none

theorem target_some {d : Dev} {name : Option Bytes} {sm : Int} {s : Bytes} {plug : Plug} :
    target d name sm = some (s, plug) ↔ ∃ pn, name = some pn ∧ subOf d sm = some s ∧ findPlug d pn = some plug := by
  unfold target
  cases name with
  | none => simp
  | some pn => cases hs : subOf d sm <;> cases hf : findPlug d pn <;> simp [hs, hf]

theorem target_none {d : Dev} {name : Option Bytes} {sm : Int} :
    target d name sm = none ↔ name = none ∨ subOf d sm = none ∨ ∃ pn, name = some pn ∧ findPlug d pn = none := by
  unfold target
  cases name with
  | none => simp
  | some pn => cases hs : subOf d sm <;> cases hf : findPlug d pn <;> simp [hs, hf]

theorem srTarget_eq (d : Dev) (pm sm : Int) : srTarget d pm sm = target d (subOf d pm) sm := by
  unfold srTarget target; rfl

open Pm.Dev2.Interp (chosenName ctxName) in
theorem spsTarget_eq (d : Dev) (e : ExecCtx) (lit : Option Bytes) (pm sm : Int) :
    spsTarget d e lit pm sm = target d (chosenName d lit pm (ctxName e.plugs)) sm := by
  unfold spsTarget target chosenName ctxName
  rcases lit with _ | n
  · rcases subOf d pm with _ | n
    · rcases e.plugs with _ | (_ | ⟨p, t⟩) <;> rfl
    · rfl
  · rfl

theorem processStmt_args (d : Dev) (a : Action) (o : Oracle) (now : Time) :
    (processStmt d a o now).dev.args = (stmtEv d a o).foldl applyStore d.args := by
  refine Interp.processStmt_ind d a o now (fun r => r.dev.args = (stmtEv d a o).foldl applyStore d.args)
    (fun hn => by unfold stmtEv; rw [hn]; rfl) fun e rest s r hex hcur h => ?_
  unfold stmtEv
  rw [Interp.topCtx_of_exec a e rest hex, hcur]
  -- the one write, in the words of `setArgs` and in those of `applyStore`
  have wr : ∀ (ev : WEv) (as : List Arg), ev.al = a.arglist → as = applyEv (cell d.args ev.al) ev →
      (setArgs d a.arglist as).args = [ev].foldl applyStore d.args := by
    intro ev as h1 h2; subst h2
    show _ = applyStore d.args ev
    unfold setArgs applyStore; rw [h1]
  cases h with
  | setNone lit pm sm _ hg => dsimp only; rw [spsTarget_eq, target_none.2 hg]; rfl
  | setWrite _ _ _ _ pn s plug hn hs hf =>
    dsimp only; rw [spsTarget_eq, target_some.2 ⟨pn, hn, hs, hf⟩]
    exact wr _ _ rfl (by unfold Interp.writeState applyEv upd cell getArgs; rfl)
  | resNone pm sm _ hg => dsimp only; rw [srTarget_eq, target_none.2 hg]; rfl
  | resWrite _ _ _ pn s plug hn hs hf =>
    dsimp only; rw [srTarget_eq, target_some.2 ⟨pn, hn, hs, hf⟩]
    exact wr _ _ rfl (by unfold Interp.writeResult applyEv upd cell getArgs; rfl)
  | eachNext s _ _ _ _ hk | eachDone s _ _ hk | ifReturn s _ _ hk | ifTaken s _ _ hk | ifUnknown s _ _ hk | ifOther s _ _ hk =>
    cases s <;> first | rfl | cases hk
  | _ => rfl

/-! ## the `do … while` loop of `_process_action` -/

/-- the writes of `innerLoop`: the statement's own, then those of the rest of the loop -/
def innerLoopEv (now : Time) : Nat → Dev → Action → Oracle → List WEv
  | 0, d, a, o => stmtEv d a o
  | fuel + 1, d, a, o =>
    let r := processStmt d a o now
    if r.finished && r.act.exec.length > a.exec.length then stmtEv d a o ++ innerLoopEv now fuel r.dev r.act r.oracle
    else stmtEv d a o

theorem innerLoop_args (now : Time) (fuel : Nat) (d : Dev) (a : Action) (o : Oracle) (acc : List Out) :
    (innerLoop now fuel d a o acc).dev.args = (innerLoopEv now fuel d a o).foldl applyStore d.args := by
  induction fuel generalizing d a o acc with
  | zero => unfold innerLoop innerLoopEv; exact processStmt_args d a o now
  | succ n ih =>
    unfold innerLoop innerLoopEv
    dsimp only
    split
    · rw [ih, List.foldl_append, processStmt_args]
    · exact processStmt_args d a o now

/-! ## one iteration of `_process_action`'s `while` loop -/

abbrev KEv := CS → Oracle → List Out → Option Time → List WEv

/-- the writes of the rest of the loop after a statement run that ended without error (`onRunOk`) -/
def onRunOkEv (kEv : KEv) (rest : List Action) (c : CS) (r : StepR) (out : List Out) (tmo : Option Time) : List WEv :=
  let a' := advance r.act
  if a'.exec.isEmpty then
    let fin := if a'.clientId != 0 then [Out.finish a'.clientId .success] else []
    let dev := { r.dev with acts := rest, loggedIn := r.dev.loggedIn || a'.com == 0, statActions := r.dev.statActions + 1, xmStr := none, xmResult := false, xmUsed := false }
    kEv { c with dev := dev } r.oracle (out ++ fin) tmo
  else kEv { c with dev := { r.dev with acts := a' :: rest } } r.oracle out tmo

/-- the writes after the statement loop (`onRunTail`): none when the pass stops here (assertion, stall, failure) -/
def onRunTailEv (kEv : KEv) (rest : List Action) (c : CS) (r : StepR) (out0 : List Out) (tmo : Option Time) : List WEv :=
  if hasAbort r.out then [] else
  if !r.finished then []
  else if r.act.errnum == .success then onRunOkEv kEv rest c r (out0 ++ r.out) tmo
  else []

/-- the writes of `onRun`: those of the statement loop for the head action, then those of the rest of the `while` loop -/
def onRunEv (kEv : KEv) (rest : List Action) (c : CS) (a : Action) (o : Oracle) (out : List Out) (tmo : Option Time) : List WEv :=
  innerLoopEv c.env.now (loopBound a) { c.dev with wake := none } a o ++
    onRunTailEv kEv rest c (innerLoop c.env.now (loopBound a) { c.dev with wake := none } a o []) out tmo

theorem failAll_args (rest : List Action) (c : CS) (a : Action) (o : Oracle) (out : List Out) (tmo : Option Time) :
    (failAll rest c a o out tmo).1.dev.args = c.dev.args := by
  have hr := reconnectDev_devFrame { c with dev := { c.dev with acts := [], xmStr := none, xmResult := false, xmUsed := false } } tmo
  unfold failAll
  dsimp only
  split
  · exact hr.args
  · rfl

/-- the event is the write of a statement executed in a device state with plug list `pl`, for an action whose client id
    and arglist id satisfy `S` -/
def EvOK (pl : List Plug) (S : Nat → Nat → Prop) (ev : WEv) : Prop :=
  ∃ (d : Dev) (a : Action) (o : Oracle), d.plugs = pl ∧ S a.clientId a.arglist ∧ ev ∈ stmtEv d a o

theorem processStmt_arglist (d : Dev) (a : Action) (o : Oracle) (now : Time) : (processStmt d a o now).act.arglist = a.arglist := by
  rw [(processStmt_spec d a o now).act]

theorem innerLoopEv_ok (pl : List Plug) (S : Nat → Nat → Prop) (now : Time) (fuel : Nat) (d : Dev) (a : Action) (o : Oracle)
    (hp : d.plugs = pl) (ha : S a.clientId a.arglist) : ∀ ev ∈ innerLoopEv now fuel d a o, EvOK pl S ev := by
  induction fuel generalizing d a o with
  | zero => intro ev hev; exact ⟨d, a, o, hp, ha, hev⟩
  | succ n ih =>
    intro ev hev
    unfold innerLoopEv at hev
    dsimp only at hev
    split at hev
    · rcases List.mem_append.mp hev with h | h
      · exact ⟨d, a, o, hp, ha, h⟩
      · exact ih _ _ _ ((processStmt_plugs d a o now).trans hp)
          (by rw [processStmt_clientId, processStmt_arglist]; exact ha) ev h
    · exact ⟨d, a, o, hp, ha, hev⟩

/-- a piece of the loop against its ghost, from a state with store `s0`: the store afterwards is `s0` with the ghost's events
    applied in order, and every event comes from a statement run in a state with plug list `pl` for an action whose keys are in `S` -/
def Tracks (pl : List Plug) (S : Nat → Nat → Prop) (s0 : Store) (r : PA) (evs : List WEv) : Prop :=
  r.1.dev.args = evs.foldl applyStore s0 ∧ ∀ ev ∈ evs, EvOK pl S ev

theorem Tracks.none {pl : List Plug} {S : Nat → Nat → Prop} {s0 : Store} {r : PA} (h : r.1.dev.args = s0) : Tracks pl S s0 r [] :=
  ⟨h, fun _ hev => nomatch hev⟩

/-- one iteration: the interpreter runs on the head `a`, then the loop goes on (`k`, tracked by `kEv` wherever plug list and keys
    are kept) or ends -/
theorem onRun_tracks (pl : List Plug) (S : Nat → Nat → Prop) (k : CS → Oracle → List Out → Option Time → PA) (kEv : KEv)
    (hk : ∀ c' o' out' tmo', c'.dev.plugs = pl → Keys S c'.dev.acts → Tracks pl S c'.dev.args (k c' o' out' tmo') (kEv c' o' out' tmo'))
    (rest : List Action) (c : CS) (a : Action) (o : Oracle) (out : List Out) (tmo : Option Time) (left : Time)
    (hp : c.dev.plugs = pl) (ha : S a.clientId a.arglist) (hrest : Keys S rest) :
    Tracks pl S c.dev.args (onRun k rest c a o out tmo left) (onRunEv kEv rest c a o out tmo) := by
  rw [onRun_eq]
  unfold onRunEv
  have hIL := innerLoop_writes c.env.now (loopBound a) { c.dev with wake := none } a o [] fun _ h => nomatch h
  have hargs := innerLoop_args c.env.now (loopBound a) { c.dev with wake := none } a o []
  have hevs := innerLoopEv_ok pl S c.env.now (loopBound a) { c.dev with wake := none } a o hp ha
  generalize innerLoop c.env.now (loopBound a) { c.dev with wake := none } a o [] = r at *
  -- the rest of the iteration, from the store the interpreter left
  suffices h : Tracks pl S r.dev.args (onRunTail k rest c r out tmo left) (onRunTailEv kEv rest c r out tmo) from
    ⟨by rw [List.foldl_append, ← hargs]; exact h.1, fun ev hev => (List.mem_append.mp hev).elim (hevs ev) (h.2 ev)⟩
  have hrp : r.dev.plugs = pl := by rw [hIL.dev]; exact hp
  unfold onRunTail onRunTailEv
  dsimp only
  by_cases h1 : hasAbort r.out = true
  · rw [if_pos h1, if_pos h1]; exact .none rfl
  rw [if_neg h1, if_neg h1]
  by_cases h2 : (!r.finished) = true
  · rw [if_pos h2, if_pos h2]; exact .none rfl
  rw [if_neg h2, if_neg h2]
  by_cases h3 : (r.act.errnum == .success) = true
  · rw [if_pos h3, if_pos h3]
    unfold onRunOk onRunOkEv
    dsimp only
    by_cases h4 : (advance r.act).exec.isEmpty = true
    · rw [if_pos h4, if_pos h4]; exact hk _ _ _ _ hrp hrest
    · rw [if_neg h4, if_neg h4]
      exact hk _ _ _ _ hrp (.cons (by rw [advance_clientId, advance_arglist, hIL.act]; exact ha) hrest)
  · rw [if_neg h3, if_neg h3]; exact .none (failAll_args ..)

/-! ## `_process_action` -/

/-- the writes of `processActionF`, same fuel -/
def processActionFEv : Nat → CS → Oracle → List Out → Option Time → List WEv
  | 0, _, _, _, _ => []
  | fuel + 1, c, o, out, tmo =>
    if c.aborted then [] else
    match c.dev.acts with
    | [] => []
    | a0 :: rest =>
      if c.env.now ≥ (stamp c.env.now a0).timeStamp.getD c.env.now + c.dev.timeout then []
      else if c.dev.conn != 2 then []
      else onRunEv (processActionFEv fuel) rest c (stamp c.env.now a0) o out tmo

theorem onTimeout_args (rest : List Action) (c : CS) (a : Action) (o : Oracle) (out : List Out) (tmo : Option Time) :
    (onTimeout rest c a o out tmo).1.dev.args = c.dev.args := by
  unfold onTimeout
  dsimp only
  generalize (if a.telemetry = true then
      (if (c.dev.conn != 2) = true then [Out.telemetry a.clientId (str "connect(dev): timeout")]
       else teleMem a.clientId "recv(dev): '" c.dev.fromBuf) else []) = tele
  split
  · rfl
  · exact failAll_args ..

theorem processActionF_tracks (pl : List Plug) (S : Nat → Nat → Prop) (fuel : Nat) (c : CS) (o : Oracle) (out : List Out)
    (tmo : Option Time) (hp : c.dev.plugs = pl) (hk : Keys S c.dev.acts) :
    Tracks pl S c.dev.args (processActionF fuel c o out tmo) (processActionFEv fuel c o out tmo) := by
  induction fuel generalizing c o out tmo with
  | zero => exact .none rfl
  | succ n ih =>
    unfold processActionF processActionBody processActionFEv
    by_cases hab : c.aborted = true
    · rw [if_pos hab, if_pos hab]; exact .none rfl
    rw [if_neg hab, if_neg hab]
    cases hq : c.dev.acts with
    | nil => exact .none rfl
    | cons a0 rest =>
      dsimp only
      by_cases hto : c.env.now ≥ (stamp c.env.now a0).timeStamp.getD c.env.now + c.dev.timeout
      · rw [if_pos hto, if_pos hto]; exact .none (onTimeout_args ..)
      rw [if_neg hto, if_neg hto]
      by_cases hcn : (c.dev.conn != 2) = true
      · rw [if_pos hcn, if_pos hcn]; exact .none rfl
      rw [if_neg hcn, if_neg hcn]
      exact onRun_tracks pl S _ _ (fun c' o' out' tmo' h1 h2 => ih c' o' out' tmo' h1 h2) rest c _ o out tmo _ hp
        (by rw [stamp_clientId, stamp_arglist]; exact hk a0 (by simp [hq])) fun b hb => hk b (by simp [hq, hb])

theorem processActionF_args (fuel : Nat) (c : CS) (o : Oracle) (out : List Out) (tmo : Option Time) :
    (processActionF fuel c o out tmo).1.dev.args = (processActionFEv fuel c o out tmo).foldl applyStore c.dev.args :=
  (processActionF_tracks c.dev.plugs (fun _ _ => True) fuel c o out tmo rfl fun _ _ => trivial).1

/-- **a device that cannot be talked to writes nothing**: an iteration of `_process_action` that finds the device not connected
    (the head action waits, or times out with `connect timeout`), or the head action's deadline passed (it fails with a
    time-out and everything queued behind it is aborted), executes no statement — no write — and ends the loop -/
theorem processActionFEv_nothing (fuel : Nat) (c : CS) (o : Oracle) (out : List Out) (tmo : Option Time)
    (h : c.dev.conn ≠ 2 ∨ ∃ a0 rest, c.dev.acts = a0 :: rest ∧
      c.env.now ≥ (stamp c.env.now a0).timeStamp.getD c.env.now + c.dev.timeout) :
    processActionFEv fuel c o out tmo = [] := by
  cases fuel with
  | zero => rfl
  | succ n =>
    unfold processActionFEv
    split
    · rfl
    · split
      · rfl
      · rename_i a0 rest hq
        split
        · rfl
        · rename_i hto
          split
          · rfl
          · rename_i hcn
            rcases h with h | ⟨b0, rest', hb, hd⟩
            · exact absurd (by simpa using hcn) h
            · rw [hq] at hb
              simp only [List.cons.injEq] at hb
              obtain ⟨rfl, rfl⟩ := hb
              exact absurd hd hto

/-! ## `dev_post_poll` for one device -/

/-- the writes of one device's `dev_post_poll`: `_handle_ready_device`, `_reconnect` and `_enqueue_ping` write nothing -/
def postPollEv (d : Dev) (env : Env) (o : Oracle) : List WEv :=
  if (ppReady d env).1.aborted then [] else
  processActionFEv (passFuel (ppPing (ppReconnect (ppReady d env).1 (ppReady d env).2).1 env.now (ppReconnect (ppReady d env).1 (ppReady d env).2).2).1.dev)
    (ppPing (ppReconnect (ppReady d env).1 (ppReady d env).2).1 env.now (ppReconnect (ppReady d env).1 (ppReady d env).2).2).1 o []
    (ppPing (ppReconnect (ppReady d env).1 (ppReady d env).2).1 env.now (ppReconnect (ppReady d env).1 (ppReady d env).2).2).2

/-- **one device's `dev_post_poll` against its ghost**: `_handle_ready_device`, `_reconnect` and `_enqueue_ping` write nothing and
    keep plug list and keys (they queue the login and ping actions, keys `(0, 0)`); then `_process_action` -/
theorem postPoll_tracks (S : Nat → Nat → Prop) (h0 : S 0 0) (d : Dev) (env : Env) (o : Oracle) (hk : Keys S d.acts) :
    Tracks d.plugs S d.args (postPoll d env o) (postPollEv d env o) := by
  rw [postPoll_eq]
  unfold postPoll' postPollEv
  have h1 := ppReady_devFrame d env
  generalize ppReady d env = r at *
  dsimp only
  split
  · exact .none h1.args
  · have h2 := ppReconnect_devFrame r.1 r.2
    generalize ppReconnect r.1 r.2 = r2 at *
    have hk2 : Keys S r2.1.dev.acts := DevFrame.keys (h1.trans h2) h0 hk
    obtain ⟨hplugs, _, hargs, hacts⟩ := ppPing_frame r2.1 env.now r2.2
    have hk3 : Keys S (ppPing r2.1 env.now r2.2).1.dev.acts := by
      rcases hacts with h | h <;> rw [h]
      · exact hk2
      · intro a ha
        rcases List.mem_append.mp ha with ha | ha
        · exact hk2 a ha
        · cases List.mem_singleton.mp ha; exact h0
    generalize ppPing r2.1 env.now r2.2 = r3 at *
    have := processActionF_tracks d.plugs S (passFuel r3.1.dev) r3.1 o [] r3.2 (hplugs.trans ((h1.trans h2).plugs)) hk3
    rw [hargs, h2.args, h1.args] at this
    exact this

theorem postPoll_args (d : Dev) (env : Env) (o : Oracle) :
    (postPoll d env o).1.dev.args = (postPollEv d env o).foldl applyStore d.args :=
  (postPoll_tracks (fun _ _ => True) trivial d env o fun _ _ => trivial).1

/-- **every write of a device's turn is the write of a `setplugstate` / `setresult` statement executed for an action of
    the device's queue** (or for the login / ping action, client id and arglist id `0`), in a device state with the
    device's own plug list -/
theorem postPollEv_ok (S : Nat → Nat → Prop) (h0 : S 0 0) (d : Dev) (env : Env) (o : Oracle) (hk : Keys S d.acts) :
    ∀ ev ∈ postPollEv d env o, EvOK d.plugs S ev :=
  (postPoll_tracks S h0 d env o hk).2

/-! ## what an event says -/

open Pm.Dev2.Interp (chosenName ctxName) in
/-- **an event records what its statement did** (the state written is that of the first interpretation matching the text:
    `C08_first_matching_interp`) -/
theorem mem_stmtEv {d : Dev} {a : Action} {o : Oracle} {ev : WEv} (h : ev ∈ stmtEv d a o) :
    ev.cid = a.clientId ∧ ev.al = a.arglist ∧ ev.com = a.com ∧ ev.subject = d.xmStr ∧ ev.dev = [] ∧
    ∃ plug, plug ∈ d.plugs ∧ plug.name = ev.plug ∧ plug.node = some ev.node ∧
      ((∃ lit pm sm is pn, (topCtx a).block[(topCtx a).pos]? = some (.setplugstate lit pm sm is) ∧
          chosenName d lit pm (ctxName (topCtx a).plugs) = some pn ∧ findPlug d pn = some plug ∧
          subOf d sm = some ev.text ∧ ev.kind = .state (pickState askRx ev.text is o []).2.1) ∨
       (∃ pm sm is pn, (topCtx a).block[(topCtx a).pos]? = some (.setresult pm sm is) ∧
          subOf d pm = some pn ∧ findPlug d pn = some plug ∧
          subOf d sm = some ev.text ∧ ev.kind = .result (pickResult askRx ev.text is o []).2.1)) := by
  unfold stmtEv at h
  split at h
  · rename_i lit pm sm is hst
    split at h
    · cases h
    · rename_i s plug ht
      cases List.mem_singleton.1 h
      obtain ⟨pn, hpn, hs, hf⟩ := target_some.1 ((spsTarget_eq ..).symm.trans ht)
      obtain ⟨hm, n, hn⟩ := findPlug_node d pn _ hf
      exact ⟨rfl, rfl, rfl, rfl, rfl, _, hm, rfl, by simp [hn], Or.inl ⟨lit, pm, sm, is, pn, hst, hpn, hf, hs, rfl⟩⟩
  · rename_i pm sm is hst
    split at h
    · cases h
    · rename_i s plug ht
      cases List.mem_singleton.1 h
      obtain ⟨pn, hpn, hs, hf⟩ := target_some.1 ((srTarget_eq ..).symm.trans ht)
      obtain ⟨hm, n, hn⟩ := findPlug_node d pn _ hf
      exact ⟨rfl, rfl, rfl, rfl, rfl, _, hm, rfl, by simp [hn], Or.inr ⟨pm, sm, is, pn, hst, hpn, hf, hs, rfl⟩⟩
  · cases h

/-- the captured text is a piece of the subject of the last successful regex match of this device -/
theorem subOf_infix {d : Dev} {i : Int} {s : Bytes} (h : subOf d i = some s) :
    d.xmUsed = true ∧ d.xmResult = true ∧ ∃ subj, d.xmStr = some subj ∧ s <:+: subj := by
  unfold subOf at h
  split at h
  · cases h
  · rename_i hc
    simp only [Bool.or_eq_true, Bool.not_eq_true', decide_eq_true_eq, not_or, Bool.not_eq_false, Int.not_lt] at hc
    split at h
    · split at h
      · cases h
      · cases hx : d.xmStr with
        | none => rw [hx] at h; cases h
        | some subj =>
          rw [hx] at h
          simp only [Option.map_some, Option.some.injEq] at h
          subst h
          exact ⟨hc.1.1, hc.1.2, subj, rfl, List.IsInfix.trans (List.take_prefix _ _).isInfix (List.drop_suffix _ _).isInfix⟩
    · cases h

/-! ## the match register -/

/-- the device's match register (`dev->xmatch`): used / result / subject copy / offsets -/
def reg (d : Dev) : Bool × Bool × Option Bytes × List (Int × Int) := (d.xmUsed, d.xmResult, d.xmStr, d.xmOffs)

theorem processStmt_reg (d : Dev) (a : Action) (o : Oracle) (now : Time)
    (h : ∀ pat, (topCtx a).block[(topCtx a).pos]? ≠ some (.expect pat)) : reg (processStmt d a o now).dev = reg d := by
  refine Interp.processStmt_ind d a o now (fun r => reg r.dev = reg d) (fun _ => rfl) fun e rest s r hex hcur hst => ?_
  obtain ⟨h1, h2, h3, h4⟩ := hst.sameXm fun pat hs => h pat (by rw [Interp.topCtx_of_exec a e rest hex, hcur, hs])
  unfold reg; rw [h1, h2, h3, h4]

/-- `_disconnect` does not recycle the match register (it empties the two buffers, not `dev->xmatch`) -/
theorem disconnectDev_reg (c : CS) : reg (disconnectDev c).dev = reg c.dev := by
  rw [disconnectDev_cs]; rfl

/-- a write made in the state a matching `expect` leaves carries the subject of that match: the device's input buffer as it
    was when the `expect` matched (NUL bytes shown as 0xff) -/
theorem stmtEv_after_expect (d : Dev) (a a' : Action) (o o' : Oracle) (pat : Nat) (offs : List (Int × Int))
    (h : d.fromBuf ≠ []) (hm : (askRx o pat (Interp.rxSubject d.fromBuf)).2.1 = some offs) :
    ∀ ev ∈ stmtEv (stmtExpect d a o pat).dev a' o', ev.subject = some (Interp.rxSubject d.fromBuf) := by
  intro ev hev
  obtain ⟨_, _, _, hsubj, _⟩ := mem_stmtEv hev
  rw [hsubj, Interp.stmtExpect_match d a o pat offs h hm]

end Pm.Dev2.QEv

section AxiomChecks
open Pm.Dev2.QEv
/-- info: 'Pm.Dev2.QEv.postPoll_args' depends on axioms: [propext, Classical.choice, Quot.sound] -/
#guard_msgs in #print axioms postPoll_args
/-- info: 'Pm.Dev2.QEv.postPollEv_ok' depends on axioms: [propext, Classical.choice, Quot.sound] -/
#guard_msgs in #print axioms postPollEv_ok
/-- info: 'Pm.Dev2.QEv.mem_stmtEv' depends on axioms: [propext, Quot.sound] -/
#guard_msgs in #print axioms mem_stmtEv
end AxiomChecks
