import Pm.GrammarSem
import Pm.GrammarProof
import Pm.ConfigProof
import Pm.SpecCheck
/-! # What the actions add to what the grammar guarantees (C18, C17)

Helper module of `Pm/Props/C18.lean`: about `Pm/GrammarSem.lean` (the checks of the semantic actions of `parse_tab.y`, run over
the log of `Pm/Grammar.lean`).  Conversion of accepted statements to `SpecCheck.SStmt` / `SpecD` and of accepted lines to
`ConfigModel.Stmt`, its totality on accepted input, and the mandatory elements an accepted file has. -/
namespace Pm.Grammar.Proof
open Pm.Grammar Pm.LexModel

/-! ## 1. running a log without token limit -/

/-- every action of a log, in order (the lexer reached the end of input: no limit) -/
def runEvs (env : Env) : Sem → List Ev → Except (Diag × Nat) Sem
  | s, [] => .ok s
  | s, e :: es =>
    match semEv env s e with
    | .ok s' => runEvs env s' es
    | .error d => .error (d, e.rd)

theorem runLog_none (env : Env) : ∀ (evs : List Ev) (s : Sem),
    runLog env none s evs = (match runEvs env s evs with
      | .ok s' => (s', none, false)
      | .error e => ((runLog env none s evs).1, some e, false))
  | [], s => by simp [runLog, runEvs]
  | e :: es, s => by
    unfold runLog runEvs
    simp only [Bool.false_eq_true, if_false]
    cases h : semEv env s e with
    | ok s' => simp only []; exact runLog_none env es s'
    | error d => simp

theorem runEvs_append (env : Env) : ∀ (a b : List Ev) (s : Sem),
    runEvs env s (a ++ b) = (match runEvs env s a with | .ok s' => runEvs env s' b | .error e => .error e)
  | [], b, s => by simp [runEvs]
  | e :: es, b, s => by
    simp only [List.cons_append, runEvs]
    cases h : semEv env s e with
    | ok s' => simp only []; exact runEvs_append env es b s'
    | error d => simp

/-! ## 2. statements -/

def okE {ε α : Type} : Except ε α → Bool
  | .ok _ => true
  | .error _ => false

mutual
/-- every conversion `makePreStmt` makes in this statement and below succeeds -/
def stmtSemOK : PStmt → Bool
  | .block _ body => stmtsSemOK body
  | .expect _ => true
  | .send _ => true
  | .delay n _ => okE (tvCheck n)
  | .setplugstate _ mp1 mp2 _ _ => okE (mpOpt mp1) && okE (mpVal mp2)
  | .setresult mp1 mp2 _ _ => okE (mpVal mp1) && okE (mpVal mp2)
def stmtsSemOK : List PStmt → Bool
  | [] => true
  | s :: r => stmtSemOK s && stmtsSemOK r
end

theorem semStmt_ok_iff (s : PStmt) (h : ∀ k b, s ≠ .block k b) : okE (semStmt s) = stmtSemOK s := by
  cases s with
  | block k b => exact absurd rfl (h k b)
  | expect _ => simp [semStmt, stmtSemOK, okE]
  | send _ => simp [semStmt, stmtSemOK, okE]
  | delay n rd => simp [semStmt, stmtSemOK]
  | setplugstate p a b l rd =>
    simp only [semStmt, stmtSemOK]
    cases mpOpt a <;> cases mpVal b <;> simp [okE]
  | setresult a b l rd =>
    simp only [semStmt, stmtSemOK]
    cases mpVal a <;> cases mpVal b <;> simp [okE]

theorem runEvs_stmt1 (env : Env) (s : Sem) (st : PStmt) (rest : List Ev) :
    runEvs env s (.stmt st :: rest) = (if okE (semStmt st) then runEvs env s rest else .error ((match semStmt st with | .error d => d | .ok _ => .parseError), (Ev.stmt st).rd)) := by
  simp only [runEvs, semEv]
  cases semStmt st <;> simp [okE]

mutual
theorem runEvs_stmt (env : Env) : ∀ (st : PStmt) (s : Sem) (rest : List Ev),
    (stmtSemOK st = true → runEvs env s (evStmt st ++ rest) = runEvs env s rest) ∧
    (stmtSemOK st = false → ∃ e, runEvs env s (evStmt st ++ rest) = .error e)
  | .block k body, s, rest => by
    have ih := runEvs_stmts env body s ([.stmt (.block k body)] ++ rest)
    simp only [evStmt, List.append_assoc, stmtSemOK]
    refine ⟨fun h => ?_, fun h => ih.2 h⟩
    rw [ih.1 h]
    simp [runEvs, semEv, semStmt]
  | .expect x, s, rest => by simp [evStmt, stmtSemOK, runEvs, semEv, semStmt]
  | .send x, s, rest => by simp [evStmt, stmtSemOK, runEvs, semEv, semStmt]
  | .delay n rd, s, rest => by
    simp only [evStmt, List.singleton_append, runEvs_stmt1, ← semStmt_ok_iff (.delay n rd) (by simp)]
    constructor
    · intro h; simp [h]
    · intro h; simp [h]
  | .setplugstate p a b l rd, s, rest => by
    simp only [evStmt, List.singleton_append, runEvs_stmt1, ← semStmt_ok_iff (.setplugstate p a b l rd) (by simp)]
    constructor
    · intro h; simp [h]
    · intro h; simp [h]
  | .setresult a b l rd, s, rest => by
    simp only [evStmt, List.singleton_append, runEvs_stmt1, ← semStmt_ok_iff (.setresult a b l rd) (by simp)]
    constructor
    · intro h; simp [h]
    · intro h; simp [h]
theorem runEvs_stmts (env : Env) : ∀ (l : List PStmt) (s : Sem) (rest : List Ev),
    (stmtsSemOK l = true → runEvs env s (evStmts l ++ rest) = runEvs env s rest) ∧
    (stmtsSemOK l = false → ∃ e, runEvs env s (evStmts l ++ rest) = .error e)
  | [], s, rest => by simp [evStmts, stmtsSemOK]
  | st :: r, s, rest => by
    have h1 := runEvs_stmt env st s (evStmts r ++ rest)
    have h2 := runEvs_stmts env r s rest
    simp only [evStmts, List.append_assoc, stmtsSemOK, Bool.and_eq_true, Bool.and_eq_false_iff]
    constructor
    · intro h; rw [h1.1 h.1, h2.1 h.2]
    · intro h
      cases hs : stmtSemOK st with
      | false => exact h1.2 hs
      | true =>
        rw [h1.1 hs]
        rcases h with h | h
        · rw [hs] at h; cases h
        · exact h2.2 h
end

/-! ## 3. items: the invariant of the actions -/

theorem runEvs_cons {env : Env} {s s'' : Sem} {e : Ev} {rest : List Ev} (h : runEvs env s (e :: rest) = .ok s'') :
    ∃ s', semEv env s e = .ok s' ∧ runEvs env s' rest = .ok s'' := by
  simp only [runEvs] at h
  cases hs : semEv env s e with
  | ok s' => rw [hs] at h; exact ⟨s', rfl, h⟩
  | error d => rw [hs] at h; cases h

def siSemOK : SpecItem → Bool
  | .script _ body _ => stmtsSemOK body
  | _ => true

theorem runEvs_specItem {env : Env} {si : SpecItem} {s s'' : Sem} {rest : List Ev}
    (h : runEvs env s (evSpecItem si ++ rest) = .ok s'') :
    siSemOK si = true ∧ ∃ s', semSpecItem s si = .ok s' ∧ runEvs env s' rest = .ok s'' := by
  cases si with
  | script k body rd =>
    simp only [evSpecItem, List.append_assoc] at h
    have hb := runEvs_stmts env body s ([.specItem (.script k body rd)] ++ rest)
    cases hok : stmtsSemOK body with
    | false => obtain ⟨e, he⟩ := hb.2 hok; rw [he] at h; cases h
    | true =>
      rw [hb.1 hok] at h
      obtain ⟨s', h1, h2⟩ := runEvs_cons h
      exact ⟨by simp [siSemOK, hok], s', h1, h2⟩
  | timeout n rd => obtain ⟨s', h1, h2⟩ := runEvs_cons h; exact ⟨rfl, s', h1, h2⟩
  | pingPeriod n rd => obtain ⟨s', h1, h2⟩ := runEvs_cons h; exact ⟨rfl, s', h1, h2⟩
  | plugs l rd => obtain ⟨s', h1, h2⟩ := runEvs_cons h; exact ⟨rfl, s', h1, h2⟩

def hasLogin (scripts : List (Nat × List PStmt)) : Bool := scripts.any (·.1 == Pm.Generated.PM_LOG_IN)

/-- what holds of the state of the actions after any accepted prefix of a file -/
structure Inv (s : Sem) : Prop where
  specs : ∀ r ∈ s.specs, hasLogin r.scripts = true ∧ (∀ p ∈ r.scripts, stmtsSemOK p.2 = true) ∧ (r.scripts.map (·.1)).Nodup
  cur : (∀ p ∈ s.cur.scripts, stmtsSemOK p.2 = true) ∧ (s.cur.scripts.map (·.1)).Nodup
  devs : ∀ d ∈ s.cfg.devs, ∃ r ∈ s.specs, toChars r.name = d.spec

theorem Inv_init : Inv {} := ⟨by simp, by simp, by simp [ConfigModel.empty]⟩

theorem semSpecItem_inv {s s' : Sem} {si : SpecItem} (hi : Inv s) (hok : siSemOK si = true) (h : semSpecItem s si = .ok s') : Inv s' := by
  cases si with
  | timeout n rd =>
    simp only [semSpecItem] at h
    split at h
    · cases h
    · cases h; exact ⟨hi.specs, hi.cur, hi.devs⟩
  | pingPeriod n rd =>
    simp only [semSpecItem] at h
    split at h
    · cases h
    · cases h; exact ⟨hi.specs, hi.cur, hi.devs⟩
  | plugs l rd =>
    simp only [semSpecItem] at h
    split at h
    · cases h
    · cases h; exact ⟨hi.specs, hi.cur, hi.devs⟩
  | script k body rd =>
    simp only [semSpecItem] at h
    split at h
    · cases h
    · rename_i hany
      cases h
      refine ⟨hi.specs, ⟨?_, ?_⟩, hi.devs⟩
      · intro p hp
        rcases List.mem_append.mp hp with hp | hp
        · exact hi.cur.1 p hp
        · simp at hp; subst hp; simpa [siSemOK] using hok
      · simp only [List.map_append, List.map_cons, List.map_nil]
        rw [List.nodup_append]
        refine ⟨hi.cur.2, by simp, ?_⟩
        intro a ha b hb
        simp at hb; subst hb
        intro heq; subst heq
        apply hany
        obtain ⟨p, hp, rfl⟩ := List.mem_map.mp ha
        exact List.any_eq_true.mpr ⟨p, hp, by simp⟩

theorem cfgErr_ok {r : Except ConfigModel.DiagClass ConfigModel.Cfg} {c : ConfigModel.Cfg} (h : cfgErr r = .ok c) : r = .ok c := by
  cases r with
  | error e => cases h
  | ok c' => cases h; rfl

open Pm.ConfigModel.Proof in
/-- a `device`, `node` or `alias` item hands a line to `ConfigModel.step`: an accepted line changes no device's specification
    name, and a new device names a specification that `findSpec` found among the completed ones -/
theorem step_names_spec {s : Sem} (hi : Inv s) (i : Nat) (st : ConfigModel.Stmt) {c : ConfigModel.Cfg}
    (h : ConfigModel.step (s.specs.map (·.toCfg)) s.cfg i st = .ok c) : ∀ d ∈ c.devs, ∃ r ∈ s.specs, toChars r.name = d.spec :=
  step_keeps _ (fun d => ∃ r ∈ s.specs, toChars r.name = d.spec)
    (fun _ _ _ ⟨r, hr, he⟩ h1 => ⟨r, hr, he.trans h1.grows.spec.symm⟩)
    (fun _ _ _ hf => by
      obtain ⟨r, hr, rfl⟩ := List.mem_map.mp (List.mem_of_find?_eq_some hf)
      have hn := List.find?_some hf
      exact ⟨r, hr, of_decide_eq_true hn⟩) hi.devs h

theorem semItem_inv {env : Env} {s s' : Sem} {it : Item} (hi : Inv s) (h : semItem env s it = .ok s') : Inv s' := by
  cases it with
  | listen x rd => simp only [semItem] at h; cases h; exact ⟨hi.specs, hi.cur, hi.devs⟩
  | plugLogLevel x rd =>
    simp only [semItem] at h
    split at h
    · cases h; exact ⟨hi.specs, hi.cur, hi.devs⟩
    · cases h
  | tcpWrappers v rd =>
    simp only [semItem] at h
    split at h
    · cases h
    · cases h; exact ⟨hi.specs, hi.cur, hi.devs⟩
  | spec name items rd =>
    simp only [semItem] at h
    split at h
    · cases h
    · rename_i hlog
      cases h
      refine ⟨?_, by simp, ?_⟩
      · intro r hr
        rcases List.mem_append.mp hr with hr | hr
        · exact hi.specs r hr
        · simp at hr; subst hr
          exact ⟨by simpa [hasLogin] using hlog, hi.cur.1, hi.cur.2⟩
      · intro d hd
        obtain ⟨r, hr, he⟩ := hi.devs d hd
        exact ⟨r, List.mem_append_left _ hr, he⟩
  | device name spec host flags rd =>
    simp only [semItem] at h
    split at h
    · cases h
    · split at h
      · cases h
      · split at h
        · cases h
        · rename_i c hc
          cases h
          exact ⟨hi.specs, hi.cur, step_names_spec hi s.nstmt (.device (toChars name) (toChars spec)) (cfgErr_ok hc)⟩
  | node nodes dev plugs rd =>
    simp only [semItem] at h
    split at h
    · cases h
    · rename_i c hc
      cases h
      exact ⟨hi.specs, hi.cur, step_names_spec hi s.nstmt (.node (toChars nodes) (toChars dev) (plugs.map toChars)) (cfgErr_ok hc)⟩
  | alias name hosts rd =>
    simp only [semItem] at h
    split at h
    · cases h
    · rename_i c hc
      cases h
      exact ⟨hi.specs, hi.cur, step_names_spec hi s.nstmt (.alias (toChars name) (toChars hosts)) (cfgErr_ok hc)⟩

theorem runEvs_specItems {env : Env} : ∀ (items : List SpecItem) {s s'' : Sem} {rest : List Ev}, Inv s →
    runEvs env s (evSpecItems items ++ rest) = .ok s'' → ∃ s', Inv s' ∧ runEvs env s' rest = .ok s''
  | [], s, s'', rest, hi, h => ⟨s, hi, by simpa [evSpecItems] using h⟩
  | si :: r, s, s'', rest, hi, h => by
    simp only [evSpecItems, List.append_assoc] at h
    obtain ⟨hok, s1, h1, h2⟩ := runEvs_specItem h
    exact runEvs_specItems r (semSpecItem_inv hi hok h1) h2

theorem runEvs_item {env : Env} {it : Item} {s s'' : Sem} {rest : List Ev} (hi : Inv s)
    (h : runEvs env s (evItem it ++ rest) = .ok s'') : ∃ s', Inv s' ∧ runEvs env s' rest = .ok s'' := by
  have one : ∀ {s0 : Sem}, Inv s0 → runEvs env s0 (.item it :: rest) = .ok s'' → ∃ s', Inv s' ∧ runEvs env s' rest = .ok s'' := by
    intro s0 hi0 h0
    obtain ⟨s1, h1, h2⟩ := runEvs_cons h0
    exact ⟨s1, semItem_inv hi0 (by simpa [semEv] using h1), h2⟩
  cases it with
  | spec name items rd =>
    simp only [evItem, List.append_assoc] at h
    obtain ⟨s1, hi1, h1⟩ := runEvs_specItems items hi h
    exact one hi1 h1
  | listen x rd => exact one hi (by simpa [evItem] using h)
  | tcpWrappers v rd => exact one hi (by simpa [evItem] using h)
  | plugLogLevel x rd => exact one hi (by simpa [evItem] using h)
  | device a b c d rd => exact one hi (by simpa [evItem] using h)
  | node a b c rd => exact one hi (by simpa [evItem] using h)
  | alias a b rd => exact one hi (by simpa [evItem] using h)

theorem runEvs_ast {env : Env} : ∀ (ast : Ast) {s s'' : Sem}, Inv s → runEvs env s (evAst ast) = .ok s'' → Inv s''
  | [], s, s'', hi, h => by simp [evAst, runEvs] at h; subst h; exact hi
  | it :: r, s, s'', hi, h => by
    simp only [evAst] at h
    obtain ⟨s1, hi1, h1⟩ := runEvs_item hi h
    exact runEvs_ast r hi1 h1

/-! ## 4. conversion to the inputs of `SpecCheck` and `ConfigModel` -/

open Pm.SpecCheck in
mutual
/-- an accepted statement as `SpecCheck` sees it (`u_specdump.c`'s view of the instantiated `Stmt`): `nsub` = `re_nsub` of the
    compiled pattern (an oracle: `regcomp`), `usOf` = the microseconds `_doubletotv` computes (not modelled arithmetic); a
    literal plug name makes the plug match position `-1` -/
def toSStmt (nsub usOf : Bytes → Nat) : PStmt → Option SStmt
  | .expect re => some (.expect (nsub re))
  | .send fmt => some (.send fmt)
  | .delay n _ => some (.delay (usOf n))
  | .setplugstate plug mp1 mp2 _ _ =>
    match mpOpt mp1, mpVal mp2 with
    | .ok a, .ok b => some (.setplugstate plug.isSome (if plug.isSome then -1 else a) b)
    | _, _ => none
  | .setresult mp1 mp2 _ _ =>
    match mpVal mp1, mpVal mp2 with
    | .ok a, .ok b => some (.setresult a b)
    | _, _ => none
  | .block k body =>
    match toSStmts nsub usOf body with
    | some b => some (match k with | .foreachplug => .foreachplug b | .foreachnode => .foreachnode b | .ifon => .ifon b | .ifoff => .ifoff b)
    | none => none
def toSStmts (nsub usOf : Bytes → Nat) : List PStmt → Option (List SStmt)
  | [] => some []
  | s :: r =>
    match toSStmt nsub usOf s, toSStmts nsub usOf r with
    | some a, some b => some (a :: b)
    | _, _ => none
end

mutual
theorem toSStmt_total (nsub usOf : Bytes → Nat) : ∀ (s : PStmt), stmtSemOK s = true → (toSStmt nsub usOf s).isSome = true
  | .expect _, _ => by simp [toSStmt]
  | .send _, _ => by simp [toSStmt]
  | .delay _ _, _ => by simp [toSStmt]
  | .setplugstate p a b l rd, h => by
    simp only [stmtSemOK, Bool.and_eq_true] at h
    simp only [toSStmt]
    cases ha : mpOpt a <;> cases hb : mpVal b <;> simp_all [okE]
  | .setresult a b l rd, h => by
    simp only [stmtSemOK, Bool.and_eq_true] at h
    simp only [toSStmt]
    cases ha : mpVal a <;> cases hb : mpVal b <;> simp_all [okE]
  | .block k body, h => by
    simp only [stmtSemOK] at h
    have := toSStmts_total nsub usOf body h
    simp only [toSStmt]
    cases hb : toSStmts nsub usOf body with
    | none => rw [hb] at this; cases this
    | some b => simp
theorem toSStmts_total (nsub usOf : Bytes → Nat) : ∀ (l : List PStmt), stmtsSemOK l = true → (toSStmts nsub usOf l).isSome = true
  | [], _ => by simp [toSStmts]
  | s :: r, h => by
    simp only [stmtsSemOK, Bool.and_eq_true] at h
    have h1 := toSStmt_total nsub usOf s h.1
    have h2 := toSStmts_total nsub usOf r h.2
    simp only [toSStmts]
    cases ha : toSStmt nsub usOf s with
    | none => rw [ha] at h1; cases h1
    | some a =>
      cases hb : toSStmts nsub usOf r with
      | none => rw [hb] at h2; cases h2
      | some b => simp
end

/-- the scripts of a completed specification, converted (`none`: some conversion failed — excluded by `Inv`) -/
def toScripts (nsub usOf : Bytes → Nat) : List (Nat × List PStmt) → Option (List (Nat × List Pm.SpecCheck.SStmt))
  | [] => some []
  | p :: r =>
    match toSStmts nsub usOf p.2, toScripts nsub usOf r with
    | some b, some l => some ((p.1, b) :: l)
    | _, _ => none

theorem toScripts_total (nsub usOf : Bytes → Nat) : ∀ (l : List (Nat × List PStmt)), (∀ p ∈ l, stmtsSemOK p.2 = true) →
    ∃ r, toScripts nsub usOf l = some r ∧ r.map (·.1) = l.map (·.1)
  | [], _ => ⟨[], rfl, rfl⟩
  | p :: r, h => by
    have h1 := toSStmts_total nsub usOf p.2 (h p (by simp))
    obtain ⟨l, hl, hm⟩ := toScripts_total nsub usOf r (fun q hq => h q (by simp [hq]))
    cases hb : toSStmts nsub usOf p.2 with
    | none => rw [hb] at h1; cases h1
    | some b => exact ⟨(p.1, b) :: l, by simp [toScripts, hb, hl], by simp [hm]⟩

/-- a completed specification as `SpecCheck.SpecD` (what the translator emits for the shipped files, here from the model's own
    parse): no `timeout` statement gives `timeoutUs = 0` — nothing in the grammar or the actions supplies a default -/
def toSpecD (nsub usOf : Bytes → Nat) (r : SpecRec) : Option Pm.SpecCheck.SpecD :=
  match toScripts nsub usOf r.scripts with
  | some sc => some { name := String.ofList (toChars r.name), file := "", timeoutUs := (r.timeout.map usOf).getD 0,
                      pingUs := (r.ping.map usOf).getD 0, nplugs := (r.plugs.map (·.length)).getD 0, scripts := sc }
  | none => none

def toCfgStmt : Item → Option ConfigModel.Stmt
  | .device name spec _ _ _ => some (.device (toChars name) (toChars spec))
  | .node nodes dev plugs _ => some (.node (toChars nodes) (toChars dev) (plugs.map toChars))
  | .alias name hosts _ => some (.alias (toChars name) (toChars hosts))
  | _ => none

/-! ## 5. the whole reader -/

theorem parseLog_none {toks : List Token} (h : (parseLog toks).2 = none) : ∃ ast, parseConfig toks = .ok ast := by
  unfold parseLog at h
  unfold parseConfig
  split at h
  · rename_i a c log he; exact ⟨a, by simp⟩
  · simp at h
  · simp at h

/-- the tokens the lexer delivers for a file -/
def tokensOf (fs : Bytes → Option Bytes) (main content : Bytes) : List Token := (lexFile fs main content).1.map (·.tok)

theorem runDead_final (env : Env) (ltoks : List LTok) (main : Bytes) (e : LexEnd) :
    ∃ d p, (runDead env ltoks main e).final = .err d p := by
  unfold runDead
  simp only []
  split
  · exact ⟨_, _, rfl⟩
  · split
    · split <;> exact ⟨_, _, rfl⟩
    · exact ⟨_, _, rfl⟩

theorem runOk_valid {env : Env} {ltoks : List LTok} {eofPos : Bytes × Nat} (h : (runOk env ltoks eofPos).final = .valid) :
    ∃ ast s, parseConfig (ltoks.map (·.tok)) = .ok ast ∧ runEvs env {} (evAst ast) = .ok s ∧
      (∃ c, ConfigModel.validate s.cfg s.nstmt = .ok c) ∧ (runOk env ltoks eofPos).out = s.out.reverse := by
  unfold runOk at h ⊢
  simp only [] at h ⊢
  split at h
  · simp at h
  · rename_i s cut hrun
    split at h
    · simp at h
    · simp at h
    · rename_i hpl
      split at h
      · rename_i c hv
        obtain ⟨ast, hast⟩ := parseLog_none hpl
        have hlog := parseLog_ok _ ast hast
        have hr := runLog_none env (parseLog (ltoks.map (·.tok))).1 {}
        rw [hrun] at hr
        rw [hlog] at hr
        refine ⟨ast, s, hast, ?_, ⟨c, hv⟩, ?_⟩
        · cases he : runEvs env {} (evAst ast) with
          | ok s' => rw [he] at hr; simp at hr; rw [hr.1]
          | error e => rw [he] at hr; simp at hr
        · rfl
      · simp at h

/-- **Accepted files.**  If the reader accepts a file (`yyparse` returns and `_validate_config` agrees), then: the lexer reached
    the end of input, the tokens are a sentence of the grammar, every action succeeded on the post-order walk of its tree, and
    the verdict of `_validate_config` on the resulting configuration was positive. -/
theorem runConfig_valid {env : Env} {fs : Bytes → Option Bytes} {main content : Bytes}
    (h : (runConfig env fs main content).final = .valid) :
    ∃ ast s, parseConfig (tokensOf fs main content) = .ok ast ∧ runEvs env {} (evAst ast) = .ok s ∧
      (∃ c, ConfigModel.validate s.cfg s.nstmt = .ok c) ∧ (runConfig env fs main content).out = s.out.reverse := by
  unfold runConfig at h ⊢
  unfold tokensOf
  split at h
  · rename_i ltoks f l hl
    rw [hl]
    exact runOk_valid h
  · rename_i ltoks e hne hl
    obtain ⟨d, p, hd⟩ := runDead_final env ltoks main e
    rw [hd] at h; cases h

/-- **Mandatory elements of an accepted file** (`runConfig … = valid`): the tokens form a sentence whose tree is well-formed
    (`astWF`: non-empty specifications, scripts and blocks); every completed specification has a login script, distinct script
    kinds, and statements that convert (`toScripts` is defined on them); every device names a completed specification; and at
    least one node is configured. -/
theorem accepted_mandatory {env : Env} {fs : Bytes → Option Bytes} {main content : Bytes}
    (h : (runConfig env fs main content).final = .valid) :
    ∃ ast s, parseConfig (tokensOf fs main content) = .ok ast ∧ astWF ast = true ∧ runEvs env {} (evAst ast) = .ok s ∧ Inv s ∧
      Pm.expand s.cfg.nodes ≠ [] := by
  obtain ⟨ast, s, hp, hr, ⟨c, hv⟩, _⟩ := runConfig_valid h
  exact ⟨ast, s, hp, parse_shape _ ast hp, hr, runEvs_ast ast Inv_init hr, (Pm.ConfigModel.Proof.validate_ok hv).2.2⟩

theorem toSpecD_total (nsub usOf : Bytes → Nat) {s : Sem} (hi : Inv s) (r : SpecRec) (hr : r ∈ s.specs) :
    ∃ d, toSpecD nsub usOf r = some d ∧ d.scripts.map (·.1) = r.scripts.map (·.1) ∧ d.scripts.any (fun p => p.1 == 0) = true := by
  obtain ⟨hlogin, hok, _⟩ := hi.specs r hr
  obtain ⟨sc, hsc, hm⟩ := toScripts_total nsub usOf r.scripts hok
  refine ⟨{ name := String.ofList (toChars r.name), file := "", timeoutUs := (r.timeout.map usOf).getD 0,
            pingUs := (r.ping.map usOf).getD 0, nplugs := (r.plugs.map (·.length)).getD 0, scripts := sc }, by simp [toSpecD, hsc], hm, ?_⟩
  simp only [hasLogin, List.any_eq_true] at hlogin ⊢
  obtain ⟨p, hp, hk⟩ := hlogin
  have : p.1 ∈ sc.map (·.1) := by rw [hm]; exact List.mem_map.mpr ⟨p, hp, rfl⟩
  obtain ⟨q, hq, hqe⟩ := List.mem_map.mp this
  refine ⟨q, hq, ?_⟩
  have h0 : Pm.Generated.PM_LOG_IN = 0 := rfl
  simp only [beq_iff_eq] at hk ⊢
  rw [hqe, hk, h0]

end Pm.Grammar.Proof

section AxiomChecks
open Pm.Grammar.Proof
#print axioms parse_total
#print axioms parse_shape
#print axioms parseLog_ok
#print axioms accepted_mandatory
#print axioms toSpecD_total
#print axioms toSStmts_total
end AxiomChecks
