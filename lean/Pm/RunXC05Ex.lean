import Pm.RunXC05
import Pm.FrameEx
import Pm.TwoRunEx
/-! Example runs for the non-vacuity examples of the `runX` statements of `Props/C05`: the example worlds of `Pm/FrameEx.lean` and
`Pm/TwoRunEx.lean` with **no regex answer pending at the start**; the answers of each pass are fed before that pass (`feed`), and
device `B` gets different answers in the two runs in *both* passes (`xB'` for the sick `B'`). -/
namespace Pm.Daemon.TwoRun.ExC05
open Pm Pm.Client Pm.Daemon Pm.Daemon.Isolation Pm.Daemon.TwoRun

/-! ### general client phase -/

def wa0 : W := withX Ex.wa []
def wb0 : W := withX Ex.wb []
/-- the two runs as pairs of `PassX`: `(⟨q1, xA⟩, ⟨q1, xA ++ xB'⟩)`, `(⟨q2, []⟩, ⟨q2, xB'⟩)` -/
def runsG : List (PassX × PassX) := Ex.runsG.map toX2

theorem rel0 : MRel Pm.Daemon.Ex.Q Ex.FB 1 Ex.PBx wa0 wb0 := Ex.rel0.withX [] []

theorem goodG0 : GenRun Pm.Daemon.Ex.Q Ex.FB 1 Ex.PBx wa0 wb0 Ex.runsG :=
  .cons _ _ _ _ _ _ _ _ _ _ _ Ex.cli1h Ex.dev1h (.cons _ _ _ _ _ _ _ _ _ _ _ Ex.cli2h Ex.dev2h (.nil _ _))

theorem alongG : AlongX (GenX Pm.Daemon.Ex.Q Ex.FB 1 Ex.PBx) wa0 wb0 runsG :=
  (genRun_to_X Pm.Daemon.Ex.Q Ex.FB 1 Ex.PBx Ex.hQB wa0 wb0 Ex.runsG goodG0 rel0 rfl rfl).1

theorem runsG_eq : runsG = [(⟨Ex.q1, Pm.Daemon.Ex.xA⟩, ⟨Ex.q1, Pm.Daemon.Ex.xA ++ Pm.Daemon.Ex.xB'⟩), (⟨Ex.q2, []⟩, ⟨Ex.q2, Pm.Daemon.Ex.xB'⟩)] := rfl

theorem outcomeG :
    (cliRec (runX wa0 (runsG.map (·.1))) 1).map (fun c => (c.toBuf, c.cmd.map (·.pending))) =
      some (bstr "208 Command in progress\r\n", some 1) ∧
    (cliRec (runX wb0 (runsG.map (·.2))) 1).map (fun c => (c.toBuf, c.cmd.map (·.pending))) =
      some (bstr "208 Command in progress\r\n", some 1) ∧
    (runX wa0 (runsG.map (·.1))).devs.map (fun nd => (nd.2.acts.map (·.clientId), nd.2.fromBuf)) =
      [([1], []), ([2], []), ([], [])] ∧
    (runX wb0 (runsG.map (·.2))).devs.map (fun nd => (nd.2.acts.map (·.clientId), nd.2.fromBuf)) =
      [([1], []), ([2], [1, 2, 3]), ([], [])] ∧
    replyPassRunX wa0 (runsG.map (·.1)) 1 = some 0 ∧ replyPassRunX wb0 (runsG.map (·.2)) 1 = some 0 := by
  rw [ClientPf.bstr_chars]
  decide +kernel

/-! ### quiet client phase -/

def w10 : W := withX Pm.Daemon.Ex.w1 []
def w20 : W := withX Pm.Daemon.Ex.w2 []
def runs : List (PassX × PassX) := Pm.Daemon.Ex.runs.map toX2

theorem relQ : PassRel Pm.Daemon.Ex.Q 1 1 w10 w20 := Pm.Daemon.Ex.rel0.withX [] []

theorem good20 : GoodRun Pm.Daemon.Ex.Q 1 1 w10 w20 Pm.Daemon.Ex.runs :=
  .cons _ _ _ _ _ _ _ _ _ _ _ Pm.Daemon.Ex.hyps1 (.cons _ _ _ _ _ _ _ _ _ _ _ Pm.Daemon.Ex.hyps2 (.nil _ _))

theorem alongQ : AlongX (GoodX Pm.Daemon.Ex.Q 1 1) w10 w20 runs :=
  (goodRun_to_X Pm.Daemon.Ex.Q 1 1 w10 w20 Pm.Daemon.Ex.runs good20 relQ rfl rfl).1

/-! ### an observer of `B` that goes on typing -/

def wh0 : W := withX Ex.wh []
theorem relH : MRel Pm.Daemon.Ex.Q Ex.FB 1 Ex.PBx wh0 wb0 := Ex.relH.withX [] []

theorem observer :
    (cliRec (runX wh0 (Ex.runH.map toX)) 1).map (·.toBuf) =
      some (bstr "304 A: state=connected reconnects=000 actions=002 type= hosts=a1\r\n103 Query complete\r\npowerman> ") ∧
    (cliRec (runX wb0 (Ex.runS.map toX)) 1).map (·.toBuf) =
      some (bstr "304 A: state=connected reconnects=000 actions=001 type= hosts=a1\r\n103 Query complete\r\npowerman> ") := by
  rw [ClientPf.bstr_chars, ClientPf.bstr_chars]
  decide +kernel

end Pm.Daemon.TwoRun.ExC05
