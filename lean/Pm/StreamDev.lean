import Pm.StreamClean
import Pm.FrameDev
/-! For C15 over whole runs: **what a device pass hands to the clients is clean**.

    Every telemetry text the interpreter emits is `send(dev): '…'` / `recv(dev): '…'` with the bytes shown through
    `dbg_memstr` (printable ASCII: `memstr_print`, `teleMem_clean`), `delay(dev): s.uuuuuu` or `connect(dev): timeout`; every
    diagnostic is `node: text` with `node` the node of one of the device's plugs and `text` cut at the first CR or LF
    (`setresult_diag`).  So, the plug nodes of the device being clean, no callback of `dev_post_poll` carries CR or LF
    (`postPoll_clean`). -/
namespace Pm.Daemon.ClientPf
open Pm Pm.Dev2

/-! ### payloads from the device side: `dbg_memstr` text and the diagnostic of `setresult` -/

/-- one byte as `dbg_memstr` shows it -/
def memCell (b : UInt8) : Bytes :=
  if b == 13 then Pm.Dev2.str "\\r" else if b == 10 then Pm.Dev2.str "\\n" else if b == 9 then Pm.Dev2.str "\\t"
  else if Pm.Dev2.isPrint b then [b]
  else
    let ds := Pm.Dev2.octal b.toNat
    let ds := List.replicate (3 - ds.length) (48 : UInt8) ++ ds
    (92 : UInt8) :: ds

theorem memstr_eq (bs : Bytes) : Pm.Dev2.memstr bs = bs.flatMap memCell := rfl

theorem memCell_print_nat : ∀ n, n < 256 → (memCell n.toUInt8).all Pm.Dev2.isPrint = true := by decide +kernel

theorem memCell_print (b : UInt8) : (memCell b).all Pm.Dev2.isPrint = true := by
  have := memCell_print_nat b.toNat (UInt8.toNat_lt b)
  simpa using this

/-- `dbg_memstr` produces printable ASCII only, whatever the device sent -/
theorem memstr_print (bs : Bytes) : ∀ x ∈ Pm.Dev2.memstr bs, 32 ≤ x.toNat ∧ x.toNat ≤ 126 := by
  intro x hx
  rw [memstr_eq, List.mem_flatMap] at hx
  obtain ⟨b, _, hxb⟩ := hx
  have := List.all_eq_true.mp (memCell_print b) x hxb
  simpa [Pm.Dev2.isPrint] using this

theorem print_clean (t : Bytes) (h : ∀ x ∈ t, 32 ≤ x.toNat ∧ x.toNat ≤ 126) : cleanText t = true := by
  simp only [cleanText, List.all_eq_true, Bool.and_eq_true, bne_iff_ne, ne_eq]
  intro x hx
  have := h x hx
  constructor <;> (intro h; subst h; simp at this)

/-- a telemetry line built by `teleMem` (`send(dev): '…'`, `recv(dev): '…'`) is one clean protocol line provided its
    fixed prefix is -/
theorem teleMem_clean (cid : Nat) (pre : String) (bs : Bytes) (hp : cleanText (Pm.Dev2.str pre) = true) :
    ∀ o ∈ Pm.Dev2.teleMem cid pre bs, ∀ c t, o = Pm.Dev2.Out.telemetry c t → cleanText t = true := by
  intro o ho c t hot
  unfold Pm.Dev2.teleMem at ho
  split at ho
  · simp at ho; subst ho; cases hot
  · simp at ho; subst ho; cases hot
    rw [cleanText_append, cleanText_append, hp, print_clean _ (memstr_print bs)]
    decide +kernel

theorem cleanText_take (t : Bytes) (n : Nat) (h : cleanText t = true) : cleanText (t.take n) = true := by
  simp only [cleanText, List.all_eq_true] at h ⊢
  intro x hx; exact h x (List.mem_of_mem_take hx)

/-- the diagnostic `setresult` reports is `node: text` where `node` is the node of one of the device's plugs and
    `text` is the captured status cut at the first CR or LF (and at 1023 bytes) -/
theorem setresult_diag (d : Dev) (a : Action) (o : Oracle) (p s : Int) (i : List (PResult × Nat)) :
    ∀ x ∈ (stmtSetresult d a o p s i).out, ∀ c t, x = Out.diag c t →
      ∃ node txt, t = node ++ str ": " ++ txt ∧ cleanText txt = true ∧ txt.length ≤ 1023 ∧
        ∃ pl ∈ d.plugs, pl.node = some node := by
  obtain ⟨r, h⟩ := Interp.Step.total d a o 0 default [] (.setresult p s i)
  rw [Interp.res_sound h]
  intro x hx c t hxt
  subst hxt
  cases h with
  | resNone _ _ _ _ => cases hx
  | resWrite _ _ _ pn sv plug _ _ hf =>
    rcases List.mem_append.mp hx with hx | hx
    · -- the choice among the interpretations reports mismatches only
      obtain hx | ⟨_, _, e⟩ := pickResult_out sv i o [] _ hx
      · cases hx
      · cases e
    · unfold Interp.resultDiag at hx
      split at hx
      · cases List.mem_singleton.mp hx
        obtain ⟨hm, n, hn⟩ := findPlug_node d pn plug hf
        exact ⟨n, _, by rw [hn]; rfl, cleanText_take _ _ (takeWhile_clean sv), by rw [List.length_take]; exact Nat.min_le_left _ _,
          plug, hm, hn⟩
      · cases hx
  | _ => contradiction

end Pm.Daemon.ClientPf

namespace Pm.Daemon.StreamPf
open Pm Pm.Daemon Pm.Daemon.ClientPf
open Pm.Dev2

/-- the text a callback carries to a client contains neither CR nor LF -/
def OutClean : Out → Prop
  | .telemetry _ t => cleanText t = true
  | .diag _ t => cleanText t = true
  | _ => True

def OutsClean (l : List Out) : Prop := ∀ x ∈ l, OutClean x

theorem OutsClean.nil : OutsClean [] := by intro x hx; cases hx
theorem OutsClean.append {a b : List Out} (ha : OutsClean a) (hb : OutsClean b) : OutsClean (a ++ b) :=
  List.forall_mem_append.mpr ⟨ha, hb⟩

/-- the nodes wired to the device's plugs contain neither CR nor LF -/
def PlugsClean (d : Dev) : Prop := ∀ p ∈ d.plugs, ∀ n, p.node = some n → cleanText n = true

theorem PlugsClean.congr {d d' : Dev} (h : PlugsClean d) (hp : d'.plugs = d.plugs) : PlugsClean d' := by
  unfold PlugsClean; rw [hp]; exact h

theorem str_eq (s : String) : str s = bstr s := rfl

theorem teleMem_outs (cid : Nat) (pre : String) (bs : Bytes) (hp : cleanText (str pre) = true) : OutsClean (teleMem cid pre bs) := by
  intro x hx
  cases x with
  | telemetry c t => exact teleMem_clean cid pre bs hp _ hx c t rfl
  | diag c t =>
    unfold teleMem at hx
    split at hx <;> simp at hx
  | _ => trivial

theorem recv_pre_clean : cleanText (str "recv(dev): '") = true := cleanText_lit (by decide +kernel)
theorem send_pre_clean : cleanText (str "send(dev): '") = true := cleanText_lit (by decide +kernel)

theorem askRx_outs (o : Oracle) (pat : Nat) (s : Bytes) : OutsClean (askRx o pat s).2.2 := fun x hx => by
  obtain ⟨_, _, rfl⟩ := askRx_out o pat s x hx; trivial

theorem pickState_outs (s : Bytes) (l : List (PState × Nat)) (o : Oracle) (errs : List Out) (h : OutsClean errs) :
    OutsClean (pickState askRx s l o errs).2.2 :=
  fun x hx => (pickState_out s l o errs x hx).elim (h x) fun ⟨_, _, e⟩ => e ▸ trivial

theorem pickResult_outs (s : Bytes) (l : List (PResult × Nat)) (o : Oracle) (errs : List Out) (h : OutsClean errs) :
    OutsClean (pickResult askRx s l o errs).2.2 :=
  fun x hx => (pickResult_out s l o errs x hx).elim (h x) fun ⟨_, _, e⟩ => e ▸ trivial

/-- the text of the `delay` telemetry: seconds, a dot, microseconds zero filled -/
theorem delayText_clean (us : Nat) :
    cleanText (str s!"delay(dev): {us / 1000000}.{String.ofList (List.replicate (6 - (toString (us % 1000000)).length) '0')}{us % 1000000}") = true := by
  rw [str_eq]
  simp only [bstr_append, cleanText_append]
  have h1 : cleanText (bstr (toString "delay(dev): ")) = true := by decide +kernel
  have h2 : cleanText (bstr (toString ".")) = true := by decide +kernel
  have h3 : ∀ k, cleanText (bstr (toString (String.ofList (List.replicate k '0')))) = true := zeros_clean
  rw [h1, h2, h3, toString_nat_clean, toString_nat_clean]
  rfl

theorem resultDiag_outs (d : Dev) (hd : PlugsClean d) (a : Action) (plug : Plug) (hm : plug ∈ d.plugs) (res : PResult) (s : Bytes) :
    OutsClean (Interp.resultDiag d a (plug.node.getD []) res s) := by
  unfold Interp.resultDiag
  split
  · intro x hx
    cases List.mem_singleton.mp hx
    have hn : cleanText (plug.node.getD []) = true := by
      cases hpn : plug.node with
      | none => rfl
      | some n => exact hd plug hm n hpn
    show cleanText (plug.node.getD [] ++ str ": " ++ _) = true
    rw [cleanText_append, cleanText_append, hn, cleanText_take _ _ (takeWhile_clean s)]
    decide +kernel
  · exact .nil

/-- **what a statement reports is clean**: telemetry shows device bytes through `dbg_memstr` or is a number; the diagnostic of
    `setresult` names the node of one of the device's plugs and shows the captured text up to its first CR or LF -/
theorem processStmt_outs (d : Dev) (hd : PlugsClean d) (a : Action) (o : Oracle) (now : Time) : OutsClean (processStmt d a o now).out := by
  refine Interp.processStmt_ind d a o now (fun r => OutsClean r.out) (fun _ x hx => by cases List.mem_singleton.mp hx; trivial) ?_
  intro e rest s r _ _ h
  cases h with
  | expectNo pat => exact askRx_outs _ _ _
  | expectYes pat offs =>
    refine (askRx_outs _ _ _).append ?_
    split
    · exact teleMem_outs _ _ _ recv_pre_clean
    · exact .nil
  | sendAbort => intro x hx; cases List.mem_singleton.mp hx; trivial
  | sendFresh fmt t =>
    intro x hx
    rcases List.mem_cons.mp hx with rfl | hx
    · trivial
    · unfold Interp.sendTele at hx
      split at hx
      · cases hx
      · split at hx
        · exact teleMem_outs _ _ _ send_pre_clean x hx
        · cases hx
  | delayDone us | delayWait us =>
    show OutsClean (if e.processing = true then [] else Interp.delayTele a us)
    split
    · exact .nil
    · unfold Interp.delayTele
      split
      · intro x hx; cases List.mem_singleton.mp hx; exact delayText_clean us
      · exact .nil
  | setWrite lit pm sm is pn sv plug => exact pickState_outs sv is o [] .nil
  | resWrite pm sm is pn sv plug _ _ hf =>
    exact (pickResult_outs sv is o [] .nil).append (resultDiag_outs d hd a plug (findPlug_node d pn plug hf).1 _ sv)
  | _ => exact .nil

theorem innerLoop_outs (now : Time) (fuel : Nat) (d : Dev) (hd : PlugsClean d) (a : Action) (o : Oracle) (acc : List Out)
    (hacc : OutsClean acc) : OutsClean (innerLoop now fuel d a o acc).out :=
  innerLoop_induct (now := now) (P := fun d _ _ acc r => PlugsClean d → OutsClean acc → OutsClean r.out)
    (fun d a o _ hd hacc => hacc.append (processStmt_outs d hd a o now))
    (fun d a o _ _ _ _ ih hd hacc =>
      ih (hd.congr (by rw [(processStmt_spec d a o now).dev])) (hacc.append (processStmt_outs d hd a o now)))
    fuel d a o acc hd hacc

theorem finish_outs (l : List Out) (h : ∀ x ∈ l, ∃ c e, x = Out.finish c e) : OutsClean l := by
  intro x hx; obtain ⟨c, e, rfl⟩ := h x hx; trivial

theorem connect_timeout_clean : cleanText (str "connect(dev): timeout") = true := cleanText_lit (by decide +kernel)

theorem timeoutTele_outs (d : Dev) (a : Action) : OutsClean (Fd.timeoutTele d a) := by
  unfold Fd.timeoutTele
  split
  · split
    · intro x hx; simp only [List.mem_singleton] at hx; subst hx; exact connect_timeout_clean
    · exact teleMem_outs _ _ _ recv_pre_clean
  · exact .nil

/-- **every move of the pass reports clean text** (the nodes of the device's plugs being clean, which they stay): what it says for
    the head is the telemetry of a time-out or comes from statements; the rest are completions -/
theorem move_clean {k : Stage} {s s' : PA} (hm : Move k s s') (h : PlugsClean s.1.dev ∧ OutsClean s.2.2.1) :
    PlugsClean s'.1.dev ∧ OutsClean s'.2.2.1 := by
  refine ⟨h.1.congr hm.static.1, ?_⟩
  obtain ⟨said, fins, e, hfin, hs⟩ := hm.says
  rw [e]
  refine (h.2.append ?_).append (finish_outs fins hfin)
  rcases hs with rfl | rfl | ⟨a, rest, _, rfl | rfl⟩
  · exact .nil
  · intro x hx; cases List.mem_singleton.mp hx; trivial
  · exact timeoutTele_outs _ _
  · exact innerLoop_outs _ _ { s.1.dev with wake := none } (h.1.congr rfl) _ _ [] .nil

/-- **every callback of one device's share of `dev_post_poll` carries clean text**, the nodes of the device's plugs being
    clean; and they still are afterwards -/
theorem postPoll_clean (d : Dev) (env : Env) (o : Oracle) (hd : PlugsClean d) :
    PlugsClean (postPoll d env o).1.dev ∧ OutsClean (postPoll d env o).2.2.1 :=
  (postPoll_run d env o).keeps (fun _ _ _ hm => move_clean hm) ⟨hd, .nil⟩

end Pm.Daemon.StreamPf

/-! axiom audit (expected: at most `propext`, `Classical.choice`, `Quot.sound`) -/
#print axioms Pm.Daemon.StreamPf.postPoll_clean
#print axioms Pm.Daemon.StreamPf.delayText_clean
