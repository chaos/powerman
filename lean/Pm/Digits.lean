import Pm.Num
namespace Pm

def parseNat (ds : List Char) : Nat := ds.foldl (fun a c => a * 10 + (c.toNat - 48)) 0

theorem parseNat_snoc (ds : List Char) (c : Char) :
    parseNat (ds ++ [c]) = parseNat ds * 10 + (c.toNat - 48) := by
  simp [parseNat, List.foldl_append]

theorem digit_bounds (c : Char) (h : c.isDigit = true) : 48 ≤ c.toNat ∧ c.toNat ≤ 57 := by
  unfold Char.isDigit at h
  simp only [Bool.and_eq_true, decide_eq_true_eq, ge_iff_le] at h
  obtain ⟨h1, h2⟩ := h
  exact ⟨UInt32.le_iff_toNat_le.mp h1, UInt32.le_iff_toNat_le.mp h2⟩

theorem digitChar_of_digit (c : Char) (h : c.isDigit = true) : Nat.digitChar (c.toNat - 48) = c := by
  obtain ⟨h48, h57⟩ := digit_bounds c h
  have hc : Char.ofNat c.toNat = c := Char.ofNat_toNat c
  generalize hk : c.toNat - 48 = k
  have hlt : k < 10 := by omega
  have hn : c.toNat = 48 + k := by omega
  rw [← hc, hn]
  match k, hlt with
  | 0, _ | 1, _ | 2, _ | 3, _ | 4, _ | 5, _ | 6, _ | 7, _ | 8, _ | 9, _ => rfl

theorem snoc_induction {α : Type} {P : List α → Prop} (hnil : P [])
    (hsnoc : ∀ l a, P l → P (l ++ [a])) : ∀ l, P l := by
  intro l
  have h : ∀ r : List α, P r.reverse := by
    intro r
    induction r with
    | nil => simpa using hnil
    | cons a r ih => simpa using hsnoc _ a ih
  simpa using h l.reverse

/-- left-pad with zeros to width `w` -/
def lpad (w : Nat) (l : List Char) : List Char := List.replicate (w - l.length) '0' ++ l

theorem fmtNum_eq_lpad (w n : Nat) : fmtNum w n = lpad w (Nat.toDigits 10 n) := by
  unfold fmtNum lpad zeroPadded ndig
  split
  · rfl
  · congr 2; omega

theorem lpad_parse : ∀ (ds : List Char), ds ≠ [] → (∀ c ∈ ds, c.isDigit = true) →
    lpad ds.length (Nat.toDigits 10 (parseNat ds)) = ds := by
  intro ds
  induction ds using snoc_induction with
  | hnil => intro h; exact absurd rfl h
  | hsnoc ds' c ih =>
    intro _ hall
    have hc : c.isDigit = true := hall c (by simp)
    have hall' : ∀ x ∈ ds', x.isDigit = true := fun x hx => hall x (by simp [hx])
    have hd : c.toNat - 48 < 10 := by have := digit_bounds c hc; omega
    rw [parseNat_snoc]
    by_cases hnil : ds' = []
    · subst hnil
      simp [parseNat, lpad, Nat.toDigits_of_lt_base hd, digitChar_of_digit c hc]
    · have ih' := ih hnil hall'
      by_cases hv : parseNat ds' = 0
      · -- all zeros so far
        rw [hv] at ih' ⊢
        simp only [Nat.zero_mul, Nat.zero_add]
        rw [Nat.toDigits_of_lt_base hd, digitChar_of_digit c hc]
        simp only [Nat.toDigits_zero, lpad, List.length_cons, List.length_nil, List.length_append] at ih' ⊢
        have hlen : 0 < ds'.length := List.length_pos_iff.mpr hnil
        have : ds'.length + 1 - (0 + 1) = (ds'.length - (0 + 1)) + 1 := by omega
        rw [this, List.replicate_succ']
        rw [List.append_assoc]
        show List.replicate (ds'.length - (0 + 1)) '0' ++ (['0'] ++ [c]) = ds' ++ [c]
        rw [← List.append_assoc, ih']
      · have hpos : 0 < parseNat ds' := Nat.pos_of_ne_zero hv
        have happ := Nat.toDigits_append_toDigits (b := 10) (n := parseNat ds') (d := c.toNat - 48) (by decide) hpos hd
        rw [Nat.toDigits_of_lt_base hd, digitChar_of_digit c hc] at happ
        have : parseNat ds' * 10 + (c.toNat - 48) = 10 * parseNat ds' + (c.toNat - 48) := by omega
        rw [this, ← happ]
        unfold lpad at ih' ⊢
        simp only [List.length_append, List.length_cons, List.length_nil]
        have : ds'.length + 1 - ((Nat.toDigits 10 (parseNat ds')).length + 1) = ds'.length - (Nat.toDigits 10 (parseNat ds')).length := by omega
        rw [this, ← List.append_assoc, ih']

theorem fmtNum_parse (ds : List Char) (h : ds ≠ []) (hall : ∀ c ∈ ds, c.isDigit = true) :
    fmtNum ds.length (parseNat ds) = ds := by
  rw [fmtNum_eq_lpad]; exact lpad_parse ds h hall

end Pm

