/- two small stand-alone models: C12 (the reconnect back-off), C09 (the write side of a cbuf) -/
namespace Pm.Backoff

/-- the delays of `device.c:_time_to_reconnect`, written out by hand: nothing ties this copy to the source (the
    regenerated table is `Pm.Generated.rtab`, which `TablesCheck.rtab_agrees` compares with the model's) -/
def rtab : List Nat := [1, 2, 4, 8, 15, 30, 60]

theorem rtab_ge_one : ∀ x ∈ rtab, 1 ≤ x := by decide

abbrev Time := Nat
def sec : Time := 1000000

structure Dev where
  retryCount : Nat
  lastRetry : Time

/-- `_time_to_reconnect`: true = attempt now -/
def timeToReconnect (d : Dev) (now : Time) : Bool :=
  if d.retryCount > 0 then
    decide (d.lastRetry + (rtab.getD (min (d.retryCount - 1) 6) 60) * sec ≤ now)
  else true

/-- `_connect` bookkeeping -/
def connect (d : Dev) (now : Time) : Dev := { retryCount := d.retryCount + 1, lastRetry := now }

theorem rtab_getD_ge_one (i : Nat) : 1 ≤ rtab.getD (min i 6) 60 := by
  have : min i 6 ≤ 6 := Nat.min_le_right _ _
  match h : min i 6, this with
  | 0, _ | 1, _ | 2, _ | 3, _ | 4, _ | 5, _ | 6, _ => decide

/-- two consecutive attempts with no client enqueue in between (which is the only thing that resets
    `retry_count`) are at least one second apart -/
theorem C12_backoff_step (d : Dev) (t1 t2 : Time)
    (h2 : timeToReconnect (connect d t1) t2 = true) : t1 + sec ≤ t2 := by
  unfold timeToReconnect connect at h2
  simp only [Nat.add_one_sub_one, gt_iff_lt, Nat.zero_lt_succ, if_true, decide_eq_true_eq] at h2
  have := rtab_getD_ge_one d.retryCount
  calc t1 + sec ≤ t1 + rtab.getD (min d.retryCount 6) 60 * sec := by
        apply Nat.add_le_add_left
        exact Nat.le_mul_of_pos_left sec this
    _ ≤ t2 := h2

/-! write side of a cbuf: whatever the sequence of short-write counts, the descriptor receives the
    queued bytes once and in order -/
def drain (q : List UInt8) : List Nat → List UInt8 × List UInt8     -- (delivered, still queued)
  | [] => ([], q)
  | k :: ks =>
    let r := drain (q.drop k) ks
    (q.take k ++ r.1, r.2)

theorem C09_write_side (q : List UInt8) (ks : List Nat) : (drain q ks).1 ++ (drain q ks).2 = q := by
  induction ks generalizing q with
  | nil => simp [drain]
  | cons k ks ih =>
    simp only [drain, List.append_assoc]
    rw [ih (q.drop k), List.take_append_drop]

end Pm.Backoff

