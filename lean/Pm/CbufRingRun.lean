import Pm.CbufRingLine
/-! Whole runs of cbuf operations: every sequence of calls of the API that `powermand` uses, with any arguments and any
descriptor behaviour, keeps `cbuf_is_valid` true and fires no assertion. -/
namespace Pm.CbufRing

/-- one call of the used API with its arguments; descriptors are given by what they will answer -/
inductive Op where
  | opt (v : Int)
  | flushAll
  | dropN (len : Int)
  | peekN (len : Int)
  | wr (src : List UInt8)
  | wrFd (len : Int) (s : Src)
  | rdFd (len : Int) (d : Dst)
  | rdLine (len lines : Int)

/-- the ring after the call, and whether every assertion held -/
def Op.apply (r : Ring) : Op → Ring × Bool
  | .opt v => ((optSet r v).2, r.valid && (optSet r v).2.valid)
  | .flushAll => (flush r, r.valid && (flush r).valid)
  | .dropN len => ((drop r len).2.1, (drop r len).2.2)
  | .peekN len => (r, (peek r len).2.2)
  | .wr src => ((write r src).ring, (write r src).ok)
  | .wrFd len s => ((writeFromFd r len s).ring, (writeFromFd r len s).ok)
  | .rdFd len d => ((readToFd r len d).2.1, (readToFd r len d).2.2.2)
  | .rdLine len lines => ((readLine r len lines).2.2.1, (readLine r len lines).2.2.2)

/-- a sequence of calls: the ring at the end, and whether every assertion along the way held -/
def run (r : Ring) : List Op → Ring × Bool
  | [] => (r, true)
  | op :: ops => ((run (op.apply r).1 ops).1, (op.apply r).2 && (run (op.apply r).1 ops).2)

/-- what every call does to a valid ring, whatever else it does: the ring stays valid, the limits stay, the size does not
    shrink (`cbuf_shrink` is not implemented) -/
structure Step (r r' : Ring) : Prop where
  valid : ValidP r'
  maxsize : r'.maxsize = r.maxsize
  minsize : r'.minsize = r.minsize
  size_le : r.size ≤ r'.size

theorem Took.step {r r' : Ring} {n : Nat} (t : Took r n r') : Step r r' :=
  ⟨t.valid, t.maxsize, t.minsize, t.size_le⟩

theorem Wrote.step {r : Ring} {len : Nat} {g : Getter} {d : Nat} {w : WOut} (hw : Wrote r (sizeAfter r len) g d w) (h : ValidP r) :
    Step r w.ring :=
  ⟨hw.valid, hw.maxsize, hw.minsize, hw.size ▸ (sizeAfter_bounds r len h).1⟩

/-- every call of the API is a `Step`, and none of its assertions fires: the calls that consume are `Took`, the calls that
    store are `Wrote`, the others leave the queue alone -/
theorem Op.apply_step (r : Ring) (op : Op) (h : ValidP r) : Step r (op.apply r).1 ∧ (op.apply r).2 = true := by
  have hv := (valid_iff r).mpr h
  have same : Step r r := (Took.none h).step
  cases op with
  | opt v =>
    obtain ⟨o, e⟩ := optSet_ring r v
    have hs := optSet_valid r v h
    have hm : Step r (optSet r v).2 := ⟨hs, by rw [e], by rw [e], by rw [e]; exact Nat.le_refl _⟩
    exact ⟨hm, by simp [Op.apply, hv, (valid_iff _).mpr hs]⟩
  | flushAll => exact ⟨⟨flush_valid r h, rfl, rfl, Nat.le_refl _⟩, by simp [Op.apply, hv, (valid_iff _).mpr (flush_valid r h)]⟩
  | dropN len =>
    by_cases hl : len < -1
    · simp only [Op.apply, drop_refused r len hl]; exact ⟨same, trivial⟩
    · have ⟨t, ok, _⟩ := drop_spec r len h (Int.not_lt.mp hl); exact ⟨t.step, ok⟩
  | peekN len => exact ⟨same, (peek_spec r len h).1⟩
  | wr src => have ⟨_, w, _⟩ := write_spec r src h; exact ⟨w.step h, w.ok⟩
  | wrFd len s =>
    by_cases hl : len < -1
    · simp only [Op.apply, writeFromFd_refused r len s hl]; exact ⟨same, trivial⟩
    · have ⟨w, _⟩ := writeFromFd_spec r len s h (Int.not_lt.mp hl); exact ⟨w.step h, w.ok⟩
  | rdFd len d =>
    by_cases hl : len < -1
    · simp only [Op.apply, readToFd_refused r len d hl]; exact ⟨same, trivial⟩
    · have ⟨t, ok, _⟩ := readToFd_spec r len d h (Int.not_lt.mp hl); exact ⟨t.step, ok⟩
  | rdLine len lines =>
    by_cases hl : len < 0 ∨ lines < -1
    · simp only [Op.apply, readLine_refused r len lines hl]; exact ⟨same, trivial⟩
    · by_cases h0 : lines = 0
      · subst h0; simp only [Op.apply, readLine_zero r len (by omega)]; exact ⟨same, trivial⟩
      · have ⟨t, ok, _⟩ := readLine_spec r len lines h (by omega) h0 (by omega); exact ⟨t.step, ok⟩

theorem run_valid (r : Ring) (ops : List Op) (h : ValidP r) : ValidP (run r ops).1 ∧ (run r ops).2 = true := by
  induction ops generalizing r with
  | nil => exact ⟨h, rfl⟩
  | cons op ops ih =>
    obtain ⟨h1, h2⟩ := Op.apply_step r op h
    obtain ⟨h3, h4⟩ := ih (op.apply r).1 h1.valid
    exact ⟨h3, by simp [run, h2, h4]⟩

/-- the buffer grows until it has room for what was asked, or to the cap -/
theorem sizeAfter_cases (r : Ring) (len : Nat) (h : ValidP r) :
    sizeAfter r len = r.maxsize ∨ r.used + len ≤ sizeAfter r len := by
  have hu := h.used_le
  have hm := h.le_max
  unfold sizeAfter
  by_cases c : len > r.size - r.used ∧ r.size < r.maxsize
  · rw [if_pos c, grownSize_eq_growTo r _ h]
    have hle := Pm.Cbuf.growTo_le r.size (len - (r.size - r.used)) r.maxsize hm
    by_cases hlt : Pm.Cbuf.growTo r.size (len - (r.size - r.used)) r.maxsize < r.maxsize
    · have := Pm.Cbuf.growTo_grows r.size (len - (r.size - r.used)) r.maxsize hlt
      omega
    · omega
  · rw [if_neg c]; omega

/-- **the ring is a byte queue bounded by `maxsize`**: whatever `cbuf_writer` stored of a request for `len` bytes, the size
    the buffer grew to drops out of the count of lost bytes, and bytes are lost only by a buffer that has reached `maxsize` -/
theorem Wrote.bounded {r : Ring} {len : Nat} {g : Getter} {d : Nat} {w : WOut} (hw : Wrote r (sizeAfter r len) g d w)
    (h : ValidP r) (hd : d ≤ len) :
    w.ndropped = r.used + d - r.maxsize ∧ w.ring.contents = (r.contents ++ g.pending.take d).drop w.ndropped ∧
    (0 < w.ndropped → w.ring.size = r.maxsize) := by
  have hle := (sizeAfter_bounds r len h).2
  have hc := sizeAfter_cases r len h
  have hn := hw.ndropped
  refine ⟨?_, by rw [hw.contents, hn], fun hp => ?_⟩
  · rcases hc with hc | hc
    · rw [hn, hc]
    · omega
  · rw [hw.size]
    exact hc.resolve_right (by omega)

theorem write_wrapMany (r : Ring) (src : List UInt8) (h : ValidP r) (hm : r.overwrite = .wrapMany) :
    Wrote r (sizeAfter r src.length) (.mem src) src.length (write r src) ∧ (write r src).rc = (src.length : Nat) := by
  obtain ⟨d, w, _, hs⟩ := write_spec r src h
  obtain ⟨rfl, hrc⟩ := hs src.length (by rw [hm]; rfl)
  exact ⟨w, hrc⟩

#print axioms run_valid
#print axioms Op.apply_step
#print axioms write_spec
#print axioms writeFromFd_spec
#print axioms writeFromFd_readPlan
#print axioms readToFd_spec
#print axioms peek_spec
#print axioms drop_spec
#print axioms grow_spec
#print axioms readLine_spec
#print axioms readLine_one
#print axioms create_valid

end Pm.CbufRing
