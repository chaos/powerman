import Pm.CbufRing
/-! Ground work for the refinement proof of the index-level cbuf model (`Pm/CbufRing.lean`): arithmetic modulo the
array length, ring slices (`rslice`), `blit`, byte-wise writes and the ring as a byte queue (`rslice_pokes`), the invariant
as a proposition (`ValidP`) with its additive reading (`ValidP.geom`, `ValidP.of_geom`), and `contents` as a slice. -/
namespace Pm.CbufRing

/-! ### arithmetic modulo a variable `N`: every index expression of `cbuf.c` is below `2 * N` -/

theorem mod2 (a N : Nat) (h : a < 2 * N) : (a < N ∧ a % N = a) ∨ (N ≤ a ∧ a % N = a - N) := by
  by_cases h1 : a < N
  · left; exact ⟨h1, Nat.mod_eq_of_lt h1⟩
  · right
    refine ⟨by omega, ?_⟩
    rw [Nat.mod_eq_sub_mod (by omega)]
    exact Nat.mod_eq_of_lt (by omega)

/-- fewer than `N` consecutive slots are distinct -/
theorem add_mod_ne (N o k u : Nat) (ho : o < N) (hk : k < u) (hu : u < N) : (o + k) % N ≠ (o + u) % N := by
  have := mod2 (o + k) N (by omega)
  have := mod2 (o + u) N (by omega)
  omega

/-! The index assertions of `cbuf_is_valid` say where `i_in` (`i`), `i_out` (`o`) and `i_rep` (`p`) lie relative to one
another, case by case and with subtractions under `%`.  Additively they say: going round the `S + 1` slots from `p`, some
`R` replay bytes lead to `o` and `u` unread bytes more lead to `i`, with `R + u ≤ S`.  The lemmas below convert; the
proofs about the operations use the additive form, where moving an index is rewriting with `Nat.mod_add_mod`. -/

/-- the distance from slot `p` forward to the slot `R` further on -/
theorem add_mod_sub (S p R : Nat) (hp : p ≤ S) (hR : R ≤ S) : ((p + R) % (S + 1) + (S + 1) - p) % (S + 1) = R := by
  rcases mod2 (p + R) (S + 1) (by omega) with ⟨_, h2⟩ | ⟨_, h2⟩
  · rw [h2, show p + R + (S + 1) - p = R + (S + 1) by omega, Nat.add_mod_right, Nat.mod_eq_of_lt (by omega)]
  · rw [h2, show p + R - (S + 1) + (S + 1) - p = R by omega, Nat.mod_eq_of_lt (by omega)]

/-- the free-space assertion of `cbuf_is_valid` when `i_in` is `u` slots after `o` -/
theorem free_eq (S o u : Nat) (ho : o ≤ S) (hu : u ≤ S) : (o + (S + 1) - (o + u) % (S + 1) - 1) % (S + 1) = S - u := by
  rcases mod2 (o + u) (S + 1) (by omega) with ⟨_, h2⟩ | ⟨_, h2⟩
  · rw [h2, show o + (S + 1) - (o + u) - 1 = S - u by omega, Nat.mod_eq_of_lt (by omega)]
  · rw [h2, show o + (S + 1) - (o + u - (S + 1)) - 1 = S - u + (S + 1) by omega, Nat.add_mod_right,
      Nat.mod_eq_of_lt (by omega)]

theorem in_eq_of_free (S i o u : Nat) (hi : i ≤ S) (ho : o ≤ S) (hu : u ≤ S)
    (nf : S - u = (o + (S + 1) - i - 1) % (S + 1)) : i = (o + u) % (S + 1) := by
  rcases mod2 (o + (S + 1) - i - 1) (S + 1) (by omega) with ⟨_, h2⟩ | ⟨_, h2⟩
  · rw [show o + u = i by omega, Nat.mod_eq_of_lt (by omega)]
  · rw [show o + u = i + (S + 1) by omega, Nat.add_mod_right, Nat.mod_eq_of_lt (by omega)]

/-- the assertions on `i_rep`, from the additive form -/
theorem rep_of_geom (S i o p u R : Nat) (hp : p ≤ S) (hR : R + u ≤ S)
    (ho : o = (p + R) % (S + 1)) (hi : i = (p + R + u) % (S + 1)) :
    i ≤ S ∧ o ≤ S ∧ (o ≤ i → p > i ∨ p ≤ o) ∧ (i < o → p > i ∧ p ≤ o) := by
  have mo := mod2 (p + R) (S + 1) (by omega)
  have mi := mod2 (p + R + u) (S + 1) (by omega)
  rw [← ho] at mo
  rw [← hi] at mi
  omega

/-- the additive form, from the assertions on `i_rep` -/
theorem geom_of_rep (S i o p u : Nat) (ho : o ≤ S) (hp : p ≤ S) (hu : u ≤ S)
    (r1 : o ≤ i → p > i ∨ p ≤ o) (r2 : i < o → p > i ∧ p ≤ o) (hi : i = (o + u) % (S + 1)) :
    ∃ R, R + u ≤ S ∧ o = (p + R) % (S + 1) := by
  have m := mod2 (o + u) (S + 1) (by omega)
  rw [← hi] at m
  by_cases hpo : p ≤ o
  · refine ⟨o - p, by omega, ?_⟩
    rw [show p + (o - p) = o by omega, Nat.mod_eq_of_lt (by omega)]
  · refine ⟨o + (S + 1) - p, by omega, ?_⟩
    rw [show p + (o + (S + 1) - p) = o + (S + 1) by omega, Nat.add_mod_right, Nat.mod_eq_of_lt (by omega)]

/-- `n` bytes read off `data` from slot `i` on, modulo `N` -/
def rslice (data : List UInt8) (N i n : Nat) : List UInt8 :=
  (List.range n).map fun k => data.getD ((i + k) % N) 0

@[simp] theorem rslice_length (data : List UInt8) (N i n : Nat) : (rslice data N i n).length = n := by
  simp [rslice]

@[simp] theorem rslice_zero (data : List UInt8) (N i : Nat) : rslice data N i 0 = [] := by
  simp [rslice]

theorem getElem?_rslice (data : List UInt8) (N i n k : Nat) :
    (rslice data N i n)[k]? = if k < n then some (data.getD ((i + k) % N) 0) else none := by
  unfold rslice
  rw [List.getElem?_map]
  by_cases h : k < n
  · simp [h]
  · simp [h]

theorem rslice_succ (data : List UInt8) (N i n : Nat) :
    rslice data N i (n + 1) = rslice data N i n ++ [data.getD ((i + n) % N) 0] := by
  simp [rslice, List.range_succ]

theorem rslice_add (data : List UInt8) (N i a b : Nat) :
    rslice data N i (a + b) = rslice data N i a ++ rslice data N ((i + a) % N) b := by
  unfold rslice
  rw [List.range_add, List.map_append, List.map_map]
  congr 1
  apply List.map_congr_left
  intro k _
  simp only [Function.comp]
  rw [Nat.mod_add_mod, Nat.add_assoc]

theorem rslice_take (data : List UInt8) (N i n m : Nat) :
    (rslice data N i n).take m = rslice data N i (min m n) := by
  unfold rslice
  rw [← List.map_take, List.take_range]

theorem rslice_drop (data : List UInt8) (N i n m : Nat) :
    (rslice data N i n).drop m = rslice data N ((i + m) % N) (n - m) := by
  by_cases h : m ≤ n
  · have : n = m + (n - m) := by omega
    conv => lhs; rw [this, rslice_add]
    exact List.drop_left' (by simp)
  · have h1 : n - m = 0 := by omega
    rw [h1, rslice_zero]
    apply List.drop_eq_nil_of_le
    simp; omega

theorem rslice_congr (data data' : List UInt8) (N N' i i' n : Nat)
    (h : ∀ k, k < n → data.getD ((i + k) % N) 0 = data'.getD ((i' + k) % N') 0) :
    rslice data N i n = rslice data' N' i' n := by
  unfold rslice
  apply List.map_congr_left
  intro k hk
  exact h k (by simpa using hk)

theorem rslice_contig (data : List UInt8) (N i n : Nat) (h : i + n ≤ N) (hl : N ≤ data.length) :
    rslice data N i n = (data.drop i).take n := by
  apply List.ext_getElem?
  intro k
  rw [getElem?_rslice, List.getElem?_take, List.getElem?_drop]
  by_cases hk : k < n
  · simp only [hk, ↓reduceIte]
    rw [Nat.mod_eq_of_lt (by omega), List.getD_eq_getElem?_getD, List.getElem?_eq_getElem (by omega)]
    simp
  · simp [hk]

theorem rot_take_eq_rslice (data : List UInt8) (N i n : Nat) (hl : data.length = N) (hi : i < N) (hn : n ≤ N) :
    (data.drop i ++ data.take i).take n = rslice data N i n := by
  apply List.ext_getElem?
  intro k
  rw [getElem?_rslice, List.getElem?_take]
  by_cases hk : k < n
  · simp only [hk, ↓reduceIte]
    rw [List.getElem?_append, List.length_drop, List.getElem?_drop, List.getElem?_take]
    have h2 := mod2 (i + k) N (by omega)
    by_cases hw : k < data.length - i
    · simp only [hw, ↓reduceIte]
      rw [List.getD_eq_getElem?_getD]
      have : (i + k) % N = i + k := by omega
      rw [this, List.getElem?_eq_getElem (by omega)]; simp
    · simp only [hw, ↓reduceIte]
      have h3 : k - (data.length - i) < i := by omega
      simp only [h3, ↓reduceIte]
      rw [List.getD_eq_getElem?_getD]
      have : (i + k) % N = k - (data.length - i) := by omega
      rw [this, List.getElem?_eq_getElem (by omega)]; simp
  · simp [hk]

@[simp] theorem blit_length (data : List UInt8) (i : Nat) (bs : List UInt8) (h : i + bs.length ≤ data.length) :
    (blit data i bs).length = data.length := by
  simp [blit]; omega

theorem blit_nil (data : List UInt8) (i : Nat) : blit data i [] = data := by
  simp [blit]

theorem blit_cons (data : List UInt8) (i : Nat) (b : UInt8) (bs : List UInt8) (h : i < data.length) :
    blit data i (b :: bs) = blit (data.set i b) (i + 1) bs := by
  unfold blit
  rw [List.take_succ_eq_append_getElem (by rw [List.length_set]; exact h), List.getElem_set_self,
    List.take_set_of_le (Nat.le_refl i), List.drop_set_of_lt (show i < i + 1 + bs.length by omega), List.length_cons,
    Nat.add_assoc i 1, Nat.add_comm 1, List.append_assoc, List.append_assoc, List.append_assoc]
  rfl

theorem getElem?_blit (data : List UInt8) (i : Nat) (bs : List UInt8) (h : i + bs.length ≤ data.length) (j : Nat) :
    (blit data i bs)[j]? = if i ≤ j ∧ j < i + bs.length then bs[j - i]? else data[j]? := by
  unfold blit
  rw [List.append_assoc, List.getElem?_append, List.length_take, List.getElem?_take, List.getElem?_append,
    List.getElem?_drop]
  have hm : min i data.length = i := by omega
  rw [hm]
  by_cases h1 : j < i
  · have : ¬ (i ≤ j ∧ j < i + bs.length) := by omega
    simp [h1, this]
  · by_cases h2 : j < i + bs.length
    · have h3 : j - i < bs.length := by omega
      have : i ≤ j ∧ j < i + bs.length := by omega
      simp [h1, h3, this]
    · have h3 : ¬ (j - i < bs.length) := by omega
      have : ¬ (i ≤ j ∧ j < i + bs.length) := by omega
      simp only [h1, h3, this, ↓reduceIte]
      congr 1; omega

theorem getD_blit (data : List UInt8) (i : Nat) (bs : List UInt8) (h : i + bs.length ≤ data.length) (j : Nat) :
    (blit data i bs).getD j 0 = if i ≤ j ∧ j < i + bs.length then bs.getD (j - i) 0 else data.getD j 0 := by
  simp only [List.getD_eq_getElem?_getD, getElem?_blit data i bs h j]
  split <;> rfl

/-- byte-wise writes from slot `i` on, modulo `N` -/
def pokes (data : List UInt8) (N i : Nat) : List UInt8 → List UInt8
  | [] => data
  | b :: bs => pokes (data.set i b) N ((i + 1) % N) bs

@[simp] theorem pokes_length (data : List UInt8) (N i : Nat) (bs : List UInt8) : (pokes data N i bs).length = data.length := by
  induction bs generalizing data i with
  | nil => rfl
  | cons b bs ih => simp [pokes, ih]

theorem pokes_append (data : List UInt8) (N i : Nat) (a b : List UInt8) (hi : i < N) :
    pokes data N i (a ++ b) = pokes (pokes data N i a) N ((i + a.length) % N) b := by
  induction a generalizing data i with
  | nil => simp [pokes, Nat.mod_eq_of_lt hi]
  | cons x a ih =>
    simp only [List.cons_append, pokes, List.length_cons]
    rw [ih _ _ (Nat.mod_lt _ (by omega)), Nat.mod_add_mod]
    congr 2; omega

theorem blit_eq_pokes (data : List UInt8) (N i : Nat) (bs : List UInt8) (h : i + bs.length ≤ N) (hl : data.length = N) :
    blit data i bs = pokes data N i bs := by
  induction bs generalizing data i with
  | nil => exact blit_nil data i
  | cons b bs ih =>
    rw [List.length_cons] at h
    rw [blit_cons data i b bs (by omega)]
    show _ = pokes (data.set i b) N ((i + 1) % N) bs
    -- after the last byte `(i + 1) % N` may wrap; nothing is written from there
    by_cases hb : bs = []
    · subst hb
      exact blit_nil _ _
    · have hbl : 0 < bs.length := List.length_pos_iff.mpr hb
      rw [Nat.mod_eq_of_lt (by omega)]
      exact ih _ _ (by omega) (by rw [List.length_set]; exact hl)

theorem getD_set (data : List UInt8) (i j : Nat) (b : UInt8) :
    (data.set i b).getD j 0 = if i = j ∧ j < data.length then b else data.getD j 0 := by
  simp only [List.getD_eq_getElem?_getD, List.getElem?_set]
  by_cases h : i = j
  · subst h
    by_cases h2 : i < data.length
    · simp [h2]
    · simp [h2]
  · simp [h]

/-- storing a byte just behind a slice of fewer than `N` bytes extends the slice by it -/
theorem rslice_set_snoc (data : List UInt8) (N o u : Nat) (b : UInt8) (hl : data.length = N) (ho : o < N) (hu : u < N) :
    rslice (data.set ((o + u) % N) b) N o (u + 1) = rslice data N o u ++ [b] := by
  have hi : (o + u) % N < data.length := hl ▸ Nat.mod_lt _ (by omega)
  rw [rslice_succ, getD_set, if_pos ⟨rfl, hi⟩]
  congr 1
  apply rslice_congr
  intro k hk
  rw [getD_set, if_neg (fun h => add_mod_ne N o k u ho hk hu h.1.symm)]

/-- `bs` stored byte by byte behind `u` unread bytes: the unread bytes are then the old ones followed by `bs`, minus
    the `d` oldest, which were overwritten because a ring of `N` slots holds `N - 1` bytes (`u'` are left: all of them,
    `d = 0`, or a full ring) -/
theorem rslice_pokes (N : Nat) (bs data : List UInt8) (o u u' d : Nat) (hl : data.length = N) (ho : o < N)
    (hu : u < N) (hu' : u' < N) (hs : u' + d = u + bs.length) (hd : d = 0 ∨ u' + 1 = N) :
    rslice (pokes data N ((o + u) % N) bs) N ((o + d) % N) u' = (rslice data N o u ++ bs).drop d := by
  induction bs generalizing data o u d with
  | nil =>
    have : d = 0 := by simp at hs; omega
    have : u' = u := by simp at hs; omega
    subst d u'
    rw [pokes, Nat.add_zero, Nat.mod_eq_of_lt ho, List.append_nil, List.drop_zero]
  | cons b bs ih =>
    have hsn := rslice_set_snoc data N o u b hl ho hu
    have hl' : (data.set ((o + u) % N) b).length = N := by rw [List.length_set, hl]
    rw [List.length_cons] at hs
    rw [pokes, Nat.mod_add_mod]
    by_cases hf : u + 1 < N
    · -- room for `b`
      rw [Nat.add_assoc o u 1, ih _ o (u + 1) d hl' ho hf (by omega) hd, hsn, List.append_assoc]
      rfl
    · -- the ring is full: the oldest byte makes room, the read position moves on
      obtain ⟨e, rfl⟩ : ∃ e, d = e + 1 := ⟨d - 1, by omega⟩
      have := ih _ ((o + 1) % N) u e hl' (Nat.mod_lt _ (by omega)) hu (by omega) (by omega)
      rw [Nat.mod_add_mod, Nat.mod_add_mod, Nat.add_right_comm, Nat.add_assoc o 1, Nat.add_comm 1 e] at this
      rw [this, ← Nat.add_sub_cancel (n := u) (m := 1), ← rslice_drop, Nat.add_sub_cancel, hsn,
        ← List.drop_append_of_le_length (by simp), List.drop_drop, List.append_assoc, Nat.add_comm 1 e]
      rfl

/-- `cbuf_is_valid` as a proposition -/
structure ValidP (r : Ring) : Prop where
  len : r.data.length = r.size + 1
  alloc : r.alloc = r.size + 1 + 2 * magicLen
  size_pos : 0 < r.size
  min_le : r.minsize ≤ r.size
  le_max : r.size ≤ r.maxsize
  min_pos : 0 < r.minsize
  used_le : r.used ≤ r.size
  wrap : r.got_wrap = true ∨ r.i_rep = 0
  in_le : r.i_in ≤ r.size
  out_le : r.i_out ≤ r.size
  rep_le : r.i_rep ≤ r.size
  rep1 : r.i_out ≤ r.i_in → (r.i_rep > r.i_in ∨ r.i_rep ≤ r.i_out)
  rep2 : r.i_in < r.i_out → (r.i_rep > r.i_in ∧ r.i_rep ≤ r.i_out)
  nfree : r.size - r.used = (r.i_out + (r.size + 1) - r.i_in - 1) % (r.size + 1)

theorem valid_iff (r : Ring) : r.valid = true ↔ ValidP r := by
  unfold Ring.valid
  constructor
  · intro h
    simp only [Bool.and_eq_true, beq_iff_eq, decide_eq_true_eq, Bool.or_eq_true] at h
    obtain ⟨⟨⟨⟨⟨⟨⟨⟨⟨⟨⟨⟨⟨⟨⟨h1, h2⟩, _⟩, _⟩, h5⟩, h6⟩, h7⟩, h8⟩, _⟩, h10⟩, h11⟩, h12⟩, h13⟩, h14⟩, h15⟩, h16⟩ := h
    refine ⟨h1, h2, h5, h6, h7, h8, h10, h11, h12, h13, h14, ?_, ?_, h16⟩
    · intro hh
      have : r.i_in ≥ r.i_out := hh
      simpa [this] using h15
    · intro hh
      have : ¬ (r.i_in ≥ r.i_out) := by omega
      simpa [this] using h15
  · intro h
    have ⟨h1, h2, h5, h6, h7, h8, h10, h11, h12, h13, h14, h15a, h15b, h16⟩ := h
    simp only [Bool.and_eq_true, beq_iff_eq, decide_eq_true_eq, Bool.or_eq_true]
    have hm : magicLen = 8 := rfl
    refine ⟨⟨⟨⟨⟨⟨⟨⟨⟨⟨⟨⟨⟨⟨⟨h1, h2⟩, by omega⟩, by omega⟩, h5⟩, h6⟩, h7⟩, h8⟩, by omega⟩, h10⟩, h11⟩, h12⟩, h13⟩, h14⟩, ?_⟩, h16⟩
    by_cases hh : r.i_in ≥ r.i_out
    · simpa [hh] using h15a hh
    · simpa [hh] using h15b (by omega)

theorem ValidP.of_valid {r : Ring} (h : r.valid = true) : ValidP r := (valid_iff r).mp h

theorem ValidP.valid_true {r : Ring} (h : ValidP r) : r.valid = true := (valid_iff r).mpr h

theorem ValidP.in_eq {r : Ring} (h : ValidP r) : r.i_in = (r.i_out + r.used) % (r.size + 1) :=
  in_eq_of_free _ _ _ _ h.in_le h.out_le h.used_le h.nfree

/-- the replay bytes: `i_out` lies `R` slots after `i_rep`, and `R + used` bytes fit the ring -/
theorem ValidP.geom {r : Ring} (h : ValidP r) : ∃ R, R + r.used ≤ r.size ∧ r.i_out = (r.i_rep + R) % (r.size + 1) :=
  geom_of_rep _ _ _ _ _ h.out_le h.rep_le h.used_le h.rep1 h.rep2 h.in_eq

theorem ValidP.of_geom {r : Ring} (len : r.data.length = r.size + 1) (alloc : r.alloc = r.size + 1 + 2 * magicLen)
    (size_pos : 0 < r.size) (min_le : r.minsize ≤ r.size) (le_max : r.size ≤ r.maxsize) (min_pos : 0 < r.minsize)
    (wrap : r.got_wrap = true ∨ r.i_rep = 0) (rep_le : r.i_rep ≤ r.size) (R : Nat) (hR : R + r.used ≤ r.size)
    (ho : r.i_out = (r.i_rep + R) % (r.size + 1)) (hi : r.i_in = (r.i_out + r.used) % (r.size + 1)) : ValidP r := by
  obtain ⟨g1, g2, g3, g4⟩ := rep_of_geom r.size r.i_in r.i_out r.i_rep r.used R rep_le hR ho
    (by rw [hi, ho, Nat.mod_add_mod])
  refine ⟨len, alloc, size_pos, min_le, le_max, min_pos, by omega, wrap, g1, g2, rep_le, g3, g4, ?_⟩
  rw [hi]
  exact (free_eq r.size r.i_out r.used g2 (by omega)).symm

theorem ValidP.contents_eq {r : Ring} (h : ValidP r) : r.contents = rslice r.data (r.size + 1) r.i_out r.used := by
  unfold Ring.contents
  rw [h.in_eq, add_mod_sub r.size r.i_out r.used h.out_le h.used_le]
  exact rot_take_eq_rslice r.data (r.size + 1) r.i_out r.used h.len (Nat.lt_succ_of_le h.out_le)
    (Nat.le_succ_of_le h.used_le)

theorem ValidP.contents_length {r : Ring} (h : ValidP r) : r.contents.length = r.used := by
  rw [h.contents_eq]; simp

end Pm.CbufRing
