import Pm.WalkProof
import Pm.Dev2Login2
/-! `tcp->cur != NULL` while the device is CONNECTING, and `tcp->cur` inside the address list: an invariant of every pass.
    Consequences: `tcp_finish_connect` never dereferences a NULL `tcp->cur` (the abort `tcp->cur == NULL in tcp_finish_connect`
    of the mirror is never reached), and the fuel of `connectWalk` is never used up before the list is. -/
namespace Pm.Dev2.Walk
open Pm.Dev2 Pm.Dev2.Fd

/-- CONNECTING: `tcp->cur` points into `tcp->addrs` -/
def CurInv (d : Dev) : Prop := d.conn = 1 → ∃ i, d.cur = some i ∧ i < d.naddr

theorem CurInv.of_not_connecting {d : Dev} (h : d.conn ≠ 1) : CurInv d := fun h1 => absurd h1 h

theorem _root_.Pm.Dev2.Fd.Soft.curInv {d d' : Dev} (s : Soft d d') (h : CurInv d) : CurInv d' := by
  intro h1
  have ec : d'.cur = d.cur := (congrArg Dev.cur s.eq :)
  have en : d'.naddr = d.naddr := (congrArg Dev.naddr s.eq :)
  rw [s.sameFd.conn] at h1
  rw [ec, en]
  exact h h1

theorem tcpConnect_curInv (c : CS) (h : CurInv c.dev) : CurInv (tcpConnect c).1.dev := by
  by_cases h0 : c.dev.conn = 0
  · cases hfd : c.dev.fd with
    | some x =>
      have : (tcpConnect c).1.dev = c.dev := by
        unfold tcpConnect; simp [h0, hfd]
      rw [this]; exact h
    | none =>
      by_cases hna : 0 < c.dev.naddr
      · have hn : (tcpConnect c).1.dev.naddr = c.dev.naddr := (tcpConnect_frame c).dev.naddr
        rcases tcpConnect_attempt c h0 hfd hna with ⟨a, _⟩ | ⟨j, b1, b2, _⟩
        · exact CurInv.of_not_connecting (by omega)
        · intro _; exact ⟨j, b2, by rw [hn]; exact b1⟩
      · have hz : c.dev.naddr = 0 := by omega
        have : (tcpConnect c).1.dev.conn = 0 := by
          unfold tcpConnect; simp [h0, hfd, hz, connectWalk]
        exact CurInv.of_not_connecting (by omega)
  · have : (tcpConnect c).1.dev = c.dev := by
      unfold tcpConnect
      have : (c.dev.conn != 0) = true := by simpa using h0
      simp [this]
    rw [this]; exact h

theorem pipeConnect_curInv (c : CS) (h : CurInv c.dev) : CurInv (pipeConnect c).1.dev := by
  rcases pipeConnect_dev c with e | ⟨_, _, e⟩ <;> rw [e]
  · exact h
  · exact CurInv.of_not_connecting fun h => nomatch h

theorem connectDev_curInv (c : CS) (h : CurInv c.dev) : CurInv (connectDev c).dev := by
  rw [Fd.connectDev_eq]
  have hb : CurInv (Fd.bump c).dev := h
  generalize Fd.bump c = c1 at *
  have key : ∀ r : CS × Bool, CurInv r.1.dev → CurInv (Fd.connTail r).dev := by
    intro r hr; unfold Fd.connTail; split
    · exact hr
    · exact hr
  split
  · exact key _ (pipeConnect_curInv c1 hb)
  · exact key _ (tcpConnect_curInv c1 hb)

theorem finishConnectFail_curInv (c : CS) (h : CurInv c.dev) (h1 : c.dev.conn = 1) : CurInv (finishConnectFail c).dev := by
  obtain ⟨i, hi, hlt⟩ := h h1
  have hn : (finishConnectFail c).dev.naddr = c.dev.naddr := (finishConnectFail_frame c).dev.naddr
  rcases finishConnectFail_attempt c i hi hlt h1 with ⟨a, _⟩ | ⟨j, _, b2, b3, _⟩
  · exact CurInv.of_not_connecting (by omega)
  · intro _; exact ⟨j, b3, by rw [hn]; exact b2⟩

theorem readyFinish_curInv (c : CS) (h : CurInv c.dev) (h1 : c.dev.conn = 1) : CurInv (Tel.readyFinish c).1.dev := by
  have key : ∀ c2 : CS, CurInv c2.dev → CurInv (Tel.finishTail c2).1.dev := by
    intro c2 h2
    unfold Tel.finishTail
    split
    · exact h2
    · split
      · exact (⟨rfl⟩ : Soft c2.dev (enqueueLogin c2.dev)).curInv h2
      · exact h2
  obtain ⟨ν, f⟩ := finishConnectOne_shape c
  unfold Tel.readyFinish
  split
  · exact h
  · apply key
    cases hb : (finishConnectOne c).2
    · rw [if_neg Bool.false_ne_true]
      apply finishConnectFail_curInv
      · intro _; rw [f.cur, (finishConnectOne_frame c).dev.naddr]; exact h h1
      · rw [f.same hb]; exact h1
    · rw [if_pos rfl]
      exact CurInv.of_not_connecting (by rw [f.up hb]; simp)

/-- statements, queue bookkeeping, reads and writes do not touch the address walk; the connection functions keep the invariant -/
theorem _root_.Pm.Dev2.Move.curInv {k : Stage} {s s' : PA} (h : Move k s s') (hi : CurInv s.1.dev) : CurInv s'.1.dev := by
  cases h with
  | assert | wait | note => exact hi
  | write | ping | stamp | failIdle | fuel => exact Soft.curInv ⟨rfl⟩ hi
  | read c => exact Soft.curInv ⟨by rw [read_dev]⟩ hi
  | finish c _ _ _ h1 => exact readyFinish_curInv c hi h1
  | connect _ c => exact connectDev_curInv c hi
  | disconnect c | failConn c | runFail c => exact .of_not_connecting (by rw [(disconnectDev_link _).2]; decide)
  | runAbort c o _ _ a0 _ _ _ _ hr | runStall c o _ _ a0 _ _ _ _ _ hr | runDone c o _ _ a0 _ _ _ _ hr
  | runNext c o _ _ a0 _ _ _ _ hr => exact hr ▸ ((headRun_soft c o a0).trans ⟨rfl⟩).curInv hi

/-- **`tcp->cur` stays inside the address list while the device is CONNECTING: kept by a whole `dev_post_poll` pass** (any
    kernel answers, any regex answers, aborted or not) -/
theorem postPoll_curInv (d : Dev) (env : Env) (o : Oracle) (h : CurInv d) : CurInv (postPoll d env o).1.dev :=
  (postPoll_run d env o).keeps (I := fun s => CurInv s.1.dev) (fun _ _ _ => Move.curInv) h

/-- in every state the daemon can bring a device to from `dev_create` -/
theorem Reach.curInv {d0 d : Dev} (h : Login2.Reach d0 d) (h0 : d0.conn = 0) : CurInv d := by
  induction h with
  | init => exact CurInv.of_not_connecting (by omega)
  | connect d env _ _ _ ih => exact connectDev_curInv _ ih
  | pass d env o _ _ ih => exact postPoll_curInv d env o ih
  | enqueue d com targets cid tele al _ ih =>
    exact (Login2.enqueue_soft d com targets cid tele al).curInv ih
  | store d s _ ih => exact ih
  | retry d _ ih => exact ih

/-- **`tcp_finish_connect` never dereferences a NULL `tcp->cur`**: under the invariant its failure path finds an address current -/
theorem finishConnectFail_cur_some (c : CS) (h : CurInv c.dev) (h1 : c.dev.conn = 1) : (closeFd c).dev.cur ≠ none := by
  obtain ⟨i, hi, _⟩ := h h1
  rw [(closeFd_shape c).cur, hi]; simp

/-- with `tcp->cur` inside the list (or NULL), more fuel than addresses left changes nothing: the last clause of `connectWalk`
    is reached only with `cur == NULL` already -/
theorem connectWalk_fuel (n k : Nat) (c : CS) (hin : ∀ i, c.dev.cur = some i → i < c.dev.naddr ∧ c.dev.naddr - i ≤ n) :
    connectWalk (n + k) c = connectWalk n c := by
  induction n generalizing c with
  | zero =>
    cases hc : c.dev.cur with
    | some i => have := hin i hc; omega
    | none =>
      have e0 : connectWalk 0 c = c := by
        obtain ⟨d, e, s, a⟩ := c
        simp only at hc
        cases d
        simp_all [connectWalk]
      rw [e0]
      cases k with
      | zero => exact e0
      | succ k => simp only [Nat.zero_add]; unfold connectWalk; simp [hc]
  | succ n ih =>
    have : n + 1 + k = (n + k) + 1 := by omega
    rw [this]
    unfold connectWalk
    cases hc : c.dev.cur with
    | none => rfl
    | some i =>
      simp only
      split
      · rfl
      · apply ih
        intro j hj
        have hn : (connectOne c).1.dev.naddr = c.dev.naddr := connectOne_naddr c
        obtain ⟨h1, h2⟩ := hin i hc
        simp only at hj ⊢
        unfold aiNext at hj
        split at hj
        · cases hj; rw [hn]; constructor <;> omega
        · cases hj

end Pm.Dev2.Walk

#print axioms Pm.Dev2.Walk.postPoll_curInv
#print axioms Pm.Dev2.Walk.Reach.curInv
#print axioms Pm.Dev2.Walk.connectWalk_fuel
