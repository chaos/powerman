import Pm.StreamLine
/-! For C15 over whole runs: **`String.replace` creates no CR/LF** (`ReplaceClean`).

    `String.replace` folds over the steps of a searcher; by `Std.Iter.foldl_toList` the result is a left fold over the list
    of steps, every step appending either the replacement or a sub-slice of the subject — whatever the steps are.  So the
    bytes of the result are bytes of the subject or of the replacement. -/
namespace Pm.Daemon.StreamPf
open Pm Pm.Client Pm.Daemon Pm.Daemon.ClientPf
open String.Slice.Pattern

/-- the UTF-8 bytes of the string contain neither CR nor LF -/
def StrClean (r : String) : Prop := cleanText (bstr r) = true

theorem bstr_eq_data (r : String) : bstr r = r.toByteArray.data.toList := by
  simp [bstr, String.toUTF8, byteArray_toList]

theorem StrClean.append {a b : String} (ha : StrClean a) (hb : StrClean b) : StrClean (a ++ b) := by
  unfold StrClean at *
  rw [bstr_append, cleanText_append, ha, hb]; rfl

theorem StrClean.empty : StrClean "" := by unfold StrClean; decide +kernel

theorem cleanText_sub {a b : Bytes} (h : ∀ x ∈ a, x ∈ b) (hb : cleanText b = true) : cleanText a = true := by
  simp only [cleanText, List.all_eq_true] at hb ⊢
  exact fun x hx => hb x (h x hx)

theorem StrClean.copy (sl : String.Slice) (h : StrClean sl.str) : StrClean sl.copy := by
  unfold StrClean at *
  refine cleanText_sub ?_ h
  intro x hx
  rw [bstr_eq_data] at hx ⊢
  rw [String.Slice.toByteArray_copy, ByteArray.data_extract] at hx
  simp only [Array.toList_extract] at hx
  exact List.mem_of_mem_drop (List.mem_of_mem_take hx)

theorem StrClean.slice! (sl : String.Slice) (a b : sl.Pos) (h : StrClean sl.str) : StrClean (sl.slice! a b).copy := by
  unfold String.Slice.slice!
  split
  · exact StrClean.copy _ (by rw [String.Slice.str_slice]; exact h)
  · show StrClean (default : String.Slice).copy
    have : (default : String.Slice).copy = "" := by decide
    rw [this]; exact StrClean.empty

/-- one step of the fold of `String.replace` -/
def replStep (s rep : String) (sofar : String) (st : SearchStep s.toSlice) : String :=
  match st with
  | .matched .. => sofar ++ String.ToSlice.toSlice rep
  | .rejected start stop => sofar ++ s.toSlice.slice! start stop

theorem replace_fold (s rep pat : String) :
    s.replace pat rep = ((ToForwardSearcher.toSearcher pat s.toSlice).toList).foldl (replStep s rep) "" := by
  unfold String.replace String.Slice.replace
  rw [Std.Iter.foldl_toList]
  congr 1
  funext x y
  cases y <;> rfl

theorem replStep_clean (s rep : String) (hs : StrClean s) (hr : StrClean rep) (sofar : String) (st : SearchStep s.toSlice)
    (h : StrClean sofar) : StrClean (replStep s rep sofar st) := by
  cases st with
  | matched a b =>
    show StrClean (sofar ++ (String.ToSlice.toSlice rep).copy)
    refine h.append ?_
    have : (String.ToSlice.toSlice rep).copy = rep := String.copy_toSlice
    rw [this]; exact hr
  | rejected a b =>
    show StrClean (sofar ++ (s.toSlice.slice! a b).copy)
    exact h.append (StrClean.slice! _ a b hs)

/-- **`String.replace` creates no CR/LF**: the result consists of pieces of the subject and copies of the replacement -/
theorem replace_clean (s rep pat : String) (hs : StrClean s) (hr : StrClean rep) : StrClean (s.replace pat rep) := by
  rw [replace_fold]
  exact List.foldlRecOn _ (replStep s rep) StrClean.empty fun b hb a _ => replStep_clean s rep hs hr b a hb

/-- decoding clean bytes gives a clean string (the empty one if the bytes are not UTF-8) -/
theorem fromUTF8_clean (b : Bytes) (h : cleanText b = true) : StrClean (String.fromUTF8! ⟨b.toArray⟩) := by
  unfold String.fromUTF8!
  split
  · unfold StrClean
    rw [bstr_eq_data]
    show cleanText (ByteArray.mk b.toArray).data.toList = true
    simpa using h
  · show StrClean (default : String)
    exact StrClean.empty

/-- the fact about `String.replace` that the `305` line needs -/
theorem replaceClean : ReplaceClean := by
  intro name t hn ht
  unfold teleText
  have h1 : StrClean "(" := by unfold StrClean; decide +kernel
  have h2 : StrClean ")" := by unfold StrClean; decide +kernel
  exact replace_clean _ _ _ (fromUTF8_clean t ht) ((h1.append (fromUTF8_clean name hn)).append h2)

theorem LineOK.clean {i : Item} (h : LineOK i) : i.clean = true := h.2 replaceClean

end Pm.Daemon.StreamPf

/-! axiom audit (expected: at most `propext`, `Classical.choice`, `Quot.sound`) -/
section AxiomChecks
open Pm.Daemon.StreamPf
#print axioms replaceClean
end AxiomChecks
