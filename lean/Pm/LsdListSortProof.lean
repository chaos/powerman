import Pm.LsdListAbs
/-! # `list_sort` on a plain list

`sortList` (`Pm/LsdListAbs.lean`), the insertion sort `list_sort` computes, keeps exactly the items it was given whatever the
comparison answers; it sorts when the comparison is a total preorder, and is then stable.  `sortPos`: where the inner loop of
`list_sort` stops. -/

namespace Pm.LsdList
variable {α : Type}

/-- index of the first item `y` with `f x y < 0` (the inner `while` of `list_sort`) -/
def sortPos (f : α → α → Int) (x : α) : List α → Nat
  | [] => 0
  | y :: ys => if f x y ≥ 0 then sortPos f x ys + 1 else 0

theorem insertIdx_append_le (x : α) (rest : List α) : ∀ (done : List α) (t : Nat), t ≤ done.length →
    (done ++ rest).insertIdx t x = done.insertIdx t x ++ rest := by
  intro done
  induction done with
  | nil => intro t ht; have : t = 0 := by simpa using ht
           subst this; simp
  | cons d ds ih =>
    intro t ht
    cases t with
    | zero => simp
    | succ t' => simp [List.insertIdx_succ_cons, ih t' (by simpa using ht)]

theorem insertIdx_sortPos (f : α → α → Int) (x : α) : ∀ (done : List α), done.insertIdx (sortPos f x done) x = insBefore f x done := by
  intro done
  induction done with
  | nil => simp [sortPos, insBefore]
  | cons d ds ih =>
    simp only [sortPos, insBefore]
    split
    · simp [List.insertIdx_succ_cons, ih]
    · simp

theorem sortPos_hit (f : α → α → Int) (x : α) : ∀ (done : List α) (i : Nat) (y : α), done[i]? = some y → f x y < 0 →
    sortPos f x done ≤ i := by
  intro done
  induction done with
  | nil => intro i y h; simp at h
  | cons d ds ih =>
    intro i y h hf
    simp only [sortPos]
    cases i with
    | zero =>
      simp at h; subst h
      have : ¬ f x d ≥ 0 := by omega
      simp [this]
    | succ i' =>
      simp at h
      have := ih i' y h hf
      split <;> omega

theorem sortPos_append (f : α → α → Int) (x : α) (rest : List α) : ∀ (done : List α), sortPos f x done < done.length →
    sortPos f x (done ++ rest) = sortPos f x done := by
  intro done
  induction done with
  | nil => intro h; simp at h
  | cons d ds ih =>
    intro h
    simp only [sortPos, List.cons_append] at h ⊢
    split
    · rename_i hf; simp only [hf, if_true] at h
      rw [ih (by simpa using h)]
    · rfl

theorem sortList_short (f : α → α → Int) (l : List α) (h : ¬ l.length > 1) : sortList f l = l := by
  cases l with
  | nil => rfl
  | cons x rest =>
    cases rest with
    | nil => rfl
    | cons y r => simp at h

/-- one insertion of `list_sort`: `x` goes behind the items it is not smaller than and in front of the first item it is
    smaller than; permutation, sortedness and stability are read off this -/
theorem insBefore_split (f : α → α → Int) (x : α) : ∀ (done : List α), ∃ a b, done = a ++ b ∧ insBefore f x done = a ++ x :: b ∧
    (∀ z ∈ a, 0 ≤ f x z) ∧ ∀ y, b.head? = some y → f x y < 0 := by
  intro done
  induction done with
  | nil => exact ⟨[], [], rfl, rfl, nofun, nofun⟩
  | cons y ys ih =>
    by_cases hf : f x y ≥ 0
    · obtain ⟨a, b, e, e', ha, hb⟩ := ih
      exact ⟨y :: a, b, by rw [e]; rfl, by rw [insBefore, if_pos hf, e']; rfl,
        fun z hz => (List.mem_cons.mp hz).elim (fun e => e ▸ hf) (ha z), hb⟩
    · exact ⟨[], y :: ys, rfl, by rw [insBefore, if_neg hf]; rfl, nofun, fun y' hy' => by cases hy'; exact Int.not_le.mp hf⟩

theorem insBefore_perm (f : α → α → Int) (x : α) (done : List α) : (insBefore f x done).Perm (x :: done) := by
  obtain ⟨a, b, e, e', -⟩ := insBefore_split f x done
  rw [e', e]
  exact List.perm_middle

theorem insLast_perm (f : α → α → Int) (x : α) (done : List α) : (insLast f x done).Perm (x :: done) := by
  unfold insLast
  split
  · split
    · exact insBefore_perm f x done
    · exact List.perm_append_comm
  · exact List.perm_append_comm

theorem sortAux_perm (f : α → α → Int) : ∀ (rest done : List α), (sortAux f done rest).Perm (done ++ rest) := by
  intro rest
  induction rest with
  | nil => intro done; simp [sortAux]
  | cons x rest ih =>
    intro done
    simp only [sortAux]
    refine (ih (insLast f x done)).trans ?_
    refine ((insLast_perm f x done).append_right rest).trans ?_
    simpa using (List.perm_middle (l₁ := done) (l₂ := rest) (a := x)).symm

/-- `list_sort` keeps exactly the items it was given — whatever the comparison function answers -/
theorem sortList_perm (f : α → α → Int) (l : List α) : (sortList f l).Perm l := by
  cases l with
  | nil => simp [sortList]
  | cons x rest => simpa [sortList] using sortAux_perm f rest [x]

theorem insBefore_sorted (f : α → α → Int) (hanti : ∀ a b, 0 ≤ f a b → f b a ≤ 0)
    (htrans : ∀ a b c, f a b ≤ 0 → f b c ≤ 0 → f a c ≤ 0) (x : α) (done : List α) (h : SortedBy f done) :
    SortedBy f (insBefore f x done) := by
  obtain ⟨a, b, rfl, e', ha, hb⟩ := insBefore_split f x done
  obtain ⟨sa, sb, sab⟩ := List.pairwise_append.mp h
  rw [e']
  refine List.pairwise_append.mpr ⟨sa, List.pairwise_cons.mpr ⟨fun w hw => ?_, sb⟩, fun z hz w hw => ?_⟩
  · -- `x` is smaller than the head of `b`, which is not greater than the rest of `b`
    cases b with
    | nil => cases hw
    | cons y ys =>
      have hxy : f x y ≤ 0 := Int.le_of_lt (hb y rfl)
      exact (List.mem_cons.mp hw).elim (fun e => e ▸ hxy) fun hw' => htrans _ _ _ hxy ((List.pairwise_cons.mp sb).1 w hw')
  · exact (List.mem_cons.mp hw).elim (fun e => e ▸ hanti _ _ (ha z hz)) (sab z hz w)

theorem insLast_sorted (f : α → α → Int) (hanti : ∀ a b, 0 ≤ f a b → f b a ≤ 0)
    (htrans : ∀ a b c, f a b ≤ 0 → f b c ≤ 0 → f a c ≤ 0) (x : α) (done : List α) (h : SortedBy f done) :
    SortedBy f (insLast f x done) := by
  unfold insLast
  split
  · rename_i y hy
    split
    · exact insBefore_sorted f hanti htrans x done h
    · rename_i hf
      obtain ⟨init, rfl⟩ := List.getLast?_eq_some_iff.mp hy
      have h' := List.pairwise_append.mp h
      have hyx : f y x ≤ 0 := hanti _ _ (by omega)
      refine List.pairwise_append.mpr ⟨h, by simp, ?_⟩
      intro a ha b hb
      simp only [List.mem_singleton] at hb; subst hb
      simp only [List.mem_append, List.mem_singleton] at ha
      rcases ha with ha | rfl
      · exact htrans _ _ _ (h'.2.2 a ha y (by simp)) hyx
      · exact hyx
  · rename_i hn
    have : done = [] := by simpa using hn
    subst this; simp [SortedBy]

theorem sortAux_sorted (f : α → α → Int) (hanti : ∀ a b, 0 ≤ f a b → f b a ≤ 0)
    (htrans : ∀ a b c, f a b ≤ 0 → f b c ≤ 0 → f a c ≤ 0) :
    ∀ (rest done : List α), SortedBy f done → SortedBy f (sortAux f done rest) := by
  intro rest
  induction rest with
  | nil => intro done h; simpa [sortAux] using h
  | cons x rest ih => intro done h; exact ih _ (insLast_sorted f hanti htrans x done h)

/-- when the comparison is a total preorder (`x ≥ y` implies `y ≤ x`; `≤` is transitive), `list_sort` sorts -/
theorem sortList_sorted (f : α → α → Int) (hanti : ∀ a b, 0 ≤ f a b → f b a ≤ 0)
    (htrans : ∀ a b c, f a b ≤ 0 → f b c ≤ 0 → f a c ≤ 0) (l : List α) : SortedBy f (sortList f l) := by
  cases l with
  | nil => simp [sortList, SortedBy]
  | cons x rest => exact sortAux_sorted f hanti htrans rest [x] (by simp [SortedBy])

theorem sublist_singleton_cases (x : α) (b : List α) (h : b.Sublist [x]) : b = [] ∨ b = [x] := by
  cases b with
  | nil => exact Or.inl rfl
  | cons y ys =>
    right
    have hl := h.length_le
    have : ys = [] := by
      cases ys with
      | nil => rfl
      | cons _ _ => simp at hl
    subst this
    have := h.subset (List.mem_singleton.mpr rfl)
    simp at this; rw [this]

theorem insBefore_stable (f : α → α → Int) (hsym : ∀ a b, f a b ≤ 0 ↔ 0 ≤ f b a)
    (htrans : ∀ a b c, f a b ≤ 0 → f b c ≤ 0 → f a c ≤ 0) (x : α) (done l1 : List α) (h : l1.Sublist (done ++ [x]))
    (hs1 : SortedBy f l1) (hsd : SortedBy f done) : l1.Sublist (insBefore f x done) := by
  obtain ⟨a, b, rfl, e', -, hb⟩ := insBefore_split f x done
  rw [e']
  obtain ⟨p, s, rfl, hp, hs⟩ := List.sublist_append_iff.mp h
  rcases sublist_singleton_cases x s hs with rfl | rfl
  · rw [List.append_nil]
    exact hp.trans (List.Sublist.append (List.Sublist.refl a) (List.sublist_cons_self x b))
  · obtain ⟨pa, pb, rfl, hpa, hpb⟩ := List.sublist_append_iff.mp hp
    -- nothing of `l1` comes from `b`: `x` is smaller than every item of `b`, and no item of `l1` is greater than its last, `x`
    obtain rfl : pb = [] := by
      cases pb with
      | nil => rfl
      | cons w ws =>
        exfalso
        have hwx : f w x ≤ 0 := (List.pairwise_append.mp hs1).2.2 w (by simp) x (by simp)
        cases b with
        | nil => cases hpb.subset (List.mem_cons_self)
        | cons y ys =>
          have hyw : f y w ≤ 0 ∨ y = w := (List.mem_cons.mp (hpb.subset (List.mem_cons_self))).elim (fun e => .inr e.symm)
            fun hw => .inl ((List.pairwise_cons.mp (List.pairwise_append.mp hsd).2.1).1 w hw)
          have hxw : f x w < 0 := by
            rcases hyw with hyw | rfl
            · -- `x < y ≤ w`
              rcases Int.lt_or_le (f x w) 0 with h0 | h0
              · exact h0
              · have := (hsym y x).mp (htrans _ _ _ hyw ((hsym w x).mpr h0))
                have := hb y rfl
                omega
            · exact hb y rfl
          have := (hsym w x).mp hwx
          omega
    rw [List.append_nil]
    exact List.Sublist.append hpa (List.Sublist.cons_cons x (List.nil_sublist b))

theorem insLast_stable (f : α → α → Int) (hsym : ∀ a b, f a b ≤ 0 ↔ 0 ≤ f b a)
    (htrans : ∀ a b c, f a b ≤ 0 → f b c ≤ 0 → f a c ≤ 0) (x : α) (done l1 : List α)
    (h : l1.Sublist (done ++ [x])) (hs1 : SortedBy f l1) (hsd : SortedBy f done) : l1.Sublist (insLast f x done) := by
  unfold insLast
  split
  · split
    · exact insBefore_stable f hsym htrans x done l1 h hs1 hsd
    · exact h
  · exact h

theorem sortAux_stable (f : α → α → Int) (hsym : ∀ a b, f a b ≤ 0 ↔ 0 ≤ f b a)
    (htrans : ∀ a b c, f a b ≤ 0 → f b c ≤ 0 → f a c ≤ 0) :
    ∀ (rest done l' : List α), l'.Sublist (done ++ rest) → SortedBy f l' → SortedBy f done → l'.Sublist (sortAux f done rest) := by
  have hanti : ∀ a b, 0 ≤ f a b → f b a ≤ 0 := fun a b h => (hsym b a).mpr h
  intro rest
  induction rest with
  | nil => intro done l' h _ _; simpa [sortAux] using h
  | cons x rest ih =>
    intro done l' h hs hsd
    simp only [sortAux]
    have h' : l'.Sublist ((done ++ [x]) ++ rest) := by simpa using h
    obtain ⟨a, b, rfl, ha, hb⟩ := List.sublist_append_iff.mp h'
    have hsa : SortedBy f a := (List.pairwise_append.mp hs).1
    have h1 := insLast_stable f hsym htrans x done a ha hsa hsd
    exact ih _ _ (List.Sublist.append h1 hb) hs (insLast_sorted f hanti htrans x done hsd)

/-- **`list_sort` is stable** (for a sign-consistent, transitive comparison): whatever was in ascending order before — in
    particular two items that compare equal — is still in that order afterwards: every ascending subsequence of the list is a
    subsequence of the sorted list. -/
theorem sortList_stable (f : α → α → Int) (hsym : ∀ a b, f a b ≤ 0 ↔ 0 ≤ f b a)
    (htrans : ∀ a b c, f a b ≤ 0 → f b c ≤ 0 → f a c ≤ 0) (l l' : List α) (h : l'.Sublist l) (hs : SortedBy f l') :
    l'.Sublist (sortList f l) := by
  cases l with
  | nil => simpa [sortList] using h
  | cons x rest =>
    exact sortAux_stable f hsym htrans rest [x] l' (by simpa using h) hs (by simp [SortedBy])

end Pm.LsdList
