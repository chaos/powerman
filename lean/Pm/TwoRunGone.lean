import Pm.TwoRunC11
/-! C11, the client that vanishes (or whose descriptor events do not matter because it sends nothing).

    Two runs from related worlds.  The client on descriptor `fs` sends nothing in either run (`Inert`: not reported readable,
    no complete line buffered) — but what its descriptor reports otherwise is arbitrary and may differ: writable or not, any
    capacity, `POLLERR`/`POLLNVAL` (it is destroyed at once).  It may therefore be present in one run and gone in the other.
    Everything else is the same, pass by pass.  (The relation `BRel` is weaker than `ARel` of `Pm/TwoRunC11.lean`, so a stuck
    phase can be followed by this one.) -/
namespace Pm.Daemon.TwoRun
open Pm Pm.Client Pm.Daemon Pm.Daemon.Isolation
open Pm.Dev2 (Dev Oracle)

/-- the relation between the two worlds: everything the same except the client table — which is the same on the clients that
    are not on `fs` —, the capacities, and the log of the last pass — the same on every descriptor but `fs` -/
structure BRel (fs : Nat) (w w' : W) : Prop where
  core : coreOf w' = coreOf w
  tab : w'.clients.filter (nonF (isFd fs)) = w.clients.filter (nonF (isFd fs))
  fresh : fs < 1000 + w.nacc
  sys : w'.sys.filter (offF (isFd fs)) = w.sys.filter (offF (isFd fs))

theorem l2_filter {fs : Nat} {l l' : List Cli} (h : L2 (RecRel (isFd fs)) l l') :
    l'.filter (nonF (isFd fs)) = l.filter (nonF (isFd fs)) := by
  induction h with
  | nil => rfl
  | @cons a b l l' hab _ ih =>
    rw [List.filter_cons, List.filter_cons, ih]
    have hfd : nonF (isFd fs) b = nonF (isFd fs) a := by simp [nonF, hab.fd]
    rw [hfd]
    split
    · rename_i hn
      rw [hab.eq (by simpa [nonF] using hn)]
    · rfl

theorem ARel.toB {s fs : Nat} {w w' : W} (h : ARel s fs w w') : BRel fs w w' :=
  ⟨h.core, l2_filter h.tab, h.fresh, h.sys⟩

/-- what is assumed of the two inputs of one pass: the same clock, `accept` verdict and `connect()` answers; the same events
    on every descriptor but `fs`; no device sits on the number `fs`; the client on `fs` — in either run, if it is there — is
    inert; both worlds satisfy the id discipline; neither run hits a modelled `assert` in the device phase -/
structure GonePass (fs : Nat) (w w' : W) (p p' : PassIn) : Prop where
  now : p'.now = p.now
  acc : p'.acc = p.acc
  con : p'.con = p.con
  soe : p'.soe = p.soe
  others : ∀ fd, fd ≠ fs → p'.envs.find? (·.fd == fd) = p.envs.find? (·.fd == fd)
  devfd : ∀ nd ∈ w.devs, nd.2.fd ≠ some fs
  inert : ∀ c ∈ w.clients, c.fd = fs → Inert p.envs c
  inert' : ∀ c ∈ w'.clients, c.fd = fs → Inert p'.envs c
  ids : IdsFresh w
  ids' : IdsFresh w'
  alive : ((cliPostPoll w p.acc p.envs).devs.foldl (devPass p) (acc0 (cliPostPoll w p.acc p.envs))).dead = false
  alive' : ((cliPostPoll w' p'.acc p'.envs).devs.foldl (devPass p') (acc0 (cliPostPoll w' p'.acc p'.envs))).dead = false

theorem foldl_devPass_gone (fs : Nat) (p p' : PassIn) (hn : p'.now = p.now) (hc : p'.con = p.con) (he : p'.soe = p.soe)
    (l : Devs) (hev : ∀ nd ∈ l, SameEvents p p' nd) : ∀ (a a' : DevAcc), DCore fs a a' →
    (l.foldl (devPass p) a).dead = false → (l.foldl (devPass p') a').dead = false →
    DCore fs (l.foldl (devPass p) a) (l.foldl (devPass p') a') ∧ stepsList p' a' l = stepsList p a l ∧
    ∀ g, cliRec a'.w g = cliRec a.w g → cliRec (l.foldl (devPass p') a').w g = cliRec (l.foldl (devPass p) a).w g := by
  induction l with
  | nil => intro a a' h _ _; exact ⟨h, rfl, fun _ h => h⟩
  | cons nd r ih =>
    intro a a' h hal hal'
    have hd := alive_of_foldl p _ a hal
    have hd' := alive_of_foldl p' _ a' hal'
    obtain ⟨k, rr, e, e', _⟩ := devPass_core h nd hd hd' hn hc he (hev nd (by simp))
    obtain ⟨i1, i2, i3⟩ := ih (fun x hx => hev x (by simp [hx])) _ _ k hal hal'
    refine ⟨i1, ?_, fun g hg => i3 g ?_⟩
    · simp only [stepsList]
      rw [i2, h.step nd hn hc he (hev nd (by simp)), hd, hd']
    · -- the same callbacks delivered to two tables in which `g` has the same record
      rw [e, e']
      exact (applyOuts_own (afterStep a'.w rr.1) (afterStep a.w rr.1) nd.1 _ _ g ⟨hg, fun _ _ _ _ => rfl⟩ rfl).1

theorem daemonPass_gone (fs : Nat) (w w' : W) (p p' : PassIn) (hr : BRel fs w w') (hp : GonePass fs w w' p p') :
    BRel fs (daemonPass w p).1 (daemonPass w' p').1 ∧ passSteps w' p' = passSteps w p := by
  obtain ⟨f1, f2, f3, f4, f5, f6, f7⟩ := coreOf_fields hr.core
  have f7' := f7
  simp only [ctrs, Prod.mk.injEq] at f7
  obtain ⟨k1, k2, _, _, _, _, _⟩ := f7
  have hF : ∀ c : Cli, isFd fs c.fd = true → c.fd = fs := fun c h => by simpa [isFd] using h
  obtain ⟨g1, g2⟩ := cliPostPoll_merge (F := isFd fs) (DRL := DEq) (SR := SEq) sEq_cons w w' p p' f1 f3 f5 f6 f2 f4 k1 k2 hr.tab hp.acc
    (fun fd hfd => hp.others fd (by simpa [isFd] using hfd))
    (by have := hr.fresh; simp [isFd]; omega)
    (fun c _ _ l _ => lineDevsOK_eq _ l)
    (fun c hc h => hp.inert c hc (hF c h)) (fun c hc h => hp.inert' c hc (hF c h)) hp.ids hp.ids'
  have hi0 := cliPostPoll_ids w p.acc p.envs hp.ids
  have hi0' := cliPostPoll_ids w' p'.acc p'.envs hp.ids'
  have hco := cliPostPoll_core g1 f7' hp.acc
  -- `T`: a client outside `fs` of the first table has the same record in both tables
  have hT : ∀ c ∈ (cliPostPoll w p.acc p.envs).clients, isFd fs c.fd = false →
      cliRec (cliPostPoll w' p'.acc p'.envs) c.id = cliRec (cliPostPoll w p.acc p.envs) c.id := fun c hc hcF => by
    have hc' : c ∈ (cliPostPoll w' p'.acc p'.envs).clients :=
      (List.mem_filter.mp (g2 ▸ List.mem_filter.mpr ⟨hc, by simp [nonF, hcF]⟩)).1
    exact (hi0'.cliRec_of_mem hc').trans (hi0.cliRec_of_mem hc).symm
  obtain ⟨c1, c2, c3, c4⟩ := devPhase_core (fs := fs) (fun l l' => ∀ c ∈ (cliPostPoll w p.acc p.envs).clients, isFd fs c.fd = false →
      l'.find? (·.id == c.id) = l.find? (·.id == c.id)) p p' hco g1.sys hT fun _ =>
      have ⟨k1, k2, k3⟩ := foldl_devPass_gone fs p p' hp.now hp.con hp.soe _ (sameEvents_off fs w p p' hp.others hp.devfd) _ _
        (DCore.acc0 hco g1.sys) hp.alive ((show (cliPostPoll w' p'.acc p'.envs).devs = _ from g1.devs) ▸ hp.alive')
      ⟨k1, fun c hc hcF => k3 c.id (hT c hc hcF), k2⟩
  unfold passSteps
  rw [daemonPass_world, daemonPass_world]
  refine ⟨⟨c1, filter_after_keep (isFd fs) g2 (devPhase_frame p _).keep (devPhase_frame p' _).keep hi0 hi0' c3, ?_, c2⟩, c4⟩
  rw [devPhase_nacc, cliPostPoll_nacc]
  have := hr.fresh
  omega

/-- the per-pass hypotheses along the two runs -/
def GoneRun (fs : Nat) : W → W → List (PassIn × PassIn) → Prop
  | _, _, [] => True
  | w, w', pp :: r => GonePass fs w w' pp.1 pp.2 ∧ GoneRun fs (daemonPass w pp.1).1 (daemonPass w' pp.2).1 r

/-- **what the relation gives for everybody else** (in reachable worlds) -/
theorem BRel.others {fs : Nat} {w w' : W} (h : BRel fs w w') (hi' : IdsFresh w') :
    (∀ g c, cliRec w g = some c → c.fd ≠ fs → cliRec w' g = some c) ∧
    (∀ fd, fd ≠ fs → ClientPf.written w'.sys fd = ClientPf.written w.sys fd) ∧
    w'.devs = w.devs ∧ w'.store = w.store ∧ w'.alNext = w.alNext ∧ w'.exited = w.exited ∧
    w'.clients.filter (fun c => c.fd != fs) = w.clients.filter (fun c => c.fd != fs) := by
  obtain ⟨f1, f2, f3, f4, f5, f6, f7⟩ := coreOf_fields h.core
  have hflt : ∀ l : List Cli, l.filter (nonF (isFd fs)) = l.filter (fun c => c.fd != fs) := by
    intro l
    apply List.filter_congr
    intro c _
    rfl
  have ht := tracked_of_filter (isFd fs) h.tab h.sys hi'
  exact ⟨fun g c hc hfd => ht.1 g c hc (by simpa [isFd] using hfd), fun fd hfd => ht.2 fd (by simpa [isFd] using hfd), f2, f4, f5, f6,
    by rw [← hflt, ← hflt, h.tab]⟩

theorem runPasses_append (w : W) (a b : List PassIn) : runPasses w (a ++ b) = runPasses (runPasses w a) b := by
  unfold runPasses
  rw [List.foldl_append]

theorem find_filter_fd (envs : List FdEnv) (fs fd : Nat) (h : fd ≠ fs) :
    (envs.filter (fun e => e.fd != fs)).find? (·.fd == fd) = envs.find? (·.fd == fd) := by
  induction envs with
  | nil => rfl
  | cons e r ih =>
    rw [List.filter_cons, List.find?_cons]
    by_cases he : e.fd = fs
    · have h1 : (e.fd != fs) = false := by simpa using he
      have h2 : (e.fd == fd) = false := by rw [he]; simpa using fun x => h x.symm
      rw [h1, h2]
      simpa using ih
    · have h1 : (e.fd != fs) = true := by simpa using he
      rw [h1]
      simp only [↓reduceIte]
      rw [List.find?_cons, ih]

theorem others_of_filter (envs envs' : List FdEnv) (fs : Nat) (h : envs'.filter (fun e => e.fd != fs) = envs.filter (fun e => e.fd != fs)) :
    ∀ fd, fd ≠ fs → envs'.find? (·.fd == fd) = envs.find? (·.fd == fd) := by
  intro fd hfd
  rw [← find_filter_fd envs' fs fd hfd, ← find_filter_fd envs fs fd hfd, h]

end Pm.Daemon.TwoRun
