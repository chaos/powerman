import Pm.Logic
import Pm.RfCmd
import Pm.RedfishProof
/-! # Proofs about the command layer of redfishpower (`Pm/RfCmd.lean`)

The invariants that need the hostlist round trip are in `RfCmdLink`, concrete sessions in `RfCmdEx`. -/
namespace Pm.RfCmd
open Pm
open Pm.Daemon (createR CR)

/-! ## 1. what each command is made of

Each command of the model is a cascade of `if`s and `match`es over a few primitives (`plugsRemove`, `plugsAdd`,
`plugsUpdatePath`, the machine).  The lemmas of this section say so, one case principle per function (to prove `P` of the
result, prove it of each branch) and one induction per loop; the outcomes (section 2) and the invariants (section 3, `RfCmdLink`) are read off
them. -/

/-- the first word of a piece of input (`av[0]`) -/
def firstWord (buf : List Char) : Option Name := (argvCreate (cstr buf)).head?

def isPowerWord (w : Option Name) : Prop := w = some (lit "stat") ∨ w = some (lit "on") ∨ w = some (lit "off")

@[simp] theorem ok_ctl (s : State) (out : List Name) : (ok s out).ctl = .cont := rfl
@[simp] theorem ok_st (s : State) (out : List Name) : (ok s out).st = s := rfl
@[simp] theorem ok_out (s : State) (out : List Name) : (ok s out).out = out := rfl

theorem setheader_ctl (s : State) (av : List Name) : (setheader s av).ctl = .cont := rfl
theorem setstatpath_ctl (s : State) (av : List Name) : (setstatpath s av).ctl = .cont := rfl

def bignum : Ctl := .outside "number of 20 digits or more in a range"

/-- not back at the prompt, and not by `exit` -/
def Stuck (c : Ctl) : Prop := ∃ w, c = .abort w ∨ c = .hang w ∨ c = .outside w

/-- the host index a `setplugs` index string stands for (`strtol`, then the conversion to `int`) -/
def hostIndexOf (his : Name) : Nat := (toInt32 (strtol his).1).toNat

/-- the checks of `setup_plug` on the index string: no overflow, nothing after the number, not negative -/
def ValidIndexStr (his : Name) : Prop :=
  (strtol his).2.2 = false ∧ (strtol his).2.1 = his.length ∧ 0 ≤ toInt32 (strtol his).1

instance (his : Name) : Decidable (ValidIndexStr his) := by unfold ValidIndexStr; exact inferInstance

/-- the data an accepted pair records -/
def pairData (p his host : Name) (par : Option Name) : PlugData :=
  { plugname := p, hostname := host, hostIdx := hostIndexOf his, parent := par }

theorem plugsAdd_some {s s' : State} {p host : Name} {i : Nat} {par : Option Name}
    (ha : plugsAdd s p host i par = some s') :
    ∃ pl, s' = { s with plugs := pl,
                        plugMap := mapUpdate s.plugMap p { plugname := p, hostname := host, hostIdx := i, parent := par } } := by
  unfold plugsAdd at ha
  simp only at ha
  split at ha
  · split at ha
    · cases ha
    · cases ha; exact ⟨_, rfl⟩
  · cases ha; exact ⟨_, rfl⟩

theorem not_ValidIndexStr_iff (his : Name) :
    ¬ ValidIndexStr his ↔
      ((strtol his).2.2 || (strtol his).2.1 != his.length || decide (toInt32 (strtol his).1 < 0)) = true := by
  unfold ValidIndexStr
  simp only [Bool.or_eq_true, bne_iff_ne, ne_eq, decide_eq_true_eq]
  constructor
  · intro h
    by_cases h1 : (strtol his).2.2 = true
    · left; left; exact h1
    · by_cases h2 : (strtol his).2.1 = his.length
      · right
        have h1' : (strtol his).2.2 = false := by simpa using h1
        have : ¬ 0 ≤ toInt32 (strtol his).1 := fun h3 => h ⟨h1', h2, h3⟩
        omega
      · left; right; exact h2
  · rintro ((h | h) | h) ⟨a, b, c⟩
    · rw [a] at h; cases h
    · exact h b
    · omega

theorem setupPlug_cases {P : SP → Prop} (s : State) (p his : Name) (par : Option Name)
    (invalid : ¬ ValidIndexStr his → P (.bad (lit "setplugs: invalid hostindex " ++ his ++ lit " specified")))
    (range : ValidIndexStr his → nthC s.hosts (hostIndexOf his) = none →
      P (.bad (lit "setplugs: hostindex " ++ (toString (toInt32 (strtol his).1)).toList ++ lit " out of range")))
    (fatal : ∀ host, plugsAdd s p host (hostIndexOf his) par = none → P (.fatal (.exit 1)))
    (added : ∀ host s1, ValidIndexStr his → nthC s.hosts (hostIndexOf his) = some host →
      plugsAdd s p host (hostIndexOf his) par = some s1 → P (.ok { s1 with status := statusInsert s1.status p })) :
    P (setupPlug s p his par) := by
  unfold setupPlug
  simp only
  refine ite_cases (fun h => invalid ((not_ValidIndexStr_iff his).mpr h)) fun h => ?_
  have hv : ValidIndexStr his := Decidable.of_not_not fun hn => h ((not_ValidIndexStr_iff his).mp hn)
  split
  · exact range hv ‹_›
  · split
    · exact fatal _ ‹_›
    · exact added _ _ hv ‹_› ‹_›

theorem setupPlug_fatal {s : State} {p h : Name} {par : Option Name} {c : Ctl}
    (hf : setupPlug s p h par = .fatal c) : c = .exit 1 := by
  revert hf
  refine setupPlug_cases s p h par (P := fun r => r = .fatal c → c = .exit 1) ?_ ?_ ?_ ?_
  · intro _ e; cases e
  · intro _ _ e; cases e
  · intro _ _ e; cases e; rfl
  · intro _ _ _ _ _ e; cases e

/-- The loop of `setplugs`, one induction: it ends (`done`), exits with status 1 (a name or index is missing, or `plugs_add`
    failed), stops at a diagnostic (`bad`), or sets up the `i`-th plug and goes on (`step`). -/
@[elab_as_elim]
theorem setplugsLoop_induct {P : Nat → Nat → State → Res → Prop} (lplugs : Hostlist) (idx : Nat → Option Name)
    (parent : Option Name) (done : ∀ {i s}, P 0 i s (ok s))
    (exit : ∀ {k i s}, (nthC lplugs i = none ∨ idx i = none ∨
        ∃ p his c, nthC lplugs i = some p ∧ idx i = some his ∧ setupPlug s p his parent = .fatal c) →
      P (k + 1) i s { st := s, out := [], ctl := .exit 1 })
    (bad : ∀ {k i s line}, P (k + 1) i s (ok s [line]))
    (step : ∀ {k i s p his s'}, nthC lplugs i = some p → idx i = some his → setupPlug s p his parent = .ok s' →
      P k (i + 1) s' (setplugsLoop lplugs idx parent k (i + 1) s') →
      P (k + 1) i s (setplugsLoop lplugs idx parent k (i + 1) s')) :
    ∀ (k i : Nat) (s : State), P k i s (setplugsLoop lplugs idx parent k i s) := by
  intro k
  induction k with
  | zero => exact fun _ _ => done
  | succ k ih =>
    intro i s
    unfold setplugsLoop
    split
    · exact exit (.inl ‹_›)
    · split
      · exact exit (.inr (.inl ‹_›))
      · split
        · exact step ‹_› ‹_› ‹_› (ih _ _)
        · exact bad
        · rename_i c hc
          cases setupPlug_fatal hc
          exact exit (.inr (.inr ⟨_, _, _, ‹_›, ‹_›, hc⟩))

theorem removeInitialPlugs_ind {P : State → Prop} (s : State) (h : P s)
    (remove : ∀ s' n, n ∈ expand s.hosts → P s' → P (plugsRemove s' n))
    (clear : ∀ s', P s' → P { s' with initial := false }) : P (removeInitialPlugs s) := by
  have fold : ∀ (l : List Name), (∀ n ∈ l, n ∈ expand s.hosts) → ∀ s', P s' → P (l.foldl plugsRemove s') := by
    intro l
    induction l with
    | nil => intro _ _ h'; exact h'
    | cons n r ih =>
      intro hl s' h'
      exact ih (fun m hm => hl m (List.mem_cons_of_mem _ hm)) _ (remove s' n (hl n (List.mem_cons_self ..)) h')
  unfold removeInitialPlugs
  split
  · exact h
  · exact clear _ (fold _ (fun _ hn => hn) s h)

theorem setplugs_cases {P : Res → Prop} (s : State) (av : List Name)
    (refused : ∀ out c, c = .cont ∨ c = bignum → P { st := s, out := out, ctl := c })
    (mismatch : ∀ out, P (ok (removeInitialPlugs s) out))
    (noIndex : ∀ a1 hostindices, hlCreate a1 = some hostindices → hlCount hostindices = 1 →
      nthC hostindices 0 = none → P { st := removeInitialPlugs s, out := [], ctl := .exit 1 })
    (loop : ∀ a0 a1 rest lplugs hostindices idx, av = a0 :: a1 :: rest → hlCreate a0 = some lplugs →
      hlCreate a1 = some hostindices →
      (∃ his, idx = fun _ => some his) ∨ (idx = (fun i => nthC hostindices i) ∧ hlCount lplugs = hlCount hostindices) →
      P (setplugsLoop lplugs idx rest.head? (hlCount lplugs) 0 (removeInitialPlugs s))) : P (setplugs s av) := by
  unfold setplugs
  split
  · rename_i a0 a1 rest
    refine ite_cases (fun _ => refused _ _ (.inr rfl)) fun _ => ?_
    split
    · exact refused _ _ (.inl rfl)
    · rename_i lplugs h0
      split
      · exact refused _ _ (.inl rfl)
      · rename_i hostindices h1
        refine ite_cases (fun _ => ?_) fun heq => ?_
        · refine ite_cases (fun hone => ?_) fun _ => mismatch _
          simp only [Bool.and_eq_true, decide_eq_true_eq, beq_iff_eq] at hone
          split
          · exact noIndex a1 hostindices h1 hone.2 ‹_›
          · exact loop a0 a1 rest lplugs hostindices _ rfl h0 h1 (.inl ⟨_, rfl⟩)
        · exact loop a0 a1 rest lplugs hostindices _ rfl h0 h1 (.inr ⟨rfl, by simpa using heq⟩)
  · exact refused _ _ (.inl rfl)

theorem plugsUpdatePath_some {s s' : State} {n cmd path : Name} {post : Option Name}
    (ha : plugsUpdatePath s n cmd path post = some s') :
    ∃ pd, s.plugMap.lookup n = some pd ∧ s' = { s with plugMap := mapUpdate s.plugMap n (updPath pd cmd path post) } := by
  unfold plugsUpdatePath plugsGetData at ha
  split at ha
  · cases ha
  · cases ha; exact ⟨_, ‹_›, rfl⟩

/-- The loop of `setpath`, one induction: it ends, stops at an unknown plug, exits with status 1 (`plugs_update_path`
    failed), or updates the path of the next plug and goes on. -/
@[elab_as_elim]
theorem setpathLoop_induct {P : List Name → State → Res → Prop} (cmd path : Name) (post : Option Name)
    (done : ∀ {s}, P [] s (ok s))
    (unknown : ∀ {n r s}, P (n :: r) s (ok s [lit "setpath: unknown plug specified: " ++ n]))
    (fail : ∀ {n r s}, plugsNameValid s n = true → plugsUpdatePath s n cmd path post = none →
      P (n :: r) s { st := s, out := [], ctl := .exit 1 })
    (step : ∀ {n r s s'}, plugsUpdatePath s n cmd path post = some s' → P r s' (setpathLoop cmd path post r s') →
      P (n :: r) s (setpathLoop cmd path post r s')) :
    ∀ (l : List Name) (s : State), P l s (setpathLoop cmd path post l s) := by
  intro l
  induction l with
  | nil => exact fun _ => done
  | cons n r ih =>
    intro s
    unfold setpathLoop
    refine ite_cases (fun _ => unknown) fun hv => ?_
    split
    · exact fail (by simpa using hv) ‹_›
    · exact step ‹_› (ih _)

theorem setpath_cases {P : Res → Prop} (s : State) (av : List Name)
    (refused : ∀ out c, c = .cont ∨ c = bignum → P { st := s, out := out, ctl := c })
    (loop : ∀ cmd path post names, P (setpathLoop cmd path post names s)) : P (setpath s av) := by
  unfold setpath
  split
  · refine ite_cases (fun _ => refused _ _ (.inl rfl)) fun _ => ?_
    refine ite_cases (fun _ => refused _ _ (.inr rfl)) fun _ => ?_
    split
    · exact refused _ _ (.inl rfl)
    · exact loop _ _ _ _
  · exact refused _ _ (.inl rfl)

/-- a state from which `stat` / `on` / `off` are described by the machine theorems: the table handed to the machine is
    well-formed (every parent defined, no cycle), every plug has a status path -/
def Safe (s : State) : Prop :=
  Redfish.WF (mCfg s) = true ∧ allStatPaths s = true

/-- the stored time-out fits an `int` (what `settimeout` guarantees, F39; 60 at start) and the clock
    is far from the end of `long`: `cmd_timeout > LONG_MAX - now` in `powermsg_create` is never true -/
def TimeoutOK (s : State) : Prop := s.cmdTimeout ≤ INT_MAX ∧ (s.now : Int) ≤ LONG_MAX - INT_MAX

instance (s : State) : Decidable (TimeoutOK s) := by unfold TimeoutOK; exact inferInstance

theorem TimeoutOK.noOverflow {s : State} (h : TimeoutOK s) : timeoutOverflow s = false := by
  unfold timeoutOverflow
  obtain ⟨h1, h2⟩ := h
  simp only [decide_eq_false_iff_not, Int.not_lt]
  omega

instance (s : State) : Decidable (Safe s) := by unfold Safe; exact inferInstance

theorem firstBadWaiter_stuck (s : State) : ∀ (l : List Nat) (c : Ctl), firstBadWaiter s l = some c → Stuck c := by
  intro l
  induction l with
  | nil => intro c h; simp [firstBadWaiter] at h
  | cons i rest ih =>
    intro c h
    unfold firstBadWaiter at h
    split at h
    · exact ih c h
    · cases h; exact ⟨_, Or.inl rfl⟩
    · cases h; exact ⟨_, Or.inr (Or.inl rfl)⟩

theorem dispatch_cases {P : Res → Prop} (s : State) (cmd : Redfish.Cmd) (pre : List Name) (ts : List Nat)
    (stop : P (ok s pre)) (run : P (runMachine s cmd pre ts))
    (stuck : ∀ c, Stuck c → Redfish.WF (mCfg s) = false ∨ allStatPaths s = false →
      P { st := s, out := pre, ctl := c }) : P (dispatch s cmd pre ts) := by
  have outside : ∀ w, Stuck (.outside w) := fun w => ⟨w, .inr (.inr rfl)⟩
  unfold dispatch
  refine ite_cases (fun _ => stop) fun _ => ?_
  refine ite_cases (fun h => stuck _ (outside _) (.inr ?_)) fun _ => ?_
  · simp only [Bool.and_eq_true, Bool.not_eq_true'] at h
    exact h.2
  refine ite_cases (fun _ => run) fun hw => ?_
  have hw : Redfish.WF (mCfg s) = false := by simpa using hw
  refine ite_cases (fun _ => stuck _ (outside _) (.inl hw)) fun _ => ?_
  refine ite_cases (fun _ => run) fun _ => ?_
  refine ite_cases (fun _ => stuck _ (outside _) (.inl hw)) fun _ => ?_
  refine ite_cases (fun _ => run) fun _ => ?_
  split
  · rename_i c hc
    exact stuck c (firstBadWaiter_stuck s _ c hc) (.inl hw)
  · exact run

theorem resolveLoop_stop (s : State) (cmd : Redfish.Cmd) (ovf : Bool) :
    ∀ (l : List Name), (resolveLoop s cmd ovf l).2.2 = true → ovf = true := by
  intro l
  induction l with
  | nil => intro h; simp [resolveLoop] at h
  | cons n rest ih =>
    intro h
    unfold resolveLoop at h
    split at h
    · exact ih h
    · split at h
      · assumption
      · exact ih h

theorem powerCmd_cases {P : Res → Prop} (s : State) (cmd : Redfish.Cmd) (av : List Name)
    (refused : ∀ out c, c = .cont ∨ c = bignum ∨ (c = .exit 1 ∧ timeoutOverflow s = true) →
      P { st := s, out := out, ctl := c })
    (go : ∀ pre ts, P (dispatch s cmd pre ts)) : P (powerCmd s cmd av) := by
  unfold powerCmd
  split
  · refine ite_cases (fun _ => refused _ _ (.inr (.inl rfl))) fun _ => ?_
    split
    · exact refused _ _ (.inl rfl)
    · exact ite_cases (fun h => refused _ _ (.inr (.inr ⟨rfl, resolveLoop_stop _ _ _ _ h⟩))) fun _ => go _ _
  · exact ite_cases (fun h => refused _ _ (.inr (.inr ⟨rfl, resolveLoop_stop _ _ _ _ h⟩))) fun _ => go _ _

theorem powerCmd_st (s : State) (cmd : Redfish.Cmd) (av : List Name) :
    ∃ st, (powerCmd s cmd av).st = { s with status := st } :=
  powerCmd_cases s cmd av (P := fun r => ∃ st, r.st = { s with status := st }) (fun _ _ _ => ⟨_, rfl⟩) fun pre ts =>
    dispatch_cases s cmd pre ts (P := fun r => ∃ st, r.st = { s with status := st }) ⟨_, rfl⟩ ⟨_, rfl⟩
      fun _ _ _ => ⟨_, rfl⟩

/-- `s'` has the host lists, the plug table, the status path, the time-out and the clock of `s`: all that the
    invariants of the command layer read -/
structure Frame (s s' : State) : Prop where
  hosts : s'.hosts = s.hosts
  failHosts : s'.failHosts = s.failHosts
  plugs : s'.plugs = s.plugs
  plugMap : s'.plugMap = s.plugMap
  statpath : s'.statpath = s.statpath
  cmdTimeout : s'.cmdTimeout = s.cmdTimeout
  now : s'.now = s.now

theorem Frame.refl (s : State) : Frame s s := ⟨rfl, rfl, rfl, rfl, rfl, rfl, rfl⟩

theorem powerCmd_frame (s : State) (cmd : Redfish.Cmd) (av : List Name) : Frame s (powerCmd s cmd av).st := by
  obtain ⟨st, h⟩ := powerCmd_st s cmd av
  rw [h]; exact ⟨rfl, rfl, rfl, rfl, rfl, rfl, rfl⟩

/-- `process_cmd` is a cascade over the first word.  Seen from the invariants there are seven kinds of line: `quit`;
    `setstatpath`; an accepted `settimeout`; `setplugs`; `setpath`; `stat` / `on` / `off`; and everything else (`help`,
    `auth`, `setheader`, `setonpath`, `setoffpath`, a refused `settimeout`, an unknown word), which comes back to the
    prompt with a state in the same `Frame` -/
theorem processCmd_cases {P : Name → Res → Prop} (s : State) (c : Name) (args : List Name)
    (other : ∀ s' out, Frame s s' → P c (ok s' out))
    (quit : P (lit "quit") { st := s, out := [], ctl := .exit 0 })
    (setstatpath : ∀ p, P (lit "setstatpath") (ok { s with statpath := p }))
    (settimeout : ∀ t, t ≤ INT_MAX → P (lit "settimeout") (ok { s with cmdTimeout := t }))
    (setplugs : P (lit "setplugs") (setplugs s args)) (setpath : P (lit "setpath") (setpath s args))
    (power : ∀ cmd, P (cmdName cmd) (powerCmd s cmd args)) : P c (processCmd s (c :: args)) := by
  have same : ∀ out, P c (ok s out) := fun out => other s out (Frame.refl s)
  unfold processCmd
  simp only
  refine ite_cases (fun _ => same _) fun _ => ?_
  refine ite_cases (fun h => h ▸ quit) fun _ => ?_
  refine ite_cases (fun _ => ?_) fun _ => ?_
  · unfold auth
    split
    · exact same _
    · exact ite_cases (fun _ => same _) fun _ => other _ _ ⟨rfl, rfl, rfl, rfl, rfl, rfl, rfl⟩
  refine ite_cases (fun _ => other _ _ ⟨rfl, rfl, rfl, rfl, rfl, rfl, rfl⟩) fun _ => ?_
  refine ite_cases (fun h => h ▸ setstatpath _) fun _ => ?_
  refine ite_cases (fun _ => ?_) fun _ => ?_
  · unfold setonpath
    split <;> exact other _ _ ⟨rfl, rfl, rfl, rfl, rfl, rfl, rfl⟩
  refine ite_cases (fun _ => ?_) fun _ => ?_
  · unfold setoffpath
    split <;> exact other _ _ ⟨rfl, rfl, rfl, rfl, rfl, rfl, rfl⟩
  refine ite_cases (fun h => h ▸ setplugs) fun _ => ?_
  refine ite_cases (fun h => h ▸ setpath) fun _ => ?_
  refine ite_cases (fun h => ?_) fun _ => ?_
  · unfold RfCmd.settimeout
    split
    · exact same _
    · simp only
      refine ite_cases (fun _ => same _) fun hb => ?_
      simp only [Bool.or_eq_true, decide_eq_true_eq, not_or, Int.not_lt] at hb
      exact h ▸ settimeout _ hb.2
  refine ite_cases (fun h => h ▸ power .stat) fun _ => ?_
  refine ite_cases (fun h => h ▸ power .on) fun _ => ?_
  exact ite_cases (fun h => h ▸ power .off) fun _ => same _

theorem setupPlug_ok {s s' : State} {p his : Name} {par : Option Name} (ha : setupPlug s p his par = .ok s') :
    ValidIndexStr his ∧ ∃ host s1, nthC s.hosts (hostIndexOf his) = some host ∧
      plugsAdd s p host (hostIndexOf his) par = some s1 ∧ s' = { s1 with status := statusInsert s1.status p } := by
  revert ha
  refine setupPlug_cases s p his par (P := fun r => r = .ok s' → _) ?_ ?_ ?_ ?_
  · intro _ e; cases e
  · intro _ _ e; cases e
  · intro _ _ e; cases e
  · intro host s1 hv hn ha e; cases e; exact ⟨hv, host, s1, hn, ha, rfl⟩

/-! ### every line is a sequence of primitive writes -/

/-- One write of the command layer to the part of the state its invariants read.  `N` holds of the plug names added. -/
inductive Write (N : Name → Prop) (s : State) : State → Prop
  | frame {s'} : Frame s s' → Write N s s'
  | remove (n) : n ∈ expand s.hosts → Write N s (plugsRemove s n)
  | add {p host i par s'} : N p → nthC s.hosts i = some host → plugsAdd s p host i par = some s' → Write N s s'
  | path {n cmd path post s'} : plugsUpdatePath s n cmd path post = some s' → Write N s s'
  | statpath (p) : Write N s { s with statpath := p }
  | timeout (t) : t ≤ INT_MAX → Write N s { s with cmdTimeout := t }

inductive Writes (N : Name → Prop) (s : State) : State → Prop
  | refl : Writes N s s
  | tail {s' s''} : Writes N s s' → Write N s' s'' → Writes N s s''

theorem Write.one {N} {s s' : State} (w : Write N s s') : Writes N s s' := .tail .refl w

theorem Writes.trans {N} {a b c : State} (h1 : Writes N a b) (h2 : Writes N b c) : Writes N a c := by
  induction h2 with
  | refl => exact h1
  | tail _ w ih => exact .tail ih w

theorem Writes.mono {N N' : Name → Prop} (hN : ∀ p, N p → N' p) {a b : State} (h : Writes N a b) : Writes N' a b := by
  induction h with
  | refl => exact .refl
  | tail _ w ih =>
    refine .tail ih ?_
    cases w with
    | frame f => exact .frame f
    | remove n hn => exact .remove n hn
    | add np hn ha => exact .add (hN _ np) hn ha
    | path hp => exact .path hp
    | statpath p => exact .statpath p
    | timeout t ht => exact .timeout t ht

/-- what every write keeps, every sequence of writes keeps -/
theorem Writes.keeps {N} {I : State → Prop} (step : ∀ s s', Write N s s' → I s → I s') {a b : State}
    (h : Writes N a b) (ha : I a) : I b := by
  induction h with
  | refl => exact ha
  | tail _ w ih => exact step _ _ w ih

theorem Write.hosts {N} {s s' : State} (w : Write N s s') : s'.hosts = s.hosts := by
  cases w with
  | frame f => exact f.hosts
  | remove => rfl
  | add _ _ ha => obtain ⟨_, rfl⟩ := plugsAdd_some ha; rfl
  | path hp => obtain ⟨_, _, rfl⟩ := plugsUpdatePath_some hp; rfl
  | statpath => rfl
  | timeout => rfl

theorem Writes.hosts {N} {a b : State} (h : Writes N a b) : b.hosts = a.hosts :=
  h.keeps (I := fun x => x.hosts = a.hosts) (fun _ _ w e => w.hosts.trans e) rfl

/-! ### the model's functions as sequences of writes -/

theorem removeInitialPlugs_writes (N) (s : State) : Writes N s (removeInitialPlugs s) :=
  removeInitialPlugs_ind s (P := Writes N s) .refl
    (fun _ n hn h => .tail h (.remove n (h.hosts ▸ hn)))
    fun _ h => .tail h (.frame ⟨rfl, rfl, rfl, rfl, rfl, rfl, rfl⟩)

/-- the plug names a `setplugs` with these arguments sets up -/
def Defines (av : List Name) (p : Name) : Prop :=
  ∃ a0 rest lplugs i, av = a0 :: rest ∧ hlCreate a0 = some lplugs ∧ nthC lplugs i = some p

theorem setplugs_writes (s : State) (av : List Name) : Writes (Defines av) s (setplugs s av).st := by
  have r := removeInitialPlugs_writes (Defines av) s
  refine setplugs_cases s av (P := fun r => Writes (Defines av) s r.st) (fun _ _ _ => .refl) (fun _ => r)
    (fun _ _ _ _ _ => r) fun a0 a1 rest lplugs _ idx hav h0 _ _ =>
      r.trans (setplugsLoop_induct lplugs idx _ .refl (fun _ => .refl) .refl ?_ _ _ _)
  intro _ i _ _ _ _ hp _ hs ih
  obtain ⟨_, host, s1', hn, ha, rfl⟩ := setupPlug_ok hs
  refine .trans ?_ ih
  exact .tail (Write.add ⟨a0, a1 :: rest, lplugs, i, hav, h0, hp⟩ hn ha).one (.frame ⟨rfl, rfl, rfl, rfl, rfl, rfl, rfl⟩)

theorem setpath_writes (N) (s : State) (av : List Name) : Writes N s (setpath s av).st :=
  setpath_cases s av (P := fun r => Writes N s r.st) (fun _ _ _ => .refl) fun cmd path post names =>
    setpathLoop_induct cmd path post .refl .refl (fun _ _ => .refl) (fun hs ih => (Write.path hs).one.trans ih) names s

/-- the plug names a line sets up -/
def LineDefines (av : List Name) (p : Name) : Prop := ∃ args, av = lit "setplugs" :: args ∧ Defines args p

theorem processCmd_writes (s : State) (av : List Name) : Writes (LineDefines av) s (processCmd s av).st := by
  cases av with
  | nil => exact .refl
  | cons c args =>
    refine processCmd_cases s c args (P := fun c r => Writes (LineDefines (c :: args)) s r.st)
      (fun _ _ f => (Write.frame f).one) .refl (fun p => (Write.statpath p).one) (fun t h => (Write.timeout t h).one)
      ((setplugs_writes s args).mono fun p hp => ⟨args, rfl, hp⟩) (setpath_writes _ s args)
      fun cmd => (Write.frame (powerCmd_frame s cmd args)).one

theorem session_writes {N : Name → Prop} : ∀ (bufs : List (List Char)) (s : State),
    (∀ b ∈ bufs, ∀ p, LineDefines (argvCreate (cstr b)) p → N p) → Writes N s (session s bufs).1
  | [], _, _ => .refl
  | b :: rest, s, h => by
    have a : Writes N s (step s b).st := (processCmd_writes s _).mono (h b (List.mem_cons_self ..))
    unfold session
    simp only
    split
    · exact a.trans (session_writes rest _ fun x hx => h x (List.mem_cons_of_mem _ hx))
    · exact a

/-! ## 2. outcomes -/

theorem setplugsLoop_ctl (lplugs : Hostlist) (idx : Nat → Option Name) (parent : Option Name) :
    ∀ (k i : Nat) (s : State), (setplugsLoop lplugs idx parent k i s).ctl = .cont ∨
      (setplugsLoop lplugs idx parent k i s).ctl = .exit 1 :=
  setplugsLoop_induct lplugs idx parent (.inl rfl) (fun _ => .inr rfl) (.inl rfl) fun _ _ _ ih => ih

theorem setplugs_ctl (s : State) (av : List Name) :
    (setplugs s av).ctl = .cont ∨ (setplugs s av).ctl = .exit 1 ∨ (setplugs s av).ctl = bignum :=
  setplugs_cases s av (P := fun r => r.ctl = .cont ∨ r.ctl = .exit 1 ∨ r.ctl = bignum)
    (fun _ _ h => h.imp_right .inr) (fun _ => .inl rfl) (fun _ _ _ _ _ => .inr (.inl rfl))
    fun _ _ _ _ _ _ _ _ _ _ => (setplugsLoop_ctl ..).imp_right .inl

theorem setpathLoop_ctl (cmd path : Name) (postdata : Option Name) :
    ∀ (l : List Name) (s : State), (setpathLoop cmd path postdata l s).ctl = .cont ∨
      (setpathLoop cmd path postdata l s).ctl = .exit 1 :=
  setpathLoop_induct cmd path postdata (.inl rfl) (.inl rfl) (fun _ _ => .inr rfl) fun _ ih => ih

theorem setpath_ctl (s : State) (av : List Name) :
    (setpath s av).ctl = .cont ∨ (setpath s av).ctl = .exit 1 ∨ (setpath s av).ctl = bignum :=
  setpath_cases s av (P := fun r => r.ctl = .cont ∨ r.ctl = .exit 1 ∨ r.ctl = bignum)
    (fun _ _ h => h.imp_right .inr) fun _ _ _ _ => (setpathLoop_ctl ..).imp_right .inl

theorem runMachine_ctl_wf {s : State} (hw : Redfish.WF (mCfg s) = true) (cmd : Redfish.Cmd) (pre : List Name)
    (ts : List Nat) : (runMachine s cmd pre ts).ctl = .cont := by
  unfold runMachine
  simp only [Redfish.runCmd_done hw, if_true]

theorem runMachine_ctl (s : State) (cmd : Redfish.Cmd) (pre : List Name) (ts : List Nat) :
    (runMachine s cmd pre ts).ctl = .cont ∨ Stuck (runMachine s cmd pre ts).ctl := by
  unfold runMachine
  simp only
  split
  · left; rfl
  · right; exact ⟨_, Or.inr (Or.inl rfl)⟩

theorem dispatch_ctl (s : State) (cmd : Redfish.Cmd) (pre : List Name) (ts : List Nat) :
    (dispatch s cmd pre ts).ctl = .cont ∨
    (Stuck (dispatch s cmd pre ts).ctl ∧ (Redfish.WF (mCfg s) = false ∨ allStatPaths s = false)) := by
  refine dispatch_cases s cmd pre ts
    (P := fun r => r.ctl = .cont ∨ (Stuck r.ctl ∧ (Redfish.WF (mCfg s) = false ∨ allStatPaths s = false)))
    (.inl rfl) ?_ (fun c hc hs => .inr ⟨hc, hs⟩)
  cases hw : Redfish.WF (mCfg s) with
  | true => exact .inl (runMachine_ctl_wf hw _ _ _)
  | false => exact (runMachine_ctl s cmd pre ts).imp_right fun h => ⟨h, .inl rfl⟩

/-- the outcomes of `stat` / `on` / `off` -/
def PowerClass (s : State) (c : Ctl) : Prop :=
  c = .cont ∨ (c = .exit 1 ∧ timeoutOverflow s = true) ∨ c = bignum ∨
  (Stuck c ∧ (Redfish.WF (mCfg s) = false ∨ allStatPaths s = false))

theorem powerCmd_ctl (s : State) (cmd : Redfish.Cmd) (av : List Name) : PowerClass s (powerCmd s cmd av).ctl :=
  powerCmd_cases s cmd av (P := fun r => PowerClass s r.ctl)
    (fun _ _ h => h.imp_right fun h => h.symm.imp_right .inl)
    fun pre ts => (dispatch_ctl s cmd pre ts).imp_right fun h => .inr (.inr h)

/-- **which line can have which outcome** (`w` = the first word of the line) -/
def StepClass (s : State) (w : Option Name) (c : Ctl) : Prop :=
  c = .cont ∨
  (c = .exit 0 ∧ w = some (lit "quit")) ∨
  (c = .exit 1 ∧ (w = some (lit "setplugs") ∨ w = some (lit "setpath"))) ∨
  (c = bignum ∧ (w = some (lit "setplugs") ∨ w = some (lit "setpath") ∨ isPowerWord w)) ∨
  (isPowerWord w ∧ Stuck c ∧ (Redfish.WF (mCfg s) = false ∨ allStatPaths s = false))

theorem StepClass.ofPower {s : State} {w : Option Name} {c : Ctl} (ht : TimeoutOK s) (hw : isPowerWord w)
    (h : PowerClass s c) : StepClass s w c := by
  rcases h with h | h | h | h
  · left; exact h
  · rw [ht.noOverflow] at h; exact absurd h.2 (by simp)
  · right; right; right; left; exact ⟨h, Or.inr (Or.inr hw)⟩
  · right; right; right; right; exact ⟨hw, h⟩

theorem processCmd_class (s : State) (av : List Name) (ht : TimeoutOK s) : StepClass s av.head? (processCmd s av).ctl := by
  cases av with
  | nil => exact .inl rfl
  | cons c args =>
    refine processCmd_cases s c args (P := fun c r => StepClass s (some c) r.ctl) (fun _ _ _ => .inl rfl)
      (.inr (.inl ⟨rfl, rfl⟩)) (fun _ => .inl rfl) (fun _ _ => .inl rfl) ?_ ?_ ?_
    · rcases setplugs_ctl s args with h | h | h
      · exact .inl h
      · exact .inr (.inr (.inl ⟨h, .inl rfl⟩))
      · exact .inr (.inr (.inr (.inl ⟨h, .inl rfl⟩)))
    · rcases setpath_ctl s args with h | h | h
      · exact .inl h
      · exact .inr (.inr (.inl ⟨h, .inr rfl⟩))
      · exact .inr (.inr (.inr (.inl ⟨h, .inr (.inl rfl)⟩)))
    · intro cmd
      refine StepClass.ofPower ht ?_ (powerCmd_ctl _ _ _)
      cases cmd
      · exact .inl rfl
      · exact .inr (.inl rfl)
      · exact .inr (.inr rfl)

theorem step_class (s : State) (buf : List Char) (ht : TimeoutOK s) : StepClass s (firstWord buf) (step s buf).ctl :=
  processCmd_class s _ ht

theorem step_quit (s : State) (buf : List Char) (h : firstWord buf = some (lit "quit")) :
    (step s buf).ctl = .exit 0 ∧ (step s buf).out = [] := by
  unfold step firstWord at *
  generalize argvCreate (cstr buf) = av at *
  cases av with
  | nil => simp at h
  | cons c args =>
    simp only [List.head?_cons, Option.some.injEq] at h
    subst h
    unfold processCmd
    simp only
    rw [if_pos trivial]
    exact ⟨rfl, rfl⟩

theorem step_safe (s : State) (buf : List Char) (hs : Safe s) (ht : TimeoutOK s)
    (h1 : firstWord buf ≠ some (lit "setplugs")) (h2 : firstWord buf ≠ some (lit "setpath"))
    (hb : (step s buf).ctl ≠ bignum) :
    (step s buf).ctl = .cont ∨ ((step s buf).ctl = .exit 0 ∧ firstWord buf = some (lit "quit")) := by
  obtain ⟨hw, hp⟩ := hs
  rcases step_class s buf ht with h | h | h | h | h
  · left; exact h
  · right; exact h
  · rcases h.2 with h' | h'
    · exact absurd h' h1
    · exact absurd h' h2
  · exact absurd h.1 hb
  · rcases h.2.2 with h' | h'
    · rw [hw] at h'; cases h'
    · rw [hp] at h'; cases h'

/-! ## 3. the plug map stays well-formed; `setplugs` pairs the i-th plug with the i-th index -/

/-- names distinct, every entry filed under its own name, its host index is an index into `hosts` and names that host -/
def MapOK (H : Hostlist) (m : PlugMap) : Prop :=
  (m.map (·.1)).Nodup ∧ ∀ e ∈ m, e.2.plugname = e.1 ∧ nthC H e.2.hostIdx = some e.2.hostname

/-- the plug table is well-formed: `MapOK` of the plug map against `hosts` -/
def TInv (s : State) : Prop := MapOK s.hosts s.plugMap

theorem lookup_isSome_iff_mem_keys (m : PlugMap) (n : Name) : (m.lookup n).isSome = true ↔ n ∈ m.map (·.1) := by
  rw [List.lookup_isSome_iff, List.mem_map]
  constructor
  · rintro ⟨p, hp, h⟩; exact ⟨p, hp, (beq_iff_eq.1 h).symm⟩
  · rintro ⟨p, hp, h⟩; exact ⟨p, hp, beq_iff_eq.2 h.symm⟩

theorem lookup_mem (m : PlugMap) (n : Name) (pd : PlugData) (h : m.lookup n = some pd) : (n, pd) ∈ m := by
  obtain ⟨l₁, l₂, rfl, _⟩ := List.lookup_eq_some_iff.1 h
  simp

theorem lookup_none_keys (m : PlugMap) (n : Name) (h : m.lookup n = none) : n ∉ m.map (·.1) := by
  rw [← lookup_isSome_iff_mem_keys, h]; simp

theorem mapUpdate_keys (m : PlugMap) (n : Name) (pd : PlugData) :
    (mapUpdate m n pd).map (·.1) = if (m.lookup n).isSome then m.map (·.1) else m.map (·.1) ++ [n] := by
  unfold mapUpdate
  split
  · rw [List.map_map]
    apply List.map_congr_left
    intro e _
    simp only [Function.comp]
    split
    · rename_i h; exact h.symm
    · rfl
  · simp

theorem mem_mapUpdate {m : PlugMap} {n : Name} {pd : PlugData} {e : Name × PlugData}
    (h : e ∈ mapUpdate m n pd) : e = (n, pd) ∨ e ∈ m := by
  unfold mapUpdate at h
  split at h
  · obtain ⟨x, hx, rfl⟩ := List.mem_map.mp h
    split
    · left; rfl
    · right; exact hx
  · rcases List.mem_append.mp h with h | h
    · right; exact h
    · left; simpa using h

theorem MapOK_update {H : Hostlist} {m : PlugMap} (h : MapOK H m) (n : Name) (pd : PlugData)
    (hn : pd.plugname = n) (hh : nthC H pd.hostIdx = some pd.hostname) : MapOK H (mapUpdate m n pd) := by
  refine ⟨?_, ?_⟩
  · rw [mapUpdate_keys]
    split
    · exact h.1
    · rename_i hl
      have hnot := lookup_none_keys m n (Option.not_isSome_iff_eq_none.mp hl)
      rw [List.nodup_append]
      refine ⟨h.1, by simp, ?_⟩
      intro a ha b hb
      simp at hb; subst hb
      intro e; subst e; exact hnot ha
  · intro e he
    rcases mem_mapUpdate he with rfl | he
    · exact ⟨hn, hh⟩
    · exact h.2 e he

theorem MapOK_delete {H : Hostlist} {m : PlugMap} (h : MapOK H m) (n : Name) : MapOK H (mapDelete m n) := by
  unfold mapDelete
  refine ⟨?_, ?_⟩
  · exact List.Nodup.sublist (List.Sublist.map _ List.filter_sublist) h.1
  · intro e he; exact h.2 e (List.mem_filter.mp he).1

theorem plugsRemove_hosts (s : State) (n : Name) : (plugsRemove s n).hosts = s.hosts := rfl

theorem Frame.TInv {s s' : State} (f : Frame s s') (h : TInv s) : TInv s' := by
  unfold RfCmd.TInv at *; rw [f.hosts, f.plugMap]; exact h

theorem plugsAdd_inv {s s' : State} {p host : Name} {i : Nat} {par : Option Name} (h : TInv s)
    (hh : nthC s.hosts i = some host) (ha : plugsAdd s p host i par = some s') : TInv s' := by
  obtain ⟨pl, rfl⟩ := plugsAdd_some ha
  exact MapOK_update h p { plugname := p, hostname := host, hostIdx := i, parent := par } rfl hh

theorem setupPlug_inv {s s' : State} {p his : Name} {par : Option Name} (h : TInv s)
    (ha : setupPlug s p his par = .ok s') : TInv s' := by
  obtain ⟨_, host, s1, hn, ha1, rfl⟩ := setupPlug_ok ha
  exact (plugsAdd_inv h hn ha1 : TInv s1)

theorem updPath_fields (pd : PlugData) (cmd path : Name) (post : Option Name) :
    (updPath pd cmd path post).plugname = pd.plugname ∧ (updPath pd cmd path post).hostname = pd.hostname ∧
    (updPath pd cmd path post).hostIdx = pd.hostIdx ∧ (updPath pd cmd path post).parent = pd.parent := by
  unfold updPath
  split
  · exact ⟨rfl, rfl, rfl, rfl⟩
  · split <;> exact ⟨rfl, rfl, rfl, rfl⟩

theorem plugsUpdatePath_inv {s s' : State} {n cmd path : Name} {post : Option Name} (h : TInv s)
    (ha : plugsUpdatePath s n cmd path post = some s') : TInv s' := by
  obtain ⟨pd, hpd, rfl⟩ := plugsUpdatePath_some ha
  obtain ⟨h1, h2⟩ := h.2 _ (lookup_mem _ _ _ hpd)
  obtain ⟨f1, f2, f3, _⟩ := updPath_fields pd cmd path post
  exact MapOK_update h n _ (by rw [f1]; exact h1) (by rw [f3, f2]; exact h2)

theorem runMachine_frame (s : State) (cmd : Redfish.Cmd) (pre : List Name) (ts : List Nat) :
    (runMachine s cmd pre ts).st.hosts = s.hosts ∧ (runMachine s cmd pre ts).st.plugMap = s.plugMap := ⟨rfl, rfl⟩

theorem Write.TInv {N} {s s' : State} (w : Write N s s') (h : TInv s) : TInv s' := by
  cases w with
  | frame f => exact f.TInv h
  | remove n => exact MapOK_delete h n
  | add _ hn ha => exact plugsAdd_inv h hn ha
  | path hp => exact plugsUpdatePath_inv h hp
  | statpath => exact h
  | timeout => exact h

theorem Write.TimeoutOK {N} {s s' : State} (w : Write N s s') (h : TimeoutOK s) : TimeoutOK s' := by
  cases w with
  | frame f => unfold RfCmd.TimeoutOK at *; rw [f.cmdTimeout, f.now]; exact h
  | remove => exact h
  | add _ _ ha => obtain ⟨_, rfl⟩ := plugsAdd_some ha; exact h
  | path hp => obtain ⟨_, _, rfl⟩ := plugsUpdatePath_some hp; exact h
  | statpath => exact h
  | timeout t ht => exact ⟨ht, h.2⟩

theorem step_inv (s : State) (buf : List Char) (h : TInv s) :
    (step s buf).st.hosts = s.hosts ∧ TInv (step s buf).st :=
  ⟨(processCmd_writes s _).hosts, (processCmd_writes s _).keeps (fun _ _ w => w.TInv) h⟩

/-! ### `setplugs` accepted: the i-th plug name gets the i-th host index, the parent is recorded -/

theorem lookup_mapUpdate_self (m : PlugMap) (n : Name) (pd : PlugData) : (mapUpdate m n pd).lookup n = some pd := by
  unfold mapUpdate
  split
  · rename_i h
    induction m with
    | nil => simp at h
    | cons e r ih =>
      obtain ⟨k, v⟩ := e
      by_cases hk : n = k
      · subst hk; simp
      · have hb : (n == k) = false := by simpa using hk
        have hk' : ¬ k = n := fun e => hk e.symm
        simp only [List.lookup_cons, hb] at h
        simp only [List.map_cons, hk', if_false, List.lookup_cons, hb]
        exact ih h
  · rename_i h
    rw [List.lookup_append, Option.not_isSome_iff_eq_none.mp h, List.lookup_cons, beq_self_eq_true]
    rfl

theorem lookup_map_ne (n' n : Name) (pd : PlugData) (hne : n' ≠ n) : ∀ (m : PlugMap),
    (m.map (fun e => if e.1 = n then (n, pd) else e)).lookup n' = m.lookup n'
  | [] => rfl
  | (k, v) :: r => by
    simp only [List.map_cons]
    by_cases hk : k = n
    · subst hk
      have hb : (n' == k) = false := by simpa using hne
      simp only [if_true, List.lookup_cons, hb]
      exact lookup_map_ne n' k pd hne r
    · simp only [hk, if_false, List.lookup_cons]
      rw [lookup_map_ne n' n pd hne r]

theorem lookup_append_ne (n' n : Name) (pd : PlugData) (hne : n' ≠ n) (m : PlugMap) :
    (m ++ [(n, pd)]).lookup n' = m.lookup n' := by
  have hb : (n' == n) = false := by simpa using hne
  rw [List.lookup_append, List.lookup_cons, hb]
  simp

theorem lookup_mapUpdate_ne (m : PlugMap) (n n' : Name) (pd : PlugData) (hne : n' ≠ n) :
    (mapUpdate m n pd).lookup n' = m.lookup n' := by
  unfold mapUpdate
  split
  · exact lookup_map_ne n' n pd hne m
  · exact lookup_append_ne n' n pd hne m

theorem setplugsLoop_accept (lplugs : Hostlist) (idx : Nat → Option Name) (parent : Option Name) :
    ∀ (k i : Nat) (s : State), TInv s →
      (setplugsLoop lplugs idx parent k i s).ctl = .cont → (setplugsLoop lplugs idx parent k i s).out = [] →
      (∀ j, i ≤ j → j < i + k → ∃ p his host, nthC lplugs j = some p ∧ idx j = some his ∧ ValidIndexStr his ∧
          nthC s.hosts (hostIndexOf his) = some host ∧
          ((∀ j', j < j' → j' < i + k → nthC lplugs j' ≠ some p) →
            (setplugsLoop lplugs idx parent k i s).st.plugMap.lookup p = some (pairData p his host parent))) ∧
      (∀ n, (∀ j, i ≤ j → j < i + k → nthC lplugs j ≠ some n) →
          (setplugsLoop lplugs idx parent k i s).st.plugMap.lookup n = s.plugMap.lookup n) := by
  refine setplugsLoop_induct lplugs idx parent (fun _ _ _ => ⟨fun j h1 h2 => by omega, fun n _ => rfl⟩)
    (fun _ _ hctl => by cases hctl) (fun _ _ hout => by cases hout) ?_
  -- the step at `i` writes `plug`; the later steps leave that entry alone unless the name comes again, so the last
  -- occurrence of a name wins (hence `hlast`), and a name not in the range keeps the entry it had
  intro k i s plug his s' hp hi hs ih hinv hctl hout
  obtain ⟨hval, host, s1, hhost, ha, e1⟩ := setupPlug_ok hs
  obtain ⟨pl, e2⟩ := plugsAdd_some ha
  have hh : s'.hosts = s.hosts := by rw [e1, e2]
  have hmap : s'.plugMap = mapUpdate s.plugMap plug (pairData plug his host parent) := by rw [e1, e2]; rfl
  obtain ⟨ih1, ih2⟩ := ih (setupPlug_inv hinv hs) hctl hout
  refine ⟨?_, ?_⟩
  · intro j hj1 hj2
    by_cases hji : j = i
    · subst hji
      refine ⟨plug, his, host, hp, hi, hval, hhost, ?_⟩
      intro hlast
      rw [ih2 plug (fun j' h1 h2 => hlast j' (by omega) (by omega)), hmap]
      exact lookup_mapUpdate_self _ _ _
    · obtain ⟨p, his', host', a, b, c, d, e⟩ := ih1 j (by omega) (by omega)
      refine ⟨p, his', host', a, b, c, by rw [← hh]; exact d, ?_⟩
      intro hlast
      exact e (fun j' h1 h2 => hlast j' h1 (by omega))
  · intro n hn
    rw [ih2 n (fun j h1 h2 => hn j (by omega) (by omega)), hmap]
    exact lookup_mapUpdate_ne _ _ _ _ (fun e => hn i (Nat.le_refl _) (by omega) (by rw [hp, e]))

/-! ## 4. which line is answered with which diagnostic -/

def commandWords : List Name :=
  [lit "help", lit "quit", lit "auth", lit "setheader", lit "setstatpath", lit "setonpath", lit "setoffpath",
   lit "setplugs", lit "setpath", lit "settimeout", lit "stat", lit "on", lit "off"]

theorem processCmd_empty (s : State) : processCmd s [] = ok s [] := rfl

theorem processCmd_unknown (s : State) (c : Name) (args : List Name) (h : c ∉ commandWords) :
    processCmd s (c :: args) = ok s [lit "type \"help\" for a list of commands"] := by
  simp only [commandWords, List.mem_cons, List.not_mem_nil, or_false, not_or] at h
  obtain ⟨h1, h2, h3, h4, h5, h6, h7, h8, h9, h10, h11, h12, h13⟩ := h
  unfold processCmd
  simp only
  rw [if_neg h1, if_neg h2, if_neg h3, if_neg h4, if_neg h5, if_neg h6, if_neg h7, if_neg h8, if_neg h9, if_neg h10,
    if_neg h11, if_neg h12, if_neg h13]

theorem processCmd_help (s : State) (args : List Name) : processCmd s (lit "help" :: args) = ok s helpLines := by
  unfold processCmd; simp only; rw [if_pos trivial]

theorem setplugs_usage (s : State) (av : List Name) (h : av.length < 2) :
    setplugs s av = ok s [lit "Usage: setplugs <plugnames> <hostindices> [<parentplug>]]"] := by
  unfold setplugs
  split
  · simp at h; omega
  · rfl

theorem setplugs_illegal_plugnames (s : State) (a0 a1 : Name) (rest : List Name)
    (hb : (hlArgOK a0 && hlArgOK a1) = true) (h0 : hlCreate a0 = none) :
    setplugs s (a0 :: a1 :: rest) = ok s [lit "setplugs: illegal plugnames input"] := by
  unfold setplugs; simp only [hb, h0, Bool.not_true, Bool.false_eq_true, if_false]

theorem setplugs_illegal_hostindices (s : State) (a0 a1 : Name) (rest : List Name) (lplugs : Hostlist)
    (hb : (hlArgOK a0 && hlArgOK a1) = true) (h0 : hlCreate a0 = some lplugs) (h1 : hlCreate a1 = none) :
    setplugs s (a0 :: a1 :: rest) = ok s [lit "setplugs: illegal hostindices input"] := by
  unfold setplugs; simp only [hb, h0, h1, Bool.not_true, Bool.false_eq_true, if_false]

theorem setplugs_mismatch (s : State) (a0 a1 : Name) (rest : List Name) (lplugs hostindices : Hostlist)
    (hb : (hlArgOK a0 && hlArgOK a1) = true) (h0 : hlCreate a0 = some lplugs) (h1 : hlCreate a1 = some hostindices)
    (hc : hlCount lplugs ≠ hlCount hostindices) (hs : ¬ (hlCount lplugs > 1 ∧ hlCount hostindices = 1)) :
    setplugs s (a0 :: a1 :: rest) =
      ok (removeInitialPlugs s) [lit "setplugs: plugs count not equal to host index count"] := by
  unfold setplugs
  simp only [hb, h0, h1, Bool.not_true, Bool.false_eq_true, if_false]
  have e1 : (hlCount lplugs != hlCount hostindices) = true := by simpa using hc
  have e2 : (decide (hlCount lplugs > 1) && hlCount hostindices == 1) = false := by
    cases h : (decide (hlCount lplugs > 1) && hlCount hostindices == 1) with
    | false => rfl
    | true => simp only [Bool.and_eq_true, decide_eq_true_eq, beq_iff_eq] at h; exact absurd h hs
  rw [if_pos e1, e2]; rfl

theorem setplugs_eq_loop (s : State) (a0 a1 : Name) (rest : List Name) (lplugs hostindices : Hostlist)
    (hb : (hlArgOK a0 && hlArgOK a1) = true) (h0 : hlCreate a0 = some lplugs) (h1 : hlCreate a1 = some hostindices)
    (hc : hlCount lplugs = hlCount hostindices) :
    setplugs s (a0 :: a1 :: rest) =
      setplugsLoop lplugs (fun i => nthC hostindices i) rest.head? (hlCount lplugs) 0 (removeInitialPlugs s) := by
  unfold setplugs
  simp only [hb, h0, h1, Bool.not_true, Bool.false_eq_true, if_false]
  have e1 : (hlCount lplugs != hlCount hostindices) = false := by simpa using hc
  rw [e1]; rfl

theorem setplugs_eq_subst (s : State) (a0 a1 : Name) (rest : List Name) (lplugs hostindices : Hostlist) (his : Name)
    (hb : (hlArgOK a0 && hlArgOK a1) = true) (h0 : hlCreate a0 = some lplugs) (h1 : hlCreate a1 = some hostindices)
    (hc : hlCount lplugs > 1) (h1' : hlCount hostindices = 1) (hn : nthC hostindices 0 = some his) :
    setplugs s (a0 :: a1 :: rest) =
      setplugsLoop lplugs (fun _ => some his) rest.head? (hlCount lplugs) 0 (removeInitialPlugs s) := by
  unfold setplugs
  simp only [hb, h0, h1, Bool.not_true, Bool.false_eq_true, if_false]
  have e1 : (hlCount lplugs != hlCount hostindices) = true := by rw [h1']; simp; omega
  have e2 : (decide (hlCount lplugs > 1) && hlCount hostindices == 1) = true := by simp [hc, h1']
  rw [if_pos e1, if_pos e2, hn]

theorem setupPlug_invalid (s : State) (p his : Name) (par : Option Name) (h : ¬ ValidIndexStr his) :
    setupPlug s p his par = .bad (lit "setplugs: invalid hostindex " ++ his ++ lit " specified") := by
  unfold setupPlug
  simp only
  rw [if_pos ((not_ValidIndexStr_iff his).mp h)]

theorem setupPlug_range (s : State) (p his : Name) (par : Option Name) (h : ValidIndexStr his)
    (hn : nthC s.hosts (hostIndexOf his) = none) :
    setupPlug s p his par =
      .bad (lit "setplugs: hostindex " ++ (toString (toInt32 (strtol his).1)).toList ++ lit " out of range") := by
  unfold setupPlug
  simp only
  have : ¬ ((strtol his).2.2 || (strtol his).2.1 != his.length || decide (toInt32 (strtol his).1 < 0)) = true :=
    fun h' => ((not_ValidIndexStr_iff his).mpr h') h
  rw [if_neg this]
  unfold hostIndexOf at hn
  rw [hn]

theorem powerCmd_illegal (s : State) (cmd : Redfish.Cmd) (a : Name) (rest : List Name) (hb : hlArgOK a = true)
    (h : hlCreate a = none) : powerCmd s cmd (a :: rest) = ok s [lit "illegal hosts input"] := by
  unfold powerCmd; simp only [hb, h, Bool.not_true, Bool.false_eq_true, if_false]

theorem setpath_usage (s : State) (av : List Name) (h : av.length < 3) :
    setpath s av = ok s [lit "Usage: setpath <plugnames> <cmd> <path> [<postdata>]"] := by
  unfold setpath
  split
  · simp at h; omega
  · rfl

theorem setpath_invalid_command (s : State) (a0 a1 a2 : Name) (rest : List Name)
    (h : a1 ≠ lit "stat" ∧ a1 ≠ lit "on" ∧ a1 ≠ lit "off") :
    setpath s (a0 :: a1 :: a2 :: rest) = ok s [lit "setpath: invalid command specified"] := by
  unfold setpath; simp only; rw [if_pos h]

theorem settimeout_spec (s : State) (a : Name) (rest : List Name) :
    settimeout s (a :: rest) =
      if (strtol a).2.2 = true ∨ (strtol a).2.1 ≠ a.length ∨ (strtol a).1 ≤ 0 ∨ (strtol a).1 > INT_MAX
      then ok s [lit "invalid timeout specified"] else ok { s with cmdTimeout := (strtol a).1 } := by
  unfold settimeout
  simp only [Bool.or_eq_true, bne_iff_ne, ne_eq, decide_eq_true_eq, or_assoc]

theorem setplugs_pairs (s : State) (a0 a1 : Name) (rest : List Name) (lplugs hostindices : Hostlist) (h : TInv s)
    (hb : (hlArgOK a0 && hlArgOK a1) = true) (h0 : hlCreate a0 = some lplugs) (h1 : hlCreate a1 = some hostindices)
    (hc : hlCount lplugs = hlCount hostindices)
    (hctl : (setplugs s (a0 :: a1 :: rest)).ctl = .cont) (hout : (setplugs s (a0 :: a1 :: rest)).out = []) :
    (∀ j, j < hlCount lplugs → ∃ p his host, nthC lplugs j = some p ∧ nthC hostindices j = some his ∧
        ValidIndexStr his ∧ nthC s.hosts (hostIndexOf his) = some host ∧
        ((∀ j', j < j' → j' < hlCount lplugs → nthC lplugs j' ≠ some p) →
          (setplugs s (a0 :: a1 :: rest)).st.plugMap.lookup p = some (pairData p his host rest.head?))) ∧
    (∀ n, (∀ j, j < hlCount lplugs → nthC lplugs j ≠ some n) →
        (setplugs s (a0 :: a1 :: rest)).st.plugMap.lookup n = (removeInitialPlugs s).plugMap.lookup n) := by
  rw [setplugs_eq_loop s a0 a1 rest lplugs hostindices hb h0 h1 hc] at hctl hout ⊢
  have r1 := (removeInitialPlugs_writes (fun _ => True) s).hosts
  have r2 := (removeInitialPlugs_writes (fun _ => True) s).keeps (fun _ _ w => w.TInv) h
  obtain ⟨A, B⟩ := setplugsLoop_accept lplugs (fun i => nthC hostindices i) rest.head? (hlCount lplugs) 0
    (removeInitialPlugs s) r2 hctl hout
  refine ⟨?_, ?_⟩
  · intro j hj
    obtain ⟨p, his, host, a, b, c, d, e⟩ := A j (Nat.zero_le _) (by omega)
    refine ⟨p, his, host, a, b, c, by rw [← r1]; exact d, ?_⟩
    intro hlast
    exact e (fun j' x y => hlast j' x (by omega))
  · intro n hn
    exact B n (fun j _ y => hn j (by omega))

/-- after `remove_initial_plugs` the flag `initial_plugs_setup` is clear, so a second call does nothing: the initial
    plugs are removed by the first `setplugs` that gets as far as counting (only then) -/
theorem removeInitialPlugs_idem (s : State) : (removeInitialPlugs s).initial = false := by
  unfold removeInitialPlugs
  split
  · rename_i h; simpa using h
  · rfl

instance (H : Hostlist) (m : PlugMap) : Decidable (MapOK H m) := by unfold MapOK; exact inferInstance
instance (s : State) : Decidable (TInv s) := by unfold TInv; exact inferInstance

theorem hostIdx_lt (s : State) (hh : HWF s.hosts) (h : TInv s) (e : Name × PlugData) (he : e ∈ s.plugMap) :
    e.2.hostIdx < (expand s.hosts).length := by
  have := (h.2 e he).2
  rw [nthC_spec s.hosts _ hh] at this
  rcases Nat.lt_or_ge e.2.hostIdx (expand s.hosts).length with h1 | h1
  · exact h1
  · rw [List.getElem?_eq_none h1] at this; cases this

/-! ## 5. target resolution, and the composition with the machine theorems -/

/-- the plug list and the plug map name the same plugs, as target resolution asks it: `plugs_name_valid` succeeds exactly
    on the names the map holds (`LinkedD`: a form that can be evaluated; `Link`: the form every line keeps) -/
def Linked (s : State) : Prop := ∀ n, plugsNameValid s n = true ↔ (s.plugMap.lookup n).isSome = true

/-- the path `cmd` needs is set for every plug (by the default path or by the plug's own) -/
def PathsFor (s : State) (cmd : Redfish.Cmd) : Prop := ∀ n, (s.plugMap.lookup n).isSome = true → (getPath s cmd n).isSome = true

theorem mIndex_of_lookup (m : PlugMap) (n : Name) (h : (m.lookup n).isSome = true) :
    ∃ i, mIndex m n = some i ∧ i < m.length ∧ (m[i]?.map (·.1)) = some n := by
  have hmem := (lookup_isSome_iff_mem_keys m n).mp h
  obtain ⟨e, he, hen⟩ := List.mem_map.mp hmem
  have hlt : m.findIdx (fun e => e.1 == n) < m.length :=
    List.findIdx_lt_length.mpr ⟨e, he, by simp [hen]⟩
  refine ⟨m.findIdx (fun e => e.1 == n), ?_, hlt, ?_⟩
  · unfold mIndex; simp only [hlt, if_true]
  · have := List.findIdx_getElem (p := fun e : Name × PlugData => e.1 == n) (xs := m) (w := hlt)
    rw [List.getElem?_eq_getElem hlt]
    simp only [Option.map_some, Option.some.injEq]
    simpa using this

theorem mIndex_none_of_lookup (m : PlugMap) (n : Name) (h : (m.lookup n).isSome = false) : mIndex m n = none := by
  unfold mIndex
  have : ∀ x ∈ m, (fun e : Name × PlugData => e.1 == n) x = false := by
    intro x hx
    cases hb : (x.1 == n) with
    | false => simpa using hb
    | true =>
      have hx1 : x.1 = n := by simpa using hb
      have : n ∈ m.map (·.1) := List.mem_map.mpr ⟨x, hx, hx1⟩
      rw [(lookup_isSome_iff_mem_keys m n).mpr this] at h; cases h
  rw [List.findIdx_eq_length.mpr this]; simp

def unknownLine (n : Name) : Name := lit "unknown plug specified: " ++ n

theorem resolveOne_spec (s : State) (cmd : Redfish.Cmd) (hl : Linked s) (hp : PathsFor s cmd) (n : Name) :
    resolveOne s cmd n =
      match mIndex s.plugMap n with
      | some i => .target i
      | none => .line (unknownLine n) := by
  unfold resolveOne
  by_cases hv : plugsNameValid s n = true
  · have hm := (hl n).mp hv
    obtain ⟨i, hi, _, _⟩ := mIndex_of_lookup s.plugMap n hm
    have hpath := hp n hm
    simp only [hv, Bool.not_true, Bool.false_eq_true, if_false, hi]
    cases hg : getPath s cmd n with
    | none => rw [hg] at hpath; cases hpath
    | some _ => rfl
  · have hv' : plugsNameValid s n = false := by simpa using hv
    have hm : (s.plugMap.lookup n).isSome = false := Bool.eq_false_iff.mpr fun h => hv ((hl n).mpr h)
    rw [mIndex_none_of_lookup _ _ hm]
    simp only [hv', Bool.not_false, if_true]
    rfl

theorem resolveLoop_spec (s : State) (cmd : Redfish.Cmd) (hl : Linked s) (hp : PathsFor s cmd) (names : List Name) :
    resolveLoop s cmd false names =
      ((names.filter fun n => (mIndex s.plugMap n).isNone).map unknownLine,
       names.filterMap (mIndex s.plugMap), false) := by
  induction names with
  | nil => rfl
  | cons n rest ih =>
    unfold resolveLoop
    rw [ih, resolveOne_spec s cmd hl hp n]
    cases h : mIndex s.plugMap n <;> simp [h]

theorem mCfg_names (s : State) : (mCfg s).plugs.map (·.name) = List.range s.plugMap.length := by
  unfold mCfg
  simp only [List.map_map]
  have : ((fun (x : Redfish.PlugCfg) => x.name) ∘ fun (e : (Name × PlugData) × Nat) =>
      ({ name := e.2, host := e.2, parent := e.1.2.parent.map fun p => (mIndex s.plugMap p).getD s.plugMap.length } : Redfish.PlugCfg)) = Prod.snd := by
    funext e; rfl
  rw [this, List.zipIdx_map_snd, List.range_eq_range']

theorem known_mCfg (s : State) (i : Nat) : Redfish.known (mCfg s) i = decide (i < s.plugMap.length) := by
  unfold Redfish.known Redfish.lookup
  have hn := mCfg_names s
  by_cases hi : i < s.plugMap.length
  · have : i ∈ (mCfg s).plugs.map (·.name) := by rw [hn]; exact List.mem_range.mpr hi
    obtain ⟨x, hx, hxi⟩ := List.mem_map.mp this
    have : ((mCfg s).plugs.find? (fun x => decide (x.name = i))).isSome = true :=
      List.find?_isSome.mpr ⟨x, hx, by simp [hxi]⟩
    rw [this]; simp [hi]
  · cases hf : ((mCfg s).plugs.find? (fun x => decide (x.name = i))).isSome with
    | false => simp [hi]
    | true =>
      obtain ⟨x, hx, hxi⟩ := List.find?_isSome.mp hf
      have : i ∈ (mCfg s).plugs.map (·.name) := List.mem_map.mpr ⟨x, hx, by simpa using hxi⟩
      rw [hn] at this
      exact absurd (List.mem_range.mp this) hi

theorem mIndex_lt (m : PlugMap) (n : Name) (i : Nat) (h : mIndex m n = some i) : i < m.length := by
  unfold mIndex at h
  simp only at h
  split at h
  · cases h; assumption
  · cases h

theorem resolved_known (s : State) (names : List Name) :
    ∀ t ∈ names.filterMap (mIndex s.plugMap), Redfish.known (mCfg s) t = true := by
  intro t ht
  obtain ⟨n, _, hn⟩ := List.mem_filterMap.mp ht
  rw [known_mCfg]; simpa using mIndex_lt _ _ _ hn

theorem dispatch_safe (s : State) (cmd : Redfish.Cmd) (pre : List Name) (ts : List Nat) (hs : Safe s) (hne : ts ≠ []) :
    dispatch s cmd pre ts = runMachine s cmd pre ts := by
  obtain ⟨hw, hp⟩ := hs
  unfold dispatch
  have h1 : ts.isEmpty = false := by cases ts with | nil => exact absurd rfl hne | cons => rfl
  simp only [h1, Bool.false_eq_true, if_false, hp, Bool.not_true, Bool.and_false, hw, if_true]

theorem runMachine_nil (s : State) (cmd : Redfish.Cmd) (pre : List Name) :
    (runMachine s cmd pre []).out = pre ∧ (runMachine s cmd pre []).ctl = .cont := by
  have h : Redfish.runCmd (mCfg s) (mSt s) cmd [] = ([], mSt s, true) := by
    unfold Redfish.runCmd Redfish.runLoop
    simp
  unfold runMachine
  simp [h]

theorem powerCmd_resolved (s : State) (cmd : Redfish.Cmd) (a : Name) (rest : List Name) (hl : Hostlist)
    (hs : Safe s) (ht : TimeoutOK s) (hlk : Linked s) (hp : PathsFor s cmd) (hb : hlArgOK a = true)
    (hc : hlCreate a = some hl) :
    let names := expand hl
    let T := names.filterMap (mIndex s.plugMap)
    let M := (Redfish.runCmd (mCfg s) (mSt s) cmd T).1
    (powerCmd s cmd (a :: rest)).ctl = .cont ∧
    (powerCmd s cmd (a :: rest)).out =
      (names.filter fun n => (mIndex s.plugMap n).isNone).map unknownLine ++ M.map (render s) ∧
    (M.map Redfish.linePlug).Perm T ∧ (∀ l ∈ M, Redfish.isUnk l = false) := by
  intro names T M
  have hov : timeoutOverflow s = false := ht.noOverflow
  have hw := hs.1
  have hres := resolveLoop_spec s cmd hlk hp names
  have hperm : (M.map Redfish.linePlug).Perm T := Redfish.runCmd_plugs hw _ _ _
  have hunk : ∀ l ∈ M, Redfish.isUnk l = false := by
    intro l hl'
    have h1 := Redfish.runCmd_unknowns hw (mSt s) cmd T
    have : (Redfish.linePlug l, Redfish.isUnk l) ∈ T.map fun t => (t, !Redfish.known (mCfg s) t) :=
      h1.subset (List.mem_map.mpr ⟨l, hl', rfl⟩)
    obtain ⟨t, ht, hte⟩ := List.mem_map.mp this
    have hk := resolved_known s names t ht
    simp only [Prod.mk.injEq] at hte
    rw [← hte.2, hk]; rfl
  have e : powerCmd s cmd (a :: rest) =
      dispatch s cmd ((names.filter fun n => (mIndex s.plugMap n).isNone).map unknownLine) T := by
    unfold powerCmd
    simp only [hb, hc, Bool.not_true, Bool.false_eq_true, if_false, hov]
    rw [show resolveLoop s cmd false (expand hl) = _ from hres]
    simp only [Bool.false_eq_true, if_false]
    rfl
  rw [e]
  by_cases hT : T = []
  · refine ⟨?_, ?_, hperm, hunk⟩
    · unfold dispatch; simp [hT]
    · have hM : M = [] := by
        show (Redfish.runCmd (mCfg s) (mSt s) cmd T).1 = []
        rw [hT]
        unfold Redfish.runCmd Redfish.runLoop
        simp
      unfold dispatch; simp [hT, hM]
  · rw [dispatch_safe s cmd _ T hs hT]
    exact ⟨runMachine_ctl_wf hw _ _ _, rfl, hperm, hunk⟩

theorem powerCmd_rules (s : State) (cmd : Redfish.Cmd) (names : List Name) (hs : Safe s) :
    (Redfish.runCmd (mCfg s) (mSt s) cmd (names.filterMap (mIndex s.plugMap))).1.Perm
      (Redfish.specRun (mCfg s) (mSt s) cmd (names.filterMap (mIndex s.plugMap))).1 :=
  (Redfish.runCmd_refines hs.1 _ _ _).1

/-! ### list and map in step: a checkable form -/

/-- the plug list is built as `hostlist_push_host` builds lists (so `hostlist_find` sees every member), and it holds
    exactly the names the map holds -/
def LinkedD (s : State) : Prop :=
  (∀ r ∈ s.plugs, r.single = true ∨ ((splitDigits r.pfx).2 = [] ∧ r.hi ≤ MAX_HOST_SUFFIX)) ∧
  (∀ n ∈ expand s.plugs, n ∈ s.plugMap.map (·.1)) ∧ (∀ n ∈ s.plugMap.map (·.1), n ∈ expand s.plugs)

instance (s : State) : Decidable (LinkedD s) := by unfold LinkedD; exact inferInstance

theorem LinkedD.find_iff {s : State} (h : LinkedD s) (n : Name) :
    (find s.plugs n).isSome = true ↔ n ∈ expand s.plugs := by
  constructor
  · intro hf
    cases hfi : find s.plugs n with
    | none => rw [hfi] at hf; cases hf
    | some i => exact find_mem s.plugs n i hfi
  · intro hm
    rw [find_complete s.plugs n hm (HPushed_findable s.plugs n h.1)]; rfl

theorem LinkedD.linked {s : State} (h : LinkedD s) : Linked s := by
  intro n
  unfold plugsNameValid
  rw [lookup_isSome_iff_mem_keys, h.find_iff]
  exact ⟨h.2.1 n, h.2.2 n⟩

theorem PathsFor_of_default (s : State) (cmd : Redfish.Cmd)
    (h : (match cmd with | .stat => s.statpath | .on => s.onpath | .off => s.offpath).isSome = true) : PathsFor s cmd := by
  intro n _
  have hor : ∀ (a b : Option Name), b.isSome = true → (a.or b).isSome = true := by
    intro a b hb; cases a <;> simp [Option.or, hb]
  unfold getPath
  simp only [Option.isSome_map]
  cases cmd <;> exact hor _ _ h

end Pm.RfCmd
