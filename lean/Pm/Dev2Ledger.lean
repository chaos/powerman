import Pm.Dev2Count
/-! Helper lemmas for C15 over whole runs, the device half of the ledger: **a telemetry or diagnostic callback for a client
    comes before the last completion that the device still owes that client**.

    `isStray cid x`: `x` carries text for client `cid` (`305`/`309`; it would be a stray line if `cid`'s command were over).
    `Fwd cid q out` (text comes forward of the `q`-th completion): before every such callback in `out`, fewer than `q`
    completions for `cid` have been reported.  With `q` the number of `cid`'s actions queued when `dev_post_poll` begins,
    this holds of everything one device's share of the pass reports: the text is produced while the action it belongs to
    is still at the head of the queue.  Together with the conservation of completions (`Dev2Count`) it gives the daemon the
    fact that such a line reaches only a client whose command is still in progress. -/
namespace Pm.Dev2

/-- the callback carries a telemetry or diagnostic text for client `cid` -/
def isStray (cid : Nat) : Out → Bool
  | .telemetry c _ => c == cid
  | .diag c _ => c == cid
  | _ => false

/-- before every text callback for `cid` in `out`, fewer than `q` completions for `cid` were reported -/
def Fwd (cid q : Nat) (out : List Out) : Prop :=
  ∀ pre x post, out = pre ++ x :: post → isStray cid x = true → fcount cid pre < q

theorem Fwd.nil (cid q : Nat) : Fwd cid q [] := by
  intro pre x post h; simp at h

theorem split_append {α} {a b pre post : List α} {x : α} (h : a ++ b = pre ++ x :: post) :
    (∃ post', a = pre ++ x :: post' ∧ post = post' ++ b) ∨ (∃ pre', b = pre' ++ x :: post ∧ pre = a ++ pre') := by
  induction a generalizing pre with
  | nil => exact Or.inr ⟨pre, by simpa using h, by simp⟩
  | cons y r ih =>
    cases pre with
    | nil =>
      simp only [List.cons_append, List.nil_append, List.cons.injEq] at h
      obtain ⟨rfl, h⟩ := h
      exact Or.inl ⟨r, rfl, h.symm⟩
    | cons z pre =>
      simp only [List.cons_append, List.cons.injEq] at h
      obtain ⟨rfl, h⟩ := h
      rcases ih h with ⟨post', h1, h2⟩ | ⟨pre', h1, h2⟩
      · exact Or.inl ⟨post', by rw [h1]; rfl, h2⟩
      · exact Or.inr ⟨pre', h1, by rw [h2]; rfl⟩

theorem Fwd.append_noStray {cid q : Nat} {out new : List Out} (h : Fwd cid q out) (hn : ∀ x ∈ new, isStray cid x = false) :
    Fwd cid q (out ++ new) := by
  intro pre x post e hx
  rcases split_append e with ⟨post', h1, _⟩ | ⟨pre', h1, _⟩
  · exact h pre x post' h1 hx
  · have := hn x (by rw [h1]; simp)
    rw [this] at hx; cases hx

theorem Fwd.append_noFinish {cid q : Nat} {out new : List Out} (h : Fwd cid q out) (hn : ∀ x ∈ new, isFinish x = false)
    (hq : (∃ x ∈ new, isStray cid x = true) → fcount cid out < q) : Fwd cid q (out ++ new) := by
  intro pre x post e hx
  rcases split_append e with ⟨post', h1, _⟩ | ⟨pre', h1, h2⟩
  · exact h pre x post' h1 hx
  · rw [h2, fcount_append]
    have : fcount cid pre' = 0 := fcount_noFinish cid pre' (fun y hy => hn y (by rw [h1]; simp [hy]))
    rw [this, Nat.add_zero]
    exact hq ⟨x, by rw [h1]; simp, hx⟩

theorem isStray_finish (cid : Nat) (l : List Out) (h : ∀ x ∈ l, ∃ c e, x = Out.finish c e) : ∀ x ∈ l, isStray cid x = false := by
  intro x hx; obtain ⟨c, e, rfl⟩ := h x hx; rfl

theorem isStray_said {cid a : Nat} {l : List Out} (h : ∀ x ∈ l, saidTo a x = true) (hne : a ≠ cid) : ∀ x ∈ l, isStray cid x = false := by
  intro x hx
  have ha := h x hx
  cases x with
  | telemetry c t | diag c t => exact Bool.eq_false_iff.2 fun hs => hne ((eq_of_beq ha).symm.trans (eq_of_beq hs))
  | _ => rfl

theorem SaidFor.said {c : CS} {o : Oracle} {a : Action} {said : List Out} (h : SaidFor c o a said) :
    ∀ x ∈ said, saidTo a.clientId x = true := by
  rcases h with rfl | rfl
  · exact fun x hx => saidTo_of_note (timeoutTele_to c.dev a x hx)
  · rw [← stamp_clientId c.env.now a]; exact (headRun_writes c o a).said

/-- the ledger of client `cid` at a point of the pass: the completions reported and the actions still queued are covered by
    `q`, and every text for `cid` reported so far came while a completion was owed -/
def ClientLedger (cid q : Nat) (s : PA) : Prop := fcount cid s.2.2.1 + qcount cid s.1.dev.acts ≤ q ∧ Fwd cid q s.2.2.1

/-- **every move of the pass keeps the ledger**: what a move says, it says for the head of the queue, whose completion is still
    owed; then come completions only -/
theorem Move.clientLedger {cid q : Nat} (hc : cid ≠ 0) {k : Stage} {s s' : PA} (hm : Move k s s') (h : ClientLedger cid q s) : ClientLedger cid q s' := by
  obtain ⟨hle, hf⟩ := h
  refine ⟨Nat.le_trans (hm.count hc) hle, ?_⟩
  obtain ⟨said, fins, e, hfin, hs⟩ := hm.says
  rw [e]
  refine Fwd.append_noStray ?_ (isStray_finish cid _ hfin)
  rcases hs with rfl | rfl | ⟨a, rest, ha, hs⟩
  · rw [List.append_nil]; exact hf
  · exact hf.append_noStray (by intro x hx; cases List.mem_singleton.mp hx; rfl)
  · refine hf.append_noFinish hs.noFinish ?_
    rintro ⟨x, hx, hst⟩
    by_cases hca : a.clientId = cid
    · rw [ha, qcount_cons, if_pos (by simpa using hca)] at hle
      omega
    · rw [isStray_said hs.said hca x hx] at hst; cases hst

/-- **`_process_action`**: if `q` is the number of completions reported so far plus the number of `cid`'s actions queued, every
    text callback for `cid` comes while fewer than `q` completions for `cid` have been reported -/
theorem processActionF_fwd (fuel : Nat) (c : CS) (o : Oracle) (out : List Out) (tmo : Option Time) (cid q : Nat) (hc : cid ≠ 0)
    (hcons : fcount cid out + qcount cid c.dev.acts = q) (h : Fwd cid q out) :
    Fwd cid q (processActionF fuel c o out tmo).2.2.1 :=
  ((processActionF_run fuel c o out tmo).keeps (I := ClientLedger cid q) (fun _ _ hm => hm.clientLedger hc) ⟨Nat.le_of_eq hcons, h⟩).2

/-- **one device's share of `dev_post_poll`**: with `q` the number of `cid`'s actions queued before, the completions
    reported plus the actions still queued do not exceed `q`, and every text callback for `cid` comes while fewer than
    `q` completions for `cid` have been reported -/
theorem postPoll_ledger (d : Dev) (env : Env) (o : Oracle) (cid : Nat) (hc : cid ≠ 0) :
    fcount cid (postPoll d env o).2.2.1 + qcount cid (postPoll d env o).1.dev.acts ≤ qcount cid d.acts ∧
    Fwd cid (qcount cid d.acts) (postPoll d env o).2.2.1 :=
  (postPoll_run d env o).keeps (I := ClientLedger cid (qcount cid d.acts)) (fun _ _ _ hm => hm.clientLedger hc) ⟨by simp, Fwd.nil _ _⟩

end Pm.Dev2

/-! axiom audit (expected: at most `propext`, `Classical.choice`, `Quot.sound`) -/
#print axioms Pm.Dev2.postPoll_ledger
#print axioms Pm.Dev2.processActionF_fwd
