import Pm.ClientLine
/-! `_parse_input` and `install` as far as property C01 goes: which target list reaches `install`, and what `install` does to
    each device.  Read off `ClientPf.LineDoes` and `ClientPf.install_outcomes`. -/
namespace Pm.Daemon.Enq
open Pm Pm.Client
open Pm.Dev2 (Dev)
open ClientPf (LineDoes parseLine_does plQuit_spec handleWrite_only)

/-! ### what `install` does to each device -/

theorem install_cases (w : W) (c : Cli) (com : Com) (names : List Name) :
    install w c com names = (w, put c (codeLine 213 ++ crlf ++ (if c.quit then [] else prompt))) ∨
    ((∀ nd ∈ w.devs, needsDev nd.2 (names.map ofChars) = true → handles nd.2 (comIdx com) (names.map ofChars) = true) ∧
     (install w c com names).1.devs = w.devs.map (installDev (comIdx com) (names.map ofChars) c.id c.telemetry w.alNext) ∧
     0 < installTotal (comIdx com) (names.map ofChars) c.id c.telemetry w.alNext w.devs ∧
     (install w c com names).2 = { c with cmd := some { com, names, error := false, al := w.alNext, pending := installTotal (comIdx com) (names.map ofChars) c.id c.telemetry w.alNext w.devs } }) :=
  (ClientPf.install_outcomes w c com names).imp id fun ⟨h1, h2, h⟩ => h ▸ ⟨h1, rfl, h2, rfl⟩

theorem install_devs (w : W) (c : Cli) (com : Com) (names : List Name) :
    (install w c com names).1.devs = w.devs ∨
    (install w c com names).1.devs = w.devs.map (installDev (comIdx com) (names.map ofChars) c.id c.telemetry w.alNext) := by
  rcases install_cases w c com names with h | ⟨_, h, _⟩
  · rw [h]; exact .inl rfl
  · exact .inr h

theorem install_uninvolved (w : W) (c : Cli) (com : Com) (names : List Name) (i : Nat) (nd : Bytes × Dev)
    (hi : w.devs[i]? = some nd) (h : needsDev nd.2 (names.map ofChars) = false) :
    (install w c com names).1.devs[i]? = some nd := by
  rcases install_devs w c com names with e | e <;> rw [e]
  · exact hi
  · rw [List.getElem?_map, hi]; simp [installDev_uninvolved h]

theorem install_device (w : W) (c : Cli) (com : Com) (names : List Name) (i : Nat) (nd : Bytes × Dev)
    (hi : w.devs[i]? = some nd) :
    ∃ d', (install w c com names).1.devs[i]? = some (nd.1, d') ∧ d'.plugs = nd.2.plugs ∧ d'.scripts = nd.2.scripts ∧
      (d'.acts = nd.2.acts ∨
       d'.acts = nd.2.acts ++ newActs nd.2.plugs nd.2.scripts (comIdx com) (names.map ofChars) c.id c.telemetry w.alNext) := by
  rcases install_devs w c com names with e | e <;> rw [e]
  · exact ⟨nd.2, hi, rfl, rfl, .inl rfl⟩
  · have hs := installDev_spec (comIdx com) (names.map ofChars) c.id c.telemetry w.alNext nd
    refine ⟨(installDev (comIdx com) (names.map ofChars) c.id c.telemetry w.alNext nd).2, ?_, hs.1, hs.2.1, .inr hs.2.2.1⟩
    rw [List.getElem?_map, hi]; rfl

theorem install_involved (w : W) (c : Cli) (com : Com) (names : List Name) (i : Nat) (nd : Bytes × Dev)
    (hi : w.devs[i]? = some nd) (hneed : needsDev nd.2 (names.map ofChars) = true)
    (hacc : install w c com names ≠ (w, put c (codeLine 213 ++ crlf ++ (if c.quit then [] else prompt)))) :
    ∃ d', (install w c com names).1.devs[i]? = some (nd.1, d') ∧
      d'.acts = nd.2.acts ++ newActs nd.2.plugs nd.2.scripts (comIdx com) (names.map ofChars) c.id c.telemetry w.alNext ∧
      newActs nd.2.plugs nd.2.scripts (comIdx com) (names.map ofChars) c.id c.telemetry w.alNext ≠ [] := by
  rcases install_cases w c com names with h | ⟨hh, e, _⟩
  · exact absurd h hacc
  · have hs := installDev_spec (comIdx com) (names.map ofChars) c.id c.telemetry w.alNext nd
    refine ⟨(installDev (comIdx com) (names.map ofChars) c.id c.telemetry w.alNext nd).2, ?_, hs.2.2.1,
      newActs_ne_nil hneed (hh nd (List.mem_of_getElem? hi) hneed)⟩
    rw [e, List.getElem?_map, hi]; rfl

/-! ### one request line -/

theorem handleWrite_devs (w : W) (c : Cli) : (handleWrite w c).1.devs = w.devs := by
  obtain ⟨_, _, _, _, _, h⟩ := handleWrite_only w c; rw [h]

/-- what `_parse_input` does with a line, as far as the queues go: nothing, or `install` on the target list
    `_hostlist_create_validated` returned (`conf_exp_aliases` of the expansion of the typed expression, every name a
    configured node), or on all nodes for a bare query -/
theorem parseLine_cases (w : W) (c : Cli) (line : Bytes) :
    (parseLine w c line).1.devs = w.devs ∨
    ∃ com names, parseLine w c line = install w c com names ∧ c.cmd = none ∧
      ((isQuery (comIdx com) = true ∧ names = expand w.cfg.nodes) ∨
       (∃ arg hl, scan (kwOf com) (stripWs (line.takeWhile (· != 0))) = some arg ∧ createR (toChars arg) = .ok hl ∧
          names = expAliases w.cfg.aliases (expand hl) ∧ ∀ n ∈ names, (find w.cfg.nodes n).isSome = true)) := by
  have hd := parseLine_does w c line
  generalize parseLine w c line = r at hd ⊢
  cases hd with
  | accept com names idle ht _ _ call =>
    exact .inr ⟨com, names, call.symm, idle, ht.imp_right fun ⟨⟨arg, hl, a, b, c⟩, d⟩ => ⟨arg, hl, a, b, c, d⟩⟩
  | quit _ => exact .inl (handleWrite_devs w _)
  | _ => exact .inl rfl

theorem parseLine_validated (w : W) (c : Cli) (line : Bytes) (k : CmdC) (h0 : c.cmd = none)
    (hk : (parseLine w c line).2.cmd = some k) :
    (parseLine w c line).1.devs = w.devs.map (installDev (comIdx k.com) (k.names.map ofChars) c.id c.telemetry w.alNext) ∧
    k.al = w.alNext ∧
    ((isQuery (comIdx k.com) = true ∧ k.names = expand w.cfg.nodes) ∨
     (∃ arg hl, scan (kwOf k.com) (stripWs (line.takeWhile (· != 0))) = some arg ∧ createR (toChars arg) = .ok hl ∧
        k.names = expAliases w.cfg.aliases (expand hl) ∧ ∀ n ∈ k.names, (find w.cfg.nodes n).isSome = true)) := by
  have hd := parseLine_does w c line
  generalize parseLine w c line = r at hk hd ⊢
  have same : ∀ {x : Cli}, x.cmd = c.cmd → x.cmd = some k → False := fun e hx => by rw [e, h0] at hx; cases hx
  cases hd with
  | accept com names _ ht _ _ _ =>
    cases hk
    exact ⟨rfl, rfl, ht.imp_right fun ⟨⟨arg, hl, a, b, c⟩, d⟩ => ⟨arg, hl, a, b, c, d⟩⟩
  | quit _ => exact (same (plQuit_spec w c).cmd hk).elim
  | _ => exact (same rfl hk).elim

end Pm.Daemon.Enq
