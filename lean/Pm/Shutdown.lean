import Pm.PassRules
import Pm.Dev2Fd
/-! Helper lemmas for C20 on the mirrors `Pm/Dev2.lean` and `Pm/Daemon.lean`: what `main` does after `_select_loop` returns
    (`teardown`: `cli_fini`, `dev_fini`) against the descriptor and child ledgers of `Pm/Dev2Fd.lean`, and the clients'
    descriptors over `cli_post_poll` and over a whole daemon pass.  (The namespace is `Pm.Dev2.Timer`, shared with
    `Pm/Dev2Timer.lean`: `Props/C20` cites the definitions here under these names.) -/
namespace Pm.Dev2.Timer
open Pm.Dev2 Pm.Dev2.Login2

section shutdown
open Pm.Daemon

/-- the (irrelevant) kernel answers `teardown` runs `_disconnect` with -/
def tdEnv : Env := { now := 0, revents := 0, sockets := [], connects := [], soerrs := [], read := none, writeOk := true }

/-- the system calls `dev_destroy` issues for one device: those of `_disconnect`'s transport half, for a CONNECTED
    device only -/
def tdDev (d : Dev) : List Sys :=
  if d.conn == 2 then (disconnectDev { dev := d, env := tdEnv, sys := [] }).sys else []

theorem tdDev_eq (d : Dev) : tdDev d = if d.conn == 2 then Fd.closeOf d.fd ++ Fd.reapOf d.isPipe d.cpid else [] := by
  unfold tdDev
  split
  · rw [disconnectDev_cs]; exact List.nil_append _
  · rfl

theorem showSys_nil : showSys [] [] = [] := by
  unfold showSys
  simp only [List.filterMap_nil, List.foldl_nil, List.mergeSort_nil, List.flatMap_nil, List.nil_append, List.append_nil]

/-- `teardown`'s strings are the rendering (`showSys`, the function that prints every pass's system calls) of one `close`
    per client followed by `tdDev` of every device in configuration order -/
theorem teardown_eq (w : W) :
    teardown w = (w.clients.map fun c => s!"Y close {c.fd}") ++ w.devs.flatMap fun nd => showSys [] (tdDev nd.2) := by
  unfold teardown tdDev
  congr 1
  apply congrArg (fun f => List.flatMap f w.devs)
  funext nd
  split
  · rfl
  · exact showSys_nil.symm

/-- the strings of one CONNECTED device: signal and reap the coprocess (if there is one recorded), close the descriptor
    (`showSys` prints closes last) -/
theorem showSys_tdDev (d : Dev) (h2 : d.conn = 2) :
    showSys [] (tdDev d) =
      (match d.isPipe, d.cpid with | true, some pid => [s!"Y kill {pid} 15", s!"Y waitpid {pid}"] | _, _ => []) ++
      (match d.fd with | some fd => [s!"Y close {fd}"] | none => []) := by
  rw [tdDev_eq]
  simp only [h2, beq_self_eq_true, ↓reduceIte]
  -- with no client-side call only the device's lists are left, and each of the eight cases computes
  unfold showSys
  simp only [List.filterMap_nil, List.foldl_nil, List.mergeSort_nil, List.flatMap_nil, List.nil_append, List.append_nil]
  cases d.fd <;> cases d.isPipe <;> cases d.cpid <;> rfl

/-- descriptor audit of one device's share: started with the descriptor the device holds, the audit succeeds (the only
    `close` is for that descriptor) and ends with nothing held if the device was CONNECTED — and with the descriptor
    still held otherwise -/
theorem tdDev_fdRun (d : Dev) : Fd.fdRun d.fd.toList (tdDev d) = some (if d.conn == 2 then [] else d.fd.toList) := by
  rw [tdDev_eq]
  split
  · cases d.fd <;> cases d.isPipe <;> cases d.cpid <;> simp [Fd.closeOf, Fd.reapOf, Fd.fdRun, Fd.fdStep]
  · rfl

/-- child audit of one device's share, under the invariants: no child is left, none is signalled without being reaped -/
theorem tdDev_kidRun (d : Dev) (hc : Fd.ChildInv d) (hr : Fd.ConnRange d) :
    Fd.kidRun (d.cpid.toList, []) (tdDev d) = some ([], []) := by
  rw [tdDev_eq]
  obtain ⟨c1, c2, c3⟩ := hc
  unfold Fd.ConnRange at hr
  split
  · rename_i h2
    have h2' : d.conn = 2 := by simpa using h2
    -- a CONNECTED device has a child recorded exactly when it is a coprocess (`ChildInv`): it is signalled, then reaped;
    -- the `close` of the descriptor is no event of the child audit
    cases hp : d.isPipe with
    | false =>
      have hk : d.cpid = none := by
        cases hk : d.cpid with
        | none => rfl
        | some _ => exact absurd (c1 (by rw [hk]; rfl)).1 (by rw [hp]; exact Bool.false_ne_true)
      rw [hk]; cases d.fd <;> rfl
    | true =>
      obtain ⟨pid, hk⟩ := Option.isSome_iff_exists.1 (c2 hp (by rw [h2']; decide))
      rw [hk]; cases d.fd <;> simp [Fd.closeOf, Fd.reapOf, Fd.kidRun, Fd.kidStep]
  · rename_i h2
    have h2' : d.conn ≠ 2 := by simpa using h2
    cases hk : d.cpid with
    | none => rfl
    | some pid =>
      exfalso
      have := c1 (by simp [hk])
      have := c3 this.1
      omega

/-- all descriptors the daemon holds: one per client, one per device that has one -/
def openFds (w : W) : List Nat := w.clients.map (·.fd) ++ w.devs.flatMap fun nd => nd.2.fd.toList
/-- the descriptors `teardown` closes -/
def tdClosed (w : W) : List Nat := w.clients.map (·.fd) ++ w.devs.flatMap fun nd => Fd.closed (tdDev nd.2)
/-- the descriptors it does not close -/
def tdLeft (w : W) : List Nat := w.devs.flatMap fun nd => if nd.2.conn == 2 then [] else nd.2.fd.toList

theorem tdDev_closed (d : Dev) : Fd.closed (tdDev d) = if d.conn == 2 then d.fd.toList else [] := by
  rw [tdDev_eq]
  split
  · cases d.fd <;> cases d.isPipe <;> cases d.cpid <;> simp [Fd.closeOf, Fd.reapOf, Fd.closed]
  · rfl

theorem teardown_balance (w : W) (n : Nat) : (openFds w).count n = (tdClosed w).count n + (tdLeft w).count n := by
  unfold openFds tdClosed tdLeft
  simp only [List.count_append]
  have : ∀ l : List (Bytes × Dev), (l.flatMap fun nd => nd.2.fd.toList).count n =
      (l.flatMap fun nd => Fd.closed (tdDev nd.2)).count n +
      (l.flatMap fun nd => if nd.2.conn == 2 then [] else nd.2.fd.toList).count n := by
    intro l
    induction l with
    | nil => rfl
    | cons x r ih =>
      simp only [List.flatMap_cons, List.count_append, ih, tdDev_closed]
      split <;> simp <;> omega
  rw [this, Nat.add_assoc]

theorem tdLeft_connecting (w : W) (h : ∀ nd ∈ w.devs, Fd.FdInv nd.2 ∧ Fd.ConnRange nd.2) :
    tdLeft w = (w.devs.filter fun nd => nd.2.conn == 1).flatMap fun nd => nd.2.fd.toList := by
  unfold tdLeft
  have : ∀ l : List (Bytes × Dev), (∀ nd ∈ l, Fd.FdInv nd.2 ∧ Fd.ConnRange nd.2) →
      (l.flatMap fun nd => if nd.2.conn == 2 then [] else nd.2.fd.toList) =
      (l.filter fun nd => nd.2.conn == 1).flatMap fun nd => nd.2.fd.toList := by
    intro l hl
    induction l with
    | nil => rfl
    | cons x r ih =>
      have hx := hl x (by simp)
      have ih' := ih (fun nd hnd => hl nd (by simp [hnd]))
      simp only [List.flatMap_cons, List.filter_cons, ih']
      unfold Fd.FdInv Fd.ConnRange at hx
      by_cases h2 : x.2.conn = 2
      · simp [h2]
      · by_cases h1 : x.2.conn = 1
        · simp [h1]
        · have h0 : x.2.conn = 0 := by omega
          simp [h0, hx.1.mpr h0]
  exact this w.devs h

theorem teardown_once (w : W) (hnd : (openFds w).Nodup) (n : Nat) :
    (tdClosed w).count n = if n ∈ openFds w ∧ n ∉ tdLeft w then 1 else 0 := by
  have hb := teardown_balance w n
  have h1 : (openFds w).count n ≤ 1 := List.nodup_iff_count.mp hnd n
  have h2 : 0 < (openFds w).count n ↔ n ∈ openFds w := List.count_pos_iff
  have h3 : (tdLeft w).count n = 0 ↔ n ∉ tdLeft w := List.count_eq_zero
  by_cases hm : n ∈ openFds w
  · by_cases hl : n ∈ tdLeft w
    · have : ¬ (tdLeft w).count n = 0 := fun h => (h3.mp h) hl
      simp only [hm, hl, not_true_eq_false, and_false, ↓reduceIte]
      have := h2.mpr hm
      omega
    · have := h3.mpr hl
      have := h2.mpr hm
      simp only [hm, hl, not_false_eq_true, and_self, ↓reduceIte]
      omega
  · have : ¬ 0 < (openFds w).count n := fun h => hm (h2.mp h)
    simp only [hm, false_and, ↓reduceIte]
    omega

/-- example worlds for `Props/C20`: a client on descriptor 1000; the connected tcp device (descriptor 2000), the connected
    coprocess device (descriptor 3000, child 5000), a tcp device still CONNECTING (descriptor 2001), an idle one -/
def tdWorld : W :=
  { cfg := { plugs := [], has := [], nodes := [], version := [] }, clients := [{ id := 1, fd := 1000 }],
    devs := [([65], Fd.exTcp), ([66], Fd.exPipe), ([67], { Fd.exDev with conn := 1, fd := some 2001 }), ([68], Fd.exDev)] }

end shutdown

/-! ## the clients' descriptors over `cli_post_poll` and over a whole daemon pass -/

section cliLedger
open Pm.Daemon Pm.Daemon.ClientPf

abbrev DSys := Pm.Daemon.Sys

/-- descriptors obtained by `accept` in a client-side log (a failed `accept` returns −1 and yields none) -/
def accepted : List DSys → List Nat
  | [] => []
  | .accept fd :: r => (if fd < 0 then [] else [fd.toNat]) ++ accepted r
  | _ :: r => accepted r
/-- descriptors closed in a client-side log -/
def closedC : List DSys → List Nat
  | [] => []
  | .close fd :: r => fd :: closedC r
  | _ :: r => closedC r
def quietSys : DSys → Bool
  | .read _ _ => true
  | .write _ _ _ _ => true
  | _ => false

theorem accepted_append (a b : List DSys) : accepted (a ++ b) = accepted a ++ accepted b := by
  induction a with
  | nil => rfl
  | cons s r ih => cases s <;> simp [accepted, ih]
theorem closedC_append (a b : List DSys) : closedC (a ++ b) = closedC a ++ closedC b := by
  induction a with
  | nil => rfl
  | cons s r ih => cases s <;> simp [closedC, ih]
theorem quiet_none (l : List DSys) (h : l.all quietSys = true) : accepted l = [] ∧ closedC l = [] := by
  induction l with
  | nil => exact ⟨rfl, rfl⟩
  | cons s r ih =>
    simp only [List.all_cons, Bool.and_eq_true] at h
    have := ih h.2
    cases s <;> simp_all [accepted, closedC, quietSys]

/-- a client-side function that touches neither the client list, nor the client's identity and descriptor, and logs only
    reads and writes -/
structure CliQuiet (w : W) (c : Cli) (r : W × Cli) : Prop where
  clients : r.1.clients = w.clients
  id : r.2.id = c.id
  fd : r.2.fd = c.fd
  sys : ∃ ext, r.1.sys = w.sys ++ ext ∧ ext.all quietSys = true

theorem CliQuiet.refl (w : W) (c : Cli) : CliQuiet w c (w, c) := ⟨rfl, rfl, rfl, [], by simp, rfl⟩
theorem CliQuiet.trans {w : W} {c : Cli} {r r' : W × Cli} (h1 : CliQuiet w c r) (h2 : CliQuiet r.1 r.2 r') : CliQuiet w c r' := by
  obtain ⟨e1, s1, q1⟩ := h1.sys
  obtain ⟨e2, s2, q2⟩ := h2.sys
  exact ⟨h2.clients.trans h1.clients, h2.id.trans h1.id, h2.fd.trans h1.fd, e1 ++ e2,
    by rw [s2, s1, List.append_assoc], by simp [List.all_append, q1, q2]⟩
theorem CliQuiet.of_same {w : W} {c c' : Cli} {r : W × Cli} (h : CliQuiet w c' r) (hid : c'.id = c.id) (hfd : c'.fd = c.fd) :
    CliQuiet w c r := ⟨h.clients, h.id.trans hid, h.fd.trans hfd, h.sys⟩

theorem CliQuiet.one {w : W} {c : Cli} {r : W × Cli} (s : DSys) (hq : quietSys s = true) (hc : r.1.clients = w.clients)
    (hs : r.1.sys = w.sys ++ [s]) (hid : r.2.id = c.id) (hfd : r.2.fd = c.fd) : CliQuiet w c r :=
  ⟨hc, hid, hfd, [s], hs, by simp [hq]⟩

theorem handleWrite_cliQuiet (w : W) (c : Cli) : CliQuiet w c (handleWrite w c) := by
  rw [handleWrite_eq]
  refine CliQuiet.of_same (c' := if c.quit then { c with blocking := true } else c) ?_ (by split <;> rfl) (by split <;> rfl)
  rcases hwCore_spec w (if c.quit then { c with blocking := true } else c) with h | ⟨e, h⟩ | ⟨b, rest, bl, v, _, h⟩ <;> rw [h]
  · exact .refl _ _
  · exact .one _ rfl rfl rfl rfl rfl
  · exact .one _ rfl rfl rfl rfl rfl

/-- whatever `_parse_input` does with a request line: only `quit` makes a system call, the `write` of `_handle_write` -/
theorem _root_.Pm.Daemon.ClientPf.LineDoes.quiet {w : W} {c : Cli} {str : Pm.Client.Bytes} {r : W × Cli} (h : LineDoes w c str r) :
    CliQuiet w c r := by
  cases h with
  | quit _ => exact (handleWrite_cliQuiet w _).of_same rfl rfl
  | _ => exact ⟨rfl, rfl, rfl, [], (List.append_nil _).symm, rfl⟩

theorem handleInput_cliQuiet (w : W) (c : Cli) : CliQuiet w c (handleInput w c) :=
  handleInput_walk (R := CliQuiet) CliQuiet.refl CliQuiet.trans (fun _ _ _ => ⟨rfl, rfl, rfl, [], (List.append_nil _).symm, rfl⟩)
    (fun w c l => (parseLine_does w c l).quiet) w c

theorem cpRead_cliQuiet (w : W) (c : Cli) (e : Option FdEnv) : CliQuiet w c (cpRead w c e) := by
  rcases cpRead_cases w c e with h | ⟨_, _, h, rfl | ⟨_, rfl⟩⟩ <;> rw [h]
  · exact .refl _ _
  · exact .one _ rfl rfl rfl rfl rfl
  · exact .one _ rfl rfl rfl rfl rfl

/-- one client's share of `cli_post_poll`: the client list is not touched; no `accept`; the client's own descriptor is
    closed — once — exactly when the client is destroyed (the result is `none`); a surviving client keeps its identity
    and its descriptor -/
theorem clientPass_ledger (w : W) (c : Cli) (e : Option FdEnv) :
    (clientPass w c e).1.clients = w.clients ∧
    ∃ ext, (clientPass w c e).1.sys = w.sys ++ ext ∧ accepted ext = [] ∧
      closedC ext = (match (clientPass w c e).2 with | none => [c.fd] | some _ => []) ∧
      ∀ c', (clientPass w c e).2 = some c' → c'.id = c.id ∧ c'.fd = c.fd := by
  rcases ClientPf.clientPass_stages (R := CliQuiet) CliQuiet.refl CliQuiet.trans
      (fun w c e => (cpRead_cliQuiet w (clipC c e) (clipE c e)).of_same (clipC_id c e) (clipC_fd c e))
      handleWrite_cliQuiet handleInput_cliQuiet w c e with h | ⟨r3, h3, h⟩ <;> rw [h]
  · exact ⟨rfl, [Pm.Daemon.Sys.close c.fd], rfl, rfl, rfl, fun c' h => by simp [cpDead] at h⟩
  · -- the stages log reads and writes only; `cpTail` closes the descriptor of a client that is gone
    obtain ⟨ext, hs, hq⟩ := h3.sys
    obtain ⟨qa, qc⟩ := quiet_none ext hq
    unfold cpTail
    split
    · exact ⟨h3.clients, ext, hs, qa, qc, fun c' h => by cases h; exact ⟨h3.id, h3.fd⟩⟩
    · split
      · refine ⟨h3.clients, ext ++ [Pm.Daemon.Sys.close c.fd], ?_, ?_, ?_, fun c' h => by simp [cpDead] at h⟩
        · simp [cpDead, hs, h3.fd]
        · simp [accepted_append, qa, accepted]
        · simp [closedC_append, qc, closedC, cpDead]
      · exact ⟨h3.clients, ext, hs, qa, qc, fun c' h => by cases h; exact ⟨h3.id, h3.fd⟩⟩

/-! list facts about clients with pairwise distinct ids -/

theorem ids_unique (l : List Cli) (h : (l.map (·.id)).Nodup) (x y : Cli) (hx : x ∈ l) (hy : y ∈ l) (he : x.id = y.id) : x = y := by
  induction l with
  | nil => cases hx
  | cons z r ih =>
    simp only [List.map_cons, List.nodup_cons, List.mem_map, not_exists, not_and] at h
    rcases List.mem_cons.mp hx with rfl | hx' <;> rcases List.mem_cons.mp hy with rfl | hy'
    · rfl
    · exact absurd he.symm (h.1 y hy')
    · exact absurd he (h.1 x hx')
    · exact ih h.2 hx' hy'

theorem count_remove_id (l : List Cli) (h : (l.map (·.id)).Nodup) (x : Cli) (hx : x ∈ l) (n : Nat) :
    (l.map (·.fd)).count n = ((l.filter fun y => y.id != x.id).map (·.fd)).count n + (if x.fd = n then 1 else 0) := by
  induction l with
  | nil => cases hx
  | cons z r ih =>
    simp only [List.map_cons, List.nodup_cons, List.mem_map, not_exists, not_and] at h
    rcases List.mem_cons.mp hx with rfl | hx'
    · have hr : (r.filter fun y => y.id != x.id) = r := by
        rw [List.filter_eq_self]
        intro y hy
        have := h.1 y hy
        simpa using this
      simp only [List.filter_cons, bne_self_eq_false, Bool.false_eq_true, ↓reduceIte, hr, List.map_cons, List.count_cons, beq_iff_eq]
    · have hne : z.id ≠ x.id := fun he => h.1 x hx' he.symm
      have hz : (z.id != x.id) = true := by simpa using hne
      simp only [List.filter_cons, hz, ↓reduceIte, List.map_cons, List.count_cons, ih h.2 hx']
      omega

theorem map_replace (l : List Cli) (c : Cli) (h : ∀ x ∈ l, x.id = c.id → x.fd = c.fd) :
    (l.map fun x => if x.id == c.id then c else x).map (·.fd) = l.map (·.fd) ∧
    (l.map fun x => if x.id == c.id then c else x).map (·.id) = l.map (·.id) := by
  simp only [List.map_map]
  constructor
  · apply List.map_congr_left
    intro x hx
    simp only [Function.comp]
    split
    · rename_i he; exact (h x hx (by simpa using he)).symm
    · rfl
  · apply List.map_congr_left
    intro x hx
    simp only [Function.comp]
    split
    · rename_i he; exact (by simpa using he : x.id = c.id).symm
    · rfl

/-- the clients' descriptor ledger against the list `H` of descriptors held when the log began -/
def CliLedger (H : List Nat) (w : W) : Prop :=
  ∀ n, H.count n + (accepted w.sys).count n = (closedC w.sys).count n + (w.clients.map (·.fd)).count n

theorem cliStep_led (H : List Nat) (envs : List FdEnv) (w : W) (c0 : Cli) (hl : CliLedger H w) (hn : (w.clients.map (·.id)).Nodup)
    (hx0 : c0 ∈ w.clients) :
    CliLedger H (ClientPf.cliStep envs w c0) ∧ ((ClientPf.cliStep envs w c0).clients.map (·.id)).Nodup := by
  unfold ClientPf.cliStep
  split
  · exact ⟨hl, hn⟩
  · obtain ⟨hcl, ext, hsys, ha, hc, hsome⟩ := clientPass_ledger w c0 (envs.find? (·.fd == c0.fd))
    generalize clientPass w c0 (envs.find? (·.fd == c0.fd)) = r at *
    obtain ⟨w', res⟩ := r
    simp only at hcl hsys hc hsome ⊢
    cases res with
    | some c =>
      -- the record is replaced under its id, with its descriptor
      obtain ⟨hcid, hcfd⟩ := hsome c rfl
      simp only at hc ⊢
      have hrep := map_replace w.clients c (by
        intro x hx he
        have : x = c0 := ids_unique w.clients hn x c0 hx hx0 (by rw [he, hcid])
        rw [this, hcfd])
      refine ⟨fun n => ?_, ?_⟩
      · have := hl n
        simp only [hcl, hsys, accepted_append, closedC_append, ha, hc, List.append_nil]
        rw [hrep.1]
        exact this
      · simp only [hcl]; rw [hrep.2]; exact hn
    | none =>
      -- the record is removed and its descriptor closed
      simp only at hc ⊢
      refine ⟨fun n => ?_, ?_⟩
      · have h1 := hl n
        have h2 := count_remove_id w.clients hn c0 hx0 n
        simp only [hcl, hsys, accepted_append, closedC_append, ha, hc, List.append_nil, List.count_append,
          List.count_cons, List.count_nil, beq_iff_eq]
        omega
      · rw [hcl]
        exact List.Nodup.sublist ((List.filter_sublist).map _) hn

/-- **the clients' descriptor ledger of `cli_post_poll`** (whose log starts empty): for every descriptor number, held by a
    client before + accepted in the pass = closed in the pass + held by a client afterwards; and the ids stay pairwise
    distinct.  Needs: ids pairwise distinct and below `nextId` (true initially, kept by every pass) -/
theorem cliPostPoll_ledger (w : W) (acc : Nat) (envs : List FdEnv) (hid : (w.clients.map (·.id)).Nodup)
    (hfresh : ∀ c ∈ w.clients, c.id < w.nextId) :
    CliLedger (w.clients.map (·.fd)) (cliPostPoll w acc envs) ∧ ((cliPostPoll w acc envs).clients.map (·.id)).Nodup := by
  refine cliPostPoll_keeps (fun u => CliLedger (w.clients.map fun x => x.fd) u ∧ (u.clients.map fun x => x.id).Nodup) (fun _ h => h.2) w acc envs
    ⟨?_, ?_⟩ fun u c0 hu hc0 => cliStep_led (w.clients.map fun x => x.fd) envs u c0 hu.1 hu.2 hc0
  · unfold CliLedger cliStart ClientPf.cliAccept ClientPf.newClient
    intro n
    split
    · have h0 : ¬ ((1000 : Int) + (w.nacc : Int) < 0) := by omega
      have h1 : ((1000 : Int) + (w.nacc : Int)).toNat = 1000 + w.nacc := by omega
      simp [accepted, closedC, List.count_append, h0, h1]
    · split
      · simp [accepted, closedC]
      · simp [accepted, closedC]
  · unfold cliStart ClientPf.cliAccept ClientPf.newClient
    split
    · simp only [List.map_append, List.map_cons, List.map_nil]
      rw [List.nodup_append]
      refine ⟨hid, by simp, ?_⟩
      intro a ha b hb
      simp only [List.mem_singleton] at hb
      simp only [List.mem_map] at ha
      obtain ⟨c, hc, rfl⟩ := ha
      have := hfresh c hc
      omega
    · split <;> exact hid

/-- **the clients' descriptor ledger of a whole daemon pass** (`daemonPass`, the body of `_select_loop`; the `sys` of the world it
    returns is the client-side system-call log of the pass) -/
theorem daemonPass_cli_ledger (w : W) (p : PassIn) (hid : (w.clients.map (·.id)).Nodup)
    (hfresh : ∀ c ∈ w.clients, c.id < w.nextId) :
    CliLedger (w.clients.map (·.fd)) (daemonPass w p).1 ∧ ((daemonPass w p).1.clients.map (·.id)).Nodup := by
  -- the device phase leaves the client-side log alone and maps the table by a function that keeps id and descriptor
  obtain ⟨hs, G, hG, kG⟩ := devPhase_frame p (cliPostPoll w p.acc p.envs)
  have hsys : (devPhase p (cliPostPoll w p.acc p.envs)).sys = (cliPostPoll w p.acc p.envs).sys := (congrArg W.sys hs :)
  have hfd : (devPhase p (cliPostPoll w p.acc p.envs)).clients.map (·.fd) = (cliPostPoll w p.acc p.envs).clients.map (·.fd) := by
    rw [hG, List.map_map]; exact List.map_congr_left fun x _ => (kG x).2
  have hids : (devPhase p (cliPostPoll w p.acc p.envs)).clients.map (·.id) = (cliPostPoll w p.acc p.envs).clients.map (·.id) := by
    rw [hG, List.map_map]; exact List.map_congr_left fun x _ => (kG x).1
  rw [daemonPass_world]
  unfold CliLedger
  rw [hsys, hfd, hids]
  exact cliPostPoll_ledger w p.acc p.envs hid hfresh

/-- example for `Props/C20`: the world of `tdWorld` after one earlier `accept`; a pass in which a second client connects
    and `poll` reports POLLNVAL for the first one's descriptor -/
def cliWorld : W := { tdWorld with nacc := 1, nextId := 2 }
def cliEnvs : List FdEnv := [{ fd := 1000, rev := 16, rk := 0, data := [], cap := 0 }]

end cliLedger

end Pm.Dev2.Timer
