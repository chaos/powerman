import Pm.SortFProof
/-! Termination of the outer loop of `hostlist_coalesce` within the computed bound `coalesceFuel`
    (`Pm/Sort2.lean`): `sortHL` never answers `.fuel` on a well-formed list.

    Measure.  With `N` = number of hosts (kept by every iteration, `den_length`), `R` = number of ranges (`R ≤ N`
    because no range is empty) and `inv` = number of inversions of the sequence of `hi` fields in list order
    (`inv ≤ R²`), one iteration of the `for` loop does one of three things (`StepKind`, proved of every iteration together
    with the invariant in `coalesceStep_step`, `Pm/SortFProof.lean`):

    * no split: the list and all `lo`/`hi` are unchanged, `i` goes down by one;
    * a split whose right range is a point `[x-x]` (`hprev = [a-c]`, `hnext = [x-x]`, `a ≤ x < c` becomes `[a-x]`, `[x-c]`):
      no range is added, the two neighbouring `hi` values `c > x` are exchanged — exactly one inversion less;
    * any other split: at least one range is added.

    So `((N - R)·(N+1)² + inv)·(N+1) + i` decreases in every iteration, and it starts below `(N+1)⁴ ≤ (R+N+2)⁴`. -/
namespace Pm
open List

/-! ## bounds: inversions, hosts, ranges -/

theorem inv_le_sq : ∀ (l : List Nat), invCount l ≤ l.length * l.length
  | [] => by simp [invCount]
  | a :: l => by
    have h1 := inv_le_sq l
    have h2 : l.countP (· < a) ≤ l.length := countP_le_length
    simp only [invCount, length_cons]
    have : (l.length + 1) * (l.length + 1) = l.length * l.length + l.length + l.length + 1 := by
      rw [Nat.add_mul, Nat.mul_add]; omega
    omega

/-- number of hosts the ids stand for (the second summand of `coalesceSize`) -/
def hostCount (st : Store) (ids : List Nat) : Nat := (ids.map fun i => (st[i]!).cnt).sum

theorem den_length (st : Store) : ∀ (ids : List Nat), (den st ids).length = hostCount st ids
  | [] => by simp [den, hostCount]
  | a :: l => by
    rw [den_cons, length_append, HostRange.expand_length, den_length st l]
    simp [hostCount]

theorem WFS_cnt_pos {r : HostRange} (h : r.WFS) : 1 ≤ r.cnt := by
  unfold HostRange.cnt
  rcases h with ⟨h1, _, _⟩ | ⟨h1, h2⟩
  · simp [h1]
  · simp [h1]; omega

theorem length_le_sum {f : Nat → Nat} : ∀ (l : List Nat), (∀ i ∈ l, 1 ≤ f i) → l.length ≤ (l.map f).sum
  | [], _ => by simp
  | a :: l, h => by
    have h1 := h a (by simp)
    have h2 := length_le_sum l (fun i hi => h i (by simp [hi]))
    simp only [length_cons, map_cons, sum_cons]
    omega

/-- no range is empty, so there are at most as many ranges as hosts -/
theorem Inv.length_le_hosts {st : Store} {ids : List Nat} (h : Inv st ids) : ids.length ≤ hostCount st ids :=
  length_le_sum ids (fun i hi => WFS_cnt_pos (h.wfs i hi))

/-! ## the measure, and the bound -/

/-- `((N - R)·(N+1)² + inv)·(N+1) + i` for `N` hosts, `R` ranges, `inv` inversions of the `hi` sequence, scan position `i` -/
def coalesceMu (N : Nat) (st : Store) (ids : List Nat) (i : Nat) : Nat :=
  ((N - ids.length) * ((N + 1) * (N + 1)) + invHi st ids) * (N + 1) + i

theorem sq_lt_succ_sq {a n : Nat} (h : a ≤ n) : a * a < (n + 1) * (n + 1) := by
  have h1 : a * a ≤ n * n := Nat.mul_le_mul h h
  have h2 : (n + 1) * (n + 1) = n * n + n + n + 1 := by rw [Nat.add_mul, Nat.mul_add]; omega
  omega

/-- two-digit numbers in base `M` compare by their leading digit -/
theorem pair_lt {a a' b b' M : Nat} (ha : a' < a) (hb : b' < M) : a' * M + b' < a * M + b :=
  calc a' * M + b' < a' * M + M := Nat.add_lt_add_left hb _
    _ = (a' + 1) * M := (Nat.succ_mul a' M).symm
    _ ≤ a * M := Nat.mul_le_mul_right M ha
    _ ≤ a * M + b := Nat.le_add_right ..

theorem mu_arith_point (X v' i i' N : Nat) (h : i' ≤ N) : (X + v') * (N + 1) + i' < (X + (v' + 1)) * (N + 1) + i :=
  pair_lt (Nat.lt_succ_self _) (Nat.lt_succ_of_le h)

theorem mu_arith_grow (N R R' v v' i i' : Nat) (h1 : R < R') (h2 : R' ≤ N) (h3 : v' ≤ R' * R') (h4 : i' ≤ N) :
    ((N - R') * ((N + 1) * (N + 1)) + v') * (N + 1) + i' < ((N - R) * ((N + 1) * (N + 1)) + v) * (N + 1) + i :=
  pair_lt (pair_lt (by omega) (Nat.lt_of_le_of_lt h3 (sq_lt_succ_sq h2))) (Nat.lt_succ_of_le h4)

theorem mu_arith_init (N R v i : Nat) (h2 : R ≤ N) (h3 : v ≤ R * R) (h4 : i ≤ N) :
    ((N - R) * ((N + 1) * (N + 1)) + v) * (N + 1) + i < (R + N + 2) ^ 4 := by
  have hle : N + 1 ≤ R + N + 2 := by omega
  have hT : (N + 1) * ((N + 1) * (N + 1)) * (N + 1) ≤ (R + N + 2) ^ 4 := by
    rw [show (R + N + 2) ^ 4 = (R + N + 2) * ((R + N + 2) * (R + N + 2)) * (R + N + 2) by
      simp [Nat.pow_succ, Nat.mul_assoc]]
    exact Nat.mul_le_mul (Nat.mul_le_mul hle (Nat.mul_le_mul hle hle)) hle
  exact Nat.lt_of_lt_of_le
    (pair_lt (b := 0) (pair_lt (b := 0) (show N - R < N + 1 by omega) (Nat.lt_of_le_of_lt h3 (sq_lt_succ_sq h2)))
      (Nat.lt_succ_of_le h4)) hT

theorem coalesceStep_mu {st : Store} {ids : List Nat} {i : Nat} {st' : Store} {ids' : List Nat} {i' : Nat} {N : Nat}
    (hinv : Inv st ids) (hi : i = 0 ∨ i < ids.length) (hN : hostCount st ids = N)
    (h : coalesceStep st ids i = .cont st' ids' i') :
    Inv st' ids' ∧ (i' = 0 ∨ i' < ids'.length) ∧ hostCount st' ids' = N ∧ coalesceMu N st' ids' i' < coalesceMu N st ids i := by
  obtain ⟨hinv', hden, hi', hk⟩ := coalesceStep_step hinv hi h
  have hN' : hostCount st' ids' = N := by rw [← hN, ← den_length, ← den_length]; exact hden.length_eq
  have hR' := hinv'.length_le_hosts
  rw [hN'] at hR'
  have hiN : i' ≤ N := by omega
  refine ⟨hinv', hi', hN', ?_⟩
  unfold coalesceMu
  rcases hk with ⟨rfl, hv, hidx⟩ | ⟨rfl, hv⟩ | hlen
  · rw [hv]; omega
  · rw [← hv]; exact mu_arith_point _ _ _ _ _ hiN
  · exact mu_arith_grow _ _ _ _ _ _ _ hlen hR' (by unfold invHi; simpa using inv_le_sq (ids'.map fun i => (st'[i]!).hi)) hiN

theorem coalesceLoopF_ne_fuel : ∀ (f : Nat) (st : Store) (ids : List Nat) (i N : Nat),
    Inv st ids → (i = 0 ∨ i < ids.length) → hostCount st ids = N → coalesceMu N st ids i < f → coalesceLoopF f st ids i ≠ .fuel
  | 0, _, _, _, _, _, _, _, h => by omega
  | f + 1, st, ids, i, N, hinv, hi, hN, h => by
    unfold coalesceLoopF
    split
    · intro e; cases e
    · intro e; cases e
    · rename_i st' ids' i' hs
      obtain ⟨h1, h2, h3, h4⟩ := coalesceStep_mu hinv hi hN hs
      exact coalesceLoopF_ne_fuel f st' ids' i' N h1 h2 h3 (by omega)

/-- the outer loop of `hostlist_coalesce` ends within `coalesceFuel` iterations -/
theorem coalesce_ne_fuel {st : Store} {ids : List Nat} (hinv : Inv st ids) : coalesce st ids ≠ .fuel := by
  unfold coalesce
  refine coalesceLoopF_ne_fuel _ st ids _ (hostCount st ids) hinv (by omega) rfl ?_
  unfold coalesceFuel coalesceSize coalesceMu
  have hR := hinv.length_le_hosts
  exact mu_arith_init _ _ _ _ hR (by unfold invHi; simpa using inv_le_sq (ids.map fun i => (st[i]!).hi)) (by omega)

/-- `hostlist_sort` on a well-formed list never exhausts the computed iteration bounds of its mirror -/
theorem sortHL_ne_fuel (hl : Hostlist) (hwf : HWFS hl) : sortHL hl ≠ .fuel := by
  intro h
  obtain ⟨ids, st, hm, hco⟩ := sortHL_fuel_only_coalesce hl h
  obtain ⟨p1, s1⟩ := msort_perm _ _ _ _ _ hm
  exact coalesce_ne_fuel (Inv_perm p1.symm (Inv_SEq s1 (Inv_init hl hwf))) hco

/-- so it either returns a list or dies in the assert of `hostrange_intersect` -/
theorem sortHL_total (hl : Hostlist) (hwf : HWFS hl) : (∃ hl', sortHL hl = .ok hl') ∨ sortHL hl = .abort := by
  have := sortHL_ne_fuel hl hwf
  cases h : sortHL hl with
  | ok r => exact Or.inl ⟨r, rfl⟩
  | abort => exact Or.inr rfl
  | fuel => exact absurd h this

/-- under `HWFS` "did not return" means the assert, nothing else -/
theorem sortHL_Died_iff (hl : Hostlist) (hwf : HWFS hl) : (sortHL hl).Died ↔ sortHL hl = .abort := by
  unfold SortRes.Died
  constructor
  · rintro (h | h)
    · exact h
    · exact absurd h (sortHL_ne_fuel hl hwf)
  · exact Or.inl

/-! ## where the abort can come from: only the assert reached from `hostlist_coalesce` -/

/-- one iteration of `hostlist_coalesce` aborts exactly when both neighbours are numeric ranges and `hostrange_cmp`
    puts the left one after the right one -/
theorem coalesceStep_abort_iff (st : Store) (ids : List Nat) (i : Nat) :
    coalesceStep st ids i = .abort ↔
      i ≠ 0 ∧ (st[ids[i-1]!]!).single = false ∧ (st[ids[i]!]!).single = false ∧ (cmpM st ids[i-1]! ids[i]!).1 > 0 := by
  unfold coalesceStep
  split
  · rename_i h0; simp at h0; simp [h0]
  · rename_i h0
    have h0 : i ≠ 0 := by simpa using h0
    split
    · rename_i hs
      simp only [Bool.or_eq_true] at hs
      constructor
      · intro e; cases e
      · rintro ⟨_, h1, h2, _⟩; rw [h1, h2] at hs; simp at hs
    · rename_i hs
      simp only [Bool.or_eq_true, not_or, Bool.not_eq_true] at hs
      split
      · rename_i hc; exact ⟨fun _ => ⟨h0, hs.1, hs.2, hc⟩, fun _ => rfl⟩
      · rename_i hc
        constructor
        · intro e; exact absurd e coalesceTail_ne.1
        · rintro ⟨_, _, _, h⟩; exact absurd h hc

/-- the comparison that fires the assert: same prefix, both numeric, and either the widths were reconciled and the
    left range starts later, or the widths could not be reconciled and the left one is the wider (F19) -/
theorem cmpM_pos_iff (st : Store) (p q : Nat) (hp : (st[p]!).single = false) (hq : (st[q]!).single = false) :
    (cmpM st p q).1 > 0 ↔
      (st[q]!).pfx < (st[p]!).pfx ∨
      ((st[p]!).pfx = (st[q]!).pfx ∧
        ((combOk st[p]! st[q]! = true ∧ (st[q]!).lo < (st[p]!).lo) ∨
         (combOk st[p]! st[q]! = false ∧ (st[q]!).width < (st[p]!).width))) := by
  have hseq := combineM_SEq st p q
  have hpc : prefixCmp st[p]! st[q]! =
      if (st[p]!).pfx < (st[q]!).pfx then -1 else if (st[q]!).pfx < (st[p]!).pfx then 1 else 0 := by
    unfold prefixCmp; rw [hp, hq]; simp
  rw [cmpM_eq]
  by_cases h1 : (st[p]!).pfx < (st[q]!).pfx
  · have h2 : ¬ (st[q]!).pfx < (st[p]!).pfx := fun h => List.lt_asymm h1 h
    have h3 : (st[p]!).pfx ≠ (st[q]!).pfx := fun e => by rw [e] at h1; exact List.lt_irrefl _ h1
    rw [hpc]
    simp [h1, h2, h3]
  · by_cases h2 : (st[q]!).pfx < (st[p]!).pfx
    · rw [hpc]
      simp [h1, h2]
    · have h3 : (st[p]!).pfx = (st[q]!).pfx := List.le_antisymm (List.not_lt.mp h2) (List.not_lt.mp h1)
      have hpc0 : prefixCmp st[p]! st[q]! = 0 := by rw [hpc]; simp [h1, h2]
      simp only [hpc0, bne_self_eq_false, Bool.false_eq_true, if_false, h2, false_or]
      rw [← combineM_fst]
      cases hc : (combineM st p q).1
      · simp only [Bool.false_eq_true, if_false, false_and, true_and, false_or, h3]
        rw [combineM_false st p q hc, combineM_false st p q hc]
        omega
      · simp only [if_true, true_and, Bool.true_eq_false, false_and, or_false, h3]
        rw [(hseq.get p).lo, (hseq.get q).lo]
        omega

/-- the hypotheses are satisfiable on a list where both kinds of split occur (`n[1-10]`, `n[5-5]` is a point split,
    `n[1-3]`, `n[2-5]` adds ranges) -/
example : HWFS (hlOfString "n[1-10],n[5-5],m[1-3],m[2-5],x") ∧
    sortHL (hlOfString "n[1-10],n[5-5],m[1-3],m[2-5],x") =
      .ok (hlOfString "m[1-2],m[2-3],m[3-5],n[1-5],n[5-10],x") := sortHL_two_splits

end Pm

#print axioms Pm.sortHL_ne_fuel
#print axioms Pm.sortHL_total
#print axioms Pm.coalesce_ne_fuel
#print axioms Pm.sortHL_abort_only_coalesce
#print axioms Pm.cmpM_pos_iff
#print axioms Pm.coalesceStep_abort_iff
#print axioms Pm.sortHL_Died_iff
