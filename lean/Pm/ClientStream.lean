import Pm.ClientLine
import Pm.PassRules
/-! For C04 (client half), C06, C15: everything a client is sent, as items, and the grammar of the whole stream.  The completion
    path (`finalReply`, `_act_finish`, the telemetry and diagnostic callbacks) is brought into item form; what it appends to the clients
    is `Chunks` over a mapped client table (`ClientsMapped`); the grammar is a four-state machine (`sstep`), and a request line, a
    `_handle_input`, the callbacks of a device pass and a client's share of a pass each keep a grammatical stream grammatical.  On top:
    `Prompted` (C04), `exited` is set by the sort assertion only (C06), and `_handle_input` does not depend on how the bytes arrived
    (`FromBlind`). -/
namespace Pm.Daemon.ClientPf
open Pm Pm.Client
open Pm.Dev2 (Dev Action Stmt Plug Arg ExecCtx PState PResult ActErr RxCall Oracle Env CS getArgs)

/-! ### the completion path in item form -/

def finalInfoCodes : List Nat := [302, 303]
def finalTermCodes : List Nat := [102, 103, 210, 211]

theorem bstr_211 : bstr "211 Query completed with errors" ++ crlf = render [Item.line 211 (bstr "Query completed with errors")] := by
  repeat rw [bstr_chars]
  decide +kernel
theorem bstr_210 : bstr "210 Command completed with errors" ++ crlf = render [Item.line 210 (bstr "Command completed with errors")] := by
  repeat rw [bstr_chars]
  decide +kernel
theorem bstr_102 : bstr "102 Command completed successfully" ++ crlf = render [Item.line 102 (bstr "Command completed successfully")] := by
  repeat rw [bstr_chars]
  decide +kernel
theorem bstr_303 : bstr "303 " = code3 303 ++ [32] := by decide +kernel

/-- the terminal line of a query -/
def qryTerm (error : Bool) : Item := if error then .line 211 (bstr "Query completed with errors") else .line 103 (bstr "Query complete")
/-- the terminal line of a power command -/
def comTerm (bad : Bool) : Item := if bad then .line 210 (bstr "Command completed with errors") else .line 102 (bstr "Command completed successfully")

theorem qryTerm_eq (e : Bool) : (if e then bstr "211 Query completed with errors" else bstr "103 Query complete") ++ crlf = render [qryTerm e] := by
  cases e
  · exact bstr_103
  · exact bstr_211
theorem comTerm_eq (e : Bool) : (if e then bstr "210 Command completed with errors" else bstr "102 Command completed successfully") ++ crlf = render [comTerm e] := by
  cases e
  · exact bstr_102
  · exact bstr_210

def stateName (st : Nat) : String := if st == 2 then "on" else if st == 1 then "off" else "unknown"

/-- the entries of the argument list in the order of the target list -/
def entriesOf (c : CmdC) : List ArgC := c.names.filterMap fun n => c.args.find? (·.node == n)

/-- informational items of a final reply (`none`: the sort assertion) -/
def finalInfos (exprange : Bool) (c : CmdC) : Option (List Item) :=
  let entries := entriesOf c
  match c.com with
  | .status | .beacon =>
    if exprange then some (entries.map fun a => Item.line 303 (ofChars a.node ++ bstr ": " ++ bstr (stateName a.state)))
    else do
      let unk ← sortedRanged ((entries.filter (·.state == 0)).map (·.node))
      let on ← sortedRanged ((entries.filter (·.state == 2)).map (·.node))
      let off ← sortedRanged ((entries.filter (·.state == 1)).map (·.node))
      pure [Item.line 302 (bstr "on:      " ++ on), Item.line 302 (bstr "off:     " ++ off), Item.line 302 (bstr "unknown: " ++ unk)]
  | .temp => do
    let lines := entries.flatMap fun a => match a.val with
      | some v => [Item.line 303 (ofChars a.node ++ bstr ": " ++ firstLine v)]
      | none => []
    let missing := (entries.filter (·.val.isNone)).map (·.node)
    let tail ← if missing.isEmpty then some [] else (sortedRanged missing).map fun r => [Item.line 303 (r ++ bstr ": unknown")]
    pure (lines ++ tail)
  | _ => some []

/-- the terminal item of a final reply -/
def finalTerm (c : CmdC) : Item :=
  match c.com with
  | .status | .beacon | .temp => qryTerm c.error
  | _ => comTerm (c.error || (entriesOf c).any (·.result == 1))

theorem bstr_302a : bstr "302 on:      " = code3 302 ++ [32] ++ bstr "on:      " := by decide +kernel
theorem bstr_302b : bstr "302 off:     " = code3 302 ++ [32] ++ bstr "off:     " := by decide +kernel
theorem bstr_302c : bstr "302 unknown: " = code3 302 ++ [32] ++ bstr "unknown: " := by decide +kernel

theorem status302_eq (on off unk : Bytes) :
    bstr "302 on:      " ++ on ++ crlf ++ bstr "302 off:     " ++ off ++ crlf ++ bstr "302 unknown: " ++ unk ++ crlf =
      render [Item.line 302 (bstr "on:      " ++ on), Item.line 302 (bstr "off:     " ++ off), Item.line 302 (bstr "unknown: " ++ unk)] := by
  simp [render, Item.render, bstr_302a, bstr_302b, bstr_302c, List.append_assoc]

theorem statusX_eq (entries : List ArgC) :
    (entries.flatMap fun a => bstr "303 " ++ ofChars a.node ++ bstr ": " ++ bstr (if a.state == 2 then "on" else if a.state == 1 then "off" else "unknown") ++ crlf) =
      render (entries.map fun a => Item.line 303 (ofChars a.node ++ bstr ": " ++ bstr (stateName a.state))) := by
  rw [← flatMap_render entries 303 _ bstr_303]
  congr 1; funext a
  simp only [stateName, List.append_assoc]

def tempItems (a : ArgC) : List Item := match a.val with
  | some v => [Item.line 303 (ofChars a.node ++ bstr ": " ++ firstLine v)]
  | none => []
theorem tempLine_eq (a : ArgC) : Reply.tempLine a = render (tempItems a) := by
  unfold Reply.tempLine tempItems
  cases a.val with
  | none => rfl
  | some v => simp [render, Item.render, bstr_303, List.append_assoc]

theorem tempUnknown_eq (r : Bytes) : bstr "303 " ++ r ++ bstr ": unknown" ++ crlf = render [Item.line 303 (r ++ bstr ": unknown")] := by
  simp [render, Item.render, bstr_303, List.append_assoc]

theorem qryTail (x : Bytes) (e : Bool) :
    (x ++ if e then bstr "211 Query completed with errors" else bstr "103 Query complete") ++ crlf = x ++ render [qryTerm e] := by
  rw [List.append_assoc, qryTerm_eq]

/-- `finalReply` is the rendering of its items: informational lines, then the terminal line -/
theorem finalReply_eq (ex : Bool) (c : CmdC) :
    finalReply ex c = (finalInfos ex c).map fun infos => render (infos ++ [finalTerm c]) := by
  unfold finalReply finalInfos finalTerm
  rw [show c.names.filterMap (fun n => c.args.find? (·.node == n)) = entriesOf c from rfl]
  cases hcom : c.com
  case status | beacon =>
    dsimp only
    cases ex
    · simp only [Bool.false_eq_true, if_false]
      generalize sortedRanged (((entriesOf c).filter (·.state == 0)).map (·.node)) = a
      generalize sortedRanged (((entriesOf c).filter (·.state == 2)).map (·.node)) = b
      generalize sortedRanged (((entriesOf c).filter (·.state == 1)).map (·.node)) = d
      -- the terminal line goes inside the three binds; then the two sides agree text by text
      simp only [Option.bind_eq_bind, Option.pure_def, Option.map_bind, Function.comp_def, Option.map_some, qryTail, status302_eq,
        render_append]
    · simp only [if_true, Option.map_some, qryTail, statusX_eq, render_append]
  case temp =>
    dsimp only
    generalize sortedRanged (((entriesOf c).filter (·.val.isNone)).map (·.node)) = a
    generalize (((entriesOf c).filter (·.val.isNone)).map (·.node)).isEmpty = e
    erw [flatMap_render' _ _ tempItems tempLine_eq]
    cases e
    · simp only [Bool.false_eq_true, if_false, Option.bind_eq_bind, Option.pure_def, Option.bind_map, Option.map_bind, Option.map_some,
        Function.comp_def, qryTail, render_append, tempUnknown_eq]
      rfl
    · simp only [if_true, Option.bind_eq_bind, Option.pure_def, Option.bind_some, Option.map_some, qryTail, render_append, List.append_nil]
      rfl
  all_goals simp only [Option.map_some, List.nil_append, comTerm_eq]

theorem finalInfos_temp (ex : Bool) (c : CmdC) (infos : List Item) (hcom : c.com = .temp) (h : finalInfos ex c = some infos) :
    ∀ i ∈ infos, (∃ a ∈ entriesOf c, ∃ v, i = Item.line 303 (ofChars a.node ++ bstr ": " ++ firstLine v)) ∨
      ∃ r, sortedRanged (((entriesOf c).filter (·.val.isNone)).map (·.node)) = some r ∧ i = Item.line 303 (r ++ bstr ": unknown") := by
  unfold finalInfos at h
  simp only [hcom] at h
  generalize (((entriesOf c).filter (·.val.isNone)).map (·.node)).isEmpty = e at h
  have h : ∃ tail, (if e = true then some [] else Option.map (fun r => [Item.line 303 (r ++ bstr ": unknown")])
      (sortedRanged (((entriesOf c).filter (·.val.isNone)).map (·.node)))) = some tail ∧
      some ((entriesOf c).flatMap tempItems ++ tail) = some infos := by
    cases e
    · simp only [Bool.false_eq_true, if_false] at h ⊢
      cases hs : sortedRanged (((entriesOf c).filter (·.val.isNone)).map (·.node)) with
      | none => rw [hs] at h; simp at h
      | some r => rw [hs] at h; exact ⟨_, rfl, h⟩
    · exact ⟨[], rfl, h⟩
  obtain ⟨tail, ht, h⟩ := h
  cases h
  intro i hi
  rcases List.mem_append.mp hi with hi | hi
  · obtain ⟨a, ha, hia⟩ := List.mem_flatMap.mp hi
    unfold tempItems at hia
    cases hv : a.val with
    | none => simp [hv] at hia
    | some v => exact .inl ⟨a, ha, v, by simpa [hv] using hia⟩
  · split at ht
    · cases ht; cases hi
    · obtain ⟨r, hr, rfl⟩ := Option.map_eq_some_iff.mp ht
      exact .inr ⟨r, hr, List.mem_singleton.mp hi⟩

theorem finalInfos_info (ex : Bool) (c : CmdC) (infos : List Item) (h : finalInfos ex c = some infos) :
    ∀ i ∈ infos, i.lineIn finalInfoCodes = true := by
  cases hcom : c.com
  case temp =>
    intro i hi
    rcases finalInfos_temp ex c infos hcom h i hi with ⟨_, _, _, rfl⟩ | ⟨_, _, rfl⟩ <;> rfl
  all_goals
    unfold finalInfos at h
    simp only [hcom] at h
  case status | beacon =>
    split at h
    · cases h; intro i hi; simp at hi; obtain ⟨a, _, rfl⟩ := hi; rfl
    · simp only [Option.bind_eq_bind, Option.pure_def, Option.bind_eq_some_iff] at h
      obtain ⟨_, _, _, _, _, _, h⟩ := h
      cases h; intro i hi; simp at hi; rcases hi with rfl | rfl | rfl <;> rfl
  all_goals (cases h; simp)

/-! ### the `303` lines of a temperature reply show captured device text up to its first CR or LF (F16) -/

theorem firstLine_clean (v : Bytes) : cleanText (firstLine v) = true := takeWhile_clean v

theorem bstr_colon_clean : cleanText (bstr ": ") = true := by decide +kernel
theorem bstr_unknown_clean : cleanText (bstr ": unknown") = true := by decide +kernel

/-- the informational lines of a temperature reply are clean protocol lines if the node names and the ranged string of the
    value-less nodes contain no CR/LF - whatever the captured values are -/
theorem finalInfos_temp_clean (ex : Bool) (c : CmdC) (infos : List Item) (hcom : c.com = .temp)
    (h : finalInfos ex c = some infos)
    (hn : ∀ a ∈ entriesOf c, cleanText (ofChars a.node) = true)
    (hr : ∀ r, sortedRanged (((entriesOf c).filter (·.val.isNone)).map (·.node)) = some r → cleanText r = true) :
    ∀ i ∈ infos, i.clean = true := by
  intro i hi
  rcases finalInfos_temp ex c infos hcom h i hi with ⟨a, ha, v, rfl⟩ | ⟨r, hsr, rfl⟩
  · simp only [Item.clean, cleanText_append, hn a ha, firstLine_clean v, bstr_colon_clean, Bool.and_self]
  · simp only [Item.clean, cleanText_append, hr r hsr, bstr_unknown_clean, Bool.and_self]

/-- a temperature command whose one captured value contains `\r\n102 x` -/
def f16Cmd : CmdC :=
  { com := .temp, names := [['n']], pending := 1, error := false,
    args := [{ node := ['n'], state := 0, result := 0, val := some (bstr "1\r\n102 x") }] }

/-- F16: the reply is one `303` line showing the value up to its line end, and the real terminal line -/
theorem finalReply_not_forged :
    finalReply false f16Cmd = some (render [Item.line 303 (bstr "n: 1"), Item.line 103 (bstr "Query complete")]) := by
  decide +kernel

theorem qryTerm_spec (e : Bool) : ∃ code text, qryTerm e = Item.line code text ∧ code ∈ finalTermCodes ∧ cleanText text = true := by
  cases e
  · exact ⟨103, _, rfl, by decide, clean_103⟩
  · exact ⟨211, _, rfl, by decide, by rw [bstr_chars]; decide +kernel⟩

theorem comTerm_spec (b : Bool) : ∃ code text, comTerm b = Item.line code text ∧ code ∈ finalTermCodes ∧ cleanText text = true := by
  cases b
  · exact ⟨102, _, rfl, by decide, by rw [bstr_chars]; decide +kernel⟩
  · exact ⟨210, _, rfl, by decide, by rw [bstr_chars]; decide +kernel⟩

theorem finalTerm_spec (c : CmdC) : ∃ code text, finalTerm c = Item.line code text ∧ code ∈ finalTermCodes ∧ cleanText text = true := by
  unfold finalTerm
  cases c.com
  case status | temp | beacon => exact qryTerm_spec _
  all_goals exact comTerm_spec _

def finishText (err : ActErr) (name : Bytes) : Bytes :=
  match err with
  | .expfail => name ++ bstr ": action timed out waiting for expected response"
  | .abort => name ++ bstr ": action aborted due to previous action timeout"
  | .connectTimeout => name ++ bstr ": connect timeout"
  | .loginTimeout => name ++ bstr ": login timeout"
  | .success => []

/-- the `308` line `_act_finish` writes at once for a failed action -/
def finishPre (err : ActErr) (name : Bytes) : List Item := if err != .success then [Item.line 308 (finishText err name)] else []

theorem bstr_308 : bstr "308 " = code3 308 ++ [32] := by decide +kernel

/-- the command with the error flag of this completion merged in and the argument list of the store attached -/
def finishCmd (w : W) (k : CmdC) (err : ActErr) : CmdC :=
  { k with error := k.error || (err != .success), args := (storeArgs w k.al).map argC }

theorem errPre_render (err : ActErr) (name : Bytes) : Reply.errPre err name = render (finishPre err name) := by
  unfold Reply.errPre finishPre
  split
  · simp only [render, Item.render, List.flatMap_cons, List.flatMap_nil, List.append_nil, bstr_308, List.append_assoc]
    cases err <;> rfl
  · rfl

/-- `_act_finish` in item form.  `actFinish_decide` (`Deliver`) has it as "look the record up (`cliRec`), let `finDecide` say what to
    write, write it"; here the look-up is spelled `find?` (the first `change`: both sides as a match on `cliRec w id`), `finDecide` is
    opened by `finDecide_last` / `finDecide_more`, and the text of the last completion is `finalReply_eq` with the immediate part in
    front and the prompt behind (the second `change`: the model's pair of command and text as a `map` over `finalInfos`, so that one
    case split on `finalInfos` decides both sides). -/
theorem actFinish_eq (w : W) (id : Nat) (err : ActErr) (name : Bytes) :
    actFinish w id err name =
      match w.clients.find? (·.id == id) with
      | none => (w, false)
      | some c =>
        match c.cmd with
        | none => (w, true)
        | some k =>
          if k.pending == 1 then
            match finalInfos c.exprange (finishCmd w k err) with
            | some infos => (updCli w c.id fun c => put { c with cmd := none }
                (render (finishPre err name ++ infos ++ [finalTerm (finishCmd w k err), Item.prompt])), false)
            | none => (w, true)
          else (updCli w c.id fun c => put { c with cmd := some { k with error := k.error || (err != .success), pending := k.pending - 1 } }
                (render (finishPre err name)), false) := by
  rw [actFinish_decide]
  change (match cliRec w id with | none => _ | some c => _) = (match cliRec w id with | none => _ | some c => _)
  cases hf : cliRec w id with
  | none => rfl
  | some c =>
    dsimp only
    rw [cliRec_id hf]
    cases c.cmd with
    | none => rfl
    | some k =>
      dsimp only
      by_cases hp : k.pending = 1
      · rw [finDecide_last _ _ _ _ hp, if_pos (by simpa using hp), finalReply_eq]
        change (match Option.map (fun r => ((none : Option CmdC), Reply.errPre err name ++ r ++ prompt))
            (Option.map (fun infos => render (infos ++ [finalTerm (finishCmd w k err)])) (finalInfos c.exprange (finishCmd w k err))) with
          | none => (w, true)
          | some kt => (updCli w id fun x => put { x with cmd := kt.1 } kt.2, false)) = _
        cases finalInfos c.exprange (finishCmd w k err) with
        | none => rfl
        | some infos =>
          dsimp only [Option.map_some]
          rw [errPre_render]
          congr 2; funext x; congr 1
          simp [render_append, render_cons, Item.render, List.append_assoc]
      · rw [finDecide_more _ _ _ _ hp, if_neg (by simpa using hp), errPre_render]

/-! ### what the completion path appends, as item chunks -/

def progressCodes : List Nat := [305, 308, 309]

/-- a chunk written while the command is still running: `305` telemetry, `308` action error, `309` diagnostic lines -/
def Progress (items : List Item) : Prop := ∀ i ∈ items, i.lineIn progressCodes = true

/-- the chunk written when the last action reports back: an optional `308`, the `302`/`303` lines, exactly one terminal
    line (`102`/`103`/`210`/`211`) and the prompt -/
def FinalReply (items : List Item) : Prop :=
  ∃ pre infos code text, items = pre ++ infos ++ [Item.line code text, Item.prompt] ∧
    (∀ i ∈ pre, i.lineIn [308] = true) ∧ (∀ i ∈ infos, i.lineIn finalInfoCodes = true) ∧
    code ∈ finalTermCodes ∧ cleanText text = true

/-- a sequence of such chunks -/
inductive Chunks : List Item → Prop where
  | nil : Chunks []
  | snoc {a b : List Item} : Chunks a → (Progress b ∨ FinalReply b) → Chunks (a ++ b)

theorem Chunks.one {b : List Item} (h : Progress b ∨ FinalReply b) : Chunks b := by
  simpa using Chunks.snoc Chunks.nil h

theorem Chunks.append {a b : List Item} (ha : Chunks a) (hb : Chunks b) : Chunks (a ++ b) := by
  induction hb with
  | nil => simpa using ha
  | snoc _ hc ih => rw [← List.append_assoc]; exact .snoc ih hc

/-- `y` is `x` with `render items` appended to `to`; `cmd` may change, nothing else does -/
structure Appends (x y : Cli) (items : List Item) : Prop where
  buf : y.toBuf = x.toBuf ++ render items
  id : y.id = x.id
  fd : y.fd = x.fd
  quit : y.quit = x.quit
  fromBuf : y.fromBuf = x.fromBuf
  telemetry : y.telemetry = x.telemetry
  exprange : y.exprange = x.exprange
  blocking : y.blocking = x.blocking

theorem Appends.refl (x : Cli) : Appends x x [] := ⟨by simp, rfl, rfl, rfl, rfl, rfl, rfl, rfl⟩

theorem Appends.trans {x y z : Cli} {a b : List Item} (h1 : Appends x y a) (h2 : Appends y z b) : Appends x z (a ++ b) :=
  ⟨by rw [h2.buf, h1.buf, render_append, List.append_assoc], h2.id.trans h1.id, h2.fd.trans h1.fd, h2.quit.trans h1.quit,
   h2.fromBuf.trans h1.fromBuf, h2.telemetry.trans h1.telemetry, h2.exprange.trans h1.exprange, h2.blocking.trans h1.blocking⟩

theorem put_appends (x : Cli) (cmd : Option CmdC) (items : List Item) : Appends x (put { x with cmd := cmd } (render items)) items :=
  ⟨rfl, rfl, rfl, rfl, rfl, rfl, rfl, rfl⟩

theorem finishPre_308 (err : ActErr) (name : Bytes) : ∀ i ∈ finishPre err name, i.lineIn [308] = true := by
  unfold finishPre; split
  · intro i hi; simp at hi; subst hi; rfl
  · simp

/-- the outcome of `_act_finish` -/
inductive FinishOutcome (w : W) (id : Nat) (err : ActErr) (name : Bytes) (r : W × Bool) : Prop where
  | gone (h : w.clients.find? (·.id == id) = none) (hr : r = (w, false))
  /-- `assert(c->cmd != NULL)` -/
  | noCmd (c : Cli) (h : w.clients.find? (·.id == id) = some c) (hc : c.cmd = none) (hr : r = (w, true))
  /-- the sort assertion inside the final reply -/
  | sortAbort (c : Cli) (k : CmdC) (h : w.clients.find? (·.id == id) = some c) (hc : c.cmd = some k) (hp : k.pending = 1)
      (hn : finalInfos c.exprange (finishCmd w k err) = none) (hr : r = (w, true))
  | progress (c : Cli) (k : CmdC) (h : w.clients.find? (·.id == id) = some c) (hc : c.cmd = some k) (hp : k.pending ≠ 1)
      (hr : r = (updCli w id (fun x => put { x with cmd := some { k with error := k.error || (err != .success), pending := k.pending - 1 } }
              (render (finishPre err name))), false))
  | final (c : Cli) (k : CmdC) (items : List Item) (h : w.clients.find? (·.id == id) = some c) (hc : c.cmd = some k) (hp : k.pending = 1)
      (hi : FinalReply items) (hr : r = (updCli w id (fun x => put { x with cmd := none } (render items)), false))

theorem actFinish_shape (w : W) (id : Nat) (err : ActErr) (name : Bytes) : FinishOutcome w id err name (actFinish w id err name) := by
  rw [actFinish_eq]
  cases hf : List.find? (fun x => x.id == id) w.clients with
  | none => exact .gone hf rfl
  | some c =>
    have hid : c.id = id := by have := List.find?_some hf; simpa using this
    dsimp only
    cases hk : c.cmd with
    | none => exact .noCmd c hf hk rfl
    | some k =>
      dsimp only
      split
      · rename_i hp
        have hp : k.pending = 1 := by simpa using hp
        cases hi : finalInfos c.exprange (finishCmd w k err) with
        | none => exact .sortAbort c k hf hk hp hi rfl
        | some infos =>
          obtain ⟨code, text, ht, hcode, hclean⟩ := finalTerm_spec (finishCmd w k err)
          refine .final c k _ hf hk hp ⟨finishPre err name, infos, code, text, by rw [← ht], finishPre_308 err name,
            finalInfos_info _ _ _ hi, hcode, hclean⟩ (by rw [hid])
      · rename_i hp
        exact .progress c k hf hk (by simpa using hp) (by rw [hid])

/-- the text of a `305` line: the device's telemetry text with `(dev)` replaced by the device name -/
def teleText (name t : Bytes) : Bytes :=
  ((String.fromUTF8! ⟨t.toArray⟩).replace "(dev)" ("(" ++ String.fromUTF8! ⟨name.toArray⟩ ++ ")")).toUTF8.toList

theorem bstr_305 : bstr "305 " = code3 305 ++ [32] := by decide +kernel
theorem bstr_309 : bstr "309 " = code3 309 ++ [32] := by decide +kernel

theorem applyOut_telemetry (name : Bytes) (acc : W × List String) (cid : Nat) (t : Bytes) :
    applyOut name acc (.telemetry cid t) = (updCli acc.1 cid fun c => put c (render [Item.line 305 (teleText name t)]), acc.2) := by
  obtain ⟨w, msgs⟩ := acc
  simp [applyOut, teleText, render, Item.render, bstr_305]

theorem applyOut_diag (name : Bytes) (acc : W × List String) (cid : Nat) (t : Bytes) :
    applyOut name acc (.diag cid t) = (updCli acc.1 cid fun c => put c (render [Item.line 309 t]), acc.2) := by
  obtain ⟨w, msgs⟩ := acc
  simp [applyOut, render, Item.render, bstr_309]

/-- the client table of `w'` is that of `w` mapped: every record gets some items appended (`Appends`), and `Q` holds of the
    record before, the record after and the items -/
def ClientsMapped (Q : Cli → Cli → List Item → Prop) (w w' : W) : Prop :=
  ∃ G : Cli → Cli, w'.clients = w.clients.map G ∧ ∀ x, ∃ items, Appends x (G x) items ∧ Q x (G x) items

theorem ClientsMapped.refl {Q : Cli → Cli → List Item → Prop} (h0 : ∀ x, Q x x []) (w : W) : ClientsMapped Q w w :=
  ⟨id, by simp, fun x => ⟨[], .refl x, h0 x⟩⟩

theorem ClientsMapped.trans {Q : Cli → Cli → List Item → Prop} (ht : ∀ {x y z i j}, Q x y i → Q y z j → Q x z (i ++ j))
    {a b c : W} (h1 : ClientsMapped Q a b) (h2 : ClientsMapped Q b c) : ClientsMapped Q a c := by
  obtain ⟨G1, hg1, hG1⟩ := h1
  obtain ⟨G2, hg2, hG2⟩ := h2
  refine ⟨G2 ∘ G1, by rw [hg2, hg1, List.map_map], fun x => ?_⟩
  obtain ⟨i1, a1, c1⟩ := hG1 x
  obtain ⟨i2, a2, c2⟩ := hG2 (G1 x)
  exact ⟨i1 ++ i2, a1.trans a2, ht c1 c2⟩

theorem ClientsMapped.imp {Q Q' : Cli → Cli → List Item → Prop} {w w' : W} (h : ClientsMapped Q w w')
    (hq : ∀ x y items, Appends x y items → Q x y items → Q' x y items) : ClientsMapped Q' w w' := by
  obtain ⟨G, hg, hG⟩ := h
  exact ⟨G, hg, fun x => let ⟨items, ha, hQ⟩ := hG x; ⟨items, ha, hq _ _ _ ha hQ⟩⟩

theorem updCli_mapped {Q : Cli → Cli → List Item → Prop} (h0 : ∀ x, Q x x []) (w : W) (id : Nat) (f : Cli → Cli)
    (items : List Item) (hf : ∀ x, Appends x (f x) items) (hq : ∀ x, Q x (f x) items) : ClientsMapped Q w (updCli w id f) := by
  refine ⟨fun x => if x.id == id then f x else x, rfl, fun x => ?_⟩
  dsimp only
  split
  · exact ⟨items, hf x, hq x⟩
  · exact ⟨[], .refl x, h0 x⟩

/-- the clients of `w'` are those of `w`, each with a sequence of completion chunks appended; nothing else in the world
    changes -/
def ClientsAppended (w w' : W) : Prop :=
  { w' with clients := w.clients } = w ∧ ClientsMapped (fun _ _ => Chunks) w w'

theorem ClientsAppended.refl (w : W) : ClientsAppended w w := ⟨rfl, .refl (fun _ => .nil) w⟩

theorem ClientsAppended.trans {a b c : W} (h1 : ClientsAppended a b) (h2 : ClientsAppended b c) : ClientsAppended a c :=
  ⟨by rw [← h1.1, ← h2.1], h1.2.trans Chunks.append h2.2⟩

theorem updCli_appended (w : W) (id : Nat) (f : Cli → Cli) (items : List Item) (hf : ∀ x, Appends x (f x) items)
    (hc : Progress items ∨ FinalReply items) : ClientsAppended w (updCli w id f) :=
  ⟨rfl, updCli_mapped (fun _ => .nil) w id f items hf fun _ => .one hc⟩

theorem actFinish_appended (w : W) (id : Nat) (err : ActErr) (name : Bytes) : ClientsAppended w (actFinish w id err name).1 := by
  cases actFinish_shape w id err name with
  | gone h hr => rw [hr]; exact .refl w
  | noCmd c h hc hr => rw [hr]; exact .refl w
  | sortAbort c k h hc hp hn hr => rw [hr]; exact .refl w
  | progress c k h hc hp hr =>
    rw [hr]; exact updCli_appended w id _ _ (fun x => put_appends x _ _) (Or.inl fun i hi => lineIn_mono (by decide) i (finishPre_308 err name i hi))
  | final c k items h hc hp hi hr =>
    rw [hr]; exact updCli_appended w id _ _ (fun x => put_appends x _ _) (Or.inr hi)

theorem applyOut_appended (name : Bytes) (acc : W × List String) (o : Pm.Dev2.Out) : ClientsAppended acc.1 (applyOut name acc o).1 := by
  cases o with
  | finish cid e => exact actFinish_appended acc.1 cid e name
  | telemetry cid t =>
    rw [applyOut_telemetry]
    exact updCli_appended acc.1 cid _ [Item.line 305 (teleText name t)] (fun x => put_appends x x.cmd _) (Or.inl (by intro i hi; simp at hi; subst hi; rfl))
  | diag cid t =>
    rw [applyOut_diag]
    exact updCli_appended acc.1 cid _ [Item.line 309 t] (fun x => put_appends x x.cmd _) (Or.inl (by intro i hi; simp at hi; subst hi; rfl))
  | _ => exact .refl _

theorem applyOuts_shape (w : W) (name : Bytes) (outs : List Pm.Dev2.Out) : ClientsAppended w (applyOuts w name outs).1 :=
  applyOuts_keeps_pre (fun _ u => ClientsAppended w u) name outs (fun _ acc o _ _ h => h.trans (applyOut_appended name acc o)) w (.refl w)

/-! ### the grammar of the stream -/

/-- documented informational codes (`client_proto.h`) -/
def infoCodes : List Nat := [301, 302, 303, 304, 305, 306, 307, 308, 309]
/-- documented terminal codes after which the prompt may be re-issued (`208` is handled separately: never a prompt) -/
def termCodes : List Nat := [101, 102, 103, 104, 105, 201, 202, 203, 204, 205, 209, 210, 211, 213]

inductive SState where
  | start      -- nothing sent yet: the banner must come
  | banner     -- banner sent: the prompt must come
  | noPrompt   -- after a prompt, a 3xx line or a 208 line: a prompt is not allowed here
  | afterTerm  -- directly after a terminal line: a prompt is allowed
deriving DecidableEq, Repr

def SState.live : SState → Bool
  | .noPrompt | .afterTerm => true
  | _ => false

def sstep : SState → Item → Option SState
  | .start, .line c _ => if c == 1 then some .banner else none
  | .start, .prompt => none
  | .banner, .prompt => some .noPrompt
  | .banner, .line _ _ => none
  | .noPrompt, .prompt => none
  | .afterTerm, .prompt => some .noPrompt
  | _, .line c _ =>
    if infoCodes.contains c || c == 208 then some .noPrompt
    else if termCodes.contains c then some .afterTerm
    else none

def srun : SState → List Item → Option SState
  | s, [] => some s
  | s, i :: r => match sstep s i with
    | some s' => srun s' r
    | none => none

/-- prefix validity of a server output stream: the `001` banner, a prompt, then lines with documented codes where a
    prompt occurs only directly after a terminal (1xx/2xx, not 208) line -/
def wfStream (items : List Item) : Bool := (srun .start items).isSome

theorem srun_append (s : SState) (a b : List Item) : srun s (a ++ b) = (srun s a).bind fun s' => srun s' b := by
  induction a generalizing s with
  | nil => rfl
  | cons i r ih =>
    simp only [List.cons_append, srun]
    cases sstep s i with
    | none => rfl
    | some s' => exact ih s'

theorem sstep_live (s : SState) (hs : s.live = true) (c : Nat) (t : Bytes) :
    sstep s (.line c t) =
      if infoCodes.contains c || c == 208 then some .noPrompt else if termCodes.contains c then some .afterTerm else none := by
  cases s with
  | start => cases hs
  | banner => cases hs
  | noPrompt => rfl
  | afterTerm => rfl

theorem sstep_line_live (s : SState) (hs : s.live = true) (c : Nat) (t : Bytes) (hc : c ∈ infoCodes ∨ c = 208) :
    sstep s (.line c t) = some .noPrompt := by
  have : (infoCodes.contains c || c == 208) = true := by
    rcases hc with h | h
    · rw [List.contains_iff_mem.mpr h]; rfl
    · rw [h]; rfl
  rw [sstep_live s hs, if_pos this]

theorem sstep_term_live (s : SState) (hs : s.live = true) (c : Nat) (t : Bytes) (hc : c ∈ termCodes) :
    sstep s (.line c t) = some .afterTerm := by
  have h1 : ∀ c ∈ termCodes, (infoCodes.contains c || c == 208) = false := by decide
  rw [sstep_live s hs, if_neg (by rw [h1 c hc]; exact Bool.false_ne_true), if_pos (List.contains_iff_mem.mpr hc)]

theorem srun_infos (s : SState) (hs : s.live = true) (l : List Item) (cs : List Nat) (hcs : ∀ c ∈ cs, c ∈ infoCodes ∨ c = 208)
    (hl : ∀ i ∈ l, i.lineIn cs = true) : ∃ s', srun s l = some s' ∧ s'.live = true ∧ (l ≠ [] → s' = .noPrompt) := by
  induction l generalizing s with
  | nil => exact ⟨s, rfl, hs, fun h => absurd rfl h⟩
  | cons i r ih =>
    cases i with
    | prompt => have := hl .prompt (by simp); simp [Item.lineIn] at this
    | line c t =>
      have hc : c ∈ cs := by have := hl (.line c t) (by simp); simpa [Item.lineIn] using this
      simp only [srun, sstep_line_live s hs c t (hcs c hc)]
      obtain ⟨s', h1, h2, h3⟩ := ih .noPrompt rfl (fun i hi => hl i (by simp [hi]))
      refine ⟨s', h1, h2, fun _ => ?_⟩
      cases r with
      | nil => simpa [srun] using h1.symm
      | cons _ _ => exact h3 (by simp)

theorem srun_reply (s : SState) (hs : s.live = true) (ics tcs : List Nat) (pr : Nat → Bool) (items : List Item)
    (hics : ∀ c ∈ ics, c ∈ infoCodes) (htcs : ∀ c ∈ tcs, c ∈ termCodes ∨ c = 208) (hpr : ∀ c, pr c = true → c ≠ 208)
    (h : Reply ics tcs pr items) : ∃ s', srun s items = some s' ∧ s'.live = true := by
  obtain ⟨infos, code, text, rfl, hi, hc⟩ := h
  obtain ⟨s1, h1, hl1, _⟩ := srun_infos s hs infos ics (fun c hc => Or.inl (hics c hc)) hi
  rw [srun_append, srun_append, h1]
  simp only [Option.bind_some, srun]
  rcases htcs code hc with ht | h208
  · rw [sstep_term_live s1 hl1 code text ht]
    simp only [Option.bind_some]
    split
    · exact ⟨.noPrompt, rfl, rfl⟩
    · exact ⟨.afterTerm, rfl, rfl⟩
  · rw [sstep_line_live s1 hl1 code text (Or.inr h208)]
    simp only [Option.bind_some]
    split
    · rename_i hp; exact absurd h208 (hpr code hp)
    · exact ⟨.noPrompt, rfl, rfl⟩

theorem srun_progress (s : SState) (hs : s.live = true) (items : List Item) (h : Progress items) :
    ∃ s', srun s items = some s' ∧ s'.live = true := by
  obtain ⟨s', h1, h2, _⟩ := srun_infos s hs items progressCodes (by decide) h
  exact ⟨s', h1, h2⟩

theorem srun_final (s : SState) (hs : s.live = true) (items : List Item) (h : FinalReply items) :
    srun s items = some .noPrompt := by
  obtain ⟨pre, infos, code, text, rfl, hp, hi, hc, _⟩ := h
  obtain ⟨s1, h1, hl1, _⟩ := srun_infos s hs pre [308] (by decide) hp
  obtain ⟨s2, h2, hl2, _⟩ := srun_infos s1 hl1 infos finalInfoCodes (by decide) hi
  have ht : code ∈ termCodes := by
    have : ∀ c ∈ finalTermCodes, c ∈ termCodes := by decide
    exact this code hc
  rw [srun_append, srun_append, h1]
  simp only [Option.bind_some, h2, srun, sstep_term_live s2 hl2 code text ht]
  rfl

theorem srun_chunks (s : SState) (hs : s.live = true) (items : List Item) (h : Chunks items) :
    ∃ s', srun s items = some s' ∧ s'.live = true := by
  induction h with
  | nil => exact ⟨s, rfl, hs⟩
  | snoc _ hb ih =>
    obtain ⟨s1, h1, hl1⟩ := ih
    rw [srun_append, h1]
    simp only [Option.bind_some]
    rcases hb with hb | hb
    · exact srun_progress s1 hl1 _ hb
    · exact ⟨.noPrompt, srun_final s1 hl1 _ hb, rfl⟩

/-- `bytes` is a grammatical stream of clean protocol lines that has got past the banner and the first prompt -/
def StreamOK (bytes : Bytes) : Prop :=
  ∃ items s, bytes = render items ∧ srun .start items = some s ∧ s.live = true ∧ ∀ i ∈ items, i.clean = true

theorem StreamOK.wf {bytes : Bytes} (h : StreamOK bytes) : ∃ items, bytes = render items ∧ wfStream items = true ∧ ∀ i ∈ items, i.clean = true := by
  obtain ⟨items, s, h1, h2, _, h4⟩ := h
  exact ⟨items, h1, by simp [wfStream, h2], h4⟩

/-- appending item lists that keep a live state live preserves `StreamOK` -/
theorem StreamOK.extend {bytes : Bytes} (h : StreamOK bytes) (items : List Item)
    (hrun : ∀ s : SState, s.live = true → ∃ s', srun s items = some s' ∧ s'.live = true)
    (hclean : ∀ i ∈ items, i.clean = true) : StreamOK (bytes ++ render items) := by
  obtain ⟨items0, s, h1, h2, h3, h4⟩ := h
  obtain ⟨s', h5, h6⟩ := hrun s h3
  refine ⟨items0 ++ items, s', by rw [h1, render_append], by rw [srun_append, h2]; exact h5, h6, ?_⟩
  intro i hi; rcases List.mem_append.mp hi with hi | hi
  · exact h4 i hi
  · exact hclean i hi

theorem banner_streamOK (w : W) (hv : cleanText w.cfg.version = true) : StreamOK (newClient w).toBuf := by
  refine ⟨[Item.line 1 w.cfg.version, Item.prompt], .noPrompt, newClient_banner w, rfl, rfl, ?_⟩
  intro i hi; simp at hi; rcases hi with rfl | rfl
  · exact hv
  · rfl

/-! ### a request line and the callbacks of a device pass as streams -/

/-- every item of `items` that embeds data (code in `dcs`) is a clean line -/
def DataClean (dcs : List Nat) (items : List Item) : Prop := ∀ i ∈ items, i.lineIn dcs = true → i.clean = true

theorem clean_of_fixed_data {dcs : List Nat} {items : List Item} (hf : FixedClean dcs items) (hd : DataClean dcs items) :
    ∀ i ∈ items, i.clean = true := by
  intro i hi
  cases h : i.lineIn dcs
  · exact hf i hi h
  · exact hd i hi h

/-- a chunk answering one request line: empty when the line installed a command, else `3xx* terminal [prompt]` -/
def AnswerChunk (ch : List Item) : Prop := ch = [] ∨ ((∃ q, Reply infoCodesP termCodesP (promptAfter q) ch) ∧ FixedClean dataCodesP ch)

theorem answerChunks_stream {bytes : Bytes} (h : StreamOK bytes) : ∀ (chunks : List (List Item)),
    (∀ ch ∈ chunks, AnswerChunk ch) → (∀ ch ∈ chunks, DataClean dataCodesP ch) → StreamOK (bytes ++ render chunks.flatten) := by
  intro chunks
  induction chunks generalizing bytes with
  | nil => intro _ _; simpa using h
  | cons ch r ih =>
    intro ha hd
    rw [List.flatten_cons, render_append, ← List.append_assoc]
    refine ih ?_ (fun x hx => ha x (by simp [hx])) (fun x hx => hd x (by simp [hx]))
    rcases ha ch (by simp) with rfl | ⟨⟨q, shape⟩, clean⟩
    · simpa using h
    · refine h.extend ch (fun s hs => ?_) (clean_of_fixed_data clean (hd ch (by simp)))
      exact srun_reply s hs _ _ _ ch (by decide) (by decide) (by intro c hc; simp [promptAfter] at hc; exact hc.1.1) shape

theorem parseLine_stream (pre : Bytes) (w : W) (c : Cli) (line : Bytes) (h : StreamOK (pre ++ outOf w c)) :
    (parseLine w c line).1.exited = true ∨
    (∃ items, outOf (parseLine w c line).1 (parseLine w c line).2 = outOf w c ++ render items ∧
      (items = [] ∨ Reply infoCodesP termCodesP (promptAfter (parseLine w c line).2.quit) items) ∧
      FixedClean dataCodesP items ∧
      (DataClean dataCodesP items → StreamOK (pre ++ outOf (parseLine w c line).1 (parseLine w c line).2))) := by
  cases parseLine_shape w c line with
  | exit h _ => left; rw [h]
  | reply items shape out buf cmd ex clean prompted =>
    right
    refine ⟨items, out, Or.inr shape, clean, fun hd => ?_⟩
    rw [out, ← List.append_assoc]
    simpa using answerChunks_stream h [items] (by simpa using .inr ⟨⟨_, shape⟩, clean⟩) (by simpa using hd)
  | installed k idle cmd pending out =>
    exact .inr ⟨[], by simp [out], Or.inl rfl, (fun _ h => nomatch h), fun _ => by rw [out]; exact h⟩

/-- the items are completion chunks, and if they are clean lines a grammatical stream stays one -/
def ChunksStream (x y : Cli) (items : List Item) : Prop :=
  Chunks items ∧ ∀ pre, StreamOK (pre ++ x.toBuf) → (∀ i ∈ items, i.clean = true) → StreamOK (pre ++ y.toBuf)

theorem ClientsAppended.stream {w w' : W} (h : ClientsAppended w w') : ClientsMapped ChunksStream w w' :=
  h.2.imp fun x y items ha hc => ⟨hc, fun pre hs hcl => by
    rw [ha.buf, ← List.append_assoc]
    exact hs.extend items (fun s hs => srun_chunks s hs items hc) hcl⟩

theorem applyOuts_stream (w : W) (name : Bytes) (outs : List Pm.Dev2.Out) :
    ClientsMapped ChunksStream w (applyOuts w name outs).1 :=
  (applyOuts_shape w name outs).stream

theorem actFinish_stream (w : W) (id : Nat) (err : ActErr) (name : Bytes) : ClientsMapped ChunksStream w (actFinish w id err name).1 :=
  (actFinish_appended w id err name).stream

/-! ### `_handle_input`: one answer per complete line -/

theorem Reply.ne_nil {ics tcs : List Nat} {pr : Nat → Bool} {items : List Item} (h : Reply ics tcs pr items) : items ≠ [] := by
  obtain ⟨infos, code, text, rfl, _⟩ := h
  simp

/-- the outcome of `runLines`, hence of `_handle_input`: unless the daemon exits, there is exactly one chunk per line, in
    order; at most one of them is empty (a command was installed — possible only when none was in progress) -/
theorem runLines_answers : ∀ (ls : List Bytes) (w : W) (c : Cli),
    (runLines w c ls).1.exited = true ∨
    ∃ chunks : List (List Item), chunks.length = ls.length ∧
      outOf (runLines w c ls).1 (runLines w c ls).2 = outOf w c ++ render chunks.flatten ∧
      (∀ ch ∈ chunks, AnswerChunk ch) ∧
      (((runLines w c ls).2.cmd = c.cmd ∧ chunks.count [] = 0) ∨
       (c.cmd = none ∧ ∃ k, (runLines w c ls).2.cmd = some k ∧ 0 < k.pending ∧ chunks.count [] = 1)) := by
  intro ls; induction ls with
  | nil => intro w c; right; exact ⟨[], rfl, by simp [runLines], by simp, Or.inl ⟨rfl, rfl⟩⟩
  | cons l ls ih =>
    intro w c
    unfold runLines
    by_cases hex : w.exited = true
    · left; rw [if_pos hex]; exact hex
    · rw [if_neg hex]
      generalize hc1 : ({ c with fromBuf := c.fromBuf.drop l.length } : Cli) = c1
      have ho : outOf w c1 = outOf w c := by subst hc1; rfl
      have hcmd : c1.cmd = c.cmd := by subst hc1; rfl
      cases parseLine_shape w c1 l with
      | exit h _ => left; rw [h, runLines_exited _ _ _ rfl]
      | reply items shape out buf cmd ex clean prompted =>
        rcases ih (parseLine w c1 l).1 (parseLine w c1 l).2 with h | ⟨chunks, hlen, hout, hch, hcnt⟩
        · exact Or.inl h
        · right
          refine ⟨items :: chunks, by simp [hlen], ?_, ?_, ?_⟩
          · rw [hout, out, ho]; simp [List.append_assoc]
          · intro ch hch'; simp only [List.mem_cons] at hch'
            rcases hch' with rfl | hch'
            · exact Or.inr ⟨⟨_, shape⟩, clean⟩
            · exact hch ch hch'
          · have hne : items ≠ [] := shape.ne_nil
            have hc0 : (items :: chunks).count [] = chunks.count [] := by
              rw [List.count_cons]; simp [hne]
            rw [hc0, ← hcmd, ← cmd]
            exact hcnt
      | installed k idle cmd pending out =>
        rcases ih (parseLine w c1 l).1 (parseLine w c1 l).2 with h | ⟨chunks, hlen, hout, hch, hcnt⟩
        · exact Or.inl h
        · right
          have hout1 : outOf (parseLine w c1 l).1 (parseLine w c1 l).2 = outOf w c := out.trans ho
          refine ⟨[] :: chunks, by simp [hlen], ?_, ?_, Or.inr ⟨by rw [← hcmd]; exact idle, ?_⟩⟩
          · rw [hout, hout1]; simp
          · intro ch hch'; simp only [List.mem_cons] at hch'
            rcases hch' with rfl | hch'
            · exact Or.inl rfl
            · exact hch ch hch'
          · rcases hcnt with ⟨h1, h2⟩ | ⟨h1, _⟩
            · exact ⟨k, by rw [h1, cmd], pending, by rw [List.count_cons]; simp [h2]⟩
            · rw [cmd] at h1; cases h1

/-- C04/C06 at the level of `_handle_input`: every complete line in `from` gets exactly one answer chunk, in order -/
theorem handleInput_answers (w : W) (c : Cli) :
    (handleInput w c).1.exited = true ∨
    ∃ chunks : List (List Item), chunks.length = (linesOf c.fromBuf).1.length ∧
      outOf (handleInput w c).1 (handleInput w c).2 = outOf w c ++ render chunks.flatten ∧
      (∀ ch ∈ chunks, AnswerChunk ch) ∧
      (((handleInput w c).2.cmd = c.cmd ∧ chunks.count [] = 0) ∨
       (c.cmd = none ∧ ∃ k, (handleInput w c).2.cmd = some k ∧ 0 < k.pending ∧ chunks.count [] = 1)) := by
  rw [handleInput_lines]; exact runLines_answers _ w c

/-! ### a client's share of a pass as a stream -/

theorem written_read (ss : List Sys) (fd fd' : Nat) (n : Int) : written (ss ++ [Sys.read fd' n]) fd = written ss fd := by
  simp [written]

theorem cpRead_out (w : W) (c : Cli) (e : Option FdEnv) :
    outOf (cpRead w c e).1 (cpRead w c e).2 = outOf w c ∧ (cpRead w c e).2.fd = c.fd ∧ (cpRead w c e).2.id = c.id ∧
      (cpRead w c e).2.cmd = c.cmd := by
  rcases cpRead_cases w c e with h | ⟨_, _, h, rfl | ⟨_, rfl⟩⟩ <;> rw [h]
  · exact ⟨rfl, rfl, rfl, rfl⟩
  · exact ⟨by simp [outOf, written_read], rfl, rfl, rfl⟩
  · exact ⟨by simp [outOf, written_read], rfl, rfl, rfl⟩

/-- C15 over the client's share of a pass: if the client survives the pass, its cumulative output grew by one answer chunk
    per complete request line — whatever was read, written, or half-written in between; and if the data-carrying lines of
    those chunks are clean, a grammatical stream stays grammatical -/
theorem clientPass_stream (w : W) (c : Cli) (e : Option FdEnv) (c' : Cli) (h : (clientPass w c e).2 = some c') :
    (clientPass w c e).1.exited = true ∨
    ∃ chunks : List (List Item), outOf (clientPass w c e).1 c' = outOf w c ++ render chunks.flatten ∧
      (∀ ch ∈ chunks, AnswerChunk ch) ∧
      ∀ pre, StreamOK (pre ++ outOf w c) → (∀ ch ∈ chunks, DataClean dataCodesP ch) → StreamOK (pre ++ outOf (clientPass w c e).1 c') := by
  -- what holds from the start of the share up to any of its stages: the daemon is gone, or so many answer chunks went out
  let P (r : W × Cli) : Prop := r.1.exited = true ∨
    ∃ chunks : List (List Item), outOf r.1 r.2 = outOf w c ++ render chunks.flatten ∧ ∀ ch ∈ chunks, AnswerChunk ch
  have quiet : ∀ r r' : W × Cli, r'.1.exited = r.1.exited → outOf r'.1 r'.2 = outOf r.1 r.2 → P r → P r' := fun r r' he ho hP =>
    hP.imp (fun h => he.trans h) fun ⟨chunks, h1, h2⟩ => ⟨chunks, ho.trans h1, h2⟩
  rcases clientPass_invariant w c e (P := P) (.inr ⟨[], by simp, fun _ h => nomatch h⟩)
      (quiet (w, c) _ (by obtain ⟨_, h⟩ := cpRead_sys w (clipC c e) (clipE c e); rw [h])
        (by rw [(cpRead_out w _ _).1, outOf, clipC_fd, clipC_toBuf]; rfl) (.inr ⟨[], by simp, fun _ h => nomatch h⟩))
      (fun _ r hP => quiet r _ (by obtain ⟨_, _, _, _, _, h⟩ := handleWrite_only r.1 r.2; rw [h]) (handleWrite_out r.1 r.2).1 hP)
      (fun r hP => by
        rcases hP with hex | ⟨chunks, h1, h2⟩
        · exact .inl (by rw [handleInput_lines, runLines_exited _ _ _ hex]; exact hex)
        · rcases handleInput_answers r.1 r.2 with hex | ⟨more, _, hout, hch, _⟩
          · exact .inl hex
          · exact .inr ⟨chunks ++ more, by rw [hout, h1, List.flatten_append, render_append, List.append_assoc],
              fun ch hm => (List.mem_append.mp hm).elim (h2 ch) (hch ch)⟩) with hd | ⟨r, hP, ht⟩
  · rw [hd] at h; cases h
  · rw [ht] at h ⊢
    rw [cpTail_alive r c' h, cpTail_world r c' h]
    refine hP.imp id fun ⟨chunks, hout, hch⟩ => ⟨chunks, hout, hch, fun pre hs hd => ?_⟩
    rw [hout, ← List.append_assoc]
    exact answerChunks_stream hs chunks hch hd

/-! ### C04: an idle client that has not quit has been prompted -/

/-- the client's cumulative output `items` ends with the prompt whenever no command is in progress and the client has not
    quit: the server is then waiting for a request and has said so -/
def Prompted (c : Cli) (items : List Item) : Prop := c.cmd = none → c.quit = false → items.getLast? = some Item.prompt

theorem getLast?_append_prompt (a b : List Item) (h : b.getLast? = some Item.prompt) : (a ++ b).getLast? = some Item.prompt := by
  cases b with
  | nil => simp at h
  | cons x r => rw [List.getLast?_append]; simp [h]

theorem newClient_prompted (w : W) : Prompted (newClient w) [Item.line 1 w.cfg.version, Item.prompt] := fun _ _ => rfl

theorem parseLine_prompted (w : W) (c : Cli) (line : Bytes) (items0 : List Item) :
    (parseLine w c line).1.exited = true ∨
    ∃ items, outOf (parseLine w c line).1 (parseLine w c line).2 = outOf w c ++ render items ∧
      Prompted (parseLine w c line).2 (items0 ++ items) := by
  cases parseLine_shape w c line with
  | exit h' _ => left; rw [h']
  | reply items shape out buf cmd ex clean prompted =>
    right
    refine ⟨items, out, fun hc hq => ?_⟩
    exact getLast?_append_prompt _ _ (prompted (by rw [← cmd]; exact hc) hq)
  | installed k idle cmd pending out => exact .inr ⟨[], by simp [out], fun hc _ => by rw [cmd] at hc; cases hc⟩

/-- whatever the record had got before, it stays prompted with the items behind it -/
def PromptKept (x y : Cli) (items : List Item) : Prop := ∀ items0, Prompted x items0 → Prompted y (items0 ++ items)

theorem actFinish_prompted (w : W) (cid : Nat) (err : ActErr) (name : Bytes) : ClientsMapped PromptKept w (actFinish w cid err name).1 := by
  have h0 : ∀ x, PromptKept x x [] := fun x items0 h => by simpa using h
  cases actFinish_shape w cid err name with
  | gone h hr => rw [hr]; exact .refl h0 w
  | noCmd c h hc hr => rw [hr]; exact .refl h0 w
  | sortAbort c k h hc hp hn hr => rw [hr]; exact .refl h0 w
  | progress c k h hc hp hr =>
    rw [hr]
    exact updCli_mapped h0 w cid _ _ (fun x => put_appends x _ _) (fun x items0 _ hc _ => by simp [put] at hc)
  | final c k items h hc hp hi hr =>
    rw [hr]
    refine updCli_mapped h0 w cid _ _ (fun x => put_appends x _ _) (fun x items0 _ _ _ => ?_)
    obtain ⟨pre, infos, code, text, rfl, _⟩ := hi
    simp [List.getLast?_append]

/-! ### C06: the only way out is the sort assertion -/

/-- `hostlist_sort` never trips `assert(hostrange_cmp(h1, h2) <= 0)` (known finding F19 says it can) — nor, in the logic,
    exhausts the iteration bound of its mirror (`SortRes.Died` covers both; the second is a modelling artefact) -/
def NoSortAbort : Prop := ∀ hl, ¬ (sortHL hl).Died

theorem LineDoes.exited {w : W} {c : Cli} {str : Bytes} {r : W × Cli} (h : LineDoes w c str r) (hs : NoSortAbort) :
    r.1.exited = w.exited := by
  cases h with
  | exit cause => rcases cause with h | ⟨_, _, h⟩ <;> exact absurd h (hs _)
  | quit _ => exact (plQuit_spec w c).exited
  | _ => rfl

theorem clientPass_exited (hs : NoSortAbort) (w : W) (c : Cli) (e : Option FdEnv) : (clientPass w c e).1.exited = w.exited := by
  rcases clientPass_stages (R := fun w _ r => r.1.exited = w.exited) (fun _ _ => rfl) (fun h1 h2 => h2.trans h1)
      (fun w c e => by rcases cpRead_cases w (clipC c e) (clipE c e) with h | ⟨_, _, h, _⟩ <;> rw [h])
      (fun w c => by obtain ⟨_, _, _, _, _, h⟩ := handleWrite_only w c; rw [h])
      (handleInput_walk (R := fun w _ r => r.1.exited = w.exited) (fun _ _ => rfl) (fun h1 h2 => h2.trans h1) (fun _ _ _ => rfl)
        fun w c l => (parseLine_does w c l).exited hs) w c e with hd | ⟨r, hr, ht⟩
  · rw [hd]; rfl
  · rw [ht, cpTail_exited]; exact hr

theorem cliStep_exited (hs : NoSortAbort) (envs : List FdEnv) (w : W) (c0 : Cli) : (cliStep envs w c0).exited = w.exited := by
  unfold cliStep
  split
  · rfl
  · have := clientPass_exited hs w c0 (envs.find? (·.fd == c0.fd))
    generalize clientPass w c0 (envs.find? (·.fd == c0.fd)) = r at this
    obtain ⟨w', r⟩ := r
    cases r <;> exact this

theorem cliAccept_exited (w : W) (acc : Nat) : (cliAccept w acc).exited = w.exited := by
  obtain ⟨new, k, n, ev, _, _, e⟩ := cliAccept_shape w acc
  rw [e]

/-- C06 for the client side of a pass: whatever arrives on whatever connections, `cli_post_poll` does not leave the
    process — as long as `hostlist_sort` does not trip its assertion -/
theorem cliPostPoll_exited (hs : NoSortAbort) (w : W) (acc : Nat) (envs : List FdEnv) : (cliPostPoll w acc envs).exited = w.exited :=
  cliPostPoll_induct (fun u => u.exited = w.exited) w acc envs (cliAccept_exited _ acc)
    fun u hu c0 _ => (cliStep_exited hs envs u c0).trans hu

/-- the device half of a pass never sets `exited`; so a whole pass leaves the process only where `cli_post_poll` does -/
theorem daemonPass_exited (w : W) (p : PassIn) : (daemonPass w p).1.exited = (cliPostPoll w p.acc p.envs).exited := by
  rw [daemonPass_world]
  have := congrArg W.exited (devPhase_frame p (cliPostPoll w p.acc p.envs)).same
  exact this

theorem parseLine_exit_cause (w : W) (c : Cli) (line : Bytes) (h : (parseLine w c line).1.exited = true) :
    w.exited = true ∨ (sortHL w.cfg.nodes).Died ∨ ∃ nd ∈ w.devs, (sortHL (devHosts nd.2)).Died := by
  cases parseLine_shape w c line with
  | exit _ cause => exact Or.inr cause
  | reply items shape out buf cmd ex clean prompted => exact Or.inl (ex ▸ h)
  | installed k idle cmd pending _ buf sys ex => exact Or.inl (ex ▸ h)

/-- and that branch is live: if sorting the configured node list trips the assertion, the request `nodes` from any idle
    client ends the process (F19) -/
theorem nodes_exit (w : W) (c : Cli) (hidle : c.cmd = none) (h : sortHL w.cfg.nodes = .abort) :
    (parseLine w c (bstr "nodes\n")).1.exited = true := by
  have hs : reqStr (bstr "nodes\n") = kwNodes := by decide +kernel
  have h1 : casePrefix kwHelp kwNodes = false := by decide
  have h2 : casePrefix kwNodes kwNodes = true := by decide
  have hl : ¬ TooLong (bstr "nodes\n") := by unfold TooLong; rw [hs]; decide
  rw [parseLine_eq]; unfold parseLine'
  rw [if_neg hl]
  simp only [hidle, Option.isSome_none, Bool.false_eq_true, if_false, hs]
  unfold plIdle
  simp only [h1, h2, Bool.false_eq_true, if_false, if_true]
  unfold plNodes
  rw [h]

def runPasses (w : W) (ps : List PassIn) : W := ps.foldl (fun w p => (daemonPass w p).1) w

theorem runPasses_exited (hs : NoSortAbort) (w : W) (ps : List PassIn) : (runPasses w ps).exited = w.exited := by
  unfold runPasses
  induction ps generalizing w with
  | nil => rfl
  | cons p r ih => rw [List.foldl_cons, ih, daemonPass_exited, cliPostPoll_exited hs]

/-! ### `_handle_input` does not depend on how the bytes arrived -/

def setFrom (c : Cli) (x : Bytes) : Cli := { c with fromBuf := x }

/-- `f` neither reads nor writes `from` -/
def FromBlind (f : W → Cli → W × Cli) : Prop := ∀ w c x, f w (setFrom c x) = ((f w c).1, setFrom (f w c).2 x)

theorem plFin_blind (b : Cli → Bytes) (hb : ∀ c x, b (setFrom c x) = b c) : FromBlind fun w c => plFin w c (b c) := by
  intro w c x; simp only [plFin, hb]; rfl

theorem plNodes_blind : FromBlind plNodes := by
  intro w c x; unfold plNodes; split <;> rfl

/-- both branches neither read nor write `from`, and the condition does not read it: so the conditional -/
theorem ite_blind {p : Prop} [Decidable p] {a b a' b' : W × Cli} {x : Bytes} (ha : a' = (a.1, setFrom a.2 x))
    (hb : b' = (b.1, setFrom b.2 x)) : (if p then a' else b') = ((if p then a else b).1, setFrom (if p then a else b).2 x) := by
  split <;> assumption

theorem hwCore_blind : FromBlind hwCore := by
  intro w c x
  unfold hwCore
  exact ite_blind rfl (ite_blind rfl (ite_blind rfl (ite_blind rfl rfl)))

theorem handleWrite_blind : FromBlind handleWrite := by
  intro w c x
  rw [handleWrite_eq, handleWrite_eq]
  have := hwCore_blind w (if c.quit then { c with blocking := true } else c) x
  rwa [apply_ite (fun y => setFrom y x)] at this

theorem plQuit_blind : FromBlind plQuit := fun w c x => handleWrite_blind w (put { c with quit := true } (codeLine 101 ++ crlf)) x

theorem install_blind (com : Com) (names : List Name) : FromBlind fun w c => install w c com names := by
  intro w c x
  show install w (setFrom c x) com names = ((install w c com names).1, setFrom (install w c com names).2 x)
  rw [install_nf w c, install_nf w (setFrom c x)]
  exact ite_blind rfl (ite_blind rfl rfl)

theorem plDevice_blind (str : Bytes) : FromBlind fun w c => plDevice w c str := by
  intro w c x
  show plDevice w (setFrom c x) str = ((plDevice w c str).1, setFrom (plDevice w c str).2 x)
  unfold plDevice
  cases plDevArg str with
  | none => rfl
  | some a =>
    dsimp only
    cases deviceReply w a <;> rfl

theorem plCmd_blind (com : Com) (arg : Bytes) : FromBlind fun w c => plCmd w c com arg := by
  intro w c x
  show plCmd w (setFrom c x) com arg = ((plCmd w c com arg).1, setFrom (plCmd w c com arg).2 x)
  unfold plCmd
  cases createR (toChars arg) with
  | fatal => rfl
  | err => rfl
  | ok hl =>
    dsimp only
    split
    · rfl
    · exact install_blind com _ w c x

theorem plIdle_blind (str : Bytes) : FromBlind fun w c => plIdle w c str :=
  plIdle_cases str (P := FromBlind) (fun _ _ _ => rfl) plNodes_blind (fun _ _ _ => rfl) (fun _ _ _ => rfl) plQuit_blind
    (fun com _ w c x => install_blind com _ w c x) (plDevice_blind str) (fun com arg _ => plCmd_blind com arg)

theorem parseLine_blind (line : Bytes) : FromBlind fun w c => parseLine w c line := by
  intro w c x
  show parseLine w (setFrom c x) line = ((parseLine w c line).1, setFrom (parseLine w c line).2 x)
  simp only [parseLine_eq]
  unfold parseLine'
  exact ite_blind rfl (ite_blind rfl (plIdle_blind _ w c x))

theorem linesOf_cons (x : UInt8) (r : Bytes) : linesOf (x :: r) =
    if x == 10 then ([x] :: (linesOf r).1, (linesOf r).2)
    else match (linesOf r).1 with
      | [] => ([], x :: (linesOf r).2)
      | l :: ls => ((x :: l) :: ls, (linesOf r).2) := by
  simp only [linesOf]; rfl

theorem linesOf_append (a b : Bytes) :
    linesOf (a ++ b) = ((linesOf a).1 ++ (linesOf ((linesOf a).2 ++ b)).1, (linesOf ((linesOf a).2 ++ b)).2) := by
  induction a with
  | nil => simp [linesOf]
  | cons x r ih =>
    rw [List.cons_append, linesOf_cons x (r ++ b), linesOf_cons x r]
    by_cases hx : (x == 10) = true
    · simp only [hx, if_true, ih]; simp
    · simp only [hx, if_false, Bool.false_eq_true]
      cases h1 : (linesOf r).1 with
      | nil =>
        simp only [ih, h1, List.nil_append, List.cons_append]
        rw [linesOf_cons x, if_neg hx]
      | cons l ls => simp only [ih, h1, List.cons_append]

theorem runLines_append (w : W) (c : Cli) (l1 l2 : List Bytes) :
    runLines w c (l1 ++ l2) = runLines (runLines w c l1).1 (runLines w c l1).2 l2 := by
  induction l1 generalizing w c with
  | nil => rfl
  | cons l ls ih =>
    simp only [List.cons_append, runLines]
    split
    · rename_i h; rw [runLines_exited _ _ _ h]
    · exact ih _ _

/-- bytes behind the lines being processed ride along untouched -/
theorem runLines_suffix (b : Bytes) : ∀ (ls : List Bytes) (w : W) (c : Cli) (f : Bytes), ls.flatten.length ≤ f.length →
    runLines w (setFrom c (f ++ b)) ls =
      ((runLines w (setFrom c f) ls).1, setFrom (runLines w (setFrom c f) ls).2 ((runLines w (setFrom c f) ls).2.fromBuf ++ b)) := by
  intro ls; induction ls with
  | nil => intro w c f _; rfl
  | cons l ls ih =>
    intro w c f hlen
    simp only [List.flatten_cons, List.length_append] at hlen
    unfold runLines
    by_cases hex : w.exited = true
    · simp only [hex, if_true]; rfl
    · simp only [hex]
      have hd : (f ++ b).drop l.length = f.drop l.length ++ b := by
        rw [List.drop_append_of_le_length (by omega)]
      have e1 : ({ setFrom c (f ++ b) with fromBuf := (setFrom c (f ++ b)).fromBuf.drop l.length } : Cli) = setFrom c (f.drop l.length ++ b) := by
        simp only [setFrom, hd]
      have e2 : ({ setFrom c f with fromBuf := (setFrom c f).fromBuf.drop l.length } : Cli) = setFrom c (f.drop l.length) := rfl
      rw [e1, e2]
      have p1 := parseLine_blind l w c (f.drop l.length ++ b)
      have p2 := parseLine_blind l w c (f.drop l.length)
      dsimp only at p1 p2
      rw [p1, p2]
      dsimp only
      have hfl : ls.flatten.length ≤ (f.drop l.length).length := by rw [List.length_drop]; omega
      exact ih (parseLine w c l).1 (parseLine w c l).2 (f.drop l.length) hfl

theorem handleInput_split (w : W) (c : Cli) (a b : Bytes) :
    handleInput w (setFrom c (a ++ b)) =
      handleInput (handleInput w (setFrom c a)).1
        (setFrom (handleInput w (setFrom c a)).2 ((handleInput w (setFrom c a)).2.fromBuf ++ b)) := by
  have hfl : (linesOf a).1.flatten.length ≤ a.length := by
    have := congrArg List.length (linesOf_flatten a)
    rw [List.length_append] at this; omega
  have hl : runLines w (setFrom c a) (linesOf a).1 = handleInput w (setFrom c a) := (handleInput_lines w (setFrom c a)).symm
  have ht : (handleInput w (setFrom c a)).1.exited = false → (handleInput w (setFrom c a)).2.fromBuf = (linesOf a).2 :=
    handleInput_tail w (setFrom c a)
  generalize handleInput w (setFrom c a) = R at hl ht ⊢
  rw [handleInput_lines w (setFrom c (a ++ b))]
  show runLines w (setFrom c (a ++ b)) (linesOf (a ++ b)).1 = _
  rw [linesOf_append, runLines_append, runLines_suffix b _ w c a hfl, hl]
  dsimp only
  by_cases hex : R.1.exited = true
  · rw [runLines_exited _ _ _ hex, handleInput_lines, runLines_exited _ _ _ hex]
  · rw [handleInput_lines]
    show _ = runLines _ _ (linesOf (R.2.fromBuf ++ b)).1
    rw [ht (by simpa using hex)]

/-! ### concrete values for the non-vacuity examples in `Props/` -/
namespace Ex

/-- one device `d` with plug `1` = node `t1` and only an `on` script -/
def dev : Dev :=
  { plugs := [{ name := bstr "1", node := some (bstr "t1") }], scripts := fun c => if c == 7 then some [] else none,
    timeout := 0, acts := [], toBuf := [], fromBuf := [], xmStr := none, xmOffs := [], xmResult := false, xmUsed := false,
    args := [], nextUid := 0, shortCircuitDelay := false }

def world : W :=
  { cfg := { plugs := [("1".toList, some "t1".toList)], has := [7], nodes := pushHost [] "t1".toList, version := bstr "2.4.4" },
    clients := [], devs := [(bstr "d", dev)] }

/-- an idle client just after the banner has gone out -/
def idle : Cli := { id := 1, fd := 1000 }

/-- the same client with `on t1` in progress, one action outstanding -/
def busy : Cli := { idle with cmd := some { com := .on, names := ["t1".toList], pending := 1, error := false, al := 0 } }

def busyWorld : W :=
  { world with clients := [busy], store := [(0, [{ node := bstr "t1", val := none, state := .unknown, result := .success }])] }

end Ex

end Pm.Daemon.ClientPf
