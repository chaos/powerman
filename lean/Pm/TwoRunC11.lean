import Pm.TwoRun
/-! C11, back-pressure as a statement about two runs.

    Run 1: the client on descriptor `fs` (id `s`) behaves — its descriptor is reported writable now and then and takes
    bytes.  Run 2: the same pass inputs, except that `fs` is never reported writable (the peer has stopped reading); the
    client's output piles up in its buffer.  Everything else is the same in both runs, pass by pass: every other client's
    record, the bytes written to every other descriptor, every device (queue, buffers, connection state), the arglist
    store, what every device does in every pass (its system calls, callbacks, registered time-out) — in particular the
    completions carrying `s`'s own id.

    This file: the relation between the two worlds (`ARel`) and one pass (`daemonPass_stuck`); any number of passes:
    `Pm/RunXTwo.lean`. -/
namespace Pm.Daemon.TwoRun
open Pm Pm.Client Pm.Daemon Pm.Daemon.Isolation
open Pm.Dev2 (Dev Oracle)

def isFd (fs : Nat) : Nat → Bool := fun fd => fd == fs

/-! ### the events of the stuck descriptor -/

/-- the events the two pass inputs report for the descriptor `fs`.  First run (`x`): nothing but readable/writable (no hang-up,
    error or invalid-descriptor bit), and a descriptor reported writable takes at least one byte (`cap > 0`: the peer reads).
    Second run (`x'`): the same, but never writable (`rev % 2` keeps the readable bit only); what is read is the same. -/
def StuckEv (e e' : Option FdEnv) : Prop :=
  match e, e' with
  | none, none => True
  | some x, some x' => x.rev < 4 ∧ x'.rev = x.rev % 2 ∧ x'.rk = x.rk ∧ x'.data = x.data ∧ (2 ≤ x.rev → 0 < x.cap)
  | _, _ => False

theorem stuck_revs (c c' : Cli) (x x' : FdEnv) (hq : c'.quit = c.quit) (h4 : x.rev < 4) (h2 : x'.rev = x.rev % 2) :
    (ClientPf.cpRev c' (some x') &&& 8 != 0 || ClientPf.cpRev c' (some x') &&& 16 != 0) = (ClientPf.cpRev c (some x) &&& 8 != 0 || ClientPf.cpRev c (some x) &&& 16 != 0) ∧
    (ClientPf.cpRev c' (some x') &&& 1 != 0 || ClientPf.cpRev c' (some x') &&& 4 != 0) = (ClientPf.cpRev c (some x) &&& 1 != 0 || ClientPf.cpRev c (some x) &&& 4 != 0) ∧
    (ClientPf.cpRev c' (some x') &&& 2 != 0) = false ∧
    ((ClientPf.cpRev c (some x) &&& 2 != 0) = true → 2 ≤ x.rev) := by
  unfold ClientPf.cpRev
  dsimp only
  rw [hq, h2]
  generalize c.toBuf.isEmpty = b1
  generalize c'.toBuf.isEmpty = b2
  generalize c.quit = q
  obtain ⟨fd, rev, rk, data, cap⟩ := x
  dsimp only at h4 ⊢
  have : rev = 0 ∨ rev = 1 ∨ rev = 2 ∨ rev = 3 := by omega
  rcases this with rfl | rfl | rfl | rfl <;> cases q <;> cases b1 <;> cases b2 <;> decide

section Stuck
variable {fs : Nat} {als : List (Name × List Name)}

theorem stuck_turn (w w' : W) (c c' : Cli) (e e' : Option FdEnv)
    (h : CRel (isFd fs) DEq SEq als w w') (hc : RecRel (isFd fs) c c') (hfd : c.fd = fs) (hst : StuckEv e e')
    (hcap : capOf w fs = (e.map (·.cap)).getD 0) :
    PassOut (isFd fs) DEq SEq als (clientPass w c e) (clientPass w' c' e') := by
  have hF : isFd fs c.fd = true := by simp [isFd, hfd]
  cases e with
  | none =>
    cases e' with
    | some _ => simp [StuckEv] at hst
    | none =>
      refine clientPass_rel sEq_cons w w' c c' none none h hc rfl rfl rfl (fun hh => by rw [hF] at hh; cases hh) (fun _ => ⟨by simp [ClientPf.cpRev], ?_⟩)
        (fun l _ => lineDevsOK_eq als l)
      intro hh; simp [ClientPf.cpRev] at hh
  | some x =>
    cases e' with
    | none => simp [StuckEv] at hst
    | some x' =>
      obtain ⟨h4, h2, h3, h5, h6⟩ := hst
      obtain ⟨r1, r2, r3, r4⟩ := stuck_revs c c' x x' hc.quit h4 h2
      refine clientPass_rel sEq_cons w w' c c' (some x) (some x') h hc r1 r2 ?_ (fun hh => by rw [hF] at hh; cases hh)
        (fun _ => ⟨r3, fun hw _ => ?_⟩) (fun l _ => lineDevsOK_eq als l)
      · simp [SameIn, h3, h5]
      · rw [hfd, hcap]
        exact h6 (r4 hw)

/-- **the loop of `cli_post_poll` in both runs**, over tables related entry by entry: at most one client sits on the descriptor
    `fs`; all others are served identically -/
theorem cliLoop_stuck (s : Nat) (envs envs' : List FdEnv) (T T' : List Cli) (w w' : W)
    (h : CRel (isFd fs) DEq SEq als w w') (ht : L2 (RecRel (isFd fs)) w.clients w'.clients) (hT : L2 (RecRel (isFd fs)) T T')
    (hnd : (T.map (·.id)).Nodup) (hfd : ∀ c ∈ T, c.fd = fs → c.id = s)
    (hev : ∀ fd, fd ≠ fs → envs'.find? (·.fd == fd) = envs.find? (·.fd == fd))
    (hst : StuckEv (envs.find? (·.fd == fs)) (envs'.find? (·.fd == fs)))
    (hcap : capOf w fs = ((envs.find? (·.fd == fs)).map (·.cap)).getD 0) :
    CRel (isFd fs) DEq SEq als (T.foldl (ClientPf.cliStep envs) w) (T'.foldl (ClientPf.cliStep envs') w') ∧
    L2 (RecRel (isFd fs)) (T.foldl (ClientPf.cliStep envs) w).clients (T'.foldl (ClientPf.cliStep envs') w').clients := by
  have hothers : ∀ l : List Cli, (∀ c ∈ l, c.fd ≠ fs) → ∀ c ∈ l, isFd fs c.fd = false ∧ envs'.find? (·.fd == c.fd) = envs.find? (·.fd == c.fd) ∧
      ∀ x ∈ turnLines c (envs.find? (·.fd == c.fd)), LineDevsOK DEq als x :=
    fun l hl c hc => ⟨by simpa [isFd] using hl c hc, hev c.fd (hl c hc), fun x _ => lineDevsOK_eq als x⟩
  by_cases hex : ∃ c ∈ T, c.fd = fs
  · obtain ⟨c, hcT, hcfd⟩ := hex
    obtain ⟨pre, post, rfl⟩ := List.append_of_mem hcT
    obtain ⟨pre', c', post', rfl, hp1, hc, hp2⟩ := L2.split pre c post T' hT
    have hcid : c.id = s := hfd c hcT hcfd
    rw [List.map_append, List.map_cons, List.nodup_append] at hnd
    obtain ⟨_, hnd2, hnd3⟩ := hnd
    rw [List.nodup_cons] at hnd2
    have hpre : ∀ x ∈ pre, x.fd ≠ fs := by
      intro x hx e
      have := hfd x (by simp [hx]) e
      exact hnd3 x.id (List.mem_map.mpr ⟨x, hx, rfl⟩) c.id (by simp) (by rw [this, hcid])
    have hpost : ∀ x ∈ post, x.fd ≠ fs := by
      intro x hx e
      have := hfd x (by simp [hx]) e
      exact hnd2.1 (by rw [hcid, ← this]; exact List.mem_map.mpr ⟨x, hx, rfl⟩)
    have e1 : pre' = pre := L2.eq_of_off hp1 (fun x hx => by simpa [isFd] using hpre x hx)
    have e2 : post' = post := L2.eq_of_off hp2 (fun x hx => by simpa [isFd] using hpost x hx)
    rw [e1, e2, List.foldl_append, List.foldl_append, List.foldl_cons, List.foldl_cons]
    obtain ⟨g1, g2⟩ := foldl_cliStep_rel sEq_cons envs envs' pre (hothers pre hpre) w w' h ht
    have hcap1 : capOf (pre.foldl (ClientPf.cliStep envs) w) fs = capOf w fs := by
      have := (foldl_cliStep_frame envs c pre w
        (fun x hx e => hnd3 x.id (List.mem_map.mpr ⟨x, hx, rfl⟩) c.id (by simp) e)
        (fun x hx => by rw [hcfd]; exact hpre x hx)).2.2
      rw [hcfd] at this; exact this
    obtain ⟨g3, g4⟩ := cliStep_rel envs envs' _ _ c c' g1 g2 hc (fun _ => by
      rw [hc.fd, hcfd]
      exact stuck_turn _ _ c c' _ _ g1 hc hcfd hst (by rw [hcap1]; exact hcap))
    exact foldl_cliStep_rel sEq_cons envs envs' post (hothers post hpost) _ _ g3 g4
  · have hall : ∀ c ∈ T, c.fd ≠ fs := fun c hc e => hex ⟨c, hc, e⟩
    have e1 : T' = T := L2.eq_of_off hT (fun x hx => by simpa [isFd] using hall x hx)
    rw [e1]
    exact foldl_cliStep_rel sEq_cons envs envs' T (hothers T hall) w w' h ht

end Stuck

/-! ### the relation between the two worlds, and the client phase of one pass -/

/-- the world without the client table, the system-call log and the write capacities -/
def coreOf (w : W) : W := { w with clients := [], sys := [], caps := [] }

theorem coreOf_endPass (u : W) (d : Devs) (t : Option Nat) :
    coreOf { u with devs := d, pendingX := [], tmo := t } = { coreOf u with devs := d, pendingX := [], tmo := t } := rfl

theorem coreOf_mk {u u' : W} (h1 : u'.cfg = u.cfg) (h2 : u'.devs = u.devs) (h3 : u'.specs = u.specs) (h4 : u'.store = u.store)
    (h5 : u'.alNext = u.alNext) (h6 : u'.exited = u.exited) (h7 : ctrs u' = ctrs u) : coreOf u' = coreOf u := by
  simp only [ctrs, Prod.mk.injEq] at h7
  obtain ⟨c1, c2, c3, c4, c5, c6, c7⟩ := h7
  simp only [coreOf, h1, h2, h3, h4, h5, h6, c1, c2, c3, c4, c5, c6, c7]

/-- the relation between the worlds of the two runs, between passes: everything is the same except the client table, which is
    the same entry by entry except for the output buffer (and blocking flag) of the client on `fs`, and the log of the last
    pass, which is the same on every other descriptor.  (`sfd`, `fresh`: only client `s` sits on `fs`, now and later.) -/
structure ARel (s fs : Nat) (w w' : W) : Prop where
  core : coreOf w' = coreOf w
  tab : L2 (RecRel (isFd fs)) w.clients w'.clients
  sfd : ∀ c ∈ w.clients, c.fd = fs → c.id = s
  fresh : fs < 1000 + w.nacc
  sys : w'.sys.filter (offF (isFd fs)) = w.sys.filter (offF (isFd fs))

/-- what is assumed of the two inputs of one pass: the same clock, `accept` verdict and `connect()` answers; the same events
    on every descriptor but `fs`; on `fs`, `StuckEv`; no device sits on the number `fs` (descriptors of clients and devices
    are different open descriptors; the model draws them from two counters and does not know) -/
structure StuckPass (fs : Nat) (w : W) (p p' : PassIn) : Prop where
  now : p'.now = p.now
  acc : p'.acc = p.acc
  con : p'.con = p.con
  soe : p'.soe = p.soe
  others : ∀ fd, fd ≠ fs → p'.envs.find? (·.fd == fd) = p.envs.find? (·.fd == fd)
  stuck : StuckEv (p.envs.find? (·.fd == fs)) (p'.envs.find? (·.fd == fs))
  devfd : ∀ nd ∈ w.devs, nd.2.fd ≠ some fs

/-- the pairs (descriptor `fs` ↦ id `s`) through the loop -/
theorem cliStep_sfd (s fs : Nat) (envs : List FdEnv) (w : W) (c0 : Cli) (h : ∀ c ∈ w.clients, c.fd = fs → c.id = s)
    (h0 : c0.fd = fs → c0.id = s) : ∀ c ∈ (ClientPf.cliStep envs w c0).clients, c.fd = fs → c.id = s := by
  rcases cliStep_does envs w c0 with ⟨_, e⟩ | ⟨_, ext, t⟩
  · rw [e]; exact h
  · cases hr : (clientPass w c0 (envs.find? (·.fd == c0.fd))).2 with
    | some c1 =>
      have wb := t.alive c1 hr
      rw [wb.clients]
      intro c hc
      obtain ⟨x, hx, rfl⟩ := List.mem_map.mp hc
      split
      · intro hh; rw [wb.id]; exact h0 (by rw [← wb.fd]; exact hh)
      · exact h x hx
    | none =>
      rw [(t.gone hr).clients]
      exact fun c hc => h c (List.mem_filter.mp hc).1

theorem coreOf_fields {w w' : W} (h : coreOf w' = coreOf w) :
    w'.cfg = w.cfg ∧ w'.devs = w.devs ∧ w'.specs = w.specs ∧ w'.store = w.store ∧ w'.alNext = w.alNext ∧
    w'.exited = w.exited ∧ ctrs w' = ctrs w := by
  simp only [coreOf, W.mk.injEq] at h
  obtain ⟨a1, _, a3, a4, a5, a6, a7, a8, a9, a10, a11, _, _, a14, a15, a16⟩ := h
  exact ⟨a1, a3, a4, a5, a11, a14, by simp only [ctrs, a6, a7, a8, a9, a10, a15, a16]⟩

theorem ARel.fields {s fs : Nat} {w w' : W} (h : ARel s fs w w') :
    w'.cfg = w.cfg ∧ w'.devs = w.devs ∧ w'.specs = w.specs ∧ w'.store = w.store ∧ w'.alNext = w.alNext ∧
    w'.exited = w.exited ∧ ctrs w' = ctrs w := coreOf_fields h.core

theorem cliPostPoll_stuck (s fs : Nat) (w w' : W) (p p' : PassIn) (hr : ARel s fs w w') (hi : IdsFresh w)
    (hp : StuckPass fs w p p') :
    CRel (isFd fs) DEq SEq w.cfg.aliases (cliPostPoll w p.acc p.envs) (cliPostPoll w' p'.acc p'.envs) ∧
    L2 (RecRel (isFd fs)) (cliPostPoll w p.acc p.envs).clients (cliPostPoll w' p'.acc p'.envs).clients ∧
    (∀ c ∈ (cliPostPoll w p.acc p.envs).clients, c.fd = fs → c.id = s) := by
  obtain ⟨f1, f2, f3, f4, f5, f6, f7⟩ := hr.fields
  simp only [ctrs, Prod.mk.injEq] at f7
  obtain ⟨k1, k2, _⟩ := f7
  obtain ⟨a1, hcap, new, hnew, e, e'⟩ := cliStart_rel (F := isFd fs) (DRL := DEq) (SR := SEq) w w' p p' f1 f3 f5 f6 f2 f4 k1 k2 hp.acc
    fun fd hfd => hp.others fd (by simpa [isFd] using hfd)
  have hia : IdsFresh (cliStart w p.acc p.envs) := cliAccept_ids _ _ (hi.congr rfl rfl rfl)
  have a2 : L2 (RecRel (isFd fs)) (cliStart w p.acc p.envs).clients (cliStart w' p'.acc p'.envs).clients := by
    rw [e, e']; exact L2.append hr.tab (L2.refl (RecRel.refl _) _)
  have a4 : ∀ c ∈ (cliStart w p.acc p.envs).clients, c.fd = fs → c.id = s := by
    rw [e]
    intro c hc
    rcases List.mem_append.mp hc with hc | hc
    · exact hr.sfd c hc
    · -- the client accepted in this pass sits on a descriptor that has not been handed out before
      rw [hnew c hc]
      intro hh
      have : (ClientPf.newClient w).fd = 1000 + w.nacc := rfl
      have := hr.fresh
      omega
  rw [ClientPf.cliPostPoll_eq, ClientPf.cliPostPoll_eq]
  obtain ⟨g1, g2⟩ := cliLoop_stuck s p.envs p'.envs _ _ _ _ a1 a2 a2 hia.nodup a4 hp.others hp.stuck (hcap fs)
  exact ⟨g1, g2, List.foldlRecOn _ _ a4 fun v hv c0 hc0 => cliStep_sfd s fs p.envs v c0 hv (a4 c0 hc0)⟩

/-! ### the device phase in both runs -/

section DevPhase
variable {F : Nat → Bool}

theorem RecRel.putCmd {c c' : Cli} (h : RecRel F c c') (k : Option CmdC) (x : Bytes) :
    RecRel F (Pm.Daemon.put { c with cmd := k } x) (Pm.Daemon.put { c' with cmd := k } x) := by
  obtain ⟨t, b, rfl, hf⟩ := h
  exact ⟨t ++ x, b, rfl, fun hF => by obtain ⟨rfl, rfl⟩ := hf hF; exact ⟨rfl, rfl⟩⟩

theorem updCli_tab (w w' : W) (id : Nat) (f : Cli → Cli) (hf : ∀ a b, RecRel F a b → RecRel F (f a) (f b))
    (ht : L2 (RecRel F) w.clients w'.clients) : L2 (RecRel F) (updCli w id f).clients (updCli w' id f).clients := by
  unfold updCli
  refine L2.map _ _ ht (fun a b hab => ?_)
  rw [hab.id]
  split
  · exact hf a b hab
  · exact hab

/-- `_act_finish` in both runs: the same decision (it reads the command, the `exprange` flag and the store), so the same verdict,
    and tables related again -/
theorem actFinish_tab (w w' : W) (cid : Nat) (e : Pm.Dev2.ActErr) (name : Bytes)
    (h : L2 (RecRel F) w.clients w'.clients ∧ w'.store = w.store) :
    (L2 (RecRel F) (actFinish w cid e name).1.clients (actFinish w' cid e name).1.clients ∧
      (actFinish w' cid e name).1.store = (actFinish w cid e name).1.store) ∧
    (actFinish w' cid e name).2 = (actFinish w cid e name).2 := by
  obtain ⟨ht, hs⟩ := h
  have hst : ∀ u : W, (actFinish u cid e name).1.store = u.store := fun u => applyOuts_store u name [.finish cid e]
  rw [hst, hst, actFinish_decide, actFinish_decide, show cellsOf w' = cellsOf w from funext fun al => by simp only [cellsOf, storeArgs, hs]]
  rcases L2.find (fun x => x.id == cid) (fun x => x.id == cid) ht (fun a b hab => by rw [hab.id]) with ⟨e1, e2⟩ | ⟨c, c', e1, e2, hcc⟩
  · rw [show cliRec w cid = none from e1, show cliRec w' cid = none from e2]; exact ⟨⟨ht, hs⟩, rfl⟩
  · rw [show cliRec w cid = some c from e1, show cliRec w' cid = some c' from e2]
    dsimp only
    rw [hcc.cmd, hcc.exprange]
    cases finDecide c.exprange (cellsOf w) name e c.cmd with
    | none => exact ⟨⟨ht, hs⟩, rfl⟩
    | some kt => exact ⟨⟨updCli_tab w w' cid _ (fun a b hab => hab.putCmd _ _) ht, hs⟩, rfl⟩

/-- **the callbacks of one device delivered in both runs**: tables related again, the same messages (in particular the same
    `assert` verdicts) -/
theorem applyOuts_tab (w w' : W) (name : Bytes) (outs : List DOut) (ht : L2 (RecRel F) w.clients w'.clients)
    (hs : w'.store = w.store) :
    L2 (RecRel F) (applyOuts w name outs).1.clients (applyOuts w' name outs).1.clients ∧
    (applyOuts w' name outs).2 = (applyOuts w name outs).2 := by
  obtain ⟨h1, h2⟩ := applyOuts_rel₂ (fun u u' => L2 (RecRel F) u.clients u'.clients ∧ u'.store = u.store) name
    (fun u u' id e h => (actFinish_tab u u' id e name h).1)
    (fun u u' id _ h => ⟨updCli_tab u u' id _ (fun a b hab => hab.put _) h.1, h.2⟩) outs w w' ⟨ht, hs⟩
  exact ⟨h1.1, h2 fun u u' id e h => (actFinish_tab u u' id e name h).2⟩

end DevPhase

theorem coreOf_sans {y z : W} (h : sansClients y = sansClients z) : coreOf y = coreOf z := by
  have : ∀ u : W, coreOf u = { sansClients u with sys := [], caps := [] } := fun _ => rfl
  rw [this, this, h]

theorem sys_sans {y z : W} (h : sansClients y = sansClients z) : y.sys = z.sys := by
  have := congrArg W.sys h
  exact this

/-- a device's step and the delivery of its callbacks, from two worlds with the same core: the same core again, and the same log
    off `fs` (the callbacks change client records only) -/
theorem outs_core (fs : Nat) {u u' : W} (c : Pm.Dev2.CS) (name : Bytes) (outs : List DOut) (hcore : coreOf u' = coreOf u)
    (hsys : u'.sys.filter (offF (isFd fs)) = u.sys.filter (offF (isFd fs))) :
    coreOf (applyOuts (afterStep u' c) name outs).1 = coreOf (applyOuts (afterStep u c) name outs).1 ∧
    (applyOuts (afterStep u' c) name outs).1.sys.filter (offF (isFd fs)) = (applyOuts (afterStep u c) name outs).1.sys.filter (offF (isFd fs)) := by
  have s1 := applyOuts_sans (afterStep u c) name outs
  have s2 := applyOuts_sans (afterStep u' c) name outs
  rw [coreOf_sans s1, coreOf_sans s2, sys_sans s1, sys_sans s2]
  exact ⟨by show afterStep (coreOf u') c = afterStep (coreOf u) c; rw [hcore], hsys⟩

/-- the relation between the accumulators of the device phase in the two runs -/
structure DRelA (fs : Nat) (a a' : DevAcc) : Prop where
  core : coreOf a'.w = coreOf a.w
  tab : L2 (RecRel (isFd fs)) a.w.clients a'.w.clients
  sys : a'.w.sys.filter (offF (isFd fs)) = a.w.sys.filter (offF (isFd fs))
  oracle : a'.oracle = a.oracle
  dead : a'.dead = a.dead
  devs : a'.devs = a.devs
  tmo : a'.tmo = a.tmo

/-- the accumulators of the device phase in two runs agree but for the client tables and the death flags -/
structure DCore (fs : Nat) (a a' : DevAcc) : Prop where
  core : coreOf a'.w = coreOf a.w
  sys : a'.w.sys.filter (offF (isFd fs)) = a.w.sys.filter (offF (isFd fs))
  oracle : a'.oracle = a.oracle
  devs : a'.devs = a.devs
  tmo : a'.tmo = a.tmo

theorem DRelA.toCore {fs : Nat} {a a' : DevAcc} (h : DRelA fs a a') : DCore fs a a' := ⟨h.core, h.sys, h.oracle, h.devs, h.tmo⟩

/-- a device's step reads of the accumulator the store, the descriptor counters and the oracle: all part of the core -/
theorem DCore.step {fs : Nat} {a a' : DevAcc} (h : DCore fs a a') {p p' : PassIn} (nd : Bytes × Dev)
    (hn : p'.now = p.now) (hc : p'.con = p.con) (he : p'.soe = p.soe) (hev : SameEvents p p' nd) :
    devStep p' a'.w a'.oracle nd = devStep p a.w a.oracle nd := by
  obtain ⟨_, _, _, hstore, _, _, hct⟩ := coreOf_fields h.core
  simp only [ctrs, Prod.mk.injEq] at hct
  obtain ⟨_, _, h1, h2, h3, _⟩ := hct
  rw [h.oracle]
  exact (devStep_reads p p' a.w a'.w a.oracle nd hstore.symm h1.symm h2.symm h3.symm hn.symm hc.symm he.symm hev).symm

/-- **One device's turn in two runs that are both alive, from accumulators with the same core.**  The device does the same (`r`), so
    the cores agree again; each world is what `applyOuts` makes of the callbacks of `r`, each death flag the verdict of that
    delivery.  What is left to compare is the delivery of the same callbacks to two client tables. -/
theorem devPass_core {fs : Nat} {a a' : DevAcc} (h : DCore fs a a') {p p' : PassIn} (nd : Bytes × Dev)
    (hd : a.dead = false) (hd' : a'.dead = false)
    (hn : p'.now = p.now) (hc : p'.con = p.con) (he : p'.soe = p.soe) (hev : SameEvents p p' nd) :
    DCore fs (devPass p a nd) (devPass p' a' nd) ∧ ∃ r : Pm.Dev2.CS × Oracle × List DOut × Option Nat,
      (devPass p a nd).w = (applyOuts (afterStep a.w r.1) nd.1 r.2.2.1).1 ∧
      (devPass p' a' nd).w = (applyOuts (afterStep a'.w r.1) nd.1 r.2.2.1).1 ∧
      (devPass p a nd).dead = (r.1.aborted || isAbortMsg (applyOuts (afterStep a.w r.1) nd.1 r.2.2.1).2) ∧
      (devPass p' a' nd).dead = (r.1.aborted || isAbortMsg (applyOuts (afterStep a'.w r.1) nd.1 r.2.2.1).2) := by
  rw [devPass_alive p a nd hd, devPass_alive p' a' nd hd']
  dsimp only
  rw [h.step nd hn hc he hev]
  generalize devStep p a.w a.oracle nd = r
  obtain ⟨q1, q2⟩ := outs_core fs r.1 nd.1 r.2.2.1 h.core h.sys
  exact ⟨⟨q1, q2, rfl, congrArg (· ++ [(nd.1, r.1.dev)]) h.devs, congrArg (minOpt · r.2.2.2) h.tmo⟩, r, rfl, rfl, rfl, rfl⟩

theorem devPass_stuck (fs : Nat) (p p' : PassIn) (a a' : DevAcc) (nd : Bytes × Dev) (hr : DRelA fs a a')
    (hn : p'.now = p.now) (hc : p'.con = p.con) (he : p'.soe = p.soe) (hev : SameEvents p p' nd) :
    DRelA fs (devPass p a nd) (devPass p' a' nd) ∧ devStep p' a'.w a'.oracle nd = devStep p a.w a.oracle nd := by
  refine ⟨?_, hr.toCore.step nd hn hc he hev⟩
  cases hd : a.dead with
  | true =>
    rw [devPass_dead p a nd hd, devPass_dead p' a' nd (hr.dead.trans hd)]
    exact ⟨hr.core, hr.tab, hr.sys, hr.oracle, hr.dead, by simp [hr.devs], hr.tmo⟩
  | false =>
    obtain ⟨k, r, e, e', ed, ed'⟩ := devPass_core hr.toCore nd hd (hr.dead.trans hd) hn hc he hev
    obtain ⟨g1, g2⟩ := applyOuts_tab (afterStep a.w r.1) (afterStep a'.w r.1) nd.1 r.2.2.1 hr.tab rfl
    exact ⟨k.core, by rw [e, e']; exact g1, k.sys, k.oracle, by rw [ed, ed', g2], k.devs, k.tmo⟩

/-- what every device does in the device phase, device by device (`none`: not stepped, a modelled `assert` has fired) -/
def stepsList (p : PassIn) : DevAcc → Devs → List (Option (Pm.Dev2.CS × Oracle × List DOut × Option Nat))
  | _, [] => []
  | a, nd :: r => (if a.dead then none else some (devStep p a.w a.oracle nd)) :: stepsList p (devPass p a nd) r

theorem foldl_devPass_stuck (fs : Nat) (p p' : PassIn) (hn : p'.now = p.now) (hc : p'.con = p.con) (he : p'.soe = p.soe)
    (l : Devs) (hev : ∀ nd ∈ l, SameEvents p p' nd) : ∀ (a a' : DevAcc), DRelA fs a a' →
    DRelA fs (l.foldl (devPass p) a) (l.foldl (devPass p') a') ∧ stepsList p' a' l = stepsList p a l := by
  induction l with
  | nil => intro a a' h; exact ⟨h, rfl⟩
  | cons nd r ih =>
    intro a a' h
    obtain ⟨g1, g2⟩ := devPass_stuck fs p p' a a' nd h hn hc he (hev nd (by simp))
    obtain ⟨g3, g4⟩ := ih (fun x hx => hev x (by simp [hx])) _ _ g1
    rw [List.foldl_cons, List.foldl_cons]
    refine ⟨g3, ?_⟩
    simp only [stepsList]
    rw [g4, g2, h.dead]

/-! ### one whole pass -/

/-- what every device does in this pass -/
def passSteps (w : W) (p : PassIn) : List (Option (Pm.Dev2.CS × Oracle × List DOut × Option Nat)) :=
  if (cliPostPoll w p.acc p.envs).exited then [] else
    stepsList p (acc0 (cliPostPoll w p.acc p.envs)) (cliPostPoll w p.acc p.envs).devs

/-- the devices see the same events in both runs when the inputs agree off `fs` and no device sits on `fs` (the client phase
    does not change which descriptor a device sits on) -/
theorem sameEvents_off (fs : Nat) (w : W) (p p' : PassIn)
    (hothers : ∀ fd, fd ≠ fs → p'.envs.find? (·.fd == fd) = p.envs.find? (·.fd == fd)) (hdevfd : ∀ nd ∈ w.devs, nd.2.fd ≠ some fs) :
    ∀ nd ∈ (cliPostPoll w p.acc p.envs).devs, SameEvents p p' nd := by
  intro nd hnd fd hfd
  have hm : nd.2.fd ∈ (cliPostPoll w p.acc p.envs).devs.map (·.2.fd) := List.mem_map.mpr ⟨nd, hnd, rfl⟩
  rw [cliPostPoll_devfds] at hm
  obtain ⟨nd0, hnd0, e0⟩ := List.mem_map.mp hm
  exact (hothers fd fun e => hdevfd nd0 hnd0 (by rw [e0, hfd, e])).symm

theorem DCore.acc0 {fs : Nat} {w0 w0' : W} (hco : coreOf w0' = coreOf w0)
    (hsys : w0'.sys.filter (offF (isFd fs)) = w0.sys.filter (offF (isFd fs))) : DCore fs (acc0 w0) (acc0 w0') := by
  obtain ⟨_, _, _, _, _, _, hct⟩ := coreOf_fields hco
  simp only [ctrs, Prod.mk.injEq] at hct
  obtain ⟨_, _, _, _, _, _, hpx⟩ := hct
  exact ⟨hco, hsys, congrArg (fun x => ({ calls := x } : Oracle)) hpx, rfl, rfl⟩

/-- **The device phase in two runs from worlds with the same core**, given what the fold over the devices does (`hfold`: the
    accumulators agree again, every device does the same, and a relation `T` between the client tables is kept): the cores agree
    again, so do the logs off `fs`, the tables are related by `T`, every device does the same. -/
theorem devPhase_core {fs : Nat} (T : List Cli → List Cli → Prop) (p p' : PassIn) {w0 w0' : W} (hco : coreOf w0' = coreOf w0)
    (hsys : w0'.sys.filter (offF (isFd fs)) = w0.sys.filter (offF (isFd fs))) (hT : T w0.clients w0'.clients)
    (hfold : w0.exited = false → DCore fs (w0.devs.foldl (devPass p) (acc0 w0)) (w0.devs.foldl (devPass p') (acc0 w0')) ∧
      T (w0.devs.foldl (devPass p) (acc0 w0)).w.clients (w0.devs.foldl (devPass p') (acc0 w0')).w.clients ∧
      stepsList p' (acc0 w0') w0.devs = stepsList p (acc0 w0) w0.devs) :
    coreOf (devPhase p' w0') = coreOf (devPhase p w0) ∧
    (devPhase p' w0').sys.filter (offF (isFd fs)) = (devPhase p w0).sys.filter (offF (isFd fs)) ∧
    T (devPhase p w0).clients (devPhase p' w0').clients ∧
    (if w0'.exited then [] else stepsList p' (acc0 w0') w0'.devs) = (if w0.exited then [] else stepsList p (acc0 w0) w0.devs) := by
  obtain ⟨_, hdv, _, _, _, hx, _⟩ := coreOf_fields hco
  unfold devPhase
  rw [hx, hdv]
  cases hex : w0.exited with
  | true =>
    simp only [↓reduceIte]
    exact ⟨hco, hsys, hT, trivial⟩
  | false =>
    obtain ⟨k, kT, ks⟩ := hfold hex
    simp only [Bool.false_eq_true, ↓reduceIte]
    exact ⟨by rw [coreOf_endPass, coreOf_endPass, k.core, k.devs, k.tmo], k.sys, kT, ks⟩

theorem cliPostPoll_core {F : Nat → Bool} {als : List (Name × List Name)} {w w' : W} {p p' : PassIn}
    (g1 : CRel F DEq SEq als (cliPostPoll w p.acc p.envs) (cliPostPoll w' p'.acc p'.envs)) (hctr : ctrs w' = ctrs w)
    (hacc : p'.acc = p.acc) : coreOf (cliPostPoll w' p'.acc p'.envs) = coreOf (cliPostPoll w p.acc p.envs) :=
  coreOf_mk g1.cfg g1.devs g1.specs g1.store g1.alNext g1.exited (by rw [hacc]; exact cliPostPoll_ctrs_eq w w' p.acc p.envs p'.envs hctr)

theorem devPhase_nacc (p : PassIn) (w0 : W) : (devPhase p w0).nacc = w0.nacc := by
  have := congrArg W.nacc (devPhase_frame p w0).same
  exact this

theorem daemonPass_stuck (s fs : Nat) (w w' : W) (p p' : PassIn) (hr : ARel s fs w w') (hi : IdsFresh w)
    (hp : StuckPass fs w p p') :
    ARel s fs (daemonPass w p).1 (daemonPass w' p').1 ∧ passSteps w' p' = passSteps w p := by
  obtain ⟨g1, g2, g4⟩ := cliPostPoll_stuck s fs w w' p p' hr hi hp
  obtain ⟨_, _, _, _, _, _, f7⟩ := hr.fields
  have hco := cliPostPoll_core g1 f7 hp.acc
  have g5 : fs < 1000 + (cliPostPoll w p.acc p.envs).nacc := by
    rw [cliPostPoll_nacc]
    have := hr.fresh
    omega
  have hev := sameEvents_off fs w p p' hp.others hp.devfd
  unfold passSteps
  rw [daemonPass_world, daemonPass_world]
  generalize cliPostPoll w p.acc p.envs = w0 at *
  generalize cliPostPoll w' p'.acc p'.envs = w0' at *
  obtain ⟨c1, c2, c3, c4⟩ := devPhase_core (L2 (RecRel (isFd fs))) p p' hco g1.sys g2 fun _ =>
    have ⟨k1, k2⟩ := foldl_devPass_stuck fs p p' hp.now hp.con hp.soe _ hev (acc0 w0) (acc0 w0')
      ⟨hco, g2, g1.sys, (DCore.acc0 hco g1.sys).oracle, rfl, rfl, rfl⟩
    ⟨k1.toCore, k1.tab, k2⟩
  -- the device phase keeps id and descriptor of every table entry, and the `accept` counter
  obtain ⟨G, hG, kG⟩ := (devPhase_frame p w0).keep
  refine ⟨⟨c1, c3, fun c hc hcf => ?_, by rw [devPhase_nacc]; exact g5, c2⟩, c4⟩
  rw [hG] at hc
  obtain ⟨c0, hc0, rfl⟩ := List.mem_map.mp hc
  rw [(kG c0).1]
  exact g4 c0 hc0 (by rw [← (kG c0).2]; exact hcf)

/-- the per-pass hypotheses along the first run -/
def StuckRun (fs : Nat) : W → List (PassIn × PassIn) → Prop
  | _, [] => True
  | w, pp :: r => StuckPass fs w pp.1 pp.2 ∧ StuckRun fs (daemonPass w pp.1).1 r

/-! ### what the relation says -/

theorem written_filter (fs fd : Nat) (hne : fd ≠ fs) (ss : List Sys) :
    ClientPf.written (ss.filter (offF (isFd fs))) fd = ClientPf.written ss fd :=
  written_offF (isFd fs) fd (by simpa [isFd] using hne) ss

theorem ARel.others {s fs : Nat} {w w' : W} (h : ARel s fs w w') :
    (∀ g, g ≠ s → cliRec w' g = cliRec w g) ∧ (∀ fd, fd ≠ fs → ClientPf.written w'.sys fd = ClientPf.written w.sys fd) ∧
    w'.devs = w.devs ∧ w'.store = w.store ∧ w'.alNext = w.alNext ∧ w'.exited = w.exited ∧ ids w' = ids w := by
  obtain ⟨f1, f2, f3, f4, f5, f6, f7⟩ := h.fields
  refine ⟨?_, ?_, f2, f4, f5, f6, ?_⟩
  · intro g hg
    unfold cliRec
    rcases L2.find (fun x => x.id == g) (fun x => x.id == g) h.tab (fun a b hab => by rw [hab.id]) with ⟨e1, e2⟩ | ⟨c, c', e1, e2, hcc⟩
    · rw [e1, e2]
    · rw [e1, e2]
      have hid : c.id = g := by simpa using List.find?_some e1
      have hfd : c.fd ≠ fs := fun e => hg (by rw [← hid]; exact h.sfd c (List.mem_of_find?_eq_some e1) e)
      rw [hcc.eq (by simpa [isFd] using hfd)]
  · intro fd hfd
    rw [← written_filter fs fd hfd w'.sys, ← written_filter fs fd hfd w.sys, h.sys]
  · unfold ids
    have : ∀ (l l' : List Cli), L2 (RecRel (isFd fs)) l l' → l'.map (·.id) = l.map (·.id) := by
      intro l l' hl
      induction hl with
      | nil => rfl
      | cons hab _ ih => simp [hab.id, ih]
    exact this _ _ h.tab

theorem ARel.init (s fs : Nat) (w : W) (h1 : ∀ c ∈ w.clients, c.fd = fs → c.id = s) (h2 : fs < 1000 + w.nacc) : ARel s fs w w :=
  ⟨rfl, L2.refl (RecRel.refl _) _, h1, h2, rfl⟩

/-! ### for the two-run statement (`backpressure`, `Pm/RunXTwo.lean`) -/

/-- the logged call is a write on `fd` that would block (finding F23: the daemon sleeps in `write`) -/
def blocksOn (fd : Nat) : Sys → Bool
  | .write f _ _ bl => f == fd && bl
  | _ => false

/-- where the model is faithful to the code for a run with a client (id `s`, descriptor `fs`) that does not read: no
    blocking `write` on `fs` is ever started with less capacity than bytes (F23: after `quit`/EOF `_handle_write` clears
    `O_NONBLOCK`; the real daemon would sleep there, the model only raises the `blocks` flag of the logged call), and the
    client's output buffer stays below `MAX_CLIENT_BUF` (the model's `to` buffer is unbounded; the real `cbuf` starts
    dropping the client's own oldest output at 1 MiB) -/
structure Faithful (s fs : Nat) (w : W) (ps : List PassIn) : Prop where
  noBlock : ∀ n, ∀ x ∈ (runPasses w (ps.take n)).sys, blocksOn fs x = false
  below : ∀ n c, cliRec (runPasses w (ps.take n)) s = some c → c.toBuf.length ≤ cliBufMax

/-- the callbacks of a pass that carry client `g`'s id, device by device -/
def callbacksFor (g : Nat) (steps : List (Option (Pm.Dev2.CS × Oracle × List DOut × Option Nat))) : List (Option (List DOut)) :=
  steps.map fun o => o.map fun r => r.2.2.1.filter (mine g)

/-- the index of the first pass in which client `g`'s command in progress is completed (its final reply is queued and
    `cmd` is cleared) -/
def replyPass (w : W) (ps : List PassIn) (g : Nat) : Option Nat :=
  (List.range ps.length).find? fun n =>
    ((cliRec (runPasses w (ps.take n)) g).bind (·.cmd)).isSome &&
    (match cliRec (runPasses w (ps.take (n + 1))) g with | some c => c.cmd.isNone | none => false)

theorem replyPass_congr (w w' : W) (ps ps' : List PassIn) (g : Nat) (hl : ps'.length = ps.length)
    (h : ∀ n, cliRec (runPasses w' (ps'.take n)) g = cliRec (runPasses w (ps.take n)) g) : replyPass w' ps' g = replyPass w ps g := by
  unfold replyPass
  rw [hl]
  congr 1
  funext n
  rw [h n, h (n + 1)]

/-! ### the second run made from the first: the writable bit of `fs` cleared -/

/-- the events for `fs` with the writable bit cleared (and no capacity) -/
def stuckEnv (e : FdEnv) : FdEnv := { e with rev := e.rev % 2, cap := 0 }

def stuckEnvs (fs : Nat) (envs : List FdEnv) : List FdEnv := envs.map fun e => if e.fd == fs then stuckEnv e else e

/-- the pass input in which `fs` is not reported writable -/
def stuckIn (fs : Nat) (p : PassIn) : PassIn := { p with envs := stuckEnvs fs p.envs }

theorem stuckEnvs_other (fs : Nat) (envs : List FdEnv) (fd : Nat) (h : fd ≠ fs) :
    (stuckEnvs fs envs).find? (·.fd == fd) = envs.find? (·.fd == fd) := by
  induction envs with
  | nil => rfl
  | cons e r ih =>
    unfold stuckEnvs at ih ⊢
    rw [List.map_cons, List.find?_cons, List.find?_cons, ih]
    by_cases he : e.fd = fs
    · have h1 : (e.fd == fs) = true := by simpa using he
      have h2 : (e.fd == fd) = false := by rw [he]; simpa using fun x => h x.symm
      simp only [h1, ↓reduceIte, stuckEnv, h2]
    · have h1 : (e.fd == fs) = false := by simpa using he
      simp only [h1, Bool.false_eq_true, ↓reduceIte]

theorem stuckEnvs_self (fs : Nat) (envs : List FdEnv) :
    (stuckEnvs fs envs).find? (·.fd == fs) = (envs.find? (·.fd == fs)).map stuckEnv := by
  induction envs with
  | nil => rfl
  | cons e r ih =>
    unfold stuckEnvs at ih ⊢
    rw [List.map_cons, List.find?_cons, List.find?_cons, ih]
    by_cases he : e.fd = fs
    · have h1 : (e.fd == fs) = true := by simpa using he
      simp only [h1, ↓reduceIte, stuckEnv, Option.map_some]
    · have h1 : (e.fd == fs) = false := by simpa using he
      simp only [h1, Bool.false_eq_true, ↓reduceIte]

/-- the client on `fs` behaves in the pass input `p`: only the readable/writable bits are ever reported for its descriptor,
    and when it is reported writable it takes at least one byte -/
def ReaderOK (fs : Nat) (p : PassIn) : Prop :=
  ∀ e, p.envs.find? (·.fd == fs) = some e → e.rev < 4 ∧ (2 ≤ e.rev → 0 < e.cap)

theorem stuckPass_of (fs : Nat) (w : W) (p : PassIn) (hg : ReaderOK fs p) (hd : ∀ nd ∈ w.devs, nd.2.fd ≠ some fs) :
    StuckPass fs w p (stuckIn fs p) := by
  refine ⟨rfl, rfl, rfl, rfl, fun fd hfd => stuckEnvs_other fs p.envs fd hfd, ?_, hd⟩
  show StuckEv _ ((stuckEnvs fs p.envs).find? (·.fd == fs))
  rw [stuckEnvs_self]
  cases he : p.envs.find? (·.fd == fs) with
  | none => trivial
  | some e =>
    obtain ⟨g1, g2⟩ := hg e he
    exact ⟨g1, rfl, rfl, rfl, g2⟩

/-- the hypotheses along the first run: the reader behaves, no device sits on the number `fs` -/
def ReaderRun (fs : Nat) : W → List PassIn → Prop
  | _, [] => True
  | w, p :: r => (ReaderOK fs p ∧ ∀ nd ∈ w.devs, nd.2.fd ≠ some fs) ∧ ReaderRun fs (daemonPass w p).1 r

theorem stuckRun_of (fs : Nat) : ∀ (ps : List PassIn) (w : W), ReaderRun fs w ps → StuckRun fs w (ps.map fun p => (p, stuckIn fs p)) := by
  intro ps
  induction ps with
  | nil => intro w _; trivial
  | cons p r ih => intro w h; exact ⟨stuckPass_of fs w p h.1.1 h.1.2, ih _ h.2⟩

end Pm.Daemon.TwoRun
