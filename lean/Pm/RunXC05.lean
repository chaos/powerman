import Pm.RunXTwo
import Pm.TwoRunC05
/-! # The run theorems of C05 over the shared runs `runX`

`Pm/FrameMulti.lean` (`passes_rel`) and `Pm/TwoRunC05.lean` (`passes_gen`, `replyPassX`) state the multi-pass non-interference
theorems over their own run `passes w ps` (`ps : List (PassIn × List RxCall)`; before each pass `withX` *overwrites* the pending
regex answers).  Here they are stated over the shared `runX` of `Pm/RunX.lean` (before each pass `feed` *appends* the answers, as
the driver does).  The two runs get **different** regex answers: those of device `B` (position `j`) may differ — `xp ++ xB ++ xq`
in one run, `xp ++ xB' ++ xq` in the other (the segmentation is part of the per-pass hypotheses) — those of all other devices
are equal.

The per-pass hypotheses along the two runs are `AlongX H w w' pp` (`Pm/RunX.lean`) with `H := GoodX Q g j` (quiet client phase)
resp. `GenX Q F j PB` (general client phase).  `genRun_to_X` / `goodRun_to_X`: for runs that start with no answer pending,
`GenRun` / `GoodRun` imply these hypotheses and `passes` *is* `runX`. -/
namespace Pm.Daemon.TwoRun
open Pm Pm.Client Pm.Daemon Pm.Daemon.Isolation
open Pm.Dev2 (Dev Plug SAgree QOn QOff ActsOK withArgs RxCall)

/-- a pass given as a pair (kernel answers, regex answers), as `passes` takes it -/
def toX (x : PassIn × List RxCall) : PassX := ⟨x.1, x.2⟩
def toX2 (x : (PassIn × List RxCall) × (PassIn × List RxCall)) : PassX × PassX := (toX x.1, toX x.2)

/-- what is assumed of one pair of passes, quiet client phase: `PassHyps` on the worlds with the answers handed over, for some
    segmentation `xp ++ xB ++ xq` / `xp ++ xB' ++ xq` of the pending answers of the two runs -/
def GoodX (Q : Bytes → Bool) (g j : Nat) : W → W → PassX → PassX → Prop :=
  fun w w' q q' => ∃ xp xB xB' xq, PassHyps Q g j (feed w q.rx) (feed w' q'.rx) q.p q'.p xp xB xB' xq

/-- what is assumed of one pair of passes, general client phase: `CliHyps` and `DevHyps` on the worlds with the answers handed over -/
def GenX (Q : Bytes → Bool) (F : Nat → Bool) (j : Nat) (PB : List Plug) : W → W → PassX → PassX → Prop :=
  fun w w' q q' => ∃ xp xB xB' xq, CliHyps F PB (feed w q.rx) (feed w' q'.rx) q.p q'.p ∧
    DevHyps Q F j (cliPostPoll (feed w q.rx) q.p.acc q.p.envs) (cliPostPoll (feed w' q'.rx) q'.p.acc q'.p.envs) q.p q'.p xp xB xB' xq

theorem passes_relX (Q : Bytes → Bool) (g j : Nat) (w w' : W) (pp : List (PassX × PassX))
    (hr : PassRel Q g j w w') (h : AlongX (GoodX Q g j) w w' pp) :
    PassRel Q g j (runX w (pp.map (·.1))) (runX w' (pp.map (·.2))) :=
  runX_rel (PassRel Q g j) (GoodX Q g j)
    (fun _ _ q q' hr ⟨xp, xB, xB', xq, hp⟩ => pass_rel_step Q g j _ _ q.p q'.p xp xB xB' xq (hr.withX _ _) hp) pp w w' hr h

theorem passes_genX (Q : Bytes → Bool) (F : Nat → Bool) (j : Nat) (PB : List Plug)
    (hQB : ∀ nb, Q nb = false → ∃ pl ∈ PB, pl.node = some nb) (w w' : W) (pp : List (PassX × PassX))
    (hr : MRel Q F j PB w w') (h : AlongX (GenX Q F j PB) w w' pp) :
    MRel Q F j PB (runX w (pp.map (·.1))) (runX w' (pp.map (·.2))) :=
  runX_rel (MRel Q F j PB) (GenX Q F j PB)
    (fun _ _ q q' hr ⟨xp, xB, xB', xq, hc, hd⟩ => pass_gen Q F j PB _ _ q.p q'.p xp xB xB' xq hQB (hr.withX _ _) hc hd) pp w w' hr h

/-- **"… within the same time"** (`C05_reply_same_pass` for `runX`): for a client that is tracked at every prefix of the run the
    index of the pass that completes its command is the same in both runs -/
theorem reply_same_passX (Q : Bytes → Bool) (F : Nat → Bool) (j : Nat) (PB : List Plug)
    (hQB : ∀ nb, Q nb = false → ∃ pl ∈ PB, pl.node = some nb) (w w' : W) (pp : List (PassX × PassX))
    (hr : MRel Q F j PB w w') (h : AlongX (GenX Q F j PB) w w' pp) (hi' : IdsFresh w') (g : Nat)
    (hg : ∀ n, (∃ c, cliRec (runX w ((pp.take n).map (·.1))) g = some c ∧ F c.fd = false) ∨
      (cliRec (runX w ((pp.take n).map (·.1))) g = none ∧ cliRec (runX w' ((pp.take n).map (·.2))) g = none)) :
    replyPassRunX w' (pp.map (·.2)) g = replyPassRunX w (pp.map (·.1)) g := by
  apply replyPassRunX_congr w w' (pp.map (·.1)) (pp.map (·.2)) g (by simp)
  intro n
  rw [← List.map_take, ← List.map_take]
  exact (passes_genX Q F j PB hQB w w' (pp.take n) hr (h.take pp n w w')).same_rec (runX_ids w' _ hi') g (hg n)

/-! ### `passes` is `runX` for runs that start with no answer pending and do not exit -/

theorem withX_eq_feed (w : W) (xs : List RxCall) (h : w.pendingX = []) : withX w xs = feed w xs := by
  unfold withX Pm.Daemon.feed; rw [h]; rfl

theorem daemonPass_pendingX (w : W) (p : PassIn) (h : (daemonPass w p).1.exited = false) : (daemonPass w p).1.pendingX = [] := by
  rw [daemonPass_world, devPhase_run p _ (by rw [← ClientPf.daemonPass_exited]; exact h)]

theorem map_toX2_fst (l : List ((PassIn × List RxCall) × (PassIn × List RxCall))) : (l.map toX2).map (·.1) = (l.map (·.1)).map toX := by
  rw [List.map_map, List.map_map]; rfl
theorem map_toX2_snd (l : List ((PassIn × List RxCall) × (PassIn × List RxCall))) : (l.map toX2).map (·.2) = (l.map (·.2)).map toX := by
  rw [List.map_map, List.map_map]; rfl

theorem genRun_to_X (Q : Bytes → Bool) (F : Nat → Bool) (j : Nat) (PB : List Plug)
    (hQB : ∀ nb, Q nb = false → ∃ pl ∈ PB, pl.node = some nb) (w w' : W)
    (l : List ((PassIn × List RxCall) × (PassIn × List RxCall))) (h : GenRun Q F j PB w w' l) :
    MRel Q F j PB w w' → w.pendingX = [] → w'.pendingX = [] →
    AlongX (GenX Q F j PB) w w' (l.map toX2) ∧
    passes w (l.map (·.1)) = runX w ((l.map (·.1)).map toX) ∧ passes w' (l.map (·.2)) = runX w' ((l.map (·.2)).map toX) := by
  induction h with
  | nil w w' => intro _ _ _; exact ⟨trivial, rfl, rfl⟩
  | cons w w' p p' xs xs' rest xp xB xB' xq hc hd _ ih =>
    intro hr h0 h0'
    have e := withX_eq_feed w xs h0
    have e' := withX_eq_feed w' xs' h0'
    have hr1 := pass_gen Q F j PB _ _ p p' xp xB xB' xq hQB (hr.withX xs xs') hc hd
    obtain ⟨i1, i2, i3⟩ := ih hr1 (daemonPass_pendingX _ _ hr1.ex) (daemonPass_pendingX _ _ hr1.ex')
    simp only [e, e'] at hc hd i1 i2 i3
    refine ⟨⟨⟨xp, xB, xB', xq, hc, hd⟩, i1⟩, ?_, ?_⟩
    · simp only [passes, List.map_cons, List.foldl_cons] at i2 ⊢
      rw [e]; exact i2
    · simp only [passes, List.map_cons, List.foldl_cons] at i3 ⊢
      rw [e']; exact i3

theorem goodRun_to_X (Q : Bytes → Bool) (g j : Nat) (w w' : W)
    (l : List ((PassIn × List RxCall) × (PassIn × List RxCall))) (h : GoodRun Q g j w w' l) :
    PassRel Q g j w w' → w.pendingX = [] → w'.pendingX = [] →
    AlongX (GoodX Q g j) w w' (l.map toX2) ∧
    passes w (l.map (·.1)) = runX w ((l.map (·.1)).map toX) ∧ passes w' (l.map (·.2)) = runX w' ((l.map (·.2)).map toX) := by
  induction h with
  | nil w w' => intro _ _ _; exact ⟨trivial, rfl, rfl⟩
  | cons w w' p p' xs xs' rest xp xB xB' xq hp _ ih =>
    intro hr h0 h0'
    have e := withX_eq_feed w xs h0
    have e' := withX_eq_feed w' xs' h0'
    have hr1 := pass_rel_step Q g j _ _ p p' xp xB xB' xq (hr.withX xs xs') hp
    obtain ⟨i1, i2, i3⟩ := ih hr1 (daemonPass_pendingX _ _ hr1.ex) (daemonPass_pendingX _ _ hr1.ex')
    simp only [e, e'] at hp i1 i2 i3
    refine ⟨⟨⟨xp, xB, xB', xq, hp⟩, i1⟩, ?_, ?_⟩
    · simp only [passes, List.map_cons, List.foldl_cons] at i2 ⊢
      rw [e]; exact i2
    · simp only [passes, List.map_cons, List.foldl_cons] at i3 ⊢
      rw [e']; exact i3

end Pm.Daemon.TwoRun

section AxiomChecks
open Pm.Daemon.TwoRun
/-- info: 'Pm.Daemon.TwoRun.passes_relX' depends on axioms: [propext, Classical.choice, Quot.sound] -/
#guard_msgs in #print axioms passes_relX
/-- info: 'Pm.Daemon.TwoRun.passes_genX' depends on axioms: [propext, Classical.choice, Quot.sound] -/
#guard_msgs in #print axioms passes_genX
/-- info: 'Pm.Daemon.TwoRun.reply_same_passX' depends on axioms: [propext, Classical.choice, Quot.sound] -/
#guard_msgs in #print axioms reply_same_passX
/-- info: 'Pm.Daemon.TwoRun.genRun_to_X' depends on axioms: [propext, Classical.choice, Quot.sound] -/
#guard_msgs in #print axioms genRun_to_X
/-- info: 'Pm.Daemon.TwoRun.goodRun_to_X' depends on axioms: [propext, Classical.choice, Quot.sound] -/
#guard_msgs in #print axioms goodRun_to_X
end AxiomChecks
