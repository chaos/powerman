import Pm.E2EEx
/-! A concrete run for the non-vacuity examples of the `runX` statements of `Props/C02`: **an `expect` matches in the second
pass of the run**, which no run of `runPasses` can have (there only the first pass can see a regex answer).

The worlds and pass inputs are those of `Pm/E2EEx.lean` (one device `A`, plug `1` ↦ node `a1`, `on` script
`send "on %s\n"; expect <pat 1>`).  The run starts in `w2`: client 1 has just had `on a1` accepted (`pending = 1`), the action
has started and waits for its bytes to drain.  Pass `p3` (no regex answer needed): the device takes the bytes; the action waits
in the `expect`.  Pass `p4`, **with the regex answer `xs4` fed before it**: the device answers `OK`, the `expect` matches, the
script is at its end — the client is sent `102`. -/
namespace Pm.Daemon.E2E.ExX
open Pm Pm.Client Pm.Daemon Pm.Daemon.E2E
open Pm.Daemon.Reply (okLine errLine isPower)
open Pm.Dev2 (ActErr)

/-- client 1 connected (pass 1) and had `on a1` accepted (pass 2) -/
def w2 : W := runX Ex.w0 [.plain Ex.p1, .plain Ex.p2]
/-- the passes before the answering pass: the device takes the bytes of the action; no regex answer is fed -/
def qs : List PassX := [⟨Ex.p3, []⟩]
/-- the answering pass: the device's reply `OK\n` arrives, and the regex engine's answer for it is fed before the pass -/
def q4 : PassX := ⟨Ex.p4, Ex.xs4⟩

def c0 : Cli := (cliRec w2 1).getD { id := 0, fd := 0 }
def k0 : CmdC := c0.cmd.getD { com := .status, names := [], pending := 0, error := false }
/-- the client's record and command before the answering pass -/
def c3 : Cli := (cliRec (runX w2 qs) 1).getD { id := 0, fd := 0 }
def k3 : CmdC := c3.cmd.getD { com := .status, names := [], pending := 0, error := false }
/-- the client after the answering pass -/
def c4 : Cli := (cliRec (runX w2 (qs ++ [q4])) 1).getD { id := 0, fd := 0 }

/-- The run, evaluated once: the start `w2`; after `qs`; after `qs ++ [q4]`; and the same two passes *without* the regex answer
    (this is all `runPasses` can express from `w2`): the `expect` does not match, nothing completes, the command stays in
    progress. -/
theorem run :
    (AliveX Ex.w0 [.plain Ex.p1, .plain Ex.p2] ∧ (cliRec w2 1).isSome = true ∧ c0.cmd.isSome = true ∧ isPower k0.com = true ∧
      (comIdx k0.com, k0.names, k0.pending, k0.error) = (7, [['a', '1']], 1, false)) ∧
    ((cliRec (runX w2 qs) 1).isSome = true ∧ c3.cmd.isSome = true ∧ k3.al = k0.al ∧ runFinsX w2 qs 1 = []) ∧
    (AliveX w2 (qs ++ [q4]) ∧ (cliRec (runX w2 (qs ++ [q4])) 1).isSome = true ∧ c4.cmd = none ∧
      c4.toBuf = bstr "001 2\r\npowerman> " ++ (okLine ++ prompt) ∧ runFinsX w2 (qs ++ [q4]) 1 = [([65], ActErr.success)] ∧
      passFins (feed (runX w2 qs) q4.rx) q4.p 1 = [([65], ActErr.success)]) ∧
    runFinsX w2 (qs ++ [⟨Ex.p4, []⟩]) 1 = [] ∧ ((cliRec (runX w2 (qs ++ [⟨Ex.p4, []⟩])) 1).bind (·.cmd)).isSome = true := by
  rw [ClientPf.bstr_chars]
  decide +kernel

theorem alive2 : AliveX Ex.w0 [.plain Ex.p1, .plain Ex.p2] := run.1.1
theorem inv2 : Inv w2 := runX_inv Ex.w0 _ Ex.inv0 alive2
theorem hc0 : cliRec w2 1 = some c0 := eq_some_getD _ run.1.2.1
theorem hk0 : c0.cmd = some k0 := eq_some_getD _ run.1.2.2.1
theorem power0 : isPower k0.com = true := run.1.2.2.2.1
/-- the command at the start of the run: `on a1`, waiting for one completion, error flag clear -/
theorem start : (comIdx k0.com, k0.names, k0.pending, k0.error) = (7, [['a', '1']], 1, false) := run.1.2.2.2.2

/-- before the answering pass the command is still in progress: the first pass of the run completed nothing -/
theorem hc3 : cliRec (runX w2 qs) 1 = some c3 := eq_some_getD _ run.2.1.1
theorem hk3 : c3.cmd = some k3 := eq_some_getD _ run.2.1.2.1
theorem al3 : k3.al = k0.al := run.2.1.2.2.1
theorem busy : ∃ c k, cliRec (runX w2 qs) 1 = some c ∧ c.cmd = some k ∧ k.al = k0.al := ⟨c3, k3, hc3, hk3, al3⟩
theorem fins3 : runFinsX w2 qs 1 = [] := run.2.1.2.2.2

theorem alive4 : AliveX w2 (qs ++ [q4]) := run.2.2.1.1
theorem hc4 : cliRec (runX w2 (qs ++ [q4])) 1 = some c4 := eq_some_getD _ run.2.2.1.2.1
theorem idle4 : c4.cmd = none := run.2.2.1.2.2.1
/-- the client is sent `102` — in the **second** pass of the run -/
theorem buf4 : c4.toBuf = bstr "001 2\r\npowerman> " ++ (okLine ++ prompt) := run.2.2.1.2.2.2.1
theorem fins4 : runFinsX w2 (qs ++ [q4]) 1 = [([65], ActErr.success)] := run.2.2.1.2.2.2.2.1
/-- the regex answer is consumed by the second pass of the run: it is the completion of that pass -/
theorem fins4_last : passFins (feed (runX w2 qs) q4.rx) q4.p 1 = [([65], ActErr.success)] := run.2.2.1.2.2.2.2.2

theorem without_answer : runFinsX w2 (qs ++ [⟨Ex.p4, []⟩]) 1 = [] ∧
    ((cliRec (runX w2 (qs ++ [⟨Ex.p4, []⟩])) 1).bind (·.cmd)).isSome = true := run.2.2.2

end Pm.Daemon.E2E.ExX
