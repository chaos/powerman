import Pm.ConfigProof
import Pm.AliasProof
import Pm.ClientProof
/-! Alias expansion on an accepted configuration: the alias table of `Pm.ConfigModel` handed to `Pm.Daemon.expAliases`.
    Helper lemmas for `C13_alias_expansion`. -/
namespace Pm.ConfigModel.AliasCfg
open Pm Pm.ConfigModel Pm.ConfigModel.Proof
open Pm.Daemon (aliasOf expAliases)
open Pm.Daemon.AliasPf (isAlias membersOf standsFor)

/-- `conf_aliases` as the request path sees it: name and hosts (in iteration order) of every alias, in list order -/
def aliasTable (cfg : Cfg) : List (Name × List Name) := cfg.aliases.map fun a => (a.name, expand a.hl)

/-! ### alias names are pairwise distinct -/

theorem steps_alias_names_nodup {specs : List Spec} (stmts : List Stmt) (c c' : Cfg) (i : Nat)
    (hc : (c.aliases.map (·.name)).Nodup) (h : steps specs c i stmts = .ok c') : (c'.aliases.map (·.name)).Nodup := by
  refine steps_induct (motive := fun c _ _ c' => (c.aliases.map (·.name)).Nodup → (c'.aliases.map (·.name)).Nodup)
    (fun _ _ hc => hc) ?_ h hc
  intro c i s rest c1 c' hs ih hc
  refine ih ?_
  rcases step_aliases hs with e1 | ⟨name, _, _, _, _, hne, e1⟩ <;> rw [e1]
  · exact hc
  · rw [List.map_cons, List.nodup_cons]
    refine ⟨fun hm => ?_, hc⟩
    obtain ⟨a, ha, hn⟩ := List.mem_map.mp hm
    exact hne a ha hn

theorem alias_names_nodup {specs : List Spec} {stmts : List Stmt} {cfg : Cfg} (h : build specs stmts = .ok cfg) :
    (cfg.aliases.map (·.name)).Nodup :=
  steps_alias_names_nodup stmts empty cfg 0 (by simp [empty]) (build_ok h).steps

/-! ### looking a name up in the table -/

theorem aliasOf_table_some {cfg : Cfg} {n : Name} {hs : List Name} (h : aliasOf (aliasTable cfg) n = some hs) :
    ∃ a ∈ cfg.aliases, a.name = n ∧ expand a.hl = hs := by
  unfold aliasOf aliasTable at h
  cases hf : (cfg.aliases.map fun a => (a.name, expand a.hl)).find? (·.1 == n) with
  | none => rw [hf] at h; cases h
  | some p =>
    rw [hf] at h
    simp only [Option.map_some, Option.some.injEq] at h
    have hp := List.find?_some hf
    have hm := List.mem_of_find?_eq_some hf
    obtain ⟨a, ha, rfl⟩ := List.mem_map.mp hm
    exact ⟨a, ha, by simpa using hp, h⟩

theorem table_find_of_nodup : ∀ (l : List Alias) (a : Alias), (l.map (·.name)).Nodup → a ∈ l →
    (l.map fun a => (a.name, expand a.hl)).find? (·.1 == a.name) = some (a.name, expand a.hl) := by
  intro l; induction l with
  | nil => intro a _ h; cases h
  | cons b r ih =>
    intro a hnd ha
    simp only [List.map_cons, List.nodup_cons] at hnd
    rw [List.map_cons]
    rcases List.mem_cons.mp ha with rfl | har
    · rw [List.find?_cons_of_pos (by simp)]
    · have hne : b.name ≠ a.name := by
        intro he; exact hnd.1 (he ▸ List.mem_map.mpr ⟨a, har, rfl⟩)
      rw [List.find?_cons_of_neg (by simpa using hne)]
      exact ih a hnd.2 har

theorem aliasOf_table_iff {specs : List Spec} {stmts : List Stmt} {cfg : Cfg} (h : build specs stmts = .ok cfg)
    (n : Name) (hs : List Name) :
    aliasOf (aliasTable cfg) n = some hs ↔ ∃ a ∈ cfg.aliases, a.name = n ∧ expand a.hl = hs := by
  refine ⟨aliasOf_table_some, ?_⟩
  rintro ⟨a, ha, rfl, rfl⟩
  unfold aliasOf aliasTable
  rw [table_find_of_nodup cfg.aliases a (alias_names_nodup h) ha]; rfl

/-! ### every host of every alias is a configured node -/

theorem table_hosts_exist {specs : List Spec} {stmts : List Stmt} {cfg : Cfg} (h : build specs stmts = .ok cfg)
    {n : Name} {hs : List Name} (ha : aliasOf (aliasTable cfg) n = some hs) :
    ∀ x ∈ hs, (find cfg.nodes x).isSome = true ∧ x ∈ expand cfg.nodes := by
  obtain ⟨a, hmem, _, rfl⟩ := aliasOf_table_some ha
  intro x hx
  exact ⟨validate_alias_find (build_ok h).aliases a hmem x hx, validate_alias (build_ok h).aliases a hmem x hx⟩

/-- the names `_hostlist_create_validated` reports as unknown (`209`) are the typed names that are neither alias names nor
    nodes, in the order typed: the hosts of aliases never appear there.  `known` is the daemon's node test. -/
theorem bad_names {specs : List Spec} {stmts : List Stmt} {cfg : Cfg} (h : build specs stmts = .ok cfg)
    (known : Name → Bool) (hk : ∀ x, (find cfg.nodes x).isSome = true → known x = true) (names : List Name) :
    (expAliases (aliasTable cfg) names).filter (fun n => !known n) =
      (names.filter (fun n => !isAlias (aliasTable cfg) n)).filter (fun n => !known n) := by
  rw [Pm.Daemon.AliasPf.expAliases_spec, List.filter_append]
  have : (names.flatMap (membersOf (aliasTable cfg))).filter (fun n => !known n) = [] := by
    refine List.filter_eq_nil_iff.mpr fun x hx => ?_
    obtain ⟨a, _, hxa⟩ := List.mem_flatMap.mp hx
    obtain ⟨hs, hal, hxs⟩ := Pm.Daemon.AliasPf.mem_membersOf.mp hxa
    simp [hk x (table_hosts_exist h hal x hxs).1]
  rw [this, List.append_nil]

theorem bad_names_find {specs : List Spec} {stmts : List Stmt} {cfg : Cfg} (h : build specs stmts = .ok cfg)
    (nodes : Hostlist) (hk : ∀ x, (find cfg.nodes x).isSome = true → (find nodes x).isSome = true) (names : List Name) :
    (expAliases (aliasTable cfg) names).filter (fun n => (find nodes n).isNone) =
      (names.filter (fun n => !isAlias (aliasTable cfg) n)).filter (fun n => (find nodes n).isNone) := by
  have := bad_names h (fun x => (find nodes x).isSome) hk names
  simpa [Option.not_isSome] using this

theorem only_aliases_all_nodes {specs : List Spec} {stmts : List Stmt} {cfg : Cfg} (h : build specs stmts = .ok cfg)
    (names : List Name) (hal : ∀ n ∈ names, isAlias (aliasTable cfg) n = true) :
    ∀ x ∈ expAliases (aliasTable cfg) names, (find cfg.nodes x).isSome = true ∧ x ∈ expand cfg.nodes := by
  intro x hx
  rcases Pm.Daemon.AliasPf.mem_expAliases.mp hx with ⟨hm, hn⟩ | ⟨a, _, hs, ha, hxs⟩
  · have := hal x hm; simp [isAlias, hn] at this
  · exact table_hosts_exist h ha x hxs

open Pm.Daemon Pm.Daemon.ClientPf in
/-- `_parse_input` on a command with an argument (`plCmd`, the branch of `parseLine` for `on <arg>` … `beacon <arg>`), in a daemon
    whose alias table is the one of the accepted configuration and whose node test accepts (at least) its nodes: when the
    expression is well formed and expands to alias names only, there is no `209`: the request goes to `install`, with the hosts
    of the aliases as targets -/
theorem plCmd_only_aliases {specs : List Spec} {stmts : List Stmt} {cfg : Cfg} (h : build specs stmts = .ok cfg)
    (w : W) (c : Cli) (com : Pm.Client.Com) (arg : Pm.Client.Bytes) (hl : Hostlist)
    (hals : w.cfg.aliases = aliasTable cfg)
    (hnodes : ∀ x, (find cfg.nodes x).isSome = true → (find w.cfg.nodes x).isSome = true)
    (hc : createR (toChars arg) = .ok hl) (hal : ∀ n ∈ expand hl, isAlias (aliasTable cfg) n = true) :
    plCmd w c com arg = install w c com (expAliases (aliasTable cfg) (expand hl)) := by
  unfold plCmd
  rw [hc]
  dsimp only
  rw [hals]
  have hnil : (expAliases (aliasTable cfg) (expand hl)).filter (fun n => (find w.cfg.nodes n).isNone) = [] := by
    refine List.filter_eq_nil_iff.mpr fun x hx => ?_
    simp [Option.isSome_iff_ne_none.mp (hnodes x (only_aliases_all_nodes h _ hal x hx).1)]
  rw [hnil]; rfl

end Pm.ConfigModel.AliasCfg

section AxiomChecks
open Pm.ConfigModel.AliasCfg
#print axioms alias_names_nodup
#print axioms aliasOf_table_iff
#print axioms bad_names
#print axioms bad_names_find
#print axioms only_aliases_all_nodes
#print axioms plCmd_only_aliases
end AxiomChecks
