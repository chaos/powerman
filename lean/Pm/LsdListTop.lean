import Pm.LsdListRun
/-! # `liblsd/list.c`: the statements under `valid`

What `Pm/LsdListProof.lean` proves of the list with cursors, carried over by the refinement (`run_refines`) to the node-level
model (`Pm/LsdList.lean`) under its executable check `valid`: `*_valid`, `run_valid`; `run_enqueues` / `run_dequeues`: the queue
discipline. -/
namespace Pm.LsdList
variable {α : Type}

theorem RepA.wf {l : LList α} {ns : List Nat} {a : Abs α} (h : RepA l ns a) : a.Wf := by
  intro k c hc
  rcases h.iter k with ⟨-, hn⟩ | ⟨i, j, g, -, hc', pl⟩
  · rw [hn] at hc; cases hc
  · rw [hc'] at hc; cases hc
    rw [h.len]; exact pl.le

theorem valid_repA {l : LList α} (h : valid l = true) : ∃ ns, RepA l ns (absOf l) := by
  obtain ⟨ns, items, hr⟩ := (valid_iff l).mp h
  exact ⟨ns, hr.repA⟩

theorem RepA.valid_true {l : LList α} {ns : List Nat} {a : Abs α} (h : RepA l ns a) : LsdList.valid l = true :=
  (valid_iff l).mpr h.valid

theorem RepA.contents {l : LList α} {ns : List Nat} {a : Abs α} (h : RepA l ns a) : LsdList.contents l = a.items :=
  h.rep.toChain.contents

/-- **any sequence of calls**: from a valid state, a sequence of calls that uses iterator handles properly never dies, every
    state on the way is valid, and answers and final state are those of the list with cursors. -/
theorem run_valid {l : LList α} (h : valid l = true) (ops : List (Op α)) (hok : (absOf l).okRun ops) :
    ∃ rs l', run l ops = some (rs, l') ∧ valid l' = true ∧ (absOf l).run ops = some (rs, absOf l') := by
  obtain ⟨ns, hr⟩ := valid_repA h
  obtain ⟨⟨rs, a'⟩, e⟩ := Option.isSome_iff_exists.mp (Abs.run_isSome ops _ hok)
  obtain ⟨l', ns', e', hr'⟩ := (run_refines ops l ns _ hr).2 rs a' e
  exact ⟨rs, l', e', hr'.valid_true, by rw [e, hr'.abs]⟩

/-- the C code dies in a sequence of calls exactly when the list with cursors is undefined there (handle misuse) -/
theorem run_none_iff {l : LList α} (h : valid l = true) (ops : List (Op α)) : run l ops = none ↔ (absOf l).run ops = none := by
  obtain ⟨ns, hr⟩ := valid_repA h
  obtain ⟨h1, h2⟩ := run_refines ops l ns _ hr
  refine ⟨?_, h1⟩
  intro e
  cases ha : (absOf l).run ops with
  | none => rfl
  | some x =>
    obtain ⟨l', ns', e', _⟩ := h2 x.1 x.2 ha
    rw [e] at e'; simp at e'

theorem create_valid (hp : Heap α) (fdel : Bool) (ho : HeapOk hp) :
    valid (create hp fdel) = true ∧ contents (create hp fdel) = [] ∧ (create hp fdel).iters = [] :=
  ⟨(valid_iff _).mpr ⟨[], [], create_rep hp fdel ho⟩, (create_rep hp fdel ho).toChain.contents, rfl⟩

theorem heapOk_empty : HeapOk ({ cells := #[], free := [] } : Heap α) := ⟨List.nodup_nil, by simp⟩

theorem destroy_valid {l : LList α} (h : valid l = true) :
    ∃ hp, destroy l = some (if l.fdel then contents l else [], hp) ∧ HeapOk hp := by
  obtain ⟨ns, items, hr⟩ := (valid_iff l).mp h
  rw [hr.toChain.contents]
  exact destroy_spec hr

theorem append_valid {l : LList α} (h : valid l = true) (x : α) :
    ∃ l', append l x = some l' ∧ valid l' = true ∧ contents l' = contents l ++ [x] ∧ absOf l' = (absOf l).append x := by
  obtain ⟨ns, hr⟩ := valid_repA h
  obtain ⟨l', ns', e, hr'⟩ := append_abs hr x
  exact ⟨l', e, hr'.valid_true, by rw [hr'.contents]; simp [Abs.append, Abs.createAt, absOf, List.insertIdx_length_self], hr'.abs⟩

theorem prepend_valid {l : LList α} (h : valid l = true) (x : α) :
    ∃ l', prepend l x = some l' ∧ valid l' = true ∧ contents l' = x :: contents l ∧ absOf l' = (absOf l).prepend x := by
  obtain ⟨ns, hr⟩ := valid_repA h
  obtain ⟨l', ns', e, hr'⟩ := prepend_abs hr x
  exact ⟨l', e, hr'.valid_true, by rw [hr'.contents]; simp [Abs.prepend, Abs.createAt, absOf], hr'.abs⟩

theorem pop_valid {l : LList α} (h : valid l = true) :
    ∃ l', pop l = some ((contents l).head?, l') ∧ valid l' = true ∧ contents l' = (contents l).tail ∧ absOf l' = (absOf l).pop.2 := by
  obtain ⟨ns, hr⟩ := valid_repA h
  obtain ⟨l', ns', e, hr'⟩ := pop_abs hr
  obtain ⟨h1, h2⟩ := Abs.pop_items (absOf l)
  rw [h1] at e
  exact ⟨l', e, hr'.valid_true, by rw [hr'.contents, h2]; rfl, hr'.abs⟩

theorem peek_valid {l : LList α} (h : valid l = true) : peek l = some (contents l).head? := by
  obtain ⟨ns, hr⟩ := valid_repA h
  rw [peek_abs hr, List.head?_eq_getElem?]; rfl

theorem count_valid {l : LList α} (h : valid l = true) : countOf l = (contents l).length ∧ isEmpty l = (contents l).isEmpty := by
  obtain ⟨ns, hr⟩ := valid_repA h
  exact ⟨count_abs hr, isEmpty_abs hr⟩

theorem findFirst_valid {l : LList α} (h : valid l = true) (f : α → Bool) : findFirst l f = some ((contents l).find? f) := by
  obtain ⟨ns, hr⟩ := valid_repA h
  exact findFirst_abs hr f

theorem forEach_valid {l : LList α} (h : valid l = true) (f : α → Int) : forEach l f = some (forEachAbs f (contents l) 0) := by
  obtain ⟨ns, hr⟩ := valid_repA h
  exact forEach_abs hr f

theorem deleteAll_valid {l : LList α} (h : valid l = true) (f : α → Bool) :
    ∃ l', deleteAll l f = some ((contents l).countP f, if l.fdel then (contents l).filter f else [], l') ∧ valid l' = true ∧
      contents l' = (contents l).filter (fun x => !f x) ∧ l'.fdel = l.fdel := by
  obtain ⟨ns, hr⟩ := valid_repA h
  obtain ⟨l', ns', n, del, a', e1, e2, hr'⟩ := deleteAll_abs hr f
  obtain ⟨a0, e0, h1, h2⟩ := Abs.deleteAll_spec (absOf l) f
  rw [e0] at e2
  cases e2
  exact ⟨l', e1, hr'.valid_true, by rw [hr'.contents, h1]; rfl, by rw [← hr'.fdel, h2]; rfl⟩

theorem sort_valid {l : LList α} (h : valid l = true) (f : α → α → Int) :
    ∃ l', sort l f = some l' ∧ valid l' = true ∧ contents l' = sortList f (contents l) ∧ absOf l' = (absOf l).sort f := by
  obtain ⟨ns, hr⟩ := valid_repA h
  obtain ⟨l', ns', e, hr'⟩ := sort_abs hr f
  refine ⟨l', e, hr'.valid_true, ?_, hr'.abs⟩
  rw [hr'.contents]
  unfold Abs.sort
  split
  · rfl
  · rename_i hlen; exact (sortList_short f _ hlen).symm

theorem absOf_curOf {l : LList α} {ns : List Nat} (hr : RepA l ns (absOf l)) (k : Nat) :
    ((absOf l).curOf k).isSome = (iterOf l k).isSome := by
  rw [hr.curOf]; cases iterOf l k <;> rfl

theorem next_valid {l : LList α} (h : valid l = true) (k : Nat) (hk : (iterOf l k).isSome) :
    ∃ l', next l k = some (((absOf l).ahead k).head?, l') ∧ valid l' = true ∧ contents l' = contents l ∧
      (absOf l').ahead k = ((absOf l).ahead k).tail ∧ (absOf l').removable k = ((absOf l).ahead k).head? ∧
      ∀ k', k' ≠ k → (absOf l').curOf k' = (absOf l).curOf k' := by
  obtain ⟨ns, hr⟩ := valid_repA h
  obtain ⟨a1, e, hitems, hah, hrem, hoth⟩ := Abs.next_spec (absOf l) k (by rw [absOf_curOf hr]; exact hk)
  obtain ⟨l', ns', e1, hr'⟩ := (next_abs hr k).of_some e
  rw [← hr'.abs] at hitems hah hrem hoth
  exact ⟨l', e1, hr'.valid_true, hitems, hah, hrem, hoth⟩

theorem insert_valid {l : LList α} (h : valid l = true) (k : Nat) (x : α) (hk : (iterOf l k).isSome) :
    ∃ l' c, (absOf l).curOf k = some c ∧ insert l k x = some l' ∧ valid l' = true ∧ absOf l' = (absOf l).createAt c.1 x ∧
      contents l' = (contents l).insertIdx c.1 x := by
  obtain ⟨ns, hr⟩ := valid_repA h
  obtain ⟨c, hc⟩ := Option.isSome_iff_exists.mp ((absOf_curOf hr k).trans hk)
  obtain ⟨l', ns', e1, hr'⟩ := (insert_abs hr k x ()).of_some (a' := (absOf l).createAt c.1 x) (by rw [Abs.insert, hc]; rfl)
  cases hins : insert l k x with
  | none => rw [hins] at e1; cases e1
  | some l'' =>
    rw [hins] at e1
    cases e1
    exact ⟨l', c, hc, rfl, hr'.valid_true, hr'.abs, hr'.contents⟩

theorem remove_valid {l : LList α} (h : valid l = true) (k : Nat) (hk : (iterOf l k).isSome) :
    ∃ l' c, (absOf l).curOf k = some c ∧ remove l k = some ((absOf l).removable k, l') ∧ valid l' = true ∧
      absOf l' = (if c.2 then (absOf l).destroyAt c.1 else absOf l) := by
  obtain ⟨ns, hr⟩ := valid_repA h
  obtain ⟨⟨j, g⟩, hc⟩ := Option.isSome_iff_exists.mp ((absOf_curOf hr k).trans hk)
  cases g with
  | false =>
    obtain ⟨l', ns', e1, hr'⟩ := (remove_abs hr k).of_some (r := none) (a' := absOf l) (by rw [Abs.remove, hc]; rfl)
    exact ⟨l', _, hc, by rw [e1, Abs.removable, hc]; rfl, hr'.valid_true, hr'.abs⟩
  | true =>
    obtain ⟨l', ns', e1, hr'⟩ := (remove_abs hr k).of_some (r := (absOf l).items[j]?) (a' := (absOf l).destroyAt j)
      (by rw [Abs.remove, hc]; rfl)
    exact ⟨l', _, hc, by rw [e1, Abs.removable, hc]; rfl, hr'.valid_true, hr'.abs⟩

theorem deleteAll_ahead_valid {l : LList α} (h : valid l = true) (f : α → Bool) (k : Nat) (hk : (iterOf l k).isSome) :
    ∃ n dl l', deleteAll l f = some (n, dl, l') ∧ valid l' = true ∧
      (absOf l').ahead k = ((absOf l).ahead k).filter (fun x => !f x) := by
  obtain ⟨ns, hr⟩ := valid_repA h
  obtain ⟨l', ns', n, del, a', e1, e2, hr'⟩ := deleteAll_abs hr f
  have := (Abs.deleteAll_ahead (absOf l) f k ((absOf_curOf hr k).trans hk) _ e2).2
  exact ⟨n, del, l', e1, hr'.valid_true, by rw [hr'.abs]; exact this⟩

/-- **`list_find (i, f, key)`** returns the first item the callback accepts among those the iterator has still to return
    (`NULL` when there is none — the iterator is then at the end); afterwards the iterator has still to return what follows
    that item. -/
theorem find_valid {l : LList α} (h : valid l = true) (k : Nat) (f : α → Bool) (hk : (iterOf l k).isSome) :
    ∃ l', find f (l.cells.size + 2) l k = some (((absOf l).ahead k).find? f, l') ∧ valid l' = true ∧
      contents l' = contents l ∧ (absOf l').ahead k = (((absOf l).ahead k).dropWhile (fun x => !f x)).tail := by
  obtain ⟨ns, hr⟩ := valid_repA h
  have hk' : ((absOf l).curOf k).isSome := (absOf_curOf hr k).trans hk
  obtain ⟨a1, e, hitems, hah, _⟩ := (absOf l).findOp_spec k f hk'
  obtain ⟨l', ns', e1, hr'⟩ := (findOp_abs hr k f).of_some e
  exact ⟨l', e1, hr'.valid_true, by rw [hr'.contents, hitems]; rfl, by rw [hr'.abs]; exact hah⟩

/-- one call that does not die: the state stays valid, and answer and state are those of the list with cursors -/
theorem apply_valid {l : LList α} (h : valid l = true) {op : Op α} {r : Res α} {l' : LList α} (e : op.apply l = some (r, l')) :
    valid l' = true ∧ (absOf l).apply op = some (r, absOf l') := by
  obtain ⟨ns, hr0⟩ := valid_repA h
  obtain ⟨h1, h2⟩ := apply_refines hr0 op
  cases ha : (absOf l).apply op with
  | none => rw [h1 ha] at e; cases e
  | some x =>
    obtain ⟨r0, a'⟩ := x
    obtain ⟨l1, ns1, e1, hr1⟩ := h2 r0 a' ha
    cases e.symm.trans e1
    exact ⟨hr1.valid_true, by rw [hr1.abs]⟩

/-- `Abs.apply_ahead` under `valid`: no call that does not restart the iterator `k` moves an item from behind it to ahead of it -/
theorem never_back_valid {l : LList α} (h : valid l = true) {op : Op α} {r : Res α} {l' : LList α} (e : op.apply l = some (r, l'))
    (k : Nat) (hk : (iterOf l k).isSome) (hr : op.restarts k = false) :
    (iterOf l' k).isSome ∧ valid l' = true ∧ ∀ y ∈ (absOf l').ahead k, y ∈ (absOf l).ahead k ∨ y ∈ op.inserted := by
  obtain ⟨hv, ha⟩ := apply_valid h e
  obtain ⟨ns, hr0⟩ := valid_repA h
  obtain ⟨ns1, hr1⟩ := valid_repA hv
  obtain ⟨h3, h4⟩ := Abs.apply_ahead (absOf l) hr0.wf op k r _ ha ((absOf_curOf hr0 k).trans hk) hr
  exact ⟨(absOf_curOf hr1 k).symm.trans h3, hv, h4⟩

/-- `Abs.run_next_drain` under `valid`: an iterator left alone returns what is ahead of it, in order, then `NULL` -/
theorem iterate_valid {l : LList α} (h : valid l = true) (k n : Nat) (hk : (iterOf l k).isSome) :
    ∃ l', run l (List.replicate n (Op.next k)) = some ((List.range n).map (fun i => Res.item ((absOf l).ahead k)[i]?), l') ∧
      contents l' = contents l ∧ (absOf l').ahead k = ((absOf l).ahead k).drop n := by
  obtain ⟨ns, hr⟩ := valid_repA h
  obtain ⟨a', e, hi, ha, _⟩ := Abs.run_next_drain k n (absOf l) ((absOf_curOf hr k).trans hk)
  obtain ⟨l', ns', e', hr'⟩ := (run_refines _ l ns _ hr).2 _ a' e
  exact ⟨l', e', by rw [hr'.contents, hi]; rfl, by rw [hr'.abs, ha]⟩

/-! ## the queue discipline -/

theorem run_append (l : LList α) (o1 o2 : List (Op α)) :
    run l (o1 ++ o2) = match run l o1 with
      | none => none
      | some (r1, l1) => (run l1 o2).map (fun x => (r1 ++ x.1, x.2)) := by
  induction o1 generalizing l with
  | nil => simp [run]
  | cons op ops ih =>
    simp only [List.cons_append, run]
    cases Op.apply l op with
    | none => rfl
    | some x =>
      obtain ⟨r, l'⟩ := x
      simp only [ih l']
      cases run l' ops with
      | none => rfl
      | some y =>
        obtain ⟨r1, l1⟩ := y
        simp only [Option.map_some]
        cases run l1 o2 <;> simp

theorem run_enqueues : ∀ (xs : List α) (l : LList α), valid l = true →
    ∃ l', run l (xs.map Op.enqueue) = some (xs.map (fun x => Res.item (some x)), l') ∧ valid l' = true ∧
      contents l' = contents l ++ xs := by
  intro xs
  induction xs with
  | nil => intro l h; exact ⟨l, rfl, h, by simp⟩
  | cons x xs ih =>
    intro l h
    obtain ⟨l1, e1, h1, c1, _⟩ := append_valid h x
    have e1' : enqueue l x = some l1 := e1
    obtain ⟨l2, e2, h2, c2⟩ := ih l1 h1
    exact ⟨l2, by simp [run, Op.apply, e1', e2], h2, by rw [c2, c1]; simp⟩

theorem run_dequeues : ∀ (n : Nat) (l : LList α), valid l = true → n ≤ (contents l).length →
    ∃ l', run l (List.replicate n Op.dequeue) = some (((contents l).take n).map (fun x => Res.item (some x)), l') ∧
      valid l' = true ∧ contents l' = (contents l).drop n := by
  intro n
  induction n with
  | zero => intro l h _; exact ⟨l, rfl, h, by simp⟩
  | succ n ih =>
    intro l h hn
    obtain ⟨l1, e1, h1, c1, _⟩ := pop_valid h
    have e1' : dequeue l = some ((contents l).head?, l1) := e1
    obtain ⟨l2, e2, h2, c2⟩ := ih l1 h1 (by rw [c1]; simp; omega)
    cases hc : contents l with
    | nil => rw [hc] at hn; simp at hn
    | cons y ys =>
      rw [hc] at e1' c1
      refine ⟨l2, ?_, h2, by rw [c2, c1]; simp⟩
      simp [run, List.replicate_succ, Op.apply, e1', e2, c1]

/-- enqueue any items, then dequeue as many times as there are items: they come out in the order they were in and went in -/
theorem run_fifo (l : LList α) (xs : List α) (h : valid l = true) :
    ∃ l', run l (xs.map Op.enqueue ++ List.replicate (contents l ++ xs).length Op.dequeue) =
        some (xs.map (fun x => Res.item (some x)) ++ (contents l ++ xs).map (fun x => Res.item (some x)), l') ∧
      valid l' = true ∧ contents l' = [] := by
  obtain ⟨l1, e1, h1, c1⟩ := run_enqueues xs l h
  obtain ⟨l2, e2, h2, c2⟩ := run_dequeues (contents l ++ xs).length l1 h1 (by rw [c1]; exact Nat.le_refl _)
  refine ⟨l2, ?_, h2, by rw [c2, c1]; simp⟩
  rw [run_append, e1]
  simp only [e2, Option.map_some, c1, List.take_length]

end Pm.LsdList

section audit

open Pm.LsdList

/--
info: 'Pm.LsdList.run_valid' depends on axioms: [propext, Classical.choice, Quot.sound]
-/
#guard_msgs in #print axioms run_valid

/--
info: 'Pm.LsdList.valid_iff' depends on axioms: [propext, Classical.choice, Quot.sound]
-/
#guard_msgs in #print axioms valid_iff

/--
info: 'Pm.LsdList.apply_refines' depends on axioms: [propext, Classical.choice, Quot.sound]
-/
#guard_msgs in #print axioms apply_refines

/--
info: 'Pm.LsdList.run_refines' depends on axioms: [propext, Classical.choice, Quot.sound]
-/
#guard_msgs in #print axioms run_refines

/--
info: 'Pm.LsdList.sort_abs' depends on axioms: [propext, Classical.choice, Quot.sound]
-/
#guard_msgs in #print axioms sort_abs

/--
info: 'Pm.LsdList.Abs.apply_ahead' depends on axioms: [propext, Classical.choice, Quot.sound]
-/
#guard_msgs in #print axioms Abs.apply_ahead

/--
info: 'Pm.LsdList.nodeCreate_spec' depends on axioms: [propext, Classical.choice, Quot.sound]
-/
#guard_msgs in #print axioms nodeCreate_spec

/--
info: 'Pm.LsdList.nodeDestroy_spec' depends on axioms: [propext, Classical.choice, Quot.sound]
-/
#guard_msgs in #print axioms nodeDestroy_spec

/--
info: 'Pm.LsdList.Abs.deleteAll_spec' depends on axioms: [propext, Classical.choice, Quot.sound]
-/
#guard_msgs in #print axioms Abs.deleteAll_spec

/--
info: 'Pm.LsdList.Abs.run_next_drain' depends on axioms: [propext, Classical.choice, Quot.sound]
-/
#guard_msgs in #print axioms Abs.run_next_drain

/--
info: 'Pm.LsdList.sortList_sorted' depends on axioms: [propext, Quot.sound]
-/
#guard_msgs in #print axioms sortList_sorted

/--
info: 'Pm.LsdList.sortList_perm' depends on axioms: [propext]
-/
#guard_msgs in #print axioms sortList_perm

/--
info: 'Pm.LsdList.sortList_stable' depends on axioms: [propext, Quot.sound]
-/
#guard_msgs in #print axioms sortList_stable

end audit
