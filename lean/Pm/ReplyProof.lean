import Pm.Daemon
import Pm.EnqProof
import Pm.Deliver
/-! Helper lemmas for C02 / C03: the terminal reply (`finalReply`), the completion callback (`actFinish`,
    `applyOuts`) and the creation of a command (`install`) of `Pm/Daemon.lean`, cut into pieces. -/
namespace Pm.Daemon.Reply
open Pm Pm.Client
open Pm.Dev2 (Dev Action Arg PState PResult ActErr)
abbrev DOut := Pm.Dev2.Out

def isPower : Com → Bool
  | .on | .off | .cycle | .reset | .flash | .unflash => true
  | _ => false

def okLine : Bytes := bstr "102 Command completed successfully" ++ crlf
def errLine : Bytes := bstr "210 Command completed with errors" ++ crlf
/-- the terminal line of a query -/
def qTerm (err : Bool) : Bytes := (if err then bstr "211 Query completed with errors" else bstr "103 Query complete") ++ crlf

def onNodes (c : CmdC) : List Name := ((entriesOf c).filter (·.state == 2)).map (·.node)
def offNodes (c : CmdC) : List Name := ((entriesOf c).filter (·.state == 1)).map (·.node)
def unkNodes (c : CmdC) : List Name := ((entriesOf c).filter (·.state == 0)).map (·.node)

def statusBody (on off unk : Bytes) : Bytes :=
  bstr "302 on:      " ++ on ++ crlf ++ bstr "302 off:     " ++ off ++ crlf ++ bstr "302 unknown: " ++ unk ++ crlf

/-- the word shown by the expanded rendering -/
def clsName (s : Nat) : String := if s == 2 then "on" else if s == 1 then "off" else "unknown"
/-- one line of the expanded (`-x`) rendering -/
def xLine (a : ArgC) : Bytes := bstr "303 " ++ ofChars a.node ++ bstr ": " ++ bstr (clsName a.state) ++ crlf

/-- one line of the temperature reply for an entry with a value; nothing for an entry without -/
def tempLine (a : ArgC) : Bytes := match a.val with
  | some v => bstr "303 " ++ ofChars a.node ++ bstr ": " ++ firstLine v ++ crlf
  | none => []
def tempMissing (c : CmdC) : List Name := ((entriesOf c).filter (·.val.isNone)).map (·.node)
def tempTail (r : Bytes) : Bytes := bstr "303 " ++ r ++ bstr ": unknown" ++ crlf

theorem okLine_ne_errLine : okLine ≠ errLine := by decide +kernel

theorem finalReply_power (ex : Bool) (c : CmdC) (h : isPower c.com = true) :
    finalReply ex c = some (if c.error || (entriesOf c).any (·.result == 1) then errLine else okLine) := by
  obtain ⟨com, names, pending, error, args, al⟩ := c
  cases com <;> first | exact congrArg some (apply_ite (· ++ crlf) ..) | cases h

theorem finalReply_status_x (c : CmdC) (h : c.com = .status ∨ c.com = .beacon) :
    finalReply true c = some ((entriesOf c).flatMap xLine ++ qTerm c.error) := by
  obtain ⟨com, names, pending, error, args, al⟩ := c
  rcases h with h | h <;> subst h <;> exact congrArg some (List.append_assoc ..)

/-- the three sorts of the range-compressed rendering succeed together or not at all -/
theorem status_assemble (u o f : Option Bytes) (e : Bool) :
    (do let unk ← u; let on ← o; let off ← f
        pure (bstr "302 on:      " ++ on ++ crlf ++ bstr "302 off:     " ++ off ++ crlf ++ bstr "302 unknown: " ++ unk ++ crlf)).map
      (· ++ (if e then bstr "211 Query completed with errors" else bstr "103 Query complete") ++ crlf) =
    match u, o, f with
    | some unk, some on, some off => some (statusBody on off unk ++ qTerm e)
    | _, _, _ => none := by
  cases u with
  | none => rfl
  | some unk =>
    cases o with
    | none => rfl
    | some on =>
      cases f with
      | none => rfl
      | some off => exact congrArg some (List.append_assoc ..)

theorem finalReply_status_ranged (c : CmdC) (h : c.com = .status ∨ c.com = .beacon) :
    finalReply false c =
      match sortedRanged (unkNodes c), sortedRanged (onNodes c), sortedRanged (offNodes c) with
      | some unk, some on, some off => some (statusBody on off unk ++ qTerm c.error)
      | _, _, _ => none := by
  obtain ⟨com, names, pending, error, args, al⟩ := c
  rcases h with h | h <;> subst h <;> exact status_assemble ..

theorem finalReply_temp (ex : Bool) (c : CmdC) (h : c.com = .temp) :
    finalReply ex c =
      if tempMissing c = [] then some ((entriesOf c).flatMap tempLine ++ qTerm c.error)
      else match sortedRanged (tempMissing c) with
        | some r => some ((entriesOf c).flatMap tempLine ++ tempTail r ++ qTerm c.error)
        | none => none := by
  unfold finalReply
  simp only [h]
  show (do
    let tail ← if (tempMissing c).isEmpty then some [] else (sortedRanged (tempMissing c)).map tempTail
    pure ((entriesOf c).flatMap tempLine ++ tail ++ (if c.error then bstr "211 Query completed with errors" else bstr "103 Query complete") ++ crlf)) = _
  cases hm : tempMissing c with
  | nil => simp [qTerm, List.append_assoc]
  | cons x xs =>
    simp only [List.isEmpty_cons, Bool.false_eq_true, if_false]
    cases sortedRanged (x :: xs) <;> simp [qTerm, List.append_assoc]

theorem mem_entriesOf {c : CmdC} {a : ArgC} :
    a ∈ entriesOf c ↔ a.node ∈ c.names ∧ c.args.find? (·.node == a.node) = some a := by
  unfold entriesOf
  rw [List.mem_filterMap]
  constructor
  · rintro ⟨n, hn, hf⟩
    have hp := List.find?_some hf
    have : a.node = n := by simpa using hp
    subst this
    exact ⟨hn, hf⟩
  · rintro ⟨hn, hf⟩
    exact ⟨a.node, hn, hf⟩

theorem entriesOf_sub {c : CmdC} {a : ArgC} (h : a ∈ entriesOf c) : a ∈ c.args ∧ a.node ∈ c.names :=
  ⟨List.mem_of_find?_eq_some (mem_entriesOf.mp h).2, (mem_entriesOf.mp h).1⟩

/-- two entries for the same node are the same arglist element (a repeated target is looked up twice) -/
theorem entriesOf_unique {c : CmdC} {a b : ArgC} (ha : a ∈ entriesOf c) (hb : b ∈ entriesOf c)
    (h : a.node = b.node) : a = b := by
  have h1 := (mem_entriesOf.mp ha).2
  have h2 := (mem_entriesOf.mp hb).2
  rw [h] at h1
  exact Option.some.inj (h1.symm.trans h2)

/-- the nodes of the entries are the targets that have an arglist element, in target order, repetitions kept -/
theorem entriesOf_nodes (c : CmdC) :
    (entriesOf c).map (·.node) = c.names.filter fun n => (c.args.find? (·.node == n)).isSome := by
  unfold entriesOf
  induction c.names with
  | nil => rfl
  | cons n ns ih =>
    rw [List.filterMap_cons, List.filter_cons]
    cases hf : c.args.find? (·.node == n) with
    | none => simpa using ih
    | some a =>
      have : a.node = n := by simpa using List.find?_some hf
      simp [ih, this]

/-- every target has an arglist element -/
def Covered (c : CmdC) : Prop := ∀ n ∈ c.names, ∃ a ∈ c.args, a.node = n

theorem entriesOf_nodes_covered (c : CmdC) (h : Covered c) : (entriesOf c).map (·.node) = c.names := by
  rw [entriesOf_nodes, List.filter_eq_self]
  intro n hn
  obtain ⟨a, ha, hna⟩ := h n hn
  rw [List.find?_isSome]
  exact ⟨a, ha, by simp [hna]⟩

theorem length_entriesOf_covered (c : CmdC) (h : Covered c) : (entriesOf c).length = c.names.length := by
  rw [← entriesOf_nodes_covered c h, List.length_map]

/-- every entry goes to exactly one of the three lists -/
theorem three_way_perm (l : List ArgC) (h : ∀ a ∈ l, a.state ≤ 2) :
    (((l.filter (·.state == 2)).map (·.node)) ++ ((l.filter (·.state == 1)).map (·.node)) ++
      ((l.filter (·.state == 0)).map (·.node))).Perm (l.map (·.node)) := by
  induction l with
  | nil => simp
  | cons a as ih =>
    have ih := ih fun x hx => h x (List.mem_cons_of_mem _ hx)
    have ha := h a List.mem_cons_self
    have : a.state = 0 ∨ a.state = 1 ∨ a.state = 2 := by omega
    rcases this with h0 | h0 | h0 <;> simp only [List.filter_cons, h0, List.map_cons] <;>
      simp only [Nat.reduceBEq, Bool.false_eq_true, if_false, if_true, List.map_cons, List.cons_append]
    · exact List.perm_middle.trans (List.Perm.cons _ ih)
    · rw [List.append_assoc] at ih ⊢
      exact List.perm_middle.trans (List.Perm.cons _ ih)
    · exact List.Perm.cons _ ih

theorem partition_perm (c : CmdC) (h : ∀ a ∈ c.args, a.state ≤ 2) :
    (onNodes c ++ offNodes c ++ unkNodes c).Perm ((entriesOf c).map (·.node)) :=
  three_way_perm _ fun a ha => h a (entriesOf_sub ha).1

theorem mem_onNodes {c : CmdC} {n : Name} : n ∈ onNodes c ↔ ∃ a ∈ entriesOf c, a.node = n ∧ a.state = 2 := by
  simp [onNodes, and_assoc, and_comm]
theorem mem_offNodes {c : CmdC} {n : Name} : n ∈ offNodes c ↔ ∃ a ∈ entriesOf c, a.node = n ∧ a.state = 1 := by
  simp [offNodes, and_assoc, and_comm]
theorem mem_unkNodes {c : CmdC} {n : Name} : n ∈ unkNodes c ↔ ∃ a ∈ entriesOf c, a.node = n ∧ a.state = 0 := by
  simp [unkNodes, and_assoc, and_comm]

/-- for an entry `a`, its node is in the list of a class iff `a` itself passes the test of the class -/
theorem node_mem_class {c : CmdC} {a : ArgC} (ha : a ∈ entriesOf c) (p : ArgC → Bool) :
    a.node ∈ ((entriesOf c).filter p).map (·.node) ↔ p a = true := by
  rw [List.mem_map]
  constructor
  · rintro ⟨b, hb, hn⟩
    rw [← entriesOf_unique (List.mem_filter.mp hb).1 ha hn]
    exact (List.mem_filter.mp hb).2
  · exact fun h => ⟨a, List.mem_filter.mpr ⟨ha, h⟩, rfl⟩

/-- as sets of names the three lists are pairwise disjoint (no state hypothesis needed) -/
theorem lists_disjoint (c : CmdC) (n : Name) :
    ¬ (n ∈ onNodes c ∧ n ∈ offNodes c) ∧ ¬ (n ∈ onNodes c ∧ n ∈ unkNodes c) ∧ ¬ (n ∈ offNodes c ∧ n ∈ unkNodes c) := by
  simp only [mem_onNodes, mem_offNodes, mem_unkNodes]
  refine ⟨?_, ?_, ?_⟩ <;>
  · rintro ⟨⟨a, ha, rfl, hs⟩, ⟨b, hb, hn, hs'⟩⟩
    have := entriesOf_unique hb ha hn
    subst this
    omega

/-! ## expanded rendering agrees with the three lists; terminal line; temperature reply -/

theorem clsName_iff (s : Nat) :
    (clsName s = "on" ↔ s = 2) ∧ (clsName s = "off" ↔ s = 1) ∧ (clsName s = "unknown" ↔ (s ≠ 2 ∧ s ≠ 1)) := by
  unfold clsName
  by_cases h2 : s = 2
  · simp [h2]
  · by_cases h1 : s = 1 <;> simp [h1, h2]

/-- the word the expanded rendering shows for an entry names the list its node is in -/
theorem cls_agree (c : CmdC) (a : ArgC) (ha : a ∈ entriesOf c) :
    (clsName a.state = "on" ↔ a.node ∈ onNodes c) ∧ (clsName a.state = "off" ↔ a.node ∈ offNodes c) ∧
    (a.state ≤ 2 → (clsName a.state = "unknown" ↔ a.node ∈ unkNodes c)) := by
  obtain ⟨hon, hoff, hunk⟩ := clsName_iff a.state
  unfold onNodes offNodes unkNodes
  rw [hon, hoff, hunk, node_mem_class ha, node_mem_class ha, node_mem_class ha]
  simp only [beq_iff_eq]
  exact ⟨trivial, trivial, fun h => by omega⟩

/-- an entry whose state is none of the three enumerators: shown as unknown by `-x`, in none of the three lists -/
theorem cls_out_of_range (c : CmdC) (a : ArgC) (ha : a ∈ entriesOf c) (h : 2 < a.state) :
    clsName a.state = "unknown" ∧ a.node ∉ onNodes c ∧ a.node ∉ offNodes c ∧ a.node ∉ unkNodes c := by
  obtain ⟨-, -, hunk⟩ := clsName_iff a.state
  unfold onNodes offNodes unkNodes
  rw [hunk, node_mem_class ha, node_mem_class ha, node_mem_class ha]
  simp only [beq_iff_eq]
  omega

theorem qTerm_true_not_suffix_false : ¬ (qTerm true <:+ qTerm false) := by
  intro h
  have := h.length_le
  revert this
  decide +kernel
theorem qTerm_false_not_suffix_true : ¬ (qTerm false <:+ qTerm true) := by decide +kernel

/-- a reply that ends with the terminal line for `e` ends with the 211 line iff `e`, with the 103 line iff not `e` -/
theorem qTerm_suffix_iff (r : Bytes) (e : Bool) (h : qTerm e <:+ r) :
    (qTerm true <:+ r ↔ e = true) ∧ (qTerm false <:+ r ↔ e = false) := by
  cases e
  · refine ⟨⟨fun h' => ?_, fun h' => by cases h'⟩, ⟨fun _ => rfl, fun _ => h⟩⟩
    exact absurd (List.suffix_of_suffix_length_le h h' (by decide +kernel)) qTerm_false_not_suffix_true
  · refine ⟨⟨fun _ => rfl, fun _ => h⟩, ⟨fun h' => ?_, fun h' => by cases h'⟩⟩
    exact absurd (List.suffix_of_suffix_length_le h' h (by decide +kernel)) qTerm_false_not_suffix_true

def isQueryCom : Com → Bool
  | .status | .beacon | .temp => true
  | _ => false

theorem isQueryCom_eq_not_isPower (c : Com) : isQueryCom c = !isPower c := by cases c <;> rfl

theorem finalReply_query_suffix (ex : Bool) (c : CmdC) (h : isQueryCom c.com = true) (r : Bytes)
    (hr : finalReply ex c = some r) : qTerm c.error <:+ r := by
  have hsb : c.com = .status ∨ c.com = .beacon → qTerm c.error <:+ r := fun hs => by
    cases ex
    · rw [finalReply_status_ranged c hs] at hr
      split at hr
      · cases hr; exact List.suffix_append _ _
      · cases hr
    · rw [finalReply_status_x c hs] at hr
      cases hr; exact List.suffix_append _ _
  cases hc : c.com <;> simp [hc, isQueryCom] at h
  · exact hsb (Or.inl hc)
  · rw [finalReply_temp ex c hc] at hr
    split at hr
    · cases hr; exact List.suffix_append _ _
    · split at hr
      · cases hr; exact List.suffix_append _ _
      · cases hr
  · exact hsb (Or.inr hc)

def valLine (n : Name) (v : Bytes) : Bytes := bstr "303 " ++ ofChars n ++ bstr ": " ++ firstLine v ++ crlf

theorem tempLine_some {a : ArgC} {v : Bytes} (h : a.val = some v) : tempLine a = valLine a.node v := by
  simp [tempLine, valLine, h]
theorem tempLine_none {a : ArgC} (h : a.val = none) : tempLine a = [] := by simp [tempLine, h]

/-- the per-node lines are those of the entries that have a value, in target order -/
theorem temp_lines (c : CmdC) :
    (entriesOf c).flatMap tempLine = ((entriesOf c).filter (·.val.isSome)).flatMap tempLine := by
  induction entriesOf c with
  | nil => rfl
  | cons a as ih =>
    cases hv : a.val with
    | none => simp [hv, tempLine_none hv, ih]
    | some v => simp [hv, ih]

def tempValued (c : CmdC) : List Name := ((entriesOf c).filter (·.val.isSome)).map (·.node)

theorem temp_perm (c : CmdC) : (tempValued c ++ tempMissing c).Perm ((entriesOf c).map (·.node)) := by
  unfold tempValued tempMissing
  rw [← List.map_append]
  apply List.Perm.map
  have := List.filter_append_perm (fun a : ArgC => a.val.isSome) (entriesOf c)
  simpa using this

theorem temp_disjoint (c : CmdC) (n : Name) : ¬ (n ∈ tempValued c ∧ n ∈ tempMissing c) := by
  simp only [tempValued, tempMissing, List.mem_map, List.mem_filter]
  rintro ⟨⟨a, ⟨ha, hs⟩, rfl⟩, ⟨b, ⟨hb, hn⟩, hbn⟩⟩
  have := entriesOf_unique hb ha hbn
  subst this
  cases hv : b.val <;> simp [hv] at hs hn

/-- the command as the reply functions see it when the last completion `err` arrives -/
def withStore (w : W) (k : CmdC) (err : ActErr) : CmdC :=
  { k with error := k.error || (err != .success), args := (storeArgs w k.al).map argC }
/-- the client `_find_client` finds (`cliRec`: `cliOf_eq`) -/
def cliOf (w : W) (id : Nat) : Option Cli := w.clients.find? (·.id == id)

theorem cliOf_eq (w : W) (id : Nat) : cliOf w id = cliRec w id := rfl

theorem find_map_upd (xs : List Cli) (id id' : Nat) (f : Cli → Cli) (hf : ∀ c, c.id = id → (f c).id = id) :
    (xs.map fun c => if c.id == id then f c else c).find? (·.id == id') =
      if id' = id then (xs.find? (·.id == id)).map f else xs.find? (·.id == id') := by
  -- the rewritten record keeps its id, so the same entry is found; it has id `id'`, so it was rewritten iff `id' = id`
  have hid : ∀ c : Cli, (if c.id == id then f c else c).id = c.id := fun c => by
    by_cases h : c.id = id
    · rw [if_pos (beq_iff_eq.mpr h), hf c h, h]
    · rw [if_neg (mt beq_iff_eq.mp h)]
  rw [find_map_id _ hid]
  by_cases hi : id' = id
  · subst hi
    rw [if_pos rfl]
    cases hq : xs.find? (·.id == id') with
    | none => rfl
    | some c => exact congrArg some (if_pos (List.find?_some hq))
  · rw [if_neg hi]
    cases hq : xs.find? (·.id == id') with
    | none => rfl
    | some c =>
      have hc : c.id = id' := by simpa using List.find?_some hq
      exact congrArg some (if_neg fun h => hi (hc.symm.trans (beq_iff_eq.mp h)))

/-! ## a whole list of device callbacks folded through `actFinish` (`applyOuts`) -/

/-- one callback of `applyOuts`: `applyOut` with the 305 line written as `teleLine` (`outStep_eq`) -/
def outStep (name : Bytes) (acc : W × List String) (o : DOut) : W × List String :=
  match o with
  | .finish cid e => ((actFinish acc.1 cid e name).1, if (actFinish acc.1 cid e name).2 then acc.2 ++ ["O ABORT act_finish"] else acc.2)
  | .telemetry cid t => (updCli acc.1 cid fun c => put c (teleLine name t), acc.2)
  | .diag cid t => (updCli acc.1 cid fun c => put c (bstr "309 " ++ t ++ crlf), acc.2)
  | .sent _ => acc
  | .rxMismatch want got => (acc.1, acc.2 ++ [s!"O RXMISMATCH want pat {want.pat} subj {hexOf want.subject} asked pat {got.1} subj {hexOf got.2}"])
  | .abortAssert site => (acc.1, acc.2 ++ [s!"O ABORT {site}"])

theorem outStep_eq (name : Bytes) (acc : W × List String) (o : DOut) : outStep name acc o = applyOut name acc o := by
  cases o <;> rfl

theorem outStep_fun (name : Bytes) : outStep name = applyOut name := funext fun a => funext fun o => outStep_eq name a o

theorem applyOuts_eq (w : W) (name : Bytes) (outs : List DOut) :
    applyOuts w name outs = outs.foldl (outStep name) (w, []) := by
  rw [outStep_fun]
  exact Pm.Daemon.applyOuts_eq w name outs

/-- what one callback writes to client `id` apart from a terminal reply -/
def outText (name : Bytes) (id : Nat) : DOut → Bytes
  | .finish cid e => if cid = id then errPre e name else []
  | .telemetry cid t => if cid = id then teleLine name t else []
  | .diag cid t => if cid = id then bstr "309 " ++ t ++ crlf else []
  | _ => []
/-- a completion for client `id` that carries an error -/
def finErr (id : Nat) : DOut → Bool
  | .finish cid e => cid == id && e != .success
  | _ => false
/-- a completion for client `id` -/
def isFin (id : Nat) : DOut → Bool
  | .finish cid _ => cid == id
  | _ => false

theorem outStep_msgs_mono (name : Bytes) (acc : W × List String) (o : DOut) (m : String) (h : m ∈ acc.2) :
    m ∈ (outStep name acc o).2 := by
  cases o <;> simp only [outStep] <;> try exact h
  · split
    · exact List.mem_append_left _ h
    · exact h
  · exact List.mem_append_left _ h
  · exact List.mem_append_left _ h

theorem fold_msgs_mono (name : Bytes) (outs : List DOut) : ∀ (acc : W × List String) (m : String), m ∈ acc.2 →
    m ∈ (outs.foldl (outStep name) acc).2 := fun _ m h =>
  List.foldlRecOn (motive := fun a : W × List String => m ∈ a.2) outs _ h fun a ha o _ => outStep_msgs_mono name a o m ha

theorem fold_store (name : Bytes) (outs : List DOut) : ∀ (acc : W × List String),
    (outs.foldl (outStep name) acc).1.store = acc.1.store := fun acc =>
  List.foldlRecOn (motive := fun a : W × List String => a.1.store = acc.1.store) outs _ rfl fun a ha o _ => by
    rw [outStep_eq, applyOut_store, ha]

theorem fold_rec (name : Bytes) (id : Nat) (outs : List DOut) (acc : W × List String) :
    cliOf (outs.foldl (outStep name) acc).1 id = (cliOf acc.1 id).map (recRun name (cellsOf acc.1) id outs) := by
  rw [outStep_fun]
  exact foldl_applyOut_rec name outs id acc

/-! What `recRun` makes of a client's record, by the completions among the callbacks. -/

theorem cmd_keep (c : Cli) (k : CmdC) (h : c.cmd = some k) (b : Bytes) :
    { c with toBuf := c.toBuf ++ b } =
      { c with cmd := some { k with error := k.error || false, pending := k.pending - 0 }, toBuf := c.toBuf ++ b } := by
  rw [Bool.or_false]
  cases c
  cases h
  rfl

theorem cmd_self (c : Cli) (k : CmdC) (h : c.cmd = some k) :
    c = { c with cmd := some { k with error := k.error || false, pending := k.pending - 0 }, toBuf := c.toBuf ++ [] } :=
  (show c = { c with toBuf := c.toBuf ++ [] } by rw [List.append_nil]).trans (cmd_keep c k h [])

theorem recOut_nofin (name : Bytes) (cells : Nat → List ArgC) (id : Nat) (o : DOut) (c : Cli) (hf : isFin id o = false) :
    recOut name cells id o c = { c with toBuf := c.toBuf ++ outText name id o } := by
  have hself : ∀ b : Bytes, b = [] → c = { c with toBuf := c.toBuf ++ b } := fun b hb => by rw [hb, List.append_nil]
  cases o with
  | finish cid e =>
    have hid : ¬ cid = id := by simpa [isFin] using hf
    exact (if_neg hid).trans (hself _ (if_neg hid))
  | telemetry cid t =>
    by_cases hid : cid = id
    · exact (if_pos hid).trans (by rw [show outText name id (.telemetry cid t) = teleLine name t from if_pos hid]; rfl)
    · exact (if_neg hid).trans (hself _ (if_neg hid))
  | diag cid t =>
    by_cases hid : cid = id
    · exact (if_pos hid).trans (by rw [show outText name id (.diag cid t) = bstr "309 " ++ t ++ crlf from if_pos hid]; rfl)
    · exact (if_neg hid).trans (hself _ (if_neg hid))
  | sent b => exact hself _ rfl
  | rxMismatch a b => exact hself _ rfl
  | abortAssert s => exact hself _ rfl

/-- a run of callbacks none of which is a completion for `id`: the lines addressed to the client are appended, in order; nothing
    else of its record changes — whether or not it has a command -/
theorem recRun_nofin (name : Bytes) (cells : Nat → List ArgC) (id : Nat) (outs : List DOut) : ∀ c : Cli,
    outs.countP (isFin id) = 0 → recRun name cells id outs c = { c with toBuf := c.toBuf ++ outs.flatMap (outText name id) } := by
  induction outs with
  | nil => intro c _; show c = { c with toBuf := c.toBuf ++ [] }; rw [List.append_nil]
  | cons o os ih =>
    intro c hn
    rw [List.countP_cons] at hn
    have hf : isFin id o = false := by
      cases hb : isFin id o
      · rfl
      · rw [hb] at hn; simp at hn
    rw [recRun_cons, recOut_nofin name cells id o c hf, ih _ (by omega), List.flatMap_cons, ← List.append_assoc]

theorem recOut_pending (name : Bytes) (cells : Nat → List ArgC) (id : Nat) (o : DOut) (c : Cli) (k : CmdC)
    (hc : c.cmd = some k) (hp : isFin id o = true → k.pending ≠ 1) :
    recOut name cells id o c =
      { c with cmd := some { k with error := k.error || finErr id o, pending := k.pending - (if isFin id o then 1 else 0) },
               toBuf := c.toBuf ++ outText name id o } := by
  cases hf : isFin id o with
  | false =>
    -- not a completion for `id`: text is appended (`recOut_nofin`), the command stays as it is
    have he : finErr id o = false := by
      cases o with
      | finish cid e => exact (congrArg (· && (e != .success)) (show (cid == id) = false from hf)).trans (Bool.false_and _)
      | _ => rfl
    rw [recOut_nofin name cells id o c hf, he, if_neg Bool.false_ne_true]
    exact cmd_keep c k hc _
  | true =>
    -- a completion for `id`, not the last one: `finDecide_more`
    cases o with
    | finish cid e =>
      obtain rfl : cid = id := beq_iff_eq.mp hf
      simp only [recOut, if_pos, hc, finDecide_more _ _ _ _ (hp hf), finErr, outText, beq_self_eq_true, Bool.true_and]
      rfl
    | _ => cases hf

/-- a run of callbacks that leaves at least one completion outstanding: the command stays, `pending` has gone down by the number
    of completions, `error` is the old flag or-ed with every completion's error bit, and the client was sent exactly the
    308 / 305 / 309 lines in callback order -/
theorem recRun_pending (name : Bytes) (cells : Nat → List ArgC) (id : Nat) (outs : List DOut) : ∀ (c : Cli) (k : CmdC),
    c.cmd = some k → outs.countP (isFin id) < k.pending →
    recRun name cells id outs c =
      { c with cmd := some { k with error := k.error || outs.any (finErr id), pending := k.pending - outs.countP (isFin id) },
               toBuf := c.toBuf ++ outs.flatMap (outText name id) } := by
  induction outs with
  | nil => intro c k hc _; exact cmd_self c k hc
  | cons o os ih =>
    intro c k hc hlt
    rw [List.countP_cons] at hlt
    have hp : isFin id o = true → k.pending ≠ 1 := fun hf => by rw [if_pos hf] at hlt; omega
    rw [recRun_cons, recOut_pending name cells id o c k hc hp, ih _ _ rfl (by dsimp only; omega)]
    simp only [List.any_cons, List.countP_cons, List.flatMap_cons, List.append_assoc, Bool.or_assoc, Nat.sub_sub]
    congr 4
    omega

/-- the completion that brings `pending` to zero: the reply is built from the arglist, or the sort asserts and the record stays -/
theorem recOut_last (name : Bytes) (cells : Nat → List ArgC) (id : Nat) (e : ActErr) (c : Cli) (k : CmdC)
    (hc : c.cmd = some k) (hp : k.pending = 1) :
    recOut name cells id (.finish id e) c =
      match finalReply c.exprange { k with error := k.error || (e != .success), args := cells k.al } with
      | some r => { c with cmd := none, toBuf := c.toBuf ++ (errPre e name ++ r ++ prompt) }
      | none => c := by
  simp only [recOut, if_pos, hc, finDecide_last _ _ _ _ hp]
  cases finalReply c.exprange { k with error := k.error || (e != .success), args := cells k.al } <;> rfl

/-! The ways `_act_finish` can go, read off `actFinish_decide`. -/

theorem actFinish_frame (w : W) (id : Nat) (err : ActErr) (name : Bytes) :
    ∃ cl, (actFinish w id err name).1 = { w with clients := cl } :=
  let ⟨_, h, _⟩ := applyOuts_map w name [.finish id err]; ⟨_, h⟩

/-- a completion for a client that has gone away is dropped -/
theorem actFinish_absent (w : W) (id : Nat) (err : ActErr) (name : Bytes) (h : cliOf w id = none) :
    actFinish w id err name = (w, false) := by
  rw [actFinish_decide, ← cliOf_eq, h]

/-- `assert(c->cmd != NULL)` -/
theorem actFinish_nocmd (w : W) (id : Nat) (err : ActErr) (name : Bytes) (c : Cli) (h : cliOf w id = some c)
    (hc : c.cmd = none) : actFinish w id err name = (w, true) := by
  rw [actFinish_decide, ← cliOf_eq, h]
  dsimp only
  rw [hc]
  rfl

/-- more completions outstanding: count down, remember a failure, write only the 308 line (if any) -/
theorem actFinish_more (w : W) (id : Nat) (err : ActErr) (name : Bytes) (c : Cli) (k : CmdC) (h : cliOf w id = some c)
    (hc : c.cmd = some k) (hp : k.pending ≠ 1) :
    (actFinish w id err name).2 = false ∧
    cliOf (actFinish w id err name).1 id =
      some { c with cmd := some { k with error := k.error || (err != .success), pending := k.pending - 1 },
                    toBuf := c.toBuf ++ errPre err name } := by
  refine ⟨?_, ?_⟩
  · rw [actFinish_decide, ← cliOf_eq, h]
    dsimp only
    rw [hc, finDecide_more _ _ _ _ hp]
  · rw [cliOf_eq, actFinish_rec, ← cliOf_eq, h]
    dsimp only [Option.map_some, recOut]
    rw [if_pos rfl, hc, finDecide_more _ _ _ _ hp]
    rfl

/-- the last completion: the command is dropped and the client gets, in this order, the 308 line (if any),
    the reply computed from the arglist as it is now, and the prompt -/
theorem actFinish_last (w : W) (id : Nat) (err : ActErr) (name : Bytes) (c : Cli) (k : CmdC) (r : Bytes)
    (h : cliOf w id = some c) (hc : c.cmd = some k) (hp : k.pending = 1)
    (hr : finalReply c.exprange (withStore w k err) = some r) :
    (actFinish w id err name).2 = false ∧
    cliOf (actFinish w id err name).1 id =
      some { c with cmd := none, toBuf := c.toBuf ++ (errPre err name ++ r ++ prompt) } := by
  have hr' : finalReply c.exprange { k with error := k.error || (err != .success), args := cellsOf w k.al } = some r := hr
  refine ⟨?_, ?_⟩
  · rw [actFinish_decide, ← cliOf_eq, h]
    dsimp only
    rw [hc, finDecide_last _ _ _ _ hp, hr']
    rfl
  · rw [cliOf_eq, actFinish_rec, ← cliOf_eq, h, Option.map_some, recOut_last name _ id err c k hc hp, hr']

/-- the last completion when a list handed to `hostlist_sort` trips its assert (F19): the daemon is gone -/
theorem actFinish_last_abort (w : W) (id : Nat) (err : ActErr) (name : Bytes) (c : Cli) (k : CmdC)
    (h : cliOf w id = some c) (hc : c.cmd = some k) (hp : k.pending = 1)
    (hr : finalReply c.exprange (withStore w k err) = none) :
    actFinish w id err name = (w, true) := by
  have hr' : finalReply c.exprange { k with error := k.error || (err != .success), args := cellsOf w k.al } = none := hr
  rw [actFinish_decide, ← cliOf_eq, h]
  dsimp only
  rw [hc, finDecide_last _ _ _ _ hp, hr']
  rfl

theorem fold_pending (name : Bytes) (id : Nat) (outs : List DOut) : ∀ (acc : W × List String) (c : Cli) (k : CmdC),
    cliOf acc.1 id = some c → c.cmd = some k → outs.countP (isFin id) < k.pending →
    cliOf (outs.foldl (outStep name) acc).1 id =
      some { c with cmd := some { k with error := k.error || outs.any (finErr id), pending := k.pending - outs.countP (isFin id) },
                    toBuf := c.toBuf ++ outs.flatMap (outText name id) } := by
  intro acc c k h hc hlt
  rw [fold_rec, h]
  exact congrArg some (recRun_pending name _ id outs c k hc hlt)

theorem applyOuts_pending (w : W) (name : Bytes) (id : Nat) (outs : List DOut) (c : Cli) (k : CmdC)
    (h : cliOf w id = some c) (hc : c.cmd = some k) (hlt : outs.countP (isFin id) < k.pending) :
    cliOf (applyOuts w name outs).1 id =
      some { c with cmd := some { k with error := k.error || outs.any (finErr id), pending := k.pending - outs.countP (isFin id) },
                    toBuf := c.toBuf ++ outs.flatMap (outText name id) } := by
  rw [applyOuts_eq]
  exact fold_pending name id outs (w, []) c k h hc hlt

theorem finalReply_congr (ex : Bool) (c c' : CmdC) (h1 : c.com = c'.com) (h2 : c.names = c'.names)
    (h3 : c.error = c'.error) (h4 : c.args = c'.args) : finalReply ex c = finalReply ex c' :=
  finalReply_entries ex c c' h1 h3 (by unfold entriesOf; rw [h2, h4])

/-- a run of callbacks ending with the completion that brings `pending` to zero -/
theorem fold_final (name : Bytes) (id : Nat) (pre : List DOut) (e : ActErr) (acc : W × List String) (c : Cli) (k : CmdC)
    (h : cliOf acc.1 id = some c) (hc : c.cmd = some k) (hn : pre.countP (isFin id) + 1 = k.pending) :
    let k' : CmdC := { k with error := k.error || pre.any (finErr id) || (e != .success), args := (storeArgs acc.1 k.al).map argC }
    let res := (pre ++ [Dev2.Out.finish id e]).foldl (outStep name) acc
    match finalReply c.exprange k' with
    | some r => cliOf res.1 id = some { c with cmd := none, toBuf := c.toBuf ++ pre.flatMap (outText name id) ++ errPre e name ++ r ++ prompt }
    | none => "O ABORT act_finish" ∈ res.2 := by
  intro k' res
  have h1 := fold_pending name id pre acc c k h hc (by omega)
  have hst := fold_store name pre acc
  have hres : res = outStep name (pre.foldl (outStep name) acc) (.finish id e) := by
    simp only [res, List.foldl_append, List.foldl_cons, List.foldl_nil]
  generalize pre.foldl (outStep name) acc = mid at h1 hst hres
  have hk : finalReply c.exprange (withStore mid.1 { k with error := k.error || pre.any (finErr id), pending := k.pending - pre.countP (isFin id) } e) =
      finalReply c.exprange k' := by
    apply finalReply_congr <;> simp only [withStore, storeArgs, hst, k']
  cases hr : finalReply c.exprange k' with
  | some r =>
    simp only
    have := (actFinish_last mid.1 id e name _ _ r h1 rfl (by simp only; omega) (by rw [hk]; exact hr)).2
    rw [hres]
    simp only [outStep]
    rw [this]
    simp [List.append_assoc]
  | none =>
    simp only
    have := actFinish_last_abort mid.1 id e name _ _ h1 rfl (by simp only; omega) (by rw [hk]; exact hr)
    rw [hres]
    simp only [outStep, this, if_true]
    exact List.mem_append_right _ (List.mem_singleton.mpr rfl)

/-! ## the error flag is sticky -/

theorem errPre_success (name : Bytes) : errPre .success name = [] := rfl

theorem errPre_failure (err : ActErr) (name : Bytes) (h : err ≠ .success) :
    ∃ reason, errPre err name = bstr "308 " ++ (name ++ reason) ++ crlf := by
  cases err <;> first | exact absurd rfl h | exact ⟨_, rfl⟩

/-- with the error flag set, the terminal line is the 'completed with errors' one of the command's kind -/
theorem finalReply_error (ex : Bool) (c : CmdC) (r : Bytes) (he : c.error = true) (hr : finalReply ex c = some r) :
    (isPower c.com = true ∧ r = errLine) ∨ (isQueryCom c.com = true ∧ qTerm true <:+ r) := by
  by_cases hp : isPower c.com = true
  · left
    rw [finalReply_power ex c hp, he] at hr
    simp only [Bool.true_or, if_true] at hr
    exact ⟨hp, (Option.some.inj hr).symm⟩
  · right
    have hq : isQueryCom c.com = true := by rw [isQueryCom_eq_not_isPower]; simpa using hp
    have := finalReply_query_suffix ex c hq r hr
    rw [he] at this
    exact ⟨hq, this⟩

/-- one completion (for any client) never clears the flag of a command in progress: afterwards the command is
    still there with the flag set, or this was its last completion and the reply carries the error line -/
theorem actFinish_error_mono (w : W) (id id' : Nat) (err : ActErr) (name : Bytes) (c : Cli) (k : CmdC)
    (h : cliOf w id = some c) (hc : c.cmd = some k) (he : k.error = true) :
    match cliOf (actFinish w id' err name).1 id with
    | none => False
    | some c' =>
      match c'.cmd with
      | some k' => k'.error = true ∧ k'.al = k.al ∧ k'.com = k.com ∧ k'.names = k.names
      | none => id' = id ∧ k.pending = 1 ∧ ∃ r, finalReply c.exprange (withStore w k err) = some r ∧
                  c'.toBuf = c.toBuf ++ (errPre err name ++ r ++ prompt) ∧
                  ((isPower k.com = true ∧ r = errLine) ∨ (isQueryCom k.com = true ∧ qTerm true <:+ r)) := by
  by_cases hid : id' = id
  · subst hid
    by_cases hp : k.pending = 1
    · cases hr : finalReply c.exprange (withStore w k err) with
      | none =>
        rw [actFinish_last_abort w id' err name c k h hc hp hr, h]
        simp only [hc, he, and_self]
      | some r =>
        rw [(actFinish_last w id' err name c k r h hc hp hr).2]
        simp only
        refine ⟨trivial, hp, r, rfl, rfl, ?_⟩
        have := finalReply_error c.exprange (withStore w k err) r (by simp [withStore, he]) hr
        simpa [withStore] using this
    · rw [(actFinish_more w id' err name c k h hc hp).2]
      simp [he]
  · rw [show cliOf (actFinish w id' err name).1 id = cliOf w id from Pm.Daemon.actFinish_other w id' id err name hid, h]
    simp only [hc, he, and_self]

/-- the distinct target names in first-occurrence order: what `hash_insert` keeps of a list with repetitions -/
def distinctOf (bnames : List Bytes) : List Bytes :=
  bnames.foldl (fun acc x => if acc.contains x then acc else acc ++ [x]) []
/-- `arglist_create` -/
def freshArgs (bnames : List Bytes) : List Arg :=
  (distinctOf bnames).map fun n => { node := n, val := none, state := .unknown, result := .none }
/-- the request is refused with code 213 -/
def refused (w : W) (c : Cli) : W × Cli := (w, put c (codeLine 213 ++ crlf ++ (if c.quit then [] else prompt)))

/-- `install` with the loop of `dev_enqueue_actions` written as a `map` (`Enq.install_fold`) -/
theorem install_eq (w : W) (c : Cli) (com : Com) (names : List Name) :
    install w c com names =
      if w.devs.any (fun (nd : Bytes × Dev) => needsDev nd.2 (names.map ofChars) && !handles nd.2 (comIdx com) (names.map ofChars)) then refused w c else
      if Enq.installTotal (comIdx com) (names.map ofChars) c.id c.telemetry w.alNext w.devs == 0 then refused w c else
      ({ w with devs := w.devs.map (Enq.installDev (comIdx com) (names.map ofChars) c.id c.telemetry w.alNext),
                store := (w.alNext, freshArgs (names.map ofChars)) :: w.store, alNext := w.alNext + 1 },
       { c with cmd := some { com, names, pending := Enq.installTotal (comIdx com) (names.map ofChars) c.id c.telemetry w.alNext w.devs,
                              error := false, al := w.alNext } }) := by
  unfold install
  simp only [Enq.install_fold, List.nil_append, Nat.zero_add]
  rfl

theorem dedup_fold_spec (l : List Bytes) : ∀ acc : List Bytes, acc.Nodup →
    (l.foldl (fun acc x => if acc.contains x then acc else acc ++ [x]) acc).Nodup ∧
    ∀ x, x ∈ l.foldl (fun acc x => if acc.contains x then acc else acc ++ [x]) acc ↔ x ∈ acc ∨ x ∈ l := by
  induction l with
  | nil => exact fun acc h => ⟨h, fun x => by simp⟩
  | cons y ys ih =>
    intro acc h
    -- one step keeps the list free of repetitions and adds exactly `y`
    have step : (if acc.contains y then acc else acc ++ [y]).Nodup ∧
        ∀ x, x ∈ (if acc.contains y then acc else acc ++ [y]) ↔ x ∈ acc ∨ x = y := by
      by_cases hy : y ∈ acc
      · rw [if_pos (List.contains_iff_mem.mpr hy)]
        exact ⟨h, fun x => ⟨Or.inl, fun hx => hx.elim id (· ▸ hy)⟩⟩
      · rw [if_neg (mt List.contains_iff_mem.mp hy)]
        exact ⟨List.nodup_append.mpr ⟨h, List.pairwise_singleton _ y, fun a ha b hb hab => hy (List.mem_singleton.mp hb ▸ hab ▸ ha)⟩,
          fun x => by rw [List.mem_append, List.mem_singleton]⟩
    obtain ⟨hn, hm⟩ := ih _ step.1
    refine ⟨hn, fun x => ?_⟩
    rw [List.foldl_cons, hm, step.2, List.mem_cons, or_assoc]

theorem mem_distinctOf (l : List Bytes) (x : Bytes) : x ∈ distinctOf l ↔ x ∈ l :=
  ((dedup_fold_spec l [] List.nodup_nil).2 x).trans (by simp)

theorem nodup_distinctOf (l : List Bytes) : (distinctOf l).Nodup := (dedup_fold_spec l [] List.nodup_nil).1

theorem freshArgs_nodes (b : List Bytes) : (freshArgs b).map (·.node) = distinctOf b := by
  simp [freshArgs, Function.comp_def]

theorem freshArgs_fresh (b : List Bytes) (a : Arg) (h : a ∈ freshArgs b) :
    a.state = .unknown ∧ a.result = .none ∧ a.val = none := by
  simp only [freshArgs, List.mem_map] at h
  obtain ⟨n, _, rfl⟩ := h
  exact ⟨rfl, rfl, rfl⟩

theorem freshArgs_cover (b : List Bytes) (n : Bytes) (h : n ∈ b) : ∃ a ∈ freshArgs b, a.node = n := by
  have := (mem_distinctOf b n).mpr h
  exact ⟨{ node := n, val := none, state := .unknown, result := .none }, List.mem_map.mpr ⟨n, this, rfl⟩, rfl⟩

/-- the freshness invariant: every arglist id in use is below the counter.  `c` is the client being served
    (`cliPostPoll` holds it outside the table while `parseLine` runs).  Internal actions (login, ping:
    `clientId = 0`) carry the dummy id 0 and are exempt. -/
structure Fresh (w : W) (c : Cli) : Prop where
  store : ∀ p ∈ w.store, p.1 < w.alNext
  clients : ∀ x ∈ w.clients, ∀ k, x.cmd = some k → k.al < w.alNext
  cli : ∀ k, c.cmd = some k → k.al < w.alNext
  acts : ∀ nd ∈ w.devs, ∀ a ∈ nd.2.acts, a.clientId ≠ 0 → a.arglist < w.alNext

/-- under the invariant nothing refers to the id the next command will get -/
theorem Fresh.unreferenced {w : W} {c : Cli} (h : Fresh w c) :
    (w.store.lookup w.alNext = none) ∧ (∀ x ∈ w.clients, ∀ k, x.cmd = some k → k.al ≠ w.alNext) ∧
    (∀ k, c.cmd = some k → k.al ≠ w.alNext) ∧
    (∀ nd ∈ w.devs, ∀ a ∈ nd.2.acts, a.clientId ≠ 0 → a.arglist ≠ w.alNext) := by
  refine ⟨?_, fun x hx k hk => Nat.ne_of_lt (h.clients x hx k hk), fun k hk => Nat.ne_of_lt (h.cli k hk),
    fun nd hnd a ha hc => Nat.ne_of_lt (h.acts nd hnd a ha hc)⟩
  rw [List.lookup_eq_none_iff]
  intro p hp
  have := h.store p hp
  simp only [bne_iff_ne, ne_eq]
  omega

theorem refused_fresh {w : W} {c : Cli} (h : Fresh w c) : Fresh (refused w c).1 (refused w c).2 :=
  ⟨h.store, h.clients, h.cli, h.acts⟩

theorem install_fresh (w : W) (c : Cli) (com : Com) (names : List Name) (h : Fresh w c) :
    Fresh (install w c com names).1 (install w c com names).2 := by
  rw [install_eq]
  split
  · exact refused_fresh h
  · split
    · exact refused_fresh h
    · refine ⟨?_, ?_, ?_, ?_⟩
      · intro p hp
        simp only [List.mem_cons] at hp
        rcases hp with rfl | hp
        · exact Nat.lt_succ_self _
        · exact Nat.lt_succ_of_lt (h.store p hp)
      · intro x hx k hk
        exact Nat.lt_succ_of_lt (h.clients x hx k hk)
      · intro k hk
        simp only [Option.some.injEq] at hk
        subst hk
        exact Nat.lt_succ_self _
      · -- an action in a queue was there before, or is new and carries the id just handed out
        intro nd' hnd a ha hc
        obtain ⟨nd, hnd0, rfl⟩ := List.mem_map.mp hnd
        rw [(Enq.installDev_spec ..).2.2.1] at ha
        rcases List.mem_append.mp ha with ha0 | hnew
        · exact Nat.lt_succ_of_lt (h.acts nd hnd0 a ha0 hc)
        · rw [(Enq.newActs_kind hnew).2.2.1]; exact Nat.lt_succ_self _

theorem install_creates (w : W) (c : Cli) (com : Com) (names : List Name) (hc : c.cmd = none) (k : CmdC)
    (hk : (install w c com names).2.cmd = some k) :
    k.com = com ∧ k.names = names ∧ k.error = false ∧ k.pending ≠ 0 ∧ k.al = w.alNext ∧
    (install w c com names).1.alNext = w.alNext + 1 ∧
    storeArgs (install w c com names).1 k.al = freshArgs (names.map ofChars) := by
  rw [install_eq] at hk ⊢
  split at hk
  · simp [refused, put, hc] at hk
  · split at hk
    · simp [refused, put, hc] at hk
    · rename_i h1 h2
      simp only [Option.some.injEq] at hk
      subst hk
      simp only [h1, h2, Bool.false_eq_true, if_false, storeArgs, List.lookup_cons, beq_self_eq_true, Option.getD_some,
        and_self, true_and]
      simpa using h2

/-! ## names are byte strings: the arglist of an accepted request covers its targets -/

/-- a name all of whose characters are bytes (true of everything that came through `toChars`) -/
def ByteName (n : Name) : Prop := ∀ ch ∈ n, ch.toNat < 256

theorem toChars_ofChars (n : Name) (h : ByteName n) : toChars (ofChars n) = n := by
  unfold toChars ofChars
  rw [List.map_map]
  conv => rhs; rw [← List.map_id n]
  apply List.map_congr_left
  intro ch hch
  have hlt := h ch hch
  have : ch.toNat.toUInt8.toNat = ch.toNat := by
    rw [Nat.toUInt8_eq, UInt8.toNat_ofNat']
    omega
  simp only [Function.comp_apply, this, Char.ofNat_toNat, id]

theorem toNat_ofNat_small (n : Nat) (h : n < 256) : (Char.ofNat n).toNat = n := by
  have hv : n.isValidChar := Or.inl (by omega)
  unfold Char.ofNat
  rw [dif_pos hv]
  simp [Char.ofNatAux, Char.toNat]

theorem byteName_toChars (b : Bytes) : ByteName (toChars b) := by
  intro ch hch
  simp only [toChars, List.mem_map] at hch
  obtain ⟨x, _, rfl⟩ := hch
  rw [toNat_ofNat_small _ x.toNat_lt]
  exact x.toNat_lt

/-- an arglist that has an element for the byte form of every target covers the targets -/
theorem covered_of_nodes (k : CmdC) (as : List Arg) (hb : ∀ n ∈ k.names, ByteName n)
    (h : ∀ n ∈ k.names, ∃ a ∈ as, a.node = ofChars n) (e : Bool) :
    Covered { k with error := e, args := as.map argC } := by
  intro n hn
  obtain ⟨a, ha, han⟩ := h n hn
  refine ⟨argC a, List.mem_map.mpr ⟨a, ha, rfl⟩, ?_⟩
  simp only [argC, han]
  exact toChars_ofChars n (hb n hn)

/-- the command an accepted request creates, read back through the store: every target has an arglist element,
    and every element is in its initial state -/
theorem install_covered (w : W) (c : Cli) (com : Com) (names : List Name) (hc : c.cmd = none) (k : CmdC)
    (hk : (install w c com names).2.cmd = some k) (hb : ∀ n ∈ names, ByteName n) (err : ActErr) :
    Covered (withStore (install w c com names).1 k err) ∧
    ∀ a ∈ (withStore (install w c com names).1 k err).args, a.state = 0 ∧ a.result = 0 ∧ a.val = none := by
  obtain ⟨_, hn, _, _, _, _, hst⟩ := install_creates w c com names hc k hk
  unfold withStore
  rw [hst]
  constructor
  · apply covered_of_nodes k _ (by rw [hn]; exact hb)
    intro n hnn
    rw [hn] at hnn
    exact freshArgs_cover _ _ (List.mem_map.mpr ⟨n, hnn, rfl⟩)
  · intro a ha
    simp only [List.mem_map] at ha
    obtain ⟨g, hg, rfl⟩ := ha
    obtain ⟨h1, h2, h3⟩ := freshArgs_fresh _ g hg
    simp [argC, h1, h2, h3, psNum, prNum]

/-- whatever the devices wrote, the states the reply functions see are one of the three enumerators -/
theorem argC_state_le (a : Arg) : (argC a).state ≤ 2 := by
  unfold argC psNum; cases a.state <;> simp

theorem withStore_state_le (w : W) (k : CmdC) (err : ActErr) : ∀ a ∈ (withStore w k err).args, a.state ≤ 2 := by
  intro a ha
  simp only [withStore, List.mem_map] at ha
  obtain ⟨g, _, rfl⟩ := ha
  exact argC_state_le g

instance (c : CmdC) : Decidable (Covered c) := by unfold Covered; infer_instance
instance (n : Name) : Decidable (ByteName n) := by unfold ByteName; infer_instance

theorem isPower_iff (c : Com) : isPower c = true ↔ c ∈ [Com.on, .off, .cycle, .reset, .flash, .unflash] := by
  cases c <;> decide
theorem isQueryCom_iff (c : Com) : isQueryCom c = true ↔ c ∈ [Com.status, .beacon, .temp] := by
  cases c <;> decide

theorem any_entry_iff (c : CmdC) (p : ArgC → Bool) :
    (entriesOf c).any p = true ↔ ∃ n ∈ c.names, ∃ a, c.args.find? (·.node == n) = some a ∧ p a = true := by
  simp only [List.any_eq_true, entriesOf, List.mem_filterMap]
  constructor
  · rintro ⟨a, ⟨n, hn, hf⟩, hp⟩; exact ⟨n, hn, a, hf, hp⟩
  · rintro ⟨n, hn, a, hf, hp⟩; exact ⟨a, ⟨n, hn, hf⟩, hp⟩

theorem finalReply_power_iff (ex : Bool) (c : CmdC) (hp : isPower c.com = true) :
    (finalReply ex c = some okLine ↔
      c.error = false ∧ ∀ n ∈ c.names, ∀ a, c.args.find? (·.node == n) = some a → a.result ≠ 1) ∧
    (finalReply ex c ≠ some okLine → finalReply ex c = some errLine) := by
  rw [finalReply_power ex c hp]
  cases hb : (c.error || (entriesOf c).any (·.result == 1))
  · simp only [Bool.false_eq_true, if_false, true_iff, ne_eq, not_true_eq_false, false_implies, and_true]
    rw [Bool.or_eq_false_iff] at hb
    refine ⟨hb.1, ?_⟩
    intro n hn a hf hr
    have : (entriesOf c).any (·.result == 1) = true := (any_entry_iff c _).mpr ⟨n, hn, a, hf, by simp [hr]⟩
    rw [hb.2] at this
    cases this
  · simp only [if_true, Option.some.injEq, implies_true, and_true]
    constructor
    · intro h; exact absurd h.symm okLine_ne_errLine
    · rintro ⟨he, hall⟩
      rw [he, Bool.false_or, any_entry_iff] at hb
      obtain ⟨n, hn, a, hf, hr⟩ := hb
      exact absurd (by simpa using hr) (hall n hn a hf)

/-- `fold_final`, through `applyOuts`, when some completion of the command carried an error (or the flag was already set): either
    the sort assert fired while the reply was built (F19), or the reply ends with the error line of its kind -/
theorem applyOuts_final_error (w : W) (name : Bytes) (id : Nat) (pre : List DOut) (e : ActErr) (c : Cli) (k : CmdC)
    (h : cliOf w id = some c) (hc : c.cmd = some k) (hn : pre.countP (isFin id) + 1 = k.pending)
    (herr : k.error = true ∨ (pre ++ [Dev2.Out.finish id e]).any (finErr id) = true) :
    "O ABORT act_finish" ∈ (applyOuts w name (pre ++ [Dev2.Out.finish id e])).2 ∨
    ∃ r, cliOf (applyOuts w name (pre ++ [Dev2.Out.finish id e])).1 id =
           some { c with cmd := none, toBuf := c.toBuf ++ pre.flatMap (outText name id) ++ errPre e name ++ r ++ prompt } ∧
         ((isPower k.com = true ∧ r = errLine) ∨ (isQueryCom k.com = true ∧ qTerm true <:+ r)) := by
  rw [applyOuts_eq]
  have hf := fold_final name id pre e (w, []) c k h hc hn
  simp only at hf
  have hflag : (k.error || pre.any (finErr id) || (e != .success)) = true := by
    rcases herr with h1 | h1
    · simp [h1]
    · simp only [List.any_append, List.any_cons, List.any_nil, Bool.or_false, finErr, beq_self_eq_true, Bool.true_and,
        Bool.or_eq_true] at h1
      rcases h1 with h1 | h1 <;> simp [h1]
  split at hf
  · rename_i r hr
    right
    refine ⟨r, hf, ?_⟩
    have := finalReply_error c.exprange _ r (by simpa using hflag) hr
    simpa using this
  · exact Or.inl hf

/-- `fold_final`, through `applyOuts`, for a power command when no completion carried an error: success exactly when no entry
    of the arglist (as it is in the store at that moment) is classified unsuccessful -/
theorem applyOuts_final_power_clean (w : W) (name : Bytes) (id : Nat) (pre : List DOut) (e : ActErr) (c : Cli) (k : CmdC)
    (h : cliOf w id = some c) (hc : c.cmd = some k) (hn : pre.countP (isFin id) + 1 = k.pending)
    (hp : isPower k.com = true) (hclean : k.error = false ∧ (pre ++ [Dev2.Out.finish id e]).any (finErr id) = false) :
    let bad := (entriesOf (withStore w k .success)).any (·.result == 1)
    cliOf (applyOuts w name (pre ++ [Dev2.Out.finish id e])).1 id =
      some { c with cmd := none, toBuf := c.toBuf ++ pre.flatMap (outText name id) ++ (if bad then errLine else okLine) ++ prompt } := by
  intro bad
  rw [applyOuts_eq]
  have hf := fold_final name id pre e (w, []) c k h hc hn
  simp only at hf
  obtain ⟨h1, h2⟩ := hclean
  simp only [List.any_append, List.any_cons, List.any_nil, Bool.or_false, finErr, beq_self_eq_true, Bool.true_and,
    Bool.or_eq_false_iff] at h2
  have he : e = .success := by simpa using h2.2
  subst he
  rw [finalReply_power _ _ (by simpa using hp)] at hf
  simp only [h1, h2.1, Bool.or_self, bne_self_eq_false, Bool.false_or] at hf
  rw [hf]
  have : (entriesOf { k with error := false, args := (storeArgs w k.al).map argC }).any (·.result == 1) = bad := by
    rfl
  rw [this]
  simp [errPre_success, List.append_assoc]

/-- a state outside the three enumerators would be dropped by the range-compressed rendering -/
theorem partition_out_of_range_counterexample :
    let c : CmdC := { com := .status, names := ["a".toList, "b".toList], pending := 1, error := false,
                      args := [{ node := "a".toList, state := 3, result := 0, val := none }, { node := "b".toList, state := 2, result := 0, val := none }] }
    Covered c ∧ onNodes c ++ offNodes c ++ unkNodes c = ["b".toList] ∧
    finalReply true c = some (bstr "303 a: unknown\r\n303 b: on\r\n103 Query complete\r\n") := by decide +kernel

end Pm.Daemon.Reply
