import Pm.RunXTwo
import Pm.TwoRunEx
/-! Example runs for the non-vacuity examples of the `runX` statements of `Props/C11`: **the regex answers arrive in the second
pass of the run** (no run of `runPasses` has that).

World `Two.w3` (`Pm/IsolationProof.lean`): device `A` (node `a1`), clients 1 (descriptor 1000) and 2 (descriptor 1001), both with
`status a1` in flight; **no regex answer is pending**.  The passes are those of `Pm/TwoRunEx.lean`, preceded by a pass in which
nothing happens; the answers `Two.xs4` for the device's reply are fed before the second pass. -/
namespace Pm.Daemon.TwoRun.ExX
open Pm Pm.Client Pm.Daemon Pm.Daemon.Isolation Pm.Daemon.TwoRun

/-- a pass in which nothing happens -/
def p0 : PassIn := { now := 3500, acc := 0, con := [0], soe := [0], envs := [] }
/-- first run: nothing; then the device answers client 1's action (regex answers fed before this pass); then pass B of
    `Pm/TwoRunEx.lean` (a third client connects, client 1 asks again, client 2 sends `help`) -/
def qs : List PassX := [⟨p0, []⟩, ⟨Ex.pA, Two.xs4⟩, ⟨Ex.pB, []⟩]
/-- second run: descriptor 1001 is never reported writable; the same regex answers -/
def qs' : List PassX := qs.map (stuckInX 1001)

/-- nothing; then the device answers client 1's action (regex answers fed before the pass) and, in the second run, descriptor
    1001 reports `POLLERR`; then the device takes the bytes of client 2's action -/
def ppV : List (PassX × PassX) := [(⟨p0, []⟩, ⟨p0, []⟩), (⟨Ex.pV, Two.xs4⟩, ⟨Ex.pV', Two.xs4⟩), (⟨Ex.pW, []⟩, ⟨Ex.pW, []⟩)]

/-- the three stuck passes `qs`/`qs'`, pair by pair -/
def pp1 : List (PassX × PassX) := qs.map fun q => (q, stuckInX 1001 q)

/-- after them, the vanishing phase: a pass in which descriptor 1001 reports `POLLERR` in the second run only -/
def ppZ : List (PassX × PassX) := [(⟨Ex.pZ, []⟩, ⟨Ex.pZ', []⟩)]

/-- what evaluation has to establish about the hypotheses along the runs from `Two.w3` -/
theorem checked :
    (Ex.soleB 2 1001 Two.w3 = true ∧ Two.w3.pendingX = []) ∧ Ex.readerRunXB 1001 Two.w3 qs = true ∧
    Ex.faithfulXB 2 1001 Two.w3 qs' = true ∧ alongB (Ex.goneXB 1001) Two.w3 Two.w3 ppV = true ∧
    alongB (Ex.goneXB 1001) (runX Two.w3 (pp1.map (·.1))) (runX Two.w3 (pp1.map (·.2))) ppZ = true := by
  decide +kernel

theorem onlyS : ∀ c ∈ Two.w3.clients, c.fd = 1001 → c.id = 2 := (Ex.soleB_sound checked.1.1).1
theorem fresh : 1001 < 1000 + Two.w3.nacc := (Ex.soleB_sound checked.1.1).2
theorem noPending : Two.w3.pendingX = [] := checked.1.2

theorem readerRun : ReaderRunX 1001 Two.w3 qs := Ex.readerRunXB_sound _ _ checked.2.1

theorem faithful : FaithfulX 2 1001 Two.w3 qs' := Ex.faithfulXB_sound checked.2.2.1

/-- what the two runs end in: client 2's buffer holds 25 bytes in the first run and 42 in the second; everything else is the
    same; client 1's command is completed in pass number 1 — the second pass, the one the regex answers were fed before — in
    both runs -/
theorem outcome :
    (runX Two.w3 qs).clients.map (fun c => (c.id, c.fd, c.toBuf.length, c.cmd.isSome)) =
      [(1, 1000, 0, true), (2, 1001, 25, true), (3, 1002, 17, false)] ∧
    (runX Two.w3 qs').clients.map (fun c => (c.id, c.fd, c.toBuf.length, c.cmd.isSome)) =
      [(1, 1000, 0, true), (2, 1001, 42, true), (3, 1002, 17, false)] ∧
    (runX Two.w3 qs).devs.map (fun nd => nd.2.acts.map fun a => (a.clientId, a.arglist)) = [[(2, 2), (1, 3)]] ∧
    replyPassRunX Two.w3 qs 1 = some 1 ∧ replyPassRunX Two.w3 qs' 1 = some 1 := by decide +kernel

/-- the same passes without the regex answers (all a run of `runPasses` from `Two.w3` can have): client 1's command is never completed -/
theorem without_answer : replyPassRunX Two.w3 [⟨p0, []⟩, ⟨Ex.pA, []⟩, ⟨Ex.pB, []⟩] 1 = none := by decide +kernel

/-! ### the client that vanishes -/

theorem brel0 : BRel 1001 Two.w3 Two.w3 := (ARel.init 2 1001 Two.w3 onlyS fresh).toB

theorem goneRun : AlongX (GoneX 1001) Two.w3 Two.w3 ppV := AlongX.ofB Ex.goneXB_sound _ _ _ checked.2.2.2.1

theorem outcomeV :
    ids (runX Two.w3 (ppV.map (·.1))) = [1, 2] ∧ ids (runX Two.w3 (ppV.map (·.2))) = [1] ∧
    (runX Two.w3 (ppV.map (·.1))).devs.map (fun nd => (nd.2.acts.map fun a => (a.clientId, a.arglist), nd.2.toBuf)) = [([(2, 2)], [])] ∧
    (runX Two.w3 (ppV.map (·.2))).devs.map (fun nd => (nd.2.acts.map fun a => (a.clientId, a.arglist), nd.2.toBuf)) = [([(2, 2)], [])] ∧
    (cliRec (runX Two.w3 (ppV.map (·.1))) 1).map (·.cmd.isNone) = some true ∧
    (cliRec (runX Two.w3 (ppV.map (·.2))) 1).map (·.cmd.isNone) = some true := by decide +kernel

theorem goneAfterStuck : AlongX (GoneX 1001) (runX Two.w3 (pp1.map (·.1))) (runX Two.w3 (pp1.map (·.2))) ppZ :=
  AlongX.ofB Ex.goneXB_sound _ _ _ checked.2.2.2.2

theorem outcomeZ :
    ids (runX Two.w3 ((pp1 ++ ppZ).map (·.1))) = [1, 2, 3] ∧
    ids (runX Two.w3 ((pp1 ++ ppZ).map (·.2))) = [1, 3] := by decide +kernel

end Pm.Daemon.TwoRun.ExX

section AxiomChecks
open Pm.Daemon.TwoRun
/-- info: 'Pm.Daemon.TwoRun.ExX.readerRun' depends on axioms: [propext, Classical.choice, Quot.sound] -/
#guard_msgs in #print axioms ExX.readerRun
/-- info: 'Pm.Daemon.TwoRun.ExX.faithful' depends on axioms: [propext, Classical.choice, Quot.sound] -/
#guard_msgs in #print axioms ExX.faithful
/-- info: 'Pm.Daemon.TwoRun.ExX.goneRun' depends on axioms: [propext, Classical.choice, Quot.sound] -/
#guard_msgs in #print axioms ExX.goneRun
end AxiomChecks
