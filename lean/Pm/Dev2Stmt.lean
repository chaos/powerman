import Pm.Dev2
import Pm.ToBuf
/-! What one call of `_process_stmt` can do, stated once (`Step`): every proof about the statement an action stands at — what it
    keeps, what it writes, how it moves the stack of contexts — is a case analysis of `Step` (or one of the projections at the end of
    this file).  The seven `_process_*` of `Pm/Dev2.lean` (for the nine statement kinds) are opened here, once per constructor, in
    the `_sound` lemmas; `Pm/InterpRef.lean` reads the outcomes of one function off the constructors through these lemmas, and
    evaluates the cuts of this file (`stmtSend'`, `stmtDelay'`, `stmtIf'`, `stmtForeach'`) where C08 speaks of a context that `Step`
    does not cover.  The names the outcomes are written in (`sendText`, `nodeState`, `foreachList`, …) are those of the reference
    semantics of C08 (`Pm/InterpRef.lean`, `Pm/InterpSim.lean`). -/
namespace Pm.Dev2.Interp

/-- the text `_process_send` formats: `none` = the `hostlist_sort` assertion (F19) stops the daemon -/
def sendText (fmt : Bytes) : Option (List Plug) → Option Bytes
  | some (p :: q :: r) => (rangedNames ((p :: q :: r).map (·.name))).map fun n => hsprintf fmt (some n)
  | some [p] => some (hsprintf fmt (some p.name))
  | _ => some (hsprintf fmt none)

/-- the telemetry line of a `send` of `s` with `d.toBuf` queued: produced unless the write overran `dev->to`
    (`_process_send`: `else if (dropped > 0) err(…) else { … vpf_fun(…) }`) -/
def sendTele (d : Dev) (tele : Bool) (cid : Nat) (s : Bytes) : List Out :=
  if toOverrun d.toBuf s then [] else if tele then teleMem cid "send(dev): '" s else []

/-- `stmtSend` cut into pieces: the three-way choice of the `%s` argument is `sendText`; the text is queued behind what is
    queued (`clipTo`: `dev->to` holds 65536 bytes, the oldest give way) -/
def stmtSend' (d : Dev) (a : Action) (o : Oracle) (e : ExecCtx) (fmt : Bytes) : StepR :=
  if !e.processing then
    match sendText fmt e.plugs with
    | none => ⟨d, a, o, [.abortAssert "hostlist_sort assert in _process_send"], true⟩
    | some s =>
      if (d.toBuf ++ s).isEmpty then
        ⟨{ d with toBuf := clipTo (d.toBuf ++ s) }, setTop a { e with processing := false }, o,
          [.sent s] ++ sendTele d a.telemetry a.clientId s, true⟩
      else
        ⟨{ d with toBuf := clipTo (d.toBuf ++ s) }, setTop a { e with processing := true }, o,
          [.sent s] ++ sendTele d a.telemetry a.clientId s, false⟩
  else if d.toBuf.isEmpty then ⟨d, setTop a { e with processing := false }, o, [], true⟩
  else ⟨d, a, o, [], false⟩

theorem stmtSend_eq (d : Dev) (a : Action) (o : Oracle) (e : ExecCtx) (fmt : Bytes) :
    stmtSend d a o e fmt = stmtSend' d a o e fmt := by
  obtain ⟨blk, pos, plugs, itr, cp, proc⟩ := e
  unfold stmtSend stmtSend' sendTele
  simp only [clipTo_isEmpty]
  rcases plugs with _ | _ | ⟨p, _ | ⟨q, r⟩⟩ <;> cases proc <;> rfl

/-- what `_getregex_buf` hands to `regexec`: the buffer with NUL bytes turned into 0xff -/
def rxSubject (b : Bytes) : Bytes := b.map fun x => if x == 0 then 255 else x

def delayTele (a : Action) (us : Time) : List Out :=
  if a.telemetry then [Out.telemetry a.clientId (str s!"delay(dev): {us / 1000000}.{String.ofList (List.replicate (6 - (toString (us % 1000000)).length) '0')}{us % 1000000}")] else []

/-- the second half of `_process_delay`: has the time passed? -/
def stmtDelayTail (d : Dev) (a : Action) (o : Oracle) (tele : List Out) (now : Time) (us : Time) : StepR :=
  if d.shortCircuitDelay || now ≥ a.delayStart + us then ⟨d, setTop a { (topCtx a) with processing := false }, o, tele, true⟩
  else ⟨{ d with wake := some (a.delayStart + us - now) }, a, o, tele, false⟩

/-- `stmtDelay` cut into its two entries -/
def stmtDelay' (d : Dev) (a : Action) (o : Oracle) (e : ExecCtx) (now : Time) (us : Time) : StepR :=
  if !e.processing then
    stmtDelayTail d (setTop { a with delayStart := now } { e with processing := true }) o (delayTele a us) now us
  else stmtDelayTail d a o [] now us

theorem stmtDelay_eq (d : Dev) (a : Action) (o : Oracle) (e : ExecCtx) (now : Time) (us : Time) :
    stmtDelay d a o e now us = stmtDelay' d a o e now us := by
  unfold stmtDelay stmtDelay' delayTele
  cases e.processing <;> rfl

/-- the node an `ifon`/`ifoff` looks at: that of the first plug of the context -/
def ctxNode : Option (List Plug) → Option Bytes
  | some (p :: _) => p.node
  | _ => none

/-- the state this action's arglist holds for a node (`arglist_find`; a NULL node finds nothing) -/
def nodeState (d : Dev) (al : Nat) : Option Bytes → PState
  | some n => match (getArgs d al).find? (fun (g : Arg) => g.node == n) with
    | some g => g.state
    | none => .unknown
  | none => .unknown

/-- the condition of an `ifon` (`wantOn`) or `ifoff` on a plug state: an unknown state satisfies neither -/
def condHolds (wantOn : Bool) (st : PState) : Bool := (wantOn && st == .on) || (!wantOn && st == .off)

/-- the context `_process_foreach` and `_process_ifonoff` push for a body (and a fresh action starts in): first statement, flags clear -/
def bodyCtx (body : List Stmt) (plugs : Option (List Plug)) : ExecCtx :=
  { block := body, pos := 0, plugs := plugs, plugItr := none, plugCopy := none, processing := false }

/-- `stmtIf` cut into pieces -/
def stmtIf' (d : Dev) (a : Action) (o : Oracle) (e : ExecCtx) (body : List Stmt) (wantOn : Bool) : StepR :=
  if e.processing then ⟨d, setTop a { e with processing := false }, o, [], true⟩ else
  if condHolds wantOn (nodeState d a.arglist (ctxNode e.plugs)) then
    ⟨d, { a with exec := bodyCtx body (some (e.plugs.getD [])) :: { e with processing := true } :: a.exec.drop 1 }, o, [], true⟩
  else if nodeState d a.arglist (ctxNode e.plugs) == .unknown then ⟨d, { a with errnum := .expfail }, o, [], true⟩
  else ⟨d, a, o, [], true⟩

theorem stmtIf_eq (d : Dev) (a : Action) (o : Oracle) (e : ExecCtx) (body : List Stmt) (wantOn : Bool) :
    stmtIf d a o e body wantOn = stmtIf' d a o e body wantOn := by
  obtain ⟨blk, pos, plugs, itr, cp, proc⟩ := e
  rcases plugs with _ | _ | ⟨⟨nm, _ | n⟩, l⟩
  · rfl
  · rfl
  · rfl
  · rfl

/-- the arglist after `setplugstate` wrote state `st` and text `s` for `node` -/
def writeState (as : List Arg) (node : Bytes) (st : PState) (s : Bytes) : List Arg :=
  as.map fun g => if g.node == node then { g with state := st, val := some s } else g

/-- … after `setresult` wrote result `res` and text `s` for `node` -/
def writeResult (as : List Arg) (node : Bytes) (res : PResult) (s : Bytes) : List Arg :=
  as.map fun g => if g.node == node then { g with result := res, val := some s } else g

/-- the script argument: the name of the first plug of the context -/
def ctxName : Option (List Plug) → Option Bytes
  | some (p :: _) => some p.name
  | _ => none

/-- the plug a `setplugstate` is about: literal, else capture, else script argument -/
def chosenName (d : Dev) (lit : Option Bytes) (plugMp : Int) (target : Option Bytes) : Option Bytes :=
  match lit with
  | some n => some n
  | none => match subOf d plugMp with
    | some n => some n
    | none => target

/-- `stmtSetplugstate` with the context reduced to the script argument -/
def setplugstateCore (d : Dev) (a : Action) (o : Oracle) (target : Option Bytes) (lit : Option Bytes) (plugMp statMp : Int)
    (interps : List (PState × Nat)) : StepR :=
  match chosenName d lit plugMp target with
  | none => ⟨d, a, o, [], true⟩
  | some pn =>
    match subOf d statMp, findPlug d pn with
    | some s, some plug =>
      ⟨setArgs d a.arglist (writeState (getArgs d a.arglist) (plug.node.getD []) (pickState askRx s interps o []).2.1 s),
        a, (pickState askRx s interps o []).1, (pickState askRx s interps o []).2.2, true⟩
    | _, _ => ⟨d, a, o, [], true⟩

theorem stmtSetplugstate_eq (d : Dev) (a : Action) (o : Oracle) (e : ExecCtx) (lit : Option Bytes) (plugMp statMp : Int)
    (interps : List (PState × Nat)) :
    stmtSetplugstate d a o e lit plugMp statMp interps = setplugstateCore d a o (ctxName e.plugs) lit plugMp statMp interps := by
  obtain ⟨blk, pos, plugs, itr, cp, proc⟩ := e
  unfold stmtSetplugstate setplugstateCore chosenName writeState
  cases lit with
  | some n => rfl
  | none =>
    cases subOf d plugMp with
    | some n => rfl
    | none => rcases plugs with _ | _ | ⟨p, l⟩ <;> rfl

/-- the diagnostic a `setresult` sends to the client when the result is not `success` -/
def resultDiag (d : Dev) (a : Action) (node : Bytes) (res : PResult) (s : Bytes) : List Out :=
  if (getArgs d a.arglist).any (·.node == node) && res != .success then
    [Out.diag a.clientId (node ++ str ": " ++ (s.takeWhile fun b => b != 13 && b != 10).take 1023)] else []

/-- the plugs a `foreach` of this context runs over: the device's, or for a ranged script the targeted ones -/
def foreachList (d : Dev) (a : Action) (e : ExecCtx) : List Plug :=
  if isRanged a.com then (if e.plugItr.isNone then e.plugCopy.getD (e.plugs.getD []) else e.plugCopy.getD [])
  else d.plugs

/-- the context once the iterator exists -/
def foreachCtx (a : Action) (e : ExecCtx) : ExecCtx :=
  if e.plugItr.isNone && isRanged a.com then
    { e with plugCopy := some (e.plugCopy.getD (e.plugs.getD [])), plugItr := some 0 }
  else if e.plugItr.isNone then { e with plugItr := some 0 } else e

/-- `stmtForeach` cut into pieces -/
def stmtForeach' (d : Dev) (a : Action) (o : Oracle) (e : ExecCtx) (body : List Stmt) (isNode : Bool) : StepR :=
  match nextPlug isNode (foreachList d a e) (e.plugItr.getD 0) ((foreachList d a e).length + 1) with
  | some (p, k) =>
    ⟨d, { a with exec := bodyCtx body (some [p]) :: { foreachCtx a e with plugItr := some k } :: a.exec.drop 1 }, o, [], true⟩
  | none => ⟨d, setTop a { foreachCtx a e with plugItr := none }, o, [], true⟩

theorem stmtForeach_eq (d : Dev) (a : Action) (o : Oracle) (e : ExecCtx) (body : List Stmt) (isNode : Bool) :
    stmtForeach d a o e body isNode = stmtForeach' d a o e body isNode := by
  obtain ⟨blk, pos, plugs, itr, cp, proc⟩ := e
  unfold stmtForeach stmtForeach' foreachList foreachCtx bodyCtx
  cases itr <;> cases isRanged a.com <;> rfl

/-- `foreachCtx` touches the iterator and the plug copy only -/
structure ForeachCtxKeeps (a : Action) (e : ExecCtx) : Prop where
  block : (foreachCtx a e).block = e.block
  pos : (foreachCtx a e).pos = e.pos
  plugs : (foreachCtx a e).plugs = e.plugs
  processing : (foreachCtx a e).processing = e.processing

theorem foreachCtx_fields (a : Action) (e : ExecCtx) : ForeachCtxKeeps a e := by
  constructor <;> (unfold foreachCtx; repeat' split) <;> rfl

/-- what a statement is, as far as the control structure is concerned -/
inductive Kind where
  | leaf
  | each (isNode : Bool) (body : List Stmt)
  | cond (wantOn : Bool) (body : List Stmt)

def _root_.Pm.Dev2.Stmt.kind : Stmt → Kind
  | .foreachplug b => .each false b
  | .foreachnode b => .each true b
  | .ifon b => .cond true b
  | .ifoff b => .cond false b
  | _ => .leaf

theorem topCtx_of_exec (a : Action) (e : ExecCtx) (rest : List ExecCtx) (h : a.exec = e :: rest) : topCtx a = e := by
  simp [topCtx, h]

theorem act_of_exec (a : Action) (e : ExecCtx) (rest : List ExecCtx) (p : Bool) (h : a.exec = e :: rest)
    (hp : e.processing = p) : a = { a with exec := { e with processing := p } :: rest } := by
  subst hp; rw [← h]

theorem processStmt_at (d : Dev) (a : Action) (o : Oracle) (now : Time) (e : ExecCtx) (rest : List ExecCtx)
    (h : a.exec = e :: rest) (s : Stmt) (hcur : e.block[e.pos]? = some s) :
    processStmt d a o now = match s with
      | .expect pat => stmtExpect d a o pat
      | .send fmt => stmtSend d a o e fmt
      | .delay us => stmtDelay d a o e now us
      | .setplugstate lit plugMp statMp interps => stmtSetplugstate d a o e lit plugMp statMp interps
      | .setresult plugMp statMp interps => stmtSetresult d a o plugMp statMp interps
      | .foreachplug body => stmtForeach d a o e body false
      | .foreachnode body => stmtForeach d a o e body true
      | .ifon body => stmtIf d a o e body true
      | .ifoff body => stmtIf d a o e body false := by
  have ht := topCtx_of_exec a e rest h
  unfold processStmt
  simp only [ht, hcur]
  cases s <;> rfl

/-- **Everything `_process_stmt` can do** when the action's stack is `e :: rest` and `e` stands at statement `s`: one constructor
    per way out of the seven `_process_*` (nine statement kinds), with the condition under which it is taken and the result written out as a record over
    `d` and `a` — so that "this field is kept", "only `expect` touches the match object", "the stack grows by at most one context"
    are read off by `cases` (`rfl` in all constructors but the one or two that matter).  `expect`: nothing buffered / no match /
    match; `send`: the `hostlist_sort` assertion / first visit / later visits (finished when `dev->to` has drained); `delay`: over /
    not yet (the only writer of `wake`); `setplugstate`, `setresult`: no name, no capture or no such plug / one write to the action's arglist;
    `foreach`: next plug (body pushed) / list exhausted; `if`: back from the body / taken (body pushed) / state unknown (the
    action fails) / other state.  `processStmt_step` and `Step.sound` tie it to `processStmt`: it holds of the result and of nothing
    else; `processStmt_ind` is the form for facts that hold without a hypothesis on the stack.  `e` and `rest` are parameters:
    `Step` does not itself say `a.exec = e :: rest`, so the projections that speak of the stack of `a` (`shape`, `flag`, `push`)
    and `Step.sound` take that as a hypothesis, the others (`wake`, `sameXm`, `stalled`) do not need it. -/
inductive Step (d : Dev) (a : Action) (o : Oracle) (now : Time) (e : ExecCtx) (rest : List ExecCtx) : Stmt → StepR → Prop
  | expectEmpty (pat) : d.fromBuf = [] → Step d a o now e rest (.expect pat) ⟨recycle d, a, o, [], false⟩
  | expectNo (pat) : d.fromBuf ≠ [] → (askRx o pat (rxSubject d.fromBuf)).2.1 = none →
      Step d a o now e rest (.expect pat)
        ⟨{ recycle d with xmUsed := true }, a, (askRx o pat (rxSubject d.fromBuf)).1, (askRx o pat (rxSubject d.fromBuf)).2.2, false⟩
  | expectYes (pat offs) : d.fromBuf ≠ [] → (askRx o pat (rxSubject d.fromBuf)).2.1 = some offs →
      Step d a o now e rest (.expect pat)
        ⟨{ d with xmUsed := true, xmResult := true, xmStr := some (rxSubject d.fromBuf), xmOffs := offs,
                  fromBuf := d.fromBuf.drop (offs.headD (0, 0)).2.toNat }, a, (askRx o pat (rxSubject d.fromBuf)).1,
         (askRx o pat (rxSubject d.fromBuf)).2.2 ++
           (if a.telemetry then teleMem a.clientId "recv(dev): '" ((rxSubject d.fromBuf).take (offs.headD (0, 0)).2.toNat) else []),
         true⟩
  | sendAbort (fmt) : e.processing = false → sendText fmt e.plugs = none →
      Step d a o now e rest (.send fmt) ⟨d, a, o, [.abortAssert "hostlist_sort assert in _process_send"], true⟩
  | sendFresh (fmt s) : e.processing = false → sendText fmt e.plugs = some s →
      Step d a o now e rest (.send fmt)
        ⟨{ d with toBuf := clipTo (d.toBuf ++ s) }, { a with exec := { e with processing := !(d.toBuf ++ s).isEmpty } :: rest }, o,
         .sent s :: sendTele d a.telemetry a.clientId s, (d.toBuf ++ s).isEmpty⟩
  | sendAgain (fmt) : e.processing = true →
      Step d a o now e rest (.send fmt) ⟨d, { a with exec := { e with processing := !d.toBuf.isEmpty } :: rest }, o, [], d.toBuf.isEmpty⟩
  | delayDone (us) : (d.shortCircuitDelay = true ∨ now ≥ (if e.processing then a.delayStart else now) + us) →
      Step d a o now e rest (.delay us)
        ⟨d, { a with delayStart := if e.processing then a.delayStart else now, exec := { e with processing := false } :: rest }, o,
         if e.processing then [] else delayTele a us, true⟩
  | delayWait (us) : d.shortCircuitDelay = false → now < (if e.processing then a.delayStart else now) + us →
      Step d a o now e rest (.delay us)
        ⟨{ d with wake := some ((if e.processing then a.delayStart else now) + us - now) },
         { a with delayStart := if e.processing then a.delayStart else now, exec := { e with processing := true } :: rest }, o,
         if e.processing then [] else delayTele a us, false⟩
  | setNone (lit pm sm is) : (chosenName d lit pm (ctxName e.plugs) = none ∨ subOf d sm = none ∨
        ∃ pn, chosenName d lit pm (ctxName e.plugs) = some pn ∧ findPlug d pn = none) →
      Step d a o now e rest (.setplugstate lit pm sm is) ⟨d, a, o, [], true⟩
  | setWrite (lit pm sm is) (pn s plug) : chosenName d lit pm (ctxName e.plugs) = some pn → subOf d sm = some s →
      findPlug d pn = some plug →
      Step d a o now e rest (.setplugstate lit pm sm is)
        ⟨setArgs d a.arglist (writeState (getArgs d a.arglist) (plug.node.getD []) (pickState askRx s is o []).2.1 s), a,
         (pickState askRx s is o []).1, (pickState askRx s is o []).2.2, true⟩
  | resNone (pm sm is) : (subOf d pm = none ∨ subOf d sm = none ∨ ∃ pn, subOf d pm = some pn ∧ findPlug d pn = none) →
      Step d a o now e rest (.setresult pm sm is) ⟨d, a, o, [], true⟩
  | resWrite (pm sm is) (pn s plug) : subOf d pm = some pn → subOf d sm = some s → findPlug d pn = some plug →
      Step d a o now e rest (.setresult pm sm is)
        ⟨setArgs d a.arglist (writeResult (getArgs d a.arglist) (plug.node.getD []) (pickResult askRx s is o []).2.1 s), a,
         (pickResult askRx s is o []).1,
         (pickResult askRx s is o []).2.2 ++ resultDiag d a (plug.node.getD []) (pickResult askRx s is o []).2.1 s, true⟩
  | eachNext (s n b p k) : s.kind = .each n b →
      nextPlug n (foreachList d a e) (e.plugItr.getD 0) ((foreachList d a e).length + 1) = some (p, k) →
      Step d a o now e rest s
        ⟨d, { a with exec := bodyCtx b (some [p]) :: { foreachCtx a e with plugItr := some k } :: rest }, o, [], true⟩
  | eachDone (s n b) : s.kind = .each n b →
      nextPlug n (foreachList d a e) (e.plugItr.getD 0) ((foreachList d a e).length + 1) = none →
      Step d a o now e rest s ⟨d, { a with exec := { foreachCtx a e with plugItr := none } :: rest }, o, [], true⟩
  | ifReturn (s w b) : s.kind = .cond w b → e.processing = true →
      Step d a o now e rest s ⟨d, { a with exec := { e with processing := false } :: rest }, o, [], true⟩
  | ifTaken (s w b) : s.kind = .cond w b → e.processing = false → condHolds w (nodeState d a.arglist (ctxNode e.plugs)) = true →
      Step d a o now e rest s
        ⟨d, { a with exec := bodyCtx b (some (e.plugs.getD [])) :: { e with processing := true } :: rest }, o, [], true⟩
  | ifUnknown (s w b) : s.kind = .cond w b → e.processing = false → condHolds w (nodeState d a.arglist (ctxNode e.plugs)) = false →
      nodeState d a.arglist (ctxNode e.plugs) = .unknown → Step d a o now e rest s ⟨d, { a with errnum := .expfail }, o, [], true⟩
  | ifOther (s w b) : s.kind = .cond w b → e.processing = false → condHolds w (nodeState d a.arglist (ctxNode e.plugs)) = false →
      nodeState d a.arglist (ctxNode e.plugs) ≠ .unknown → Step d a o now e rest s ⟨d, a, o, [], true⟩

/-! ### `Step` is exact: it holds of the result of `processStmt` and of nothing else

The seven `_process_*` are opened once per constructor, in the `_sound` lemmas: a `Step` determines what the function returns.
`expect`, `setplugstate` and `setresult` do not look at the stack; `foreach` and `if` only at what lies below its top
(`a.exec.drop 1 = rest`); `send` and `delay` hand the action back as it is while the bytes are not out or the time not over, and
there `e` has to be the top (`hin`). -/

variable {d : Dev} {a : Action} {o : Oracle} {now : Time} {e : ExecCtx} {rest : List ExecCtx} {r : StepR}

theorem expect_sound {pat : Nat} (h : Step d a o now e rest (.expect pat) r) : stmtExpect d a o pat = r := by
  unfold stmtExpect; dsimp only
  -- the engine's answer, named, in the two outcomes that ask it
  have asked : ∀ ans : Option (List (Int × Int)), (askRx o pat (rxSubject d.fromBuf)).2.1 = ans →
      askRx o pat (rxSubject d.fromBuf) = ((askRx o pat (rxSubject d.fromBuf)).1, ans, (askRx o pat (rxSubject d.fromBuf)).2.2) :=
    fun _ h => h ▸ rfl
  unfold rxSubject at asked
  cases h with
  | expectEmpty _ hb => rw [if_pos (by rw [hb]; rfl)]; rfl
  | expectNo _ hb hm => rw [if_neg (by simpa using hb), asked _ hm]; rfl
  | expectYes _ offs hb hm => rw [if_neg (by simpa using hb), asked _ hm]; rfl
  | _ => contradiction

theorem send_sound {fmt : Bytes} (h : Step d a o now e rest (.send fmt) r) (hrest : a.exec.drop 1 = rest)
    (hin : e.processing = true → a.exec = e :: rest) : stmtSend d a o e fmt = r := by
  rw [stmtSend_eq]; unfold stmtSend'; subst hrest
  cases h with
  | sendAbort _ hp hs => rw [if_pos (by rw [hp]; rfl), hs]
  | sendFresh _ t hp hs =>
    rw [if_pos (by rw [hp]; rfl), hs]; dsimp only
    cases (d.toBuf ++ t).isEmpty
    · rw [if_neg (by decide)]; rfl
    · rw [if_pos rfl]; rfl
  | sendAgain _ hp =>
    rw [if_neg (by rw [hp]; decide)]
    cases d.toBuf.isEmpty
    · rw [if_neg (by decide)]; exact congrArg (StepR.mk d · o [] false) (act_of_exec a e _ true (hin hp) hp)
    · rw [if_pos rfl]; rfl
  | _ => contradiction

theorem delay_sound {us : Time} (h : Step d a o now e rest (.delay us) r) (hrest : a.exec.drop 1 = rest)
    (hin : e.processing = true → a.exec = e :: rest) : stmtDelay d a o e now us = r := by
  -- both entries come to `stmtDelayTail` on the action with the flag set
  have entry : stmtDelay d a o e now us =
      stmtDelayTail d { a with delayStart := if e.processing then a.delayStart else now, exec := { e with processing := true } :: rest } o
        (if e.processing then [] else delayTele a us) now us := by
    rw [stmtDelay_eq]; unfold stmtDelay'
    by_cases hp : e.processing = true
    · rw [if_neg (by rw [hp]; decide), if_pos hp, if_pos hp]
      exact congrArg (stmtDelayTail d · o [] now us) (act_of_exec a e rest true (hin hp) hp)
    · rw [if_pos (by simpa using hp), if_neg hp, if_neg hp, ← hrest]; rfl
  rw [entry]; unfold stmtDelayTail
  cases h with
  | delayDone _ hc => rw [if_pos (by simpa using hc)]; rfl
  | delayWait _ hs hlt => rw [if_neg (by simp only [Bool.or_eq_true, decide_eq_true_eq, not_or, Nat.not_le]; exact ⟨by rw [hs]; decide, hlt⟩)]
  | _ => contradiction

theorem set_sound {lit : Option Bytes} {pm sm : Int} {is : List (PState × Nat)}
    (h : Step d a o now e rest (.setplugstate lit pm sm is) r) : stmtSetplugstate d a o e lit pm sm is = r := by
  rw [stmtSetplugstate_eq]; unfold setplugstateCore
  cases h with
  | setNone _ _ _ _ hg =>
    rcases hg with hg | hg | ⟨pn, hg, hf⟩
    · rw [hg]
    · cases chosenName d lit pm (ctxName e.plugs) with
      | none => rfl
      | some pn => dsimp only; rw [hg]
    · rw [hg]; dsimp only; rw [hf]; cases subOf d sm <;> rfl
  | setWrite _ _ _ _ pn s plug hn hs hf => rw [hn]; dsimp only; rw [hs, hf]
  | _ => contradiction

theorem res_sound {pm sm : Int} {is : List (PResult × Nat)} (h : Step d a o now e rest (.setresult pm sm is) r) :
    stmtSetresult d a o pm sm is = r := by
  unfold stmtSetresult
  cases h with
  | resNone _ _ _ hg =>
    rcases hg with hg | hg | ⟨pn, hg, hf⟩
    · rw [hg]
    · cases subOf d pm with
      | none => rfl
      | some pn => dsimp only; rw [hg]
    · rw [hg]; dsimp only; rw [hf]; cases subOf d sm <;> rfl
  | resWrite _ _ _ pn s plug hn hs hf => rw [hn]; dsimp only; rw [hs, hf]; rfl
  | _ => contradiction

theorem each_sound {s : Stmt} {n : Bool} {b : List Stmt} (h : Step d a o now e rest s r) (hk : s.kind = .each n b)
    (hrest : a.exec.drop 1 = rest) : stmtForeach d a o e b n = r := by
  rw [stmtForeach_eq]; unfold stmtForeach'; subst hrest
  cases h with
  | eachNext _ _ _ _ _ hk' hnp => cases hk.symm.trans hk'; rw [hnp]
  | eachDone _ _ _ hk' hnp => cases hk.symm.trans hk'; rw [hnp]; rfl
  | ifReturn _ _ _ hk' | ifTaken _ _ _ hk' | ifUnknown _ _ _ hk' | ifOther _ _ _ hk' => cases hk.symm.trans hk'
  | _ => cases hk

theorem if_sound {s : Stmt} {w : Bool} {b : List Stmt} (h : Step d a o now e rest s r) (hk : s.kind = .cond w b)
    (hrest : a.exec.drop 1 = rest) : stmtIf d a o e b w = r := by
  rw [stmtIf_eq]; unfold stmtIf'; subst hrest
  cases h with
  | ifReturn _ _ _ hk' hp => rw [if_pos hp]; rfl
  | ifTaken _ _ _ hk' hp hc => cases hk.symm.trans hk'; rw [if_neg (by rw [hp]; decide), if_pos hc]
  | ifUnknown _ _ _ hk' hp hc hu =>
    cases hk.symm.trans hk'; rw [if_neg (by rw [hp]; decide), if_neg (by rw [hc]; decide), if_pos (by rw [hu]; rfl)]
  | ifOther _ _ _ hk' hp hc hu =>
    cases hk.symm.trans hk'; rw [if_neg (by rw [hp]; decide), if_neg (by rw [hc]; decide), if_neg (by simpa using hu)]
  | eachNext _ _ _ _ _ hk' | eachDone _ _ _ hk' => cases hk.symm.trans hk'
  | _ => cases hk

/-- **`Step` is the semantics of `_process_stmt`**: with `processStmt_step`, `Step d a o now e rest s r` holds of exactly one `r`,
    the result of `processStmt` — so that what a second run does on a device, oracle or queue that differs where no premise
    looks is read off the constructor the first run took -/
theorem Step.sound {s : Stmt} (h : Step d a o now e rest s r) (hex : a.exec = e :: rest) (hcur : e.block[e.pos]? = some s) :
    processStmt d a o now = r := by
  have hrest : a.exec.drop 1 = rest := by rw [hex]; rfl
  rw [processStmt_at d a o now e rest hex s hcur]
  cases s with
  | expect pat => exact expect_sound h
  | send fmt => exact send_sound h hrest fun _ => hex
  | delay us => exact delay_sound h hrest fun _ => hex
  | setplugstate lit pm sm is => exact set_sound h
  | setresult pm sm is => exact res_sound h
  | foreachplug b | foreachnode b => exact each_sound h rfl hrest
  | ifon b | ifoff b => exact if_sound h rfl hrest

/-- some way out is always taken: the conditions of the constructors of a statement kind cover all cases -/
theorem Step.total (d : Dev) (a : Action) (o : Oracle) (now : Time) (e : ExecCtx) (rest : List ExecCtx) (s : Stmt) :
    ∃ r, Step d a o now e rest s r := by
  have each : ∀ n b, s.kind = .each n b → ∃ r, Step d a o now e rest s r := fun n b hk => by
    cases hnp : nextPlug n (foreachList d a e) (e.plugItr.getD 0) ((foreachList d a e).length + 1) with
    | none => exact ⟨_, .eachDone s n b hk hnp⟩
    | some pk => exact ⟨_, .eachNext s n b pk.1 pk.2 hk hnp⟩
  have cond : ∀ w b, s.kind = .cond w b → ∃ r, Step d a o now e rest s r := fun w b hk => by
    cases hp : e.processing with
    | true => exact ⟨_, .ifReturn s w b hk hp⟩
    | false =>
      cases hc : condHolds w (nodeState d a.arglist (ctxNode e.plugs)) with
      | true => exact ⟨_, .ifTaken s w b hk hp hc⟩
      | false =>
        by_cases hu : nodeState d a.arglist (ctxNode e.plugs) = .unknown
        · exact ⟨_, .ifUnknown s w b hk hp hc hu⟩
        · exact ⟨_, .ifOther s w b hk hp hc hu⟩
  cases s with
  | expect pat =>
    by_cases hb : d.fromBuf = []
    · exact ⟨_, .expectEmpty pat hb⟩
    · cases hm : (askRx o pat (rxSubject d.fromBuf)).2.1 with
      | none => exact ⟨_, .expectNo pat hb hm⟩
      | some offs => exact ⟨_, .expectYes pat offs hb hm⟩
  | send fmt =>
    cases hp : e.processing with
    | true => exact ⟨_, .sendAgain fmt hp⟩
    | false =>
      cases hs : sendText fmt e.plugs with
      | none => exact ⟨_, .sendAbort fmt hp hs⟩
      | some t => exact ⟨_, .sendFresh fmt t hp hs⟩
  | delay us =>
    by_cases hc : d.shortCircuitDelay = true ∨ now ≥ (if e.processing then a.delayStart else now) + us
    · exact ⟨_, .delayDone us hc⟩
    · exact ⟨_, .delayWait us (by simpa using (not_or.mp hc).1) (Nat.lt_of_not_le (not_or.mp hc).2)⟩
  | setplugstate lit pm sm is =>
    cases hn : chosenName d lit pm (ctxName e.plugs) with
    | none => exact ⟨_, .setNone lit pm sm is (.inl hn)⟩
    | some pn =>
      cases hs : subOf d sm with
      | none => exact ⟨_, .setNone lit pm sm is (.inr (.inl hs))⟩
      | some t =>
        cases hf : findPlug d pn with
        | none => exact ⟨_, .setNone lit pm sm is (.inr (.inr ⟨pn, hn, hf⟩))⟩
        | some plug => exact ⟨_, .setWrite lit pm sm is pn t plug hn hs hf⟩
  | setresult pm sm is =>
    cases hn : subOf d pm with
    | none => exact ⟨_, .resNone pm sm is (.inl hn)⟩
    | some pn =>
      cases hs : subOf d sm with
      | none => exact ⟨_, .resNone pm sm is (.inr (.inl hs))⟩
      | some t =>
        cases hf : findPlug d pn with
        | none => exact ⟨_, .resNone pm sm is (.inr (.inr ⟨pn, hn, hf⟩))⟩
        | some plug => exact ⟨_, .resWrite pm sm is pn t plug hn hs hf⟩
  | foreachplug b => exact each false b rfl
  | foreachnode b => exact each true b rfl
  | ifon b => exact cond true b rfl
  | ifoff b => exact cond false b rfl

theorem processStmt_step {s : Stmt} (hex : a.exec = e :: rest) (hcur : e.block[e.pos]? = some s) :
    Step d a o now e rest s (processStmt d a o now) :=
  let ⟨_, h⟩ := Step.total d a o now e rest s
  h.sound hex hcur ▸ h

theorem expect_step (pat : Nat) : Step d a o now e rest (.expect pat) (stmtExpect d a o pat) :=
  let ⟨_, h⟩ := Step.total d a o now e rest (.expect pat)
  expect_sound h ▸ h

theorem processStmt_null (d : Dev) (a : Action) (o : Oracle) (now : Time) (h : (topCtx a).block[(topCtx a).pos]? = none) :
    processStmt d a o now = ⟨d, a, o, [.abortAssert "cur == NULL"], true⟩ := by
  unfold processStmt; simp only [h]

/-- an action stands at a statement of its top context, or nowhere (`cur == NULL`) -/
theorem located (a : Action) :
    (topCtx a).block[(topCtx a).pos]? = none ∨ ∃ e rest s, a.exec = e :: rest ∧ e.block[e.pos]? = some s := by
  cases hex : a.exec with
  | nil => left; rw [topCtx, hex]; rfl
  | cons e rest =>
    cases hcur : e.block[e.pos]? with
    | none => left; rw [topCtx_of_exec a e rest hex]; exact hcur
    | some s => exact Or.inr ⟨e, rest, s, rfl, hcur⟩

/-- a property of every way out of a statement, and of the `cur == NULL` stop, is a property of `_process_stmt` -/
theorem processStmt_ind (d : Dev) (a : Action) (o : Oracle) (now : Time) (P : StepR → Prop)
    (null : (topCtx a).block[(topCtx a).pos]? = none → P ⟨d, a, o, [.abortAssert "cur == NULL"], true⟩)
    (step : ∀ e rest s r, a.exec = e :: rest → e.block[e.pos]? = some s → Step d a o now e rest s r → P r) :
    P (processStmt d a o now) := by
  rcases located a with h | ⟨e, rest, s, hex, hcur⟩
  · rw [processStmt_null d a o now h]; exact null h
  · exact step e rest s _ hex hcur (processStmt_step hex hcur)

namespace Step
variable {s : Stmt}

theorem wake (h : Step d a o now e rest s r) (hf : r.finished = true) : r.dev.wake = d.wake := by
  cases h with
  | delayWait => cases hf
  | _ => rfl

/-- no statement but `expect` touches the match object -/
theorem sameXm (h : Step d a o now e rest s r) (hnx : ∀ pat, s ≠ .expect pat) :
    r.dev.xmUsed = d.xmUsed ∧ r.dev.xmResult = d.xmResult ∧ r.dev.xmStr = d.xmStr ∧ r.dev.xmOffs = d.xmOffs := by
  cases h with
  | expectEmpty pat | expectNo pat | expectYes pat => exact absurd rfl (hnx pat)
  | _ => exact ⟨rfl, rfl, rfl, rfl⟩

/-- what a statement does to the stack: the top context keeps block, plugs and position, and a block statement may push one
    context on it — then it is in progress (a `foreach` holds its iterator, an `if` has `processing` set) -/
theorem shape (hex : a.exec = e :: rest) (h : Step d a o now e rest s r) :
    ∃ x : ExecCtx, (r.act.exec = x :: rest ∨ ∃ new, r.act.exec = new :: x :: rest ∧ (x.plugItr.isSome = true ∨ x.processing = true)) ∧
      x.block = e.block ∧ x.plugs = e.plugs ∧ x.pos = e.pos := by
  have hff := foreachCtx_fields a e
  cases h with
  | eachNext => exact ⟨_, .inr ⟨_, rfl, .inl rfl⟩, hff.block, hff.plugs, hff.pos⟩
  | eachDone => exact ⟨_, .inl rfl, hff.block, hff.plugs, hff.pos⟩
  | ifTaken => exact ⟨_, .inr ⟨_, rfl, .inr rfl⟩, rfl, rfl, rfl⟩
  | sendFresh | sendAgain | delayDone | delayWait | ifReturn => exact ⟨_, .inl rfl, rfl, rfl, rfl⟩
  | _ => exact ⟨e, .inl hex, rfl, rfl, rfl⟩

/-- a leaf statement, and any statement that does not finish, leaves the stack alone but for the `processing` flag -/
theorem flag (hex : a.exec = e :: rest) (h : Step d a o now e rest s r) (hl : s.kind = .leaf ∨ r.finished = false) :
    ∃ p', r.act.exec = { e with processing := p' } :: rest := by
  cases h with
  | sendFresh | sendAgain | delayDone | delayWait => exact ⟨_, rfl⟩
  | eachNext _ _ _ _ _ hk | eachDone _ _ _ hk | ifReturn _ _ _ hk | ifTaken _ _ _ hk | ifUnknown _ _ _ hk | ifOther _ _ _ hk =>
    rcases hl with hl | hl
    · rw [hk] at hl; cases hl
    · cases hl
  | _ => exact ⟨e.processing, hex⟩

/-- a statement that does not finish is an `expect` (which leaves the action as it is) or has set the `processing` flag -/
theorem stalled (h : Step d a o now e rest s r) (hf : r.finished = false) :
    (∃ pat, s = .expect pat ∧ r.act = a) ∨ r.act.exec = { e with processing := true } :: rest := by
  cases h with
  | expectEmpty pat | expectNo pat => exact .inl ⟨pat, rfl, rfl⟩
  | sendFresh fmt t => right; simp only; rw [show (d.toBuf ++ t).isEmpty = false from hf]; rfl
  | sendAgain => right; simp only; rw [show d.toBuf.isEmpty = false from hf]; rfl
  | delayWait => exact .inr rfl
  | _ => cases hf

/-- a statement that made the stack grow is a `foreach` or an `if`: it changed nothing else and pushed the body of its block -/
theorem push (hex : a.exec = e :: rest) (h : Step d a o now e rest s r) (hp : r.act.exec.length > a.exec.length) :
    r.dev = d ∧ r.oracle = o ∧ r.out = [] ∧ r.finished = true ∧
    ∃ b pl x, r.act.exec = bodyCtx b pl :: x ∧ ((∃ n, s.kind = .each n b) ∨ ∃ w, s.kind = .cond w b) := by
  rw [hex] at hp
  cases h with
  | eachNext s n b p k hk => exact ⟨rfl, rfl, rfl, rfl, b, _, _, rfl, .inl ⟨n, hk⟩⟩
  | ifTaken s w b hk => exact ⟨rfl, rfl, rfl, rfl, b, _, _, rfl, .inr ⟨w, hk⟩⟩
  | _ => first | (simp at hp; done) | (rw [hex] at hp; simp at hp)

end Step

end Pm.Dev2.Interp
