/- three small stand-alone models: C03 (the status reply partitions the targets), C15 (the format table),
   C18 (the lexer's string buffer) -/
namespace Pm.Small

/-! ## C03: `_client_query_status_reply` partitions the arglist entries by state -/
inductive PState where | unknown | off | on deriving DecidableEq

structure Arg where
  node : Nat            -- index of the name in the command's target list
  state : PState

def onList (args : List Arg) : List Nat := (args.filter (·.state = .on)).map (·.node)
def offList (args : List Arg) : List Nat := (args.filter (·.state = .off)).map (·.node)
def unkList (args : List Arg) : List Nat := (args.filter (·.state = .unknown)).map (·.node)

/-- every entry lands in exactly one of the three lists: the multiset union is the target list -/
theorem C03_partition (args : List Arg) (n : Nat) :
    (onList args).count n + (offList args).count n + (unkList args).count n = (args.map (·.node)).count n := by
  induction args with
  | nil => simp [onList, offList, unkList]
  | cons a as ih =>
    simp only [onList, offList, unkList, List.filter_cons, List.map_cons] at ih ⊢
    cases hs : a.state <;> simp [List.count_cons] <;> omega

/-- and a node shown on was set on (nothing is invented): membership reflects the state -/
theorem C03_on_justified (args : List Arg) (n : Nat) (h : n ∈ onList args) : ∃ a ∈ args, a.node = n ∧ a.state = .on := by
  obtain ⟨a, ha, rfl⟩ := List.mem_map.mp h
  have := List.mem_filter.mp ha
  exact ⟨a, this.1, rfl, by simpa using this.2⟩

/-! ## C15: the reply formats (regenerated from client_proto.h) are CRLF-terminated `NNN ` lines -/
def CR : Nat := 13
def LF : Nat := 10

/-- split a format into lines at CR LF; `none` if a bare CR or LF occurs or the end is not CR LF -/
def splitCRLF : List Nat → List Nat → Option (List (List Nat))
  | [], [] => some []
  | [], _ :: _ => none
  | 13 :: 10 :: r, cur => (splitCRLF r []).map (cur.reverse :: ·)
  | 13 :: _, _ => none
  | 10 :: _, _ => none
  | c :: r, cur => splitCRLF r (c :: cur)

def isDigit (c : Nat) : Bool := 48 ≤ c && c ≤ 57
def lineOK (l : List Nat) : Bool :=
  match l with
  | a :: b :: c :: 32 :: _ => isDigit a && isDigit b && isDigit c && (a == 48 || a == 49 || a == 50 || a == 51)
  | _ => false

def formatOK (f : List Nat) : Bool :=
  match splitCRLF f [] with
  | some ls => !ls.isEmpty && ls.all lineOK
  | none => false

-- three entries of the table as the translator would emit them
def CP_RSP_COM_COMPLETE : List Nat := "102 Command completed successfully\r\n".toList.map Char.toNat
def CP_ERR_NOSUCHNODES : List Nat := "209 No such nodes: %s\r\n".toList.map Char.toNat
def CP_INFO_STATUS : List Nat := "302 on:      %s\r\n302 off:     %s\r\n302 unknown: %s\r\n".toList.map Char.toNat
def table : List (List Nat) := [CP_RSP_COM_COMPLETE, CP_ERR_NOSUCHNODES, CP_INFO_STATUS]

theorem C15_proto_wf : ∀ f ∈ table, formatOK f = true := by decide +kernel

/-! ## C18: the quoted-string rules of parse_lex.l against the fixed `string_buf[8192]` -/
def BUF : Nat := 8192

inductive Lex where
  | ok (len : Nat)        -- string accepted, `len` bytes + NUL stored
  | reject                -- diagnostic "string too long" and exit(1)  (only with `guarded`)
  | overflow              -- a store past `string_buf[8191]`
deriving DecidableEq

/-- every rule of `<lex_str>` stores at most one byte per source byte.  `guarded = true`: the rules as written in /repo
    (`_string_buf_add` refuses to store into the last cell, which is reserved for the terminating NUL); `guarded = false`: the
    same rules without that test (F8a).  `C18_string_fill_counterexample` is about the latter, `C18_string_fill_fixed` about
    the former. -/
def lexString (guarded : Bool) (stored : Nat) : List Nat → Lex
  | [] => if stored < BUF then .ok stored else .overflow                   -- closing quote: *ptr = 0
  | _ :: r =>
    if guarded && stored + 1 ≥ BUF then .reject
    else if stored < BUF then lexString guarded (stored + 1) r else .overflow

/-- without the guard, a body that fills the buffer exactly leaves no cell for the closing NUL -/
theorem lexString_unguarded_full (c : Nat) : ∀ n stored, stored + n = BUF → lexString false stored (List.replicate n c) = .overflow
  | 0, stored, h => by simp [lexString, show ¬ stored < BUF by omega]
  | n + 1, stored, h => by
    simp only [List.replicate_succ, lexString, Bool.false_and, Bool.false_eq_true, if_false, show stored < BUF by omega, if_true]
    exact lexString_unguarded_full c n (stored + 1) (by omega)

theorem C18_string_fill_counterexample : lexString false 0 (List.replicate 8192 65) = .overflow :=
  lexString_unguarded_full 65 8192 0 rfl

theorem C18_string_fill_fixed (body : List Nat) : ∀ stored, stored < BUF → lexString true stored body ≠ .overflow := by
  induction body with
  | nil => intro stored h; simp [lexString, h]
  | cons b bs ih =>
    intro stored h
    simp only [lexString, Bool.true_and]
    by_cases hfull : stored + 1 ≥ BUF
    · simp [hfull]
    · have : stored + 1 < BUF := by omega
      simp only [hfull, h, decide_false, Bool.false_eq_true, if_false, if_true]
      exact ih _ this

end Pm.Small

