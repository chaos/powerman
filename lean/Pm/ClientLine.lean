import Pm.ClientProof
import Pm.ReplyProof
/-! What one request line does to the world and to the client's record, as one list of exact outcomes (`LineDoes`); the cuts of
    `_handle_write` (`hwCore`) and of a client's share of `cli_post_poll` (`clientPass'`); and the rules that carry a step relation
    from the lines to `_handle_input` (`handleInput_walk`) and from the stages to the share of a client that survives it
    (`clientPass_alive`). -/
namespace Pm.Daemon.ClientPf
open Pm Pm.Client
open Pm.Dev2 (Dev)
open Pm.Daemon.Enq (installDev installTotal kwOf)

/-! ### the `sscanf` cascade: what `plMatch` finds was scanned with the keyword of its command -/

theorem orElse_step {str kw : Bytes} {k com : Com} {arg : Bytes} {rest : Option (Com × Bytes)}
    (h : ((scan kw str).map fun a => (k, a)).orElse (fun _ => rest) = some (com, arg)) :
    (k = com ∧ scan kw str = some arg) ∨ rest = some (com, arg) := by
  cases hs : scan kw str with
  | none => rw [hs] at h; exact .inr (by simpa using h)
  | some a => rw [hs] at h; simp at h; exact .inl ⟨h.1, by rw [h.2]⟩

theorem plMatch_spec {str : Bytes} {com : Com} {arg : Bytes} (h : plMatch str = some (com, arg)) :
    scan (kwOf com) str = some arg := by
  unfold plMatch at h
  iterate 8 (rcases orElse_step h with ⟨rfl, g⟩ | h; exact g)
  rcases orElse_step (rest := none) (by simpa using h) with ⟨rfl, g⟩ | h
  · exact g
  · cases h

/-! ### `_create_command` + `dev_enqueue_actions` -/

/-- `names` is what the expression typed after the keyword of `com` stands for: `conf_exp_aliases` of its expansion -/
def Typed (w : W) (str : Bytes) (com : Com) (names : List Name) : Prop :=
  ∃ arg hl, scan (kwOf com) str = some arg ∧ createR (toChars arg) = .ok hl ∧ names = expAliases w.cfg.aliases (expand hl)

/-- the target list `_parse_input` hands to `_create_command` for the request string `str`: every configured node for a bare
    query; otherwise the typed names, every one of them a configured node -/
def Targets (w : W) (str : Bytes) (com : Com) (names : List Name) : Prop :=
  (isQuery (comIdx com) = true ∧ names = expand w.cfg.nodes) ∨
  (Typed w str com names ∧ ∀ n ∈ names, (find w.cfg.nodes n).isSome = true)

/-- world and record after `_create_command` + `dev_enqueue_actions` went through -/
def afterAccept (w : W) (c : Cli) (com : Com) (names : List Name) : W × Cli :=
  ({ w with devs := w.devs.map (installDev (comIdx com) (names.map ofChars) c.id c.telemetry w.alNext),
            store := (w.alNext, Reply.freshArgs (names.map ofChars)) :: w.store, alNext := w.alNext + 1 },
   { c with cmd := some { com, names, pending := installTotal (comIdx com) (names.map ofChars) c.id c.telemetry w.alNext w.devs,
                          error := false, al := w.alNext } })

/-- `install` with the loop of `dev_enqueue_actions` written as a `map` -/
theorem install_nf (w : W) (c : Cli) (com : Com) (names : List Name) :
    install w c com names =
      if w.devs.any (fun (nd : Bytes × Dev) => needsDev nd.2 (names.map ofChars) && !handles nd.2 (comIdx com) (names.map ofChars)) then Reply.refused w c else
      if installTotal (comIdx com) (names.map ofChars) c.id c.telemetry w.alNext w.devs == 0 then Reply.refused w c else
      afterAccept w c com names :=
  Reply.install_eq w c com names

/-- everything `_parse_input` can do with a request string, each with the exact world and record it leaves.  The replies
    that embed data (`nodes`, `device`, `nosuch`) are given by their text; every other reply (`say`) is clean lines of fixed text. -/
inductive LineDoes (w : W) (c : Cli) (str : Bytes) : W × Cli → Prop
  /-- answered at once (with the prompt unless the client has quit); `telemetry` and `exprange` toggle a flag first -/
  | say (tele ex : Bool) (infos : List Item) (code : Nat) (text : Bytes) (info : ∀ i ∈ infos, i.lineIn infoCodesP = true)
      (term : code ∈ termCodesP) (ne208 : code ≠ 208) (ne101 : code ≠ 101)
      (clean : ∀ i ∈ infos ++ [Item.line code text], i.clean = true) :
      LineDoes w c str (plFin w { c with telemetry := tele, exprange := ex } (render (infos ++ [Item.line code text])))
  | busy (h : c.cmd.isSome = true) : LineDoes w c str (w, put c (render [item208]))
  /-- `nodes`: the configured list itself is sorted -/
  | nodes (hl : Hostlist) (h : sortHL w.cfg.nodes = .ok hl) :
      LineDoes w c str ({ w with cfg := { w.cfg with nodes := hl } },
        put c (render (nodesItems c.exprange hl ++ [item103]) ++ (if c.quit then [] else prompt)))
  | device (a : Option Bytes) (b : Bytes) (h : deviceReply w a = some b) :
      LineDoes w c str (plFin w c (b ++ bstr "103 Query complete" ++ crlf))
  /-- some typed name is not a configured node -/
  | nosuch (com : Com) (names : List Name) (typed : Typed w str com names) :
      LineDoes w c str (plFin w c (bstr "209 No such nodes: " ++
        ofChars (rangedString ((names.filter fun n => (find w.cfg.nodes n).isNone).foldl pushHost [])) ++ crlf))
  | exit (cause : (sortHL w.cfg.nodes).Died ∨ ∃ nd ∈ w.devs, (sortHL (devHosts nd.2)).Died) :
      LineDoes w c str ({ w with exited := true }, c)
  /-- `quit`: `101`, then `_handle_write` on the descriptor made blocking -/
  | quit (idle : c.cmd = none) : LineDoes w c str (plQuit w c)
  | accept (com : Com) (names : List Name) (idle : c.cmd = none) (targets : Targets w str com names)
      (handled : ∀ nd ∈ w.devs, needsDev nd.2 (names.map ofChars) = true → handles nd.2 (comIdx com) (names.map ofChars) = true)
      (some : 0 < installTotal (comIdx com) (names.map ofChars) c.id c.telemetry w.alNext w.devs)
      (call : install w c com names = afterAccept w c com names) : LineDoes w c str (afterAccept w c com names)

theorem LineDoes.fixed {w : W} {c : Cli} {str : Bytes} (tele ex : Bool) {b : Bytes} (code : Nat) {text : Bytes}
    (hb : b = render [Item.line code text]) (hc : code ∈ termCodesP) (h208 : code ≠ 208) (h101 : code ≠ 101) (ht : cleanText text = true) :
    LineDoes w c str (plFin w { c with telemetry := tele, exprange := ex } b) :=
  hb ▸ .say tele ex [] code text (fun _ h => nomatch h) hc h208 h101 (fun _ h => List.mem_singleton.mp h ▸ ht)

/-- `_create_command` + `dev_enqueue_actions`: refused with `213` (a device that is needed cannot handle the command, or no
    action was created), or every needed device handles the command, at least one action is created, and world and record
    are `afterAccept` -/
theorem install_outcomes (w : W) (c : Cli) (com : Com) (names : List Name) :
    install w c com names = Reply.refused w c ∨
    ((∀ nd ∈ w.devs, needsDev nd.2 (names.map ofChars) = true → handles nd.2 (comIdx com) (names.map ofChars) = true) ∧
     0 < installTotal (comIdx com) (names.map ofChars) c.id c.telemetry w.alNext w.devs ∧
     install w c com names = afterAccept w c com names) := by
  rw [install_nf]
  by_cases hany : (w.devs.any fun (nd : Bytes × Dev) => needsDev nd.2 (names.map ofChars) && !handles nd.2 (comIdx com) (names.map ofChars)) = true
  · exact .inl (if_pos hany)
  rw [if_neg hany]
  by_cases htot : (installTotal (comIdx com) (names.map ofChars) c.id c.telemetry w.alNext w.devs == 0) = true
  · exact .inl (if_pos htot)
  refine .inr ⟨fun nd hnd hneed => ?_, Nat.pos_of_ne_zero (by simpa using htot), if_neg htot⟩
  cases hh : handles nd.2 (comIdx com) (names.map ofChars)
  · exact absurd (List.any_eq_true.mpr ⟨nd, hnd, by simp [hneed, hh]⟩) hany
  · rfl

theorem install_does (w : W) (c : Cli) (str : Bytes) (com : Com) (names : List Name) (idle : c.cmd = none)
    (ht : Targets w str com names) : LineDoes w c str (install w c com names) := by
  rcases install_outcomes w c com names with h | ⟨handled, pos, h⟩ <;> rw [h]
  · exact .fixed (b := codeLine 213 ++ crlf) c.telemetry c.exprange 213 bstr_213 (by decide) (by decide) (by decide)
      (by rw [bstr_chars]; decide +kernel)
  · exact .accept com names idle ht handled pos h

theorem plNodes_does (w : W) (c : Cli) (str : Bytes) : LineDoes w c str (plNodes w c) := by
  unfold plNodes
  split
  · rename_i h; exact .exit (.inl (.inl h))
  · rename_i h; exact .exit (.inl (.inr h))
  · rename_i hl h
    have := LineDoes.nodes (c := c) (str := str) hl h
    simp only [nodesBody_eq]
    simpa only [render_append, item103, ← bstr_103, List.append_assoc] using this

theorem plDevice_does (w : W) (c : Cli) (str : Bytes) : LineDoes w c str (plDevice w c str) := by
  unfold plDevice
  split
  · exact .fixed c.telemetry c.exprange 201 bstr_201 (by decide) (by decide) (by decide) (by rw [bstr_chars]; decide +kernel)
  · split
    · rename_i h; exact .exit (.inr (deviceReply_none w _ h))
    · rename_i h; exact .device _ _ h

theorem plCmd_does (w : W) (c : Cli) (str : Bytes) (com : Com) (arg : Bytes) (idle : c.cmd = none)
    (hscan : scan (kwOf com) str = some arg) : LineDoes w c str (plCmd w c com arg) := by
  rcases plCmd_cases w c com arg with e | ⟨hl, hcr, e | ⟨hok, e⟩⟩ <;> rw [e]
  · exact .fixed c.telemetry c.exprange 205 bstr_205 (by decide) (by decide) (by decide) (by rw [bstr_chars]; decide +kernel)
  · exact .nosuch com _ ⟨arg, hl, hscan, hcr, rfl⟩
  · exact install_does w c str com _ idle (.inr ⟨⟨arg, hl, hscan, hcr, rfl⟩, hok⟩)

/-- `_parse_input` does one of the eight things `LineDoes` lists -/
theorem parseLine_does (w : W) (c : Cli) (line : Bytes) : LineDoes w c (reqStr line) (parseLine w c line) :=
  parseLine_split w c line
    (fun _ => .fixed c.telemetry c.exprange 203 bstr_203 (by decide) (by decide) (by decide) (by rw [bstr_chars]; decide +kernel))
    (fun _ h => bstr_208 ▸ .busy h)
    fun _ h => plIdle_cases (reqStr line) (P := fun f => ∀ w c, c.cmd = none → LineDoes w c (reqStr line) (f w c))
      (fun w c _ => (show helpText ++ bstr "103 Query complete" ++ crlf = render (helpItems ++ [item103]) by
          rw [List.append_assoc, bstr_103, helpText_eq, render_append]; rfl) ▸
        .say c.telemetry c.exprange helpItems 103 _ helpItems_info (by decide) (by decide) (by decide)
          fun i hi => (List.mem_append.mp hi).elim (helpItems_clean i) fun h => List.mem_singleton.mp h ▸ clean_103)
      (fun w c _ => plNodes_does w c _)
      (fun w c _ => .fixed (!c.telemetry) c.exprange 104 (bstr_104 _) (by decide) (by decide) (by decide)
        (onoff_cleanText "Telemetry " (by rw [bstr_chars]; decide +kernel) _))
      (fun w c _ => .fixed c.telemetry (!c.exprange) 105 (bstr_105 _) (by decide) (by decide) (by decide)
        (onoff_cleanText "Hostrange expansion " (by rw [bstr_chars]; decide +kernel) _))
      (fun _ _ h => .quit h)
      (fun com hq w c h => install_does w c _ com _ h (.inl ⟨hq, rfl⟩))
      (fun w c _ => plDevice_does w c _)
      (fun com arg hm w c h => plCmd_does w c _ com arg h (plMatch_spec hm)) w c h

theorem LineDoes.outcome {w : W} {c : Cli} {str : Bytes} {r : W × Cli} (h : LineDoes w c str r) : LineOutcome w c r := by
  cases h with
  | say tele ex infos code text hi hc h208 h101 clean =>
    exact plFin_outcome w c _ _ infos code text rfl rfl rfl rfl hi hc h208 h101 (.of_clean fun i h => clean i (List.mem_append_left _ h))
      (.inr (clean (.line code text) (by simp)))
  | busy h => exact busy_outcome w c h
  | nodes hl _ =>
    exact mkReply w c _ (nodesItems c.exprange hl) 103 (bstr "Query complete") rfl rfl rfl rfl rfl (nodesItems_info _ _)
      (by decide) (by decide) (by decide) (.of_data fun i hi => lineIn_mono (by decide) i (nodesItems_codes _ _ i hi)) (.inr clean_103)
  | device a b h =>
    obtain ⟨items, hb, hi⟩ := deviceReply_some w a b h
    exact plFin_outcome w c c _ items 103 (bstr "Query complete") rfl rfl rfl (by rw [List.append_assoc, bstr_103, hb, render_append])
      (fun i h => lineIn_mono (by decide) i (hi i h)) (by decide) (by decide) (by decide)
      (.of_data fun i h => lineIn_mono (by decide) i (hi i h)) (.inr clean_103)
  | nosuch com names _ =>
    exact plFin_outcome w c c _ [] 209 (bstr "No such nodes: " ++
        ofChars (rangedString ((names.filter fun n => (find w.cfg.nodes n).isNone).foldl pushHost []))) rfl rfl rfl
      (by simp only [List.nil_append, render_one, Item.render, bstr_209, List.append_assoc]) (fun _ h => nomatch h) (by decide)
      (by decide) (by decide) (fun _ h => nomatch h) (.inl (by decide))
  | exit cause => exact .exit rfl cause
  | quit _ => exact plQuit_outcome w c
  | accept com names idle _ _ pos _ => exact .installed _ idle rfl pos rfl rfl rfl rfl

/-- C04/C06/C15 core: the outcomes of one request line, for every line, client and world, as far as the reply goes -/
theorem parseLine_shape (w : W) (c : Cli) (line : Bytes) : LineOutcome w c (parseLine w c line) := (parseLine_does w c line).outcome

theorem LineDoes.frame {w : W} {c : Cli} {str : Bytes} {r : W × Cli} (h : LineDoes w c str r) : LineFrame w c r := by
  cases h with
  | quit _ => exact (plQuit_spec w c).frame
  | _ => exact ⟨rfl, rfl, rfl, rfl, rfl⟩

theorem parseLine_frame (w : W) (c : Cli) (line : Bytes) : LineFrame w c (parseLine w c line) := (parseLine_does w c line).frame

/-! ### `_handle_input` is the run of its complete lines -/

theorem handleInputF_lines : ∀ (fuel : Nat) (w : W) (c : Cli), c.fromBuf.length < fuel →
    handleInputF fuel w c = runLines w c (linesOf c.fromBuf).1 := by
  intro fuel; induction fuel with
  | zero => intro w c h; omega
  | succ fuel ih =>
    intro w c h
    unfold handleInputF
    by_cases hex : w.exited = true
    · rw [if_pos hex, runLines_exited _ _ _ hex]
    · rw [if_neg hex]
      obtain ⟨h1, h2⟩ := linesOf_idx c.fromBuf
      cases hi : c.fromBuf.idxOf? 10 with
      | none => rw [h1 hi]; rfl
      | some i =>
        have hlt : i < c.fromBuf.length := by
          have := List.findIdx?_eq_some_iff_findIdx_eq.mp hi
          exact this.1
        have hlen : (c.fromBuf.take (i + 1)).length = i + 1 := by rw [List.length_take]; omega
        rw [h2 i hi]
        simp only [runLines, if_neg hex, hlen]
        have hfr := (parseLine_frame w { c with fromBuf := c.fromBuf.drop (i + 1) } (c.fromBuf.take (i + 1))).fromBuf
        rw [ih _ _ (by rw [hfr]; simp only [List.length_drop]; omega), hfr]

theorem handleInput_lines (w : W) (c : Cli) : handleInput w c = runLines w c (linesOf c.fromBuf).1 :=
  handleInputF_lines _ w c (Nat.lt_succ_self _)

theorem handleInputF_fuel (fuel : Nat) (w : W) (c : Cli) (h : c.fromBuf.length < fuel) : handleInputF fuel w c = handleInput w c := by
  rw [handleInputF_lines fuel w c h, handleInput_lines]

theorem runLines_consumed : ∀ (ls : List Bytes) (w : W) (c : Cli), (runLines w c ls).1.exited = false →
    (runLines w c ls).2.fromBuf = c.fromBuf.drop ls.flatten.length := by
  intro ls; induction ls with
  | nil => intro w c _; simp [runLines]
  | cons l ls ih =>
    intro w c h
    unfold runLines at h ⊢
    by_cases hex : w.exited = true
    · rw [if_pos hex] at h; simp [hex] at h
    · rw [if_neg hex] at h ⊢
      rw [ih _ _ h, (parseLine_frame ..).fromBuf]
      simp [List.drop_drop]

theorem handleInput_tail (w : W) (c : Cli) (h : (handleInput w c).1.exited = false) :
    (handleInput w c).2.fromBuf = (linesOf c.fromBuf).2 := by
  rw [handleInput_lines] at h ⊢
  rw [runLines_consumed _ _ _ h]
  have := linesOf_flatten c.fromBuf
  conv => lhs; arg 2; rw [← this]
  simp

/-- `_handle_input` is a run of request lines, each taken out of `from` before it is looked at.  So a step relation that
    composes and holds of taking bytes out of `from` and of every request line holds of `_handle_input`. -/
theorem handleInput_walk {R : W → Cli → W × Cli → Prop} (hrefl : ∀ w c, R w c (w, c))
    (htrans : ∀ {w c r r'}, R w c r → R r.1 r.2 r' → R w c r')
    (hdrop : ∀ w c n, R w c (w, { c with fromBuf := c.fromBuf.drop n }))
    (hline : ∀ w c line, R w c (parseLine w c line)) (w : W) (c : Cli) : R w c (handleInput w c) := by
  rw [handleInput_lines]
  generalize (linesOf c.fromBuf).1 = ls
  induction ls generalizing w c with
  | nil => exact hrefl w c
  | cons l ls ih =>
    unfold runLines
    exact ite_cases (fun _ => hrefl w c) fun _ => htrans (htrans (hdrop w c l.length) (hline ..)) (ih ..)

/-! ### `_handle_write` -/

/-- `_handle_write` after the descriptor has been made blocking for a client that quit -/
def hwCore (w : W) (c : Cli) : W × Cli :=
  if c.toBuf.isEmpty then (w, c) else
  let cap := capOf w c.fd
  if cap < 0 then ({ w with sys := w.sys ++ [.write c.fd [] true false] }, { c with quit := true })
  else if c.blocking then
    (setCap { w with sys := w.sys ++ [.write c.fd c.toBuf false (cap < c.toBuf.length)] } c.fd (if cap < c.toBuf.length then 0 else cap - c.toBuf.length), { c with toBuf := [] })
  else if cap == 0 then
    ({ w with sys := w.sys ++ [.write c.fd [] false false] }, { c with quit := true })
  else
    let n := min cap.toNat c.toBuf.length
    (setCap { w with sys := w.sys ++ [.write c.fd (c.toBuf.take n) false false] } c.fd (cap - n), { c with toBuf := c.toBuf.drop n })

theorem handleWrite_eq (w : W) (c : Cli) : handleWrite w c = hwCore w (if c.quit then { c with blocking := true } else c) := rfl

/-- the outcomes of `_handle_write`: nothing to write; the `write` fails (`e`: with an error other than EAGAIN) and the
    client is marked as gone; or the bytes `b` from the front of `to` are written, which uses up capacity -/
theorem hwCore_spec (w : W) (c : Cli) : hwCore w c = (w, c) ∨
    (∃ e, hwCore w c = ({ w with sys := w.sys ++ [.write c.fd [] e false] }, { c with quit := true })) ∨
    ∃ b rest bl v, c.toBuf = b ++ rest ∧
      hwCore w c = (setCap { w with sys := w.sys ++ [.write c.fd b false bl] } c.fd v, { c with toBuf := rest }) := by
  by_cases h1 : c.toBuf.isEmpty = true
  · exact .inl (by rw [hwCore, if_pos h1])
  refine .inr ?_
  rw [hwCore, if_neg h1]
  by_cases h2 : capOf w c.fd < 0
  · exact .inl ⟨true, if_pos h2⟩
  by_cases h3 : c.blocking = true
  · exact .inr ⟨_, [], _, _, (List.append_nil _).symm, (if_neg h2).trans (if_pos h3)⟩
  by_cases h4 : (capOf w c.fd == 0) = true
  · exact .inl ⟨false, (if_neg h2).trans ((if_neg h3).trans (if_pos h4))⟩
  · exact .inr ⟨_, _, _, _, (List.take_append_drop _ _).symm, (if_neg h2).trans ((if_neg h3).trans (if_neg h4))⟩

theorem hwCore_cases (w : W) (c : Cli) : hwCore w c = (w, c) ∨
    ∃ b rest err bl q caps, c.toBuf = b ++ rest ∧ hwCore w c =
      ({ w with sys := w.sys ++ [.write c.fd b err bl], caps := caps }, { c with toBuf := rest, quit := q }) := by
  rcases hwCore_spec w c with h | ⟨e, h⟩ | ⟨b, rest, bl, v, hb, h⟩
  · exact .inl h
  · exact .inr ⟨[], _, e, false, true, _, rfl, h⟩
  · exact .inr ⟨b, rest, false, bl, c.quit, _, hb, h⟩

/-- every outcome of `_handle_write`: nothing is queued and nothing happens; or one `write` on the client's own descriptor is
    logged, whose payload `wr` is a front piece of the queue while the rest `kept` stays queued — besides that only the
    capacities change in the daemon, only `quit` and `blocking` in the client -/
theorem handleWrite_cases (w : W) (c : Cli) :
    (∃ bl, handleWrite w c = (w, { c with blocking := bl })) ∨
    ∃ wr kept e b caps q bl, wr ++ kept = c.toBuf ∧
      handleWrite w c = ({ w with sys := w.sys ++ [.write c.fd wr e b], caps := caps },
                         { c with toBuf := kept, quit := q, blocking := bl }) := by
  obtain ⟨bl, h0⟩ : ∃ bl, (if c.quit = true then { c with blocking := true } else c) = { c with blocking := bl } := by
    by_cases hq : c.quit = true
    · exact ⟨true, by rw [if_pos hq]⟩
    · exact ⟨c.blocking, by rw [if_neg hq]⟩
  rw [handleWrite_eq, h0]
  rcases hwCore_cases w { c with blocking := bl } with h | ⟨wr, kept, e, b, q, caps, hk, h⟩ <;> rw [h]
  · exact .inl ⟨bl, rfl⟩
  · exact .inr ⟨wr, kept, e, b, caps, q, bl, hk.symm, rfl⟩

/-- `_handle_write` moves bytes from `to` to the descriptor: the client's cumulative output is unchanged -/
theorem handleWrite_out (w : W) (c : Cli) :
    outOf (handleWrite w c).1 (handleWrite w c).2 = outOf w c ∧ (handleWrite w c).2.fd = c.fd ∧
      (handleWrite w c).2.id = c.id ∧ (handleWrite w c).2.cmd = c.cmd := by
  rcases handleWrite_cases w c with ⟨_, h⟩ | ⟨_, _, _, _, _, _, _, hk, h⟩ <;> rw [h]
  · exact ⟨rfl, rfl, rfl, rfl⟩
  · exact ⟨by simp only [outOf, written_append, written_write, ← hk, List.append_assoc], rfl, rfl, rfl⟩

theorem handleWrite_only (w : W) (c : Cli) : ∃ sys caps t q b,
    handleWrite w c = ({ w with sys := sys, caps := caps }, { c with toBuf := t, quit := q, blocking := b }) := by
  rcases handleWrite_cases w c with ⟨_, h⟩ | ⟨_, _, _, _, _, _, _, _, h⟩ <;> rw [h] <;> exact ⟨_, _, _, _, _, rfl⟩

/-! ### `clientPass` cut into its stages -/

/-- the events a client's share acts on: of what poll reports for the descriptor, the bits the client asked for (1 `POLLIN` unless it
    has quit, 2 `POLLOUT` when output waits) and 4 `POLLHUP`, 8 `POLLERR`, 16 `POLLNVAL`, which poll reports unasked; nothing for a
    client that asked for nothing or whose descriptor poll did not see -/
def cpRev (c : Cli) (e : Option FdEnv) : Nat :=
  let interest := (if c.quit then 0 else 1) ||| (if c.toBuf.isEmpty then 0 else 2)
  match e with | some e => if interest == 0 then 0 else (e.rev &&& interest) ||| (e.rev &&& 28) | none => 0

/-- `_destroy_client`: the descriptor is closed and no record is handed back -/
def cpDead (w : W) (c : Cli) : W × Option Cli := ({ w with sys := w.sys ++ [.close c.fd] }, none)

/-- `_handle_read` once the capacity half (`clipC`, `clipE`) is done: what happens with the bytes read -/
def cpRead (w : W) (c : Cli) (e : Option FdEnv) : W × Cli :=
  match e with
  | some e =>
    if e.rk == 1 then ({ w with sys := w.sys ++ [.read c.fd (-1)] }, { c with quit := true })
    else if e.rk == 2 then ({ w with sys := w.sys ++ [.read c.fd 0] }, { c with quit := true })
    else if e.data.isEmpty then ({ w with sys := w.sys ++ [.read c.fd (-1)] }, { c with quit := true })
    else ({ w with sys := w.sys ++ [.read c.fd e.data.length] }, { c with fromBuf := c.fromBuf ++ e.data })
  | none => (w, c)

@[simp] theorem clipC_id (c : Cli) (e : Option FdEnv) : (clipC c e).id = c.id := by unfold clipC clipCli; split <;> rfl
@[simp] theorem clipC_fd (c : Cli) (e : Option FdEnv) : (clipC c e).fd = c.fd := by unfold clipC clipCli; split <;> rfl
@[simp] theorem clipC_quit (c : Cli) (e : Option FdEnv) : (clipC c e).quit = c.quit := by unfold clipC clipCli; split <;> rfl
theorem clipC_telemetry (c : Cli) (e : Option FdEnv) : (clipC c e).telemetry = c.telemetry := by unfold clipC clipCli; split <;> rfl
theorem clipC_exprange (c : Cli) (e : Option FdEnv) : (clipC c e).exprange = c.exprange := by unfold clipC clipCli; split <;> rfl
@[simp] theorem clipC_cmd (c : Cli) (e : Option FdEnv) : (clipC c e).cmd = c.cmd := by unfold clipC clipCli; split <;> rfl
@[simp] theorem clipC_toBuf (c : Cli) (e : Option FdEnv) : (clipC c e).toBuf = c.toBuf := by unfold clipC clipCli; split <;> rfl
theorem clipC_blocking (c : Cli) (e : Option FdEnv) : (clipC c e).blocking = c.blocking := by unfold clipC clipCli; split <;> rfl

/-- the end of a client's share: a client that has quit and holds no command is destroyed (unless the daemon is gone); any other
    record is handed back as it is -/
def cpTail (r : W × Cli) : W × Option Cli :=
  if r.1.exited then (r.1, some r.2) else
  if r.2.quit && r.2.cmd.isNone then cpDead r.1 r.2 else (r.1, some r.2)

def clientPass' (w : W) (c : Cli) (e : Option FdEnv) : W × Option Cli :=
  let rev := cpRev c e
  if rev &&& 8 != 0 || rev &&& 16 != 0 then cpDead w c else
  let r1 := if rev &&& 1 != 0 || rev &&& 4 != 0 then cpRead w (clipC c e) (clipE c e) else (w, c)
  let r2 := if rev &&& 2 != 0 then handleWrite r1.1 r1.2 else r1
  cpTail (handleInput r2.1 r2.2)

theorem clientPass_eq (w : W) (c : Cli) (e : Option FdEnv) : clientPass w c e = clientPass' w c e := by
  -- the stages are unfolded first: `rfl` on the folded terms goes through, but the elaborator takes very long to see it
  cases e <;> (unfold clientPass clientPass'; dsimp only [cpTail, cpDead, cpRead, cpRev]; rfl)

theorem cpTail_cases (r : W × Cli) : cpTail r = (r.1, some r.2) ∨
    r.1.exited = false ∧ r.2.quit = true ∧ r.2.cmd = none ∧ cpTail r = cpDead r.1 r.2 := by
  unfold cpTail
  by_cases h1 : r.1.exited = true
  · rw [if_pos h1]; exact .inl rfl
  · rw [if_neg h1]
    by_cases h2 : (r.2.quit && r.2.cmd.isNone) = true
    · rw [if_pos h2]; simp at h1 h2; exact .inr ⟨h1, h2.1, h2.2, rfl⟩
    · rw [if_neg h2]; exact .inl rfl

theorem cpTail_exited (r : W × Cli) : (cpTail r).1.exited = r.1.exited := by
  rcases cpTail_cases r with h | ⟨_, _, _, h⟩ <;> rw [h] <;> rfl

theorem cpRead_cases (w : W) (c : Cli) (e : Option FdEnv) :
    cpRead w c e = (w, c) ∨ ∃ n c', cpRead w c e = ({ w with sys := w.sys ++ [.read c.fd n] }, c') ∧
      (c' = { c with quit := true } ∨ ∃ d, c' = { c with fromBuf := c.fromBuf ++ d }) := by
  unfold cpRead
  cases e with
  | none => exact .inl rfl
  | some e =>
    refine .inr ?_
    let P (r : W × Cli) : Prop := ∃ n c', r = ({ w with sys := w.sys ++ [.read c.fd n] }, c') ∧
      (c' = { c with quit := true } ∨ ∃ d, c' = { c with fromBuf := c.fromBuf ++ d })
    show P _
    refine ite_cases (fun _ => ⟨_, _, rfl, .inl rfl⟩) fun _ => ?_
    refine ite_cases (fun _ => ⟨_, _, rfl, .inl rfl⟩) fun _ => ?_
    exact ite_cases (fun _ => ⟨_, _, rfl, .inl rfl⟩) fun _ => ⟨_, _, rfl, .inr ⟨_, rfl⟩⟩

theorem cpTail_alive (r : W × Cli) (c' : Cli) (h : (cpTail r).2 = some c') : c' = r.2 := by
  rcases cpTail_cases r with h' | ⟨_, _, _, h'⟩ <;> rw [h'] at h
  · exact (Option.some.inj h).symm
  · nomatch h

/-! ### what a stage enqueues -/

/-- what a stage of one client's request processing does to the queues, to the arglist store and to the client's command:
    nothing; or — only when the client had no command — one accepted request -/
def Inst (w : W) (c : Cli) (r : W × Cli) : Prop :=
  r.2.id = c.id ∧
  ((r.1.devs = w.devs ∧ r.1.store = w.store ∧ r.1.alNext = w.alNext ∧ r.2.cmd = c.cmd) ∨
   (c.cmd = none ∧ ∃ (com : Com) (names : List Name) (tele : Bool),
      (∀ nd ∈ w.devs, needsDev nd.2 (names.map ofChars) = true → handles nd.2 (comIdx com) (names.map ofChars) = true) ∧
      0 < installTotal (comIdx com) (names.map ofChars) c.id tele w.alNext w.devs ∧
      r.2.cmd = some { com, names, error := false, al := w.alNext,
                       pending := installTotal (comIdx com) (names.map ofChars) c.id tele w.alNext w.devs } ∧
      r.1.devs = w.devs.map (installDev (comIdx com) (names.map ofChars) c.id tele w.alNext) ∧
      r.1.store = (w.alNext, Reply.freshArgs (names.map ofChars)) :: w.store ∧ r.1.alNext = w.alNext + 1))

theorem Inst.same {w : W} {c : Cli} {r : W × Cli} (hid : r.2.id = c.id) (hd : r.1.devs = w.devs) (hs : r.1.store = w.store)
    (ha : r.1.alNext = w.alNext) (hc : r.2.cmd = c.cmd) : Inst w c r := ⟨hid, .inl ⟨hd, hs, ha, hc⟩⟩

theorem Inst.trans {w : W} {c : Cli} {r r' : W × Cli} (h1 : Inst w c r) (h2 : Inst r.1 r.2 r') : Inst w c r' := by
  obtain ⟨i1, h1⟩ := h1
  obtain ⟨i2, h2⟩ := h2
  refine ⟨i2.trans i1, ?_⟩
  rcases h1 with ⟨a1, a2, a3, a4⟩ | ⟨idle, com, names, tele, handled, pos, cmd, devs, store, al⟩
  · rw [i1, a1, a2, a3, a4] at h2; exact h2
  · rcases h2 with ⟨devs', store', al', cmd'⟩ | ⟨idle', _⟩
    · exact .inr ⟨idle, com, names, tele, handled, pos, cmd'.trans cmd, devs'.trans devs, store'.trans store, al'.trans al⟩
    · rw [cmd] at idle'; cases idle'

theorem LineDoes.inst {w : W} {c : Cli} {str : Bytes} {r : W × Cli} (h : LineDoes w c str r) : Inst w c r := by
  cases h with
  | quit _ =>
    obtain ⟨_, _, _, _, _, h⟩ := handleWrite_only w (put { c with quit := true } (codeLine 101 ++ crlf))
    unfold plQuit; rw [h]
    exact .same rfl rfl rfl rfl rfl
  | accept com names idle _ handled pos _ => exact ⟨rfl, .inr ⟨idle, com, names, c.telemetry, handled, pos, rfl, rfl, rfl, rfl⟩⟩
  | _ => exact .same rfl rfl rfl rfl rfl

/-! ### the stages of a client's share of a pass -/

theorem cpRead_sys (w : W) (c : Cli) (e : Option FdEnv) : ∃ sys, (cpRead w c e).1 = { w with sys := sys } := by
  rcases cpRead_cases w c e with h | ⟨_, _, h, _⟩ <;> rw [h] <;> exact ⟨_, rfl⟩

theorem cpTail_sys (r : W × Cli) : ∃ sys, (cpTail r).1 = { r.1 with sys := sys } := by
  rcases cpTail_cases r with h | ⟨_, _, _, h⟩ <;> rw [h] <;> exact ⟨_, rfl⟩

theorem cpTail_world (r : W × Cli) (c' : Cli) (h : (cpTail r).2 = some c') : (cpTail r).1 = r.1 := by
  rcases cpTail_cases r with h' | ⟨_, _, _, h'⟩ <;> rw [h'] at h ⊢
  nomatch h

/-- A client's share of a pass is `cpDead`, or the stages `_handle_read`, `_handle_write`, `_handle_input` one after the
    other (the first two only when the descriptor is reported ready, `_handle_write` only for `POLLOUT`) and then `cpTail`.
    So what holds at the start and is kept by each stage holds before `cpTail`.

    Three rules walk the stages.  This one carries a property `P` of world and record from the fixed start `(w, c)`, and its write
    stage may assume that `POLLOUT` was reported: take it when `P` speaks of `w`, `c` or `e`.  `clientPass_stages` carries a step
    relation `R w c r` that holds of every stage from any world and record and composes; like this one it stops in front of `cpDead`
    and `cpTail`, which are left to the caller.  `clientPass_alive` has the same hypotheses and is for a client that survives:
    `cpTail` hands its record through, so `R` holds of the whole share. -/
theorem clientPass_invariant (w : W) (c : Cli) (e : Option FdEnv) {P : W × Cli → Prop} (h0 : P (w, c))
    (hread : P (cpRead w (clipC c e) (clipE c e)))
    (hwrite : cpRev c e &&& 2 ≠ 0 → ∀ r, P r → P (handleWrite r.1 r.2)) (hinput : ∀ r, P r → P (handleInput r.1 r.2)) :
    clientPass w c e = cpDead w c ∨ ∃ r, P r ∧ clientPass w c e = cpTail r := by
  rw [clientPass_eq]
  unfold clientPass'
  dsimp only
  refine ite_cases (P := fun x => x = cpDead w c ∨ ∃ r, P r ∧ x = cpTail r) (fun _ => Or.inl rfl) fun _ => Or.inr ?_
  have h1 : P (if (cpRev c e &&& 1 != 0 || cpRev c e &&& 4 != 0) = true then cpRead w (clipC c e) (clipE c e) else (w, c)) :=
    ite_cases (fun _ => hread) (fun _ => h0)
  exact ⟨_, hinput _ (ite_cases (P := P) (fun h => hwrite (by simpa using h) _ h1) (fun _ => h1)), rfl⟩

/-- the same for a step relation that composes and holds of each stage from any world and record -/
theorem clientPass_stages {R : W → Cli → W × Cli → Prop} (hrefl : ∀ w c, R w c (w, c))
    (htrans : ∀ {w c r r'}, R w c r → R r.1 r.2 r' → R w c r')
    (hread : ∀ w c e, R w c (cpRead w (clipC c e) (clipE c e))) (hwrite : ∀ w c, R w c (handleWrite w c))
    (hinput : ∀ w c, R w c (handleInput w c)) (w : W) (c : Cli) (e : Option FdEnv) :
    clientPass w c e = cpDead w c ∨ ∃ r, R w c r ∧ clientPass w c e = cpTail r :=
  clientPass_invariant w c e (P := R w c) (hrefl w c) (hread w c e) (fun _ _ hr => htrans hr (hwrite _ _))
    (fun _ hr => htrans hr (hinput _ _))

/-- a client that survives its share of the pass went through the stages and nothing else: what composes and holds of the
    stages holds of its share -/
theorem clientPass_alive {R : W → Cli → W × Cli → Prop} (hrefl : ∀ w c, R w c (w, c))
    (htrans : ∀ {w c r r'}, R w c r → R r.1 r.2 r' → R w c r')
    (hread : ∀ w c e, R w c (cpRead w (clipC c e) (clipE c e))) (hwrite : ∀ w c, R w c (handleWrite w c))
    (hinput : ∀ w c, R w c (handleInput w c)) {w : W} {c : Cli} {e : Option FdEnv} {c' : Cli} (h : (clientPass w c e).2 = some c') :
    R w c ((clientPass w c e).1, c') := by
  rcases clientPass_stages hrefl htrans hread hwrite hinput w c e with hd | ⟨r, hr, ht⟩
  · rw [hd] at h; cases h
  · rw [ht] at h ⊢
    rw [cpTail_world r c' h, cpTail_alive r c' h]
    exact hr

theorem clientPass_inst (w : W) (c : Cli) (e : Option FdEnv) (c' : Cli) (h : (clientPass w c e).2 = some c') :
    Inst w c ((clientPass w c e).1, c') :=
  clientPass_alive (R := Inst) (fun _ _ => .same rfl rfl rfl rfl rfl) Inst.trans
    (fun w c e => by
      rcases cpRead_cases w (clipC c e) (clipE c e) with h | ⟨_, _, h, rfl | ⟨_, rfl⟩⟩ <;> rw [h] <;>
        exact .same (clipC_id c e) rfl rfl rfl (clipC_cmd c e))
    (fun w c => by obtain ⟨_, _, _, _, _, h⟩ := handleWrite_only w c; rw [h]; exact .same rfl rfl rfl rfl rfl)
    (handleInput_walk (fun _ _ => .same rfl rfl rfl rfl rfl) Inst.trans (fun _ _ _ => .same rfl rfl rfl rfl rfl)
      fun w c l => (parseLine_does w c l).inst) h

/-- one client's share of the pass leaves the client table alone (the record served is held outside it), and a surviving
    record keeps its id -/
theorem clientPass_table (w : W) (c : Cli) (e : Option FdEnv) :
    (clientPass w c e).1.clients = w.clients ∧ ∀ c', (clientPass w c e).2 = some c' → c'.id = c.id := by
  rcases clientPass_stages (R := fun w c r => r.1.clients = w.clients ∧ r.2.id = c.id) (fun _ _ => ⟨rfl, rfl⟩)
      (fun h1 h2 => ⟨h2.1.trans h1.1, h2.2.trans h1.2⟩)
      (fun w c e => by
        rcases cpRead_cases w (clipC c e) (clipE c e) with h | ⟨_, _, h, rfl | ⟨_, rfl⟩⟩ <;> rw [h] <;> exact ⟨rfl, clipC_id c e⟩)
      (fun w c => by obtain ⟨_, _, _, _, _, h⟩ := handleWrite_only w c; rw [h]; exact ⟨rfl, rfl⟩)
      (handleInput_walk (R := fun w c r => r.1.clients = w.clients ∧ r.2.id = c.id) (fun _ _ => ⟨rfl, rfl⟩)
        (fun h1 h2 => ⟨h2.1.trans h1.1, h2.2.trans h1.2⟩) (fun _ _ _ => ⟨rfl, rfl⟩)
        fun w c l => ⟨(parseLine_frame w c l).clients, (parseLine_frame w c l).id⟩) w c e with hd | ⟨r, hr, ht⟩
  · rw [hd]; exact ⟨rfl, fun _ h => nomatch h⟩
  · obtain ⟨sys, hs⟩ := cpTail_sys r
    rw [ht]
    exact ⟨by rw [hs]; exact hr.1, fun c' h => by rw [cpTail_alive r c' h]; exact hr.2⟩

end Pm.Daemon.ClientPf
