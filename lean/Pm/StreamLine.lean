import Pm.StreamClean
import Pm.ClientStream
import Pm.EnqLine
import Pm.E2ECli
/-! For C15 over whole runs: **the grammar, the per-client invariant, and one request line**.

    * `trun`: the *strict* recogniser `001 prompt ((3xx|208)* terminal prompt)* (3xx|208)*` — the language of a client that has
      not quit: every terminal line (other than 208) is followed at once by the prompt.  `srun` (of `ClientStream`) is the
      *lax* one that also covers a client after `quit`/EOF, where replies come without prompt.
    * `SInv` ties the recognisers to the client's record and is closed under `Ext`, what a step may append; `Good`: the static
      data is free of CR/LF; `LineOut`: `_parse_input` on one line with explicit texts, so that under `Good` every line is clean. -/
namespace Pm.Daemon.StreamPf
open Pm Pm.Client Pm.Daemon Pm.Daemon.ClientPf
open Pm.Dev2 (Dev ActErr)

inductive TState where
  | start   -- nothing sent yet
  | banner  -- banner sent: the prompt must come
  | open    -- after a prompt, a 3xx line or a 208 line: lines may come, a prompt may not
  | term    -- directly after a terminal line: only the prompt may come
deriving DecidableEq, Repr

def tstep : TState → Item → Option TState
  | .start, .line c _ => if c == 1 then some .banner else none
  | .start, .prompt => none
  | .banner, .prompt => some .open
  | .banner, .line _ _ => none
  | .open, .prompt => none
  | .open, .line c _ =>
    if infoCodes.contains c || c == 208 then some .open
    else if termCodes.contains c then some .term
    else none
  | .term, .prompt => some .open
  | .term, .line _ _ => none

def trun : TState → List Item → Option TState
  | s, [] => some s
  | s, i :: r => match tstep s i with
    | some s' => trun s' r
    | none => none

/-- strict stream: banner, prompt, then blocks `(3xx|208)* terminal prompt`, then `(3xx|208)*` -/
def strictStream (items : List Item) : Bool := trun .start items == some .open

theorem trun_append (s : TState) (a b : List Item) : trun s (a ++ b) = (trun s a).bind fun s' => trun s' b := by
  induction a generalizing s with
  | nil => rfl
  | cons i r ih =>
    simp only [List.cons_append, trun]
    cases tstep s i with
    | none => rfl
    | some s' => exact ih s'

def TState.lax : TState → SState
  | .start => .start
  | .banner => .banner
  | .open => .noPrompt
  | .term => .afterTerm

theorem tstep_lax (s : TState) (i : Item) (s' : TState) (h : tstep s i = some s') : sstep s.lax i = some s'.lax := by
  cases s with
  | start =>
    cases i with
    | prompt => simp [tstep] at h
    | line c t =>
      simp only [tstep] at h
      split at h
      · rename_i hc; cases h; simp [sstep, TState.lax, hc]
      · cases h
  | banner =>
    cases i with
    | prompt => simp only [tstep] at h; cases h; rfl
    | line c t => simp [tstep] at h
  | «open» =>
    cases i with
    | prompt => simp [tstep] at h
    | line c t =>
      simp only [tstep] at h
      split at h
      · rename_i hc; cases h; simp only [sstep, TState.lax, hc, if_true]
      · rename_i hc
        split at h
        · rename_i hc2; cases h; simp only [sstep, TState.lax, hc, hc2, if_true, if_false, Bool.false_eq_true]
        · cases h
  | term =>
    cases i with
    | prompt => simp only [tstep] at h; cases h; rfl
    | line c t => simp [tstep] at h

theorem trun_lax (s : TState) (items : List Item) (s' : TState) (h : trun s items = some s') : srun s.lax items = some s'.lax := by
  induction items generalizing s with
  | nil => simp only [trun] at h; cases h; rfl
  | cons i r ih =>
    simp only [trun] at h
    cases hs : tstep s i with
    | none => rw [hs] at h; cases h
    | some s1 =>
      rw [hs] at h
      simp only [srun, tstep_lax s i s1 hs]
      exact ih s1 h

theorem strictStream_lax (items : List Item) (h : strictStream items = true) : wfStream items = true := by
  have h : trun .start items = some .open := by simpa [strictStream] using h
  have h2 : srun .start items = some .noPrompt := trun_lax .start items .open h
  simp [wfStream, h2]

theorem tstep_open_line (c : Nat) (t : Bytes) :
    tstep .open (.line c t) = (sstep .noPrompt (.line c t)).map fun s => if s = .afterTerm then .term else .open := by
  simp only [tstep, sstep]
  split
  · rfl
  · split <;> rfl

theorem tstep_open_info (c : Nat) (t : Bytes) (hc : c ∈ infoCodes ∨ c = 208) : tstep .open (.line c t) = some .open := by
  rw [tstep_open_line, sstep_line_live .noPrompt rfl c t hc]; rfl

theorem tstep_open_term (c : Nat) (t : Bytes) (hc : c ∈ termCodes) : tstep .open (.line c t) = some .term := by
  rw [tstep_open_line, sstep_term_live .noPrompt rfl c t hc]; rfl

theorem trun_infos (l : List Item) (cs : List Nat) (hcs : ∀ c ∈ cs, c ∈ infoCodes ∨ c = 208) (hl : ∀ i ∈ l, i.lineIn cs = true) :
    trun .open l = some .open := by
  induction l with
  | nil => rfl
  | cons i r ih =>
    cases i with
    | prompt => have := hl .prompt (by simp); simp [Item.lineIn] at this
    | line c t =>
      have hc : c ∈ cs := by have := hl (.line c t) (by simp); simpa [Item.lineIn] using this
      simp only [trun, tstep_open_info c t (hcs c hc)]
      exact ih (fun i hi => hl i (by simp [hi]))

theorem trun_block (infos : List Item) (cs : List Nat) (hcs : ∀ c ∈ cs, c ∈ infoCodes ∨ c = 208)
    (hi : ∀ i ∈ infos, i.lineIn cs = true) (code : Nat) (text : Bytes) (hc : code ∈ termCodes) :
    trun .open (infos ++ [Item.line code text, Item.prompt]) = some .open := by
  rw [trun_append, trun_infos infos cs hcs hi]
  show (trun .open [Item.line code text, Item.prompt]) = some .open
  rw [trun, tstep_open_term code text hc]
  rfl

theorem trun_final (items : List Item) (h : FinalReply items) : trun .open items = some .open := by
  obtain ⟨pre, infos, code, text, rfl, hp, hi, hc, _⟩ := h
  have ht : code ∈ termCodes := by
    have : ∀ c ∈ finalTermCodes, c ∈ termCodes := by decide
    exact this code hc
  rw [List.append_assoc, trun_append, trun_infos pre [308] (by decide) hp]
  exact trun_block infos finalInfoCodes (by decide) hi code text ht

theorem trun_progress (items : List Item) (h : Progress items) : trun .open items = some .open :=
  trun_infos items progressCodes (by decide) h

/-- The one fact about the standard library that the `305` line needs: `String.replace` (substitution of the device name
    for `(dev)` in a telemetry text, `teleText`) does not create a CR or LF out of a text and a name that contain none.
    Proved in `Pm/StreamReplace.lean` (`replaceClean`), through `Std.Iter.foldl_toList`; the induction over runs is kept
    independent of it (`LineOK`). -/
def ReplaceClean : Prop :=
  ∀ name t : Bytes, cleanText name = true → cleanText t = true → cleanText (teleText name t) = true

/-- what the induction over runs establishes about a line of the stream: it is clean (a single protocol line) unless it is
    a `305` telemetry line, and a `305` line is clean too if `String.replace` is (`ReplaceClean` — which holds:
    `replaceClean`) -/
def LineOK (i : Item) : Prop := (i.lineIn [305] = false → i.clean = true) ∧ (ReplaceClean → i.clean = true)

theorem LineOK.of_clean {i : Item} (h : i.clean = true) : LineOK i := ⟨fun _ => h, fun _ => h⟩

theorem LineOK.tele {t : Bytes} (h : ReplaceClean → cleanText t = true) : LineOK (Item.line 305 t) :=
  ⟨fun h' => by simp [Item.lineIn] at h', h⟩

/-- the target names of the command in progress contain no CR/LF -/
def CmdClean (c : Cli) : Prop := ∀ k, c.cmd = some k → ∀ n ∈ k.names, cleanName n = true

/-- codes of the lines of the telemetry and diagnostic callbacks -/
def strayCodes : List Nat := [305, 309]

/-- the link between the record and the end of the stream: a client that is idle and has not quit has been prompted, and
    nothing came after that prompt — the server is waiting for a request and has said so.  (In particular no telemetry or
    diagnostic line reaches an idle client: `ledger_run`.) -/
def AtPrompt (c : Cli) (items : List Item) : Prop :=
  c.cmd = none → c.quit = false → items.getLast? = some Item.prompt

theorem AtPrompt.of_last {c : Cli} (items0 items : List Item) (h : items.getLast? = some Item.prompt) : AtPrompt c (items0 ++ items) := by
  intro _ _
  exact getLast?_append_prompt _ _ h

/-- a step takes record `c` to `c'` and appends `render items` to the client's cumulative output.  `cl` switches the
    cleanliness bookkeeping on (`True`) or off (`False`: pure structure, no hypothesis about data). -/
structure Ext (cl : Prop) (c c' : Cli) (items : List Item) : Prop where
  lax : ∀ s : SState, s.live = true → ∃ s', srun s items = some s' ∧ s'.live = true
  strict : c'.quit = false → trun .open items = some .open
  quit : c.quit = true → c'.quit = true
  prompted : ∀ items0, AtPrompt c items0 → AtPrompt c' (items0 ++ items)
  clean : cl → CmdClean c → (∀ i ∈ items, LineOK i) ∧ CmdClean c'

theorem Ext.refl (cl : Prop) (c : Cli) : Ext cl c c [] :=
  ⟨fun s hs => ⟨s, rfl, hs⟩, fun _ => rfl, fun h => h, fun items0 h => by simpa using h, fun _ h => ⟨by simp, h⟩⟩

theorem Ext.trans {cl : Prop} {a b c : Cli} {i1 i2 : List Item} (h1 : Ext cl a b i1) (h2 : Ext cl b c i2) : Ext cl a c (i1 ++ i2) where
  lax := by
    intro s hs
    obtain ⟨s1, e1, l1⟩ := h1.lax s hs
    obtain ⟨s2, e2, l2⟩ := h2.lax s1 l1
    exact ⟨s2, by rw [srun_append, e1]; exact e2, l2⟩
  strict := by
    intro hq
    have hb : b.quit = false := by
      cases hbq : b.quit with
      | false => rfl
      | true => rw [h2.quit hbq] at hq; cases hq
    rw [trun_append, h1.strict hb]; exact h2.strict hq
  quit := fun h => h2.quit (h1.quit h)
  prompted := by
    intro items0 h
    rw [← List.append_assoc]
    exact h2.prompted _ (h1.prompted _ h)
  clean := by
    intro hcl hc
    obtain ⟨c1, k1⟩ := h1.clean hcl hc
    obtain ⟨c2, k2⟩ := h2.clean hcl k1
    exact ⟨List.forall_mem_append.mpr ⟨c1, c2⟩, k2⟩

/-- a step that appends nothing and at most sets `quit` (EOF, read/write errors) or moves bytes -/
theorem Ext.record (cl : Prop) (c c' : Cli) (hq : c.quit = true → c'.quit = true) (hcmd : c'.cmd = c.cmd) : Ext cl c c' [] where
  lax := fun s hs => ⟨s, rfl, hs⟩
  strict := fun _ => rfl
  quit := hq
  prompted := by
    intro items0 h hc hq'
    rw [List.append_nil]
    refine h (hcmd ▸ hc) ?_
    cases hcq : c.quit with
    | false => rfl
    | true => rw [hq hcq] at hq'; cases hq'
  clean := fun _ h => ⟨by simp, fun k hk => h k (hcmd ▸ hk)⟩

/-- **the per-client invariant.**  `total` (everything ever queued for the client: what earlier passes wrote to the
    descriptor, what this pass wrote, what still waits in `to`) is the rendering of an item list that

    * the lax recogniser accepts, past banner and first prompt (`srun`);
    * the strict recogniser accepts in state `open` as long as the client has not quit: until then every terminal line was
      followed at once by the prompt;
    * ends with the prompt when the client is idle and has not quit (`AtPrompt`);
    * consists of lines that are `LineOK` (clean; for a `305` line: clean if `ReplaceClean`), and the command in progress has
      clean target names (when `cl`). -/
def SInv (cl : Prop) (total : Bytes) (c : Cli) : Prop :=
  ∃ items, total = render items ∧ (∃ s, srun .start items = some s ∧ s.live = true) ∧
    (c.quit = false → trun .start items = some .open) ∧ AtPrompt c items ∧
    (cl → (∀ i ∈ items, LineOK i) ∧ CmdClean c)

theorem SInv.ext {cl : Prop} {total : Bytes} {c c' : Cli} {items : List Item} (h : SInv cl total c) (he : Ext cl c c' items) :
    SInv cl (total ++ render items) c' := by
  obtain ⟨items0, e0, ⟨s, hs, hl⟩, hstrict, hp, hc⟩ := h
  obtain ⟨s', hs', hl'⟩ := he.lax s hl
  refine ⟨items0 ++ items, by rw [e0, render_append], ⟨s', by rw [srun_append, hs]; exact hs', hl'⟩, ?_, he.prompted _ hp, ?_⟩
  · intro hq
    have hcq : c.quit = false := by
      cases hcq : c.quit with
      | false => rfl
      | true => rw [he.quit hcq] at hq; cases hq
    rw [trun_append, hstrict hcq]; exact he.strict hq
  · intro hcl
    obtain ⟨c0, k0⟩ := hc hcl
    obtain ⟨c1, k1⟩ := he.clean hcl k0
    exact ⟨List.forall_mem_append.mpr ⟨c0, c1⟩, k1⟩

theorem SInv.view {cl : Prop} {total : Bytes} {c : Cli} (h : SInv cl total c) :
    ∃ items, total = render items ∧ wfStream items = true ∧ (c.quit = false → strictStream items = true) ∧ AtPrompt c items ∧
      (cl → (∀ i ∈ items, LineOK i) ∧ CmdClean c) := by
  obtain ⟨items, e, ⟨s, h1, _⟩, h2, h3, h4⟩ := h
  exact ⟨items, e, by simp [wfStream, h1], fun hq => by simp [strictStream, h2 hq], h3, h4⟩

theorem SInv.streamOK {total : Bytes} {c : Cli} (h : SInv True total c) (hrep : ReplaceClean) : StreamOK total := by
  obtain ⟨items, e, ⟨s, hs, hl⟩, _, _, hc⟩ := h
  exact ⟨items, s, e, hs, hl, fun i hi => ((hc trivial).1 i hi).2 hrep⟩

theorem SInv.banner (cl : Prop) (w : W) (hv : cl → cleanText w.cfg.version = true) : SInv cl (newClient w).toBuf (newClient w) := by
  refine ⟨[Item.line 1 w.cfg.version, Item.prompt], newClient_banner w, ⟨.noPrompt, rfl, rfl⟩, fun _ => rfl,
    fun _ _ => rfl, ?_⟩
  intro hcl
  refine ⟨?_, fun k hk => by simp [newClient] at hk⟩
  intro i hi; simp at hi; rcases hi with rfl | rfl
  · exact LineOK.of_clean (hv hcl)
  · exact LineOK.of_clean rfl

/-- no device name and no node name wired to a plug contains CR/LF -/
def GoodDevs (devs : List (Bytes × Dev)) : Prop :=
  (∀ nd ∈ devs, cleanText nd.1 = true) ∧ ∀ nd ∈ devs, ∀ p ∈ nd.2.plugs, ∀ n, p.node = some n → cleanText n = true

/-- the configuration data that reaches clients is free of CR/LF: the version string, the node names (the node list is in
    the shape every constructor of the hostlist library produces), the hosts of the aliases, device names, plug nodes and
    specification names -/
structure Good (w : W) : Prop where
  version : cleanText w.cfg.version = true
  nodesWF : HWFS w.cfg.nodes
  nodes : HLClean w.cfg.nodes
  aliases : ∀ a ∈ w.cfg.aliases, ∀ n ∈ a.2, cleanName n = true
  devs : GoodDevs w.devs
  specs : ∀ p ∈ w.specs, cleanText p.2 = true

theorem lookup_mem {α β : Type} [BEq α] (l : List (α × β)) (k : α) (v : β) (h : l.lookup k = some v) : ∃ p ∈ l, p.2 = v := by
  induction l with
  | nil => simp at h
  | cons x r ih =>
    rw [List.lookup_cons] at h
    split at h
    · cases h; exact ⟨x, by simp, rfl⟩
    · obtain ⟨p, hp, e⟩ := ih h; exact ⟨p, by simp [hp], e⟩

theorem Good.spec {w : W} (h : Good w) (name : Bytes) : cleanText ((w.specs.lookup name).getD []) = true := by
  cases hl : w.specs.lookup name with
  | none => rfl
  | some v =>
    obtain ⟨p, hp, e⟩ := lookup_mem _ _ _ hl
    simp only [Option.getD_some]; rw [← e]; exact h.specs p hp

theorem Good.names {w : W} (h : Good w) : ∀ n ∈ expand w.cfg.nodes, cleanName n = true := expand_clean _ h.nodes

theorem Good.of_devs {w w' : W} (h : Good w) (h1 : w'.cfg = w.cfg) (h3 : w'.specs = w.specs) (hd : GoodDevs w'.devs) : Good w' :=
  ⟨h1 ▸ h.version, h1 ▸ h.nodesWF, h1 ▸ h.nodes, h1 ▸ h.aliases, hd, h3 ▸ h.specs⟩

theorem Good.congr {w w' : W} (h : Good w) (h1 : w'.cfg = w.cfg) (h2 : w'.devs = w.devs) (h3 : w'.specs = w.specs) : Good w' :=
  h.of_devs h1 h3 (h2 ▸ h.devs)

/-! ### the ledger between commands and device queues -/

/-- number of actions of client `g` queued on all devices -/
def queued (devs : List (Bytes × Dev)) (g : Nat) : Nat := (devs.map fun nd => Pm.Dev2.qcount g nd.2.acts).sum

theorem queued_mid (pre rest : List (Bytes × Dev)) (nd : Bytes × Dev) (g : Nat) :
    queued (pre ++ nd :: rest) g = queued pre g + Pm.Dev2.qcount g nd.2.acts + queued rest g := by
  simp [queued, Nat.add_assoc]

/-- completions the client's command still waits for -/
def pend (c : Cli) : Nat := match c.cmd with | some k => k.pending | none => 0

theorem queued_installDev (com : Nat) (bn : List Bytes) (cid : Nat) (tele : Bool) (al : Nat) (devs : List (Bytes × Dev)) (g : Nat) :
    queued (devs.map (Enq.installDev com bn cid tele al)) g =
      queued devs g + (if g = cid then Enq.installTotal com bn cid tele al devs else 0) :=
  E2E.totalQ_install com bn cid tele al devs g

/-- what `_parse_input` does with one line.  Compared with `LineOutcome` of `ClientProof` the reply is given by its parts
    (so that the text of every line is known), the cases where the prompt is withheld are tied to the record (`101` only
    with `quit` set, `208` only with a command in progress), and the static data stays `Good`. -/
inductive LineOut (cl : Prop) (w : W) (c : Cli) (r : W × Cli) : Prop where
  | exit (h : r = ({ w with exited := true }, c))
  | reply (infos : List Item) (code : Nat) (text : Bytes)
      (out : outOf r.1 r.2 = outOf w c ++
        render (infos ++ [Item.line code text] ++ (if promptAfter r.2.quit code then [Item.prompt] else [])))
      (hi : ∀ i ∈ infos, i.lineIn infoCodesP = true) (hc : code ∈ termCodesP)
      (h101 : code = 101 → r.2.quit = true) (h208 : code = 208 → c.cmd.isSome = true)
      (cmd : r.2.cmd = c.cmd) (quit : c.quit = true → r.2.quit = true)
      (clean : cl → Good w → ∀ i ∈ infos ++ [Item.line code text], i.clean = true)
      (good : Good w → Good r.1) (devs : r.1.devs = w.devs)
  | installed (k : CmdC) (idle : c.cmd = none) (cmd : r.2.cmd = some k) (out : outOf r.1 r.2 = outOf w c)
      (quit : r.2.quit = c.quit) (names : Good w → ∀ n ∈ k.names, cleanName n = true) (good : Good w → Good r.1)
      (led : ∃ com bn tele al, r.1.devs = w.devs.map (Enq.installDev com bn c.id tele al) ∧
        k.pending = Enq.installTotal com bn c.id tele al w.devs)

theorem mkReply2 (cl : Prop) (w : W) (c0 : Cli) (r : W × Cli) (infos : List Item) (code : Nat) (text : Bytes)
    (hsys : r.1.sys = w.sys) (hfd : r.2.fd = c0.fd) (hcmd : r.2.cmd = c0.cmd) (hq : r.2.quit = c0.quit)
    (hbuf : r.2.toBuf = c0.toBuf ++ (render (infos ++ [Item.line code text]) ++ (if r.2.quit then [] else prompt)))
    (hi : ∀ i ∈ infos, i.lineIn infoCodesP = true)
    (hc : code ∈ termCodesP) (h208 : code ≠ 208) (h101 : code ≠ 101)
    (hcl : cl → Good w → ∀ i ∈ infos ++ [Item.line code text], i.clean = true) (hg : Good w → Good r.1)
    (hdevs : r.1.devs = w.devs) : LineOut cl w c0 r := by
  have hbuf' : r.2.toBuf = c0.toBuf ++ render (infos ++ [Item.line code text] ++ (if promptAfter r.2.quit code then [Item.prompt] else [])) := by
    rw [hbuf]; simp only [promptAfter]
    cases r.2.quit <;> simp [h208, h101, render, Item.render]
  refine .reply infos code text ?_ hi hc (fun h => absurd h h101) (fun h => absurd h h208) hcmd (fun h => by rw [hq]; exact h) hcl hg hdevs
  simp only [outOf, hbuf', hsys, hfd, List.append_assoc]

theorem plFin_out (cl : Prop) (w : W) (c0 c : Cli) (b : Bytes) (infos : List Item) (code : Nat) (text : Bytes)
    (h1 : c.toBuf = c0.toBuf) (h2 : c.cmd = c0.cmd) (h3 : c.fd = c0.fd) (h4 : c.quit = c0.quit)
    (hb : b = render (infos ++ [Item.line code text])) (hi : ∀ i ∈ infos, i.lineIn infoCodesP = true)
    (hc : code ∈ termCodesP) (h208 : code ≠ 208) (h101 : code ≠ 101)
    (hcl : cl → Good w → ∀ i ∈ infos ++ [Item.line code text], i.clean = true) : LineOut cl w c0 (plFin w c b) :=
  mkReply2 cl w c0 _ infos code text rfl h3 h2 h4 (by simp only [plFin, put, h1, hb]) hi hc h208 h101 hcl (fun h => h) rfl

theorem nodesItems_clean (e : Bool) (hl : Hostlist) (h : HLClean hl) : ∀ i ∈ nodesItems e hl, i.clean = true := by
  intro i hi; unfold nodesItems at hi
  split at hi
  · simp only [List.mem_map] at hi
    obtain ⟨n, hn, rfl⟩ := hi
    simp only [Item.clean, cleanText_ofChars]
    exact expand_clean hl h n hn
  · simp at hi; subst hi
    simp only [Item.clean, cleanText_ofChars]
    exact rangedString_clean hl h

theorem handleWrite_good (w : W) (c : Cli) (h : Good w) : Good (handleWrite w c).1 := by
  obtain ⟨_, _, _, _, _, e⟩ := handleWrite_only w c
  rw [e]; exact h.congr rfl rfl rfl

theorem plQuit_out (cl : Prop) (w : W) (c : Cli) : LineOut cl w c (plQuit w c) := by
  obtain ⟨hq, hcmd, _, hfr⟩ := plQuit_spec w c
  refine .reply [] 101 (bstr "Goodbye") ?_ (by simp) (by decide) (fun _ => hq.1) (fun h => by cases h) hcmd (fun _ => hq.1)
    (by intro _ _ i hi; simp at hi; subst hi; exact cleanText_lit (by decide +kernel)) (fun h => handleWrite_good w _ h) (Enq.handleWrite_devs w _)
  have : (if promptAfter (plQuit w c).2.quit 101 = true then [Item.prompt] else []) = [] := by simp [promptAfter]
  rw [this]
  exact hq.out hfr.fd

theorem installDev_good (com : Nat) (bn : List Bytes) (cid : Nat) (tele : Bool) (al : Nat) (devs : List (Bytes × Dev))
    (h : GoodDevs devs) : GoodDevs (devs.map (Enq.installDev com bn cid tele al)) := by
  constructor
  · intro nd hnd
    simp only [List.mem_map] at hnd
    obtain ⟨x, hx, rfl⟩ := hnd
    rw [Enq.installDev_fst]; exact h.1 x hx
  · intro nd hnd p hp n hn
    simp only [List.mem_map] at hnd
    obtain ⟨x, hx, rfl⟩ := hnd
    rw [(Enq.installDev_spec com bn cid tele al x).1] at hp
    exact h.2 x hx p hp n hn

/-! the `device` query: `304` lines built from the device name, counters, the specification name and the sorted plug list -/

theorem sorted_pushed_clean (names : List Name) (hn : ∀ n ∈ names, cleanName n = true) (hl : Hostlist)
    (h : sortHL (names.foldl pushHost []) = .ok hl) : HLClean hl :=
  sortHL_clean _ hl (foldl_pushHost_HWFS names [] HWFS_nil) (foldl_pushHost_clean names hn [] HLClean_nil) h

theorem devText_clean (w : W) (nd : Bytes × Dev) (hl : Hostlist) (hspec : cleanText ((w.specs.lookup nd.1).getD []) = true)
    (hname : cleanText nd.1 = true) (hplugs : ∀ p ∈ nd.2.plugs, ∀ n, p.node = some n → cleanText n = true)
    (hs : sortHL (devHosts nd.2) = .ok hl) : cleanText (devText w nd hl) = true := by
  have hhl : HLClean hl := by
    apply sorted_pushed_clean _ _ hl hs
    intro n hn
    simp only [List.mem_filterMap] at hn
    obtain ⟨p, hp, hpn⟩ := hn
    cases hnode : p.node with
    | none => rw [hnode] at hpn; cases hpn
    | some b =>
      rw [hnode] at hpn; simp at hpn; subst hpn
      rw [toChars_clean]; exact hplugs p hp b hnode
  have hstate : cleanText (bstr (if nd.2.conn == 2 then "connected" else if nd.2.conn == 1 then "connecting" else "disconnected")) = true := by
    split
    · exact cleanText_lit (by decide +kernel)
    · split <;> exact cleanText_lit (by decide +kernel)
  have h1 : cleanText (bstr ": state=") = true := cleanText_lit (by decide +kernel)
  have h2 : cleanText (bstr " reconnects=") = true := cleanText_lit (by decide +kernel)
  have h3 : cleanText (bstr " actions=") = true := cleanText_lit (by decide +kernel)
  have h4 : cleanText (bstr " type=") = true := cleanText_lit (by decide +kernel)
  have h5 : cleanText (bstr " hosts=") = true := cleanText_lit (by decide +kernel)
  unfold devText
  simp only [cleanText_append, hname, h1, hstate, h2, d33_clean, h3, h4, hspec, h5, cleanText_ofChars, rangedString_clean hl hhl,
    Bool.and_self]

theorem devFold_some_clean (w : W) (t : Option Hostlist) (hspecs : ∀ name, cleanText ((w.specs.lookup name).getD []) = true) :
    ∀ (l : List (Bytes × Dev)) (acc b : Bytes), GoodDevs l →
    l.foldl (ClientPf.devReplyStep w t) (some acc) = some b →
    ∃ items, b = acc ++ render items ∧ (∀ i ∈ items, i.lineIn [304] = true) ∧ ∀ i ∈ items, i.clean = true := by
  intro l; induction l with
  | nil => intro acc b _ h; simp at h; exact ⟨[], by simp [h], by simp, by simp⟩
  | cons nd r ih =>
    intro acc b hg h
    have hg' : GoodDevs r := ⟨fun x hx => hg.1 x (by simp [hx]), fun x hx => hg.2 x (by simp [hx])⟩
    rw [List.foldl_cons, devReplyStep_some] at h
    split at h
    · exact ih _ _ hg' h
    · split at h
      · rw [devFold_none_acc] at h; simp at h
      · rw [devFold_none_acc] at h; simp at h
      · rename_i hl hs
        obtain ⟨items, hb, hi, hcl⟩ := ih _ _ hg' h
        refine ⟨Item.line 304 (devText w nd hl) :: items, ?_, ?_, ?_⟩
        · rw [hb, List.append_assoc, ← render_append]; rfl
        · intro i hi'; simp at hi'; rcases hi' with rfl | hi'
          · rfl
          · exact hi i hi'
        · intro i hi'; simp at hi'; rcases hi' with rfl | hi'
          · exact devText_clean w nd hl (hspecs nd.1) (hg.1 nd (by simp)) (hg.2 nd (by simp)) hs
          · exact hcl i hi'

/-! commands with an argument -/

theorem aliasOf_mem (als : List (Name × List Name)) (a : Name) (hs : List Name) (h : aliasOf als a = some hs) : ∃ p ∈ als, p.2 = hs := by
  unfold aliasOf at h
  cases hf : als.find? (·.1 == a) with
  | none => rw [hf] at h; cases h
  | some p => rw [hf] at h; simp at h; exact ⟨p, List.mem_of_find?_eq_some hf, h⟩

theorem expAliases_clean (als : List (Name × List Name)) (names : List Name) (hals : ∀ a ∈ als, ∀ n ∈ a.2, cleanName n = true)
    (hn : ∀ n ∈ names, cleanName n = true) : ∀ n ∈ expAliases als names, cleanName n = true := by
  intro n hn'
  rcases AliasPf.mem_expAliases.mp hn' with ⟨h1, _⟩ | ⟨a, _, hs, h1, h2⟩
  · exact hn n h1
  · obtain ⟨p, hp, rfl⟩ := aliasOf_mem als a hs h1
    exact hals p hp n h2

theorem bstr_nosuch_clean : cleanText (bstr "No such nodes: ") = true := cleanText_lit (by decide +kernel)

theorem busy_out (cl : Prop) (w : W) (c : Cli) (hb : c.cmd.isSome = true) : LineOut cl w c (w, put c (render [item208])) := by
  refine .reply [] 208 (bstr "Command in progress") ?_ (by simp) (by decide) (fun h => by cases h) (fun _ => hb) rfl (fun h => h)
    (by intro _ _ i hi; simp at hi; subst hi; exact cleanText_lit (by decide +kernel)) (fun h => h) rfl
  simp [outOf, put, promptAfter]

theorem Typed.clean {w : W} {str : Bytes} {com : Com} {names : List Name} (h : Typed w str com names) (hg : Good w) :
    ∀ n ∈ names, cleanName n = true := by
  obtain ⟨arg, hl, hscan, hcr, rfl⟩ := h
  exact expAliases_clean _ _ hg.aliases
    (expand_clean hl (createR_clean _ (by rw [toChars_clean]; exact scan_clean _ str arg hscan) hl hcr))

/-- the outcome of a line, read off what the line does: fixed text is clean as it stands; the three replies that embed data are
    clean when the static data is (`nodes`: the sorted node list; `device`: names, specification and plug nodes of the devices;
    `209`: names typed by the client, which `sscanf` and `hostlist_create` keep free of white space) -/
theorem _root_.Pm.Daemon.ClientPf.LineDoes.out (cl : Prop) {w : W} {c : Cli} {str : Bytes} {r : W × Cli} (h : LineDoes w c str r) :
    LineOut cl w c r := by
  have q103 : ∀ (b : Bytes) (items : List Item), b = render items → (∀ i ∈ items, i.lineIn infoCodesP = true) →
      (cl → Good w → ∀ i ∈ items, i.clean = true) → LineOut cl w c (plFin w c (b ++ bstr "103 Query complete" ++ crlf)) :=
    fun b items hb hi hcl => plFin_out cl w c c _ items 103 (bstr "Query complete") rfl rfl rfl rfl
      (by rw [List.append_assoc, bstr_103, hb, render_append]) hi (by decide) (by decide) (by decide)
      fun h1 h2 i hi' => (List.mem_append.mp hi').elim (hcl h1 h2 i) fun h => List.mem_singleton.mp h ▸ clean_103
  cases h with
  | say tele ex infos code text hi hc h208 h101 clean =>
    exact plFin_out cl w c _ _ infos code text rfl rfl rfl rfl rfl hi hc h208 h101 fun _ _ => clean
  | busy h => exact busy_out cl w c h
  | nodes hl h =>
    refine mkReply2 cl w c _ (nodesItems c.exprange hl) 103 (bstr "Query complete") rfl rfl rfl rfl rfl (nodesItems_info _ _)
      (by decide) (by decide) (by decide) (fun _ hg i hi => ?_)
      (fun hg => ⟨hg.version, sortHL_wfs _ hl hg.nodesWF h, sortHL_clean _ hl hg.nodesWF hg.nodes h, hg.aliases, hg.devs, hg.specs⟩) rfl
    exact (List.mem_append.mp hi).elim (nodesItems_clean _ hl (sortHL_clean _ hl hg.nodesWF hg.nodes h) i)
      fun h => List.mem_singleton.mp h ▸ clean_103
  | device a b h =>
    by_cases hg : Good w
    · rw [deviceReply_eq] at h
      obtain ⟨items, hb, hi, hcl⟩ := devFold_some_clean w _ (fun n => hg.spec n) _ _ _ hg.devs h
      exact q103 b items (by simpa using hb) (fun i h => lineIn_mono (by decide) i (hi i h)) fun _ _ => hcl
    · obtain ⟨items, hb, hi⟩ := deviceReply_some w a b h
      exact q103 b items hb (fun i h => lineIn_mono (by decide) i (hi i h)) fun _ hg' => absurd hg' hg
  | nosuch com names ht =>
    refine plFin_out cl w c c _ [] 209 (bstr "No such nodes: " ++
      ofChars (rangedString ((names.filter fun n => (find w.cfg.nodes n).isNone).foldl pushHost []))) rfl rfl rfl rfl
      (by simp [render, Item.render, bstr_209, List.append_assoc]) (by simp) (by decide) (by decide) (by decide) fun _ hg i hi => ?_
    simp at hi; subst hi
    simp only [Item.clean, cleanText_append, bstr_nosuch_clean, cleanText_ofChars, Bool.true_and]
    exact rangedString_clean _ (foldl_pushHost_clean _ (fun n hn => Typed.clean ht hg n (List.mem_filter.mp hn).1) [] HLClean_nil)
  | exit _ => exact .exit rfl
  | quit _ => exact plQuit_out cl w c
  | accept com names idle ht _ _ _ =>
    refine .installed _ idle rfl rfl rfl (fun hg => ht.elim (fun h => h.2 ▸ hg.names) fun h => Typed.clean h.1 hg)
      (fun ⟨a, b, c', d, e, f⟩ => ⟨a, b, c', d, installDev_good _ _ _ _ _ _ e, f⟩) ⟨_, _, _, _, rfl, rfl⟩

theorem parseLine_out (cl : Prop) (w : W) (c : Cli) (line : Bytes) : LineOut cl w c (parseLine w c line) :=
  (parseLine_does w c line).out cl

end Pm.Daemon.StreamPf

/-! axiom audit (expected: at most `propext`, `Classical.choice`, `Quot.sound`) -/
#print axioms Pm.Daemon.StreamPf.parseLine_out
#print axioms Pm.Daemon.StreamPf.SInv.ext
