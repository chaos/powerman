import Pm.RedfishPower
/-! `on` / `off`: the machine prints the lines of `specPower` and reaches its states. -/
namespace Pm.Redfish

theorem mem_knownT {c : Cfg} {ts : List Nat} {t : Nat} : t ∈ knownT c ts ↔ t ∈ ts ∧ known c t = true := by
  simp [knownT, known]

theorem len_gt_one {α : Type} {l : List α} {x y : α} (hx : x ∈ l) (hy : y ∈ l) (hne : x ≠ y) : 1 < l.length := by
  match l, hx, hy with
  | [], hx, _ => simp at hx
  | [z], hx, hy => simp at hx hy; exact absurd (hx.trans hy.symm) hne
  | _ :: _ :: _, _, _ => simp

theorem mem_all_iff {c : Cfg} {cmd : Cmd} {ts : List Nat} {pm : PM} :
    pm ∈ (ts.filter (isRootT c)).map (mk cmd) ++ (ts.filter (isChildT c)).map (mk cmd) ↔
      ∃ t, t ∈ ts ∧ known c t = true ∧ pm = mk cmd t := by
  simp only [List.mem_append, List.mem_map, List.mem_filter]
  constructor
  · rintro (⟨t, ⟨h1, h2⟩, rfl⟩ | ⟨t, ⟨h1, h2⟩, rfl⟩)
    · refine ⟨t, h1, ?_, rfl⟩
      simp only [isRootT, Bool.and_eq_true] at h2; exact h2.1
    · refine ⟨t, h1, ?_, rfl⟩
      rcases classes c t with ⟨_, _, h⟩ | ⟨_, _, h⟩ | ⟨h, _, _⟩
      · rw [h] at h2; cases h2
      · rw [h] at h2; cases h2
      · exact h
  · rintro ⟨t, h1, h2, rfl⟩
    rcases classes c t with ⟨h, _, _⟩ | ⟨_, h, _⟩ | ⟨_, _, h⟩
    · rw [h] at h2; cases h2
    · exact Or.inl ⟨t, ⟨h1, h⟩, rfl⟩
    · exact Or.inr ⟨t, ⟨h1, h⟩, rfl⟩

theorem phased_iff {c : Cfg} (hw : WF c = true) (st : St) (cmd : Cmd) (ts : List Nat) :
    phasedT c st cmd ts = specPhased c cmd ts := by
  rw [Bool.eq_iff_iff]
  unfold phasedT phasedB specPhased
  rw [enq_eq]
  simp only [Bool.and_eq_true, Bool.not_eq_true', decide_eq_true_eq, List.any_eq_true]
  constructor
  · rintro ⟨_, ⟨hc, _⟩, pa, hpa, pb, hpb, hd⟩
    obtain ⟨a, ha1, ha2, rfl⟩ := mem_all_iff.1 hpa
    obtain ⟨b, hb1, hb2, rfl⟩ := mem_all_iff.1 hpb
    exact ⟨hc, a, mem_knownT.2 ⟨ha1, ha2⟩, b, mem_knownT.2 ⟨hb1, hb2⟩, hd⟩
  · rintro ⟨hc, a, ha, b, hb, hd⟩
    have ha' := mem_knownT.1 ha
    have hb' := mem_knownT.1 hb
    have hpa : mk cmd a ∈ (ts.filter (isRootT c)).map (mk cmd) ++ (ts.filter (isChildT c)).map (mk cmd) :=
      mem_all_iff.2 ⟨a, ha'.1, ha'.2, rfl⟩
    have hpb : mk cmd b ∈ (ts.filter (isRootT c)).map (mk cmd) ++ (ts.filter (isChildT c)).map (mk cmd) :=
      mem_all_iff.2 ⟨b, hb'.1, hb'.2, rfl⟩
    have hne : mk cmd a ≠ mk cmd b := by
      intro e
      have : a = b := by simpa [mk] using e
      subst this
      exact anc_irrefl hw a (isDesc_iff.1 hd)
    obtain ⟨q, hq⟩ := anc_nonempty_parent (isDesc_iff.1 hd)
    have hch : isChildT c a = true := by simp [isChildT, hq]
    refine ⟨?_, ⟨hc, len_gt_one hpa hpb hne⟩, mk cmd a, hpa, mk cmd b, hpb, hd⟩
    cases he : ((ts.filter (isChildT c)).map (mk cmd)).isEmpty
    · rfl
    · rw [List.isEmpty_iff, List.map_eq_nil_iff, List.filter_eq_nil_iff] at he
      exact absurd hch (he a ha'.1)

theorem plugActive_off_mem {m : M} {r : Nat} (h : mk .off r ∈ m.active) : plugActive m r .off = true := by
  unfold plugActive
  rw [List.any_eq_true]
  exact ⟨mk .off r, h, by simp [mk]⟩

theorem PInv_init {c : Cfg} (hw : WF c = true) (st : St) {cmd : Cmd} (hne : cmd ≠ .stat) (ts : List Nat)
    (hph : phasedT c st cmd ts = false) :
    PSit c cmd (knownT c ts) ∧ RoundStart (PInv c st cmd (knownT c ts)) (setup c cmd (enq c st cmd ts)) := by
  unfold RoundStart
  have hsp : specPhased c cmd ts = false := by rw [← phased_iff hw st]; exact hph
  have hs : PSit c cmd (knownT c ts) :=
    ⟨hne, fun t ht => (mem_knownT.1 ht).2, fun e => specPhased_false (e ▸ hsp)⟩
  refine ⟨hs, ?_⟩
  obtain ⟨qs, e, hq⟩ := setup_plain hph
  rw [e, enq_eq] at *
  simp only [List.append_nil] at *
  have hchild : ∀ t, t ∈ ts → isChildT c t = true → t ∈ knownT c ts ∧ ∃ q, parentOf c t = some q := by
    intro t ht hc
    obtain ⟨q, hq'⟩ := isChildT_iff.1 hc
    exact ⟨mem_knownT.2 ⟨ht, parentOf_known hq'⟩, q, hq'⟩
  have hroot : ∀ t, t ∈ ts → isRootT c t = true → t ∈ knownT c ts ∧ parentOf c t = none := fun t ht hr =>
    ⟨mem_knownT.2 ⟨ht, (isRootT_iff.1 hr).1⟩, (isRootT_iff.1 hr).2⟩
  -- a query for the root of a child target: that root is no target (for `off` its own message would have kept
  -- the query from being sent)
  have hqs : ∀ q ∈ qs, ∃ t, t ∈ ts ∧ isChildT c t = true ∧ q = query (rootOf c t) ∧ rootOf c t ∉ knownT c ts := by
    intro q hqm
    obtain ⟨w, hwm, rfl, hpa⟩ := hq q hqm
    simp only [List.mem_map, List.mem_filter] at hwm
    obtain ⟨t, ⟨ht1, ht2⟩, rfl⟩ := hwm
    refine ⟨t, ht1, ht2, rfl, ?_⟩
    intro hrT
    have hc := hchild t ht1 ht2
    have hr := rootOf_spec hw t hc.2
    cases hC : cmd with
    | stat => exact absurd hC hne
    | on => exact hs.noRelatives hC t hc.1 _ hr.1 hrT
    | off =>
      rw [hC] at hpa
      unfold plugActive at hpa
      rw [List.any_eq_false] at hpa
      have := hpa (mk .off (rootOf c t)) (List.mem_map.2 ⟨rootOf c t,
        List.mem_filter.2 ⟨(mem_knownT.1 hrT).1, isRootT_iff.2 ⟨(mem_knownT.1 hrT).2, hr.2⟩⟩, rfl⟩)
      simp [mk] at this
  constructor
  · simp
  · intro j hj
    simp only [List.append_nil, List.mem_append, List.mem_map, List.mem_filter] at hj
    rcases hj with ⟨t, ⟨ht1, ht2⟩, rfl⟩ | hj
    · have := hroot t ht1 ht2
      exact ⟨Or.inr ⟨rfl, rfl, this.1, fun hh => by simp [mk] at hh⟩, (mem_knownT.1 this.1).2, clearPath_root _ this.2⟩
    · obtain ⟨t, ht1, ht2, rfl, hnT⟩ := hqs j hj
      have hr := rootOf_spec hw t (hchild t ht1 ht2).2
      exact ⟨Or.inl ⟨rfl, rfl, Or.inl hnT⟩, anc_known hw _ _ hr.1, clearPath_root _ hr.2⟩
  · intro w hwm
    simp only [List.mem_map, List.mem_filter] at hwm
    obtain ⟨t, ⟨ht1, ht2⟩, rfl⟩ := hwm
    exact ⟨rfl, rfl, rfl, (hchild t ht1 ht2).1⟩
  · intro x
    apply curOn_congr
    intro t _
    unfold unsentPlugs
    simp only [List.append_nil, List.mem_map, List.mem_append, List.mem_filter]
    constructor
    · intro htT
      have := mem_knownT.1 htT
      rcases classes c t with ⟨h, _, _⟩ | ⟨_, h, _⟩ | ⟨_, _, h⟩
      · rw [h] at this; cases this.2
      · exact ⟨mk cmd t, Or.inr ⟨Or.inl ⟨t, ⟨this.1, h⟩, rfl⟩, by simp [unsent, mk, hne]⟩, rfl⟩
      · exact ⟨mk cmd t, Or.inl ⟨t, ⟨this.1, h⟩, rfl⟩, rfl⟩
    · rintro ⟨j, hj, rfl⟩
      rcases hj with ⟨t, ⟨ht1, ht2⟩, rfl⟩ | ⟨⟨t, ⟨ht1, ht2⟩, rfl⟩ | hj, hpb⟩
      · exact (hchild t ht1 ht2).1
      · exact (hroot t ht1 ht2).1
      · obtain ⟨t, _, _, rfl, _⟩ := hqs j hj
        simp [unsent, query] at hpb
  · intro _ t ht hpar
    exact .waiting (mk cmd t) (List.mem_map.2 ⟨t, List.mem_filter.2 ⟨(mem_knownT.1 ht).1, hpar⟩, rfl⟩) rfl

theorem runCmd_power {c : Cfg} (hw : WF c = true) (st : St) {cmd : Cmd} (hne : cmd ≠ .stat) (ts : List Nat) :
    (runCmd c st cmd ts).1.Perm (specPower c st cmd ts).1 ∧
    ∀ x, isOn (runCmd c st cmd ts).2.1 x = isOn (specPower c st cmd ts).2 x := by
  rw [runCmd_eq]
  simp only
  by_cases hph : phasedT c st cmd ts = true
  · -- refused
    have hsp : specPhased c cmd ts = true := by rw [← phased_iff hw st]; exact hph
    rw [setup_phased hph, runLoop_idle _ _ _ (by simp [isDone, (enq_props c st cmd ts).2.1])]
    rw [specPower_eq, hsp, enq_eq]
    simp only [if_true]
    refine ⟨?_, fun _ => trivial⟩
    rw [unknownLines_eq]
    apply List.Perm.append_left
    rw [List.perm_iff_count]
    intro x
    rw [List.count_eq_countP, List.count_eq_countP, List.countP_map, List.countP_map, List.countP_append,
      List.countP_map, List.countP_map, count_known]
    rfl
  · have hph : phasedT c st cmd ts = false := by simpa using hph
    have hsp : specPhased c cmd ts = false := by rw [← phased_iff hw st]; exact hph
    obtain ⟨hs, h0⟩ := PInv_init hw st hne ts hph
    obtain ⟨hp, hW, hfin⟩ := runLoop_books hw (PInv_justifies hw st hs) st cmd ts hph h0
    obtain ⟨hl, hst⟩ := specPower_lines hw st hne ts hsp
    refine ⟨hp.trans hl.symm, fun x => ?_⟩
    rw [hst x, hfin.balance x]
    simp [unsentPlugs, hW, curOn_nil]

end Pm.Redfish
