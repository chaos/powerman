import Pm.RunX
import Pm.ClientStream
/-! `ClientPf.runPasses_exited` (C06) for runs that carry regex answers (`runX`, `Pm/RunX.lean`). -/
namespace Pm.Daemon.ClientPf
open Pm Pm.Client Pm.Daemon

theorem runX_runPasses (w : W) (ps : List PassIn) : runX w (ps.map PassX.plain) = runPasses w ps := runX_plain w ps

/-- **no run leaves the process, whatever the regex engine answers in every pass** (under `NoSortAbort`, as `runPasses_exited`):
    `feed` does not touch the flag, the device half of a pass never sets it, the client half only through the sort assertion -/
theorem runX_exited (hs : NoSortAbort) (w : W) (qs : List PassX) : (runX w qs).exited = w.exited :=
  runX_inv_of (fun u => u.exited = w.exited) (fun _ _ h => h)
    (fun u p h => by rw [daemonPass_exited, cliPostPoll_exited hs]; exact h) w qs rfl

end Pm.Daemon.ClientPf

section AxiomChecks
open Pm.Daemon.ClientPf
/-- info: 'Pm.Daemon.ClientPf.runX_exited' depends on axioms: [propext, Classical.choice, Quot.sound] -/
#guard_msgs in #print axioms runX_exited
end AxiomChecks
