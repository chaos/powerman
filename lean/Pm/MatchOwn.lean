import Pm.Dev2Login2
import Pm.QueryEv
/-! C03, the match object (finding F38): `_process_action` recycles `dev->xmatch` whenever an action leaves the queue.  Helper
    lemmas for `C03_match_is_own`: on a device that is connected and logged in, the match object is in use (`xm_used`) only
    while the head of the queue is past its start (`RegInv`); this is kept by everything the daemon does to a device
    (`Reach.regInv`). -/
namespace Pm.Dev2.MatchOwn
open Pm.Dev2 Pm.Dev2.Login2

/-- a context that waits for an inner block to end: a `foreach` holds its plug iterator, an `if` has `processing` set -/
def InProgress (e : ExecCtx) : Prop := e.plugItr.isSome = true ∨ e.processing = true

/-- every context below the top of the stack is a block statement in progress.  (Weaker than `Interp.StackOK R` of
    `Pm/InterpSim.lean`, which also asks that every context fits its script and that the top position is in range, and is kept
    only while the action has not failed: this one is kept by every statement on every action, failed ones included, which an
    invariant of all reachable queues needs.) -/
def StackOKE (ex : List ExecCtx) : Prop := ∀ e ∈ ex.drop 1, InProgress e
def StackOK (a : Action) : Prop := StackOKE a.exec

/-- the stack `_create_action` and `_rewind_action` leave (one context, at its first statement, no `send`/`delay`/`if` in
    progress, no plug iterator) on a script whose first statement is not an `expect` -/
def AtStartE (ex : List ExecCtx) : Prop :=
  ∃ e, ex = [e] ∧ e.pos = 0 ∧ e.processing = false ∧ e.plugItr = none ∧ ∀ pat, e.block[0]? ≠ some (Stmt.expect pat)
def AtStart (a : Action) : Prop := AtStartE a.exec

theorem stackOKE_single (e : ExecCtx) : StackOKE [e] := by intro x hx; simp at hx
theorem stackOKE_nil : StackOKE [] := by intro x hx; simp at hx

theorem stackOK_setTop (a : Action) (e : ExecCtx) (h : StackOK a) : StackOK (setTop a e) := by
  unfold StackOK StackOKE setTop at *; simpa using h

theorem not_atStart_of_expect (a : Action) (pat : Nat) (h : (topCtx a).block[(topCtx a).pos]? = some (Stmt.expect pat)) :
    ¬ AtStart a := by
  rintro ⟨e, hex, hpos, _, _, hne⟩
  have : topCtx a = e := by simp [topCtx, hex]
  rw [this, hpos] at h
  exact hne pat h

/-- a statement leaves the stack as it is or pushes one context on a parent in progress (`Interp.Step.shape`) -/
theorem processStmt_stackOK (d : Dev) (a : Action) (o : Oracle) (now : Time) (h : StackOK a) :
    StackOK (processStmt d a o now).act :=
  Interp.processStmt_ind d a o now (fun r => StackOK r.act) (fun _ => h) fun e rest s r hex _ hst => by
    obtain ⟨x, hsh, _⟩ := hst.shape hex
    have hrest : ∀ y ∈ rest, InProgress y := fun y hy => h y (by rw [hex]; exact hy)
    intro y hy
    rcases hsh with hx | ⟨new, hx, hp⟩ <;> rw [hx] at hy
    · exact hrest y hy
    · rcases List.mem_cons.1 hy with rfl | hy
      · exact hp
      · exact hrest y hy

/-- a statement that stalls (`expect` without a match, `send` not yet flushed, `delay` not yet over) leaves the action past
    its start -/
theorem processStmt_stalled (d : Dev) (a : Action) (o : Oracle) (now : Time) :
    (processStmt d a o now).finished = false → ¬ AtStart (processStmt d a o now).act :=
  Interp.processStmt_ind d a o now (fun r => r.finished = false → ¬ AtStart r.act) (fun _ hf => nomatch hf)
    fun e rest s r hex hcur hst hf => by
      rcases hst.stalled hf with ⟨pat, hs, ha⟩ | hx
      · rw [ha]; exact not_atStart_of_expect a pat (by rw [Interp.topCtx_of_exec a e rest hex, hcur, hs])
      · rintro ⟨x, hx', _, hp, _⟩
        rw [hx] at hx'; cases hx'; cases hp

theorem innerLoop_stackOK (now : Time) (fuel : Nat) (d : Dev) (a : Action) (o : Oracle) (acc : List Out) (h : StackOK a) :
    StackOK (innerLoop now fuel d a o acc).act :=
  innerLoop_induct (now := now) (P := fun _ a _ _ r => StackOK a → StackOK r.act) (fun d a o _ h => processStmt_stackOK d a o now h)
    (fun d a o _ _ _ _ ih h => ih (processStmt_stackOK d a o now h)) fuel d a o acc h

theorem innerLoop_stalled (now : Time) (fuel : Nat) (d : Dev) (a : Action) (o : Oracle) (acc : List Out)
    (hf : (innerLoop now fuel d a o acc).finished = false) : ¬ AtStart (innerLoop now fuel d a o acc).act :=
  innerLoop_induct (now := now) (P := fun _ _ _ _ r => r.finished = false → ¬ AtStart r.act)
    (fun d a o _ => processStmt_stalled d a o now) (fun _ _ _ _ _ _ _ ih => ih) fuel d a o acc hf

/-! ### `e->cur = list_next(e->stmtitr)` and the pop -/

theorem advance_stackOK (a : Action) (h : StackOK a) : StackOK (advance a) := by
  unfold advance; dsimp only
  split
  · intro x hx
    exact h x (List.mem_of_mem_drop hx)
  · exact stackOK_setTop _ _ h

theorem advance_started (a : Action) (h : StackOK a) : ¬ AtStart (advance a) ∨ (advance a).exec = [] := by
  unfold advance; dsimp only
  split
  · cases hd : a.exec.drop 1 with
    | nil => right; rfl
    | cons x r =>
      left
      rintro ⟨e, hex, _, hp, hi, _⟩
      have hx : x = e := by simpa using (List.cons.inj hex).1
      have := h x (by simp [hd])
      subst hx
      rcases this with h1 | h1
      · simp [hi] at h1
      · simp [hp] at h1
  · left
    rintro ⟨e, hex, hpos, _⟩
    simp only [setTop] at hex
    have : ({ topCtx a with pos := (topCtx a).pos + 1 } : ExecCtx) = e := by
      cases hd : a.exec.drop 1 <;> simp_all
    rw [← this] at hpos
    simp at hpos

/-- the invariant of the match object (`dev->xmatch`, the device's one register of captured groups) -/
structure RegInv (d : Dev) : Prop where
  stacks : ∀ a ∈ d.acts, StackOK a
  /-- `logged_in` is cleared by `_disconnect` -/
  nolog : d.conn ≠ 2 → d.loggedIn = false
  clean : d.conn = 2 → d.loggedIn = true → (∀ a rest, d.acts = a :: rest → AtStart a) → d.xmUsed = false

theorem RegInv.of_notLogged {d : Dev} (hs : ∀ a ∈ d.acts, StackOK a) (hl : d.loggedIn = false) : RegInv d :=
  ⟨hs, fun _ => hl, fun _ h => by simp [hl] at h⟩

theorem RegInv.append {d d' : Dev} (h : RegInv d) (l : List Action) (hl : ∀ a ∈ l, StackOK a) (hc : d'.conn = d.conn)
    (hg : d'.loggedIn = d.loggedIn) (hu : d'.xmUsed = d.xmUsed) (ha : d'.acts = d.acts ++ l) : RegInv d' := by
  refine ⟨?_, by rw [hc, hg]; exact h.nolog, ?_⟩
  · intro a hm; rw [ha] at hm
    rcases List.mem_append.1 hm with hm | hm
    · exact h.stacks a hm
    · exact hl a hm
  · intro h2 h3 hat
    rw [hu]; rw [hc] at h2; rw [hg] at h3
    apply h.clean h2 h3
    intro a rest hx
    exact hat a (rest ++ l) (by rw [ha, hx]; rfl)

theorem rewind_stackOK (a : Action) (h : StackOK a) : StackOK (rewind a) := by
  unfold rewind; split
  · exact stackOKE_single _
  · exact h

theorem loginAction_stackOK (d : Dev) : StackOK (loginAction d) := stackOKE_single _

theorem enqueueLogin_stacks (d : Dev) (h : ∀ a ∈ d.acts, StackOK a) : ∀ a ∈ (enqueueLogin d).acts, StackOK a := by
  unfold enqueueLogin
  intro a hm
  simp only [List.mem_cons] at hm
  rcases hm with hm | hm
  · subst hm; exact loginAction_stackOK d
  · cases hd : d.acts with
    | nil => simp [hd] at hm
    | cons x r =>
      simp only [hd, List.mem_cons] at hm
      rcases hm with hm | hm
      · subst hm; exact rewind_stackOK x (h x (by simp [hd]))
      · exact h a (by simp [hd, hm])

/-! ### connect, disconnect, reconnect: the device is not logged in afterwards -/

theorem connectOne_keeps (c : CS) : (connectOne c).1.dev.acts = c.dev.acts ∧
    (connectOne c).1.dev.loggedIn = c.dev.loggedIn := ⟨(connectOne_frame c).dev.acts, (connectOne_frame c).dev.loggedIn⟩

theorem enqueueLogin_loggedIn (d : Dev) : (enqueueLogin d).loggedIn = d.loggedIn := by unfold enqueueLogin; rfl

theorem connectDev_regInv (c : CS) (hs : ∀ a ∈ c.dev.acts, StackOK a) (hl : c.dev.loggedIn = false) :
    RegInv (connectDev c).dev := by
  obtain ⟨d1, hf, _, he⟩ := connectDev_frame c
  have hs1 : ∀ a ∈ d1.acts, StackOK a := by rw [hf.acts]; exact hs
  have hl1 : d1.loggedIn = false := hf.loggedIn.trans hl
  rcases he with ⟨e, _⟩ | ⟨e, _⟩ <;> rw [e]
  · exact RegInv.of_notLogged (enqueueLogin_stacks _ hs1) (by rw [enqueueLogin_loggedIn]; exact hl1)
  · exact RegInv.of_notLogged hs1 hl1

theorem disconnectDev_stacks (c : CS) (hs : ∀ a ∈ c.dev.acts, StackOK a) :
    (∀ a ∈ (disconnectDev c).dev.acts, StackOK a) ∧ (disconnectDev c).dev.loggedIn = false := by
  rw [disconnectDev_cs]
  exact ⟨fun a hm => hs a (Timer.dropLogin_subset _ a hm), rfl⟩

theorem stamp_exec (now : Time) (a : Action) : (stamp now a).exec = a.exec := by
  unfold stamp; split <;> rfl

theorem stacks_cons {a : Action} {rest : List Action} (ha : StackOK a) (hrest : ∀ b ∈ rest, StackOK b) :
    ∀ b ∈ a :: rest, StackOK b := by
  intro b hm
  rcases List.mem_cons.mp hm with rfl | hm
  · exact ha
  · exact hrest b hm

theorem pingAction_stackOK (d : Dev) : StackOK (pingAction d) := stackOKE_single _

theorem queue_stacks {c : CS} {a0 : Action} {rest : List Action} (hi : RegInv c.dev) (ha : c.dev.acts = a0 :: rest) :
    StackOK (Dev2.stamp c.env.now a0) ∧ ∀ b ∈ rest, StackOK b :=
  ⟨by unfold StackOK; rw [stamp_exec]; exact hi.stacks a0 (ha ▸ List.mem_cons_self ..),
   fun b hb => hi.stacks b (ha ▸ List.mem_cons_of_mem _ hb)⟩

theorem headRun_stackOK {c : CS} {a0 : Action} {rest : List Action} (o : Oracle) (hi : RegInv c.dev) (ha : c.dev.acts = a0 :: rest) :
    StackOK (headRun c o a0).act := innerLoop_stackOK _ _ _ _ _ _ (queue_stacks hi ha).1

/-- **every move of `dev_post_poll` keeps the invariant, or the pass is aborted**: a connect or a disconnect leaves the device
    not logged in; a stalled head is past its start, so is a head that has been stepped on; and when the head leaves the queue —
    done or failed — the match object is recycled -/
theorem _root_.Pm.Dev2.Move.regInv {k : Stage} {s s' : PA} (h : Move k s s') (hi : s.1.aborted = true ∨ RegInv s.1.dev) :
    s'.1.aborted = true ∨ RegInv s'.1.dev := by
  refine hi.elim (fun ha => .inl (h.aborted ha)) fun hi => ?_
  cases h with
  | assert | runAbort | fuel => exact .inl rfl
  | write | wait | note => exact .inr ⟨hi.stacks, hi.nolog, hi.clean⟩
  | read c => exact .inr (by rw [read_dev]; exact ⟨hi.stacks, hi.nolog, hi.clean⟩)
  | finish c _ _ _ h1 =>
    have hl := hi.nolog (by rw [h1]; decide)
    obtain ⟨c1, hw, ⟨_, e⟩ | ⟨_, e⟩⟩ := readyFinish_dev c h1 <;> rw [e]
    · exact .inr (.of_notLogged (hw.dev.acts ▸ hi.stacks) (hw.dev.loggedIn.trans hl))
    · exact .inr (.of_notLogged (enqueueLogin_stacks _ (hw.dev.acts ▸ hi.stacks)) (hw.dev.loggedIn.trans hl))
  | disconnect c => exact .inr (.of_notLogged (disconnectDev_stacks c hi.stacks).1 (disconnectDev_stacks c hi.stacks).2)
  | connect _ c _ _ _ h0 => exact .inr (connectDev_regInv c hi.stacks (hi.nolog (by rw [h0]; decide)))
  | ping c => exact .inr (hi.append [pingAction c.dev] (fun a hm => List.mem_singleton.1 hm ▸ pingAction_stackOK _) rfl rfl rfl rfl)
  | failIdle => exact .inr ⟨fun _ hm => (List.not_mem_nil hm).elim, hi.nolog, fun _ _ _ => rfl⟩
  | failConn c | runFail c =>
    exact .inr (.of_notLogged (disconnectDev_stacks _ fun _ hm => (List.not_mem_nil hm).elim).1
      (disconnectDev_stacks _ fun _ hm => (List.not_mem_nil hm).elim).2)
  | stamp c _ _ _ a0 rest ha =>
    refine .inr ⟨stacks_cons (queue_stacks hi ha).1 (queue_stacks hi ha).2, hi.nolog, fun h2 h3 hat => hi.clean h2 h3 ?_⟩
    intro a r hx
    obtain ⟨rfl, rfl⟩ := List.cons.inj (ha.symm.trans hx)
    have := hat _ _ rfl
    unfold AtStart at this ⊢
    rwa [stamp_exec] at this
  | runStall c o _ _ a0 rest r _ ha h2 hr hf =>
    subst hr
    exact .inr ⟨stacks_cons (headRun_stackOK o hi ha) (queue_stacks hi ha).2, fun hn => absurd ((headRun_writes c o a0).conn.trans h2) hn,
      fun _ _ hat => absurd (hat _ rest rfl) (innerLoop_stalled _ _ _ _ _ _ hf)⟩
  | runDone c o _ _ a0 rest r ha h2 hr =>
    subst hr
    exact .inr ⟨(queue_stacks hi ha).2, fun hn => absurd ((headRun_writes c o a0).conn.trans h2) hn, fun _ _ _ => rfl⟩
  | runNext c o _ _ a0 rest r ha h2 hr _ hx =>
    subst hr
    have hS := headRun_stackOK o hi ha
    exact .inr ⟨stacks_cons (advance_stackOK _ hS) (queue_stacks hi ha).2, fun hn => absurd ((headRun_writes c o a0).conn.trans h2) hn,
      fun _ _ hat => (advance_started _ hS).elim (absurd (hat _ rest rfl)) fun h => absurd h hx⟩

/-- **the invariant through the whole of `dev_post_poll`**: a pass that does not end in a modelled abort keeps it -/
theorem postPoll_regInv (d : Dev) (env : Env) (o : Oracle) (h : RegInv d)
    (hna : (postPoll d env o).1.aborted = false) : RegInv (postPoll d env o).1.dev :=
  ((postPoll_run d env o).keeps (I := fun s => s.1.aborted = true ∨ RegInv s.1.dev) (fun _ _ _ => Move.regInv) (.inr h)).resolve_left
    (by rw [hna]; exact Bool.noConfusion)

theorem mkAction_stackOK (d : Dev) (com : Nat) (plugs : Option (List Plug)) (cid : Nat) (tele : Bool) (al uid : Nat) :
    StackOK (Pm.Daemon.mkAction d com plugs cid tele al uid) := stackOKE_single _

theorem enqueue_regInv (d : Dev) (com : Nat) (targets : List Bytes) (cid : Nat) (tele : Bool) (al : Nat) (h : RegInv d) :
    RegInv (Pm.Daemon.enqueue d com targets cid tele al).1 := by
  rw [Pm.Daemon.Enq.enqueue_eq]
  refine h.append _ (fun a hm => ?_) rfl rfl rfl rfl
  obtain ⟨_, _, rfl⟩ := Pm.Daemon.Enq.newActs_mk hm
  exact mkAction_stackOK _ _ _ _ _ _ _

/-- a device as `dev_create` leaves it: nothing queued, not connected, not logged in -/
theorem regInv_init (d : Dev) (ha : d.acts = []) (hl : d.loggedIn = false) : RegInv d :=
  RegInv.of_notLogged (by intro a hm; simp [ha] at hm) hl

/-- **the invariant in every state the daemon can bring a device to** (`Login2.Reach`: initial connect, passes of
    `dev_post_poll` with any kernel and regex answers, client commands, the bookkeeping updates of `Pm.Daemon`) -/
theorem Reach.regInv {d0 d : Dev} (h : Reach d0 d) (h0 : RegInv d0) : RegInv d := by
  induction h with
  | init => exact h0
  | connect d env _ hc _ ih => exact connectDev_regInv _ ih.stacks (ih.nolog (by simp [hc]))
  | pass d env o _ hna ih => exact postPoll_regInv d env o ih hna
  | enqueue d com targets cid tele al _ ih => exact enqueue_regInv d com targets cid tele al ih
  | store d s _ ih => exact ⟨ih.stacks, ih.nolog, ih.clean⟩
  | retry d _ ih => exact ⟨ih.stacks, ih.nolog, ih.clean⟩

/-! ### what the invariant says about reads of the match object -/

/-- with no match data a `setplugstate` writes nothing (it may still pick the plug of its context, but finds no status text) -/
theorem stmtSetplugstate_unused (d : Dev) (a : Action) (o : Oracle) (e : ExecCtx) (lit : Option Bytes) (pm sm : Int)
    (is : List (PState × Nat)) (h : d.xmUsed = false) :
    (stmtSetplugstate d a o e lit pm sm is).dev = d ∧ (stmtSetplugstate d a o e lit pm sm is).oracle = o ∧
    (stmtSetplugstate d a o e lit pm sm is).out = [] := by
  rw [Fd.stmtSetplugstate_idle d a o e lit pm sm is h]; exact ⟨rfl, rfl, rfl⟩

theorem stmtSetresult_unused (d : Dev) (a : Action) (o : Oracle) (pm sm : Int) (is : List (PResult × Nat))
    (h : d.xmUsed = false) :
    (stmtSetresult d a o pm sm is).dev = d ∧ (stmtSetresult d a o pm sm is).oracle = o ∧
    (stmtSetresult d a o pm sm is).out = [] := by
  rw [Fd.stmtSetresult_idle d a o pm sm is h]; exact ⟨rfl, rfl, rfl⟩

theorem RegInv.unused_atStart {d : Dev} {a : Action} {rest : List Action} (h : RegInv d) (hc : d.conn = 2) (hl : d.loggedIn = true)
    (ha : d.acts = a :: rest) (hs : AtStart a) : d.xmUsed = false :=
  h.clean hc hl fun a' rest' hx => by rw [ha] at hx; cases hx; exact hs

/-- a write event needs match data: the status text of a `setplugstate` / `setresult` is a capture group -/
theorem stmtEv_needs_match (d : Dev) (a : Action) (o : Oracle) (h : Pm.Dev2.QEv.stmtEv d a o ≠ []) : d.xmUsed = true := by
  cases hu : d.xmUsed
  · exfalso; apply h
    have hs : ∀ i, subOf d i = none := fun i => Fd.subOf_unused d i hu
    have h1 : ∀ e lit pm sm, spsTarget d e lit pm sm = none := fun e lit pm sm =>
      (QEv.spsTarget_eq ..).trans (QEv.target_none.2 (.inr (.inl (hs sm))))
    have h2 : ∀ pm sm, srTarget d pm sm = none := fun pm sm =>
      (QEv.srTarget_eq ..).trans (QEv.target_none.2 (.inr (.inl (hs sm))))
    unfold Pm.Dev2.QEv.stmtEv
    split
    · rw [h1]
    · rw [h2]
    · rfl
  · rfl

/-- the head of a connected, logged-in device that makes a write is past its start: some statement of *this* action has run
    since it was created or rewound -/
theorem write_not_atStart (d : Dev) (a : Action) (rest : List Action) (o : Oracle) (h : RegInv d) (hc : d.conn = 2)
    (hl : d.loggedIn = true) (ha : d.acts = a :: rest) (hw : Pm.Dev2.QEv.stmtEv d a o ≠ []) : ¬ AtStart a := by
  intro hs
  have := h.unused_atStart hc hl ha hs
  rw [stmtEv_needs_match d a o hw] at this
  cases this

/-! ### not covered: the login action after an i/o error

`_disconnect` (reached from `_reconnect` after a read/write error or a hang-up) destroys a queued login action itself and does
not recycle the match object; `_connect` then puts a new login action at the head.  That action starts with whatever the
interrupted action — the old login, or a client action that will be rewound — had matched.  Harmless for the clients: a login
action has no arglist (`arglist_find(NULL, …)` finds nothing) and no client; and the action *behind* it starts clean, because
the login action either completes or fails, and both recycle. -/
namespace Ex
/-- a login script that opens with a `setplugstate` reading `$1`/`$2` (accepted by the parser, rejected by `specOK`) -/
def loginScript : List Stmt := [.setplugstate none 1 2 [(.on, 5)], .expect 0, .send [120]]
def d0 : Dev :=
  { plugs := [{ name := [111], node := some [110] }], scripts := fun k => if k == 0 then some loginScript else none,
    timeout := 5000000, acts := [], toBuf := [], fromBuf := [], xmStr := none, xmOffs := [], xmResult := false, xmUsed := false,
    args := [], nextUid := 1, shortCircuitDelay := false, conn := 0, fd := none }
def envC (now : Time) (s : Nat) : Env :=
  { now := now, revents := 0, sockets := [s], connects := [0], soerrs := [0], read := none, writeOk := true }
/-- `dev_initial_connect`: connected at once, the login action is queued -/
def d1 : Dev := (connectDev { dev := d0, env := envC 0 2000, sys := [] }).dev
/-- the device says `ok`: the login's `setplugstate` finds no match data and does nothing, its `expect` matches (`$1` = `o`,
    `$2` = `k`), its `send` waits for the descriptor to become writable -/
def d2 : Dev := (postPoll d1 { envC 1000 2001 with revents := 1, read := some (some [111, 107]) }
  { calls := [{ pat := 0, subject := [111, 107], answer := some [(0, 2), (0, 1), (1, 2)] }] }).1.dev
/-- two seconds later the device closes the connection -/
def env3 : Env := { envC 3000000 2001 with revents := 1, read := some (some []) }
/-- … `_reconnect`: connected at once, a new login action at the head; the state in which `_process_action` starts -/
def d3pre : Dev := (postPollPre d2 env3).1.dev
def o3 : Oracle := { calls := [{ pat := 5, subject := [107], answer := some [(0, 1)] }] }
theorem reach2 : Reach d0 d2 := .pass _ _ _ (.connect _ _ .init rfl (by decide +kernel)) (by decide +kernel)
theorem d2_is : d2.xmUsed = true ∧ d2.conn = 2 ∧ d2.loggedIn = false ∧ d2.args = [] ∧
    d2.acts.map (fun a => (a.com, (topCtx a).pos)) = [(0, 2)] := by
  decide +kernel
/-- the new login action stands at its first statement and the match object still holds the old connection's `ok`; its
    `setplugstate` makes a "write" (to no arglist: id 0) from that text, and `regexec` is called on the stale `k` -/
theorem d3pre_is : d3pre.xmUsed = true ∧ d3pre.xmStr = some [111, 107] ∧ d3pre.conn = 2 ∧ d3pre.loggedIn = false ∧
    d3pre.acts.map (fun a => (a.com, a.exec.length, (topCtx a).pos, (topCtx a).processing)) = [(0, 1, 0, false)] ∧
    (d3pre.acts.flatMap fun a => (Pm.Dev2.QEv.stmtEv d3pre a o3).map fun ev => (ev.cid, ev.al, ev.text, ev.subject)) =
      [(0, 0, [107], some [111, 107])] ∧
    (postPoll d2 env3 o3).2.1.calls = [] ∧ (postPoll d2 env3 o3).2.2.1 = [] ∧ (postPoll d2 env3 o3).1.aborted = false := by
  decide +kernel
end Ex

end Pm.Dev2.MatchOwn

#print axioms Pm.Dev2.MatchOwn.Reach.regInv
#print axioms Pm.Dev2.MatchOwn.postPoll_regInv
#print axioms Pm.Dev2.MatchOwn.write_not_atStart
#print axioms Pm.Dev2.MatchOwn.stmtSetplugstate_unused
#print axioms Pm.Dev2.MatchOwn.stmtSetresult_unused
#print axioms Pm.Dev2.MatchOwn.Ex.d3pre_is
#print axioms Pm.Dev2.MatchOwn.Ex.reach2
