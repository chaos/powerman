import Pm.QueryEv
import Pm.ReplyProof
/-! # What a history of writes leaves in an arglist

`lastState H n`, `lastResult H n`, `lastText H n`: the state / result / text of the last write of the history `H` (a list of
write events, oldest first) that concerns node `n`.  An arglist that starts fresh (`freshArgs`) and undergoes the writes
`H` in order holds, for every node, exactly these (`foldl_applyEv_fresh`); and the entries the reply functions read off
it (`entriesOf`) are, target by target, `entryOf H n` (`entriesOf_hist`). -/
namespace Pm.Dev2.QEv
open Pm.Dev2
open Pm Pm.Client Pm.Daemon
open Pm.Daemon.Reply (freshArgs distinctOf entriesOf ByteName)

/-! ## the store, cell by cell -/

theorem cell_applyStore (s : Store) (ev : WEv) (A : Nat) :
    cell (applyStore s ev) A = if ev.al = A then applyEv (cell s A) ev else cell s A := by
  unfold applyStore
  by_cases h : ev.al = A
  · subst h
    simp [cell]
  · rw [if_neg h]
    have hA : A ≠ ev.al := fun e => h e.symm
    have : (A == ev.al) = false := by simp [hA]
    unfold cell
    rw [List.lookup_cons, this]
    exact congrArg (fun o => Option.getD o []) (lookup_filter_ne s ev.al A hA)

theorem cell_foldl_applyStore (evs : List WEv) (s : Store) (A : Nat) :
    cell (evs.foldl applyStore s) A = (evs.filter (fun ev => ev.al == A)).foldl applyEv (cell s A) := by
  induction evs generalizing s with
  | nil => rfl
  | cons ev r ih =>
    rw [List.foldl_cons, ih, cell_applyStore, List.filter_cons]
    by_cases h : ev.al = A
    · simp [h]
    · simp [h]

theorem applyStore_dev (s : Store) (ev : WEv) (n : Bytes) : applyStore s { ev with dev := n } = applyStore s ev := rfl

theorem foldl_applyStore_dev (evs : List WEv) (s : Store) (n : Bytes) :
    (evs.map fun ev => { ev with dev := n }).foldl applyStore s = evs.foldl applyStore s := by
  induction evs generalizing s with
  | nil => rfl
  | cons ev r ih => rw [List.map_cons, List.foldl_cons, List.foldl_cons, ih]; rfl

/-! ## the last write decides -/

/-- the state an event writes for node `n`, if it writes one -/
def stateOn (n : Bytes) (ev : WEv) : Option PState :=
  if ev.node == n then (match ev.kind with | .state st => some st | .result _ => none) else none
/-- the result an event writes for node `n`, if it writes one -/
def resultOn (n : Bytes) (ev : WEv) : Option PResult :=
  if ev.node == n then (match ev.kind with | .result r => some r | .state _ => none) else none
/-- the text an event stores as the value of node `n`'s cell (both kinds of write do) -/
def textOn (n : Bytes) (ev : WEv) : Option Bytes := if ev.node == n then some ev.text else none

/-- the state written by the last `setplugstate` write of the history that concerns node `n` -/
def lastState (H : List WEv) (n : Bytes) : Option PState := (H.filterMap (stateOn n)).getLast?
/-- the result written by the last `setresult` write of the history that concerns node `n` -/
def lastResult (H : List WEv) (n : Bytes) : Option PResult := (H.filterMap (resultOn n)).getLast?
/-- the text of the last write (of either kind) of the history that concerns node `n` -/
def lastText (H : List WEv) (n : Bytes) : Option Bytes := (H.filterMap (textOn n)).getLast?

/-- the arglist element for node `n` after the history `H`, starting from a fresh element -/
def cellOf (H : List WEv) (n : Bytes) : Arg :=
  { node := n, val := lastText H n, state := (lastState H n).getD .unknown, result := (lastResult H n).getD .none }

theorem getLast?_filterMap_cons {α β : Type} (f : α → Option β) (x : α) (l : List α) :
    ((x :: l).filterMap f).getLast? = (l.filterMap f).getLast?.or (f x) := by
  rw [List.filterMap_cons]
  cases hf : f x with
  | none => simp
  | some y =>
    simp only
    rw [List.getLast?_cons]
    cases (l.filterMap f).getLast? <;> rfl

/-- one element through a whole history -/
def fin (g : Arg) (H : List WEv) : Arg := H.foldl (fun g ev => upd ev g) g

theorem fin_node (g : Arg) (H : List WEv) : (fin g H).node = g.node := by
  induction H generalizing g with
  | nil => rfl
  | cons ev r ih => unfold fin at ih ⊢; rw [List.foldl_cons, ih, upd_node]

theorem foldl_applyEv (as : List Arg) (H : List WEv) : H.foldl applyEv as = as.map fun g => fin g H := by
  induction H generalizing as with
  | nil => simp [fin]
  | cons ev r ih =>
    rw [List.foldl_cons, ih]
    unfold applyEv fin
    rw [List.map_map]
    rfl

theorem upd_fields (ev : WEv) (g : Arg) :
    (upd ev g).state = (stateOn g.node ev).getD g.state ∧ (upd ev g).result = (resultOn g.node ev).getD g.result ∧
    (upd ev g).val = (textOn g.node ev).or g.val := by
  unfold upd stateOn resultOn textOn
  by_cases h : g.node = ev.node
  · have h' : (ev.node == g.node) = true := by simp [h]
    have h'' : (g.node == ev.node) = true := by simp [h]
    rw [if_pos h'', if_pos h', if_pos h', if_pos h']
    cases ev.kind <;> exact ⟨rfl, rfl, rfl⟩
  · have h' : (ev.node == g.node) = false := by simpa using fun e => h e.symm
    have h'' : (g.node == ev.node) = false := by simpa using h
    simp [h', h'']

/-- **the last write decides**: after the history, an element holds the state of the last state write for its node (its
    old state if there is none), the result of the last result write, and the text of the last write of either kind -/
theorem fin_spec (g : Arg) (H : List WEv) :
    (fin g H).state = (lastState H g.node).getD g.state ∧ (fin g H).result = (lastResult H g.node).getD g.result ∧
    (fin g H).val = (lastText H g.node).or g.val := by
  induction H generalizing g with
  | nil => simp [fin, lastState, lastResult, lastText]
  | cons ev r ih =>
    have h := ih (upd ev g)
    rw [upd_node] at h
    have e : fin g (ev :: r) = fin (upd ev g) r := rfl
    rw [e, h.1, h.2.1, h.2.2, (upd_fields ev g).1, (upd_fields ev g).2.1, (upd_fields ev g).2.2]
    unfold lastState lastResult lastText
    rw [getLast?_filterMap_cons, getLast?_filterMap_cons, getLast?_filterMap_cons]
    refine ⟨?_, ?_, ?_⟩
    · cases (r.filterMap (stateOn g.node)).getLast? <;> cases stateOn g.node ev <;> rfl
    · cases (r.filterMap (resultOn g.node)).getLast? <;> cases resultOn g.node ev <;> rfl
    · cases (r.filterMap (textOn g.node)).getLast? <;> cases textOn g.node ev <;> rfl

/-- **a fresh arglist after a history of writes** holds, for each of its nodes, exactly what the last writes for that node
    left: nothing from before (there is no before), nothing from a write for another node -/
theorem foldl_applyEv_fresh (bn : List Bytes) (H : List WEv) :
    H.foldl applyEv (freshArgs bn) = (distinctOf bn).map (cellOf H) := by
  rw [foldl_applyEv]
  unfold freshArgs
  rw [List.map_map]
  apply List.map_congr_left
  intro n _
  have h := fin_spec { node := n, val := none, state := .unknown, result := .none } H
  have hn := fin_node { node := n, val := none, state := .unknown, result := .none } H
  simp only [Function.comp_apply]
  generalize fin { node := n, val := none, state := .unknown, result := .none } H = x at *
  obtain ⟨n', v, s, r⟩ := x
  simp only at h hn
  obtain ⟨h1, h2, h3⟩ := h
  subst hn h1 h2 h3
  simp [cellOf]

/-! ## reading the history back: a write that shows was made -/

theorem getLast?_filterMap_split {α β : Type} {f : α → Option β} {l : List α} {y : β} (h : (l.filterMap f).getLast? = some y) :
    ∃ pre x post, l = pre ++ x :: post ∧ f x = some y ∧ ∀ z ∈ post, f z = none := by
  induction l with
  | nil => cases h
  | cons x r ih =>
    rw [getLast?_filterMap_cons] at h
    cases hr : (r.filterMap f).getLast? with
    | some y' =>
      rw [hr, Option.some_or] at h
      obtain ⟨pre, e, post, h1, h2, h3⟩ := ih (hr.trans h)
      exact ⟨x :: pre, e, post, by rw [h1]; rfl, h2, h3⟩
    | none =>
      rw [hr, Option.none_or] at h
      exact ⟨[], x, r, rfl, h, List.filterMap_eq_nil_iff.mp (List.getLast?_eq_none_iff.mp hr)⟩

theorem mem_of_getLast?_filterMap {α β : Type} {f : α → Option β} {l : List α} {y : β} (h : (l.filterMap f).getLast? = some y) :
    ∃ x ∈ l, f x = some y :=
  List.mem_filterMap.mp (List.mem_of_getLast? h)

theorem lastState_some {H : List WEv} {n : Bytes} {st : PState} (h : lastState H n = some st) :
    ∃ pre ev post, H = pre ++ ev :: post ∧ ev.node = n ∧ ev.kind = .state st ∧ ∀ x ∈ post, stateOn n x = none := by
  obtain ⟨pre, ev, post, h1, h2, h3⟩ := getLast?_filterMap_split h
  unfold stateOn at h2
  by_cases hn : (ev.node == n) = true
  · rw [if_pos hn] at h2
    cases hk : ev.kind with
    | state s => rw [hk] at h2; exact ⟨pre, ev, post, h1, by simpa using hn, by rw [hk, Option.some.inj h2], h3⟩
    | result _ => rw [hk] at h2; cases h2
  · rw [if_neg hn] at h2; cases h2

theorem lastState_none {H : List WEv} {n : Bytes} (h : ∀ ev ∈ H, stateOn n ev = none) : lastState H n = none := by
  unfold lastState
  rw [List.getLast?_eq_none_iff, List.filterMap_eq_nil_iff]
  exact h

theorem lastText_some {H : List WEv} {n : Bytes} {v : Bytes} (h : lastText H n = some v) :
    ∃ pre ev post, H = pre ++ ev :: post ∧ ev.node = n ∧ ev.text = v ∧ ∀ x ∈ post, x.node ≠ n := by
  obtain ⟨pre, ev, post, h1, h2, h3⟩ := getLast?_filterMap_split h
  unfold textOn at h2
  by_cases hn : (ev.node == n) = true
  · rw [if_pos hn] at h2
    refine ⟨pre, ev, post, h1, by simpa using hn, Option.some.inj h2, ?_⟩
    intro x hx hxn
    have := h3 x hx
    unfold textOn at this
    simp [hxn] at this
  · rw [if_neg hn] at h2; cases h2

theorem lastText_none {H : List WEv} {n : Bytes} (h : ∀ ev ∈ H, ev.node ≠ n) : lastText H n = none := by
  unfold lastText
  rw [List.getLast?_eq_none_iff, List.filterMap_eq_nil_iff]
  intro ev hev
  unfold textOn
  simp [h ev hev]

theorem lastResult_none {H : List WEv} {n : Bytes} (h : ∀ ev ∈ H, resultOn n ev = none) : lastResult H n = none := by
  unfold lastResult
  rw [List.getLast?_eq_none_iff, List.filterMap_eq_nil_iff]
  exact h

theorem cellOf_untouched {H : List WEv} {n : Bytes} (h : ∀ ev ∈ H, ev.node ≠ n) :
    cellOf H n = { node := n, val := none, state := .unknown, result := .none } := by
  unfold cellOf
  rw [lastText_none h, lastState_none fun ev hev => by simp [stateOn, h ev hev],
    lastResult_none fun ev hev => by simp [resultOn, h ev hev]]
  rfl

/-! ## the entries the reply reads -/

theorem ofChars_toChars (b : Bytes) : ofChars (toChars b) = b := by
  unfold toChars ofChars
  rw [List.map_map]
  conv => rhs; rw [← List.map_id b]
  apply List.map_congr_left
  intro x _
  simp only [Function.comp_apply, id]
  rw [Pm.Daemon.Reply.toNat_ofNat_small _ x.toNat_lt]
  exact UInt8.ofNat_toNat

/-- what the reply shows for target `n` after the history `H` -/
def entryOf (H : List WEv) (n : Name) : ArgC := argC (cellOf H (ofChars n))

theorem entryOf_untouched {H : List WEv} {n : Name} (h : ∀ ev ∈ H, ev.node ≠ ofChars n) :
    (entryOf H n).state = 0 ∧ (entryOf H n).result = 0 ∧ (entryOf H n).val = none := by
  unfold entryOf
  rw [cellOf_untouched h]
  exact ⟨rfl, rfl, rfl⟩

theorem find_cells (H : List WEv) (l : List Bytes) (n : Name) (hn : ByteName n) (hm : ofChars n ∈ l) :
    ((l.map (cellOf H)).map argC).find? (·.node == n) = some (entryOf H n) := by
  induction l with
  | nil => cases hm
  | cons b r ih =>
    rw [List.map_cons, List.map_cons, List.find?_cons]
    by_cases hb : toChars b = n
    · have : ((argC (cellOf H b)).node == n) = true := by simp [argC, cellOf, hb]
      rw [this]
      have hb' : b = ofChars n := by rw [← hb, ofChars_toChars]
      rw [hb', entryOf]
    · have : ((argC (cellOf H b)).node == n) = false := by simp [argC, cellOf, hb]
      rw [this]
      apply ih
      rcases List.mem_cons.mp hm with h | h
      · exfalso; apply hb; rw [← h]; exact Pm.Daemon.Reply.toChars_ofChars n hn
      · exact h

theorem filterMap_eq_map_of_some {α β} {f : α → Option β} {g : α → β} {l : List α} (h : ∀ x ∈ l, f x = some (g x)) :
    l.filterMap f = l.map g := by
  induction l with
  | nil => rfl
  | cons x r ih => rw [List.filterMap_cons, h x (by simp), List.map_cons, ih fun y hy => h y (by simp [hy])]

/-- **the entries of the reply, target by target**: for a command whose arglist started fresh for its own target list and
    underwent the history `H`, the entries `arglist_next` yields are `entryOf H n` for the targets `n` in order
    (repetitions included) — every target has one, and it shows what the last writes of `H` for that node left -/
theorem entriesOf_hist (k : CmdC) (H : List WEv) (e : Bool) (hb : ∀ n ∈ k.names, ByteName n) :
    entriesOf { k with error := e, args := (H.foldl applyEv (freshArgs (k.names.map ofChars))).map argC } = k.names.map (entryOf H) := by
  unfold entriesOf
  rw [foldl_applyEv_fresh]
  exact filterMap_eq_map_of_some fun n hn =>
    find_cells H _ n (hb n hn) ((Pm.Daemon.Reply.mem_distinctOf _ _).mpr (List.mem_map.mpr ⟨n, hn, rfl⟩))

end Pm.Dev2.QEv

section AxiomChecks
open Pm.Dev2.QEv
/-- info: 'Pm.Dev2.QEv.entriesOf_hist' depends on axioms: [propext, Classical.choice, Quot.sound] -/
#guard_msgs in #print axioms entriesOf_hist
/-- info: 'Pm.Dev2.QEv.foldl_applyEv_fresh' depends on axioms: [propext, Classical.choice, Quot.sound] -/
#guard_msgs in #print axioms foldl_applyEv_fresh
/-- info: 'Pm.Dev2.QEv.lastState_some' depends on axioms: [propext, Quot.sound] -/
#guard_msgs in #print axioms lastState_some
end AxiomChecks
