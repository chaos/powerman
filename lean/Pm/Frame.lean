/- C05 in the abstract (device and event types are parameters; nothing else of the library is used):
   `dev_post_poll` is a fold of independent per-device steps; what a client that only talks to device A
   gets back does not depend on what device B did -/
namespace Pm.Frame

abbrev Time := Nat

structure CB where
  cid : Nat               -- client the callback is addressed to
  text : Nat              -- payload (abstract)
deriving DecidableEq

/-- the per-device part of a pass is a function of that device's state, that device's I/O answers and
    the clock; it yields the new device state, the callbacks it fired (in order) and the time it wants
    to be woken at (`_update_timeout` takes the minimum) -/
structure Sem (D E : Type) where
  stepDev : D → E → Time → D × List CB × Option Time

def optMin : Option Time → Option Time → Option Time
  | none, t => t
  | t, none => t
  | some a, some b => some (min a b)

/-- `dev_post_poll`: devices in configuration order -/
def postPoll {D E} (S : Sem D E) (now : Time) : List D → List E → List D × List CB × Option Time
  | d :: ds, e :: es =>
    let r := S.stepDev d e now
    let rs := postPoll S now ds es
    (r.1 :: rs.1, r.2.1 ++ rs.2.1, optMin r.2.2 rs.2.2)
  | ds, _ => (ds, [], none)

/-- what client `c` sees of a pass -/
def forClient (c : Nat) (cbs : List CB) : List CB := cbs.filter (·.cid = c)

/-- C05 frame: change the events of one device arbitrarily; every other device ends the pass in the
    same state, and a client none of whose callbacks come from the changed device sees the same
    callbacks in the same order -/
theorem C05_frame {D E} (S : Sem D E) (now : Time) (c : Nat) :
    ∀ (ds : List D) (es es' : List E) (j : Nat), es.length = es'.length →
      (∀ i, i ≠ j → es[i]? = es'[i]?) →
      -- device j has nothing for client c under either behaviour
      (∀ d e e', ds[j]? = some d → es[j]? = some e → es'[j]? = some e' →
          forClient c (S.stepDev d e now).2.1 = [] ∧ forClient c (S.stepDev d e' now).2.1 = []) →
      forClient c (postPoll S now ds es).2.1 = forClient c (postPoll S now ds es').2.1 ∧
      ∀ i, i ≠ j → (postPoll S now ds es).1[i]? = (postPoll S now ds es').1[i]? := by
  intro ds
  induction ds with
  | nil => intro es es' j _ _ _; simp [postPoll]
  | cons d ds ih =>
    intro es es' j hlen hsame hquiet
    cases es with
    | nil =>
      cases es' with
      | nil => simp [postPoll]
      | cons _ _ => simp at hlen
    | cons e es =>
      cases es' with
      | nil => simp at hlen
      | cons e' es' =>
        simp only [postPoll, forClient, List.filter_append]
        cases j with
        | zero =>
          have h0 := hquiet d e e' rfl rfl rfl
          have htail : es = es' := by
            apply List.ext_getElem?
            intro i
            have := hsame (i + 1) (by omega)
            simpa using this
          subst htail
          simp only [forClient] at h0
          refine ⟨by rw [h0.1, h0.2], ?_⟩
          intro i hi
          cases i with
          | zero => exact absurd rfl hi
          | succ i => simp
        | succ j =>
          have he : e = e' := by
            have := hsame 0 (by omega)
            simpa using this
          subst he
          have := ih es es' j (by simpa using hlen)
            (fun i hi => by have := hsame (i + 1) (by omega); simpa using this)
            (fun d0 e0 e0' h1 h2 h3 => hquiet d0 e0 e0' (by simpa using h1) (by simpa using h2) (by simpa using h3))
          refine ⟨by simp only [forClient] at this; rw [this.1], ?_⟩
          intro i hi
          cases i with
          | zero => simp
          | succ i => simpa using this.2 i (by omega)

end Pm.Frame

