import Pm.FrameDev
/-! Helper lemmas for C05: the regex oracle is consumed from the front.  If a piece of the pass, run on the answer list
    `l`, never finds the oracle out of step (no `rxMismatch` output), then run on `l ++ r` it behaves identically and
    hands back its own remainder followed by `r` untouched. -/
namespace Pm.Dev2

/-- the report that the recorded regex answers are out of step with what the pass asks (`askRx`) -/
def isMis : Out → Bool | .rxMismatch _ _ => true | _ => false
/-- the oracle always had the answer to the question that was asked -/
def NoMis (l : List Out) : Prop := ∀ x ∈ l, isMis x = false
/-- the same oracle with further answers behind -/
def ext (o : Oracle) (r : List RxCall) : Oracle := { calls := o.calls ++ r }

theorem NoMis.left {l m : List Out} (h : NoMis (l ++ m)) : NoMis l := fun x hx => h x (by simp [hx])
theorem NoMis.right {l m : List Out} (h : NoMis (l ++ m)) : NoMis m := fun x hx => h x (by simp [hx])
theorem NoMis.of_subset {l m : List Out} (h : NoMis m) (hs : ∀ x ∈ l, x ∈ m) : NoMis l := fun x hx => h x (hs x hx)

theorem askRx_ext (o : Oracle) (pat : Nat) (s : Bytes) (r : List RxCall) (h : NoMis (askRx o pat s).2.2) :
    askRx (ext o r) pat s = (ext (askRx o pat s).1 r, (askRx o pat s).2.1, (askRx o pat s).2.2) := by
  unfold askRx ext at *
  cases hq : o.calls with
  | nil => simp [hq, NoMis, isMis] at h
  | cons c rest =>
    simp only [hq, List.cons_append] at h ⊢
    split <;> rfl

/-! `pickState` and `pickResult` are the loop `Interp.pickFirst`: its lemmas serve both. -/

theorem pickFirst_mono {α : Type} (dflt : α) (s : Bytes) (l : List (α × Nat)) (o : Oracle) (errs : List Out) :
    ∀ x ∈ errs, x ∈ (Interp.pickFirst dflt askRx s l o errs).2.2 := by
  induction l generalizing o errs with
  | nil => exact fun _ h => h
  | cons p r ih =>
    intro x hx
    unfold Interp.pickFirst
    split
    · exact List.mem_append_left _ hx
    · exact ih _ _ x (List.mem_append_left _ hx)

theorem pickFirst_ext {α : Type} (dflt : α) (s : Bytes) (l : List (α × Nat)) (o : Oracle) (errs : List Out) (r : List RxCall)
    (h : NoMis (Interp.pickFirst dflt askRx s l o errs).2.2) :
    Interp.pickFirst dflt askRx s l (ext o r) errs =
      (ext (Interp.pickFirst dflt askRx s l o errs).1 r, (Interp.pickFirst dflt askRx s l o errs).2.1,
        (Interp.pickFirst dflt askRx s l o errs).2.2) := by
  induction l generalizing o errs with
  | nil => rfl
  | cons p rest ih =>
    have hm := pickFirst_mono dflt s rest (askRx o p.2 s).1 (errs ++ (askRx o p.2 s).2.2)
    unfold Interp.pickFirst at h ⊢
    have ha : NoMis (askRx o p.2 s).2.2 := by
      split at h
      · exact h.right
      · exact (h.of_subset hm).right
    rw [askRx_ext o p.2 s r ha]
    dsimp only
    split
    · rfl
    · rename_i hs
      rw [if_neg hs] at h
      exact ih _ _ h

def StepR.ext (x : StepR) (r : List RxCall) : StepR := { x with oracle := Pm.Dev2.ext x.oracle r }

/-- **on a longer oracle the statement takes the same way out**: a premise that asks the engine reads the same answer as long as the
    oracle was never out of step, the result is the same, and the rest of the longer oracle is left behind the statement's own -/
theorem Interp.Step.ext {d : Dev} {a : Action} {o : Oracle} {now : Time} {e : ExecCtx} {rest : List ExecCtx} {s : Stmt} {r : StepR}
    (h : Interp.Step d a o now e rest s r) (x : List RxCall) (hn : NoMis r.out) :
    Interp.Step d a (Pm.Dev2.ext o x) now e rest s (r.ext x) := by
  have pickS : ∀ t (is : List (PState × Nat)), NoMis (pickState askRx t is o []).2.2 → pickState askRx t is (Pm.Dev2.ext o x) [] =
      (Pm.Dev2.ext (pickState askRx t is o []).1 x, (pickState askRx t is o []).2.1, (pickState askRx t is o []).2.2) := by
    intro t is h; rw [Interp.pickState_eq] at h; rw [Interp.pickState_eq, Interp.pickState_eq]; exact pickFirst_ext _ _ _ _ _ x h
  have pickR : ∀ t (is : List (PResult × Nat)), NoMis (pickResult askRx t is o []).2.2 → pickResult askRx t is (Pm.Dev2.ext o x) [] =
      (Pm.Dev2.ext (pickResult askRx t is o []).1 x, (pickResult askRx t is o []).2.1, (pickResult askRx t is o []).2.2) := by
    intro t is h; rw [Interp.pickResult_eq] at h; rw [Interp.pickResult_eq, Interp.pickResult_eq]; exact pickFirst_ext _ _ _ _ _ x h
  cases h with
  | expectNo pat hb hm =>
    have hq := askRx_ext o pat (Interp.rxSubject d.fromBuf) x hn
    have := Interp.Step.expectNo (a := a) (o := Pm.Dev2.ext o x) (now := now) (e := e) (rest := rest) pat hb (by rw [hq]; exact hm)
    rw [hq] at this; exact this
  | expectYes pat offs hb hm =>
    have hq := askRx_ext o pat (Interp.rxSubject d.fromBuf) x hn.left
    have := Interp.Step.expectYes (a := a) (o := Pm.Dev2.ext o x) (now := now) (e := e) (rest := rest) pat offs hb (by rw [hq]; exact hm)
    rw [hq] at this; exact this
  | setWrite lit pm sm is pn t plug hc hs hf =>
    have := Interp.Step.setWrite (a := a) (o := Pm.Dev2.ext o x) (now := now) (e := e) (rest := rest) lit pm sm is pn t plug hc hs hf
    rw [pickS t is hn] at this; exact this
  | resWrite pm sm is pn t plug hc hs hf =>
    have := Interp.Step.resWrite (a := a) (o := Pm.Dev2.ext o x) (now := now) (e := e) (rest := rest) pm sm is pn t plug hc hs hf
    rw [pickR t is hn.left] at this; exact this
  -- no other premise mentions the oracle: the same constructor on the same premises
  | _ => constructor <;> assumption

theorem processStmt_ext (d : Dev) (a : Action) (o : Oracle) (now : Time) (r : List RxCall) (h : NoMis (processStmt d a o now).out) :
    processStmt d a (ext o r) now = (processStmt d a o now).ext r :=
  Interp.processStmt_ind d a o now (fun q => NoMis q.out → processStmt d a (ext o r) now = q.ext r)
    (fun hn _ => Interp.processStmt_null d a (ext o r) now hn) (fun _ _ _ _ hex hcur hst hn => (hst.ext r hn).sound hex hcur) h

theorem innerLoop_mono (now : Time) (fuel : Nat) (d : Dev) (a : Action) (o : Oracle) (acc : List Out) :
    ∀ x ∈ acc, x ∈ (innerLoop now fuel d a o acc).out :=
  innerLoop_induct (now := now) (P := fun _ _ _ acc r => ∀ x ∈ acc, x ∈ r.out)
    (fun _ _ _ _ _ hx => List.mem_append_left _ hx) (fun _ _ _ _ _ _ _ ih x hx => ih x (List.mem_append_left _ hx)) fuel d a o acc

theorem innerLoop_ext (now : Time) (fuel : Nat) (d : Dev) (a : Action) (o : Oracle) (acc : List Out) (r : List RxCall)
    (h : NoMis (innerLoop now fuel d a o acc).out) :
    innerLoop now fuel d a (ext o r) acc = (innerLoop now fuel d a o acc).ext r := by
  induction fuel generalizing d a o acc with
  | zero =>
    unfold innerLoop at h ⊢
    dsimp only at h ⊢
    rw [processStmt_ext _ _ _ _ r h.right]; rfl
  | succ n ih =>
    have hm := innerLoop_mono now n (processStmt d a o now).dev (processStmt d a o now).act (processStmt d a o now).oracle
      (acc ++ (processStmt d a o now).out)
    rw [innerLoop_succ] at h ⊢
    rw [innerLoop_succ]
    have hp : NoMis (processStmt d a o now).out := by
      unfold innerStep at h
      split at h
      · exact (h.of_subset hm).right
      · exact h.right
    rw [processStmt_ext _ _ _ _ r hp]
    generalize processStmt d a o now = q at *
    unfold innerStep at h ⊢
    unfold StepR.ext
    dsimp only
    by_cases hc : (q.finished && decide (q.act.exec.length > a.exec.length)) = true
    · rw [if_pos hc, if_pos hc]
      rw [if_pos hc] at h
      exact ih _ _ _ _ h
    · rw [if_neg hc, if_neg hc]

def PA.ext (x : PA) (r : List RxCall) : PA := (x.1, Pm.Dev2.ext x.2.1 r, x.2.2.1, x.2.2.2)

theorem failAll_ext (rest c a o out tmo) (r : List RxCall) : failAll rest c a (ext o r) out tmo = (failAll rest c a o out tmo).ext r := by
  unfold failAll PA.ext; dsimp only; split <;> rfl

theorem onTimeout_out (rest c a o out tmo) : ∃ fin, (onTimeout rest c a o out tmo).2.2.1 = out ++ fin :=
  ⟨_, by rw [Fd.onTimeout_eq_failAll, failAll_reports, List.append_assoc]⟩
theorem onTimeout_ext (rest c a o out tmo) (r : List RxCall) : onTimeout rest c a (ext o r) out tmo = (onTimeout rest c a o out tmo).ext r := by
  rw [Fd.onTimeout_eq_failAll, Fd.onTimeout_eq_failAll]
  exact failAll_ext ..

/-- outputs only accumulate -/
def OutMono (k : CS → Oracle → List Out → Option Time → PA) : Prop :=
  ∀ c o out tmo, ∀ x ∈ out, x ∈ (k c o out tmo).2.2.1
/-- `k` does not look at answers behind the ones it consumes, provided it is never out of step -/
def ExtOk (r : List RxCall) (k : CS → Oracle → List Out → Option Time → PA) : Prop :=
  ∀ c o out tmo, NoMis (k c o out tmo).2.2.1 → k c (ext o r) out tmo = (k c o out tmo).ext r

theorem onRunOk_mono (k rest c q out tmo) (hk : OutMono k) : ∀ x ∈ out, x ∈ (onRunOk k rest c q out tmo).2.2.1 :=
  onRunOk_congr (R := fun x _ => ∀ z ∈ out, z ∈ x.2.2.1) k rest c c q q out tmo rfl
    (fun z hz => hk _ _ _ _ z (List.mem_append_left _ hz)) (hk _ _ _ _)

theorem onRunTail_mono (k rest c q out tmo left) (hk : OutMono k) : ∀ x ∈ out ++ q.out, x ∈ (onRunTail k rest c q out tmo left).2.2.1 :=
  onRunTail_congr (R := fun x _ => ∀ z ∈ out ++ q.out, z ∈ x.2.2.1) k rest c c q q out tmo left rfl rfl rfl
    (fun _ h => h) (fun _ h => h) (onRunOk_mono k rest c q _ tmo hk)
    (fun z hz => by rw [failAll_reports]; exact List.mem_append_left _ hz)

theorem onRun_mono (k rest c a o out tmo left) (hk : OutMono k) : ∀ x ∈ out, x ∈ (onRun k rest c a o out tmo left).2.2.1 := by
  intro x hx
  rw [onRun_eq]
  exact onRunTail_mono _ _ _ _ _ _ _ hk x (by simp [hx])

theorem onRunOk_ext (k rest c q out tmo) (r : List RxCall) (hk : ExtOk r k) (h : NoMis (onRunOk k rest c q out tmo).2.2.1) :
    onRunOk k rest c (q.ext r) out tmo = (onRunOk k rest c q out tmo).ext r :=
  onRunOk_congr (R := fun x y => NoMis x.2.2.1 → y = x.ext r) k rest c c q (q.ext r) out tmo rfl (hk _ _ _ _) (hk _ _ _ _) h

theorem onRunTail_ext (k rest c q out tmo left) (r : List RxCall) (hk : ExtOk r k) (h : NoMis (onRunTail k rest c q out tmo left).2.2.1) :
    onRunTail k rest c (q.ext r) out tmo left = (onRunTail k rest c q out tmo left).ext r :=
  onRunTail_congr (R := fun x y => NoMis x.2.2.1 → y = x.ext r) k rest c c q (q.ext r) out tmo left rfl rfl rfl
    (fun _ => rfl) (fun _ => rfl) (onRunOk_ext k rest c q _ tmo r hk) (fun _ => failAll_ext ..) h

theorem onRun_ext (k rest c a o out tmo left) (r : List RxCall) (hm : OutMono k) (hk : ExtOk r k)
    (h : NoMis (onRun k rest c a o out tmo left).2.2.1) :
    onRun k rest c a (ext o r) out tmo left = (onRun k rest c a o out tmo left).ext r := by
  rw [onRun_eq] at h ⊢
  rw [onRun_eq]
  have hq : NoMis (innerLoop c.env.now (loopBound a) { c.dev with wake := none } a o []).out :=
    (h.of_subset (onRunTail_mono _ _ _ _ _ _ _ hm)).right
  rw [innerLoop_ext _ _ _ _ _ _ r hq]
  exact onRunTail_ext _ _ _ _ _ _ _ r hk h

theorem processActionF_mono (fuel : Nat) : OutMono (processActionF fuel) := by
  induction fuel with
  | zero => intro c o out tmo x hx; simp [processActionF, hx]
  | succ n ih =>
    intro c o out tmo x hx
    unfold processActionF processActionBody
    split
    · exact hx
    · split
      · exact hx
      · dsimp only
        split
        · obtain ⟨fin, h⟩ := onTimeout_out _ c (stamp c.env.now _) o out tmo
          rw [h]; simp [hx]
        · split
          · exact hx
          · exact onRun_mono _ _ _ _ _ _ _ _ ih x hx

theorem processActionF_ext (r : List RxCall) (fuel : Nat) : ExtOk r (processActionF fuel) := by
  induction fuel with
  | zero => intro c o out tmo _; rfl
  | succ n ih =>
    intro c o out tmo h
    unfold processActionF processActionBody at h ⊢
    split
    · rfl
    · rename_i h0
      split
      · rfl
      · rename_i a0 rest hq
        dsimp only at h ⊢
        split
        · exact onTimeout_ext ..
        · split
          · rfl
          · rename_i h1 h2
            simp only [hq, h0, h1, h2] at h
            exact onRun_ext _ _ _ _ _ _ _ _ r (processActionF_mono n) ih (by simpa using h)

/-- **one device's share of `dev_post_poll` consumes oracle answers from the front only**: if, run on the answers `o`, it
    is never out of step with the oracle, then with any further answers `r` behind them it does exactly the same and
    leaves `r` behind its own remainder -/
theorem postPoll_ext (d : Dev) (env : Env) (o : Oracle) (r : List RxCall) (h : NoMis (postPoll d env o).2.2.1) :
    postPoll d env (ext o r) = PA.ext (postPoll d env o) r := by
  rw [postPoll_eq] at h ⊢
  rw [postPoll_eq]
  unfold postPoll' at h ⊢
  dsimp only at h ⊢
  by_cases h0 : (ppReady d env).1.aborted = true
  · rw [if_pos h0, if_pos h0]
    rfl
  · rw [if_neg h0] at h
    rw [if_neg h0, if_neg h0]
    unfold processAction at h ⊢
    exact processActionF_ext r _ _ _ _ _ h

end Pm.Dev2
