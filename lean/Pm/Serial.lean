import Pm.Generated.TermiosConsts
/-! # Serial devices: `device_serial.c` and the tty line discipline it configures

Three layers, all executable (core Lean only):

1. `parseFlags` — the `sscanf(ser->flags, "%d,%d%c%d", &baud, &databits, &parity, &stopbits)` of `serial_connect`, with the
   defaults `9600,8N1` and the `assert(n >= EOF && n <= 4)` that follows it.
2. `Termios`, `serialSetup` — `_serial_setup` edit by edit, in the order of the C code, over the numeric constants of this
   platform (`Pm/Generated/TermiosConsts.lean`, produced by compiling and running a C program; the baud table is the
   `baudmap[]` of the C file itself).
3. `ttyOut`, `ttyIn` — what the Linux line discipline (`drivers/tty/n_tty.c`) does to bytes, as a function of the flags:
   the output side (`do_output_char`) and the input side (`n_tty_receive_buf_standard`, `n_tty_receive_char_special`,
   `eraser`, the echo buffer).  `uartTx`/`uartRx` say what the hardware character format adds below the line discipline
   (`CSIZE`, `CREAD`) — on a pseudo-terminal there is no such layer.

The correspondence layer (`lib/seriallayer.py`, `harness/u_serial.c`, `SrMain.lean`) runs the real `serial_connect` /
`_serial_setup` on a pseudo-terminal and pushes bytes through the real kernel both ways, in the state `_serial_setup`
leaves *and* in randomly drawn `termios` states (so that the tty model itself is compared with the kernel, inside the
domain `validated` below).  Theorems: `Pm/SerialProof.lean`, `Pm/Props/C09.lean` section 10.

What the model made visible in the C code (reproduced on the real code by the layer, none a byte alteration):
* (repaired, d5bec1f) a device declared without flags, or with a blank flags string, aborted the daemon at connect time:
  `sscanf` answers `EOF` = -1 and the assertion read `n >= 0`; now `n >= EOF`, and blank means the defaults;
* (repaired, 1c18a0c) `_serial_setup` left `c_cc[VMIN]`/`c_cc[VTIME]` as found: with `VMIN > 1`, `VTIME = 0` left by a previous
  user of the port, `poll` stayed silent until `VMIN` bytes were queued; now it sets 1 / 0 (`pollReadable`);
* (observation) `_serial_setup` never sets `CREAD`/`CLOCAL` and leaves `CRTSCTS`, `HUPCL` as found (`uartRx`; not observable on a pty).

Flag words are `Nat` bit sets.  `w &= ~m` is `clr w m = w ^^^ (w &&& m)` (no word width is needed to clear bits),
`w |= m` is `w ||| m`. -/
namespace Pm.Serial
open Pm.Generated.Termios

abbrev Bytes := List UInt8

/-! ## 1. the flags string -/

/-- the four values `_serial_setup` receives; `parity` is the byte `%c` stored (compared with `'n' 'N' 'e' 'E' 'o' 'O'`) -/
structure Params where
  baud : Int
  databits : Int
  parity : UInt8
  stopbits : Int
  deriving DecidableEq, Repr, Inhabited

/-- `int baud = 9600, databits = 8, stopbits = 1; char parity = 'N';` -/
def defaults : Params := { baud := 9600, databits := 8, parity := 78, stopbits := 1 }

def isSpace (b : UInt8) : Bool := b == 32 || (9 ≤ b.toNat && b.toNat ≤ 13)
def isDigit (b : UInt8) : Bool := 48 ≤ b.toNat && b.toNat ≤ 57
def digitsVal (ds : Bytes) : Nat := ds.foldl (fun n d => n * 10 + (d.toNat - 48)) 0
/-- the value is accumulated in a `long` (saturating like `strtol`) and stored through an `int *` -/
def toInt32 (v : Int) : Int :=
  let m := v % 4294967296
  if m ≥ 2147483648 then m - 4294967296 else m

/-- outcome of one `%d` directive -/
inductive ScanD where
  | eof                              -- end of input before anything but white space: *input failure*
  | fail                             -- no digits: *matching failure*
  | ok (v : Int) (rest : Bytes)
  deriving Repr

/-- one `%d` of glibc's `sscanf`: skip white space, optional sign, at least one decimal digit -/
def scanD (s : Bytes) : ScanD :=
  let s := s.dropWhile isSpace
  if s.isEmpty then .eof else
  let (neg, r) := match s with
    | 45 :: r => (true, r)
    | 43 :: r => (false, r)
    | _ => (false, s)
  let ds := r.takeWhile isDigit
  if ds.isEmpty then .fail else
  let v : Int := digitsVal ds
  let v := if neg then (if v > 9223372036854775808 then -9223372036854775808 else -v) else (if v > 9223372036854775807 then 9223372036854775807 else v)
  .ok (toInt32 v) (r.dropWhile isDigit)

/-- a C string ends at the first NUL -/
def cstr (s : Bytes) : Bytes := s.takeWhile (· != 0)

/-- `n = sscanf(flags, "%d,%d%c%d", &baud, &databits, &parity, &stopbits)` starting from the defaults: the return value
    (`-1` = `EOF`: the string holds nothing but white space) and the four variables afterwards.  `,` must follow the first
    number immediately; `%c` takes the very next byte, white space included. -/
def sscanfFlags (s : Bytes) : Int × Params :=
  let d := defaults
  match scanD s with
  | .eof => (-1, d)
  | .fail => (0, d)
  | .ok baud r =>
    let d := { d with baud := baud }
    match r with
    | 44 :: r =>
      match scanD r with
      | .ok db r =>
        let d := { d with databits := db }
        match r with
        | c :: r =>
          let d := { d with parity := c }
          match scanD r with
          | .ok sb _ => (4, { d with stopbits := sb })
          | _ => (3, d)
        | [] => (2, d)
      | _ => (1, d)
    | _ => (1, d)

/-- the parameters `serial_connect` goes on with: `assert(n >= EOF && n <= 4)` follows the `sscanf`, and `none` would be a
    failing assertion (the daemon aborts).  `EOF` = -1 is what `sscanf` answers for a string that holds nothing but white
    space — the empty string `serial_create` stores for a device line without flags included: no conversion took place, all
    four defaults stand.  (Before fix d5bec1f the assertion read `n >= 0` and such a device aborted the daemon.)  Nothing is
    refused here (`SerialProof.parseFlags_some`): a string that does not parse leaves defaults in place, and values that make no
    sense are refused by `serialSetup`. -/
def parseFlags (s : Bytes) : Option Params :=
  let (n, p) := sscanfFlags (cstr s)
  if n < -1 || n > 4 then none else some p

/-! ## 2. `struct termios` and `_serial_setup` -/

/-- the part of `struct termios` the model speaks about.  `ispeed`/`ospeed` are glibc's `c_ispeed`/`c_ospeed`
    members (with glibc 2.36 they hold the `B…` constant, which also lives in the `CBAUD` bits of `c_cflag`);
    the control characters are those the line discipline compares input with (`0` = `_POSIX_VDISABLE`: never matches). -/
structure Termios where
  iflag : Nat
  oflag : Nat
  cflag : Nat
  lflag : Nat
  ispeed : Nat := 0
  ospeed : Nat := 0
  vmin : Nat := 1
  vtime : Nat := 0
  vintr : UInt8 := 3
  vquit : UInt8 := 28
  verase : UInt8 := 127
  vkill : UInt8 := 21
  veof : UInt8 := 4
  vstart : UInt8 := 17
  vstop : UInt8 := 19
  vsusp : UInt8 := 26
  veol : UInt8 := 0
  vreprint : UInt8 := 18
  vwerase : UInt8 := 23
  vlnext : UInt8 := 22
  veol2 : UInt8 := 0
  deriving DecidableEq, Repr, Inhabited

/-- `w &= ~m` -/
def clr (w m : Nat) : Nat := w ^^^ (w &&& m)
/-- `(w & m) != 0` -/
def flag (w m : Nat) : Bool := w &&& m != 0

/-- glibc-internal marker in `c_iflag` for "input speed B0" (`sysdeps/unix/sysv/linux/speed.c`); not in the public headers -/
def IBAUD0 : Nat := 2147483648
/-- `__MAX_BAUD` -/
def maxBaud : Nat := 4111

/-- `cfsetispeed` / `cfsetospeed` refuse a constant that is not a speed -/
def badSpeed (b : Nat) : Bool := clr b CBAUD != 0 && (b < 4097 || b > maxBaud)

/-- glibc 2.36 `cfsetispeed` -/
def cfsetispeed (t : Termios) (b : Nat) : Option Termios :=
  if badSpeed b then none else
  if b == 0 then some { t with ispeed := 0, iflag := t.iflag ||| IBAUD0 }
  else some { t with ispeed := b, iflag := clr t.iflag IBAUD0, cflag := clr t.cflag CBAUD ||| b }

/-- glibc 2.36 `cfsetospeed` -/
def cfsetospeed (t : Termios) (b : Nat) : Option Termios :=
  if badSpeed b then none else some { t with ospeed := b, cflag := clr t.cflag CBAUD ||| b }

/-- the loop over `baudmap[]`: the constant of the first row whose baud is the one asked for -/
def lookupBaud (baud : Int) : Option Nat :=
  (baudmap.find? fun p => (p.1 : Int) == baud).map (·.2)

/-- which of the four `err(...)`; `return -1` branches `_serial_setup` left through -/
inductive SetupErr where
  | baud | databits | stopbits | parity
  deriving DecidableEq, Repr

def setBaud (t : Termios) (baud : Int) : Except SetupErr Termios :=
  match lookupBaud baud with
  | none => .error .baud
  | some b =>
    match cfsetispeed t b with
    | none => .error .baud
    | some t => match cfsetospeed t b with
      | none => .error .baud
      | some t => .ok t

def setDatabits (t : Termios) (databits : Int) : Except SetupErr Termios :=
  if databits == 7 then .ok { t with cflag := clr t.cflag CSIZE ||| CS7 }
  else if databits == 8 then .ok { t with cflag := clr t.cflag CSIZE ||| CS8 }
  else .error .databits

def setStopbits (t : Termios) (stopbits : Int) : Except SetupErr Termios :=
  if stopbits == 1 then .ok { t with cflag := clr t.cflag CSTOPB }
  else if stopbits == 2 then .ok { t with cflag := t.cflag ||| CSTOPB }
  else .error .stopbits

def setParity (t : Termios) (parity : UInt8) : Except SetupErr Termios :=
  if parity == 110 || parity == 78 then .ok { t with cflag := clr t.cflag PARENB }
  else if parity == 101 || parity == 69 then .ok { t with cflag := clr (t.cflag ||| PARENB) PARODD }
  else if parity == 111 || parity == 79 then .ok { t with cflag := t.cflag ||| PARENB ||| PARODD }
  else .error .parity

/-- `tio.c_oflag &= ~OPOST; tio.c_iflag = tio.c_lflag = 0; tio.c_cc[VMIN] = 1; tio.c_cc[VTIME] = 0;` (the last two since
    fix 1c18a0c: before, `VMIN`/`VTIME` were left as found and `poll` could stay silent with bytes queued) -/
def setRaw (t : Termios) : Termios := { t with oflag := clr t.oflag OPOST, iflag := 0, lflag := 0, vmin := 1, vtime := 0 }

/-- `_serial_setup` between `tcgetattr` and `tcsetattr`, with the branch it fails in -/
def serialSetupE (t : Termios) (p : Params) : Except SetupErr Termios := do
  let t ← setBaud t p.baud
  let t ← setDatabits t p.databits
  let t ← setStopbits t p.stopbits
  let t ← setParity t p.parity
  return setRaw t

/-- `_serial_setup`: the `termios` handed to `tcsetattr`, `none` when it returns -1 before that -/
def serialSetup (t : Termios) (p : Params) : Option Termios := (serialSetupE t p).toOption

/-- what `tcsetattr` followed by `tcgetattr` on a pseudo-terminal makes of the settings: glibc strips its `IBAUD0` marker,
    the kernel drops `ADDRB` (no driver support) and `drivers/tty/pty.c: pty_set_termios` does not keep character size and
    parity (`c_cflag &= ~(CSIZE | PARENB); c_cflag |= CS8 | CREAD`).  Only used to compare read-backs on the test platform; a
    real serial port keeps size and parity. -/
def ptyKeeps (t : Termios) : Termios :=
  { t with iflag := clr t.iflag IBAUD0, cflag := clr (clr t.cflag ADDRB) (CSIZE ||| PARENB) ||| (CS8 ||| CREAD) }

/-- `tcsetattr` of Debian's glibc 2.36 on a pseudo-terminal (its `tcsetattr` reads the settings before and after the
    `TCSETS`): it fails with `EINVAL` exactly when none of the four flag words changed (the control characters do not count)
    **and** the kernel did not keep `PARENB`/`CREAD` as asked, or a non-zero `CSIZE` as asked — which on a pty (`ptyKeeps`: `CS8`,
    no parity, `CREAD` forced) means: 6 or 7 data bits (`CS5` is 0 and passes), parity, or a cleared `CREAD` were
    asked for.  `cur`: the state of the slave (as the kernel holds it), `asked`: what is handed to `tcsetattr`.  The `TCSETS`
    itself has been carried out (control characters included) when this is reported.  Checked against the test platform
    (Linux 6.18 / glibc 2.36-9+deb12u14) on 30 000 random pairs; test platform only, a real port keeps size and parity. -/
def ptyRefuses (cur asked : Termios) : Bool :=
  let new := ptyKeeps asked
  (new.iflag == cur.iflag && new.oflag == cur.oflag && new.cflag == cur.cflag && new.lflag == cur.lflag) &&
  ((asked.cflag &&& (PARENB ||| CREAD)) != (new.cflag &&& (PARENB ||| CREAD)) ||
   ((asked.cflag &&& CSIZE) != 0 && (asked.cflag &&& CSIZE) != (new.cflag &&& CSIZE)))

/-- `cfgetospeed` / `cfgetispeed` of glibc 2.36 -/
def cfgetospeed (t : Termios) : Nat := t.cflag &&& CBAUD
def cfgetispeed (t : Termios) : Nat := if flag t.iflag IBAUD0 then 0 else t.cflag &&& CBAUD

/-! ## 3. the line discipline -/

/-! ### character classes of the kernel (`lib/ctype.c`: Latin-1) -/
def kIscntrl (c : UInt8) : Bool := c.toNat < 32 || c == 127
def kIslower (c : UInt8) : Bool := (97 ≤ c.toNat && c.toNat ≤ 122) || (223 ≤ c.toNat && c.toNat ≤ 246) || 248 ≤ c.toNat
def kIsupper (c : UInt8) : Bool := (65 ≤ c.toNat && c.toNat ≤ 90) || (192 ≤ c.toNat && c.toNat ≤ 214) || (216 ≤ c.toNat && c.toNat ≤ 222)
def kIsdigit (c : UInt8) : Bool := 48 ≤ c.toNat && c.toNat ≤ 57
def kIsalnum (c : UInt8) : Bool := kIslower c || kIsupper c || kIsdigit c
def kToupper (c : UInt8) : UInt8 := if kIslower c then c - 32 else c
def kTolower (c : UInt8) : UInt8 := if kIsupper c then c + 32 else c
/-- `is_continuation`: a UTF-8 continuation byte when `IUTF8` is set -/
def isCont (t : Termios) (c : UInt8) : Bool := flag t.iflag IUTF8 && (c &&& 192) == 128

/-! ### output: `do_output_char` -/

/-- `ldata->column`, `ldata->canon_column` -/
structure Col where
  col : Nat := 0
  canon : Nat := 0
  deriving DecidableEq, Repr, Inhabited

/-- one byte written with `OPOST` set: what reaches the driver and the columns afterwards -/
def outChar (t : Termios) (s : Col) (c : UInt8) : Bytes × Col :=
  if c == 10 then
    let s := if flag t.oflag ONLRET then { s with col := 0 } else s
    if flag t.oflag ONLCR then ([13, 10], { col := 0, canon := 0 })
    else ([10], { s with canon := s.col })
  else if c == 13 then
    if flag t.oflag ONOCR && s.col == 0 then ([], s)
    else if flag t.oflag OCRNL then ([10], if flag t.oflag ONLRET then { col := 0, canon := 0 } else s)
    else ([13], { col := 0, canon := 0 })
  else if c == 9 then
    let n := 8 - s.col % 8
    if t.oflag &&& TABDLY == XTABS then (List.replicate n 32, { s with col := s.col + n })
    else ([9], { s with col := s.col + n })
  else if c == 8 then ([8], { s with col := s.col - 1 })
  else if kIscntrl c then ([c], s)
  else
    let c := if flag t.oflag OLCUC then kToupper c else c
    ([c], if isCont t c then s else { s with col := s.col + 1 })

def outChars (t : Termios) : Col → Bytes → Bytes × Col
  | s, [] => ([], s)
  | s, c :: r =>
    let (o, s) := outChar t s c
    let (o', s) := outChars t s r
    (o ++ o', s)

/-- **what the other end of the line receives when `bs` is written to the tty** (a tty at column 0) -/
def ttyOut (t : Termios) (bs : Bytes) : Bytes :=
  if flag t.oflag OPOST then (outChars t {} bs).1 else bs

/-! ### input: `n_tty_receive_buf_standard` and the echo buffer -/

/-- an entry of the echo buffer (`ECHO_OP_*`) -/
inductive EchoOp where
  | ch (c : UInt8)            -- a byte that goes through output processing when `OPOST` is set
  | ff                        -- an escaped 0xff: put as it is (one column)
  | ctl (c : UInt8)           -- a control character echoed as `^X`
  | setCanonCol
  | eraseTab (n : Nat) (afterTab : Bool)
  deriving DecidableEq, Repr

structure InSt where
  done : Bytes := []            -- what `read` can take: everything (non-canonical), completed lines (canonical)
  line : Bytes := []            -- canonical mode: the line being edited
  nlines : Nat := 0             -- canonical mode: completed lines waiting to be read
  pend : List EchoOp := []      -- committed echo operations not yet processed
  echoed : Bytes := []          -- what the echo sent back
  col : Col := {}
  stopped : Bool := false       -- output stopped by the STOP character (`IXON`)
  lnext : Bool := false
  deriving Repr, Inhabited

/-- `echo_char_raw` -/
def echoRaw (c : UInt8) : List EchoOp := if c == 255 then [.ff] else [.ch c]
/-- `echo_char` -/
def echoChar (t : Termios) (c : UInt8) : List EchoOp :=
  if c == 255 then [.ff] else if flag t.lflag ECHOCTL && kIscntrl c && c != 9 then [.ctl c] else [.ch c]

/-- one entry of the echo buffer in `__process_echoes` -/
def procOp (t : Termios) (s : Col) : EchoOp → Bytes × Col
  | .ch c => if flag t.oflag OPOST then outChar t s c else ([c], s)
  | .ff => ([255], { s with col := s.col + 1 })
  | .ctl c => ([94, c ^^^ 64], { s with col := s.col + 2 })
  | .setCanonCol => ([], { s with canon := s.col })
  | .eraseTab n after =>
    let n := if after then n else n + s.canon
    let nb := 8 - n % 8
    (List.replicate nb 8, { s with col := s.col - nb })

def procOps (t : Termios) : Col → List EchoOp → Bytes × Col
  | s, [] => ([], s)
  | s, o :: r =>
    let (b, s) := procOp t s o
    let (b', s) := procOps t s r
    (b ++ b', s)

/-- `process_echoes` / `flush_echoes`: nothing moves while output is stopped (`pty_write_room` is 0) -/
def processEchoes (t : Termios) (st : InSt) : InSt :=
  if st.stopped then st else
  let (b, c) := procOps t st.col st.pend
  { st with echoed := st.echoed ++ b, col := c, pend := [] }

/-- `start_tty; process_echoes` -/
def startTty (t : Termios) (st : InSt) : InSt := processEchoes t { st with stopped := false }

/-- restart by any character (`IXANY`) -/
def anyRestart (t : Termios) (st : InSt) : InSt :=
  if st.stopped && flag t.iflag IXON && flag t.iflag IXANY then startTty t st else st

def canonMode (t : Termios) : Bool := flag t.lflag ICANON

/-- `put_tty_queue`, with the `PARMRK` doubling of 0xff -/
def putQueue (t : Termios) (st : InSt) (c : UInt8) : InSt :=
  let bs := if c == 255 && flag t.iflag PARMRK then [c, c] else [c]
  if canonMode t then { st with line := st.line ++ bs } else { st with done := st.done ++ bs }

/-- echo of an ordinary character: `echo_set_canon_col` at the start of a line, then `echo_char` -/
def echoOrd (t : Termios) (st : InSt) (c : UInt8) : InSt :=
  { st with pend := st.pend ++ (if canonMode t && st.line.isEmpty then [.setCanonCol] else []) ++ echoChar t c }

/-- `n_tty_receive_char` -/
def recvChar (t : Termios) (st : InSt) (c : UInt8) : InSt :=
  let st := anyRestart t st
  let st := if flag t.lflag ECHO then echoOrd t st c else st
  putQueue t st c

/-- the line is complete (`handle_newline`); the EOF character itself is not delivered -/
def newline (st : InSt) (c : Option UInt8) : InSt :=
  { st with done := st.done ++ st.line ++ c.toList, line := [], nlines := st.nlines + 1 }

/-- columns taken by the characters before an erased tab, counted backwards to the previous tab or the start of the line -/
def tabCount (t : Termios) : Bytes → Nat → Nat × Bool
  | [], n => (n, false)
  | c :: r, n =>
    if c == 9 then (n, true)
    else if kIscntrl c then tabCount t r (if flag t.lflag ECHOCTL then n + 2 else n)
    else tabCount t r (n + 1)

/-- what `eraser` puts into the echo buffer for one erased character `c` (`rest`: the line before it, last byte first);
    `ECHOPRT` is not modelled -/
def eraseEcho (t : Termios) (single : Bool) (c : UInt8) (rest : Bytes) : List EchoOp :=
  if !flag t.lflag ECHO then []
  else if single && !flag t.lflag ECHOE then echoChar t t.verase
  else if c == 9 then
    let (n, after) := tabCount t rest 0
    [.eraseTab (n % 8) after]
  else
    (if kIscntrl c && flag t.lflag ECHOCTL then [.ch 8, .ch 32, .ch 8] else []) ++
    (if !kIscntrl c || flag t.lflag ECHOCTL then [.ch 8, .ch 32, .ch 8] else [])

inductive KillType where
  | erase | werase | kill
  deriving DecidableEq, Repr

/-- the loop of `eraser` over the line, last byte first: the bytes that stay (still reversed) and the echo -/
def eraseLoop (t : Termios) (k : KillType) : Bytes → Nat → List EchoOp → Bytes × List EchoOp
  | [], _, acc => ([], acc)
  | c :: rest, seen, acc =>
    let al := kIsalnum c || c == 95
    if k == .werase && !al && seen > 0 then (c :: rest, acc)
    else
      let seen := if k == .werase && al then seen + 1 else seen
      let acc := acc ++ eraseEcho t (k == .erase) c rest
      if k == .erase then (rest, acc) else eraseLoop t k rest seen acc

/-- `eraser` -/
def eraser (t : Termios) (st : InSt) (c : UInt8) : InSt :=
  if st.line.isEmpty then st else
  let run (k : KillType) : InSt :=
    let (rl, ops) := eraseLoop t k st.line.reverse 0 []
    { st with line := rl.reverse, pend := st.pend ++ ops }
  if c == t.verase then run .erase
  else if c == t.vwerase then run .werase
  else if !flag t.lflag ECHO then { st with line := [] }
  else if !flag t.lflag ECHOK || !flag t.lflag ECHOKE || !flag t.lflag ECHOE then
    { st with line := [], pend := st.pend ++ echoChar t t.vkill ++ (if flag t.lflag ECHOK then echoRaw 10 else []) }
  else run .kill

/-- `n_tty_receive_signal_char`: `isig` (without `NOFLSH`: what was received and the echo buffer are discarded),
    `start_tty`, the character echoed -/
def signalChar (t : Termios) (st : InSt) (c : UInt8) : InSt :=
  let st := if flag t.lflag NOFLSH then st else { st with done := [], line := [], nlines := 0, pend := [] }
  let st := if flag t.iflag IXON then { st with stopped := false } else st
  if flag t.lflag ECHO then { st with pend := st.pend ++ echoChar t c } else processEchoes t st

/-- the bit of `ldata->char_map`: does this byte take the slow path -/
def inCharMap (t : Termios) (c : UInt8) : Bool :=
  c != 0 &&
  ((c == 13 && (flag t.iflag IGNCR || flag t.iflag ICRNL)) || (c == 10 && flag t.iflag INLCR) ||
   (canonMode t && (c == t.verase || c == t.vkill || c == t.veof || c == 10 || c == t.veol ||
      (flag t.lflag IEXTEN && (c == t.vwerase || c == t.vlnext || c == t.veol2 || (flag t.lflag ECHO && c == t.vreprint))))) ||
   (flag t.iflag IXON && (c == t.vstart || c == t.vstop)) ||
   (flag t.lflag ISIG && (c == t.vintr || c == t.vquit || c == t.vsusp)))

/-- the canonical-mode part of `n_tty_receive_char_special`; `none`: not handled there -/
def canonSpecial (t : Termios) (st : InSt) (c : UInt8) : Option InSt :=
  let iext := flag t.lflag IEXTEN
  let echo := flag t.lflag ECHO
  if c == t.verase || c == t.vkill || (c == t.vwerase && iext) then some (eraser t st c)
  else if c == t.vlnext && iext then
    some { st with lnext := true, pend := st.pend ++ (if echo && flag t.lflag ECHOCTL then [.ch 94, .ch 8] else []) }
  else if c == t.vreprint && echo && iext then
    some { st with pend := st.pend ++ echoChar t c ++ echoRaw 10 ++ st.line.flatMap (echoChar t) }
  else if c == 10 then
    let st := if echo || flag t.lflag ECHONL then { st with pend := st.pend ++ echoRaw 10 } else st
    some (newline st (some 10))
  else if c == t.veof then some (newline st none)
  else if c == t.veol || (c == t.veol2 && iext) then
    let st := if echo then echoOrd t st c else st
    let st := if c == 255 && flag t.iflag PARMRK then { st with line := st.line ++ [c] } else st
    some (newline st (some c))
  else none

/-- `n_tty_receive_char_special` -/
def special (t : Termios) (st : InSt) (c : UInt8) : InSt :=
  if flag t.iflag IXON && c == t.vstart then startTty t st
  else if flag t.iflag IXON && c == t.vstop then { st with stopped := true }
  else if flag t.lflag ISIG && (c == t.vintr || c == t.vquit || c == t.vsusp) then signalChar t st c
  else
    let st := anyRestart t st
    if c == 13 && flag t.iflag IGNCR then st else
    let c := if c == 13 then (if flag t.iflag ICRNL then 10 else c) else if c == 10 && flag t.iflag INLCR then 13 else c
    match (if canonMode t then canonSpecial t st c else none) with
    | some st => st
    | none =>
      let st := if flag t.lflag ECHO then (if c == 10 then { st with pend := st.pend ++ echoRaw 10 } else echoOrd t st c) else st
      putQueue t st c

/-- `ISTRIP`, then `IUCLC` (only with `IEXTEN`) -/
def preops (t : Termios) (c : UInt8) : UInt8 :=
  let c := if flag t.iflag ISTRIP then c &&& 127 else c
  if flag t.iflag IUCLC && flag t.lflag IEXTEN then kTolower c else c

/-- one received byte (`n_tty_receive_buf_standard`) -/
def inStep (t : Termios) (st : InSt) (c : UInt8) : InSt :=
  if st.lnext then recvChar t { st with lnext := false } (preops t c)
  else
    let c := preops t c
    if flag t.lflag EXTPROC then { st with done := st.done ++ [c] }
    else if inCharMap t c then special t st c else recvChar t st c

/-- the state after `bs` has arrived in one piece (`__receive_buf` ends with `flush_echoes`) -/
def ttyInSt (t : Termios) (bs : Bytes) : InSt :=
  let st := bs.foldl (inStep t) {}
  if flag t.lflag ECHO || flag t.lflag ECHONL then processEchoes t st else st

/-- **what a reader of the tty gets, and what is echoed back to the sender, when `bs` arrives in one piece and the reader
    reads afterwards.**  Canonical mode delivers completed lines only. -/
def ttyIn (t : Termios) (bs : Bytes) : Bytes × Bytes :=
  let st := ttyInSt t bs
  (st.done, st.echoed)

/-- after `bs` has arrived the descriptor is readable for `poll` (`n_tty_poll` → `input_available_p(tty, 1)`): with
    `ICANON` a completed line is waiting; otherwise at least `VMIN` bytes when `VTIME` is 0 and `VMIN` is not, else one byte -/
def pollReadable (t : Termios) (bs : Bytes) : Bool :=
  let st := ttyInSt t bs
  if canonMode t && !flag t.lflag EXTPROC then st.nlines > 0
  else st.done.length ≥ (if t.vtime == 0 && t.vmin != 0 then t.vmin else 1)

/-- bytes an entry occupies in the kernel's echo buffer -/
def echoCost : EchoOp → Nat
  | .ch _ => 1
  | .ff => 2
  | .ctl _ => 2
  | .setCanonCol => 2
  | .eraseTab _ _ => 3

/-- the largest backlog of unprocessed echo while `bs` is taken in.  From 256 bytes on (`ECHO_COMMIT_WATERMARK`) the kernel
    starts processing echoes in the middle of a piece, which `ttyIn` (one flush at the end) does not follow: the echo is
    compared with the kernel only below that. -/
def echoBacklog (t : Termios) (bs : Bytes) : Nat :=
  (bs.foldl (fun (p : InSt × Nat) c => let st := inStep t p.1 c; (st, max p.2 ((st.pend.map echoCost).sum))) ({}, 0)).2

/-- the flag settings inside which `ttyOut`/`ttyIn`/`pollReadable` are compared with the kernel on every run: `ECHOPRT` is
    clear, and in canonical mode `IUTF8` (multi-byte erase is not modelled) and `EXTPROC` (a lone EOF character becomes a
    zero-length read) are clear.  `IXOFF`, `IMAXBEL`, `IGNBRK`, `BRKINT`, `IGNPAR`, `INPCK` do not touch data bytes (they concern a
    full input queue, breaks and parity errors, which a byte stream does not contain); `XCASE`, `TOSTOP`, `FLUSHO`, `PENDIN` are
    inert in `n_tty` for a tty that is nobody's controlling terminal.  Further limits of the comparison: pieces of at most 80
    bytes (the model has no queue capacity: 4096 bytes of input), `echoBacklog` below 256, and no restart before a flushing
    signal character (whether echo already handed over is still in flight then depends on scheduling). -/
def validated (t : Termios) : Bool :=
  !flag t.lflag ECHOPRT && !(canonMode t && (flag t.iflag IUTF8 || flag t.lflag EXTPROC))

/-! ### below the line discipline: the character format of a real port -/

/-- number of data bits per character -/
def charBits (t : Termios) : Nat :=
  let s := t.cflag &&& CSIZE
  if s == CS5 then 5 else if s == CS6 then 6 else if s == CS7 then 7 else 8

/-- a UART sends the low `charBits` bits of each byte -/
def uartTx (t : Termios) (bs : Bytes) : Bytes := bs.map fun b => b &&& (2 ^ charBits t - 1).toUInt8

/-- a UART receives nothing with `CREAD` clear, and `charBits` bits per character otherwise -/
def uartRx (t : Termios) (bs : Bytes) : Bytes :=
  if flag t.cflag CREAD then bs.map fun b => b &&& (2 ^ charBits t - 1).toUInt8 else []

end Pm.Serial
