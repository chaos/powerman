import Pm.RedfishSeq
/-! The machine state `runCmd` ends in (`finalM`); its three lists are empty. -/
namespace Pm.Redfish

theorem WF_acyclic {c : Cfg} (hw : WF c = true) (p : Nat) : isDesc c p p = false := by
  cases h : isDesc c p p
  · rfl
  · exact absurd (isDesc_iff.1 h) (anc_irrefl hw p)

/-- the final machine of `runCmd` -/
def finalM (c : Cfg) (st : St) (cmd : Cmd) (ts : List Nat) : M :=
  runLoop c (fuelOf c ts) (setup c cmd (enq c st cmd ts))

theorem runCmd_final (c : Cfg) (st : St) (cmd : Cmd) (ts : List Nat) :
    runCmd c st cmd ts = ((finalM c st cmd ts).out, (finalM c st cmd ts).st, isDone (finalM c st cmd ts)) :=
  runCmd_eq c st cmd ts

theorem finalM_empty {c : Cfg} (hw : WF c = true) (st : St) (cmd : Cmd) (ts : List Nat) :
    (finalM c st cmd ts).active = [] ∧ (finalM c st cmd ts).delayed = [] ∧ (finalM c st cmd ts).waiting = [] := by
  have := runCmd_done hw st cmd ts
  rw [runCmd_final] at this
  simp only [isDone, Bool.and_eq_true, List.isEmpty_iff] at this
  exact ⟨this.1.1, this.1.2, this.2⟩

/-- `runCmd` ends in `finalM`, reports "done", and all three lists are empty: what `shell()` tests before it prints its
    prompt -/
theorem runCmd_prompt {c : Cfg} (hw : WF c = true) (st : St) (cmd : Cmd) (ts : List Nat) :
    runCmd c st cmd ts = ((finalM c st cmd ts).out, (finalM c st cmd ts).st, true) ∧
    (finalM c st cmd ts).active = [] ∧ (finalM c st cmd ts).delayed = [] ∧ (finalM c st cmd ts).waiting = [] := by
  refine ⟨?_, finalM_empty hw st cmd ts⟩
  have := runCmd_done hw st cmd ts
  rw [runCmd_final] at this ⊢
  simp only at this
  rw [this]

end Pm.Redfish
