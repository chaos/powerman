import Pm.ConfigModel
import Pm.HLFind
/-! helper lemmas for C13 over `Pm.ConfigModel` (the reader-facing statements are in `Pm/Props/C13.lean`) -/
namespace Pm.ConfigModel.Proof
open Pm Pm.ConfigModel

/-- how many plugs of the list carry node `m` -/
def mappedIn (ps : List Plug) (m : Name) : Nat := ps.countP (·.node = some m)

/-- how many plugs of all devices carry node `m` -/
def mapped (devs : List Dev) (m : Name) : Nat := (devs.map fun d => mappedIn d.plugs m).sum

/-- plug names of a device, in list order -/
def plugNames (d : Dev) : List Name := d.plugs.map (·.name)

/-- names of the plugs that carry no node yet, in list order -/
def freeNames (d : Dev) : List Name := (d.plugs.filter (·.node.isNone)).map (·.name)

/-- the lines from number `i` on, WITHOUT the final `_validate_config` -/
def steps (specs : List Spec) : Cfg → Nat → List Stmt → Except Diag Cfg
  | c, _, [] => .ok c
  | c, i, s :: rest =>
    match step specs c i s with
    | .error e => .error (e, i)
    | .ok c' => steps specs c' (i + 1) rest

/-- induction along an accepted run of `steps`: `motive c i stmts c'` speaks of the configuration `c` before line `i`, the lines
    `stmts` from there on and the configuration `c'` they leave; it holds of no lines, and an accepted line in front carries it on.
    With `motive := fun c _ _ c' => P c → P c'`: what every accepted line keeps, `steps` keeps. -/
theorem steps_induct {specs : List Spec} {motive : Cfg → Nat → List Stmt → Cfg → Prop} (nil : ∀ c i, motive c i [] c)
    (cons : ∀ {c i s rest c1 c'}, step specs c i s = .ok c1 → motive c1 (i + 1) rest c' → motive c i (s :: rest) c') :
    ∀ {stmts : List Stmt} {c c' : Cfg} {i : Nat}, steps specs c i stmts = .ok c' → motive c i stmts c'
  | [], c, c', i, h => by simp only [steps] at h; cases h; exact nil c i
  | s :: rest, c, c', i, h => by
    simp only [steps] at h
    cases hs : step specs c i s with
    | error e => rw [hs] at h; cases h
    | ok c1 => rw [hs] at h; exact cons hs (steps_induct nil cons h)

/-- the names the `node` lines configure, in line order -/
def nodesOf : List Stmt → List Name
  | [] => []
  | .node ns _ _ :: rest => (match create ns with | .ok hl => expand hl | .error _ => []) ++ nodesOf rest
  | _ :: rest => nodesOf rest

/-! ### `run` = `steps` then `validate` -/

theorem steps_append (specs : List Spec) : ∀ (pre rest : List Stmt) (c : Cfg) (i : Nat),
    steps specs c i (pre ++ rest) = match steps specs c i pre with
      | .error e => .error e
      | .ok c' => steps specs c' (i + pre.length) rest
  | [], rest, c, i => by simp [steps]
  | s :: pre, rest, c, i => by
    simp only [List.cons_append, steps]
    cases hs : step specs c i s with
    | error e => simp
    | ok c' =>
      simp only
      rw [steps_append specs pre rest c' (i + 1)]
      have : i + 1 + pre.length = i + (pre.length + 1) := by omega
      simp [this]

theorem run_eq_steps (specs : List Spec) : ∀ (stmts : List Stmt) (c : Cfg) (i : Nat),
    run specs c i stmts = match steps specs c i stmts with
      | .error e => .error e
      | .ok c' => validate c' (i + stmts.length)
  | [], c, i => rfl
  | s :: rest, c, i => by
    simp only [run, steps]
    cases step specs c i s with
    | error e => rfl
    | ok c' => simp only; rw [run_eq_steps specs rest c' (i + 1), List.length_cons, Nat.add_assoc, Nat.add_comm 1]

theorem run_append (specs : List Spec) (pre rest : List Stmt) (c : Cfg) (i : Nat) :
    run specs c i (pre ++ rest) = match steps specs c i pre with
      | .error e => .error e
      | .ok c' => run specs c' (i + pre.length) rest := by
  rw [run_eq_steps, steps_append]
  cases steps specs c i pre with
  | error e => rfl
  | ok c' => simp only; rw [run_eq_steps, List.length_append, Nat.add_assoc]

theorem build_eq_steps (specs : List Spec) (stmts : List Stmt) :
    build specs stmts = match steps specs empty 0 stmts with
      | .error e => .error e
      | .ok c' => validate c' stmts.length := by
  have := run_eq_steps specs stmts empty 0
  simpa [build] using this

theorem build_split (specs : List Spec) (pre post : List Stmt) (s : Stmt) (cfg : Cfg)
    (h : build specs (pre ++ s :: post) = .ok cfg) :
    ∃ c1 c2, steps specs empty 0 pre = .ok c1 ∧ step specs c1 pre.length s = .ok c2 ∧
      run specs c2 (pre.length + 1) post = .ok cfg := by
  unfold build at h
  rw [run_append] at h
  cases h1 : steps specs empty 0 pre with
  | error e => rw [h1] at h; cases h
  | ok c1 =>
    rw [h1] at h
    simp only [run, Nat.zero_add] at h
    cases h2 : step specs c1 pre.length s with
    | error e => rw [h2] at h; cases h
    | ok c2 => rw [h2] at h; exact ⟨c1, c2, rfl, h2, h⟩

theorem build_reject (specs : List Spec) (pre post : List Stmt) (s : Stmt) (c : Cfg) (e : DiagClass)
    (hpre : steps specs empty 0 pre = .ok c) (hs : step specs c pre.length s = .error e) :
    build specs (pre ++ s :: post) = .error (e, pre.length) := by
  unfold build
  rw [run_append, hpre]
  simp [run, hs]

theorem validate_ok {c c' : Cfg} {n : Nat} (h : validate c n = .ok c') :
    c' = c ∧ c.aliases.find? (aliasBad c.nodes) = none ∧ expand c.nodes ≠ [] := by
  unfold validate at h
  cases hf : c.aliases.find? (aliasBad c.nodes) with
  | some a => rw [hf] at h; cases h
  | none =>
    rw [hf] at h
    simp only at h
    split at h
    · cases h
    · rename_i hne
      cases h
      exact ⟨rfl, rfl, by simpa using hne⟩

/-- an accepted configuration is what the lines built, and `_validate_config` found nothing -/
structure Accepted (specs : List Spec) (stmts : List Stmt) (cfg : Cfg) : Prop where
  steps : steps specs empty 0 stmts = .ok cfg
  aliases : cfg.aliases.find? (aliasBad cfg.nodes) = none
  nodes : expand cfg.nodes ≠ []

theorem build_ok {specs : List Spec} {stmts : List Stmt} {cfg : Cfg} (h : build specs stmts = .ok cfg) : Accepted specs stmts cfg := by
  rw [build_eq_steps] at h
  cases hs : steps specs empty 0 stmts with
  | error e => rw [hs] at h; cases h
  | ok c =>
    rw [hs] at h
    obtain ⟨rfl, h2, h3⟩ := validate_ok h
    exact ⟨hs, h2, h3⟩

theorem run_ok {specs : List Spec} {stmts : List Stmt} {c cfg : Cfg} {i : Nat} (h : run specs c i stmts = .ok cfg) :
    steps specs c i stmts = .ok cfg := by
  rw [run_eq_steps] at h
  cases hs : steps specs c i stmts with
  | error e => rw [hs] at h; cases h
  | ok c1 =>
    rw [hs] at h
    obtain ⟨rfl, _, _⟩ := validate_ok h
    rfl

/-! ### what an accepted call did: one inversion per function -/

theorem mapLine_none_cons {d d' : Dev} {n : Name} {ns : List Name} (h : mapLine d (n :: ns) none = .ok d') :
    ∃ d1, (if d.hard then mapNext d n else mapOne d n n) = .ok d1 ∧ mapLine d1 ns none = .ok d' := by
  simp only [mapLine] at h
  split at h
  · cases h
  · rename_i d1 h1; exact ⟨d1, h1, h⟩

theorem mapLine_some_cons {d d' : Dev} {n p : Name} {ns ps : List Name} (h : mapLine d (n :: ns) (some (p :: ps)) = .ok d') :
    ∃ d1, mapOne d n p = .ok d1 ∧ mapLine d1 ns (some ps) = .ok d' := by
  simp only [mapLine] at h
  split at h
  · cases h
  · rename_i d1 h1; exact ⟨d1, h1, h⟩

theorem mapLine_nil {d d' : Dev} {plugs : Option (List Name)} (h : mapLine d [] plugs = .ok d') : d' = d := by
  cases plugs with
  | none => simp only [mapLine] at h; cases h; rfl
  | some ps =>
    cases ps with
    | nil => simp only [mapLine] at h; cases h; rfl
    | cons _ _ => simp [mapLine] at h

theorem nodeOnDev_ok {nodestr : List Char} {plugstr : Option (List Char)} {d d' : Dev} (h : nodeOnDev nodestr plugstr d = .ok d') :
    ∃ nhl, create nodestr = .ok nhl ∧
      ((plugstr = none ∧ mapLine d (expand nhl) none = .ok d') ∨
       (∃ ps phl, plugstr = some ps ∧ create ps = .ok phl ∧ mapLine d (expand nhl) (some (expand phl)) = .ok d')) := by
  unfold nodeOnDev at h
  cases hn : create nodestr with
  | error e => rw [hn] at h; cases h
  | ok nhl =>
    rw [hn] at h
    simp only at h
    cases plugstr with
    | none => exact ⟨nhl, rfl, Or.inl ⟨rfl, h⟩⟩
    | some ps =>
      simp only at h
      cases hp : create ps with
      | error e => rw [hp] at h; cases h
      | ok phl => rw [hp] at h; exact ⟨nhl, rfl, Or.inr ⟨ps, phl, rfl, hp, h⟩⟩

theorem updDev_ok {name : Name} {f : Dev → Except DiagClass Dev} : ∀ {ds ds' : List Dev}, updDev name f ds = .ok ds' →
    ∃ pre d d' post, ds = pre ++ d :: post ∧ ds' = pre ++ d' :: post ∧ (∀ x ∈ pre, x.name ≠ name) ∧ d.name = name ∧ f d = .ok d'
  | [], _, h => by simp [updDev] at h
  | x :: xs, ds', h => by
    simp only [updDev] at h
    by_cases hx : x.name = name
    · simp only [hx, if_true] at h
      cases hf : f x with
      | error e => rw [hf] at h; cases h
      | ok d' =>
        rw [hf] at h; cases h
        exact ⟨[], x, d', xs, rfl, rfl, by simp, hx, hf⟩
    · simp only [hx, if_false] at h
      cases hr : updDev name f xs with
      | error e => rw [hr] at h; cases h
      | ok r =>
        rw [hr] at h; cases h
        obtain ⟨pre, d, d', post, e1, e2, hpre, hd, hf⟩ := updDev_ok hr
        refine ⟨x :: pre, d, d', post, by simp [e1], by simp [e2], ?_, hd, hf⟩
        intro y hy
        rcases List.mem_cons.mp hy with rfl | hy
        · exact hx
        · exact hpre y hy

theorem nodeExists_iff {known : Hostlist} (hb : Built known) (n : Name) : nodeExists known n = true ↔ n ∈ expand known := by
  unfold nodeExists
  constructor
  · intro h
    obtain ⟨i, hi⟩ := Option.isSome_iff_exists.mp h
    exact find_mem known n i hi
  · intro h; simp [find_built known n hb h]

theorem expand_push_built {known : Hostlist} (hb : Built known) (n : Name) : expand (pushHost known n) = expand known ++ [n] :=
  expand_pushHost' known n hb.inv.1.toHWF

theorem addNodes_spec : ∀ (ns : List Name) (known known' : Hostlist), Built known → addNodes known ns = .ok known' →
    Built known' ∧ expand known' = expand known ++ ns ∧ (∀ n ∈ ns, n ∉ expand known) ∧ ns.Nodup
  | [], known, known', hb, h => by simp only [addNodes] at h; cases h; simp [hb]
  | n :: ns, known, known', hb, h => by
    simp only [addNodes] at h
    split at h
    · cases h
    · rename_i hn
      have hnot : n ∉ expand known := fun hmem => hn ((nodeExists_iff hb n).mpr hmem)
      obtain ⟨h0, h1, h2, h3⟩ := addNodes_spec ns (pushHost known n) known' (Built.push known n hb) h
      have hex := expand_push_built hb n
      refine ⟨h0, by rw [h1, hex]; simp, ?_, ?_⟩
      · intro x hx
        rcases List.mem_cons.mp hx with rfl | hx
        · exact hnot
        · intro hk; exact h2 x hx (by rw [hex]; simp [hk])
      · rw [List.nodup_cons]
        exact ⟨fun hmem => h2 n hmem (by rw [hex]; simp), h3⟩

theorem makeNode_ok {c c' : Cfg} {nodestr : List Char} {dev : Name} {plugstr : Option (List Char)}
    (h : makeNode c nodestr dev plugstr = .ok c') :
    ∃ devs nhl nodes, updDev dev (nodeOnDev nodestr plugstr) c.devs = .ok devs ∧ create nodestr = .ok nhl ∧
      addNodes c.nodes (expand nhl) = .ok nodes ∧ c' = { c with devs := devs, nodes := nodes } := by
  unfold makeNode at h
  cases h1 : updDev dev (nodeOnDev nodestr plugstr) c.devs with
  | error e => rw [h1] at h; cases h
  | ok devs =>
    rw [h1] at h
    simp only at h
    cases h2 : create nodestr with
    | error e => rw [h2] at h; cases h
    | ok nhl =>
      rw [h2] at h
      simp only at h
      cases h3 : addNodes c.nodes (expand nhl) with
      | error e => rw [h3] at h; cases h
      | ok nodes => rw [h3] at h; cases h; exact ⟨devs, nhl, nodes, rfl, rfl, h3, rfl⟩

theorem makeDevice_ok {specs : List Spec} {c c' : Cfg} {name spec : Name} (h : makeDevice specs c name spec = .ok c') :
    ∃ s, findSpec specs spec = some s ∧
      c' = { c with devs := c.devs ++ [{ name, spec, hard := s.plugs.isSome, plugs := newPlugs s }] } := by
  unfold makeDevice at h
  cases hs : findSpec specs spec with
  | none => rw [hs] at h; cases h
  | some s => rw [hs] at h; cases h; exact ⟨s, rfl, rfl⟩

theorem makeAlias_ok {c c' : Cfg} {i : Nat} {name : Name} {hosts : List Char} (h : makeAlias c i name hosts = .ok c') :
    ∃ hl, create hosts = .ok hl ∧ (∀ a ∈ c.aliases, a.name ≠ name) ∧ c' = { c with aliases := ⟨name, hl, i⟩ :: c.aliases } := by
  unfold makeAlias at h
  split at h
  · cases h
  · rename_i hany
    cases hc : create hosts with
    | error e => rw [hc] at h; cases h
    | ok hl =>
      rw [hc] at h; cases h
      refine ⟨hl, rfl, ?_, rfl⟩
      intro a ha hn
      apply hany
      simp only [List.any_eq_true, decide_eq_true_eq]
      exact ⟨a, ha, hn⟩

theorem validate_alias_find {c : Cfg} (hf : c.aliases.find? (aliasBad c.nodes) = none) :
    ∀ a ∈ c.aliases, ∀ h ∈ expand a.hl, (find c.nodes h).isSome = true := by
  intro a ha h hh
  have hb := List.find?_eq_none.mp hf a ha
  simp only [aliasBad, List.any_eq_true, Bool.not_eq_true', not_exists, not_and, Bool.not_eq_false] at hb
  exact hb h hh

theorem validate_alias {c : Cfg} (hf : c.aliases.find? (aliasBad c.nodes) = none) :
    ∀ a ∈ c.aliases, ∀ h ∈ expand a.hl, h ∈ expand c.nodes := by
  intro a ha h hh
  obtain ⟨i, hi⟩ := Option.isSome_iff_exists.mp (validate_alias_find hf a ha h hh)
  exact find_mem c.nodes h i hi

/-! ### a step of `pluglist_map` in normal form -/

theorem setFirst_append (name node : Name) {p : Plug} (hp : p.name = name) (post : List Plug) : ∀ {pre : List Plug},
    (∀ q ∈ pre, q.name ≠ name) → setFirst name node (pre ++ p :: post) = pre ++ { p with node := some node } :: post
  | [], _ => by simp [setFirst, hp]
  | q :: pre, h => by
    have hq : q.name ≠ name := h q (by simp)
    simp only [List.cons_append, setFirst, hq, if_false]
    rw [setFirst_append name node hp post fun x hx => h x (by simp [hx])]

theorem setNextFree_spec {n : Name} : ∀ {ps ps' : List Plug}, setNextFree n ps = some ps' →
    ∃ pre p post, ps = pre ++ p :: post ∧ (∀ q ∈ pre, q.node ≠ none) ∧ p.node = none ∧
      ps' = pre ++ { p with node := some n } :: post
  | [], _, h => by simp [setNextFree] at h
  | p :: ps, ps', h => by
    simp only [setNextFree] at h
    split at h
    · rename_i hfree
      cases h
      exact ⟨[], p, ps, rfl, nofun, by simpa using hfree, rfl⟩
    · rename_i hfree
      cases hr : setNextFree n ps with
      | none => rw [hr] at h; cases h
      | some r =>
        rw [hr] at h
        simp only [Option.map_some, Option.some.injEq] at h
        subst h
        obtain ⟨pre, q, post, rfl, hpre, hq, rfl⟩ := setNextFree_spec hr
        exact ⟨p :: pre, q, post, rfl, fun x hx => (List.mem_cons.mp hx).elim (fun e => e ▸ by simpa using hfree) (hpre x), hq, rfl⟩

theorem setNextFree_none (node : Name) : ∀ ps : List Plug, (ps.filter (·.node.isNone)) = [] → setNextFree node ps = none := by
  intro ps h
  cases hs : setNextFree node ps with
  | none => rfl
  | some ps' =>
    obtain ⟨pre, p, post, rfl, _, hp, _⟩ := setNextFree_spec hs
    simp [List.filter_append, hp] at h

theorem mapOne_cases {d d' : Dev} {node name : Name} (h : mapOne d node name = .ok d') :
    (d.hard = false ∧ (∀ q ∈ d.plugs, q.name ≠ name) ∧ d' = { d with plugs := ⟨name, some node⟩ :: d.plugs }) ∨
    ∃ pre p post, d.plugs = pre ++ p :: post ∧ p.name = name ∧ p.node = none ∧
      d' = { d with plugs := pre ++ { p with node := some node } :: post } := by
  unfold mapOne at h
  cases hf : d.plugs.find? (·.name = name) with
  | none =>
    rw [hf] at h
    simp only at h
    split at h
    · cases h
    · rename_i hh; cases h
      exact .inl ⟨by simpa using hh, fun q hq => by simpa using List.find?_eq_none.mp hf q hq, rfl⟩
  | some p =>
    rw [hf] at h
    simp only at h
    split at h
    · cases h
    · rename_i hn; cases h
      obtain ⟨hp, pre, post, e, hpre⟩ := List.find?_eq_some_iff_append.mp hf
      have hp : p.name = name := by simpa using hp
      refine .inr ⟨pre, p, post, e, hp, by simpa using hn, ?_⟩
      rw [e, setFirst_append name node hp post fun q hq => by simpa using hpre q hq]

theorem mapNext_cases {d d' : Dev} {node : Name} (h : mapNext d node = .ok d') :
    ∃ pre p post, d.plugs = pre ++ p :: post ∧ (∀ q ∈ pre, q.node ≠ none) ∧ p.node = none ∧
      d' = { d with plugs := pre ++ { p with node := some node } :: post } := by
  unfold mapNext at h
  cases hs : setNextFree node d.plugs with
  | none => rw [hs] at h; cases h
  | some ps =>
    rw [hs] at h; cases h
    obtain ⟨pre, p, post, e, hpre, hp, rfl⟩ := setNextFree_spec hs
    exact ⟨pre, p, post, e, hpre, hp, rfl⟩

/-- what `_pluglist_map_one` and `_pluglist_map_next` have in common: the node sits on a new plug in front (free plug names
    only, no plug of that name yet) or on a plug of the list that was free -/
inductive Assign (node : Name) (d : Dev) : Dev → Prop
  | new (name : Name) : d.hard = false → (∀ q ∈ d.plugs, q.name ≠ name) →
      Assign node d { d with plugs := ⟨name, some node⟩ :: d.plugs }
  | on (pre : List Plug) (p : Plug) (post : List Plug) : d.plugs = pre ++ p :: post → p.node = none →
      Assign node d { d with plugs := pre ++ { p with node := some node } :: post }

theorem mapOne_assign {d d' : Dev} {n p : Name} (h : mapOne d n p = .ok d') : Assign n d d' := by
  rcases mapOne_cases h with ⟨hh, hq, rfl⟩ | ⟨pre, q, post, e, _, hn, rfl⟩
  · exact .new p hh hq
  · exact .on pre q post e hn

theorem mapNext_assign {d d' : Dev} {n : Name} (h : mapNext d n = .ok d') : Assign n d d' := by
  obtain ⟨pre, q, post, e, _, hn, rfl⟩ := mapNext_cases h
  exact .on pre q post e hn

theorem mapLine_cons {d d' : Dev} {n : Name} {ns : List Name} {plugs : Option (List Name)}
    (h : mapLine d (n :: ns) plugs = .ok d') : ∃ d1 plugs', Assign n d d1 ∧ mapLine d1 ns plugs' = .ok d' := by
  cases plugs with
  | none =>
    obtain ⟨d1, h1, h2⟩ := mapLine_none_cons h
    refine ⟨d1, none, ?_, h2⟩
    by_cases hh : d.hard = true
    · simp only [hh, if_true] at h1; exact mapNext_assign h1
    · simp only [hh] at h1; exact mapOne_assign h1
  | some ps =>
    cases ps with
    | nil => simp [mapLine] at h
    | cons p ps =>
      obtain ⟨d1, h1, h2⟩ := mapLine_some_cons h
      exact ⟨d1, some ps, mapOne_assign h1, h2⟩

theorem Assign.count {n : Name} {d d' : Dev} (h : Assign n d d') (m : Name) :
    mappedIn d'.plugs m = mappedIn d.plugs m + (if n = m then 1 else 0) := by
  cases h with
  | new name _ _ => simp only [mappedIn, List.countP_cons]; by_cases hm : n = m <;> simp [hm]
  | on pre p post e hn =>
    simp only [mappedIn, e, List.countP_append, List.countP_cons, hn]
    by_cases hm : n = m <;> simp [hm, Nat.add_assoc]

/-- the later device is the earlier one with more nodes assigned: same name, specification and kind, and every
    (plug, node) pair of the earlier one is still there -/
structure Grows (d d' : Dev) : Prop where
  name : d'.name = d.name
  spec : d'.spec = d.spec
  hard : d'.hard = d.hard
  plugs : ∀ p n, (⟨p, some n⟩ : Plug) ∈ d.plugs → (⟨p, some n⟩ : Plug) ∈ d'.plugs

theorem Grows.refl (d : Dev) : Grows d d := ⟨rfl, rfl, rfl, fun _ _ h => h⟩

theorem Grows.trans {a b c : Dev} (h1 : Grows a b) (h2 : Grows b c) : Grows a c :=
  ⟨h2.name.trans h1.name, h2.spec.trans h1.spec, h2.hard.trans h1.hard, fun p n h => h2.plugs p n (h1.plugs p n h)⟩

theorem Assign.grows {n : Name} {d d' : Dev} (h : Assign n d d') : Grows d d' := by
  cases h with
  | new name _ _ => exact ⟨rfl, rfl, rfl, fun _ _ hm => List.mem_cons_of_mem _ hm⟩
  | on pre p post e hn =>
    refine ⟨rfl, rfl, rfl, fun a b hm => ?_⟩
    rw [e] at hm
    rcases List.mem_append.mp hm with hm | hm
    · simp [hm]
    · rcases List.mem_cons.mp hm with rfl | hm
      · cases hn   -- a plug that carries a node is not the free one
      · simp [hm]

theorem Assign.hard_names {n : Name} {d d' : Dev} (h : Assign n d d') (hh : d.hard = true) : plugNames d' = plugNames d := by
  cases h with
  | new name hfree _ => rw [hh] at hfree; cases hfree
  | on pre p post e _ => simp [plugNames, e]

/-- the device follows its specification: hard-wired iff the specification has a plug list, and then the plug names
    are that list in order -/
def FollowsSpec (specs : List Spec) (d : Dev) : Prop :=
  ∃ s, findSpec specs d.spec = some s ∧ d.hard = s.plugs.isSome ∧ ∀ l, s.plugs = some l → plugNames d = l

theorem Assign.followsSpec {n : Name} {d d' : Dev} (h : Assign n d d') (specs : List Spec) (hd : FollowsSpec specs d) :
    FollowsSpec specs d' := by
  obtain ⟨s, hs, hh, hl⟩ := hd
  cases h with
  | new name hfree _ => exact ⟨s, hs, hh, fun l hsl => by rw [hfree, hsl] at hh; cases hh⟩
  | on pre p post e _ => exact ⟨s, hs, hh, fun l hsl => by simpa [plugNames, e] using hl l hsl⟩

/-- no two plugs of the device share a name -/
def DistinctPlugs (d : Dev) : Prop := (plugNames d).Nodup

theorem Assign.distinctPlugs {n : Name} {d d' : Dev} (h : Assign n d d') (hd : DistinctPlugs d) : DistinctPlugs d' := by
  cases h with
  | new name _ hq =>
    unfold DistinctPlugs plugNames at hd ⊢
    rw [List.map_cons, List.nodup_cons]
    refine ⟨fun hm => ?_, hd⟩
    obtain ⟨q, hq', hqn⟩ := List.mem_map.mp hm
    exact hq q hq' hqn
  | on pre p post e _ => simpa [DistinctPlugs, plugNames, e] using hd

theorem mapOne_places {d d' : Dev} {n p : Name} (h : mapOne d n p = .ok d') : (⟨p, some n⟩ : Plug) ∈ d'.plugs := by
  rcases mapOne_cases h with ⟨_, _, rfl⟩ | ⟨pre, q, post, _, rfl, _, rfl⟩ <;> simp

theorem mapNext_places {d d' : Dev} {n : Name} (h : mapNext d n = .ok d') :
    ∃ p, freeNames d = p :: freeNames d' ∧ (⟨p, some n⟩ : Plug) ∈ d'.plugs := by
  obtain ⟨pre, q, post, e, hpre, hn, rfl⟩ := mapNext_cases h
  have hf : pre.filter (·.node.isNone) = [] := List.filter_eq_nil_iff.mpr fun x hx => by simpa using hpre x hx
  exact ⟨q.name, by simp [freeNames, e, List.filter_append, hf, hn], by simp⟩

/-! ### a whole `pluglist_map`: what every assignment keeps, it keeps; where the nodes of one line go -/

/-- a property of devices that every assignment keeps is kept by `pluglist_map` -/
theorem mapLine_keeps (P : Dev → Prop) (hA : ∀ n d d', P d → Assign n d d' → P d') :
    ∀ (nodes : List Name) (plugs : Option (List Name)) (d d' : Dev), P d → mapLine d nodes plugs = .ok d' → P d'
  | [], _, d, d', hp, h => mapLine_nil h ▸ hp
  | n :: ns, _, d, d', hp, h => by
    obtain ⟨d1, plugs', ha, h2⟩ := mapLine_cons h
    exact mapLine_keeps P hA ns plugs' d1 d' (hA n d d1 hp ha) h2

theorem nodeOnDev_keeps (P : Dev → Prop) (hA : ∀ n d d', P d → Assign n d d' → P d') {nodestr : List Char}
    {plugstr : Option (List Char)} {d d' : Dev} (hp : P d) (h : nodeOnDev nodestr plugstr d = .ok d') : P d' := by
  obtain ⟨nhl, _, hc⟩ := nodeOnDev_ok h
  rcases hc with ⟨_, hl⟩ | ⟨ps, phl, _, _, hl⟩
  · exact mapLine_keeps P hA _ _ d d' hp hl
  · exact mapLine_keeps P hA _ _ d d' hp hl

theorem mapLine_Grows {d d' : Dev} {nodes : List Name} {plugs : Option (List Name)} (h : mapLine d nodes plugs = .ok d') :
    Grows d d' :=
  mapLine_keeps (Grows d) (fun _ _ _ hk h1 => hk.trans h1.grows) nodes plugs d d' (Grows.refl d) h

theorem nodeOnDev_Grows {nodestr : List Char} {plugstr : Option (List Char)} {d d' : Dev} (h : nodeOnDev nodestr plugstr d = .ok d') :
    Grows d d' :=
  nodeOnDev_keeps (Grows d) (fun _ _ _ hk h1 => hk.trans h1.grows) (Grows.refl d) h

theorem mapLine_hard_names {d d' : Dev} {nodes : List Name} {plugs : Option (List Name)} (hh : d.hard = true)
    (h : mapLine d nodes plugs = .ok d') : plugNames d' = plugNames d := by
  have := mapLine_keeps (fun x => x.hard = true ∧ plugNames x = plugNames d)
    (fun _ _ _ ha h1 => ⟨h1.grows.hard.trans ha.1, (h1.hard_names ha.1).trans ha.2⟩) nodes plugs d d' ⟨hh, rfl⟩ h
  exact this.2

theorem count_cons_if (n m : Name) (ns : List Name) : (n :: ns).count m = (if n = m then 1 else 0) + ns.count m := by
  rw [List.count_cons, Nat.add_comm]
  by_cases h : n = m <;> simp [h]

theorem mapLine_count (m : Name) : ∀ (nodes : List Name) (plugs : Option (List Name)) (d d' : Dev),
    mapLine d nodes plugs = .ok d' → mappedIn d'.plugs m = mappedIn d.plugs m + nodes.count m
  | [], _, d, d', h => by rw [mapLine_nil h]; simp
  | n :: ns, _, d, d', h => by
    obtain ⟨d1, plugs', ha, h2⟩ := mapLine_cons h
    rw [mapLine_count m ns plugs' d1 d' h2, ha.count m, count_cons_if, Nat.add_assoc]

theorem nodeOnDev_count {nodestr : List Char} {plugstr : Option (List Char)} {d d' : Dev} {nhl : Hostlist}
    (hn : create nodestr = .ok nhl) (h : nodeOnDev nodestr plugstr d = .ok d') (m : Name) :
    mappedIn d'.plugs m = mappedIn d.plugs m + (expand nhl).count m := by
  obtain ⟨nhl', hn', hc⟩ := nodeOnDev_ok h
  rw [hn] at hn'; cases hn'
  rcases hc with ⟨_, hl⟩ | ⟨ps, phl, _, _, hl⟩
  · exact mapLine_count m _ _ d d' hl
  · exact mapLine_count m _ _ d d' hl

theorem mapLine_pairs : ∀ (ns ps : List Name) (d d' : Dev), mapLine d ns (some ps) = .ok d' →
    ns.length = ps.length ∧ ∀ (i : Nat) (n p : Name), ns[i]? = some n → ps[i]? = some p → (⟨p, some n⟩ : Plug) ∈ d'.plugs
  | [], [], d, d', h => by simp
  | [], _ :: _, d, d', h => by simp [mapLine] at h
  | _ :: _, [], d, d', h => by simp [mapLine] at h
  | n :: ns, p :: ps, d, d', h => by
    obtain ⟨d1, h1, h2⟩ := mapLine_some_cons h
    obtain ⟨hl, hi⟩ := mapLine_pairs ns ps d1 d' h2
    refine ⟨by simp [hl], ?_⟩
    intro i n' p' hn hp
    cases i with
    | zero =>
      simp only [List.getElem?_cons_zero, Option.some.injEq] at hn hp
      subst hn; subst hp
      exact (mapLine_Grows h2).plugs _ _ (mapOne_places h1)
    | succ j =>
      simp only [List.getElem?_cons_succ] at hn hp
      exact hi j n' p' hn hp

theorem mapLine_free : ∀ (ns : List Name) (d d' : Dev), d.hard = false → mapLine d ns none = .ok d' →
    ∀ n ∈ ns, (⟨n, some n⟩ : Plug) ∈ d'.plugs
  | [], d, d', _, h => by simp
  | n :: ns, d, d', hh, h => by
    obtain ⟨d1, h1, h2⟩ := mapLine_none_cons h
    simp only [hh, Bool.false_eq_true, if_false] at h1
    have hk1 := (mapOne_assign h1).grows
    intro x hx
    rcases List.mem_cons.mp hx with rfl | hx
    · exact (mapLine_Grows h2).plugs _ _ (mapOne_places h1)
    · exact mapLine_free ns d1 d' (hk1.hard.trans hh) h2 x hx

theorem mapLine_hard : ∀ (ns : List Name) (d d' : Dev), d.hard = true → mapLine d ns none = .ok d' →
    ∀ (i : Nat) (n : Name), ns[i]? = some n → ∃ p, (freeNames d)[i]? = some p ∧ (⟨p, some n⟩ : Plug) ∈ d'.plugs
  | [], d, d', _, h => by simp
  | n :: ns, d, d', hh, h => by
    obtain ⟨d1, h1, h2⟩ := mapLine_none_cons h
    simp only [hh, if_true] at h1
    obtain ⟨p, e1, hm⟩ := mapNext_places h1
    intro i x hx
    cases i with
    | zero =>
      simp only [List.getElem?_cons_zero, Option.some.injEq] at hx
      subst hx
      exact ⟨p, by rw [e1]; rfl, (mapLine_Grows h2).plugs _ _ hm⟩
    | succ j =>
      simp only [List.getElem?_cons_succ] at hx
      obtain ⟨p', hp', hm'⟩ := mapLine_hard ns d1 d' ((mapNext_assign h1).grows.hard.trans hh) h2 j x hx
      exact ⟨p', by rw [e1, List.getElem?_cons_succ]; exact hp', hm'⟩

/-! ### invariants of accepted prefixes, by `steps_induct` -/

theorem mapped_append (a b : List Dev) (m : Name) : mapped (a ++ b) m = mapped a m + mapped b m := by
  simp [mapped, List.sum_append]

theorem mapped_cons (d : Dev) (ds : List Dev) (m : Name) : mapped (d :: ds) m = mappedIn d.plugs m + mapped ds m := by
  simp [mapped]

theorem mappedIn_newPlugs (s : Spec) (m : Name) : mappedIn (newPlugs s) m = 0 := by
  unfold mappedIn newPlugs
  apply List.countP_eq_zero.mpr
  intro p hp
  simp only [List.mem_map] at hp
  obtain ⟨n, _, rfl⟩ := hp
  simp

/-- the node list is built by pushes, holds no name twice, and a name is carried by exactly one plug if it is in the
    node list and by none otherwise -/
structure Inv (c : Cfg) : Prop where
  built : Built c.nodes
  nodup : (expand c.nodes).Nodup
  count : ∀ m, mapped c.devs m = if m ∈ expand c.nodes then 1 else 0

theorem Inv_empty : Inv empty := by
  refine ⟨Built.nil, by simp [empty, expand_nil], ?_⟩
  intro m; simp [empty, mapped, expand_nil]

/-- an accepted `node` line raises `mapped devs m` by `count m` of its names (`nodeOnDev_count`), and `conf_addnodes` accepted them
    only as fresh and distinct names (`addNodes_spec`): `count m` is 1 for each of them and 0 for every other name.  The other two
    kinds of line assign no node. -/
theorem step_Inv {specs : List Spec} {c c' : Cfg} {i : Nat} {s : Stmt} (hc : Inv c) (h : step specs c i s = .ok c') : Inv c' := by
  cases s with
  | device name spec =>
    obtain ⟨s, _, rfl⟩ := makeDevice_ok h
    refine ⟨hc.built, hc.nodup, ?_⟩
    intro m
    have := hc.count m
    simp only [mapped_append, mapped_cons, mappedIn_newPlugs] at this ⊢
    simpa [mapped] using this
  | alias name hosts =>
    obtain ⟨hl, _, _, rfl⟩ := makeAlias_ok h
    exact ⟨hc.built, hc.nodup, hc.count⟩
  | node nodestr dev plugstr =>
    obtain ⟨devs, nhl, nodes, hu, hn, ha, rfl⟩ := makeNode_ok h
    obtain ⟨hb, hex, hnew, hnd⟩ := addNodes_spec _ _ _ hc.built ha
    obtain ⟨pre, d, d', post, e1, e2, _, _, hf⟩ := updDev_ok hu
    refine ⟨hb, ?_, ?_⟩
    · show (expand nodes).Nodup
      rw [hex, List.nodup_append]
      exact ⟨hc.nodup, hnd, fun a ha b hb hab => hnew b hb (hab ▸ ha)⟩
    · intro m
      show mapped devs m = if m ∈ expand nodes then 1 else 0
      have hold := hc.count m
      have hline := nodeOnDev_count hn hf m
      rw [e1] at hold
      rw [e2, hex]
      simp only [mapped_append, mapped_cons, List.mem_append] at hold ⊢
      have hcount : (expand nhl).count m = if m ∈ expand nhl then 1 else 0 := hnd.count
      by_cases h1 : m ∈ expand c.nodes
      · have h2 : m ∉ expand nhl := fun hm => hnew m hm h1
        simp only [h1, h2, if_true, if_false, true_or] at hold hcount ⊢
        omega
      · by_cases h2 : m ∈ expand nhl
        · simp only [h1, h2, if_true, if_false, or_true] at hold hcount ⊢
          omega
        · simp only [h1, h2, if_false, or_self] at hold hcount ⊢
          omega

theorem steps_Inv {specs : List Spec} (stmts : List Stmt) (c c' : Cfg) (i : Nat) (hc : Inv c) (h : steps specs c i stmts = .ok c') :
    Inv c' :=
  steps_induct (motive := fun c _ _ c' => Inv c → Inv c') (fun _ _ hc => hc) (fun hs ih hc => ih (step_Inv hc hs)) h hc

theorem build_Inv {specs : List Spec} {stmts : List Stmt} {cfg : Cfg} (h : build specs stmts = .ok cfg) : Inv cfg :=
  steps_Inv stmts empty cfg 0 Inv_empty (build_ok h).steps

/-- a property of devices that every assignment keeps is kept by every configuration line, if new devices have it -/
theorem step_keeps (specs : List Spec) (P : Dev → Prop) (hA : ∀ n d d', P d → Assign n d d' → P d')
    (hNew : ∀ name spec s, findSpec specs spec = some s → P { name, spec, hard := s.plugs.isSome, plugs := newPlugs s })
    {c c' : Cfg} {i : Nat} {s : Stmt} (hc : ∀ d ∈ c.devs, P d) (h : step specs c i s = .ok c') : ∀ d ∈ c'.devs, P d := by
  cases s with
  | device name spec =>
    obtain ⟨s, hs, rfl⟩ := makeDevice_ok h
    intro d hd
    simp only [List.mem_append, List.mem_singleton] at hd
    rcases hd with hd | rfl
    · exact hc d hd
    · exact hNew name spec s hs
  | alias name hosts =>
    obtain ⟨hl, _, _, rfl⟩ := makeAlias_ok h
    exact hc
  | node nodestr dev plugstr =>
    obtain ⟨devs, nhl, nodes, hu, _, _, rfl⟩ := makeNode_ok h
    obtain ⟨pre, d0, d1, post, e1, e2, _, _, hf⟩ := updDev_ok hu
    intro d hd
    simp only at hd
    rw [e2] at hd
    simp only [List.mem_append, List.mem_cons] at hd
    rcases hd with hd | rfl | hd
    · exact hc d (by rw [e1]; simp [hd])
    · exact nodeOnDev_keeps P hA (hc d0 (by rw [e1]; simp)) hf
    · exact hc d (by rw [e1]; simp [hd])

theorem steps_keeps (specs : List Spec) (P : Dev → Prop) (hA : ∀ n d d', P d → Assign n d d' → P d')
    (hNew : ∀ name spec s, findSpec specs spec = some s → P { name, spec, hard := s.plugs.isSome, plugs := newPlugs s })
    (stmts : List Stmt) (c c' : Cfg) (i : Nat) (hc : ∀ d ∈ c.devs, P d) (h : steps specs c i stmts = .ok c') : ∀ d ∈ c'.devs, P d :=
  steps_induct (motive := fun c _ _ c' => (∀ d ∈ c.devs, P d) → ∀ d ∈ c'.devs, P d) (fun _ _ hc => hc)
    (fun hs ih hc => ih (step_keeps specs P hA hNew hc hs)) h hc

theorem plugNames_newPlugs (s : Spec) : (newPlugs s).map (·.name) = s.plugs.getD [] := by
  unfold newPlugs
  simp [List.map_map, Function.comp_def]

theorem steps_FollowsSpec (specs : List Spec) (stmts : List Stmt) (cfg : Cfg) (h : steps specs empty 0 stmts = .ok cfg) :
    ∀ d ∈ cfg.devs, FollowsSpec specs d := by
  refine steps_keeps specs (FollowsSpec specs) (fun _ _ _ hd h => h.followsSpec specs hd) ?_ stmts empty cfg 0 ?_ h
  · intro name spec s hs
    refine ⟨s, hs, rfl, ?_⟩
    intro l hl
    simp [plugNames, plugNames_newPlugs, hl]
  · intro d hd; simp [empty] at hd

theorem steps_DistinctPlugs (specs : List Spec) (hspecs : ∀ s ∈ specs, ∀ l, s.plugs = some l → l.Nodup)
    (stmts : List Stmt) (cfg : Cfg) (h : steps specs empty 0 stmts = .ok cfg) : ∀ d ∈ cfg.devs, DistinctPlugs d := by
  refine steps_keeps specs DistinctPlugs (fun _ _ _ hd h => h.distinctPlugs hd) ?_ stmts empty cfg 0 ?_ h
  · intro name spec s hs
    have hmem : s ∈ specs := List.mem_of_find?_eq_some hs
    unfold DistinctPlugs plugNames
    simp only [plugNames_newPlugs]
    cases hp : s.plugs with
    | none => simp
    | some l => simpa using hspecs s hmem l hp
  · intro d hd; simp [empty] at hd

theorem steps_nodes (specs : List Spec) (stmts : List Stmt) (c c' : Cfg) (i : Nat) (hb : Built c.nodes)
    (h : steps specs c i stmts = .ok c') : expand c'.nodes = expand c.nodes ++ nodesOf stmts := by
  refine steps_induct (motive := fun c _ stmts c' => Built c.nodes → expand c'.nodes = expand c.nodes ++ nodesOf stmts)
    (fun _ _ _ => by simp [nodesOf]) ?_ h hb
  intro c i s rest c1 c' hs ih hb
  cases s with
  | device name spec => obtain ⟨s, _, rfl⟩ := makeDevice_ok hs; simpa [nodesOf] using ih hb
  | alias name hosts => obtain ⟨hl, _, _, rfl⟩ := makeAlias_ok hs; simpa [nodesOf] using ih hb
  | node nodestr dev plugstr =>
    obtain ⟨devs, nhl, nodes, _, hn, ha, rfl⟩ := makeNode_ok hs
    obtain ⟨hb', hex, _, _⟩ := addNodes_spec _ _ _ hb ha
    rw [ih hb', hex]
    simp [nodesOf, hn]

/-- every alias of the configuration comes from an alias line: its line number, name and host string -/
def AliasFrom (stmts : List Stmt) (a : Alias) : Prop :=
  ∃ hosts, stmts[a.stmt]? = some (.alias a.name hosts) ∧ create hosts = .ok a.hl

theorem step_aliases {specs : List Spec} {c c' : Cfg} {i : Nat} {s : Stmt} (h : step specs c i s = .ok c') :
    c'.aliases = c.aliases ∨ ∃ name hosts hl, s = .alias name hosts ∧ create hosts = .ok hl ∧
      (∀ a ∈ c.aliases, a.name ≠ name) ∧ c'.aliases = ⟨name, hl, i⟩ :: c.aliases := by
  cases s with
  | device name spec => obtain ⟨s, _, rfl⟩ := makeDevice_ok h; exact .inl rfl
  | node nodestr dev plugstr => obtain ⟨devs, nhl, nodes, _, _, _, rfl⟩ := makeNode_ok h; exact .inl rfl
  | alias name hosts => obtain ⟨hl, hc, hne, rfl⟩ := makeAlias_ok h; exact .inr ⟨name, hosts, hl, rfl, hc, hne, rfl⟩

theorem steps_aliases (specs : List Spec) (stmts pre : List Stmt) (c c' : Cfg) (hc : ∀ a ∈ c.aliases, AliasFrom (pre ++ stmts) a)
    (h : steps specs c pre.length stmts = .ok c') : ∀ a ∈ c'.aliases, AliasFrom (pre ++ stmts) a := by
  refine steps_induct (motive := fun c i stmts c' => ∀ pre : List Stmt, i = pre.length →
    (∀ a ∈ c.aliases, AliasFrom (pre ++ stmts) a) → ∀ a ∈ c'.aliases, AliasFrom (pre ++ stmts) a)
    (fun _ _ _ _ hc => hc) ?_ h pre rfl hc
  intro c i s rest c1 c' hs ih pre hi hc
  subst hi
  -- the line moves from the lines to come to the lines read
  have e : pre ++ s :: rest = (pre ++ [s]) ++ rest := by simp
  rw [e] at hc ⊢
  refine ih (pre ++ [s]) (by simp) ?_
  rcases step_aliases hs with e1 | ⟨name, hosts, hl, rfl, hcr, _, e1⟩ <;> rw [e1]
  · exact hc
  · intro a ha
    rcases List.mem_cons.mp ha with rfl | ha
    · exact ⟨hosts, by simp, hcr⟩
    · exact hc a ha

theorem steps_aliases_mono {specs : List Spec} (stmts : List Stmt) (c c' : Cfg) (i : Nat) (h : steps specs c i stmts = .ok c') :
    ∀ a ∈ c.aliases, a ∈ c'.aliases := by
  refine steps_induct (motive := fun c _ _ c' => ∀ a ∈ c.aliases, a ∈ c'.aliases) (fun _ _ _ ha => ha) ?_ h
  intro c i s rest c1 c' hs ih a ha
  refine ih a ?_
  rcases step_aliases hs with e1 | ⟨_, _, _, _, _, _, e1⟩ <;> rw [e1]
  · exact ha
  · exact List.mem_cons_of_mem _ ha

/-- device lists: the later list holds the earlier devices in the same places (each with more nodes assigned), then new ones -/
inductive Ext : List Dev → List Dev → Prop
  | nil (ds' : List Dev) : Ext [] ds'
  | cons {d d' : Dev} {ds ds' : List Dev} : Grows d d' → Ext ds ds' → Ext (d :: ds) (d' :: ds')

theorem Ext.refl : ∀ ds : List Dev, Ext ds ds
  | [] => .nil []
  | d :: ds => .cons (Grows.refl d) (Ext.refl ds)

theorem Ext.trans : ∀ {a b c : List Dev}, Ext a b → Ext b c → Ext a c
  | [], _, c, _, _ => .nil c
  | _ :: _, _ :: _, _ :: _, .cons k1 e1, .cons k2 e2 => .cons (k1.trans k2) (Ext.trans e1 e2)

theorem Ext_append (ds extra : List Dev) : Ext ds (ds ++ extra) := by
  induction ds with
  | nil => exact .nil _
  | cons d ds ih => exact .cons (Grows.refl d) ih

theorem Ext_upd (pre post : List Dev) {d d' : Dev} (hk : Grows d d') : Ext (pre ++ d :: post) (pre ++ d' :: post) := by
  induction pre with
  | nil => exact .cons hk (Ext.refl post)
  | cons x xs ih => exact .cons (Grows.refl x) ih

theorem Ext_find (x : Name) : ∀ {ds ds' : List Dev}, Ext ds ds' → ∀ d, ds.find? (·.name = x) = some d →
    ∃ d', ds'.find? (·.name = x) = some d' ∧ Grows d d'
  | [], _, _, d, h => by simp at h
  | a :: as, _ :: _, .cons (d' := a') hk he, d, h => by
    simp only [List.find?_cons] at h ⊢
    by_cases ha : a.name = x
    · have ha' : a'.name = x := hk.name.trans ha
      simp only [ha, decide_true, Option.some.injEq] at h
      subst h
      exact ⟨a', by simp [ha'], hk⟩
    · have ha' : ¬ a'.name = x := fun e => ha (hk.name.symm.trans e)
      simp only [ha, decide_false] at h
      simp only [ha', decide_false]
      exact Ext_find x he d h

theorem find_first (x : Name) (pre post : List Dev) (d : Dev) (hpre : ∀ y ∈ pre, y.name ≠ x) (hd : d.name = x) :
    (pre ++ d :: post).find? (·.name = x) = some d := by
  induction pre with
  | nil => simp [hd]
  | cons y ys ih =>
    have hy : ¬ y.name = x := hpre y (by simp)
    simp only [List.cons_append, List.find?_cons, hy, decide_false]
    exact ih (fun z hz => hpre z (by simp [hz]))

theorem makeNode_dev {c c' : Cfg} {nodestr : List Char} {dev : Name} {plugstr : Option (List Char)}
    (h : makeNode c nodestr dev plugstr = .ok c') :
    ∃ d d', c.devs.find? (·.name = dev) = some d ∧ c'.devs.find? (·.name = dev) = some d' ∧
      nodeOnDev nodestr plugstr d = .ok d' ∧ Ext c.devs c'.devs := by
  obtain ⟨devs, nhl, nodes, hu, _, _, rfl⟩ := makeNode_ok h
  obtain ⟨pre, d, d', post, e1, e2, hpre, hd, hf⟩ := updDev_ok hu
  have hk := nodeOnDev_Grows hf
  refine ⟨d, d', ?_, ?_, hf, ?_⟩
  · rw [e1]; exact find_first dev pre post d hpre hd
  · show devs.find? _ = _
    rw [e2]; exact find_first dev pre post d' hpre (hk.name.trans hd)
  · show Ext c.devs devs
    rw [e1, e2]; exact Ext_upd pre post hk

theorem step_Ext {specs : List Spec} {c c' : Cfg} {i : Nat} {s : Stmt} (h : step specs c i s = .ok c') : Ext c.devs c'.devs := by
  cases s with
  | device name spec => obtain ⟨s, _, rfl⟩ := makeDevice_ok h; exact Ext_append _ _
  | alias name hosts => obtain ⟨hl, _, _, rfl⟩ := makeAlias_ok h; exact Ext.refl _
  | node nodestr dev plugstr => obtain ⟨_, _, _, _, _, he⟩ := makeNode_dev h; exact he

theorem steps_Ext {specs : List Spec} (stmts : List Stmt) (c c' : Cfg) (i : Nat) (h : steps specs c i stmts = .ok c') :
    Ext c.devs c'.devs :=
  steps_induct (motive := fun c _ _ c' => Ext c.devs c'.devs) (fun c _ => Ext.refl c.devs) (fun hs ih => (step_Ext hs).trans ih) h

/-! ### refused lines: what `conf_addnodes`, `updDev` and `pluglist_map` answer -/

theorem addNodes_error : ∀ (ns : List Name) (known : Hostlist), Built known →
    ((∃ n ∈ ns, n ∈ expand known) ∨ ¬ ns.Nodup) → addNodes known ns = .error .dupNodeName
  | [], known, _, h => by simp at h
  | n :: ns, known, hb, h => by
    simp only [addNodes]
    split
    · rfl
    · rename_i hn
      have hnot : n ∉ expand known := fun hmem => hn ((nodeExists_iff hb n).mpr hmem)
      have hex := expand_push_built hb n
      apply addNodes_error ns (pushHost known n) (Built.push known n hb)
      rcases h with ⟨x, hx, hk⟩ | hnd
      · rcases List.mem_cons.mp hx with rfl | hx
        · exact absurd hk hnot
        · exact Or.inl ⟨x, hx, by rw [hex]; simp [hk]⟩
      · rw [List.nodup_cons] at hnd
        by_cases hmem : n ∈ ns
        · exact Or.inl ⟨n, hmem, by rw [hex]; simp⟩
        · exact Or.inr (fun hn' => hnd ⟨hmem, hn'⟩)

theorem addNodes_error_class : ∀ (ns : List Name) (known : Hostlist) (e : DiagClass), addNodes known ns = .error e → e = .dupNodeName
  | [], known, e, h => by simp [addNodes] at h
  | n :: ns, known, e, h => by
    simp only [addNodes] at h
    split at h
    · cases h; rfl
    · exact addNodes_error_class ns _ e h

theorem updDev_unknown {name : Name} {f : Dev → Except DiagClass Dev} : ∀ {ds : List Dev}, (∀ d ∈ ds, d.name ≠ name) →
    updDev name f ds = .error .unknownDevice
  | [], _ => rfl
  | d :: ds, h => by
    have hd : ¬ d.name = name := h d (by simp)
    simp only [updDev, hd, if_false]
    rw [updDev_unknown (fun x hx => h x (by simp [hx]))]

theorem updDev_error {name : Name} {f : Dev → Except DiagClass Dev} {e : DiagClass} : ∀ {ds : List Dev} {d : Dev},
    ds.find? (·.name = name) = some d → f d = .error e → updDev name f ds = .error e
  | [], _, h, _ => by simp at h
  | x :: xs, d, h, hf => by
    simp only [List.find?_cons] at h
    by_cases hx : x.name = name
    · simp only [hx, decide_true, Option.some.injEq] at h
      subst h
      simp [updDev, hx, hf]
    · simp only [hx, decide_false] at h
      simp only [updDev, hx, if_false]
      rw [updDev_error h hf]

theorem updDev_found {name : Name} {f : Dev → Except DiagClass Dev} : ∀ {ds : List Dev} {d d' : Dev},
    ds.find? (·.name = name) = some d → f d = .ok d' → ∃ ds', updDev name f ds = .ok ds'
  | [], _, _, h, _ => by simp at h
  | x :: xs, d, d', h, hf => by
    simp only [List.find?_cons] at h
    by_cases hx : x.name = name
    · simp only [hx, decide_true, Option.some.injEq] at h
      subst h
      exact ⟨d' :: xs, by simp [updDev, hx, hf]⟩
    · simp only [hx, decide_false] at h
      obtain ⟨r, hr⟩ := updDev_found h hf
      exact ⟨x :: r, by simp [updDev, hx, hr]⟩

theorem mapLine_append : ∀ (ns1 ps1 ns2 ps2 : List Name) (d d1 : Dev), ns1.length = ps1.length →
    mapLine d ns1 (some ps1) = .ok d1 → mapLine d (ns1 ++ ns2) (some (ps1 ++ ps2)) = mapLine d1 ns2 (some ps2)
  | [], [], ns2, ps2, d, d1, _, h => by simp only [mapLine] at h; cases h; rfl
  | [], _ :: _, _, _, _, _, hl, _ => by simp at hl
  | _ :: _, [], _, _, _, _, hl, _ => by simp at hl
  | n :: ns1, p :: ps1, ns2, ps2, d, d1, hl, h => by
    obtain ⟨d0, h0, h1⟩ := mapLine_some_cons h
    simp only [List.cons_append, mapLine, h0]
    exact mapLine_append ns1 ps1 ns2 ps2 d0 d1 (by simpa using hl) h1

theorem mapLine_append_none : ∀ (ns1 ns2 : List Name) (d d1 : Dev),
    mapLine d ns1 none = .ok d1 → mapLine d (ns1 ++ ns2) none = mapLine d1 ns2 none
  | [], ns2, d, d1, h => by simp only [mapLine] at h; cases h; rfl
  | n :: ns1, ns2, d, d1, h => by
    obtain ⟨d0, h0, h1⟩ := mapLine_none_cons h
    simp only [List.cons_append, mapLine, h0]
    exact mapLine_append_none ns1 ns2 d0 d1 h1

theorem mapOne_unknown {d : Dev} {n p : Name} (hh : d.hard = true) (hp : p ∉ plugNames d) : mapOne d n p = .error .unknownPlug := by
  unfold mapOne
  have : d.plugs.find? (·.name = p) = none := by
    apply List.find?_eq_none.mpr
    intro q hq hqn
    apply hp
    simp only [plugNames, List.mem_map]
    exact ⟨q, hq, by simpa using hqn⟩
  simp [this, hh]

theorem mapOne_assigned {d : Dev} {n p : Name} {q : Plug} (hq : d.plugs.find? (·.name = p) = some q) (hn : q.node.isSome = true) :
    mapOne d n p = .error .plugAssigned := by
  unfold mapOne
  simp [hq, hn]

theorem mapLine_hard_error : ∀ (ns : List Name) (d : Dev), d.hard = true → (freeNames d).length < ns.length →
    mapLine d ns none = .error .moreNodes
  | [], d, _, h => by simp at h
  | n :: ns, d, hh, h => by
    simp only [mapLine, hh, if_true]
    cases h1 : mapNext d n with
    | error e =>
      unfold mapNext at h1
      split at h1
      · cases h1
      · cases h1; rfl
    | ok d1 =>
      simp only
      obtain ⟨p, e1, _⟩ := mapNext_places h1
      refine mapLine_hard_error ns d1 ((mapNext_assign h1).grows.hard.trans hh) ?_
      rw [e1, List.length_cons] at h
      simp only [List.length_cons] at h
      omega

/-! ### refused lines: what `step` answers -/

theorem step_unknown_spec {specs : List Spec} {c : Cfg} {i : Nat} {name spec : Name} (h : findSpec specs spec = none) :
    step specs c i (.device name spec) = .error .specNotFound := by
  simp [step, makeDevice, h]

theorem step_unknown_device {specs : List Spec} {c : Cfg} {i : Nat} {nodestr : List Char} {dev : Name} {plugstr : Option (List Char)}
    (h : ∀ d ∈ c.devs, d.name ≠ dev) : step specs c i (.node nodestr dev plugstr) = .error .unknownDevice := by
  simp only [step, makeNode]
  rw [updDev_unknown h]

theorem step_node_error {specs : List Spec} {c : Cfg} {i : Nat} {nodestr : List Char} {dev : Name} {plugstr : Option (List Char)}
    {d : Dev} {e : DiagClass} (hd : c.devs.find? (·.name = dev) = some d) (hf : nodeOnDev nodestr plugstr d = .error e) :
    step specs c i (.node nodestr dev plugstr) = .error e := by
  simp only [step, makeNode]
  rw [updDev_error hd hf]

theorem nodeOnDev_invalid_nodes {nodestr : List Char} {plugstr : Option (List Char)} {d : Dev} {e : PErr}
    (h : create nodestr = .error e) : nodeOnDev nodestr plugstr d = .error .invalidNodeList := by
  simp [nodeOnDev, h]

theorem nodeOnDev_invalid_plugs {nodestr ps : List Char} {d : Dev} {nhl : Hostlist} {e : PErr}
    (hn : create nodestr = .ok nhl) (h : create ps = .error e) : nodeOnDev nodestr (some ps) d = .error .invalidPlugList := by
  simp [nodeOnDev, hn, h]

theorem nodeOnDev_some {nodestr ps : List Char} {d : Dev} {nhl phl : Hostlist}
    (hn : create nodestr = .ok nhl) (hp : create ps = .ok phl) :
    nodeOnDev nodestr (some ps) d = mapLine d (expand nhl) (some (expand phl)) := by
  simp [nodeOnDev, hn, hp]

theorem nodeOnDev_none {nodestr : List Char} {d : Dev} {nhl : Hostlist} (hn : create nodestr = .ok nhl) :
    nodeOnDev nodestr none d = mapLine d (expand nhl) none := by
  simp [nodeOnDev, hn]

theorem mapLine_unknown_plug {d d1 : Dev} {ns1 ps1 ns2 ps2 : List Name} {n p : Name} (hh : d.hard = true)
    (hl : ns1.length = ps1.length) (h1 : mapLine d ns1 (some ps1) = .ok d1) (hp : p ∉ plugNames d) :
    mapLine d (ns1 ++ n :: ns2) (some (ps1 ++ p :: ps2)) = .error .unknownPlug := by
  rw [mapLine_append ns1 ps1 _ _ d d1 hl h1]
  have hh1 : d1.hard = true := (mapLine_Grows h1).hard.trans hh
  have hn1 : p ∉ plugNames d1 := by rw [mapLine_hard_names hh h1]; exact hp
  simp [mapLine, mapOne_unknown hh1 hn1]

theorem mapLine_plug_assigned {d d1 : Dev} {ns1 ps1 ns2 ps2 : List Name} {n p : Name} {q : Plug}
    (hl : ns1.length = ps1.length) (h1 : mapLine d ns1 (some ps1) = .ok d1)
    (hq : d1.plugs.find? (·.name = p) = some q) (hn : q.node.isSome = true) :
    mapLine d (ns1 ++ n :: ns2) (some (ps1 ++ p :: ps2)) = .error .plugAssigned := by
  rw [mapLine_append ns1 ps1 _ _ d d1 hl h1]
  simp [mapLine, mapOne_assigned hq hn]

theorem mapLine_more_nodes {d d1 : Dev} {ns1 ps1 ns2 : List Name} {n : Name}
    (hl : ns1.length = ps1.length) (h1 : mapLine d ns1 (some ps1) = .ok d1) :
    mapLine d (ns1 ++ n :: ns2) (some ps1) = .error .moreNodes := by
  have := mapLine_append ns1 ps1 (n :: ns2) [] d d1 hl h1
  simp only [List.append_nil] at this
  rw [this]; rfl

theorem mapLine_more_plugs {d d1 : Dev} {ns1 ps1 ps2 : List Name} {p : Name}
    (hl : ns1.length = ps1.length) (h1 : mapLine d ns1 (some ps1) = .ok d1) :
    mapLine d ns1 (some (ps1 ++ p :: ps2)) = .error .morePlugs := by
  have := mapLine_append ns1 ps1 [] (p :: ps2) d d1 hl h1
  simp only [List.append_nil] at this
  rw [this]; rfl

theorem mapLine_named_assigned {d d1 : Dev} {ns1 ns2 : List Name} {n : Name} {q : Plug} (hh : d.hard = false)
    (h1 : mapLine d ns1 none = .ok d1) (hq : d1.plugs.find? (·.name = n) = some q) (hn : q.node.isSome = true) :
    mapLine d (ns1 ++ n :: ns2) none = .error .plugAssigned := by
  rw [mapLine_append_none ns1 _ d d1 h1]
  have hh1 : d1.hard = false := (mapLine_Grows h1).hard.trans hh
  simp [mapLine, hh1, mapOne_assigned hq hn]

theorem step_duplicate_node {specs : List Spec} {c : Cfg} {i : Nat} {nodestr : List Char} {dev : Name} {plugstr : Option (List Char)}
    {d d' : Dev} {nhl : Hostlist} (hb : Built c.nodes) (hd : c.devs.find? (·.name = dev) = some d)
    (hf : nodeOnDev nodestr plugstr d = .ok d') (hn : create nodestr = .ok nhl)
    (hdup : (∃ n ∈ expand nhl, n ∈ expand c.nodes) ∨ ¬ (expand nhl).Nodup) :
    step specs c i (.node nodestr dev plugstr) = .error .dupNodeName := by
  obtain ⟨devs, hu⟩ := updDev_found hd hf
  simp only [step, makeNode, hu, hn, addNodes_error _ _ hb hdup]

theorem step_duplicate_node_any {specs : List Spec} {c : Cfg} {i : Nat} {nodestr : List Char} {dev : Name} {plugstr : Option (List Char)}
    {nhl : Hostlist} (hb : Built c.nodes) (hn : create nodestr = .ok nhl)
    (hdup : (∃ n ∈ expand nhl, n ∈ expand c.nodes) ∨ ¬ (expand nhl).Nodup) :
    ∃ e, step specs c i (.node nodestr dev plugstr) = .error e := by
  cases hs : step specs c i (.node nodestr dev plugstr) with
  | error e => exact ⟨e, rfl⟩
  | ok c' =>
    obtain ⟨devs, nhl', nodes, _, hn', ha, _⟩ := makeNode_ok (show makeNode c nodestr dev plugstr = .ok c' from hs)
    rw [hn] at hn'; cases hn'
    obtain ⟨_, _, hnew, hnd⟩ := addNodes_spec _ _ _ hb ha
    rcases hdup with ⟨n, h1, h2⟩ | h
    · exact absurd h2 (hnew n h1)
    · exact absurd hnd h

theorem step_alias_dup {specs : List Spec} {c : Cfg} {i : Nat} {name : Name} {hosts : List Char} {a : Alias}
    (ha : a ∈ c.aliases) (hn : a.name = name) : step specs c i (.alias name hosts) = .error .badAlias := by
  have : c.aliases.any (·.name = name) = true := by
    simp only [List.any_eq_true, decide_eq_true_eq]; exact ⟨a, ha, hn⟩
  simp [step, makeAlias, this]

theorem step_alias_invalid {specs : List Spec} {c : Cfg} {i : Nat} {name : Name} {hosts : List Char} {e : PErr}
    (h : create hosts = .error e) : step specs c i (.alias name hosts) = .error .badAlias := by
  simp only [step, makeAlias, h]
  split <;> rfl

/-! ### refused at the end -/

theorem aliasBad_iff {nodes : Hostlist} (hb : Built nodes) (a : Alias) :
    aliasBad nodes a = true ↔ ∃ h ∈ expand a.hl, h ∉ expand nodes := by
  simp only [aliasBad, List.any_eq_true, Bool.not_eq_true', ← Bool.not_eq_true, nodeExists_iff hb]

theorem build_alias_missing {specs : List Spec} {stmts : List Stmt} {c : Cfg} (hs : steps specs empty 0 stmts = .ok c)
    (a : Alias) (ha : a ∈ c.aliases) (h : Name) (hh : h ∈ expand a.hl) (hnot : h ∉ expand c.nodes) :
    ∃ b ∈ c.aliases, (∃ h' ∈ expand b.hl, h' ∉ expand c.nodes) ∧ build specs stmts = .error (.aliasMissing, b.stmt) := by
  have hb : Built c.nodes := (steps_Inv stmts empty c 0 Inv_empty hs).built
  have hbad : aliasBad c.nodes a = true := (aliasBad_iff hb a).mpr ⟨h, hh, hnot⟩
  cases hf : c.aliases.find? (aliasBad c.nodes) with
  | none => exact absurd hbad (by simpa using List.find?_eq_none.mp hf a ha)
  | some b =>
    refine ⟨b, List.mem_of_find?_eq_some hf, (aliasBad_iff hb b).mp (List.find?_some hf), ?_⟩
    rw [build_eq_steps, hs]
    simp [validate, hf]

theorem build_no_nodes {specs : List Spec} {stmts : List Stmt} {c : Cfg} (hs : steps specs empty 0 stmts = .ok c)
    (hno : nodesOf stmts = []) :
    build specs stmts = .error (.noNodes, stmts.length) ∨ ∃ b ∈ c.aliases, build specs stmts = .error (.aliasMissing, b.stmt) := by
  have hex : expand c.nodes = [] := by
    have := steps_nodes specs stmts empty c 0 Built.nil hs
    simpa [empty, expand_nil, hno] using this
  cases hf : c.aliases.find? (aliasBad c.nodes) with
  | none =>
    left
    rw [build_eq_steps, hs]
    simp [validate, hf, hex]
  | some b =>
    right
    refine ⟨b, List.mem_of_find?_eq_some hf, ?_⟩
    rw [build_eq_steps, hs]
    simp [validate, hf]

/-! ### an accepted line seen from the final configuration -/

/-- an accepted `node` line, seen from the final configuration: `d1` is the device the line found, `d2` the device it left,
    `d` the first device of that name in the final configuration -/
theorem node_line {specs : List Spec} {pre post : List Stmt} {nodestr : List Char} {dev : Name} {plugstr : Option (List Char)}
    {cfg : Cfg} (h : build specs (pre ++ .node nodestr dev plugstr :: post) = .ok cfg) :
    ∃ c1 d1 d2 d, steps specs empty 0 pre = .ok c1 ∧ c1.devs.find? (·.name = dev) = some d1 ∧
      nodeOnDev nodestr plugstr d1 = .ok d2 ∧ cfg.devs.find? (·.name = dev) = some d ∧ Grows d2 d := by
  obtain ⟨c1, c2, h1, h2, h3⟩ := build_split specs pre post _ cfg h
  obtain ⟨d1, d2, hf1, hf2, hn, _⟩ := makeNode_dev (show makeNode c1 nodestr dev plugstr = .ok c2 from h2)
  have he := steps_Ext post c2 cfg _ (run_ok h3)
  obtain ⟨d, hfd, hk⟩ := Ext_find dev he d2 hf2
  exact ⟨c1, d1, d2, d, h1, hf1, hn, hfd, hk⟩

theorem node_line_pluglist {specs : List Spec} {pre post : List Stmt} {nodestr ps : List Char} {dev : Name} {cfg : Cfg}
    (h : build specs (pre ++ .node nodestr dev (some ps) :: post) = .ok cfg) :
    ∃ nhl phl d, create nodestr = .ok nhl ∧ create ps = .ok phl ∧ cfg.devs.find? (·.name = dev) = some d ∧
      (expand nhl).length = (expand phl).length ∧
      ∀ (i : Nat) (n p : Name), (expand nhl)[i]? = some n → (expand phl)[i]? = some p → (⟨p, some n⟩ : Plug) ∈ d.plugs := by
  obtain ⟨c1, d1, d2, d, _, _, hn, hfd, hk⟩ := node_line h
  obtain ⟨nhl, hcn, hc⟩ := nodeOnDev_ok hn
  rcases hc with ⟨hnone, _⟩ | ⟨ps', phl, hps, hcp, hl⟩
  · cases hnone
  · cases hps
    obtain ⟨hlen, hi⟩ := mapLine_pairs _ _ d1 d2 hl
    exact ⟨nhl, phl, d, hcn, hcp, hfd, hlen, fun i n p h1 h2 => hk.plugs _ _ (hi i n p h1 h2)⟩

theorem node_line_noplugs {specs : List Spec} {pre post : List Stmt} {nodestr : List Char} {dev : Name} {cfg : Cfg}
    (h : build specs (pre ++ .node nodestr dev none :: post) = .ok cfg) :
    ∃ nhl c1 d1 d, create nodestr = .ok nhl ∧ steps specs empty 0 pre = .ok c1 ∧ c1.devs.find? (·.name = dev) = some d1 ∧
      cfg.devs.find? (·.name = dev) = some d ∧ d.hard = d1.hard ∧
      (d1.hard = true → ∀ (i : Nat) (n : Name), (expand nhl)[i]? = some n →
          ∃ p, (freeNames d1)[i]? = some p ∧ (⟨p, some n⟩ : Plug) ∈ d.plugs) ∧
      (d1.hard = false → ∀ n ∈ expand nhl, (⟨n, some n⟩ : Plug) ∈ d.plugs) := by
  obtain ⟨c1, d1, d2, d, hs, hf1, hn, hfd, hk⟩ := node_line h
  obtain ⟨nhl, hcn, hc⟩ := nodeOnDev_ok hn
  rcases hc with ⟨_, hl⟩ | ⟨ps', phl, hps, _, _⟩
  · refine ⟨nhl, c1, d1, d, hcn, hs, hf1, hfd, hk.hard.trans (nodeOnDev_Grows hn).hard, ?_, ?_⟩
    · intro hh i n hi
      obtain ⟨p, hp, hm⟩ := mapLine_hard _ d1 d2 hh hl i n hi
      exact ⟨p, hp, hk.plugs _ _ hm⟩
    · intro hh n hmem
      exact hk.plugs _ _ (mapLine_free _ d1 d2 hh hl n hmem)
  · cases hps

theorem alias_line {specs : List Spec} {pre post : List Stmt} {name : Name} {hosts : List Char} {cfg : Cfg}
    (h : build specs (pre ++ .alias name hosts :: post) = .ok cfg) :
    ∃ hl, create hosts = .ok hl ∧ (⟨name, hl, pre.length⟩ : Alias) ∈ cfg.aliases ∧ ∀ x ∈ expand hl, x ∈ expand cfg.nodes := by
  obtain ⟨c1, c2, _, h2, h3⟩ := build_split specs pre post _ cfg h
  obtain ⟨hl, hc, _, rfl⟩ := makeAlias_ok (show makeAlias c1 pre.length name hosts = .ok c2 from h2)
  have hmem := steps_aliases_mono post _ cfg _ (run_ok h3) ⟨name, hl, pre.length⟩ (by simp)
  exact ⟨hl, hc, hmem, fun x hx => validate_alias (build_ok h).aliases _ hmem x hx⟩

end Pm.ConfigModel.Proof
