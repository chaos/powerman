import Pm.CbufRingBase
/-! Refinement proof of the index-level cbuf model, the read side: create / flush / options, `cbuf_dropper`, `cbuf_drop`,
`cbuf_reader`, `cbuf_peek`, `cbuf_read_to_fd`.  (The write side: `Pm/CbufRingWrite.lean`; lines: `Pm/CbufRingLine.lean`.) -/
namespace Pm.CbufRing

theorem create_eq (mn mx : Int) (r : Ring) (h : create mn mx = some r) :
    0 < mn ∧ r =
      { data := List.replicate (mn.toNat + 1) 0, alloc := mn.toNat + 1 + 2 * magicLen, minsize := mn.toNat,
        maxsize := if mx > mn then mx.toNat else mn.toNat, size := mn.toNat, used := 0, overwrite := .wrapMany,
        got_wrap := false, i_in := 0, i_out := 0, i_rep := 0 } := by
  unfold create at h
  split at h
  · cases h
  · injection h with h
    exact ⟨by omega, h.symm⟩

theorem create_some (mn mx : Int) (h : 0 < mn) : ∃ r, create mn mx = some r := by
  unfold create
  rw [if_neg (by omega)]
  exact ⟨_, rfl⟩

theorem create_valid (mn mx : Int) (r : Ring) (h : create mn mx = some r) : ValidP r := by
  obtain ⟨hmn, rfl⟩ := create_eq mn mx r h
  have hmn' : 0 < mn.toNat := by omega
  exact .of_geom (List.length_replicate ..) rfl hmn' (Nat.le_refl _) (by dsimp only; split <;> omega) hmn' (Or.inr rfl)
    (Nat.zero_le _) 0 (Nat.zero_le _) rfl rfl

theorem create_contents (mn mx : Int) (r : Ring) (h : create mn mx = some r) : r.contents = [] := by
  rw [(create_valid mn mx r h).contents_eq]
  obtain ⟨_, rfl⟩ := create_eq mn mx r h
  rfl

theorem create_fields (mn mx : Int) (r : Ring) (h : create mn mx = some r) :
    r.size = mn.toNat ∧ r.minsize = mn.toNat ∧ r.maxsize = (if mx > mn then mx.toNat else mn.toNat) ∧ r.used = 0 ∧
      r.overwrite = .wrapMany := by
  obtain ⟨_, rfl⟩ := create_eq mn mx r h
  exact ⟨rfl, rfl, rfl, rfl, rfl⟩

theorem flush_valid (r : Ring) (h : ValidP r) : ValidP (flush r) :=
  .of_geom h.len h.alloc h.size_pos h.min_le h.le_max h.min_pos (Or.inr rfl) (Nat.zero_le _) 0 (Nat.zero_le _) rfl rfl

theorem flush_contents (r : Ring) (h : ValidP r) : (flush r).contents = [] := by
  rw [(flush_valid r h).contents_eq]
  rfl

theorem optSet_ring (r : Ring) (v : Int) : ∃ o, (optSet r v).2 = { r with overwrite := o } := by
  unfold optSet
  repeat' split
  all_goals exact ⟨_, rfl⟩

theorem optSet_valid (r : Ring) (v : Int) (h : ValidP r) : ValidP (optSet r v).2 := by
  obtain ⟨o, e⟩ := optSet_ring r v
  rw [e]
  exact { h with }

theorem optSet_contents (r : Ring) (v : Int) : (optSet r v).2.contents = r.contents := by
  obtain ⟨o, e⟩ := optSet_ring r v
  rw [e]
  rfl

/-- `r'` holds what the valid ring `r` held, minus the `n` oldest unread bytes; it is valid, not smaller, and has the limits
    and the mode of `r`.  (`n = 0`: the same queue, as after `cbuf_grow`.) -/
structure Took (r : Ring) (n : Nat) (r' : Ring) : Prop where
  valid : ValidP r'
  contents : r'.contents = r.contents.drop n
  used : r'.used = r.used - n
  size_le : r.size ≤ r'.size
  maxsize : r'.maxsize = r.maxsize
  minsize : r'.minsize = r.minsize
  overwrite : r'.overwrite = r.overwrite

/-- the field `used` at `n = 0` without the `- 0`, as rewriting wants it -/
theorem Took.used_eq {r r' : Ring} (t : Took r 0 r') : r'.used = r.used := t.used

theorem Took.none {r : Ring} (h : ValidP r) : Took r 0 r := ⟨h, rfl, rfl, Nat.le_refl _, rfl, rfl, rfl⟩

/-- `cbuf_dropper`: dropping `len` unread bytes turns them into replay bytes -/
theorem dropper_took (r : Ring) (len : Nat) (h : ValidP r) (hl : len ≤ r.used) : Took r len (dropper r len).1 := by
  obtain ⟨R, hR, ho⟩ := h.geom
  have hv : ValidP (dropper r len).1 := by
    refine .of_geom h.len h.alloc h.size_pos h.min_le h.le_max h.min_pos h.wrap h.rep_le (R + len) ?_ ?_ ?_
    · show R + len + (r.used - len) ≤ r.size
      omega
    · show (r.i_out + len) % (r.size + 1) = (r.i_rep + (R + len)) % (r.size + 1)
      rw [ho, Nat.mod_add_mod, Nat.add_assoc]
    · show r.i_in = ((r.i_out + len) % (r.size + 1) + (r.used - len)) % (r.size + 1)
      rw [h.in_eq, Nat.mod_add_mod, Nat.add_assoc, Nat.add_sub_cancel' hl]
  refine ⟨hv, ?_, rfl, Nat.le_refl _, rfl, rfl, rfl⟩
  rw [hv.contents_eq, h.contents_eq, rslice_drop]
  rfl

theorem dropper_ok (r : Ring) (len : Nat) (h : ValidP r) (hl : len ≤ r.used) (h0 : 0 < len) : (dropper r len).2 = true := by
  have hv := (valid_iff _).mpr (dropper_took r len h hl).valid
  simp only [dropper] at hv ⊢
  simp only [shrink, hv, ite_self, Bool.and_true, Bool.and_eq_true, decide_eq_true_eq]
  exact ⟨h0, hl⟩

theorem dropper_fields (r : Ring) (len : Nat) :
    (dropper r len).1.size = r.size ∧ (dropper r len).1.maxsize = r.maxsize ∧ (dropper r len).1.minsize = r.minsize ∧
    (dropper r len).1.overwrite = r.overwrite ∧ (dropper r len).1.used = r.used - len ∧ (dropper r len).1.data = r.data ∧
    (dropper r len).1.i_in = r.i_in := by
  simp [dropper]

/-- `cbuf_drop (cb, len)`: what it returns -/
def dropCount (r : Ring) (len : Int) : Nat := if len = -1 then r.used else min len.toNat r.used

theorem drop_refused (r : Ring) (len : Int) (h : len < -1) : drop r len = (-1, r, true) := by
  unfold drop; exact if_pos h

/-- `cbuf_drop` on a valid ring, with a length it accepts: no assertion fires, `min len used` (`used` for -1) bytes are
    reported and exactly that many of the oldest go. -/
theorem drop_spec (r : Ring) (len : Int) (h : ValidP r) (hl : -1 ≤ len) :
    Took r (dropCount r len) (drop r len).2.1 ∧ (drop r len).2.2 = true ∧ (drop r len).1 = (dropCount r len : Nat) := by
  have hv := (valid_iff r).mpr h
  unfold drop dropCount
  rw [if_neg (Int.not_lt.mpr hl)]
  by_cases h2 : len = 0
  · subst h2
    rw [if_pos rfl, if_neg (by decide), Int.toNat_zero, Nat.zero_min]
    exact ⟨.none h, rfl, rfl⟩
  · rw [if_neg h2]
    generalize hn : (if len = -1 then r.used else min len.toNat r.used) = n
    have hle : n ≤ r.used := by rw [← hn]; split <;> omega
    by_cases h3 : n > 0
    · rw [if_pos h3]
      have t := dropper_took r n h hle
      exact ⟨t, by simp [hv, dropper_ok r n h hle h3, (valid_iff _).mpr t.valid], rfl⟩
    · obtain rfl : n = 0 := by omega
      rw [if_neg h3]
      exact ⟨.none h, by simp [hv], rfl⟩

/-- sinks that never take short: memory, and a descriptor without scripted short writes -/
def Putter.full : Putter → Prop
  | .mem _ => True
  | .fd d => d.caps = []

theorem put_mem (dst bs : List UInt8) : (Putter.mem dst).put bs = (((bs.length : Nat) : Int), Putter.mem (dst ++ bs)) := rfl

/-- what a `putf` call handed `bs` does: it appends the first `k ≤ |bs|` bytes and returns `k` if that is positive and
    something `≤ 0` otherwise; a sink that never takes short takes everything and stays such a sink -/
theorem put_spec (p : Putter) (bs : List UInt8) :
    ∃ k, k ≤ bs.length ∧ (p.put bs).2.out = p.out ++ bs.take k ∧ (0 < k → (p.put bs).1 = (k : Nat)) ∧
      (k = 0 → (p.put bs).1 ≤ 0) ∧ (p.full → k = bs.length ∧ (p.put bs).2.full) := by
  have all : ∀ out : List UInt8, out ++ bs = out ++ bs.take bs.length := fun _ => by rw [List.take_length]
  rcases p with dst | ⟨out, _ | ⟨c, cs⟩⟩
  · exact ⟨_, Nat.le_refl _, all dst, fun _ => rfl, fun h => by rw [put_mem, h]; exact Int.le_refl 0, fun _ => ⟨rfl, trivial⟩⟩
  · exact ⟨_, Nat.le_refl _, all out, fun _ => rfl, fun h => by show ((bs.length : Nat) : Int) ≤ 0; rw [h]; exact Int.le_refl 0,
      fun _ => ⟨rfl, rfl⟩⟩
  · by_cases hc : c ≤ 0
    · refine ⟨0, Nat.zero_le _, ?_, fun h => absurd h (Nat.lt_irrefl 0), fun _ => ?_, fun hf => nomatch hf⟩
      · show (if c ≤ 0 then _ else _ : Int × Putter).2.out = _
        rw [if_pos hc, List.take_zero, List.append_nil]; rfl
      · show (if c ≤ 0 then _ else _ : Int × Putter).1 ≤ 0
        rw [if_pos hc]; exact hc
    · refine ⟨min bs.length c.toNat, Nat.min_le_left .., ?_, fun _ => ?_, fun h => ?_, fun hf => nomatch hf⟩
      · show (if c ≤ 0 then _ else _ : Int × Putter).2.out = _
        rw [if_neg hc]; rfl
      · show (if c ≤ 0 then _ else _ : Int × Putter).1 = _
        rw [if_neg hc]
      · show (if c ≤ 0 then _ else _ : Int × Putter).1 ≤ 0
        rw [if_neg hc]
        show ((min bs.length c.toNat : Nat) : Int) ≤ 0
        rw [h]; exact Int.le_refl 0

theorem put_fd (d : Dst) (bs : List UInt8) : ∃ d', ((Putter.fd d).put bs).2 = .fd d' := by
  simp only [Putter.put]
  split
  · exact ⟨_, rfl⟩
  · split <;> exact ⟨_, rfl⟩

/-- the copy loop: from slot `i_src` with `nleft` bytes to go it delivers some `d ≤ nleft` bytes, exactly the slice of
    the ring from `i_src`, whatever the sink takes per call; a sink that never takes short gets all of them -/
theorem readerLoop_spec (fuel : Nat) (data : List UInt8) (size : Nat) (s : RLoop)
    (hl : data.length = size + 1) (hi : s.i_src ≤ size) (hf : s.nleft ≤ fuel) :
    ∃ d, d ≤ s.nleft ∧ (s.p.full → d = s.nleft) ∧ (readerLoop fuel data size s).nleft = s.nleft - d ∧
      (readerLoop fuel data size s).p.out = s.p.out ++ rslice data (size + 1) s.i_src d ∧
      (d = 0 → (readerLoop fuel data size s).m ≤ 0 ∨ (readerLoop fuel data size s).m = s.m) := by
  have hstop : s.p.out = s.p.out ++ rslice data (size + 1) s.i_src 0 := by rw [rslice_zero, List.append_nil]
  induction fuel generalizing s with
  | zero => exact ⟨0, Nat.zero_le _, fun _ => by omega, rfl, hstop, fun _ => Or.inr rfl⟩
  | succ fuel ih =>
    unfold readerLoop
    by_cases hn : s.nleft > 0
    · rw [if_pos hn]
      dsimp only
      generalize hnn : min s.nleft (size + 1 - s.i_src) = n
      have hn1 : 0 < n := by omega
      have hn2 : n ≤ s.nleft := by omega
      have hn3 : s.i_src + n ≤ size + 1 := by omega
      clear hnn
      rw [← rslice_contig data (size + 1) s.i_src n hn3 (Nat.le_of_eq hl.symm)]
      obtain ⟨k, k1, k2, k3, k4, k5⟩ := put_spec s.p (rslice data (size + 1) s.i_src n)
      rw [rslice_length] at k1 k5
      rw [rslice_take, Nat.min_eq_left k1] at k2
      generalize s.p.put (rslice data (size + 1) s.i_src n) = pr at k2 k3 k4 k5
      rcases Nat.eq_zero_or_pos k with hk | hk
      · -- the sink takes nothing (or reports an error): the loop ends
        have hm := k4 hk
        subst hk
        rw [if_neg (show ¬ pr.1 > 0 by omega), if_pos (show (n : Int) ≠ pr.1 by omega)]
        exact ⟨0, Nat.zero_le _, fun hp => by have := (k5 hp).1; omega, rfl, k2, fun _ => Or.inl hm⟩
      · have hm := k3 hk
        rw [if_pos (show pr.1 > 0 by omega), hm, Int.toNat_natCast]
        by_cases hkn : k = n
        · -- the whole piece went out: next round from the slot after it
          subst hkn
          rw [if_neg (fun hne => hne rfl)]
          obtain ⟨d, d1, d0, d2, d3, _⟩ := ih
            { i_src := (s.i_src + k) % (size + 1), nleft := s.nleft - k, m := (k : Nat), p := pr.2 }
            (Nat.le_of_lt_succ (Nat.mod_lt _ (Nat.succ_pos _))) (by dsimp only; omega)
            (by rw [rslice_zero, List.append_nil])
          dsimp only at d1 d0 d2 d3
          exact ⟨k + d, Nat.add_le_of_le_sub' hn2 d1, fun hp => by rw [d0 (k5 hp).2, Nat.add_sub_cancel' hn2],
            d2.trans (Nat.sub_sub ..), by rw [d3, k2, rslice_add, List.append_assoc], fun h => by omega⟩
        · -- a short put: the loop ends
          rw [if_pos (show (n : Int) ≠ (k : Nat) by omega)]
          exact ⟨k, by omega, fun hp => by have := (k5 hp).1; omega, rfl, k2, fun h => by omega⟩
    · rw [if_neg hn]
      exact ⟨0, Nat.zero_le _, fun _ => by omega, rfl, hstop, fun _ => Or.inr rfl⟩

/-- `x` is what `cbuf_reader (src, len, putf, dst)` answers on the valid ring `r` when the sink has taken `d` bytes: they are
    the first `d` unread bytes, `d` is returned if it is positive and something `≤ 0` otherwise, no assertion fired -/
structure Read (r : Ring) (len : Nat) (p : Putter) (d : Nat) (x : Int × Putter × Bool) : Prop where
  le : d ≤ min len r.used
  ok : x.2.2 = true
  out : x.2.1.out = p.out ++ r.contents.take d
  rc_pos : 0 < d → x.1 = (d : Nat)
  rc_zero : d = 0 → x.1 ≤ 0
  rc_empty : min len r.used = 0 → x.1 = 0

/-- `cbuf_reader` on a valid ring with `len > 0`, any sink: the sink takes some `d` bytes — all there are to take, if it
    never takes short -/
theorem reader_spec (r : Ring) (len : Nat) (p : Putter) (h : ValidP r) (hl : 0 < len) :
    ∃ d, Read r len p d (reader r len p) ∧ (p.full → d = min len r.used) := by
  unfold reader
  dsimp only
  rw [decide_eq_true hl, Bool.true_and]
  by_cases h0 : min len r.used = 0
  · rw [if_pos h0]
    exact ⟨0, ⟨Nat.zero_le _, rfl, by rw [List.take_zero, List.append_nil], fun hh => absurd hh (Nat.lt_irrefl 0),
      fun _ => Int.le_refl 0, fun _ => rfl⟩, fun _ => h0.symm⟩
  · rw [if_neg h0]
    obtain ⟨d, d1, d0, d2, d3, d4⟩ := readerLoop_spec (min len r.used) r.data r.size
      { i_src := r.i_out, nleft := min len r.used, m := 0, p := p } h.len h.out_le (Nat.le_refl _)
    dsimp only at d1 d0 d2 d3 d4
    generalize readerLoop (min len r.used) r.data r.size { i_src := r.i_out, nleft := min len r.used, m := 0, p := p } = s
      at d2 d3 d4
    have hlu : min len r.used ≤ r.used := Nat.min_le_right ..
    generalize hl' : min len r.used = l at h0 hlu d1 d0 d2 d4 ⊢
    have hout : s.p.out = p.out ++ r.contents.take d := by
      rw [d3, h.contents_eq, rslice_take, Nat.min_eq_left (Nat.le_trans d1 hlu)]
    have hok : decide (s.nleft ≤ l) = true := decide_eq_true (by omega)
    have hne : ¬ min len r.used = 0 := hl' ▸ h0
    refine ⟨d, ?_, d0⟩
    rw [show l - s.nleft = d by omega]
    by_cases hd0 : d = 0
    · rw [if_pos hd0]
      exact ⟨hl' ▸ d1, hok, hout, fun hh => by omega, fun _ => by rcases d4 hd0 with h1 | h1 <;> omega, fun hh => absurd hh hne⟩
    · rw [if_neg hd0]
      exact ⟨hl' ▸ d1, hok, hout, fun _ => rfl, fun hh => absurd hh hd0, fun hh => absurd hh hne⟩

/-- `cbuf_peek (src, dstbuf, len)` on a valid ring: no assertion fires; a negative `len` is refused (-1); otherwise
    the return value is `min len used` and `dstbuf` receives exactly the first `len` unread bytes.  (The ring is only
    read: the model's `peek` has no ring in its result.) -/
theorem peek_spec (r : Ring) (len : Int) (h : ValidP r) :
    (peek r len).2.2 = true ∧ (len < 0 → (peek r len).1 = -1) ∧
    (0 ≤ len → (peek r len).1 = (min len.toNat r.used : Nat) ∧ (peek r len).2.1 = r.contents.take len.toNat) := by
  have hv := (valid_iff r).mpr h
  unfold peek
  by_cases h1 : len < 0
  · rw [if_pos h1]; exact ⟨rfl, fun _ => rfl, fun hh => by omega⟩
  · rw [if_neg h1]
    by_cases h2 : len = 0
    · subst h2; exact ⟨rfl, fun hh => by omega, fun _ => by simp⟩
    · rw [if_neg h2]
      obtain ⟨d, g, d0⟩ := reader_spec r len.toNat (.mem []) h (by omega)
      obtain rfl := d0 trivial
      dsimp only
      refine ⟨by rw [hv, g.ok]; rfl, fun hh => by omega, fun _ => ⟨?_, ?_⟩⟩
      · rcases Nat.eq_zero_or_pos (min len.toNat r.used) with hz | hp
        · rw [g.rc_empty hz, hz]; rfl
        · exact g.rc_pos hp
      · rw [g.out, List.take_eq_take_min (i := len.toNat), h.contents_length]; rfl

theorem readerLoop_fd (fuel : Nat) (data : List UInt8) (size : Nat) (s : RLoop) (hd : ∃ d, s.p = .fd d) :
    ∃ d', (readerLoop fuel data size s).p = .fd d' := by
  induction fuel generalizing s with
  | zero => simpa [readerLoop] using hd
  | succ fuel ih =>
    unfold readerLoop
    obtain ⟨d, hd⟩ := hd
    by_cases hn : s.nleft > 0
    · simp only [hn, ↓reduceIte]
      obtain ⟨d1, hd1⟩ := put_fd d ((data.drop s.i_src).take (min s.nleft (size + 1 - s.i_src)))
      rw [← hd] at hd1
      split
      · split
        · exact ⟨d1, hd1⟩
        · exact ⟨d1, hd1⟩
      · apply ih
        split <;> exact ⟨d1, hd1⟩
    · simp only [hn, ↓reduceIte]; exact ⟨d, hd⟩

theorem reader_fd (r : Ring) (len : Nat) (d : Dst) : ∃ d', (reader r len (.fd d)).2.1 = .fd d' := by
  unfold reader
  dsimp only
  split
  · exact ⟨d, rfl⟩
  · obtain ⟨d', hd'⟩ := readerLoop_fd (min len r.used) r.data r.size
      { i_src := r.i_out, nleft := min len r.used, m := 0, p := .fd d } ⟨d, rfl⟩
    split <;> exact ⟨d', hd'⟩

/-- the length `cbuf_read_to_fd` works with -/
def readLen (r : Ring) (len : Int) : Nat := if len = -1 then r.used else len.toNat

theorem readToFd_refused (r : Ring) (len : Int) (d : Dst) (h : len < -1) : readToFd r len d = (-1, r, d, true) := by
  unfold readToFd; exact if_pos h

/-- `cbuf_read_to_fd (src, fd, len)` on a valid ring with a length it accepts, whatever the descriptor accepts per `write`
    call: no assertion fires; a positive return value is at most `min len used` (`used` for -1), the descriptor has received
    exactly that many of the first unread bytes, and exactly these are gone from the ring; with a return value `≤ 0` it has
    received nothing and the ring is as before. -/
theorem readToFd_spec (r : Ring) (len : Int) (d : Dst) (h : ValidP r) (hl : -1 ≤ len) :
    Took r (readToFd r len d).1.toNat (readToFd r len d).2.1 ∧ (readToFd r len d).2.2.2 = true ∧
    (readToFd r len d).1 ≤ (min (readLen r len) r.used : Nat) ∧
    (readToFd r len d).2.2.1.out = d.out ++ r.contents.take (readToFd r len d).1.toNat ∧
    ((readToFd r len d).1 ≤ 0 → (readToFd r len d).2.1 = r) := by
  have hv := (valid_iff r).mpr h
  unfold readToFd readLen
  dsimp only
  rw [if_neg (Int.not_lt.mpr hl)]
  generalize hn : (if len = -1 then r.used else len.toNat) = n
  by_cases h2 : n > 0
  · rw [if_pos h2]
    obtain ⟨k, ⟨k1, k2, k3, k4, k5, _⟩, _⟩ := reader_spec r n (.fd d) h h2
    obtain ⟨d', hd'⟩ := reader_fd r n d
    generalize reader r n (.fd d) = x at k2 k3 k4 k5 hd'
    rw [hd'] at k3
    simp only [hd']
    have hku : k ≤ r.used := Nat.le_trans k1 (Nat.min_le_right ..)
    rcases Nat.eq_zero_or_pos k with hk | hk
    · -- nothing went out: the ring is not touched
      have hx := k5 hk
      subst hk
      rw [if_neg (by omega), Int.toNat_of_nonpos hx]
      exact ⟨.none h, by simp [hv, k2], Int.le_trans hx (Int.natCast_nonneg _), k3, fun _ => rfl⟩
    · have hx := k4 hk
      rw [if_pos (by omega), hx, Int.toNat_natCast]
      have t := dropper_took r k h hku
      exact ⟨t, by simp [hv, k2, dropper_ok r _ h hku hk, t.valid.valid_true], Int.ofNat_le.mpr k1, k3,
        fun hh => absurd hh (by omega)⟩
  · rw [if_neg h2]
    obtain rfl : n = 0 := by omega
    exact ⟨.none h, by simp [hv], Int.natCast_nonneg _, by simp, fun _ => rfl⟩

end Pm.CbufRing
