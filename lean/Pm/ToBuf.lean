import Pm.Dev2
/-! The algebra of `clipTo`.  `clipTo` itself is model (`Dev2.lean`, at `_process_send` and `_telnet_sendopt`): what `dev->to`
    — `cbuf_create(MIN_DEV_BUF, MAX_DEV_BUF)`, overwrite mode `CBUF_WRAP_MANY` — holds after `cbuf_write` stored these bytes
    behind those, the last 65536 bytes of the concatenation.  Here: its length, a write behind a write is one write
    (`clipTo_clipTo_append`), how many of the oldest bytes a write pushes out (`toDropped`, `clipTo_append_eq`), the plain
    append below the limit.

    Everything is proved for an arbitrary capacity `m` first (`lastN`): tactics that meet the literal `65536` next to an
    unknown length try to evaluate `n - 65536` by unfolding and run out of recursion depth. -/
namespace Pm.Dev2

/-- the last `m` elements -/
def lastN {α : Type} (m : Nat) (b : List α) : List α := if m < b.length then b.drop (b.length - m) else b

section generic
variable {α : Type}

theorem lastN_eq_drop (m : Nat) (b : List α) : lastN m b = b.drop (b.length - m) := by
  unfold lastN; split
  · rfl
  · rw [Nat.sub_eq_zero_of_le (by omega)]; rfl

theorem lastN_of_le (m : Nat) (b : List α) (h : b.length ≤ m) : lastN m b = b := by
  unfold lastN; split
  · omega
  · rfl

theorem lastN_length (m : Nat) (b : List α) : (lastN m b).length = min b.length m := by
  unfold lastN; split
  · rw [List.length_drop]; omega
  · omega

theorem lastN_suffix (m : Nat) (b : List α) : lastN m b <:+ b := by
  rw [lastN_eq_drop]; exact List.drop_suffix _ _

theorem lastN_split (m : Nat) (b : List α) : b = b.take (b.length - m) ++ lastN m b := by
  rw [lastN_eq_drop, List.take_append_drop]

theorem lastN_eq_nil_iff (m : Nat) (hm : 0 < m) (b : List α) : lastN m b = [] ↔ b = [] := by
  constructor
  · intro h
    have := lastN_length m b
    rw [h] at this
    simp only [List.length_nil] at this
    exact List.eq_nil_of_length_eq_zero (by omega)
  · intro h; rw [h]; rfl

theorem lastN_isEmpty (m : Nat) (hm : 0 < m) (b : List α) : (lastN m b).isEmpty = b.isEmpty := by
  cases hb : b with
  | nil => rfl
  | cons x xs =>
    cases hc : lastN m (x :: xs) with
    | nil => have := (lastN_eq_nil_iff m hm _).mp hc; cases this
    | cons _ _ => rfl

theorem lastN_lastN_append (m : Nat) (a b : List α) : lastN m (lastN m a ++ b) = lastN m (a ++ b) := by
  by_cases h : a.length ≤ m
  · rw [lastN_of_le m a h]
  · have e : a = a.take (a.length - m) ++ lastN m a := lastN_split m a
    have hd : (lastN m a).length = m := by rw [lastN_length]; omega
    have hl : (a.take (a.length - m)).length = a.length - m := by rw [List.length_take]; omega
    generalize lastN m a = t at e hd
    generalize a.take (a.length - m) = p at e hl
    subst e
    rw [lastN_eq_drop, lastN_eq_drop m (p ++ t ++ b), List.append_assoc]
    have h1 : (p ++ (t ++ b)).length - m = p.length + ((t ++ b).length - m) := by
      simp only [List.length_append] at h ⊢; omega
    rw [h1, ← List.drop_drop, List.drop_left]

theorem lastN_foldl_append (m : Nat) (init : List α) (ws : List (List α)) :
    ws.foldl (fun acc w => lastN m (acc ++ w)) (lastN m init) = lastN m (init ++ ws.flatten) := by
  induction ws generalizing init with
  | nil => simp
  | cons w r ih =>
    simp only [List.foldl_cons, List.flatten_cons]
    rw [lastN_lastN_append, ih, List.append_assoc]

theorem lastN_append_of_fits (m : Nat) (old s : List α) (hs : s.length ≤ m) :
    lastN m (old ++ s) = old.drop ((old ++ s).length - m) ++ s := by
  rw [lastN_eq_drop, List.drop_append]
  have : (old ++ s).length - m - old.length = 0 := by simp only [List.length_append]; omega
  rw [this, List.drop_zero]

theorem lastN_append_of_long (m : Nat) (old s : List α) (hs : m ≤ s.length) : lastN m (old ++ s) = lastN m s := by
  rw [lastN_eq_drop, lastN_eq_drop m s, List.drop_append]
  have h1 : old.length ≤ (old ++ s).length - m := by simp only [List.length_append]; omega
  rw [List.drop_eq_nil_of_le h1, List.nil_append]
  congr 1
  simp only [List.length_append]; omega

theorem lastN_full (m : Nat) (old s : List α) (hf : old.length = m) (hs : s.length ≤ m) :
    lastN m (old ++ s) = old.drop s.length ++ s := by
  rw [lastN_append_of_fits m old s hs]
  congr 2
  simp only [List.length_append]; omega

end generic

/-- `MAX_DEV_BUF` for the output side (the same constant as `devBufMax`) -/
def toMax : Nat := 65536

theorem toMax_eq_devBufMax : toMax = devBufMax := rfl
theorem toMax_val : toMax = 65536 := rfl

theorem clipTo_eq_lastN (b : Bytes) : clipTo b = lastN 65536 b := rfl

theorem clipTo_eq_drop (b : Bytes) : clipTo b = b.drop (b.length - 65536) := lastN_eq_drop 65536 b

theorem clipTo_of_le (b : Bytes) (h : b.length ≤ 65536) : clipTo b = b := lastN_of_le 65536 b h

@[simp] theorem clipTo_nil : clipTo [] = [] := rfl

theorem clipTo_length (b : Bytes) : (clipTo b).length = min b.length 65536 := lastN_length 65536 b

theorem clipTo_length_le (b : Bytes) : (clipTo b).length ≤ 65536 := by
  rw [clipTo_length]; exact Nat.min_le_right _ _

theorem clipTo_length_le_self (b : Bytes) : (clipTo b).length ≤ b.length := by
  rw [clipTo_length]; exact Nat.min_le_left _ _

theorem clipTo_suffix (b : Bytes) : clipTo b <:+ b := lastN_suffix 65536 b

theorem clipTo_split (b : Bytes) : b = b.take (b.length - 65536) ++ clipTo b := lastN_split 65536 b

theorem clipTo_idem (b : Bytes) : clipTo (clipTo b) = clipTo b :=
  clipTo_of_le _ (clipTo_length_le b)

theorem clipTo_eq_nil_iff (b : Bytes) : clipTo b = [] ↔ b = [] := lastN_eq_nil_iff 65536 (by decide) b

theorem clipTo_isEmpty (b : Bytes) : (clipTo b).isEmpty = b.isEmpty := lastN_isEmpty 65536 (by decide) b

/-- overwriting writes compose: what survives of a write behind what survived earlier writes is what survives of everything
    written.  (This is why the telnet filter, which issues one 3-byte `cbuf_write` per answer, can be modelled by one
    `clipTo` of all answers of the pass.) -/
theorem clipTo_clipTo_append (a b : Bytes) : clipTo (clipTo a ++ b) = clipTo (a ++ b) := lastN_lastN_append 65536 a b

/-- the telnet answers are triples: a sequence of single writes is one write of the concatenation -/
theorem clipTo_foldl_append (init : Bytes) (ws : List Bytes) :
    ws.foldl (fun acc w => clipTo (acc ++ w)) (clipTo init) = clipTo (init ++ ws.flatten) :=
  lastN_foldl_append 65536 init ws

/-- the number of oldest bytes a write of `s` behind `old` overwrites: `*ndropped = MAX (0, n - nfree)` of `cbuf_writer`
    after `cbuf_grow` made `nfree = 65536 - |old|` -/
def toDropped (old s : Bytes) : Nat := (old ++ s).length - 65536

theorem toOverrun_iff (old s : Bytes) : toOverrun old s = true ↔ 0 < toDropped old s := by
  unfold toOverrun toDropped; simp only [decide_eq_true_eq]; exact (Nat.sub_pos_iff_lt).symm

theorem toOverrun_false_iff (old s : Bytes) : toOverrun old s = false ↔ (old ++ s).length ≤ 65536 := by
  unfold toOverrun; simp only [decide_eq_false_iff_not]; exact Nat.not_lt

theorem toOverrun_false_of_le (old s : Bytes) (h : (old ++ s).length ≤ 65536) : toOverrun old s = false :=
  (toOverrun_false_iff old s).mpr h

theorem clipTo_append_eq (old s : Bytes) : clipTo (old ++ s) = (old ++ s).drop (toDropped old s) :=
  lastN_eq_drop 65536 (old ++ s)

theorem clipTo_append_of_fits (old s : Bytes) (hs : s.length ≤ 65536) :
    clipTo (old ++ s) = old.drop (toDropped old s) ++ s := lastN_append_of_fits 65536 old s hs

theorem clipTo_append_of_long (old s : Bytes) (hs : 65536 ≤ s.length) : clipTo (old ++ s) = clipTo s :=
  lastN_append_of_long 65536 old s hs

theorem clipTo_full (old s : Bytes) (hf : old.length = 65536) (hs : s.length ≤ 65536) :
    clipTo (old ++ s) = old.drop s.length ++ s := lastN_full 65536 old s hf hs

theorem clipTo_append_of_le (old s : Bytes) (h : (old ++ s).length ≤ 65536) : clipTo (old ++ s) = old ++ s :=
  clipTo_of_le _ h

example : clipTo [1, 2, 3] = [1, 2, 3] := by decide
example : toOverrun [1, 2] [3] = false := by decide
example : (clipTo (List.replicate 65536 7 ++ [1, 2, 3])).length = 65536 := by
  rw [clipTo_length, List.length_append, List.length_replicate]; decide
example : clipTo (List.replicate 65536 7 ++ [1, 2, 3]) = (List.replicate 65536 7).drop 3 ++ [1, 2, 3] :=
  clipTo_full _ _ List.length_replicate (by decide)

end Pm.Dev2

section audit
open Pm.Dev2
#print axioms clipTo_eq_drop
#print axioms clipTo_clipTo_append
#print axioms clipTo_foldl_append
#print axioms clipTo_full
#print axioms clipTo_append_of_long
#print axioms clipTo_isEmpty
end audit
