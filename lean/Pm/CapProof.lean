import Pm.TelnetPass
import Pm.ClientWrite
/-! Helper lemmas for C09 (capacity): the sizes of the input buffers (`liblsd/cbuf.c`, `Pm/Cbuf.lean`) on the read side of
    devices (`device.c:_handle_read`) and clients (`client.c:_handle_read`): what one `read` takes is a prefix of what the
    kernel had, of the planned length; `fromBuf.length ≤ fromSize ≤ max` is kept; the size never decreases; nothing is
    lost below the maximal size; at the maximal size the oldest bytes give way; and the device's short writes. -/
namespace Pm.Dev2.Cap
open Pm.Dev2 Pm.Dev2.Tel
open Pm.Dev2.Login2 (postPollReady postPollReconnect postPollPing)

/-- the capacity invariant of `dev->from`: what is unread fits; the size is between `MIN_DEV_BUF` and `MAX_DEV_BUF` -/
structure DevCap (d : Dev) : Prop where
  fits : d.fromBuf.length ≤ d.fromSize
  min : 1024 ≤ d.fromSize
  max : d.fromSize ≤ devBufMax

theorem keptOf_length_le (d : Dev) (bs : Bytes) : (keptOf d bs).length ≤ bs.length := by
  unfold keptOf; split
  · exact Nat.le_refl _
  · exact decodeFrom_kept_le bs _ _

theorem plan_facts (d : Dev) (r : Option Bytes) (h : DevCap d) :
    d.fromSize ≤ (devReadPlan d r).2.1 ∧ (devReadPlan d r).2.1 ≤ devBufMax ∧
    (devReadPlan d r).2.2 ≤ d.fromBuf.length ∧
    d.fromBuf.length - (devReadPlan d r).2.2 + (devReadPlan d r).1 ≤ (devReadPlan d r).2.1 :=
  Pm.Cbuf.readPlan_cap h.fits (Nat.le_trans (by decide) h.min) h.max _

theorem handleReady_fromBuf (c : CS) :
    (handleReady c).1.dev.fromBuf = c.dev.fromBuf.drop (readDropped c) ++ keptOf c.dev (readTaken c) := by
  rcases handleReady_bytes c with ⟨h1, t, k, e⟩ | ⟨n, size, δ, hb⟩
  · rw [e, t, k, keptOf_nil, List.append_nil]; exact (readyFinish_bufs c h1).fromBuf
  · rw [hb.dev, takeIn_eq]; rfl

theorem handleReady_devCap (c : CS) (h : DevCap c.dev) :
    DevCap (handleReady c).1.dev ∧ c.dev.fromSize ≤ (handleReady c).1.dev.fromSize := by
  rcases handleReady_bytes c with ⟨h1, _, _, e⟩ | ⟨n, size, δ, hb⟩
  · have f := readyFinish_bufs c h1
    have f3 := f.fromSize
    rw [e]; exact ⟨⟨by rw [f.fromBuf, f3]; exact h.fits, by rw [f3]; exact h.min, by rw [f3]; exact h.max⟩, Nat.le_of_eq f3.symm⟩
  · have hfb := handleReady_fromBuf c
    have hsz : (handleReady c).1.dev.fromSize = size := by rw [hb.dev, takeIn_eq]
    have hz := hb.grown
    have hk := keptOf_length_le c.dev (readTaken c)
    obtain ⟨p1, p2, _, _⟩ := plan_facts c.dev none h
    -- what is pending afterwards fits the size the buffer has then: the plan of the `read` makes room for what it lets through
    have fit : (c.dev.fromBuf.drop (readDropped c) ++ keptOf c.dev (readTaken c)).length ≤ size ∧ c.dev.fromSize ≤ size ∧
        size ≤ devBufMax := by
      rw [List.length_append, List.length_drop]
      rcases taken_cases c with ⟨t, k⟩ | ⟨bs, _, hbs, _, t, k⟩
      · rw [t] at hk ⊢
        rw [k]
        simp only [List.length_nil] at hk
        have := h.fits; have := h.max
        rcases hz with ⟨hz, _⟩ | hz <;> omega
      · have hne : readTaken c ≠ [] := by rw [t]; exact readOf_ne_nil _ _ hbs
        have hz : size = (devReadPlan c.dev (some bs)).2.1 :=
          (hz.resolve_left fun x => hne x.2).trans (Pm.Cbuf.readPlan_size_indep ..)
        obtain ⟨q1, q2, q3, q4⟩ := plan_facts c.dev (some bs) h
        rw [t] at hk ⊢
        rw [readOf_length] at hk
        rw [k, hz]; unfold dropOf
        omega
    exact ⟨⟨by rw [hfb, hsz]; exact fit.1, by rw [hsz]; exact Nat.le_trans h.min fit.2.1, by rw [hsz]; exact fit.2.2⟩,
      by rw [hsz]; exact fit.2.1⟩

theorem readTaken_prefix (c : CS) (bs : Bytes) (hr : c.env.read = some (some bs)) :
    readTaken c = [] ∨
    readTaken c = bs.take (Pm.Cbuf.readPlan c.dev.fromSize c.dev.fromBuf.length devBufMax bs.length).1 := by
  rcases taken_cases c with ⟨t, _⟩ | ⟨bs', hr', _, _, t, _⟩
  · exact .inl t
  · obtain rfl : bs' = bs := Option.some.inj (Option.some.inj (hr'.symm.trans hr))
    exact .inr t

theorem readTaken_isPrefix (c : CS) (bs : Bytes) (hr : c.env.read = some (some bs)) : readTaken c <+: bs := by
  rcases readTaken_prefix c bs hr with h | h <;> rw [h]
  · exact List.nil_prefix
  · exact List.take_prefix _ _

theorem readTaken_nodata (c : CS) (h : ∀ bs, c.env.read ≠ some (some bs)) : readTaken c = [] := by
  rcases taken_cases c with ⟨t, _⟩ | ⟨bs, hr, _⟩
  · exact t
  · exact absurd hr (h bs)

theorem readDropped_of_room (c : CS) (h : c.dev.fromBuf.length < c.dev.fromSize) : readDropped c = 0 := by
  rcases taken_cases c with ⟨_, h0⟩ | ⟨bs, _, _, _, _, hd⟩
  · exact h0
  · rw [hd]; unfold dropOf devReadPlan
    exact Pm.Cbuf.readPlan_dropped_of_room _ _ _ _ h

/-- when bytes are lost the buffer has just reached (or had) its maximal size -/
theorem readDropped_pos (c : CS) (h0 : readDropped c ≠ 0) :
    ∃ bs, c.env.read = some (some bs) ∧ bs ≠ [] ∧ readDropped c = dropOf c.dev bs ∧ readTaken c = readOf c.dev bs ∧
      (handleReady c).1.dev.fromSize = sizeAfter c.dev bs := by
  rcases taken_cases c with ⟨_, k⟩ | ⟨bs, hr, hbs, _, t, k⟩
  · exact absurd k h0
  · refine ⟨bs, hr, hbs, k, t, ?_⟩
    have hne : readTaken c ≠ [] := by rw [t]; exact readOf_ne_nil _ _ hbs
    rcases handleReady_bytes c with ⟨_, _, k0, _⟩ | ⟨n, size, δ, hb⟩
    · exact absurd k0 h0
    · rw [hb.dev, takeIn_eq]
      exact (hb.grown.resolve_left fun x => hne x.2).trans (Pm.Cbuf.readPlan_size_indep ..)

theorem readDropped_eq (c : CS) :
    readDropped c = (readTaken c).length - ((handleReady c).1.dev.fromSize - c.dev.fromBuf.length) ∨ readDropped c = 0 := by
  by_cases h0 : readDropped c = 0
  · exact Or.inr h0
  obtain ⟨bs, _, _, hd, ht, hs⟩ := readDropped_pos c h0
  left
  rw [hd, ht, hs, readOf_length]
  unfold dropOf sizeAfter devReadPlan
  exact Pm.Cbuf.readPlan_dropped_eq _ _ _ _

theorem readDropped_below_max (c : CS) (hf : c.dev.fromBuf.length ≤ c.dev.fromSize)
    (h : (handleReady c).1.dev.fromSize < devBufMax) : readDropped c = 0 := by
  apply Classical.byContradiction
  intro h0
  obtain ⟨bs, _, _, hd, _, hs⟩ := readDropped_pos c h0
  apply h0
  rw [hd]; unfold dropOf devReadPlan
  rw [hs] at h; unfold sizeAfter devReadPlan at h
  exact Pm.Cbuf.readPlan_dropped_of_lt_max _ _ _ _ hf h

theorem handleReady_no_loss (c : CS) (hf : c.dev.fromBuf.length ≤ c.dev.fromSize)
    (h : c.dev.fromBuf.length < c.dev.fromSize ∨ (handleReady c).1.dev.fromSize < devBufMax) :
    readDropped c = 0 ∧ (handleReady c).1.dev.fromBuf = c.dev.fromBuf ++ keptOf c.dev (readTaken c) := by
  have h0 : readDropped c = 0 := h.elim (readDropped_of_room c) (readDropped_below_max c hf)
  exact ⟨h0, by rw [handleReady_fromBuf, h0, List.drop_zero]⟩

theorem readDropped_full (c : CS) (hs : c.dev.fromSize = devBufMax) (hfull : c.dev.fromBuf.length = devBufMax) :
    readDropped c = (readTaken c).length ∧ (readTaken c).length ≤ 1000 ∧
    ∀ bs, c.env.read = some (some bs) → readTaken c = [] ∨ readTaken c = bs.take 1000 := by
  have plan : ∀ bs : Bytes, devReadPlan c.dev (some bs) = (min 1000 bs.length, devBufMax, min 1000 bs.length) := by
    intro bs; unfold devReadPlan; rw [hs, hfull]; exact Pm.Cbuf.readPlan_full_at_max _ _
  have htake : ∀ bs : Bytes, readOf c.dev bs = bs.take 1000 := by
    intro bs; unfold readOf devReadPlan; rw [hs, hfull]; exact Pm.Cbuf.readPlan_full_take _ bs
  rcases taken_cases c with ⟨ht, hd⟩ | ⟨bs, hr, _, _, ht, hd⟩
  · rw [ht, hd]; exact ⟨rfl, by simp, fun _ _ => Or.inl rfl⟩
  · refine ⟨?_, ?_, fun bs' hr' => ?_⟩
    · rw [hd, ht, readOf_length]; unfold dropOf; rw [plan]
    · rw [ht, htake, List.length_take]; omega
    · rw [hr] at hr'; cases hr'; right; rw [ht, htake]

/-! ### the size of the input buffer is touched by `_handle_read` only -/

theorem finishConnectOne_fromSize (c : CS) : (finishConnectOne c).1.dev.fromSize = c.dev.fromSize :=
  (finishConnectOne_frame c).dev.fromSize
theorem connectOne_fromSize (c : CS) : (connectOne c).1.dev.fromSize = c.dev.fromSize := (connectOne_frame c).dev.fromSize
theorem enqueueLogin_fromSize (d : Dev) : (enqueueLogin d).fromSize = d.fromSize := rfl
/-- the capacity invariant of the input buffer, with the size it has reached -/
theorem keeps_devCap (n : Nat) : Keeps fun d => DevCap d ∧ d.fromSize = n where
  script := @fun d d' h hc => by
    obtain ⟨k, hk⟩ := h.taken
    have hs := h.fromSize
    exact ⟨⟨by rw [hk, hs, List.length_drop]; exact Nat.le_trans (Nat.sub_le _ _) hc.1.fits, by rw [hs]; exact hc.1.min,
      by rw [hs]; exact hc.1.max⟩, hs.trans hc.2⟩
  link := @fun f d d' h hc => by
    refine ⟨⟨?_, by rw [h.fromSize]; exact hc.1.min, by rw [h.fromSize]; exact hc.1.max⟩, h.fromSize.trans hc.2⟩
    rw [h.fromSize]
    rcases h.flushed_or_kept with e | ⟨_, e, _⟩
    · rw [e.1]; exact Nat.zero_le _
    · rw [e]; exact hc.1.fits

theorem postPoll_devCap (d : Dev) (env : Env) (o : Oracle) (h : DevCap d) :
    DevCap (postPoll d env o).1.dev ∧ d.fromSize ≤ (postPoll d env o).1.dev.fromSize := by
  have h1 : DevCap (postPollReady d env).1.dev ∧ d.fromSize ≤ (postPollReady d env).1.dev.fromSize := by
    rcases postPollReady_cases d env with ⟨e, _⟩ | ⟨_, e, _⟩ <;> rw [e]
    · exact ⟨h, Nat.le_refl _⟩
    · exact handleReady_devCap (ppC0 d env) h
  have := postPoll_keeps (keeps_devCap _) d env o ⟨h1.1, rfl⟩
  exact ⟨this.1, by rw [this.2]; exact h1.2⟩

theorem postPoll_fromSize (d : Dev) (env : Env) (o : Oracle) :
    (postPoll d env o).1.dev.fromSize = (postPollReady d env).1.dev.fromSize :=
  postPoll_keeps (I := fun x => x.fromSize = (postPollReady d env).1.dev.fromSize)
    ⟨fun h hc => h.fromSize.trans hc, fun h hc => h.fromSize.trans hc⟩ d env o rfl

theorem passDropped_zero (d : Dev) (env : Env) (o : Oracle) (hf : d.fromBuf.length ≤ d.fromSize)
    (h : d.fromBuf.length < d.fromSize ∨ (postPoll d env o).1.dev.fromSize < devBufMax) : passDropped d env = 0 := by
  rcases postPollReady_cases d env with ⟨_, _, k⟩ | ⟨_, e, _, k⟩ <;> rw [k]
  exact (handleReady_no_loss (ppC0 d env) hf (h.imp_right fun h => by rw [postPoll_fromSize, e] at h; exact h)).1

theorem short_write (c : CS) (h : ReadyOk c) (hout : c.env.revents &&& 2 ≠ 0) (hin : c.env.revents &&& 1 = 0)
    (hc : c.dev.conn ≠ 1) (hb : c.dev.toBuf ≠ []) (hw : c.env.writeOk = true) :
    (c.env.wcap ≠ 0 → (handleReady c).2 = false ∧
      ∃ wr, wr ≠ [] ∧ wr.length = min c.env.wcap c.dev.toBuf.length ∧ (handleReady c).1.sys = c.sys ++ [.write wr true] ∧
        wr ++ (handleReady c).1.dev.toBuf = c.dev.toBuf) ∧
    (c.env.wcap = 0 → (handleReady c).2 = true ∧ (handleReady c).1.sys = c.sys ++ [.write [] true] ∧
      (handleReady c).1.dev.toBuf = c.dev.toBuf) := by
  rw [handleReady_write_only c h hout hin hc hb, hw]
  simp only [↓reduceIte]
  constructor
  · intro hcap
    have hcap' : (c.env.wcap == 0) = false := by simpa using hcap
    simp only [hcap', Bool.false_eq_true, ↓reduceIte]
    refine ⟨trivial, c.dev.toBuf.take c.env.wcap, ?_, List.length_take, rfl, List.take_append_drop _ _⟩
    cases hb' : c.dev.toBuf with
    | nil => exact absurd hb' hb
    | cons x xs =>
      cases hwc : c.env.wcap with
      | zero => exact absurd hwc hcap
      | succ n => simp
  · intro hcap
    have hcap' : (c.env.wcap == 0) = true := by simpa using hcap
    simp only [hcap', ↓reduceIte]
    exact ⟨trivial, trivial, trivial⟩

/-! ### a concrete overflow, for the non-vacuity example of `Props/C09` (65536-element lists are beyond `decide`) -/
namespace Ex

/-- a connected coprocess device whose input buffer holds `MAX_DEV_BUF` unconsumed bytes (all `a`), readable, the kernel
    has `x y z` -/
def fullPipe : CS :=
  { dev := { plugs := [], scripts := fun _ => none, timeout := 0, acts := [], toBuf := [], fromBuf := List.replicate 65536 97,
             xmStr := none, xmOffs := [], xmResult := false, xmUsed := false, args := [], nextUid := 0,
             shortCircuitDelay := false, conn := 2, fd := some 7, isPipe := true, fromSize := 65536 },
    env := { now := 0, revents := 1, sockets := [], connects := [], soerrs := [], read := some (some [120, 121, 122]),
             writeOk := true },
    sys := [] }

theorem fullPipe_cap : DevCap fullPipe.dev := ⟨by show (List.replicate 65536 (97 : UInt8)).length ≤ 65536; rw [List.length_replicate]; exact Nat.le_refl _, by decide, by decide⟩

theorem fullPipe_spec :
    readDropped fullPipe = 3 ∧ readTaken fullPipe = [120, 121, 122] ∧
    (handleReady fullPipe).1.dev.fromBuf = List.replicate 65533 97 ++ [120, 121, 122] ∧
    (handleReady fullPipe).1.dev.fromSize = 65536 := by
  have hs : fullPipe.dev.fromSize = devBufMax := rfl
  have hfull : fullPipe.dev.fromBuf.length = devBufMax := by
    show (List.replicate 65536 (97 : UInt8)).length = 65536; rw [List.length_replicate]
  obtain ⟨h1, _, h3⟩ := readDropped_full fullPipe hs hfull
  have ht : readTaken fullPipe = [120, 121, 122] := by
    have e := readTaken_eq fullPipe [120, 121, 122] (by decide) (by decide) (by decide) (by decide) (by decide) (by decide) rfl
    rcases h3 [120, 121, 122] rfl with h | h
    · rw [e] at h; exact absurd h (readOf_ne_nil _ _ (by simp))
    · rw [h]; rfl
  have hd : readDropped fullPipe = 3 := by rw [h1, ht]; rfl
  refine ⟨hd, ht, ?_, ?_⟩
  · rw [handleReady_fromBuf, hd, ht]
    show List.drop 3 (List.replicate 65536 (97 : UInt8)) ++ keptOf fullPipe.dev [120, 121, 122] = _
    rw [List.drop_replicate]
    rfl
  · have := handleReady_devCap fullPipe fullPipe_cap
    have h1 := this.1.max
    have h2 := this.2
    rw [hs] at h2
    exact Nat.le_antisymm h1 h2

end Ex

end Pm.Dev2.Cap

namespace Pm.Daemon.Cap
open Pm Pm.Client Pm.Daemon Pm.Daemon.ClientPf

/-- the capacity invariant of `c->from`: what is unread fits; the size is between `MIN_CLIENT_BUF` and `MAX_CLIENT_BUF` -/
structure CliCap (c : Cli) : Prop where
  fits : c.fromBuf.length ≤ c.fromSize
  min : 1024 ≤ c.fromSize
  max : c.fromSize ≤ cliBufMax

/-- the read stage of `clientPass` (`_handle_read`): the capacity half, then the bytes -/
def cliRead (w : W) (c : Cli) (e : Option FdEnv) : W × Cli := cpRead w (clipC c e) (clipE c e)

/-- what the kernel has to hand out: nothing on an error or at end of file -/
def cliAvail (e : FdEnv) : Nat := if e.rk == 1 || e.rk == 2 then 0 else e.data.length
/-- the bytes one `read` takes: the first `n` of what the kernel had, `n` as planned by `Pm.Cbuf.readPlan` -/
def cliTaken (c : Cli) (e : FdEnv) : Bytes := if e.rk == 1 || e.rk == 2 then [] else e.data.take (cliReadPlan c e).1
/-- the number of oldest unread bytes that `read` overwrites -/
def cliDropped (c : Cli) (e : FdEnv) : Nat := (cliReadPlan c e).2.2
/-- the size of the input buffer afterwards -/
def cliSizeAfter (c : Cli) (e : FdEnv) : Nat := (cliReadPlan c e).2.1

theorem cliReadPlan_eq (c : Cli) (e : FdEnv) :
    cliReadPlan c e = Pm.Cbuf.readPlan c.fromSize c.fromBuf.length cliBufMax (cliAvail e) := rfl

theorem cliTaken_length (c : Cli) (e : FdEnv) : (cliTaken c e).length = (cliReadPlan c e).1 := by
  have h := Pm.Cbuf.readPlan_n_le_avail c.fromSize c.fromBuf.length cliBufMax (cliAvail e)
  rw [← cliReadPlan_eq] at h
  unfold cliTaken
  unfold cliAvail at h
  split
  · rename_i hk; simp only [hk, ↓reduceIte] at h; simp; omega
  · rename_i hk; simp only [hk, Bool.false_eq_true, ↓reduceIte] at h
    rw [List.length_take]; omega

theorem cliTaken_prefix (c : Cli) (e : FdEnv) : cliTaken c e <+: e.data := by
  unfold cliTaken; split
  · exact List.nil_prefix
  · exact List.take_prefix _ _

theorem cliDropped_le_taken (c : Cli) (e : FdEnv) : cliDropped c e ≤ (cliTaken c e).length := by
  rw [cliTaken_length]; exact Pm.Cbuf.readPlan_dropped_le_n _ _ _ _

theorem cliRead_spec (w : W) (c : Cli) (e : FdEnv) :
    (cliRead w c (some e)).2.fromBuf = c.fromBuf.drop (cliDropped c e) ++ cliTaken c e ∧
    (cliRead w c (some e)).2.fromSize = cliSizeAfter c e ∧
    (cliRead w c (some e)).1.sys = w.sys ++ [Sys.read c.fd
      (if e.rk == 1 then -1 else if e.rk == 2 then 0 else if (cliTaken c e).isEmpty then -1 else ((cliTaken c e).length : Int))] ∧
    (cliRead w c (some e)).2.quit = (c.quit || (cliTaken c e).isEmpty) := by
  have hd := cliDropped_le_taken c e
  unfold cliRead cpRead clipC clipE clipCli clipEnv
  simp only [Option.map_some]
  unfold cliTaken cliSizeAfter at *
  unfold cliDropped at *
  by_cases h1 : (e.rk == 1) = true
  · simp only [h1, Bool.true_or, ↓reduceIte, List.length_nil, Nat.le_zero_eq] at hd ⊢
    simp [hd]
  · by_cases h2 : (e.rk == 2) = true
    · simp only [h1, h2, Bool.or_true, ↓reduceIte, List.length_nil, Nat.le_zero_eq, Bool.false_eq_true] at hd ⊢
      simp [hd]
    · simp only [h1, h2, Bool.or_self, Bool.false_eq_true, ↓reduceIte] at hd ⊢
      by_cases h3 : (e.data.take (cliReadPlan c e).1).isEmpty = true
      · simp only [h3, ↓reduceIte]
        have : e.data.take (cliReadPlan c e).1 = [] := by simpa using h3
        rw [this] at hd ⊢
        simp only [List.length_nil, Nat.le_zero_eq] at hd
        simp [hd]
      · simp only [h3, Bool.false_eq_true, ↓reduceIte]
        simp

theorem cliRead_none (w : W) (c : Cli) : cliRead w c none = (w, c) := rfl

theorem cliPlan_facts (c : Cli) (e : FdEnv) (h : CliCap c) :
    c.fromSize ≤ cliSizeAfter c e ∧ cliSizeAfter c e ≤ cliBufMax ∧ cliDropped c e ≤ c.fromBuf.length ∧
    c.fromBuf.length - cliDropped c e + (cliTaken c e).length ≤ cliSizeAfter c e := by
  rw [cliTaken_length]
  exact Pm.Cbuf.readPlan_cap h.fits (Nat.le_trans (by decide) h.min) h.max _

theorem cliRead_cap (w : W) (c : Cli) (e : Option FdEnv) (h : CliCap c) :
    CliCap (cliRead w c e).2 ∧ c.fromSize ≤ (cliRead w c e).2.fromSize := by
  cases e with
  | none => rw [cliRead_none]; exact ⟨h, Nat.le_refl _⟩
  | some e =>
    obtain ⟨s1, s2, _, _⟩ := cliRead_spec w c e
    obtain ⟨p1, p2, p3, p4⟩ := cliPlan_facts c e h
    refine ⟨⟨?_, ?_, ?_⟩, ?_⟩
    · rw [s1, s2, List.length_append, List.length_drop]; exact p4
    · rw [s2]; have := h.min; omega
    · rw [s2]; exact p2
    · rw [s2]; exact p1

theorem clientPass_cap (w : W) (c : Cli) (e : Option FdEnv) (c' : Cli) (h : CliCap c) (hc : (clientPass w c e).2 = some c') :
    CliCap c' ∧ c.fromSize ≤ c'.fromSize := by
  -- a stage that leaves the size alone and does not make the pending bytes more
  have keep {c x : Cli} (hs : x.fromSize = c.fromSize) (hl : x.fromBuf.length ≤ c.fromBuf.length) (hc : CliCap c) :
      CliCap x ∧ c.fromSize ≤ x.fromSize :=
    ⟨⟨by rw [hs]; exact Nat.le_trans hl hc.fits, by rw [hs]; exact hc.min, by rw [hs]; exact hc.max⟩, Nat.le_of_eq hs.symm⟩
  have trans {c : Cli} {r r' : W × Cli} (h1 : CliCap c → CliCap r.2 ∧ c.fromSize ≤ r.2.fromSize)
      (h2 : CliCap r.2 → CliCap r'.2 ∧ r.2.fromSize ≤ r'.2.fromSize) (hc : CliCap c) : CliCap r'.2 ∧ c.fromSize ≤ r'.2.fromSize :=
    ⟨(h2 (h1 hc).1).1, Nat.le_trans (h1 hc).2 (h2 (h1 hc).1).2⟩
  exact ClientPf.clientPass_alive (R := fun _ c r => CliCap c → CliCap r.2 ∧ c.fromSize ≤ r.2.fromSize)
    (fun _ _ => keep rfl (Nat.le_refl _)) trans (fun w c e => cliRead_cap w c e)
    (fun w c => by obtain ⟨_, _, _, _, _, e⟩ := handleWrite_only w c; rw [e]; exact keep rfl (Nat.le_refl _))
    (handleInput_walk (R := fun _ c r => CliCap c → CliCap r.2 ∧ c.fromSize ≤ r.2.fromSize) (fun _ _ => keep rfl (Nat.le_refl _)) trans
      (fun _ c n => keep rfl (by rw [List.length_drop]; exact Nat.sub_le _ _))
      fun w c l => keep (parseLine_frame w c l).fromSize (Nat.le_of_eq (congrArg List.length (parseLine_frame w c l).fromBuf)))
    hc h

theorem cliDropped_of_room (c : Cli) (e : FdEnv) (h : c.fromBuf.length < c.fromSize) : cliDropped c e = 0 := by
  unfold cliDropped; rw [cliReadPlan_eq]; exact Pm.Cbuf.readPlan_dropped_of_room _ _ _ _ h

theorem cliDropped_below_max (c : Cli) (e : FdEnv) (hf : c.fromBuf.length ≤ c.fromSize)
    (h : cliSizeAfter c e < cliBufMax) : cliDropped c e = 0 := by
  unfold cliDropped cliSizeAfter at *; rw [cliReadPlan_eq] at *
  exact Pm.Cbuf.readPlan_dropped_of_lt_max _ _ _ _ hf h

theorem cliRead_no_loss (w : W) (c : Cli) (e : FdEnv) (hf : c.fromBuf.length ≤ c.fromSize)
    (h : c.fromBuf.length < c.fromSize ∨ cliSizeAfter c e < cliBufMax) :
    cliDropped c e = 0 ∧ (cliRead w c (some e)).2.fromBuf = c.fromBuf ++ cliTaken c e := by
  have h0 : cliDropped c e = 0 := h.elim (cliDropped_of_room c e) (cliDropped_below_max c e hf)
  exact ⟨h0, by rw [(cliRead_spec w c e).1, h0, List.drop_zero]⟩

theorem cliDropped_eq (c : Cli) (e : FdEnv) :
    cliDropped c e = (cliTaken c e).length - (cliSizeAfter c e - c.fromBuf.length) := by
  rw [cliTaken_length]; unfold cliDropped cliSizeAfter; rw [cliReadPlan_eq]
  exact Pm.Cbuf.readPlan_dropped_eq _ _ _ _

theorem cli_full (c : Cli) (e : FdEnv) (hs : c.fromSize = cliBufMax) (hfull : c.fromBuf.length = cliBufMax) :
    cliSizeAfter c e = cliBufMax ∧ cliDropped c e = (cliTaken c e).length ∧
    cliTaken c e = if e.rk == 1 || e.rk == 2 then [] else e.data.take 1000 := by
  have plan : cliReadPlan c e = (min 1000 (cliAvail e), cliBufMax, min 1000 (cliAvail e)) := by
    rw [cliReadPlan_eq, hs, hfull]; exact Pm.Cbuf.readPlan_full_at_max _ _
  refine ⟨by unfold cliSizeAfter; rw [plan], by rw [cliTaken_length]; unfold cliDropped; rw [plan], ?_⟩
  unfold cliTaken
  split
  · rfl
  · rename_i hk
    rw [cliReadPlan_eq, hs, hfull]
    unfold cliAvail
    rw [if_neg hk]
    exact Pm.Cbuf.readPlan_full_take _ _

end Pm.Daemon.Cap
