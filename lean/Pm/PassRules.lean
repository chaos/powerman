import Pm.ClientLine
/-! One pass of the daemon, cut once, and the inductions over it.

    `daemonPass` is `cliPostPoll` (accept, then one `cliStep` per client), then the device phase `devPhase`: one `devPass` per
    device over an accumulator that holds the processed devices apart from the world, then the write-back.

    To show that a pass keeps a property: show it of the client phase with `cliPostPoll_induct` or `cliPostPoll_keeps` (the
    `accept` step at their start: `cliAccept_shape` and its table readings), then apply `daemonPass_keeps` (or `_alive`) with the
    turn of one device, which sees the world as `worldAt a rest` (processed devices, then the devices to come) and is opened with
    `worldAt_devPass`.  `devPhase_keeps` / `devPhase_keeps_alive` are the device phase alone; `PhaseFrame` / `devPhase_frame` say
    what the device phase leaves alone whatever the devices do. -/
namespace Pm.Daemon
open Pm Pm.Client
open Pm.Dev2 (Oracle CS Env Dev)

/-- the kernel answers as device `nd` sees them in this pass -/
def devEnv (p : PassIn) (w : W) (nd : Bytes × Dev) : Env :=
  let d := { nd.2 with args := w.store }
  let env := mkDevEnv w d p.now p.con p.soe p.envs
  match Pm.Dev2.prePoll d with
  | some (_, f) => { env with revents := (env.revents &&& f) ||| (env.revents &&& 28) }
  | none => { env with revents := 0 }

/-- one device's own `dev_post_poll` share: its state with the shared store plugged in, its kernel answers, the oracle -/
def devStep (p : PassIn) (w : W) (o : Oracle) (nd : Bytes × Dev) : CS × Oracle × List Pm.Dev2.Out × Option Nat :=
  Pm.Dev2.postPoll { nd.2 with args := w.store } (devEnv p w nd) o

/-- the world after the device's step, before its callbacks are delivered -/
def afterStep (w : W) (c : CS) : W :=
  { w with store := c.dev.args, nsock := w.nsock + countSock c.sys, npair := w.npair + countPair c.sys, nfork := w.nfork + countFork c.sys }

def isAbortMsg (msgs : List String) : Bool := msgs.any (·.startsWith "O ABORT")

theorem devPass_alive (p : PassIn) (a : DevAcc) (nd : Bytes × Dev) (hd : a.dead = false) :
    devPass p a nd =
      let r := devStep p a.w a.oracle nd
      let x := applyOuts (afterStep a.w r.1) nd.1 r.2.2.1
      { w := x.1, ylines := a.ylines ++ showSys [] r.1.sys (nd.2.fd.getD 0), msgs := a.msgs ++ x.2, tmo := minOpt a.tmo r.2.2.2,
        oracle := r.2.1, devs := a.devs ++ [(nd.1, r.1.dev)], dead := r.1.aborted || isAbortMsg x.2 } := by
  unfold devPass devStep devEnv afterStep isAbortMsg
  rw [if_neg (by rw [hd]; exact Bool.false_ne_true)]
  rfl

theorem devPass_dead (p : PassIn) (a : DevAcc) (nd : Bytes × Dev) (hd : a.dead = true) :
    devPass p a nd = { a with devs := a.devs ++ [nd] } := by
  unfold devPass
  rw [if_pos hd]

/-- the initial accumulator of the device phase -/
def acc0 (w0 : W) : DevAcc :=
  { w := w0, ylines := showSys w0.sys [], msgs := [], tmo := none, oracle := { calls := w0.pendingX }, devs := [], dead := false }

/-! ### the abort flag is sticky -/

theorem devPass_dead_sticky (p : PassIn) (a : DevAcc) (nd : Bytes × Dev) (h : a.dead = true) : (devPass p a nd).dead = true := by
  rw [devPass_dead _ _ _ h]; exact h

theorem foldl_dead_sticky (p : PassIn) (l : List (Bytes × Dev)) (a : DevAcc) (h : a.dead = true) : (l.foldl (devPass p) a).dead = true :=
  List.foldlRecOn (motive := fun a => a.dead = true) l _ h fun a ha nd _ => devPass_dead_sticky p a nd ha

theorem alive_of_foldl (p : PassIn) (l : List (Bytes × Dev)) (a : DevAcc) (h : (l.foldl (devPass p) a).dead = false) : a.dead = false := by
  cases hd : a.dead with
  | false => rfl
  | true => rw [foldl_dead_sticky p l a hd] at h; exact absurd h (by simp)

namespace Isolation

/-- the world as it stands when the device phase has processed `a.devs` and still has `rest` to do (`daemonPass` writes the
    device list back only at the end).  (Namespace `Isolation`: the statements of C11 use it under that name; it goes with `devPhase`
    and `acc0`.) -/
def worldAt (a : DevAcc) (rest : List (Bytes × Dev)) : W := { a.w with devs := a.devs ++ rest }

theorem worldAt_acc0 (w0 : W) : worldAt (acc0 w0) w0.devs = w0 := by
  simp [worldAt, acc0]

theorem mem_worldAt (a : DevAcc) (nd : Bytes × Dev) (rest : List (Bytes × Dev)) : nd ∈ (worldAt a (nd :: rest)).devs :=
  List.mem_append_right _ (List.mem_cons_self ..)

end Isolation
open Isolation (worldAt worldAt_acc0 mem_worldAt)

/-- a device's turn in a pass that is alive, as a step of the world: the device's own `dev_post_poll` on the shared store, the
    store and the counters written back, the callbacks delivered to the clients, the device's entry replaced -/
theorem worldAt_devPass (p : PassIn) (a : DevAcc) (nd : Bytes × Dev) (rest : List (Bytes × Dev)) (hd : a.dead = false) :
    worldAt (devPass p a nd) rest =
      { (applyOuts (afterStep a.w (devStep p a.w a.oracle nd).1) nd.1 (devStep p a.w a.oracle nd).2.2.1).1 with
        devs := a.devs ++ (nd.1, (devStep p a.w a.oracle nd).1.dev) :: rest } := by
  rw [devPass_alive p a nd hd]
  simp [worldAt]

theorem worldAt_dead (p : PassIn) (a : DevAcc) (nd : Bytes × Dev) (rest : List (Bytes × Dev)) (hd : a.dead = true) :
    worldAt (devPass p a nd) rest = worldAt a (nd :: rest) := by
  rw [devPass_dead _ _ _ hd]; simp [worldAt]

/-! ### `accept` -/

/-- what `accept` appended to the table and did to the counters: nothing was appended and the `accept` counter stands; or the new
    client was appended, both counters moved by one and the descriptor handed out was logged -/
def AcceptCase (w : W) (new : List Cli) (k n : Nat) (ev : List Sys) : Prop :=
  (new = [] ∧ n = 0) ∨ (new = [ClientPf.newClient w] ∧ k = 1 ∧ n = 1 ∧ ev = [Sys.accept (1000 + w.nacc : Nat)])

theorem AcceptCase.new {w : W} {new : List Cli} {n k : Nat} {ev : List Sys} (h : AcceptCase w new k n ev) :
    ∀ x ∈ new, x = ClientPf.newClient w := by
  rcases h with ⟨e, _⟩ | ⟨e, _⟩ <;> rw [e]
  · exact fun _ hx => (nomatch hx)
  · exact fun _ hx => List.mem_singleton.mp hx

/-- **the `accept` step of `cli_post_poll`**, its three cases in one equation: the table gets `new` appended (nothing, or the new
    client), the id counter moves by `k`, the `accept` counter by `n`, and `ev` (calls of `accept` only) is logged.  Field facts:
    `obtain ⟨new, k, n, ev, _, _, e⟩ := cliAccept_shape w acc; rw [e]`; table facts: `cliAccept_rec`, `cliAccept_rec_cases`,
    `cliAccept_rec_cmd`. -/
theorem cliAccept_shape (w : W) (acc : Nat) : ∃ (new : List Cli) (k n : Nat) (ev : List Sys),
    AcceptCase w new k n ev ∧ (∀ s ∈ ev, ∃ x, s = Sys.accept x) ∧
    ClientPf.cliAccept w acc =
      { w with clients := w.clients ++ new, nextId := w.nextId + k, nacc := w.nacc + n, sys := w.sys ++ ev } := by
  unfold ClientPf.cliAccept
  by_cases c1 : (acc == 1) = true
  · rw [if_pos c1]
    exact ⟨_, 1, 1, _, .inr ⟨rfl, rfl, rfl, rfl⟩, fun s hs => ⟨_, List.mem_singleton.mp hs⟩, rfl⟩
  rw [if_neg c1]
  by_cases c2 : (acc == 2) = true
  · rw [if_pos c2]
    exact ⟨[], 1, 0, [Sys.accept (-1)], .inl ⟨rfl, rfl⟩, fun s hs => ⟨_, List.mem_singleton.mp hs⟩, by simp⟩
  · rw [if_neg c2]
    exact ⟨[], 0, 0, [], .inl ⟨rfl, rfl⟩, fun _ hs => (nomatch hs), by simp⟩

theorem cliAccept_rec (w : W) (acc : Nat) (g : Nat) (c : Cli) (h : cliRec w g = some c) :
    cliRec (ClientPf.cliAccept w acc) g = some c := by
  obtain ⟨new, k, n, ev, _, _, e⟩ := cliAccept_shape w acc
  rw [e]
  show (w.clients ++ new).find? (·.id == g) = some c
  rw [List.find?_append, show w.clients.find? (·.id == g) = some c from h]; rfl

theorem cliAccept_rec_cases (w : W) (acc : Nat) (g : Nat) (c : Cli) (h : cliRec (ClientPf.cliAccept w acc) g = some c) :
    cliRec w g = some c ∨ (c = ClientPf.newClient w ∧ g = w.nextId) := by
  obtain ⟨new, _, _, _, hnew, _, e⟩ := cliAccept_shape w acc
  rw [e] at h
  have h : (w.clients ++ new).find? (·.id == g) = some c := h
  rw [List.find?_append] at h
  cases hx : w.clients.find? (·.id == g) with
  | some x => rw [hx] at h; exact .inl (hx.trans h)
  | none =>
    rw [hx] at h
    have h : new.find? (·.id == g) = some c := h
    have hm := hnew.new c (List.mem_of_find?_eq_some h)
    have hid : (c.id == g) = true := List.find?_some (p := fun x : Cli => x.id == g) h
    rw [hm] at hid
    exact .inr ⟨hm, (beq_iff_eq.mp hid).symm⟩

theorem cliAccept_rec_cmd (w : W) (acc : Nat) (g : Nat) (c : Cli) (k : CmdC) (h : cliRec (ClientPf.cliAccept w acc) g = some c)
    (hk : c.cmd = some k) : cliRec w g = some c := by
  rcases cliAccept_rec_cases w acc g c h with h | ⟨rfl, _⟩
  · exact h
  · cases hk

/-! ### the client phase -/

/-- the world the loop of `cli_post_poll` starts from: log and capacities reset, `accept` done -/
abbrev cliStart (w : W) (acc : Nat) (envs : List FdEnv) : W :=
  ClientPf.cliAccept { w with sys := [], caps := envs.map fun (e : FdEnv) => (e.fd, e.cap) } acc

/-- **client phase**: what holds after `accept` and is kept by the turn of every client served holds after `cli_post_poll`.  The
    clients served are those of the table as it stands after `accept` (the loop runs over that list, with the records as they
    were then): `hstep` learns `c0 ∈ (cliStart …).clients`, not that `c0` is in the table of `u`.  Shortest user:
    `ClientPf.cliPostPoll_exited` (ClientStream). -/
theorem cliPostPoll_induct (P : W → Prop) (w : W) (acc : Nat) (envs : List FdEnv) (h0 : P (cliStart w acc envs))
    (hstep : ∀ u, P u → ∀ c0 ∈ (cliStart w acc envs).clients, P (ClientPf.cliStep envs u c0)) : P (cliPostPoll w acc envs) := by
  rw [ClientPf.cliPostPoll_eq]
  exact List.foldlRecOn _ _ h0 hstep

theorem cliStep_keeps_mem (envs : List FdEnv) (w : W) (c0 x : Cli) (hx : x ∈ w.clients) (hne : x.id ≠ c0.id) :
    x ∈ (ClientPf.cliStep envs w c0).clients := by
  unfold ClientPf.cliStep
  refine ite_cases (P := fun u : W => x ∈ u.clients) (fun _ => hx) fun _ => ?_
  obtain ⟨h1, h2⟩ := ClientPf.clientPass_table w c0 (envs.find? (·.fd == c0.fd))
  generalize clientPass w c0 (envs.find? (·.fd == c0.fd)) = r at h1 h2
  obtain ⟨w', o⟩ := r
  cases o with
  | none => exact List.mem_filter.mpr ⟨h1 ▸ hx, by simpa using hne⟩
  | some c =>
    refine List.mem_map.mpr ⟨x, h1 ▸ hx, ?_⟩
    rw [if_neg (by rw [h2 c rfl]; simpa using hne)]

/-- **client phase, for properties that need the client served to be in the table as it stands**: `hstep` learns
    `c0 ∈ u.clients`, the table of the world the turn starts from.  The price is `hnd`: the property has to imply that ids are
    pairwise distinct (a turn replaces or unlinks the records of one id; only then do the records still to be served stay).
    Shortest user: `Isolation.cliPostPoll_ids` (IsolationProof). -/
theorem cliPostPoll_keeps (P : W → Prop) (hnd : ∀ u, P u → (u.clients.map (·.id)).Nodup) (w : W) (acc : Nat) (envs : List FdEnv)
    (h0 : P (cliStart w acc envs)) (hstep : ∀ u c0, P u → c0 ∈ u.clients → P (ClientPf.cliStep envs u c0)) :
    P (cliPostPoll w acc envs) := by
  rw [ClientPf.cliPostPoll_eq]
  have : ∀ (l : List Cli) (u : W), P u → (∀ c ∈ l, c ∈ u.clients) → (l.map (·.id)).Nodup → P (l.foldl (ClientPf.cliStep envs) u) := by
    intro l
    induction l with
    | nil => exact fun _ h _ _ => h
    | cons c r ih =>
      intro u h hl hn
      rw [List.map_cons, List.nodup_cons] at hn
      refine ih _ (hstep u c h (hl c (by simp))) (fun x hx => ?_) hn.2
      exact cliStep_keeps_mem envs u c x (hl x (by simp [hx])) fun e => hn.1 (e ▸ List.mem_map.mpr ⟨x, hx, rfl⟩)
  exact this _ _ h0 (fun _ hc => hc) (hnd _ h0)

/-! ### the device phase -/

/-- `dev_post_poll` and the write-back, from the world `cli_post_poll` leaves -/
def devPhase (p : PassIn) (w0 : W) : W :=
  if w0.exited then w0 else
  let a := w0.devs.foldl (devPass p) (acc0 w0)
  { a.w with devs := a.devs, pendingX := [], tmo := a.tmo }

theorem devPhase_run (p : PassIn) (w0 : W) (h : w0.exited = false) :
    devPhase p w0 = { (w0.devs.foldl (devPass p) (acc0 w0)).w with
      devs := (w0.devs.foldl (devPass p) (acc0 w0)).devs, pendingX := [], tmo := (w0.devs.foldl (devPass p) (acc0 w0)).tmo } :=
  if_neg (by rw [h]; exact Bool.false_ne_true)

theorem daemonPass_world (w : W) (p : PassIn) : (daemonPass w p).1 = devPhase p (cliPostPoll w p.acc p.envs) := by
  unfold devPhase daemonPass acc0
  dsimp only
  split <;> rfl

/-- **the fold of the device phase**: `Q a rest` speaks of the accumulator and of the devices still to come (which
    `List.foldlRecOn` cannot: its motive sees the accumulator only) -/
theorem foldl_devPass_induct (p : PassIn) (Q : DevAcc → List (Bytes × Dev) → Prop)
    (hstep : ∀ a nd rest, Q a (nd :: rest) → Q (devPass p a nd) rest) :
    ∀ (l : List (Bytes × Dev)) (a : DevAcc), Q a l → Q (l.foldl (devPass p) a) [] := by
  intro l
  induction l with
  | nil => exact fun _ h => h
  | cons nd r ih => exact fun a h => ih _ (hstep a nd r h)

theorem devPhase_end (a : DevAcc) :
    ({ a.w with devs := a.devs, pendingX := [], tmo := a.tmo } : W) = { worldAt a [] with pendingX := [], tmo := a.tmo } := by
  simp [worldAt]

/-- **device phase**: a property of the world that the turn of every device keeps (only turns of a pass that is alive have to be
    looked at) and that does not read `pendingX` and `tmo` is kept by the device phase.  `hstep` is opened with `worldAt_devPass`. -/
theorem devPhase_keeps {p : PassIn} (P : W → Prop)
    (hstep : ∀ a nd rest, a.dead = false → P (worldAt a (nd :: rest)) → P (worldAt (devPass p a nd) rest))
    (hend : ∀ u t, P u → P { u with pendingX := [], tmo := t }) (w0 : W) (h : P w0) : P (devPhase p w0) := by
  unfold devPhase
  refine ite_cases (fun _ => h) fun _ => ?_
  rw [devPhase_end]
  refine hend _ _ (foldl_devPass_induct p (fun a rest => P (worldAt a rest)) (fun a nd rest ha => ?_) w0.devs (acc0 w0)
    (by rw [worldAt_acc0]; exact h))
  cases hd : a.dead with
  | false => exact hstep a nd rest hd ha
  | true => rw [worldAt_dead p a nd rest hd]; exact ha

/-- the same for a pass that does not end in an assertion: every turn may assume that the pass is alive after it -/
theorem devPhase_keeps_alive {p : PassIn} (P : W → Prop)
    (hstep : ∀ a nd rest, (devPass p a nd).dead = false → P (worldAt a (nd :: rest)) → P (worldAt (devPass p a nd) rest))
    (hend : ∀ u t, P u → P { u with pendingX := [], tmo := t }) (w0 : W)
    (hd : w0.exited = false → (w0.devs.foldl (devPass p) (acc0 w0)).dead = false) (h : P w0) : P (devPhase p w0) := by
  unfold devPhase
  refine ite_cases (fun _ => h) fun hex => ?_
  rw [devPhase_end]
  exact hend _ _ (foldl_devPass_induct p (fun a rest => (rest.foldl (devPass p) a).dead = false → P (worldAt a rest))
    (fun a nd rest ha hal => hstep a nd rest (alive_of_foldl p rest _ hal) (ha hal))
    w0.devs (acc0 w0) (fun _ => by rw [worldAt_acc0]; exact h) (hd (by simpa using hex)))

/-- **a whole pass**: what holds when `cli_post_poll` is over (by `cliPostPoll_induct` or `cliPostPoll_keeps`) and is kept by the
    turn of every device, holds after the pass.  The turn of a device is opened with `worldAt_devPass` (the world after the turn as
    one equation); `devPhase_frame` is the shortest instance. -/
theorem daemonPass_keeps {p : PassIn} (P : W → Prop)
    (hstep : ∀ a nd rest, a.dead = false → P (worldAt a (nd :: rest)) → P (worldAt (devPass p a nd) rest))
    (hend : ∀ u t, P u → P { u with pendingX := [], tmo := t }) (w : W) (h : P (cliPostPoll w p.acc p.envs)) :
    P (daemonPass w p).1 :=
  daemonPass_world w p ▸ devPhase_keeps P hstep hend _ h

/-- the same for a pass that does not end in an assertion -/
theorem daemonPass_keeps_alive {p : PassIn} (P : W → Prop)
    (hstep : ∀ a nd rest, (devPass p a nd).dead = false → P (worldAt a (nd :: rest)) → P (worldAt (devPass p a nd) rest))
    (hend : ∀ u t, P u → P { u with pendingX := [], tmo := t }) (w : W)
    (hd : (cliPostPoll w p.acc p.envs).exited = false →
      ((cliPostPoll w p.acc p.envs).devs.foldl (devPass p) (acc0 (cliPostPoll w p.acc p.envs))).dead = false)
    (h : P (cliPostPoll w p.acc p.envs)) : P (daemonPass w p).1 :=
  daemonPass_world w p ▸ devPhase_keeps_alive P hstep hend _ hd h

/-- What the device phase keeps of the world `w0` the client phase left: everything but the client table, the devices, the
    store, the three descriptor counters, the pending answers and the time-out; and in the table every entry is mapped by a
    function that keeps id and descriptor. -/
structure PhaseFrame (w0 w1 : W) : Prop where
  same : { w1 with clients := w0.clients, devs := w0.devs, store := w0.store, nsock := w0.nsock, npair := w0.npair, nfork := w0.nfork,
                   pendingX := w0.pendingX, tmo := w0.tmo } = w0
  keep : ∃ G : Cli → Cli, w1.clients = w0.clients.map G ∧ ∀ x, (G x).id = x.id ∧ (G x).fd = x.fd

theorem devPhase_frame (p : PassIn) (w0 : W) : PhaseFrame w0 (devPhase p w0) := by
  refine devPhase_keeps (PhaseFrame w0) (fun a nd rest hd h => ?_) (fun _ _ h => ⟨h.same, h.keep⟩) w0 ⟨rfl, id, by simp, fun _ => ⟨rfl, rfl⟩⟩
  obtain ⟨G, hG, kG⟩ := applyOuts_map (afterStep a.w (devStep p a.w a.oracle nd).1) nd.1 (devStep p a.w a.oracle nd).2.2.1
  obtain ⟨G0, hG0, kG0⟩ := h.keep
  rw [worldAt_devPass p a nd rest hd, hG]
  refine ⟨h.same, G ∘ G0, ?_, fun x => ⟨(kG _).1.trans (kG0 x).1, (kG _).2.trans (kG0 x).2⟩⟩
  show (a.w.clients.map G) = _
  rw [show a.w.clients = w0.clients.map G0 from hG0, List.map_map]

end Pm.Daemon
