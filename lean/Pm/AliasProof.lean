import Pm.Daemon
import Pm.HLFind
/-! Alias expansion (`parse_util.c:conf_exp_aliases`, mirrored by `Pm.Daemon.expAliases` on expanded name lists):
    the loop equals a closed form (`expClosed`; `expAliases_spec` states it with the closed form written out, which is the
    form the other statements rewrite with), and what follows from it (membership, counting, no recursion). -/
namespace Pm.Daemon.AliasPf
open Pm Pm.Daemon

/-- `n` is the name of a configured alias -/
def isAlias (als : List (Name × List Name)) (n : Name) : Bool := (aliasOf als n).isSome

/-- the hosts of the alias called `n` (nothing when there is no such alias) -/
def membersOf (als : List (Name × List Name)) (n : Name) : List Name := (aliasOf als n).getD []

/-- what one typed name stands for: the alias's hosts, or itself -/
def standsFor (als : List (Name × List Name)) (n : Name) : List Name :=
  match aliasOf als n with
  | some hs => hs
  | none => [n]

/-- the closed form: the typed names that are not alias names, in order; then, for every occurrence of an alias name, left
    to right, the hosts of that alias -/
def expClosed (als : List (Name × List Name)) (names : List Name) : List Name :=
  names.filter (fun n => !isAlias als n) ++ names.flatMap (membersOf als)

theorem membersOf_of_not (als : List (Name × List Name)) (n : Name) (h : isAlias als n = false) : membersOf als n = [] := by
  unfold isAlias at h; unfold membersOf
  cases ha : aliasOf als n with
  | none => rfl
  | some x => rw [ha] at h; cases h

theorem filter_all_not {als : List (Name × List Name)} : ∀ {l : List Name}, (∀ a ∈ l, isAlias als a = false) →
    l.filter (fun n => !isAlias als n) = l ∧ l.flatMap (membersOf als) = [] := by
  intro l; induction l with
  | nil => intro _; exact ⟨rfl, rfl⟩
  | cons a r ih =>
    intro h
    have ha := h a (by simp)
    obtain ⟨i1, i2⟩ := ih (fun x hx => h x (by simp [hx]))
    refine ⟨?_, ?_⟩
    · rw [List.filter_cons_of_pos (by simp [ha]), i1]
    · rw [List.flatMap_cons, i2, membersOf_of_not als a ha]; rfl

theorem expAliasesF_spec (als : List (Name × List Name)) : ∀ (fuel : Nat) (hl nh : List Name), hl.length ≤ fuel →
    expAliasesF als fuel hl nh = hl.filter (fun n => !isAlias als n) ++ (nh ++ hl.flatMap (membersOf als)) := by
  intro fuel; induction fuel with
  | zero =>
    intro hl nh h
    have : hl = [] := List.length_eq_zero_iff.mp (by omega)
    subst this; simp [expAliasesF]
  | succ f ih =>
    intro hl nh h
    unfold expAliasesF
    cases hf : hl.find? (fun n => (aliasOf als n).isSome) with
    | none =>
      have hall : ∀ a ∈ hl, isAlias als a = false := by
        intro a ha
        have := List.find?_eq_none.mp hf a ha
        simpa [isAlias] using this
      obtain ⟨i1, i2⟩ := filter_all_not hall
      simp only [i1, i2, List.append_nil]
    | some host =>
      obtain ⟨hp, as, bs, hsplit, has⟩ := List.find?_eq_some_iff_append.mp hf
      have hall : ∀ a ∈ as, isAlias als a = false := by
        intro a ha; have := has a ha; simpa [isAlias] using this
      have hhost : isAlias als host = true := hp
      have hnot : host ∉ as := by
        intro hm; have := hall host hm; rw [hhost] at this; cases this
      obtain ⟨i1, i2⟩ := filter_all_not hall
      have herase : hl.erase host = as ++ bs := by
        rw [hsplit, List.erase_append_right _ hnot, List.erase_cons_head]
      have hlen : (as ++ bs).length ≤ f := by
        have : hl.length = as.length + (bs.length + 1) := by rw [hsplit]; simp
        simp only [List.length_append]; omega
      show expAliasesF als f (hl.erase host) (nh ++ (aliasOf als host).getD []) = _
      rw [herase, ih _ _ hlen, hsplit]
      have hfc : (host :: bs).filter (fun n => !isAlias als n) = bs.filter (fun n => !isAlias als n) :=
        List.filter_cons_of_neg (by simp [hhost])
      simp only [List.filter_append, List.flatMap_append, List.flatMap_cons, i1, i2, List.nil_append, hfc, List.append_assoc]
      rfl

/-- **the loop of `conf_exp_aliases` computes the closed form** -/
theorem expAliases_spec (als : List (Name × List Name)) (names : List Name) :
    expAliases als names = names.filter (fun n => !isAlias als n) ++ names.flatMap (membersOf als) := by
  unfold expAliases
  rw [expAliasesF_spec als _ _ _ (Nat.le_refl _)]; rfl

theorem expAliases_eq_closed (als : List (Name × List Name)) (names : List Name) : expAliases als names = expClosed als names :=
  expAliases_spec als names

theorem expAliases_nil (names : List Name) : expAliases [] names = names := by
  rw [expAliases_spec]
  obtain ⟨i1, i2⟩ := filter_all_not (als := []) (l := names) (fun _ _ => rfl)
  rw [i1, i2, List.append_nil]

theorem expAliases_no_alias (als : List (Name × List Name)) (names : List Name) (h : ∀ n ∈ names, isAlias als n = false) :
    expAliases als names = names := by
  rw [expAliases_spec]
  obtain ⟨i1, i2⟩ := filter_all_not h
  rw [i1, i2, List.append_nil]

theorem mem_membersOf {als : List (Name × List Name)} {a x : Name} :
    x ∈ membersOf als a ↔ ∃ hs, aliasOf als a = some hs ∧ x ∈ hs := by
  unfold membersOf
  cases aliasOf als a with
  | none => simp
  | some hs => simp

theorem mem_expAliases {als : List (Name × List Name)} {names : List Name} {x : Name} :
    x ∈ expAliases als names ↔
      (x ∈ names ∧ aliasOf als x = none) ∨ ∃ a ∈ names, ∃ hs, aliasOf als a = some hs ∧ x ∈ hs := by
  rw [expAliases_spec, List.mem_append, List.mem_filter, List.mem_flatMap]
  constructor
  · rintro (⟨h1, h2⟩ | ⟨a, ha, hx⟩)
    · left; refine ⟨h1, ?_⟩
      have : isAlias als x = false := by simpa using h2
      unfold isAlias at this
      cases hh : aliasOf als x with
      | none => rfl
      | some _ => rw [hh] at this; cases this
    · right; exact ⟨a, ha, mem_membersOf.mp hx⟩
  · rintro (⟨h1, h2⟩ | ⟨a, ha, hs, h1, h2⟩)
    · left; exact ⟨h1, by simp [isAlias, h2]⟩
    · right; exact ⟨a, ha, mem_membersOf.mpr ⟨hs, h1, h2⟩⟩

theorem expAliases_perm (als : List (Name × List Name)) (names : List Name) :
    (expAliases als names).Perm (names.flatMap (standsFor als)) := by
  rw [expAliases_spec]
  induction names with
  | nil => exact List.Perm.refl _
  | cons a r ih =>
    rw [List.flatMap_cons, List.flatMap_cons]
    cases ha : aliasOf als a with
    | none =>
      have h1 : isAlias als a = false := by simp [isAlias, ha]
      rw [List.filter_cons_of_pos (by simp [h1]), membersOf_of_not als a h1]
      simp only [standsFor, ha, List.nil_append]
      exact List.Perm.cons a ih
    | some hs =>
      have h1 : isAlias als a = true := by simp [isAlias, ha]
      rw [List.filter_cons_of_neg (by simp [h1])]
      have h2 : membersOf als a = hs := by simp [membersOf, ha]
      simp only [standsFor, ha, h2]
      -- filter r ++ (hs ++ flatMap r) ~ hs ++ (filter r ++ flatMap r)
      refine List.Perm.trans ?_ (List.Perm.append_left hs ih)
      rw [← List.append_assoc, ← List.append_assoc]
      exact List.Perm.append_right _ List.perm_append_comm

theorem count_expAliases (als : List (Name × List Name)) (names : List Name) (x : Name) :
    (expAliases als names).count x =
      (names.filter (fun n => !isAlias als n)).count x + (names.flatMap (membersOf als)).count x := by
  rw [expAliases_spec, List.count_append]

/-- **no recursion**: a name of the result that is itself an alias name did not come from the user's list (every typed
    occurrence of an alias name is deleted); it is there, verbatim and as often, because it is listed among the hosts of
    typed aliases — and its own hosts are not added on its account -/
theorem count_alias_name (als : List (Name × List Name)) (names : List Name) (b : Name) (hb : isAlias als b = true) :
    (expAliases als names).count b = (names.flatMap (membersOf als)).count b := by
  rw [count_expAliases]
  have : (names.filter (fun n => !isAlias als n)).count b = 0 := by
    apply List.count_eq_zero.mpr
    intro hm
    have := (List.mem_filter.mp hm).2
    simp [hb] at this
  omega

theorem expAliases_single (als : List (Name × List Name)) (a : Name) (hs : List Name) (h : aliasOf als a = some hs) :
    expAliases als [a] = hs := by
  rw [expAliases_spec]
  simp [isAlias, membersOf, h]

/-! ### the abstraction: names instead of the range-compressed list

`conf_exp_aliases` works on the `hostlist_t` itself: `hostlist_delete_host(hl, host)` = `hostlist_find` + `hostlist_delete_nth`
(mirrors `deleteHost`, `find`, `deleteNth`), `hostlist_push_list` = `hostlist_push_range` per range (`pushRange`,
`expand_pushRange'`: appends the expansion).  Downstream only the names are used, so the mirror keeps names. -/

/-- the deletion step on names (`List.erase`) is what happens to the expansion of the real list, provided `hostlist_find` can
    find the host where it is (`Findable`: the proviso of `find_complete`; it holds for every list built by pushes) -/
theorem step_refines (hl : Hostlist) (host : Name) (hwf : HWF hl) (hf : ∀ r ∈ hl, host ∈ r.expand → Findable r host) :
    expand (deleteHost hl host).1 = (expand hl).erase host :=
  (deleteHost_expand hl host hwf hf).1

/-- … and where it cannot (defect F10: `n[100000000-100000001]`) the real deletion leaves the list as it is although the
    iterator did yield the host.  `conf_exp_aliases` ignores the return value of `hostlist_delete_host`, pushes the alias's
    hosts, resets the iterator and meets the same host again: with an alias of that name the real loop does not end
    (reproduced on the daemon: it spins and grows).  The mirror, which erases by name, is not faithful there. -/
theorem step_stuck : "n100000000".toList ∈ expand f10List ∧ (deleteHost f10List "n100000000".toList).1 = f10List :=
  ⟨f10_mem, by rw [f10_delete]⟩

def S (s : String) : Name := s.toList

/-- `rackt = t0,t1,t2,t3`, `mix = t7,u1,u2`, `dupl = t1,t1` -/
def exAls : List (Name × List Name) :=
  [(S "rackt", [S "t0", S "t1", S "t2", S "t3"]), (S "mix", [S "t7", S "u1", S "u2"]), (S "dupl", [S "t1", S "t1"])]

example : expAliases exAls [S "rackt", S "u3"] = [S "u3", S "t0", S "t1", S "t2", S "t3"] := by decide +kernel
example : expAliases exAls [S "mix", S "mix"] = [S "t7", S "u1", S "u2", S "t7", S "u1", S "u2"] := by decide +kernel
example : expAliases exAls [S "t2", S "rackt"] = [S "t2", S "t0", S "t1", S "t2", S "t3"] := by decide +kernel
example : expAliases exAls [S "t2", S "rackt", S "t2", S "dupl", S "t5"] =
    [S "t2", S "t2", S "t5", S "t0", S "t1", S "t2", S "t3", S "t1", S "t1"] := by decide +kernel

/-- an alias listed inside an alias (possible when a node carries the name of an alias): typed `outer` yields `inner`
    itself, not `inner`'s hosts; expanding a second time would change the list -/
def exNested : List (Name × List Name) := [(S "outer", [S "inner", S "t0"]), (S "inner", [S "t1"])]

theorem nested_not_expanded : expAliases exNested [S "outer"] = [S "inner", S "t0"] ∧
    expAliases exNested (expAliases exNested [S "outer"]) = [S "t0", S "t1"] := by decide +kernel

end Pm.Daemon.AliasPf

section AxiomChecks
open Pm.Daemon.AliasPf
#print axioms expAliases_spec
#print axioms expAliases_nil
#print axioms mem_expAliases
#print axioms expAliases_perm
#print axioms count_alias_name
#print axioms nested_not_expanded
#print axioms step_refines
#print axioms step_stuck
end AxiomChecks
