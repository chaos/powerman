import Pm.Dev2Login2
import Pm.TelnetProof
/-! C09 at the level of a whole pass of `dev_post_poll`: what `_process_action` (any script, any fuel, any oracle) and the
    surrounding reconnect logic can do to the bytes of a device — the pending input with the telnet decoder (`SameConn`,
    `Reconn`, `Good` over a run of passes), and of the output buffer that it is empty without a connection (`Quiet`) and stays
    within its capacity (`keeps_toCap`).  Every move of the pass is a `ScriptStep` or a `LinkStep` (`Move.bytes`); an invariant
    both keep (`Keeps`) holds after the pass if it holds behind `_handle_ready_device` (`postPoll_keeps`). -/
namespace Pm.Dev2.Tel
open Login2 (postPollReady postPollPre)

/-- the connection is the same one and the read side has only lost a prefix of its pending bytes -/
structure SameConn (d d' : Dev) : Prop where
  conn : d'.conn = d.conn
  stat : d'.statConnects = d.statConnects
  view : ∃ k, rview d' = (rview d).consume k

theorem RView.read_isPipe (v : RView) (bs : Bytes) : (v.read bs).isPipe = v.isPipe := by
  unfold RView.read; split <;> rfl
theorem RView.consume_consume (v : RView) (k k' : Nat) : (v.consume k).consume k' = v.consume (k + k') := by
  simp [RView.consume, List.drop_drop]

theorem SameConn.rfl' (d : Dev) : SameConn d d := ⟨rfl, rfl, 0, (RView.consume_zero _).symm⟩

theorem SameConn.trans {a b c : Dev} (h1 : SameConn a b) (h2 : SameConn b c) : SameConn a c := by
  obtain ⟨k1, hk1⟩ := h1.view
  obtain ⟨k2, hk2⟩ := h2.view
  exact ⟨h2.conn.trans h1.conn, h2.stat.trans h1.stat, k1 + k2, by rw [hk2, hk1, RView.consume_consume]⟩

theorem SameConn.isPipe {d d' : Dev} (h : SameConn d d') : d'.isPipe = d.isPipe := by
  obtain ⟨k, hk⟩ := h.view; exact congrArg RView.isPipe hk
theorem SameConn.tstate {d d' : Dev} (h : SameConn d d') : d'.tstate = d.tstate := by
  obtain ⟨k, hk⟩ := h.view; exact congrArg RView.st hk
theorem SameConn.tcmd {d d' : Dev} (h : SameConn d d') : d'.tcmd = d.tcmd := by
  obtain ⟨k, hk⟩ := h.view; exact congrArg RView.cmd hk
theorem SameConn.fromBuf {d d' : Dev} (h : SameConn d d') : ∃ k, d'.fromBuf = d.fromBuf.drop k := by
  obtain ⟨k, hk⟩ := h.view; exact ⟨k, congrArg RView.buf hk⟩

@[simp] theorem setArgs_statConnects (d id as) : (setArgs d id as).statConnects = d.statConnects := rfl
@[simp] theorem setArgs_isPipe (d id as) : (setArgs d id as).isPipe = d.isPipe := rfl
@[simp] theorem setArgs_tstate (d id as) : (setArgs d id as).tstate = d.tstate := rfl
@[simp] theorem setArgs_tcmd (d id as) : (setArgs d id as).tcmd = d.tcmd := rfl
@[simp] theorem setArgs_fromBuf (d id as) : (setArgs d id as).fromBuf = d.fromBuf := rfl

/-- a device with the fields blanked out that `_process_action` and `_enqueue_ping` write: both buffers, the match object, the
    arglists, the wake-up time, the queue and its bookkeeping -/
def scriptBlank (d : Dev) : Dev :=
  { d with toBuf := [], fromBuf := [], xmStr := none, xmOffs := [], xmResult := false, xmUsed := false, args := [], wake := none,
           acts := [], loggedIn := false, statActions := 0, lastPing := none }

/-- what `_process_action` does to a device between two steps of the connection layer: the interpreter's own fields aside
    nothing has changed; of the pending input only a prefix is gone; the output buffer stays within the capacity of `dev->to`,
    and is not touched on a device that is not CONNECTED -/
structure ScriptStep (d d' : Dev) : Prop where
  rest : scriptBlank d' = scriptBlank d
  taken : ∃ k, d'.fromBuf = d.fromBuf.drop k
  cap : d.toBuf.length ≤ 65536 → d'.toBuf.length ≤ 65536
  idle : d.conn ≠ 2 → d'.toBuf = d.toBuf

theorem ScriptStep.same (d : Dev) {d' : Dev} (h : scriptBlank d' = scriptBlank d) (hf : d'.fromBuf = d.fromBuf)
    (ht : d'.toBuf = d.toBuf) : ScriptStep d d' := ⟨h, ⟨0, hf⟩, fun hc => ht ▸ hc, fun _ => ht⟩

theorem ScriptStep.rfl' (d : Dev) : ScriptStep d d := .same d rfl rfl rfl

theorem ScriptStep.conn {d d' : Dev} (h : ScriptStep d d') : d'.conn = d.conn := (congrArg Dev.conn h.rest :)

theorem ScriptStep.trans {a b c : Dev} (h1 : ScriptStep a b) (h2 : ScriptStep b c) : ScriptStep a c := by
  obtain ⟨k1, hk1⟩ := h1.taken
  obtain ⟨k2, hk2⟩ := h2.taken
  exact ⟨h2.rest.trans h1.rest, ⟨k1 + k2, by rw [hk2, hk1, List.drop_drop]⟩, fun hc => h2.cap (h1.cap hc),
    fun hn => (h2.idle (by rw [h1.conn]; exact hn)).trans (h1.idle hn)⟩

theorem ScriptStep.sameConn {d d' : Dev} (h : ScriptStep d d') : SameConn d d' := by
  obtain ⟨k, hk⟩ := h.taken
  have h1 : d'.isPipe = d.isPipe := (congrArg Dev.isPipe h.rest :)
  have h2 : d'.tstate = d.tstate := (congrArg Dev.tstate h.rest :)
  have h3 : d'.tcmd = d.tcmd := (congrArg Dev.tcmd h.rest :)
  refine ⟨h.conn, (congrArg Dev.statConnects h.rest :), k, ?_⟩
  unfold rview RView.consume
  rw [h1, h2, h3, hk]

theorem ScriptStep.fromSize {d d' : Dev} (h : ScriptStep d d') : d'.fromSize = d.fromSize := (congrArg Dev.fromSize h.rest :)

/-- the old connection is gone: nothing pending, and if a tcp connection is up it is a new one with the decoder at rest -/
structure Reconn (d d' : Dev) : Prop where
  empty : d'.fromBuf = []
  isPipe : d'.isPipe = d.isPipe
  fresh : FreshIfUp d'
  mono : d.statConnects ≤ d'.statConnects
  up : d'.conn = 2 → d.statConnects < d'.statConnects

/-- what a pass can do to the read side -/
def SameOrReconn (d d' : Dev) : Prop := SameConn d d' ∨ Reconn d d'

theorem SameOrReconn.after_same {a b c : Dev} (h1 : SameConn a b) (h2 : SameOrReconn b c) : SameOrReconn a c := by
  rcases h2 with h2 | h2
  · exact .inl (h1.trans h2)
  · exact .inr ⟨h2.empty, h2.isPipe.trans h1.isPipe, h2.fresh, by rw [← h1.stat]; exact h2.mono,
      fun hc => by rw [← h1.stat]; exact h2.up hc⟩

theorem Reconn.then {a b c : Dev} (h1 : Reconn a b) (h2 : SameOrReconn b c) : Reconn a c := by
  rcases h2 with h2 | h2
  · obtain ⟨k, hk⟩ := h2.fromBuf
    refine ⟨by rw [hk, h1.empty]; simp, h2.isPipe.trans h1.isPipe, ?_, by rw [h2.stat]; exact h1.mono,
      fun hc => by rw [h2.stat]; exact h1.up (by rw [← h2.conn]; exact hc)⟩
    intro hc hp
    rw [h2.tstate, h2.tcmd]
    exact h1.fresh (by rw [← h2.conn]; exact hc) (by rw [← h2.isPipe]; exact hp)
  · exact ⟨h2.empty, h2.isPipe.trans h1.isPipe, h2.fresh, Nat.le_trans h1.mono h2.mono,
      fun hc => Nat.lt_of_le_of_lt h1.mono (h2.up hc)⟩

theorem SameOrReconn.trans {a b c : Dev} (h1 : SameOrReconn a b) (h2 : SameOrReconn b c) : SameOrReconn a c :=
  h1.elim (fun h => SameOrReconn.after_same h h2) (fun h => .inr (h.then h2))

/-- a relation `Reconn b c` can be read from any `a` that `b` continues -/
theorem Reconn.from {a b c : Dev} (hp : b.isPipe = a.isPipe) (hs : b.statConnects = a.statConnects) (h : Reconn b c) :
    Reconn a c :=
  ⟨h.empty, h.isPipe.trans hp, h.fresh, by rw [← hs]; exact h.mono, fun hc => by rw [← hs]; exact h.up hc⟩

/-- not connected ⇒ nothing pending in either direction -/
def Quiet (d : Dev) : Prop := d.conn ≠ 2 → d.fromBuf = [] ∧ d.toBuf = []

theorem Quiet.of_connected {d : Dev} (h : d.conn = 2) : Quiet d := fun h' => absurd h h'

theorem ScriptStep.quiet {d d' : Dev} (h : ScriptStep d d') (hq : Quiet d) : Quiet d' := fun hc => by
  have hc' : d.conn ≠ 2 := by rw [← h.conn]; exact hc
  obtain ⟨k, hk⟩ := h.taken
  exact ⟨by rw [hk, (hq hc').1, List.drop_nil], by rw [h.idle hc', (hq hc').2]⟩

theorem LinkStep.quiet {f : Bool} {d d' : Dev} (h : LinkStep f d d') (hq : Quiet d) : Quiet d' := fun _ => by
  rcases h.flushed_or_kept with e | ⟨hn, e1, e2⟩
  · exact e
  · rw [e1, e2]; exact hq hn

theorem LinkStep.reconn {f : Bool} {d d' : Dev} (h : LinkStep f d d') (hq : Quiet d) : Reconn d d' := by
  have he : d'.fromBuf = [] := by
    rcases h.flushed_or_kept with e | ⟨hn, e, _⟩
    · exact e.1
    · rw [e]; exact (hq hn).1
  refine ⟨he, h.isPipe, h.fresh, ?_, fun h2 => ?_⟩
  · rcases h.tel with ⟨⟨_, _, a⟩, _⟩ | ⟨_, a, _⟩ <;> omega
  · rcases h.tel with ⟨_, b⟩ | ⟨_, a, _⟩
    · exact absurd h2 b
    · omega

/-- **what a move behind `_handle_ready_device` does to the bytes**: a script step; a step of the connection layer; or (the error
    branch on a CONNECTED device) a script step and then `_disconnect` -/
theorem _root_.Pm.Dev2.Move.bytes {b : Bool} {s s' : PA} (h : Move (.after b) s s') :
    ScriptStep s.1.dev s'.1.dev ∨ (∃ f, LinkStep f s.1.dev s'.1.dev) ∨
    ∃ m, ScriptStep s.1.dev m ∧ LinkStep true m s'.1.dev := by
  -- the interpreter's run on the head of the queue of a CONNECTED device
  have run (c : CS) (o : Oracle) (a0 : Action) (r : StepR) (hr : headRun c o a0 = r) (h2 : c.dev.conn = 2) :
      ScriptStep c.dev r.dev := by
    subst hr
    refine ⟨by unfold scriptBlank; rw [(headRun_writes c o a0).dev], (headRun_writes c o a0).taken, fun hc => ?_,
      fun hn => absurd h2 hn⟩
    obtain ⟨_, _, e, _⟩ := Login2.innerLoop_buf c.env.now _ { c.dev with wake := none } (stamp c.env.now a0) o [] hc
    exact e ▸ clipTo_length_le _
  cases h with
  | disconnect c => exact .inr (.inl ⟨_, disconnectDev_link c⟩)
  | connect _ c _ _ _ h0 => exact .inr (.inl ⟨_, connectDev_link c h0⟩)
  | wait | note | fuel => exact .inl (.rfl' _)
  | ping | stamp | failIdle => exact .inl (.same _ rfl rfl rfl)
  | failConn c => exact .inr (.inr ⟨(failed c).dev, .same _ rfl rfl rfl, disconnectDev_link (failed c)⟩)
  | runAbort c o _ _ a0 _ r _ h2 hr | runStall c o _ _ a0 _ r _ _ h2 hr | runDone c o _ _ a0 _ r _ h2 hr
  | runNext c o _ _ a0 _ r _ h2 hr => exact .inl ((run c o a0 r hr h2).trans (.same _ rfl rfl rfl))
  | runFail c o _ _ a0 _ r _ h2 hr =>
    exact .inr (.inr ⟨(failed { c with dev := r.dev }).dev, (run c o a0 r hr h2).trans (.same _ rfl rfl rfl),
      disconnectDev_link (failed { c with dev := r.dev })⟩)

/-- an invariant of the bytes of a device that script steps and the steps of the connection layer keep -/
structure Keeps (I : Dev → Prop) : Prop where
  script : ∀ {d d' : Dev}, ScriptStep d d' → I d → I d'
  link : ∀ {f : Bool} {d d' : Dev}, LinkStep f d d' → I d → I d'

theorem Keeps.run {I : Dev → Prop} (hI : Keeps I) {b : Bool} {s s' : PA} (h : Run (.after b) s s') (hs : I s.1.dev) : I s'.1.dev :=
  h.keeps (I := fun s => I s.1.dev) (fun _ _ hm hi => by
    rcases hm.bytes with h | ⟨_, h⟩ | ⟨_, h1, h2⟩
    · exact hI.script h hi
    · exact hI.link h hi
    · exact hI.link h2 (hI.script h1 hi)) hs

theorem processActionF_keeps {I : Dev → Prop} (hI : Keeps I) (fuel : Nat) (c : CS) (o : Oracle) (out : List Out)
    (tmo : Option Time) (h : I c.dev) : I (processActionF fuel c o out tmo).1.dev :=
  hI.run (processActionF_run fuel c o out tmo) h

/-- **what script steps and the connection layer keep of the bytes, the pass keeps from `_handle_ready_device` on** -/
theorem postPoll_keeps {I : Dev → Prop} (hI : Keeps I) (d : Dev) (env : Env) (o : Oracle)
    (h : I (postPollReady d env).1.dev) : I (postPoll d env o).1.dev := by
  rcases Login2.postPoll_cases d env o with ⟨_, e⟩ | ⟨_, e⟩ <;> rw [e]
  · exact h
  · exact processActionF_keeps hI _ _ _ _ _ (hI.run (postPollLink_run d env o []) h)

theorem keeps_quiet : Keeps Quiet := ⟨ScriptStep.quiet, LinkStep.quiet⟩

theorem keeps_toCap : Keeps fun d => d.toBuf.length ≤ 65536 where
  script h hc := h.cap hc
  link := @fun f d d' h hc => by
    rcases h.flushed_or_kept with e | ⟨_, _, e⟩
    · rw [e.2]; exact Nat.zero_le _
    · rw [e]; exact hc

/-- the read side against where the pass started: the same connection less a consumed prefix, or a reconnect -/
theorem keeps_sameOrReconn (d0 : Dev) : Keeps fun d => Quiet d ∧ SameOrReconn d0 d where
  script h hc := ⟨h.quiet hc.1, hc.2.trans (.inl h.sameConn)⟩
  link h hc := ⟨h.quiet hc.1, hc.2.trans (.inr (h.reconn hc.1))⟩

/-- on a device that is not CONNECTED `_process_action` runs no statement and does not reconnect: script steps only.  (The
    moves do not say this: `connect` is a move of the loop, but it is taken only behind the `_disconnect` of the error branch.) -/
theorem processActionF_idle (fuel : Nat) (c : CS) (o : Oracle) (out : List Out) (tmo : Option Time) (h : c.dev.conn ≠ 2) :
    ScriptStep c.dev (processActionF fuel c o out tmo).1.dev := by
  refine (Login2.processActionF_invariant (I := fun c' => c'.dev.conn ≠ 2 ∧ ScriptStep c.dev c'.dev) (fun _ h => h)
    (fun c' o' out' tmo' hi => ?_) fuel c o out tmo ⟨h, .rfl' _⟩).2
  have keep : ∀ d', scriptBlank d' = scriptBlank c'.dev → d'.fromBuf = c'.dev.fromBuf → d'.toBuf = c'.dev.toBuf →
      d'.conn ≠ 2 ∧ ScriptStep c.dev d' := fun d' hb hf ht =>
    ⟨by rw [show d'.conn = c'.dev.conn from (congrArg Dev.conn hb :)]; exact hi.1, hi.2.trans (.same _ hb hf ht)⟩
  rcases Login2.bodyStep_branches c' o' out' tmo' with ⟨_, e⟩ | ⟨a0, rest, ts, _, _, _, ⟨_, e⟩ | ⟨_, _, e⟩ | ⟨_, h2, _⟩⟩
  · rw [e]; exact hi
  · rw [e, Fd.onTimeout_eq_failAll, failAll_other _ _ _ _ _ _ hi.1]; exact keep _ rfl rfl rfl
  · rw [e]; exact keep _ rfl rfl rfl
  · exact absurd h2 hi.1

theorem processActionF_sameOrReconn (fuel : Nat) (c : CS) (o : Oracle) (out : List Out) (tmo : Option Time) :
    SameOrReconn c.dev (processActionF fuel c o out tmo).1.dev := by
  by_cases h2 : c.dev.conn = 2
  · exact (processActionF_keeps (keeps_sameOrReconn c.dev) fuel c o out tmo ⟨.of_connected h2, .inl (.rfl' _)⟩).2
  · exact .inl (processActionF_idle fuel c o out tmo h2).sameConn

/-- the poll flags `dev_post_poll` looks at -/
def ppFlags (d : Dev) (env : Env) : Nat := if d.fd.isSome then env.revents else 0

/-- the state `_handle_ready_device` is entered with -/
def ppC0 (d : Dev) (env : Env) : CS := { dev := d, env := { env with revents := ppFlags d env }, sys := [] }

/-- `Login2.postPollReady`, the descriptor half of `dev_post_poll`, in these terms -/
theorem postPollReady_eq (d : Dev) (env : Env) :
    postPollReady d env = if ppFlags d env != 0 then handleReady (ppC0 d env) else ({ dev := d, env := env, sys := [] }, false) := rfl

/-- the bytes the pass reads from the descriptor -/
def passTaken (d : Dev) (env : Env) : Bytes := if ppFlags d env != 0 then readTaken (ppC0 d env) else []

/-- the number of oldest pending bytes the pass's `read` overwrites (0 unless the input buffer is full at `MAX_DEV_BUF`) -/
def passDropped (d : Dev) (env : Env) : Nat := if ppFlags d env != 0 then readDropped (ppC0 d env) else 0

/-- the descriptor half of the pass, both cases: poll has nothing for the device (no descriptor, or no flag set) and nothing
    happens; or `_handle_ready_device` is called on `ppC0 d env`, with the flags poll reported, and what the pass reads and
    overwrites is what that call reads and overwrites -/
theorem postPollReady_cases (d : Dev) (env : Env) :
    (postPollReady d env = ({ dev := d, env := env, sys := [] }, false) ∧ passTaken d env = [] ∧ passDropped d env = 0) ∨
    (ppFlags d env = env.revents ∧ postPollReady d env = handleReady (ppC0 d env) ∧
      passTaken d env = readTaken (ppC0 d env) ∧ passDropped d env = readDropped (ppC0 d env)) := by
  rw [postPollReady_eq]; unfold passTaken passDropped
  by_cases h : (ppFlags d env != 0) = true
  · rw [if_pos h, if_pos h, if_pos h]
    refine .inr ⟨?_, rfl, rfl, rfl⟩
    unfold ppFlags at h ⊢
    by_cases hfd : d.fd.isSome = true
    · rw [if_pos hfd]
    · rw [if_neg hfd] at h; cases h
  · rw [if_neg h, if_neg h, if_neg h]; exact .inl ⟨rfl, rfl, rfl⟩

theorem handleReady_stat_connected (c : CS) (h2 : c.dev.conn = 2) :
    (handleReady c).1.dev.statConnects = c.dev.statConnects := by
  rcases handleReady_view c with ⟨_, h⟩ | ⟨_, _, _, _, _, _, h, _⟩ | ⟨h, _⟩
  · exact h
  · exact h
  · omega

theorem postPollReady_connected (d : Dev) (env : Env) (h2 : d.conn = 2) :
    (postPollReady d env).1.dev.conn = 2 ∧ (postPollReady d env).1.dev.statConnects = d.statConnects ∧
    rview (postPollReady d env).1.dev = ((rview d).consume (passDropped d env)).read (passTaken d env) := by
  rcases postPollReady_cases d env with ⟨e, t, k⟩ | ⟨_, e, t, k⟩ <;> rw [e, t, k]
  · exact ⟨h2, rfl, (RView.consume_zero_read_nil _).symm⟩
  · have hv := handleReady_view_connected (ppC0 d env) h2
    exact ⟨hv.2, handleReady_stat_connected (ppC0 d env) h2, hv.1⟩

theorem postPoll_connected (d : Dev) (env : Env) (o : Oracle) (h2 : d.conn = 2) :
    ((postPoll d env o).1.dev.conn = 2 ∧ (postPoll d env o).1.dev.statConnects = d.statConnects ∧
      ∃ k, rview (postPoll d env o).1.dev =
        (((rview d).consume (passDropped d env)).read (passTaken d env)).consume k) ∨
    Reconn d (postPoll d env o).1.dev := by
  obtain ⟨hc1, hs1, hv1⟩ := postPollReady_connected d env h2
  have hp1 : (postPollReady d env).1.dev.isPipe = d.isPipe := (congrArg RView.isPipe hv1).trans (RView.read_isPipe _ _)
  rcases (postPoll_keeps (keeps_sameOrReconn (postPollReady d env).1.dev) d env o ⟨.of_connected hc1, .inl (.rfl' _)⟩).2 with h | h
  · obtain ⟨k, hk⟩ := h.view
    exact .inl ⟨by rw [h.conn]; exact hc1, by rw [h.stat]; exact hs1, k, by rw [hk, hv1]⟩
  · exact .inr (Reconn.from hp1 hs1 h)

theorem readTaken_eq (c : CS) (bs : Bytes) (h1 : ¬ (c.dev.conn == 0) = true) (h2 : ¬ c.dev.fd.isNone = true)
    (h3 : ¬ (c.env.revents &&& 4 != 0 || c.env.revents &&& 8 != 0 || c.env.revents &&& 16 != 0) = true)
    (h4 : (readyWrite c).2.1 = false) (h5 : (readyWrite c).2.2 = false) (h6 : c.env.revents &&& 1 ≠ 0)
    (hr : c.env.read = some (some bs)) : readTaken c = readOf c.dev bs := by
  unfold readTaken
  have h6' : (c.env.revents &&& 1 == 0) = false := by simpa using h6
  simp only [h1, h2, h3, h4, h5, h6', Bool.or_self, Bool.false_eq_true, ↓reduceIte, hr]

theorem handleReady_quiet (c : CS) (hq : Quiet c.dev) (hr : c.dev.conn ≠ 2 → readTaken c = []) :
    Quiet (handleReady c).1.dev := by
  by_cases h2 : c.dev.conn = 2
  · exact Quiet.of_connected (handleReady_view_connected c h2).2
  obtain ⟨hf, ht⟩ := hq h2
  rcases handleReady_bytes c with ⟨h1, _, _, e⟩ | ⟨n, size, δ, hb⟩
  · have f := readyFinish_bufs c h1
    rw [e]; exact fun _ => ⟨f.fromBuf.trans hf, f.toBuf.trans ht⟩
  · rw [hb.dev, hr h2, takeIn_nil]
    exact fun _ => ⟨by show c.dev.fromBuf.drop _ = []; rw [hf, List.drop_nil], by show c.dev.toBuf.drop _ = []; rw [ht, List.drop_nil]⟩

theorem handleReady_reconn (c : CS) (hq : Quiet c.dev) (hn : c.dev.conn ≠ 2) (ht : readTaken c = []) :
    Reconn c.dev (handleReady c).1.dev := by
  rcases handleReady_bytes c with ⟨h1, _, _, e⟩ | ⟨n, size, δ, hb⟩
  · have f := readyFinish_bufs c h1
    rw [e]
    show Reconn c.dev (readyFinish c).1.dev
    rcases (readyFinish_tel c h1).2.2 with ⟨⟨_, _, t3⟩, hd⟩ | ⟨_, u2, u3, u4⟩
    · exact ⟨by rw [f.fromBuf]; exact (hq hn).1, f.isPipe, fun h2 => absurd h2 hd, Nat.le_of_eq t3.symm, fun h2 => absurd h2 hd⟩
    · exact ⟨by rw [f.fromBuf]; exact (hq hn).1, f.isPipe, fun _ _ => ⟨u2, u3⟩, by rw [u4]; exact Nat.le_succ _, fun _ => by rw [u4]; exact Nat.lt_succ_self _⟩
  · rw [hb.dev, ht, takeIn_nil]
    exact ⟨by show c.dev.fromBuf.drop _ = []; rw [(hq hn).1, List.drop_nil], rfl, fun h2 => absurd h2 hn, Nat.le_refl _,
      fun h2 => absurd h2 hn⟩

theorem postPollReady_quiet (d : Dev) (env : Env) (hq : Quiet d) (hr : d.conn ≠ 2 → passTaken d env = []) :
    Quiet (postPollReady d env).1.dev := by
  rcases postPollReady_cases d env with ⟨e, _⟩ | ⟨_, e, t, _⟩ <;> rw [e]
  · exact hq
  · exact handleReady_quiet (ppC0 d env) hq fun h => t.symm.trans (hr h)

theorem postPoll_quiet (d : Dev) (env : Env) (o : Oracle) (hq : Quiet d) (hr : d.conn ≠ 2 → passTaken d env = []) :
    Quiet (postPoll d env o).1.dev :=
  postPoll_keeps keeps_quiet d env o (postPollReady_quiet d env hq hr)

theorem postPoll_fresh (d : Dev) (env : Env) (o : Oracle) (hq : Quiet d) (hr : d.conn ≠ 2 → passTaken d env = [])
    (hn : d.conn ≠ 2) : Reconn d (postPoll d env o).1.dev := by
  have h1 : Reconn d (postPollReady d env).1.dev := by
    rcases postPollReady_cases d env with ⟨e, _⟩ | ⟨_, e, t, _⟩ <;> rw [e]
    · exact ⟨(hq hn).1, rfl, fun hc => absurd hc hn, Nat.le_refl _, fun hc => absurd hc hn⟩
    · exact handleReady_reconn (ppC0 d env) hq hn (t.symm.trans (hr hn))
  exact h1.then (postPoll_keeps (keeps_sameOrReconn _) d env o ⟨postPollReady_quiet d env hq hr, .inl (.rfl' _)⟩).2

/-- what the daemon keeps of a connection's stream `S`: `S` itself on a coprocess, `strip S` on a tcp device -/
def keptStream (isPipe : Bool) (S : Bytes) : Bytes := if isPipe then S else strip S

theorem drop_append_min {α : Type} (A B : List α) (k : Nat) : A.drop k ++ B = (A ++ B).drop (min k A.length) := by
  by_cases h : k ≤ A.length
  · rw [Nat.min_eq_left h, List.drop_append_of_le_length h]
  · have h' : A.length ≤ k := by omega
    rw [Nat.min_eq_right h', List.drop_eq_nil_of_le h', List.drop_append_of_le_length (Nat.le_refl _)]
    simp

/-- the view follows the stream `S` of its connection: the decoder (tcp) is in the state `S` leads to, and what is pending is
    what is kept of `S`, less a consumed prefix -/
structure RView.Follows (v : RView) (S : Bytes) : Prop where
  dec : v.isPipe = false → v.st = (decode S).st ∧ v.cmd = (decode S).cmd
  buf : ∃ k, v.buf = (keptStream v.isPipe S).drop k

theorem RView.Follows.consume {v : RView} {S : Bytes} (h : v.Follows S) (j : Nat) : (v.consume j).Follows S :=
  ⟨h.dec, let ⟨k, hk⟩ := h.buf; ⟨k + j, by show v.buf.drop j = _; rw [hk, List.drop_drop]; rfl⟩⟩

theorem RView.Follows.read {v : RView} {S : Bytes} (h : v.Follows S) (t : Bytes) : (v.read t).Follows (S ++ t) := by
  obtain ⟨p, st, cmd, buf⟩ := v
  obtain ⟨k, hk⟩ := h.buf
  cases p
  · -- tcp: decoding `S ++ t` from rest is decoding `t` from the state `S` leads to
    have ⟨(a : st = _), (b : cmd = _)⟩ := h.dec rfl
    have e : decode (S ++ t) = _ := decodeFrom_append 0 0 S t
    refine ⟨fun _ => ?_, min k (strip S).length, ?_⟩
    · show (decodeFrom st cmd t).st = _ ∧ (decodeFrom st cmd t).cmd = _
      rw [e, a, b]; exact ⟨rfl, rfl⟩
    · show buf ++ (decodeFrom st cmd t).kept = (strip (S ++ t)).drop _
      rw [← decode_kept (S ++ t), e, a, b, show buf = (strip S).drop k from hk, drop_append_min, ← decode_kept S]; rfl
  · exact ⟨(fun h => nomatch h), min k S.length, by show buf ++ t = (S ++ t).drop _; rw [show buf = S.drop k from hk, drop_append_min]⟩

/-- a run of passes; with the device goes, as a ghost, the stream its descriptor has delivered on the connection that
    is up: it grows by what each pass takes in while the connection stays the same (still up, same connection
    count), and starts again from nothing otherwise -/
def passStep (s : Dev × Bytes) (p : Env × Oracle) : Dev × Bytes :=
  ((postPoll s.1 p.1 p.2).1.dev,
   if s.1.conn = 2 ∧ (postPoll s.1 p.1 p.2).1.dev.conn = 2 ∧
      (postPoll s.1 p.1 p.2).1.dev.statConnects = s.1.statConnects
   then s.2 ++ passTaken s.1 p.1 else [])

/-- the C09 read-side invariant: while a connection is up, `fromBuf` is what is left of the decoded stream of that
    connection after a prefix was consumed, and the decoder is in the state that stream leads to; while none is up,
    nothing is pending -/
structure Good (s : Dev × Bytes) : Prop where
  quiet : Quiet s.1
  buf : s.1.conn = 2 → ∃ k, s.1.fromBuf = (keptStream s.1.isPipe s.2).drop k
  dec : s.1.conn = 2 → s.1.isPipe = false → s.1.tstate = (decode s.2).st ∧ s.1.tcmd = (decode s.2).cmd

/-- the one thing asked of the environment: nothing is delivered by a descriptor whose connection is not up -/
def EnvOk (s : Dev × Bytes) (p : Env × Oracle) : Prop := s.1.conn ≠ 2 → passTaken s.1 p.1 = []

theorem good_of_reconn (d d' : Dev) (hq : Quiet d') (h : Reconn d d') : Good (d', []) :=
  ⟨hq, fun _ => ⟨0, by rw [h.empty]; unfold keptStream; split <;> simp [strip]⟩,
   fun hc hp => h.fresh hc hp⟩

/-- `Good` is kept by a pass: `postPoll_quiet` for `quiet`; on a connection that stays (`postPoll_connected`) the view still
    `Follows` the stream, grown by what the pass read; otherwise the device reconnected and the ghost stream starts again -/
theorem passStep_good (s : Dev × Bytes) (p : Env × Oracle) (hg : Good s) (he : EnvOk s p) : Good (passStep s p) := by
  obtain ⟨d, S⟩ := s
  obtain ⟨env, o⟩ := p
  have hq := postPoll_quiet d env o hg.quiet he
  unfold passStep
  simp only
  by_cases h2 : d.conn = 2
  · rcases postPoll_connected d env o h2 with ⟨hc, hs, k', hk'⟩ | hre
    · -- the same connection: the view has lost a prefix, read `passTaken`, and lost a prefix again
      have hf := (((show (rview d).Follows S from ⟨hg.dec h2, hg.buf h2⟩).consume (passDropped d env)).read (passTaken d env)).consume k'
      rw [← hk'] at hf
      simp only [h2, hc, hs, and_self, ↓reduceIte]
      exact ⟨hq, fun _ => hf.buf, fun _ => hf.dec⟩
    · have hcond : ¬ (d.conn = 2 ∧ (postPoll d env o).1.dev.conn = 2 ∧
          (postPoll d env o).1.dev.statConnects = d.statConnects) := by
        intro ⟨_, hc, hs⟩
        have := hre.up hc
        omega
      simp only [hcond, ↓reduceIte]
      exact good_of_reconn d _ hq hre
  · have hre := postPoll_fresh d env o hg.quiet he h2
    simp only [h2, false_and, ↓reduceIte]
    exact good_of_reconn d _ hq hre

/-- the environment condition along a run -/
def RunOk : Dev × Bytes → List (Env × Oracle) → Prop
  | _, [] => True
  | s, p :: r => EnvOk s p ∧ RunOk (passStep s p) r

theorem run_good (s : Dev × Bytes) (ps : List (Env × Oracle)) (hg : Good s) (hr : RunOk s ps) :
    Good (ps.foldl passStep s) := by
  induction ps generalizing s with
  | nil => exact hg
  | cons p r ih => exact ih _ (passStep_good s p hg hr.1) hr.2

theorem good_initial (d : Dev) (hc : d.conn ≠ 2) (hf : d.fromBuf = []) (ht : d.toBuf = []) : Good (d, []) :=
  ⟨fun _ => ⟨hf, ht⟩, fun h => absurd h hc, fun h => absurd h hc⟩

/-! sufficient conditions for `EnvOk`, on the poll flags alone -/

theorem passTaken_of_not_connected (d : Dev) (env : Env) (h0 : d.conn = 0) : passTaken d env = [] := by
  rcases postPollReady_cases d env with ⟨_, t, _⟩ | ⟨_, _, t, _⟩ <;> rw [t]
  exact (taken_of_stop (ppC0 d env) (by rw [show (ppC0 d env).dev.conn = 0 from h0]; rfl)).1

theorem passTaken_of_no_pollin (d : Dev) (env : Env) (h : env.revents &&& 1 = 0) : passTaken d env = [] := by
  rcases postPollReady_cases d env with ⟨_, t, _⟩ | ⟨hfl, _, t, _⟩ <;> rw [t]
  rcases taken_cases (ppC0 d env) with ⟨t', _⟩ | ⟨_, _, _, hin, _⟩
  · exact t'
  · exact absurd (by show ppFlags d env &&& 1 = 0; rw [hfl]; exact h) hin

theorem passTaken_of_connecting_pollout (d : Dev) (env : Env) (h1 : d.conn = 1) (h : env.revents &&& 2 ≠ 0) :
    passTaken d env = [] := by
  rcases postPollReady_cases d env with ⟨_, t, _⟩ | ⟨hfl, _, t, _⟩ <;> rw [t]
  -- POLLOUT while CONNECTING: the call finishes the connect and skips the read half
  have hskip : (readyWrite (ppC0 d env)).2.2 = true := by
    unfold readyWrite
    have e1 : (ppC0 d env).env.revents = env.revents := hfl
    have e2 : (ppC0 d env).dev.conn = 1 := h1
    have h' : (env.revents &&& 2 != 0) = true := by simpa using h
    simp only [e1, e2, h', ↓reduceIte, beq_self_eq_true]
    exact (readyFinish_tel _ e2).1
  exact (taken_of_stop _ (by rw [hskip]; simp)).1

end Pm.Dev2.Tel
