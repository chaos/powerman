/- C13 on a small stand-alone model: makeNode / pluglist_map / conf_addnodes on already-expanded name lists, `node` lines only,
   devices addressed by index.  Names are abstract (Nat); host-range expansion is the Hostlist layer's business.  The model of
   the whole configuration (strings, `device` and `alias` lines, diagnostics) is `Pm/ConfigModel.lean`. -/
namespace Pm.Config

structure Plug where
  name : Nat
  node : Option Nat
deriving DecidableEq

structure Dev where
  hard : Bool                 -- plug names fixed by the specification
  plugs : List Plug

structure Cfg where
  devs : List Dev
  nodes : List Nat            -- conf_nodes

inductive Err where
  | unkDev | unkPlug | dupPlug | noPlugs | noNodes | dupNode
deriving DecidableEq, Repr

/-- assign `node` to the first plug called `name` (`_pluglist_find_any` returns the first) -/
def setFirst (name node : Nat) : List Plug → List Plug
  | [] => []
  | p :: ps => if p.name = name then { p with node := some node } :: ps else p :: setFirst name node ps

/-- `_pluglist_map_one` -/
def mapOne (d : Dev) (node name : Nat) : Except Err Dev :=
  match d.plugs.find? (·.name = name) with
  | none => if d.hard then .error .unkPlug else .ok { d with plugs := ⟨name, some node⟩ :: d.plugs }   -- list_push
  | some p => if p.node.isSome then .error .dupPlug else .ok { d with plugs := setFirst name node d.plugs }

/-- assign `node` to the first free plug (`_pluglist_map_next`) -/
def setNextFree (node : Nat) : List Plug → Option (List Plug)
  | [] => none
  | p :: ps => if p.node.isNone then some ({ p with node := some node } :: ps)
               else (setNextFree node ps).map (p :: ·)

def mapNext (d : Dev) (node : Nat) : Except Err Dev :=
  match setNextFree node d.plugs with
  | some ps => .ok { d with plugs := ps }
  | none => .error .noPlugs

/-- `pluglist_map` -/
def mapLine (d : Dev) : List Nat → Option (List Nat) → Except Err Dev
  | [], none => .ok d
  | n :: ns, none => do
    let d' ← if d.hard then mapNext d n else mapOne d n n
    mapLine d' ns none
  | [], some [] => .ok d
  | [], some (_ :: _) => .error .noNodes              -- more plugs than nodes
  | _ :: _, some [] => .error .noPlugs                 -- more nodes than plugs
  | n :: ns, some (p :: ps) => do
    let d' ← mapOne d n p
    mapLine d' ns (some ps)

/-- `conf_addnodes` -/
def addNodes (known : List Nat) : List Nat → Except Err (List Nat)
  | [] => .ok known
  | n :: ns => if n ∈ known then .error .dupNode else addNodes (known ++ [n]) ns

def setNth {α} : List α → Nat → α → List α
  | [], _, _ => []
  | _ :: xs, 0, a => a :: xs
  | x :: xs, n + 1, a => x :: setNth xs n a

/-- `makeNode` -/
def makeNode (c : Cfg) (nodes : List Nat) (dev : Nat) (plugs : Option (List Nat)) : Except Err Cfg :=
  match c.devs[dev]? with
  | none => .error .unkDev
  | some d => do
    let d' ← mapLine d nodes plugs
    let known ← addNodes c.nodes nodes
    pure { devs := setNth c.devs dev d', nodes := known }

/-! ### how often is a node mapped -/
def mappedIn (ps : List Plug) (m : Nat) : Nat := ps.countP (·.node = some m)
def mapped (c : Cfg) (m : Nat) : Nat := (c.devs.map fun d => mappedIn d.plugs m).sum

theorem setFirst_count (name node m : Nat) : ∀ (ps : List Plug) (p : Plug), ps.find? (·.name = name) = some p → p.node = none →
    mappedIn (setFirst name node ps) m = mappedIn ps m + (if node = m then 1 else 0)
  | [], _, h, _ => by simp at h
  | q :: qs, p, h, hn => by
    simp only [List.find?_cons] at h
    by_cases hq : q.name = name
    · simp only [hq, decide_true] at h
      have : q = p := Option.some.inj h
      subst this
      simp only [setFirst, hq, if_true, mappedIn, List.countP_cons, hn]
      by_cases hm : node = m <;> simp [hm]
    · simp only [hq, decide_false] at h
      have := setFirst_count name node m qs p h hn
      simp only [setFirst, hq, if_false, mappedIn, List.countP_cons] at this ⊢
      omega

theorem mapOne_count (d d' : Dev) (node name m : Nat) (h : mapOne d node name = .ok d') :
    mappedIn d'.plugs m = mappedIn d.plugs m + (if node = m then 1 else 0) := by
  unfold mapOne at h
  cases hf : d.plugs.find? (·.name = name) with
  | none =>
    rw [hf] at h
    simp only at h
    split at h
    · cases h
    · cases h
      simp only [mappedIn, List.countP_cons]
      by_cases hm : node = m <;> simp [hm]
  | some p =>
    rw [hf] at h
    simp only at h
    split at h
    · cases h
    · rename_i hnone
      cases h
      exact setFirst_count name node m d.plugs p hf (by simpa using hnone)

theorem setNextFree_count (node m : Nat) : ∀ (ps ps' : List Plug), setNextFree node ps = some ps' →
    mappedIn ps' m = mappedIn ps m + (if node = m then 1 else 0)
  | [], _, h => by simp [setNextFree] at h
  | p :: ps, ps', h => by
    simp only [setNextFree] at h
    split at h
    · rename_i hfree
      cases h
      have : p.node = none := by simpa using hfree
      simp only [mappedIn, List.countP_cons, this]
      by_cases hm : node = m <;> simp [hm]
    · cases hr : setNextFree node ps with
      | none => rw [hr] at h; cases h
      | some r =>
        rw [hr] at h
        simp only [Option.map_some, Option.some.injEq] at h
        subst h
        have := setNextFree_count node m ps r hr
        simp only [mappedIn, List.countP_cons] at this ⊢
        omega

theorem mapNext_count (d d' : Dev) (node m : Nat) (h : mapNext d node = .ok d') :
    mappedIn d'.plugs m = mappedIn d.plugs m + (if node = m then 1 else 0) := by
  unfold mapNext at h
  cases hs : setNextFree node d.plugs with
  | none => rw [hs] at h; cases h
  | some ps => rw [hs] at h; cases h; exact setNextFree_count node m d.plugs ps hs

theorem count_cons_if (n m : Nat) (ns : List Nat) : (n :: ns).count m = (if n = m then 1 else 0) + ns.count m := by
  rw [List.count_cons, Nat.add_comm]
  by_cases h : n = m <;> simp [h]

theorem mapLine_count (m : Nat) : ∀ (nodes : List Nat) (plugs : Option (List Nat)) (d d' : Dev),
    mapLine d nodes plugs = .ok d' → mappedIn d'.plugs m = mappedIn d.plugs m + nodes.count m
  | [], none, d, d', h => by simp only [mapLine] at h; cases h; simp
  | n :: ns, none, d, d', h => by
    simp only [mapLine, bind, Except.bind] at h
    by_cases hh : d.hard = true
    · simp only [hh, if_true] at h
      cases hd1 : mapNext d n with
      | error e => rw [hd1] at h; cases h
      | ok d1 =>
        rw [hd1] at h
        have h1 := mapNext_count d d1 n m hd1
        have h2 := mapLine_count m ns none d1 d' h
        rw [h2, h1, count_cons_if, Nat.add_assoc]
    · simp only [hh] at h
      cases hd1 : mapOne d n n with
      | error e => rw [hd1] at h; cases h
      | ok d1 =>
        rw [hd1] at h
        have h1 := mapOne_count d d1 n n m hd1
        have h2 := mapLine_count m ns none d1 d' h
        rw [h2, h1, count_cons_if, Nat.add_assoc]
  | [], some [], d, d', h => by simp only [mapLine] at h; cases h; simp
  | [], some (_ :: _), d, d', h => by simp [mapLine] at h
  | _ :: _, some [], d, d', h => by simp [mapLine] at h
  | n :: ns, some (p :: ps), d, d', h => by
    simp only [mapLine, bind, Except.bind] at h
    cases hd1 : mapOne d n p with
    | error e => rw [hd1] at h; cases h
    | ok d1 =>
      rw [hd1] at h
      have h1 := mapOne_count d d1 n p m hd1
      have h2 := mapLine_count m ns (some ps) d1 d' h
      rw [h2, h1, count_cons_if, Nat.add_assoc]

theorem addNodes_spec : ∀ (ns known known' : List Nat), addNodes known ns = .ok known' →
    known' = known ++ ns ∧ (∀ n ∈ ns, n ∉ known) ∧ ns.Nodup
  | [], known, known', h => by simp only [addNodes] at h; cases h; simp
  | n :: ns, known, known', h => by
    simp only [addNodes] at h
    split at h
    · cases h
    · rename_i hn
      obtain ⟨h1, h2, h3⟩ := addNodes_spec ns (known ++ [n]) known' h
      refine ⟨by rw [h1]; simp, ?_, ?_⟩
      · intro x hx
        rcases List.mem_cons.mp hx with rfl | hx
        · exact hn
        · intro hk; exact h2 x hx (by simp [hk])
      · rw [List.nodup_cons]
        exact ⟨fun hmem => h2 n hmem (by simp), h3⟩

theorem sum_setNth (f : Dev → Nat) : ∀ (ds : List Dev) (i : Nat) (d d' : Dev), ds[i]? = some d →
    ((setNth ds i d').map f).sum + f d = (ds.map f).sum + f d'
  | [], _, _, _, h => by simp at h
  | x :: xs, 0, d, d', h => by
    simp only [List.getElem?_cons_zero, Option.some.injEq] at h; subst h
    simp only [setNth, List.map_cons, List.sum_cons]; omega
  | x :: xs, i + 1, d, d', h => by
    simp only [List.getElem?_cons_succ] at h
    have := sum_setNth f xs i d d' h
    simp only [setNth, List.map_cons, List.sum_cons] at this ⊢; omega

/-- the invariant of accepted configurations: the node list has no duplicates and a node is mapped
    exactly once if it is configured, never otherwise -/
def Unambiguous (c : Cfg) : Prop := c.nodes.Nodup ∧ ∀ m, mapped c m = if m ∈ c.nodes then 1 else 0

/-- C13 core: an accepted `node` line keeps the node-to-plug map unambiguous -/
theorem makeNode_unambiguous (c c' : Cfg) (nodes : List Nat) (dev : Nat) (plugs : Option (List Nat))
    (hc : Unambiguous c) (h : makeNode c nodes dev plugs = .ok c') : Unambiguous c' := by
  obtain ⟨hnd, hmap⟩ := hc
  unfold makeNode at h
  cases hd : c.devs[dev]? with
  | none => rw [hd] at h; cases h
  | some d =>
    rw [hd] at h
    simp only [bind, Except.bind, pure, Except.pure] at h
    split at h
    · cases h
    · rename_i d' hd'
      split at h
      · cases h
      · rename_i known hk
        cases h
        obtain ⟨hkn, hnew, hnodup⟩ := addNodes_spec nodes c.nodes known hk
        refine ⟨?_, ?_⟩
        · show known.Nodup
          rw [hkn, List.nodup_append]
          exact ⟨hnd, hnodup, fun a ha b hb hab => hnew b hb (hab ▸ ha)⟩
        · intro m
          show mapped ⟨setNth c.devs dev d', known⟩ m = if m ∈ known then 1 else 0
          have hsum := sum_setNth (fun d => mappedIn d.plugs m) c.devs dev d d' hd
          have hline := mapLine_count m nodes plugs d d' hd'
          have hold := hmap m
          unfold mapped at hold ⊢
          simp only at hsum ⊢
          have hcount : nodes.count m = if m ∈ nodes then 1 else 0 := hnodup.count
          rw [hkn]
          simp only [List.mem_append]
          by_cases h1 : m ∈ c.nodes
          · have h2 : m ∉ nodes := fun hm => hnew m hm h1
            simp only [h1, h2, if_true, if_false, true_or] at hold hcount ⊢
            omega
          · by_cases h2 : m ∈ nodes
            · simp only [h1, h2, if_true, if_false, or_true] at hold hcount ⊢
              omega
            · simp only [h1, h2, if_false, or_self] at hold hcount ⊢
              omega

/-- a whole sequence of `node` lines -/
def build (c : Cfg) : List (List Nat × Nat × Option (List Nat)) → Except Err Cfg
  | [] => .ok c
  | (ns, d, ps) :: rest => do
    let c' ← makeNode c ns d ps
    build c' rest

/-- starting from devices none of whose plugs is assigned, any accepted configuration is unambiguous -/
theorem C13_unambiguous (devs : List Dev) (hfree : ∀ d ∈ devs, ∀ p ∈ d.plugs, p.node = none)
    (lines : List (List Nat × Nat × Option (List Nat))) (c : Cfg) (h : build ⟨devs, []⟩ lines = .ok c) :
    Unambiguous c := by
  have h0 : Unambiguous ⟨devs, []⟩ := by
    refine ⟨by simp, ?_⟩
    intro m
    simp only [List.not_mem_nil, if_false]
    unfold mapped
    have : ∀ ds : List Dev, (∀ d ∈ ds, ∀ p ∈ d.plugs, p.node = none) → (ds.map fun d => mappedIn d.plugs m).sum = 0 := by
      intro ds
      induction ds with
      | nil => intro _; simp
      | cons d ds ih =>
        intro hf
        simp only [List.map_cons, List.sum_cons]
        have hd : mappedIn d.plugs m = 0 := by
          apply List.countP_eq_zero.mpr
          intro p hp
          simp [hf d (by simp) p hp]
        have := ih (fun d' hd' => hf d' (by simp [hd']))
        omega
    exact this devs hfree
  have : ∀ (lines : List (List Nat × Nat × Option (List Nat))) (c0 c : Cfg), Unambiguous c0 → build c0 lines = .ok c → Unambiguous c := by
    intro lines
    induction lines with
    | nil => intro c0 c hu hb; simp only [build] at hb; cases hb; exact hu
    | cons l ls ih =>
      intro c0 c hu hb
      obtain ⟨ns, d, ps⟩ := l
      simp only [build, bind, Except.bind] at hb
      split at hb
      · cases hb
      · rename_i c1 hc1
        exact ih c1 c (makeNode_unambiguous c0 c1 ns d ps hu hc1) hb
  exact this lines _ c h0 h

end Pm.Config

