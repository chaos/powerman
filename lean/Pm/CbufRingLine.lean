import Pm.CbufRingWrite
/-! Refinement proof of the index-level cbuf model: `cbuf_find_unread_line` as a scan over the unread bytes,
`cbuf_read_line`. -/
namespace Pm.CbufRing

/-- the scan of `cbuf_find_unread_line` over the unread bytes as a list: `(m, l, lines)` when the loop ends -/
def scan : List UInt8 → Nat → Nat → Nat → Int → Int → Nat × Nat × Int
  | [], _, m, l, _, lines => (m, l, lines)
  | b :: bs, n, m, l, chars, lines =>
    if (if chars > 0 then chars - 1 else chars) = 0 ∨ (if (b == 10) = true ∧ lines > 0 then lines - 1 else lines) = 0 then
      (if (b == 10) = true then n + 1 else m, if (b == 10) = true then l + 1 else l,
        if (b == 10) = true ∧ lines > 0 then lines - 1 else lines)
    else
      scan bs (n + 1) (if (b == 10) = true then n + 1 else m) (if (b == 10) = true then l + 1 else l)
        (if chars > 0 then chars - 1 else chars) (if (b == 10) = true ∧ lines > 0 then lines - 1 else lines)

/-- `cbuf_find_unread_line` on the unread bytes `c`: the number of bytes that make up the lines asked for, and the
    number of lines -/
def findLineSpec (c : List UInt8) (chars lines : Int) : Nat × Nat :=
  if lines = 0 ∨ (lines ≤ -1 ∧ chars ≤ 0) then (0, 0)
  else if c = [] then (0, 0)
  else if (scan c 0 0 0 (if lines > 0 then -1 else chars) lines).2.2 > 0 then (0, 0)
  else ((scan c 0 0 0 (if lines > 0 then -1 else chars) lines).1, (scan c 0 0 0 (if lines > 0 then -1 else chars) lines).2.1)

/-- the loop of the model walks the ring exactly as `scan` walks the unread bytes -/
theorem findLoop_eq_scan (data : List UInt8) (size i_in : Nat) (k : Nat) :
    ∀ (fuel : Nat) (s : FLoop), k ≤ fuel → k ≤ size → s.i ≤ size → (s.i + k) % (size + 1) = i_in → s.cur = data.drop s.i →
      ((findLoop fuel data size i_in s).m, (findLoop fuel data size i_in s).l, (findLoop fuel data size i_in s).lines) =
        scan (rslice data (size + 1) s.i k) s.n s.m s.l s.chars s.lines := by
  induction k with
  | zero =>
    intro fuel s _ _ hi hk _
    have : s.i = i_in := by rw [← hk]; simp; exact (Nat.mod_eq_of_lt (by omega)).symm
    cases fuel with
    | zero => simp [findLoop, scan]
    | succ f => simp [findLoop, this, scan]
  | succ k ih =>
    intro fuel s hf hks hi hk hcur
    cases fuel with
    | zero => omega
    | succ f =>
      have hne : s.i ≠ i_in := by
        have := mod2 (s.i + (k + 1)) (size + 1) (by omega)
        omega
      have hsl : rslice data (size + 1) s.i (k + 1) = data.getD s.i 0 :: rslice data (size + 1) ((s.i + 1) % (size + 1)) k := by
        have := rslice_add data (size + 1) s.i 1 k
        rw [Nat.add_comm 1 k] at this
        rw [this]
        simp [rslice, Nat.mod_eq_of_lt (show s.i < size + 1 by omega)]
      have hhead : s.cur.headD 0 = data.getD s.i 0 := by
        rw [hcur, List.getD_eq_getElem?_getD, ← List.head?_drop]
        cases hd : data.drop s.i <;> simp [List.headD]
      unfold findLoop
      rw [hsl]
      simp only [ne_eq, hne, not_false_eq_true, ↓reduceIte, hhead]
      unfold scan
      generalize (data.getD s.i 0 == 10) = nl
      by_cases hstop : (if s.chars > 0 then s.chars - 1 else s.chars) = 0 ∨ (if nl = true ∧ s.lines > 0 then s.lines - 1 else s.lines) = 0
      · rw [if_pos hstop, if_pos hstop]
      · rw [if_neg hstop, if_neg hstop]
        have hm := mod2 (s.i + 1) (size + 1) (by omega)
        apply ih f _ (by omega) (by omega)
        · dsimp only; omega
        · dsimp only; rw [Nat.mod_add_mod, ← hk]; congr 1; omega
        · dsimp only
          by_cases hz : (s.i + 1) % (size + 1) = 0
          · rw [if_pos hz, hz]; rfl
          · rw [if_neg hz, hcur, List.tail_drop]
            congr 1; omega

theorem scan_le (c : List UInt8) (n m l : Nat) (chars lines : Int) (hm : m ≤ n) :
    (scan c n m l chars lines).1 ≤ n + c.length := by
  induction c generalizing n m l chars lines with
  | nil => simp [scan]; omega
  | cons b bs ih =>
    unfold scan
    generalize (if chars > 0 then chars - 1 else chars) = chars'
    generalize (if (b == 10) = true ∧ lines > 0 then lines - 1 else lines) = lines'
    by_cases hstop : chars' = 0 ∨ lines' = 0
    · rw [if_pos hstop]; simp only [List.length_cons]; split <;> omega
    · rw [if_neg hstop]
      have := ih (n + 1) (if (b == 10) = true then n + 1 else m) (if (b == 10) = true then l + 1 else l) chars' lines'
        (by split <;> omega)
      simp only [List.length_cons]; omega

theorem findLineSpec_le (c : List UInt8) (chars lines : Int) : (findLineSpec c chars lines).1 ≤ c.length := by
  unfold findLineSpec
  by_cases h1 : lines = 0 ∨ (lines ≤ -1 ∧ chars ≤ 0)
  · rw [if_pos h1]; exact Nat.zero_le _
  · rw [if_neg h1]
    by_cases h2 : c = []
    · rw [if_pos h2]; exact Nat.zero_le _
    · rw [if_neg h2]
      by_cases h3 : (scan c 0 0 0 (if lines > 0 then -1 else chars) lines).2.2 > 0
      · rw [if_pos h3]; exact Nat.zero_le _
      · rw [if_neg h3]
        have := scan_le c 0 0 0 (if lines > 0 then -1 else chars) lines (Nat.le_refl _)
        simpa using this

theorem findUnreadLine_eq (r : Ring) (chars lines : Int) (h : ValidP r) :
    findUnreadLine r chars lines = findLineSpec r.contents chars lines := by
  unfold findUnreadLine findLineSpec
  have hcl := h.contents_length
  by_cases h1 : lines = 0 ∨ (lines ≤ -1 ∧ chars ≤ 0)
  · rw [if_pos h1, if_pos h1]
  · rw [if_neg h1, if_neg h1]
    by_cases h2 : r.used = 0
    · rw [if_pos h2, if_pos (List.length_eq_zero_iff.mp (by rw [hcl]; exact h2))]
    · have hne : r.contents ≠ [] := by
        intro hh; rw [hh] at hcl; simp at hcl; omega
      rw [if_neg h2, if_neg hne]
      dsimp only
      have hk := findLoop_eq_scan r.data r.size r.i_in r.used (r.size + 1)
        { i := r.i_out, cur := r.data.drop r.i_out, n := 0, m := 0, l := 0, chars := if lines > 0 then -1 else chars, lines := lines }
        (by have := h.used_le; omega) h.used_le h.out_le h.in_eq.symm rfl
      dsimp only at hk
      rw [← h.contents_eq] at hk
      rw [← hk]

theorem readLine_refused (r : Ring) (len lines : Int) (h : len < 0 ∨ lines < -1) : readLine r len lines = (-1, none, r, true) := by
  unfold readLine; exact if_pos h

theorem readLine_zero (r : Ring) (len : Int) (hl : 0 ≤ len) : readLine r len 0 = (0, none, r, true) := by
  unfold readLine; rw [if_neg (by omega)]; exact if_pos rfl

/-- `cbuf_read_line (src, dstbuf, len, lines)` on a valid ring, `len ≥ 0`, `lines` positive or -1: no assertion fires (in
    particular the inner `cbuf_reader` delivers exactly `m` bytes and `cbuf_dropper` is never asked for more than `used`);
    with `n` the byte count that `cbuf_find_unread_line` finds on the unread bytes (`findLineSpec contents (len - 1) lines`,
    never more than `used`): `n` is returned; if `n > 0`, `dstbuf` (when `len > 0`) receives the first `min n (len - 1)`
    unread bytes, and exactly the first `n` unread bytes leave the ring — a line longer than the caller's buffer is cut, its
    tail is discarded, as `cbuf.h` says; if `n = 0` nothing changes. -/
theorem readLine_spec (r : Ring) (len lines : Int) (h : ValidP r) (hl : 0 ≤ len) (h2 : lines ≠ 0) (hn : -1 ≤ lines) :
    Took r (findLineSpec r.contents (len - 1) lines).1 (readLine r len lines).2.2.1 ∧
    (readLine r len lines).2.2.2 = true ∧
    (readLine r len lines).1 = ((findLineSpec r.contents (len - 1) lines).1 : Nat) ∧
    (readLine r len lines).2.1 =
      (if 0 < (findLineSpec r.contents (len - 1) lines).1 ∧ 0 < len then
        some (r.contents.take (min (findLineSpec r.contents (len - 1) lines).1 (len - 1).toNat)) else none) ∧
    (findLineSpec r.contents (len - 1) lines).1 ≤ r.used := by
  have hv := (valid_iff r).mpr h
  unfold readLine
  rw [if_neg (by omega), if_neg h2]
  dsimp only
  rw [findUnreadLine_eq r _ _ h]
  have hle := findLineSpec_le r.contents (len - 1) lines
  rw [h.contents_length] at hle
  generalize (findLineSpec r.contents (len - 1) lines).1 = n at hle
  generalize (len - 1).toNat = k
  by_cases h3 : n > 0
  · rw [if_pos h3]
    have t := dropper_took r n h hle
    have hdv := t.valid.valid_true
    have hdo := dropper_ok r n h hle h3
    by_cases h4 : len > 0 ∧ min n k > 0
    · simp only [h4, and_self, ↓reduceIte]
      obtain ⟨d, g, d0⟩ := reader_spec r (min n k) (.mem []) h h4.2
      obtain rfl : d = min n k := (d0 trivial).trans (Nat.min_eq_left (by omega))
      exact ⟨t, by simp [hv, g.ok, g.rc_pos h4.2, hdo, hdv], trivial, by simp [h3, g.out.trans (List.nil_append _)], hle⟩
    · have hx : (if len > 0 ∧ min n k > 0 then reader r (min n k) (.mem []) else ((0 : Int), Putter.mem [], true))
          = ((0 : Int), Putter.mem [], true) := by rw [if_neg h4]
      rw [hx]
      simp only [h4, ↓reduceIte]
      refine ⟨t, by simp [hv, hdo, hdv], trivial, ?_, hle⟩
      by_cases h5 : len > 0
      · have h6 : min n k = 0 := by
          have : ¬ (min n k > 0) := fun hh => h4 ⟨h5, hh⟩
          omega
        simp [h3, h5, h6, Putter.out]
      · simp [h5]
  · rw [if_neg h3]
    obtain rfl : n = 0 := by omega
    exact ⟨.none h, by simp [hv], rfl, by simp, hle⟩

/-! ### one line (`lines = 1`: the call `client.c` makes) -/

theorem scan_one (c : List UInt8) (n m l : Nat) :
    scan c n m l (-1) 1 =
      if 10 ∈ c then (n + (c.takeWhile (· != 10)).length + 1, l + 1, 0) else (m, l, 1) := by
  induction c generalizing n m l with
  | nil => simp [scan]
  | cons b bs ih =>
    unfold scan
    by_cases hb : b = 10
    · subst hb
      simp
    · have hb' : (b == 10) = false := by simp [hb]
      have hb2 : (b != 10) = true := by simp [hb]
      have hmem : (10 ∈ b :: bs) ↔ 10 ∈ bs := by
        simp only [List.mem_cons]
        constructor
        · rintro (h | h)
          · exact absurd h.symm hb
          · exact h
        · exact Or.inr
      simp only [hb', Bool.false_eq_true, false_and, ↓reduceIte, List.takeWhile_cons, hb2, List.length_cons, hmem]
      have : ¬ ((if (-1 : Int) > 0 then (-1 : Int) - 1 else -1) = 0 ∨ (1 : Int) = 0) := by decide
      rw [if_neg this]
      have e : (if (-1 : Int) > 0 then (-1 : Int) - 1 else -1) = -1 := by decide
      rw [e, ih]
      split
      · congr 1; omega
      · rfl

/-- asked for one line, `cbuf_find_unread_line` finds the bytes up to and including the first line feed, or nothing -/
theorem findLineSpec_one (c : List UInt8) (chars : Int) :
    findLineSpec c chars 1 = if 10 ∈ c then ((c.takeWhile (· != 10)).length + 1, 1) else (0, 0) := by
  unfold findLineSpec
  have h1 : ¬ ((1 : Int) = 0 ∨ ((1 : Int) ≤ -1 ∧ chars ≤ 0)) := by omega
  have h2 : (if (1 : Int) > 0 then (-1 : Int) else chars) = -1 := by simp
  rw [if_neg h1, h2, scan_one]
  by_cases hc : c = []
  · subst hc; simp
  · rw [if_neg hc]
    by_cases hm : 10 ∈ c
    · simp [hm]
    · simp [hm]

theorem takeWhile_line (c : List UInt8) (h : 10 ∈ c) :
    c.take ((c.takeWhile (· != 10)).length + 1) = c.takeWhile (· != 10) ++ [10] ∧
    c.drop ((c.takeWhile (· != 10)).length + 1) = (c.dropWhile (· != 10)).drop 1 := by
  induction c with
  | nil => cases h
  | cons b bs ih =>
    by_cases hb : b = 10
    · subst hb; simp
    · have hb2 : (b != 10) = true := by simp [hb]
      have hmem : 10 ∈ bs := by
        rcases List.mem_cons.mp h with h | h
        · exact absurd h.symm hb
        · exact h
      obtain ⟨i1, i2⟩ := ih hmem
      simp only [List.takeWhile_cons, hb2, ↓reduceIte, List.length_cons, List.take_succ_cons, List.drop_succ_cons,
        List.dropWhile_cons, List.cons_append]
      exact ⟨by rw [i1], i2⟩

/-- `cbuf_read_line (src, buf, len, 1)` with a buffer that is long enough, on a valid ring.  If the unread bytes contain
    a line feed, the return value is the length of the first line including it, `buf` receives exactly that line, and
    exactly that line leaves the ring; if they contain none, 0 is returned and the unread bytes stay. -/
theorem readLine_one (r : Ring) (len : Int) (h : ValidP r) (hlen : 0 ≤ len) :
    (10 ∈ r.contents → ((r.contents.takeWhile (· != 10)).length + 1 : Nat) < len →
      (readLine r len 1).1 = (((r.contents.takeWhile (· != 10)).length + 1 : Nat) : Int) ∧
      (readLine r len 1).2.1 = some (r.contents.takeWhile (· != 10) ++ [10]) ∧
      (readLine r len 1).2.2.1.contents = (r.contents.dropWhile (· != 10)).drop 1) ∧
    (10 ∉ r.contents → (readLine r len 1).1 = 0 ∧ (readLine r len 1).2.1 = none ∧
      (readLine r len 1).2.2.1.contents = r.contents) := by
  obtain ⟨t, _, s1, s3, _⟩ := readLine_spec r len 1 h hlen (by decide) (by decide)
  have s2 := t.contents
  rw [findLineSpec_one] at s1 s2 s3
  constructor
  · intro hm hl
    simp only [hm, ↓reduceIte] at s1 s2 s3
    obtain ⟨t1, t2⟩ := takeWhile_line r.contents hm
    refine ⟨s1, ?_, by rw [s2, t2]⟩
    rw [s3]
    have hlp : 0 < len := by omega
    have hmin : min ((r.contents.takeWhile (· != 10)).length + 1) (len - 1).toNat = (r.contents.takeWhile (· != 10)).length + 1 := by omega
    simp only [Nat.zero_lt_succ, hlp, and_self, ↓reduceIte, hmin, t1]
  · intro hm
    simp only [hm, ↓reduceIte] at s1 s2 s3
    refine ⟨by simpa using s1, ?_, by simpa using s2⟩
    rw [s3]; simp

end Pm.CbufRing
