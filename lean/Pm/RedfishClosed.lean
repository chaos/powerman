import Pm.RedfishSpec
/-! `specPower` (a fold over the targets sorted by depth) in closed form. -/
namespace Pm.Redfish

/-- the status descendants see for `a` during an `off` of the targets `T`: a target whose host answers is
    (or will be) off; everything else is as in the initial state.  For `on` (no target has a target ancestor) and
    `stat`, the initial state. -/
def effStat (c : Cfg) (st0 : St) (cmd : Cmd) (T : List Nat) (a : Nat) : Stat :=
  if cmd = .off ∧ a ∈ T ∧ hostFails c a = false then .off else statOf c st0 a

/-- the blocker of `t`: the topmost ancestor whose effective status is not on, with that status -/
def blk (c : Cfg) (st0 : St) (cmd : Cmd) (T : List Nat) (t : Nat) : Option (Nat × Stat) :=
  firstOff (effStat c st0 cmd T) (ancUp c t).reverse

/-- the line the rules give a known target of `on`/`off` -/
def powLine (c : Cfg) (st0 : St) (cmd : Cmd) (T : List Nat) (t : Nat) : Line :=
  match blk c st0 cmd T t with
  | some (a, s) => if cmd == .off && s == .off then .ok t else .dep t cmd s a
  | none => if hostFails c t then .status t .error else .ok t

/-- the target is actually switched -/
def succeeds (c : Cfg) (st0 : St) (cmd : Cmd) (T : List Nat) (t : Nat) : Bool :=
  (blk c st0 cmd T t).isNone && !hostFails c t

/-- line and recorded status of a known target of `on`/`off`, from its blocker -/
def powLineB (c : Cfg) (cmd : Cmd) (t : Nat) : Option (Nat × Stat) → Line
  | some (a, s) => if cmd == .off && s == .off then .ok t else .dep t cmd s a
  | none => if hostFails c t then .status t .error else .ok t
def decidedB (c : Cfg) (cmd : Cmd) (t : Nat) : Option (Nat × Stat) → Stat
  | some (_, s) => if cmd == .off && s == .off then .off else s
  | none => if hostFails c t then .error else if cmd == .on then .on else .off

theorem powLine_eq (c : Cfg) (st0 : St) (cmd : Cmd) (T : List Nat) (t : Nat) :
    powLine c st0 cmd T t = powLineB c cmd t (blk c st0 cmd T t) := rfl

/-- the status recorded for a decided target -/
def decided (c : Cfg) (st0 : St) (cmd : Cmd) (T : List Nat) (t : Nat) : Stat := decidedB c cmd t (blk c st0 cmd T t)

theorem succeeds_eq (c : Cfg) (st0 : St) (cmd : Cmd) (T : List Nat) (t : Nat) :
    succeeds c st0 cmd T t = ((blk c st0 cmd T t).isNone && !hostFails c t) := rfl

theorem succeeds_iff {c : Cfg} {st0 : St} {cmd : Cmd} {T : List Nat} {t : Nat} :
    succeeds c st0 cmd T t = true ↔ blk c st0 cmd T t = none ∧ hostFails c t = false := by
  simp [succeeds]

theorem succeeds_fails {c : Cfg} {st0 : St} {cmd : Cmd} {T : List Nat} {t : Nat} (h : hostFails c t = true) :
    succeeds c st0 cmd T t = false := by
  simp [succeeds, h]

/-- the plug states after the targets in `L` have been handled -/
def finalOn (c : Cfg) (st0 : St) (cmd : Cmd) (T : List Nat) (L : List Nat) (x : Nat) : Bool :=
  if cmd == .on then isOn st0 x || L.any (fun t => succeeds c st0 cmd T t && x == t)
  else isOn st0 x && !(L.any fun t => succeeds c st0 cmd T t && (x == t || isDesc c x t))

theorem firstOff_congr {f g : Nat → Stat} {l : List Nat} (h : ∀ a ∈ l, f a = g a) : firstOff f l = firstOff g l := by
  unfold firstOff
  congr 1
  exact List.map_congr_left (fun a ha => by rw [h a ha])

theorem chain_cons {c : Cfg} (hw : WF c = true) {t q : Nat} (h : parentOf c t = some q) :
    (ancUp c t).reverse = (ancUp c q).reverse ++ [q] := by
  rw [ancUp_cons hw h]; simp

theorem firstOff_single (f : Nat → Stat) (q : Nat) :
    firstOff f [q] = if f q ≠ .on then some (q, f q) else none := by
  unfold firstOff; simp [List.find?_cons]; split <;> simp_all

/-- what the fold sees on the chain of a target: decided targets by their decision, others by the initial state -/
def seenDecided (c : Cfg) (st0 : St) (cmd : Cmd) (T : List Nat) (a : Nat) : Stat :=
  if a ∈ T then decided c st0 cmd T a else statOf c st0 a

theorem statOf_fail {c : Cfg} {st : St} {a : Nat} (h : hostFails c a = true) : statOf c st a = .error := by
  simp [statOf, h]

theorem chain_agree_off {c : Cfg} (hw : WF c = true) (st0 : St) (T : List Nat) : ∀ t,
    firstOff (seenDecided c st0 .off T) (ancUp c t).reverse = firstOff (effStat c st0 .off T) (ancUp c t).reverse := by
  refine anc_induction hw _ ?_ ?_
  · intro t ht; rw [ancUp_root ht]; rfl
  · intro t q hq ih
    rw [chain_cons hw hq, firstOff_append, firstOff_append, ih]
    cases hb : firstOff (effStat c st0 .off T) (ancUp c q).reverse with
    | some r => rfl
    | none =>
      simp only [Option.none_or]
      rw [firstOff_single, firstOff_single]
      have : seenDecided c st0 .off T q = effStat c st0 .off T q := by
        unfold seenDecided effStat decided blk
        rw [hb]
        by_cases hT : q ∈ T
        · by_cases hf : hostFails c q = true
          · simp [hT, hf, statOf_fail hf, decidedB]
          · simp [hT, hf, decidedB]
        · simp [hT]
      rw [this]

theorem chain_agree_on {c : Cfg} (st0 : St) (T : List Nat) (t : Nat) (h : ∀ a ∈ ancUp c t, a ∉ T) :
    firstOff (seenDecided c st0 .on T) (ancUp c t).reverse = firstOff (effStat c st0 .on T) (ancUp c t).reverse := by
  apply firstOff_congr
  intro a ha
  have := h a (by simpa using ha)
  simp [seenDecided, effStat, this]

/-- the final plug states, computed from the states `st` and the targets in `L` whose command is still to be carried
    out (`finalOn` is the case `st = st0`) -/
def curOn (c : Cfg) (st0 : St) (C : Cmd) (T : List Nat) (st : St) (L : List Nat) (x : Nat) : Bool :=
  if C == .on then isOn st x || L.any (fun t => succeeds c st0 C T t && x == t)
  else isOn st x && !(L.any fun t => succeeds c st0 C T t && (x == t || isDesc c x t))

theorem finalOn_eq_curOn (c : Cfg) (st0 : St) (C : Cmd) (T L : List Nat) (x : Nat) :
    finalOn c st0 C T L x = curOn c st0 C T st0 L x := rfl

theorem curOn_nil (c : Cfg) (st0 : St) (C : Cmd) (T : List Nat) (st : St) (x : Nat) :
    curOn c st0 C T st [] x = isOn st x := by
  unfold curOn; split <;> simp

theorem curOn_congr {c : Cfg} {st0 : St} {C : Cmd} {T : List Nat} {st : St} {L L' : List Nat}
    (h : ∀ t, succeeds c st0 C T t = true → (t ∈ L ↔ t ∈ L')) (x : Nat) :
    curOn c st0 C T st L x = curOn c st0 C T st L' x := by
  have key : ∀ f : Nat → Bool, (L.any fun t => succeeds c st0 C T t && f t) = (L'.any fun t => succeeds c st0 C T t && f t) := by
    intro f
    rw [Bool.eq_iff_iff, List.any_eq_true, List.any_eq_true]
    constructor
    · rintro ⟨t, ht, hh⟩
      simp only [Bool.and_eq_true] at hh
      exact ⟨t, (h t hh.1).1 ht, by simp [hh.1, hh.2]⟩
    · rintro ⟨t, ht, hh⟩
      simp only [Bool.and_eq_true] at hh
      exact ⟨t, (h t hh.1).2 ht, by simp [hh.1, hh.2]⟩
  unfold curOn
  rw [key, key]

theorem curOn_cons_fail {c : Cfg} {st0 : St} {C : Cmd} {T : List Nat} {t : Nat} (h : succeeds c st0 C T t = false)
    (st : St) (L : List Nat) (x : Nat) : curOn c st0 C T st (t :: L) x = curOn c st0 C T st L x := by
  unfold curOn; simp [h]

theorem curOn_powerSt {c : Cfg} {st0 : St} {C : Cmd} {T : List Nat} {t : Nat} (hc : C ≠ .stat)
    (h : succeeds c st0 C T t = true) (st : St) (L : List Nat) (x : Nat) :
    curOn c st0 C T st (t :: L) x = curOn c st0 C T (powerSt c st C t) L x := by
  unfold curOn
  cases C with
  | stat => exact absurd rfl hc
  | on =>
    simp only [beq_self_eq_true, if_true, isOn_powerSt_on, List.any_cons, h, Bool.true_and]
    by_cases hx : x = t <;> simp [hx, Bool.or_left_comm]
  | off =>
    have hb : (Cmd.off == Cmd.on) = false := rfl
    simp only [hb, Bool.false_eq_true, if_false, isOn_powerSt_off _ _ _ _ _ (show Cmd.off ≠ Cmd.on by decide),
      List.any_cons, h, Bool.true_and]
    by_cases hx : x = t
    · simp [hx]
    · have : (x == t) = false := by simp [hx]
      simp only [this, Bool.false_or, hx, decide_false, Bool.not_false, Bool.and_true]
      cases isOn st x <;> cases isDesc c x t <;> simp

theorem specStep_blocker (c : Cfg) (st : St) (cmd : Cmd) (seen : List (Nat × Stat)) (lines : List Line) (cur : St) (t : Nat) :
    specStep c st cmd (seen, lines, cur) t =
      ((t, decidedB c cmd t (firstOff (seenStat c st seen) (ancUp c t).reverse)) :: seen,
       lines ++ [powLineB c cmd t (firstOff (seenStat c st seen) (ancUp c t).reverse)],
       if (firstOff (seenStat c st seen) (ancUp c t).reverse).isNone && !hostFails c t then powerSt c cur cmd t else cur) := by
  rw [specStep_eq]
  cases firstOff (seenStat c st seen) (ancUp c t).reverse with
  | some as => obtain ⟨a, s⟩ := as; simp only [decidedB, powLineB]; split <;> rfl
  | none => simp only [decidedB, powLineB]; split <;> simp_all

/-- the fold has handled `L1` and has `L2` before it -/
structure SpecInv (c : Cfg) (st0 : St) (cmd : Cmd) (T : List Nat) (L1 L2 : List Nat)
    (acc : List (Nat × Stat) × List Line × St) : Prop where
  seen : ∀ a, seenStat c st0 acc.1 a = if a ∈ L1 then decided c st0 cmd T a else statOf c st0 a
  lines : acc.2.1 = L1.map (powLine c st0 cmd T)
  cur : ∀ x, finalOn c st0 cmd T (L1 ++ L2) x = curOn c st0 cmd T acc.2.2 L2 x

theorem seenStat_cons (c : Cfg) (st0 : St) (t : Nat) (s : Stat) (seen : List (Nat × Stat)) (a : Nat) :
    seenStat c st0 ((t, s) :: seen) a = if a = t then s else seenStat c st0 seen a := by
  unfold seenStat
  by_cases h : a = t
  · subst h; simp
  · have : (a == t) = false := by simp [h]
    simp [List.lookup_cons, this, h]

theorem seen_chain {c : Cfg} (hw : WF c = true) {st0 : St} {cmd : Cmd} (hc : cmd ≠ .stat) {T L1 : List Nat}
    {seen : List (Nat × Stat)} {t : Nat}
    (hseen : ∀ a, seenStat c st0 seen a = if a ∈ L1 then decided c st0 cmd T a else statOf c st0 a)
    (hL1 : ∀ a ∈ L1, a ∈ T) (hanc : ∀ a ∈ ancUp c t, a ∈ T → a ∈ L1) (hon : cmd = .on → ∀ a ∈ ancUp c t, a ∉ T) :
    firstOff (seenStat c st0 seen) (ancUp c t).reverse = blk c st0 cmd T t := by
  have e1 : firstOff (seenStat c st0 seen) (ancUp c t).reverse = firstOff (seenDecided c st0 cmd T) (ancUp c t).reverse := by
    apply firstOff_congr
    intro a ha
    have ha : a ∈ ancUp c t := by simpa using ha
    rw [hseen a]
    unfold seenDecided
    by_cases hT : a ∈ T
    · simp [hT, hanc a ha hT]
    · have : a ∉ L1 := fun hh => hT (hL1 a hh)
      simp [hT, this]
  rw [e1]
  unfold blk
  cases cmd with
  | stat => exact absurd rfl hc
  | on => exact chain_agree_on st0 T t (hon rfl)
  | off => exact chain_agree_off hw st0 T t

theorem SpecInv_step {c : Cfg} (hw : WF c = true) {st0 : St} {cmd : Cmd} (hc : cmd ≠ .stat) {T L1 L2 : List Nat}
    {acc : List (Nat × Stat) × List Line × St} {t : Nat} (h : SpecInv c st0 cmd T L1 (t :: L2) acc)
    (hL1 : ∀ a ∈ L1, a ∈ T)
    (hanc : ∀ a ∈ ancUp c t, a ∈ T → a ∈ L1) (hon : cmd = .on → ∀ a ∈ ancUp c t, a ∉ T) :
    SpecInv c st0 cmd T (L1 ++ [t]) L2 (specStep c st0 cmd acc t) := by
  rcases acc with ⟨seen, lines, cur⟩
  rw [specStep_blocker, seen_chain hw hc h.seen hL1 hanc hon, ← succeeds_eq]
  refine ⟨fun a => ?_, ?_, fun x => ?_⟩
  · rw [seenStat_cons, h.seen]
    by_cases e : a = t
    · subst e; simp [decided]
    · simp [e]
  · have hl : lines = L1.map (powLine c st0 cmd T) := h.lines
    rw [hl, List.map_append, List.map_singleton, powLine_eq]
  · rw [List.append_assoc, List.singleton_append, h.cur]
    by_cases hs : succeeds c st0 cmd T t = true
    · rw [curOn_powerSt hc hs, if_pos hs]
    · rw [if_neg hs, curOn_cons_fail (by simpa using hs)]

theorem SpecInv_fold {c : Cfg} (hw : WF c = true) {st0 : St} {cmd : Cmd} (hc : cmd ≠ .stat) {T : List Nat}
    (hon : cmd = .on → ∀ t ∈ T, ∀ a ∈ ancUp c t, a ∉ T) :
    ∀ (L2 L1 : List Nat) (acc : List (Nat × Stat) × List Line × St), SpecInv c st0 cmd T L1 L2 acc →
      (∀ a ∈ L1 ++ L2, a ∈ T) →
      (∀ pre t post, L2 = pre ++ t :: post → ∀ a ∈ ancUp c t, a ∈ T → a ∈ L1 ++ pre) →
      SpecInv c st0 cmd T (L1 ++ L2) [] (L2.foldl (specStep c st0 cmd) acc) := by
  intro L2
  induction L2 with
  | nil => intro L1 acc h _ _; simpa using h
  | cons t L2 ih =>
    intro L1 acc h hT hpre
    rw [List.foldl_cons]
    have hstep := SpecInv_step hw hc h (fun a ha => hT a (by simp [ha]))
      (fun a ha haT => by simpa using hpre [] t L2 rfl a ha haT)
      (fun e => hon e t (hT t (by simp)))
    have := ih (L1 ++ [t]) _ hstep (by intro a ha; exact hT a (by simpa using ha))
      (by
        intro pre t' post e a ha haT
        have := hpre (t :: pre) t' post (by simp [e]) a ha haT
        simpa using this)
    simpa using this

theorem order_prefix {c : Cfg} (hw : WF c = true) (ts : List Nat) (pre : List Nat) (t : Nat) (post : List Nat)
    (e : specOrder c ts = pre ++ t :: post) (a : Nat) (ha : a ∈ ancUp c t) (haT : a ∈ knownT c ts) : a ∈ pre := by
  have hp : (specOrder c ts).Pairwise (fun a b => decide ((ancUp c a).length ≤ (ancUp c b).length) = true) := by
    unfold specOrder
    apply List.pairwise_mergeSort
    · intro a b c' h1 h2; simp at h1 h2 ⊢; omega
    · intro a b; simp; omega
  have hmem : a ∈ specOrder c ts := (List.mergeSort_perm _ _).mem_iff.2 haT
  rw [e] at hp hmem
  have hd := depth_anc_lt hw ha
  unfold depth at hd
  rw [List.pairwise_append] at hp
  have h2 := List.pairwise_cons.1 hp.2.1
  rcases List.mem_append.1 hmem with h | h
  · exact h
  · rcases List.mem_cons.1 h with rfl | h
    · omega
    · have := h2.1 a h; simp at this; omega

theorem specPower_closed {c : Cfg} (hw : WF c = true) (st0 : St) {cmd : Cmd} (hc : cmd ≠ .stat) (ts : List Nat)
    (hph : specPhased c cmd ts = false) :
    (specPower c st0 cmd ts).1 = unknownLines c ts ++ (specOrder c ts).map (powLine c st0 cmd (knownT c ts)) ∧
    ∀ x, isOn (specPower c st0 cmd ts).2 x = finalOn c st0 cmd (knownT c ts) (specOrder c ts) x := by
  rw [specPower_eq, hph]
  simp only [Bool.false_eq_true, if_false]
  have hmem : ∀ a, a ∈ specOrder c ts ↔ a ∈ knownT c ts := fun a => (List.mergeSort_perm _ _).mem_iff
  have hon : cmd = .on → ∀ t ∈ knownT c ts, ∀ a ∈ ancUp c t, a ∉ knownT c ts :=
    fun e => specPhased_false (e ▸ hph)
  have h0 : SpecInv c st0 cmd (knownT c ts) [] (specOrder c ts) ([], [], st0) :=
    ⟨fun a => by simp [seenStat], rfl, fun _ => rfl⟩
  have := SpecInv_fold hw hc hon (specOrder c ts) [] _ h0 (by intro a ha; exact (hmem a).1 (by simpa using ha))
    (by
      intro pre t post e a ha haT
      simpa using order_prefix hw ts pre t post e a ha haT)
  simp only [List.nil_append] at this
  exact ⟨by rw [this.lines], fun x => by rw [← curOn_nil c st0 cmd (knownT c ts), ← this.cur, List.append_nil]⟩

theorem specPower_lines {c : Cfg} (hw : WF c = true) (st : St) {cmd : Cmd} (hc : cmd ≠ .stat) (ts : List Nat)
    (hph : specPhased c cmd ts = false) :
    (specPower c st cmd ts).1.Perm (unknownLines c ts ++ (knownT c ts).map (powLine c st cmd (knownT c ts))) ∧
    ∀ x, isOn (specPower c st cmd ts).2 x = finalOn c st cmd (knownT c ts) (knownT c ts) x := by
  obtain ⟨hl, hs⟩ := specPower_closed hw st hc ts hph
  have hperm : (specOrder c ts).Perm (knownT c ts) := List.mergeSort_perm _ _
  refine ⟨by rw [hl]; exact List.Perm.append_left _ (hperm.map _), fun x => ?_⟩
  rw [hs x, finalOn_eq_curOn, finalOn_eq_curOn]
  exact curOn_congr (fun t _ => hperm.mem_iff) x

end Pm.Redfish
