import Pm.Dev2Stmt
/-! What one statement, one run of the statement interpreter and one iteration of `_process_action`'s loop do, stated once
    for every proof about the device layer:

`StmtSpec` / `StmtWrites` (read off `Interp.Step`, `Pm/Dev2Stmt.lean`), the cut of the loop `bodyStep` / `onRunStep` with
`processActionF_induct`, and `Fd.onTimeout_eq_failAll` (the time-out branch is the error branch).

  Namespaces: `Fd` holds the facts about the time-out branch (`timeoutErr`, `timeoutTele`) with the rest of C07's (`Pm/Dev2Fd.lean`);
  `Login2` holds the cut of the loop and of the pass (`bodyStep`, `onRunStep`, `speaker`, `postPollReady` … `postPollPre`), which the
  C10 statements are written in. -/
namespace Pm.Dev2

/-- a completion (`_act_finish` is called for it) -/
def isFinish : Out → Bool | .finish _ _ => true | _ => false

@[simp] theorem setTop_clientId (a : Action) (e : ExecCtx) : (setTop a e).clientId = a.clientId := rfl

/-- telemetry, diagnostics, oracle mismatches and assertion reports: what is neither a payload nor a completion -/
def isNote : Out → Bool | .sent _ => false | .finish _ _ => false | _ => true

/-- a note that, if it is a callback (telemetry, diagnostic), goes to client `cid` -/
def noteTo (cid : Nat) : Out → Bool
  | .telemetry c _ => c == cid
  | .diag c _ => c == cid
  | .rxMismatch _ _ => true
  | .abortAssert _ => true
  | _ => false

theorem noteTo_note {cid : Nat} {x : Out} (h : noteTo cid x = true) : isNote x = true := by
  cases x <;> first | rfl | cases h

/-- the client a callback is addressed to -/
def outCid : Out → Option Nat
  | .finish c _ => some c
  | .telemetry c _ => some c
  | .diag c _ => some c
  | _ => none

theorem noteTo_addr {cid : Nat} {x : Out} (h : noteTo cid x = true) {c : Nat} (hc : outCid x = some c) : c = cid := by
  cases x with
  | telemetry c' _ => cases hc; simpa [noteTo] using h
  | diag c' _ => cases hc; simpa [noteTo] using h
  | finish _ _ => cases h
  | _ => cases hc

/-- what a statement of an action of client `cid` reports: a payload, or a note that (if a callback) goes to `cid` -/
def saidTo (cid : Nat) : Out → Bool
  | .sent _ => true
  | x => noteTo cid x

theorem saidTo_of_note {cid : Nat} {x : Out} (h : noteTo cid x = true) : saidTo cid x = true := by
  cases x <;> first | exact h | rfl

theorem saidTo_noFinish {cid : Nat} {x : Out} (h : saidTo cid x = true) : isFinish x = false := by
  cases x <;> first | rfl | cases h

theorem noFinish_of_note {x : Out} (h : isNote x = true) : isFinish x = false := by
  cases x <;> first | rfl | cases h

section
variable {P : Out → Bool}
theorem notes_nil : ∀ x ∈ ([] : List Out), P x = true := fun _ h => nomatch h

theorem notes_one {y : Out} (h : P y = true) : ∀ x ∈ [y], P x = true := fun x hx => by cases List.mem_singleton.1 hx; exact h

theorem notes_append {l m : List Out} (hl : ∀ x ∈ l, P x = true) (hm : ∀ x ∈ m, P x = true) :
    ∀ x ∈ l ++ m, P x = true :=
  fun x hx => (List.mem_append.1 hx).elim (hl x) (hm x)

theorem notes_ite {c : Prop} [Decidable c] {l m : List Out} (hl : ∀ x ∈ l, P x = true) (hm : ∀ x ∈ m, P x = true) :
    ∀ x ∈ (if c then l else m), P x = true := by
  split
  · exact hl
  · exact hm
end

theorem teleMem_to (cid pre bs) : ∀ x ∈ teleMem cid pre bs, noteTo cid x = true := by
  unfold teleMem
  split
  · exact notes_one rfl
  · exact notes_one (by simp [noteTo])

theorem teleMem_notes (cid pre bs) : ∀ x ∈ teleMem cid pre bs, isNote x = true :=
  fun x hx => noteTo_note (teleMem_to cid pre bs x hx)

theorem askRx_out (o : Oracle) (pat : Nat) (s : Bytes) : ∀ x ∈ (askRx o pat s).2.2, ∃ a b, x = .rxMismatch a b := by
  unfold askRx
  split
  · split
    · exact fun _ h => nomatch h
    · exact fun _ hx => ⟨_, _, List.mem_singleton.mp hx⟩
  · exact fun _ hx => ⟨_, _, List.mem_singleton.mp hx⟩

theorem pickState_out (s : Bytes) (l : List (PState × Nat)) (o : Oracle) (errs : List Out) :
    ∀ x ∈ (pickState askRx s l o errs).2.2, x ∈ errs ∨ ∃ a b, x = .rxMismatch a b := by
  induction l generalizing o errs with
  | nil => exact fun _ hx => .inl hx
  | cons p r ih =>
    have step : ∀ x ∈ errs ++ (askRx o p.2 s).2.2, x ∈ errs ∨ ∃ a b, x = .rxMismatch a b := fun x hx =>
      (List.mem_append.mp hx).imp_right (askRx_out o p.2 s x)
    unfold pickState
    dsimp only
    split
    · exact step
    · exact fun x hx => (ih _ _ x hx).elim (step x) .inr

theorem pickResult_out (s : Bytes) (l : List (PResult × Nat)) (o : Oracle) (errs : List Out) :
    ∀ x ∈ (pickResult askRx s l o errs).2.2, x ∈ errs ∨ ∃ a b, x = .rxMismatch a b := by
  induction l generalizing o errs with
  | nil => exact fun _ hx => .inl hx
  | cons p r ih =>
    have step : ∀ x ∈ errs ++ (askRx o p.2 s).2.2, x ∈ errs ∨ ∃ a b, x = .rxMismatch a b := fun x hx =>
      (List.mem_append.mp hx).imp_right (askRx_out o p.2 s x)
    unfold pickResult
    dsimp only
    split
    · exact step
    · exact fun x hx => (ih _ _ x hx).elim (step x) .inr

theorem askRx_to (cid o pat s) : ∀ x ∈ (askRx o pat s).2.2, noteTo cid x = true := fun x hx => by
  obtain ⟨_, _, rfl⟩ := askRx_out o pat s x hx; rfl

theorem pickState_to (cid : Nat) (s : Bytes) (l : List (PState × Nat)) (o : Oracle) (errs : List Out)
    (h : ∀ x ∈ errs, noteTo cid x = true) : ∀ x ∈ (pickState askRx s l o errs).2.2, noteTo cid x = true :=
  fun x hx => (pickState_out s l o errs x hx).elim (h x) fun ⟨_, _, e⟩ => e ▸ rfl

theorem pickResult_to (cid : Nat) (s : Bytes) (l : List (PResult × Nat)) (o : Oracle) (errs : List Out)
    (h : ∀ x ∈ errs, noteTo cid x = true) : ∀ x ∈ (pickResult askRx s l o errs).2.2, noteTo cid x = true :=
  fun x hx => (pickResult_out s l o errs x hx).elim (h x) fun ⟨_, _, e⟩ => e ▸ rfl

/-- the one write a statement makes to the argument lists: in the list of its action, the entries of the node of a plug of the
    device -/
def Wrote (d : Dev) (a : Action) (t : List (Nat × List Arg)) : Prop :=
  ∃ (pn : Bytes) (plug : Plug) (upd : Arg → Arg), findPlug d pn = some plug ∧ (∀ g : Arg, (upd g).node = g.node) ∧
    t = (setArgs d a.arglist ((getArgs d a.arglist).map fun g => if g.node == plug.node.getD [] then upd g else g)).args

/-- What a statement run on device `d` and action `a` may do.  `dev`, `act`: the fields it may write; every other field
    of the result is the field of `d`, of `a`.  `out`: it reports notes to the action's client and leaves the output buffer
    alone, or it is a `send` that reports its payload `s` first and has queued it (`clipTo`: `dev->to` keeps the last 65536
    bytes).  `store`: the argument lists are left alone or written once (`Wrote`). -/
structure StmtSpec (d : Dev) (a : Action) (r : StepR) : Prop where
  dev : r.dev = { d with toBuf := r.dev.toBuf, fromBuf := r.dev.fromBuf, xmStr := r.dev.xmStr, xmOffs := r.dev.xmOffs,
                         xmResult := r.dev.xmResult, xmUsed := r.dev.xmUsed, args := r.dev.args, wake := r.dev.wake }
  act : r.act = { a with exec := r.act.exec, errnum := r.act.errnum, delayStart := r.act.delayStart }
  out : ((∀ x ∈ r.out, noteTo a.clientId x = true) ∧ r.dev.toBuf = d.toBuf) ∨
        ∃ s tele, r.out = Out.sent s :: tele ∧ (∀ x ∈ tele, noteTo a.clientId x = true) ∧ r.dev.toBuf = clipTo (d.toBuf ++ s)
  taken : ∃ k, r.dev.fromBuf = d.fromBuf.drop k
  store : r.dev.args = d.args ∨ Wrote d a r.dev.args

theorem StmtSpec.quiet {d : Dev} {a : Action} {r : StepR}
    (dev : r.dev = { d with toBuf := d.toBuf, fromBuf := d.fromBuf, xmStr := r.dev.xmStr, xmOffs := r.dev.xmOffs,
                            xmResult := r.dev.xmResult, xmUsed := r.dev.xmUsed, args := d.args, wake := r.dev.wake })
    (act : r.act = { a with exec := r.act.exec, errnum := r.act.errnum, delayStart := r.act.delayStart })
    (out : ∀ x ∈ r.out, noteTo a.clientId x = true) : StmtSpec d a r :=
  ⟨dev.trans (by rw [dev]), act, Or.inl ⟨out, by rw [dev]⟩, ⟨0, by rw [dev]; rfl⟩, Or.inl (by rw [dev])⟩

theorem StmtSpec.wrote {d : Dev} {a : Action} {r : StepR}
    (dev : r.dev = { d with toBuf := d.toBuf, fromBuf := d.fromBuf, xmStr := r.dev.xmStr, xmOffs := r.dev.xmOffs,
                            xmResult := r.dev.xmResult, xmUsed := r.dev.xmUsed, args := r.dev.args, wake := r.dev.wake })
    (act : r.act = { a with exec := r.act.exec, errnum := r.act.errnum, delayStart := r.act.delayStart })
    (out : ∀ x ∈ r.out, noteTo a.clientId x = true) (w : Wrote d a r.dev.args) : StmtSpec d a r :=
  ⟨dev.trans (by rw [dev]), act, Or.inl ⟨out, by rw [dev]⟩, ⟨0, by rw [dev]; rfl⟩, Or.inr w⟩

theorem Interp.Step.spec {d : Dev} {a : Action} {o : Oracle} {now : Time} {e : ExecCtx} {rest : List ExecCtx} {s : Stmt}
    {r : StepR} (h : Interp.Step d a o now e rest s r) : StmtSpec d a r := by
  cases h with
  | expectNo => exact .quiet rfl rfl (askRx_to _ _ _ _)
  | expectYes =>
    exact ⟨rfl, rfl, .inl ⟨notes_append (askRx_to _ _ _ _) (notes_ite (teleMem_to _ _ _) notes_nil), rfl⟩, ⟨_, rfl⟩, .inl rfl⟩
  | sendAbort => exact .quiet rfl rfl (notes_one rfl)
  | sendFresh =>
    exact ⟨rfl, rfl, .inr ⟨_, _, rfl, notes_ite notes_nil (notes_ite (teleMem_to _ _ _) notes_nil), rfl⟩, ⟨0, rfl⟩, .inl rfl⟩
  | delayDone | delayWait =>
    exact .quiet rfl rfl (notes_ite notes_nil (notes_ite (notes_one (by simp [noteTo])) notes_nil))
  | setWrite lit pm sm is pn s plug _ hs hf =>
    exact .wrote rfl rfl (pickState_to _ _ _ _ _ notes_nil)
      ⟨pn, plug, fun g => { g with state := (pickState askRx s is o []).2.1, val := some s }, hf, fun _ => rfl, rfl⟩
  | resWrite pm sm is pn s plug hn hs hf =>
    exact .wrote rfl rfl (notes_append (pickResult_to _ _ _ _ _ notes_nil) (notes_ite (notes_one (by simp [noteTo])) notes_nil))
      ⟨pn, plug, fun g => { g with result := (pickResult askRx s is o []).2.1, val := some s }, hf, fun _ => rfl, rfl⟩
  | _ => exact .quiet rfl rfl notes_nil

theorem processStmt_spec (d : Dev) (a : Action) (o : Oracle) (now : Time) : StmtSpec d a (processStmt d a o now) :=
  Interp.processStmt_ind d a o now _ (fun _ => .quiet rfl rfl (notes_one rfl)) fun _ _ _ _ _ _ h => h.spec

theorem stmtExpect_spec (d a o pat) : StmtSpec d a (stmtExpect d a o pat) :=
  -- an `expect` looks neither at the clock nor at the stack of contexts: its `Step` holds for any `now`, `e`, `rest`
  (Interp.expect_step (now := 0) (e := default) (rest := []) pat).spec

/-! For a context `e` that need not be the action's top context: -/

theorem stmtSend_spec (d a o e fmt) : StmtSpec d a (stmtSend d a o e fmt) := by
  rw [Interp.stmtSend_eq]
  unfold Interp.stmtSend' Interp.sendTele
  split
  · split
    · exact .quiet rfl rfl (notes_one rfl)
    · split <;> exact ⟨rfl, rfl, Or.inr ⟨_, _, rfl, notes_ite notes_nil (notes_ite (teleMem_to _ _ _) notes_nil), rfl⟩, ⟨0, rfl⟩, Or.inl rfl⟩
  · split <;> exact .quiet rfl rfl notes_nil

theorem StmtSpec.said {d : Dev} {a : Action} {r : StepR} (h : StmtSpec d a r) : ∀ x ∈ r.out, saidTo a.clientId x = true := by
  rcases h.out with ⟨hn, _⟩ | ⟨s, tele, ho, hn, _⟩
  · exact fun x hx => saidTo_of_note (hn x hx)
  · rw [ho]
    intro x hx
    rcases List.mem_cons.1 hx with rfl | hx
    · rfl
    · exact saidTo_of_note (hn x hx)

/-- the part of `StmtSpec` that holds of a sequence of statements: the fields written, and to whom it reports -/
structure StmtWrites (d : Dev) (a : Action) (r : StepR) : Prop where
  dev : r.dev = { d with toBuf := r.dev.toBuf, fromBuf := r.dev.fromBuf, xmStr := r.dev.xmStr, xmOffs := r.dev.xmOffs,
                         xmResult := r.dev.xmResult, xmUsed := r.dev.xmUsed, args := r.dev.args, wake := r.dev.wake }
  act : r.act = { a with exec := r.act.exec, errnum := r.act.errnum, delayStart := r.act.delayStart }
  said : ∀ x ∈ r.out, saidTo a.clientId x = true
  taken : ∃ k, r.dev.fromBuf = d.fromBuf.drop k

theorem StmtSpec.writes {d : Dev} {a : Action} {r : StepR} (h : StmtSpec d a r) : StmtWrites d a r :=
  ⟨h.dev, h.act, h.said, h.taken⟩

namespace StmtWrites
variable {d : Dev} {a : Action} {r : StepR} (h : StmtWrites d a r)
include h
theorem conn : r.dev.conn = d.conn := by rw [h.dev]
theorem loggedIn : r.dev.loggedIn = d.loggedIn := by rw [h.dev]
theorem acts : r.dev.acts = d.acts := by rw [h.dev]
theorem retryCount : r.dev.retryCount = d.retryCount := by rw [h.dev]
theorem clientId : r.act.clientId = a.clientId := by rw [h.act]
theorem com : r.act.com = a.com := by rw [h.act]
/-- no statement ever reports a completion: completions come from `_process_action` only -/
theorem noFinish : ∀ x ∈ r.out, isFinish x = false := fun x hx => saidTo_noFinish (h.said x hx)
end StmtWrites

/-- one more statement, run where `r` left off, reporting behind what `r` reported -/
theorem StmtWrites.trans {d : Dev} {a : Action} {r r' : StepR} (h : StmtWrites d a r) (h' : StmtWrites r.dev r.act r') :
    StmtWrites d a r' where
  dev := h'.dev.trans (by rw [h.dev])
  act := h'.act.trans (by rw [h.act])
  said := by rw [← h.clientId]; exact h'.said
  taken := by
    obtain ⟨k, hk⟩ := h.taken
    obtain ⟨k', hk'⟩ := h'.taken
    exact ⟨k + k', by rw [hk', hk, List.drop_drop]⟩

theorem processStmt_writes (d : Dev) (a : Action) (o : Oracle) (now : Time) (acc : List Out)
    (h : ∀ x ∈ acc, saidTo a.clientId x = true) :
    StmtWrites d a { processStmt d a o now with out := acc ++ (processStmt d a o now).out } :=
  ⟨(processStmt_spec d a o now).dev, (processStmt_spec d a o now).act, notes_append h (processStmt_spec d a o now).said,
    (processStmt_spec d a o now).taken⟩

/-- **From one statement to a run of the interpreter** (`innerLoop`, the `do … while` of `_process_action`; `headRun` is such a
    run).  `P d a o acc r`: the run from device `d`, action `a`, oracle `o`, with `acc` reported so far, ends in `r`.  It holds of
    every run if it holds of a run that is one statement (`stop`: the loop ends there, or the model's fuel does), and if it is
    carried back over one statement that finished and pushed a context (`go`: the loop goes on from what `processStmt` left).
    Hypotheses on the start (a bound on a buffer, what `acc` holds) go into `P` as premises.  What `processStmt` does is read
    off `Interp.Step` (`processStmt_ind`) or one of its summaries (`processStmt_spec`). -/
theorem innerLoop_induct {now : Time} {P : Dev → Action → Oracle → List Out → StepR → Prop}
    (stop : ∀ d a o acc, P d a o acc { processStmt d a o now with out := acc ++ (processStmt d a o now).out })
    (go : ∀ d a o acc r, (processStmt d a o now).finished = true → (processStmt d a o now).act.exec.length > a.exec.length →
      P (processStmt d a o now).dev (processStmt d a o now).act (processStmt d a o now).oracle (acc ++ (processStmt d a o now).out) r →
      P d a o acc r)
    (fuel : Nat) (d : Dev) (a : Action) (o : Oracle) (acc : List Out) : P d a o acc (innerLoop now fuel d a o acc) := by
  induction fuel generalizing d a o acc with
  | zero => exact stop d a o acc
  | succ n ih =>
    unfold innerLoop
    dsimp only
    split
    · rename_i h
      rw [Bool.and_eq_true, decide_eq_true_eq] at h
      exact go d a o acc _ h.1 h.2 (ih ..)
    · exact stop d a o acc

theorem innerLoop_writes (now : Time) (fuel : Nat) (d : Dev) (a : Action) (o : Oracle) (acc : List Out)
    (h : ∀ x ∈ acc, saidTo a.clientId x = true) : StmtWrites d a (innerLoop now fuel d a o acc) :=
  innerLoop_induct (now := now) (P := fun d a _ acc r => (∀ x ∈ acc, saidTo a.clientId x = true) → StmtWrites d a r)
    (fun d a o acc h => processStmt_writes d a o now acc h)
    (fun d a o acc _ _ _ ih h => (processStmt_spec d a o now).writes.trans
      (ih (by rw [(processStmt_spec d a o now).writes.clientId]; exact (processStmt_writes d a o now acc h).said)))
    fuel d a o acc h

theorem processStmt_clientId (d : Dev) (a : Action) (o : Oracle) (now : Time) :
    (processStmt d a o now).act.clientId = a.clientId := (processStmt_spec d a o now).writes.clientId

theorem advance_clientId (a : Action) : (advance a).clientId = a.clientId := by
  unfold advance; dsimp only; split <;> rfl

theorem stamp_clientId (now : Time) (a : Action) : (stamp now a).clientId = a.clientId := by
  unfold stamp; split <;> rfl

theorem advance_com (a : Action) : (advance a).com = a.com := by
  unfold advance; dsimp only; split <;> rfl
theorem stamp_com (now : Time) (a : Action) : (stamp now a).com = a.com := by
  unfold stamp; split <;> rfl

/-- the completion reported for the failing head -/
def headFin (a : Action) (e : ActErr) : List Out := if a.clientId != 0 then [Out.finish a.clientId e] else []
/-- the completions reported for everything queued behind it: aborted after an expect failure, the same error otherwise -/
def restFin (rest : List Action) (e : ActErr) : List Out :=
  (rest.filter (·.clientId != 0)).map fun b => Out.finish b.clientId (if e == .expfail then .abort else e)
/-- the completions of the error branch -/
def failFins (rest : List Action) (a : Action) : List Out := headFin a a.errnum ++ restFin rest a.errnum

theorem mem_headFin {a : Action} {e : ActErr} {x : Out} (h : x ∈ headFin a e) : x = Out.finish a.clientId e ∧ a.clientId ≠ 0 := by
  unfold headFin at h
  split at h
  · rename_i h0; exact ⟨by simpa using h, by simpa using h0⟩
  · simp at h

theorem mem_restFin {rest : List Action} {e : ActErr} {x : Out} (h : x ∈ restFin rest e) :
    ∃ b ∈ rest, b.clientId ≠ 0 ∧ x = Out.finish b.clientId (if e == .expfail then .abort else e) := by
  unfold restFin at h
  rw [List.mem_map] at h
  obtain ⟨b, hb, rfl⟩ := h
  rw [List.mem_filter] at hb
  exact ⟨b, hb.1, by simpa using hb.2, rfl⟩

theorem headFin_finish (a : Action) (e : ActErr) : ∀ x ∈ headFin a e, ∃ c e', x = Out.finish c e' :=
  fun _ hx => ⟨_, _, (mem_headFin hx).1⟩

/-- the error branch reports completions only (`failFins rest a` is the case `e = a.errnum`) -/
theorem fail_finish (a : Action) (rest : List Action) (e : ActErr) : ∀ x ∈ headFin a e ++ restFin rest e, ∃ c e', x = Out.finish c e' :=
  fun _ hx => (List.mem_append.1 hx).elim (headFin_finish a _ _) fun hx => let ⟨_, _, _, h⟩ := mem_restFin hx; ⟨_, _, h⟩

theorem failAll_connected (rest : List Action) (c : CS) (a : Action) (o : Oracle) (out : List Out) (tmo : Option Time)
    (h2 : c.dev.conn = 2) :
    failAll rest c a o out tmo =
      ((reconnectDev { c with dev := { c.dev with acts := [], xmStr := none, xmResult := false, xmUsed := false } } tmo).1, o,
        out ++ failFins rest a,
        (reconnectDev { c with dev := { c.dev with acts := [], xmStr := none, xmResult := false, xmUsed := false } } tmo).2) := by
  unfold failAll failFins headFin restFin
  simp only [h2, beq_self_eq_true, ↓reduceIte]

theorem failAll_other (rest : List Action) (c : CS) (a : Action) (o : Oracle) (out : List Out) (tmo : Option Time)
    (h2 : c.dev.conn ≠ 2) :
    failAll rest c a o out tmo =
      ({ c with dev := { c.dev with acts := [], xmStr := none, xmResult := false, xmUsed := false } }, o,
        out ++ failFins rest a, tmo) := by
  unfold failAll failFins headFin restFin
  simp only [beq_iff_eq, h2, ↓reduceIte]

theorem failAll_reports (rest : List Action) (c : CS) (a : Action) (o : Oracle) (out : List Out) (tmo : Option Time) :
    (failAll rest c a o out tmo).2.2.1 = out ++ failFins rest a := by
  by_cases h2 : c.dev.conn = 2
  · rw [failAll_connected _ _ _ _ _ _ h2]
  · rw [failAll_other _ _ _ _ _ _ h2]

theorem failAll_state (rest : List Action) (c : CS) (a : Action) (o : Oracle) (out : List Out) (tmo : Option Time) :
    (failAll rest c a o out tmo).1 =
      if c.dev.conn == 2
      then (reconnectDev { c with dev := { c.dev with acts := [], xmStr := none, xmResult := false, xmUsed := false } } tmo).1
      else { c with dev := { c.dev with acts := [], xmStr := none, xmResult := false, xmUsed := false } } := by
  by_cases h2 : c.dev.conn = 2
  · rw [failAll_connected _ _ _ _ _ _ h2, if_pos (by rw [h2]; rfl)]
  · rw [failAll_other _ _ _ _ _ _ h2, if_neg (by simpa using h2)]

namespace Fd

theorem memstr_fold (cap : Nat) (l : List UInt8) (j : Nat) (h : j + 4 * l.length + 1 ≤ cap) :
    (l.foldl (fun (acc : Nat × Bool) b =>
      let (j, bad) := acc
      if b == 13 || b == 10 || b == 9 then (j + 2, bad || j + 3 > cap)
      else if isPrint b then (j + 1, bad || j + 1 > cap)
      else (j + 4, bad || j + 5 > cap)) (j, false)).2 = false := by
  induction l generalizing j with
  | nil => rfl
  | cons b r ih =>
    simp only [List.length_cons] at h
    simp only [List.foldl_cons]
    split
    · have : decide (j + 3 > cap) = false := by simp; omega
      simp only [Bool.false_or, this]
      exact ih _ (by omega)
    · split
      · have : decide (j + 1 > cap) = false := by simp; omega
        simp only [Bool.false_or, this]
        exact ih _ (by omega)
      · have : decide (j + 5 > cap) = false := by simp; omega
        simp only [Bool.false_or, this]
        exact ih _ (by omega)

/-- `dbg_memstr` never writes past its `4*len+1` bytes, whatever the bytes are -/
theorem memstrOverflows_false (bs : Bytes) : memstrOverflows bs = false := by
  unfold memstrOverflows
  exact memstr_fold _ bs 0 (by omega)

theorem teleMem_eq (cid : Nat) (pre : String) (bs : Bytes) :
    teleMem cid pre bs = [Out.telemetry cid (str pre ++ memstr bs ++ str "'")] := by
  unfold teleMem; simp [memstrOverflows_false]

theorem teleMem_noAbort (cid : Nat) (pre : String) (bs : Bytes) : hasAbort (teleMem cid pre bs) = false := by
  rw [teleMem_eq]; rfl

/-- the error and the telemetry line of the timeout branch of `_process_action` -/
def timeoutErr (d : Dev) : ActErr := if d.conn != 2 then .connectTimeout else if !d.loggedIn then .loginTimeout else .expfail
def timeoutTele (d : Dev) (a : Action) : List Out :=
  if a.telemetry then
    (if d.conn != 2 then [Out.telemetry a.clientId (str "connect(dev): timeout")]
     else teleMem a.clientId "recv(dev): '" d.fromBuf) else []

theorem timeoutTele_noAbort (d : Dev) (a : Action) : hasAbort (timeoutTele d a) = false := by
  unfold timeoutTele
  split
  · split
    · rfl
    · exact teleMem_noAbort _ _ _
  · rfl

/-- the telemetry of the timeout branch never carries an abort, so the branch always goes on to fail the queue -/
theorem onTimeout_eq_failAll (rest : List Action) (c : CS) (a : Action) (o : Oracle) (out : List Out) (tmo : Option Time) :
    onTimeout rest c a o out tmo
      = failAll rest c { a with errnum := timeoutErr c.dev } o (out ++ timeoutTele c.dev a) tmo := by
  have h := timeoutTele_noAbort c.dev a
  unfold onTimeout; dsimp only
  unfold timeoutTele at h
  simp only [h, Bool.false_eq_true, ↓reduceIte]
  rfl

end Fd

theorem timeoutTele_to (d : Dev) (a : Action) : ∀ x ∈ Fd.timeoutTele d a, noteTo a.clientId x = true := by
  unfold Fd.timeoutTele
  exact notes_ite (notes_ite (notes_one (by simp [noteTo])) (teleMem_to _ _ _)) notes_nil

theorem timeoutTele_notes (d : Dev) (a : Action) : ∀ x ∈ Fd.timeoutTele d a, isNote x = true :=
  fun x hx => noteTo_note (timeoutTele_to d a x hx)

namespace Login2

/-- one iteration of `onRun` with a flag (`true` = the loop goes on) in place of the continuation -/
def onRunStep (rest : List Action) (c : CS) (a : Action) (o : Oracle) (out : List Out) (tmo : Option Time) (left : Time) : PA × Bool :=
  let d := c.dev
  let r := innerLoop c.env.now (loopBound a) { d with wake := none } a o []
  let out := out ++ r.out
  if hasAbort r.out then
    (({ c with dev := { r.dev with acts := r.act :: rest }, aborted := true }, r.oracle, out, tmo), false) else
  if !r.finished then (({ c with dev := { r.dev with acts := r.act :: rest } }, r.oracle, out,
    upd (match r.dev.wake with | some w => upd tmo w | none => tmo) left), false)
  else if r.act.errnum == .success then
    let a' := advance r.act
    if a'.exec.isEmpty then
      let fin := if a'.clientId != 0 then [Out.finish a'.clientId .success] else []
      let dev := { r.dev with acts := rest, loggedIn := r.dev.loggedIn || a'.com == 0, statActions := r.dev.statActions + 1, xmStr := none, xmResult := false, xmUsed := false }
      (({ c with dev := dev }, r.oracle, out ++ fin, tmo), true)
    else (({ c with dev := { r.dev with acts := a' :: rest } }, r.oracle, out, tmo), true)
  else (failAll rest { c with dev := r.dev } r.act r.oracle out tmo, false)

/-- continue with `k` or stop -/
def andThen (s : PA × Bool) (k : CS → Oracle → List Out → Option Time → PA) : PA :=
  if s.2 then k s.1.1 s.1.2.1 s.1.2.2.1 s.1.2.2.2 else s.1

theorem andThen_ite (p : Prop) [Decidable p] (x y : PA × Bool) (k : CS → Oracle → List Out → Option Time → PA) :
    andThen (if p then x else y) k = if p then andThen x k else andThen y k := by
  split <;> rfl

theorem onRun_eq_step (k : CS → Oracle → List Out → Option Time → PA) (rest : List Action) (c : CS) (a : Action) (o : Oracle)
    (out : List Out) (tmo : Option Time) (left : Time) :
    onRun k rest c a o out tmo left = andThen (onRunStep rest c a o out tmo left) k := by
  unfold onRun onRunStep
  simp only [andThen_ite]
  rfl

/-- the five ways one run of the statement interpreter on the head `a` ends, `r` being what the interpreter returns: an
    assertion fired; the statement stalled (the head stays, its wake-up and its deadline are registered); the script is
    over (the head leaves the queue, its client is told, the match object is recycled); the next statement is due; the
    action failed (`failAll`).  Only the third and the fourth go on with the loop. -/
theorem onRunStep_branches (rest : List Action) (c : CS) (a : Action) (o : Oracle) (out : List Out) (tmo : Option Time) (left : Time)
    (r : StepR) (hr : innerLoop c.env.now (loopBound a) { c.dev with wake := none } a o [] = r) :
    (hasAbort r.out = true ∧ onRunStep rest c a o out tmo left =
      (({ c with dev := { r.dev with acts := r.act :: rest }, aborted := true }, r.oracle, out ++ r.out, tmo), false)) ∨
    (hasAbort r.out = false ∧ r.finished = false ∧ onRunStep rest c a o out tmo left =
      (({ c with dev := { r.dev with acts := r.act :: rest } }, r.oracle, out ++ r.out,
        upd (match r.dev.wake with | some w => upd tmo w | none => tmo) left), false)) ∨
    (hasAbort r.out = false ∧ r.finished = true ∧ r.act.errnum = .success ∧ (advance r.act).exec = [] ∧
      onRunStep rest c a o out tmo left =
      (({ c with dev := { r.dev with acts := rest, loggedIn := r.dev.loggedIn || (advance r.act).com == 0,
                                      statActions := r.dev.statActions + 1, xmStr := none, xmResult := false, xmUsed := false } },
        r.oracle, out ++ r.out ++ (if (advance r.act).clientId != 0 then [Out.finish (advance r.act).clientId .success] else []), tmo),
       true)) ∨
    (hasAbort r.out = false ∧ r.finished = true ∧ r.act.errnum = .success ∧ (advance r.act).exec ≠ [] ∧
      onRunStep rest c a o out tmo left =
      (({ c with dev := { r.dev with acts := advance r.act :: rest } }, r.oracle, out ++ r.out, tmo), true)) ∨
    (hasAbort r.out = false ∧ r.finished = true ∧ r.act.errnum ≠ .success ∧
      onRunStep rest c a o out tmo left = (failAll rest { c with dev := r.dev } r.act r.oracle (out ++ r.out) tmo, false)) := by
  unfold onRunStep
  simp only [hr]
  cases hA : hasAbort r.out
  · right
    cases hF : r.finished
    · exact Or.inl ⟨rfl, rfl, rfl⟩
    · right
      by_cases hE : r.act.errnum = .success
      · have hE' : (r.act.errnum == ActErr.success) = true := by simp [hE]
        cases hX : (advance r.act).exec with
        | nil => exact Or.inl ⟨rfl, rfl, hE, rfl, by simp [hE']⟩
        | cons x xs => exact Or.inr (Or.inl ⟨rfl, rfl, hE, by simp, by simp [hE']⟩)
      · have hE' : (r.act.errnum == ActErr.success) = false := by simpa using hE
        exact Or.inr (Or.inr ⟨rfl, rfl, hE, by simp [hE']⟩)
  · exact Or.inl ⟨rfl, rfl⟩

/-- one iteration of `_process_action`'s while loop, with a flag in place of the continuation -/
def bodyStep (c : CS) (o : Oracle) (out : List Out) (tmo : Option Time) : PA × Bool :=
  if c.aborted then ((c, o, out, tmo), false) else
  match c.dev.acts with
  | [] => ((c, o, out, tmo), false)
  | a0 :: rest =>
    let now := c.env.now
    let a := stamp now a0
    let deadline := a.timeStamp.getD now + c.dev.timeout
    if now ≥ deadline then (onTimeout rest c a o out tmo, false)
    else if c.dev.conn != 2 then
      (({ c with dev := { c.dev with acts := a :: rest } }, o, out, upd tmo (deadline - now)), false)
    else onRunStep rest c a o out tmo (deadline - now)

theorem processActionBody_eq_step (k : CS → Oracle → List Out → Option Time → PA) (c : CS) (o : Oracle) (out : List Out)
    (tmo : Option Time) : processActionBody k c o out tmo = andThen (bodyStep c o out tmo) k := by
  unfold processActionBody bodyStep
  by_cases hab : c.aborted = true
  · simp only [hab, ↓reduceIte]; rfl
  · simp only [hab, Bool.false_eq_true, ↓reduceIte]
    cases hacts : c.dev.acts with
    | nil => rfl
    | cons a0 rest =>
      dsimp only
      split
      · rfl
      · split
        · rfl
        · exact onRun_eq_step ..

/-- `_process_action` as an iterated step: this is what justifies reading `bodyStep` as "one iteration" -/
theorem processActionF_succ (fuel : Nat) (c : CS) (o : Oracle) (out : List Out) (tmo : Option Time) :
    processActionF (fuel + 1) c o out tmo = andThen (bodyStep c o out tmo) (processActionF fuel) := by
  rw [processActionF, processActionBody_eq_step]

/-- Induction over the iterations of a run of `_process_action`: `Post` holds of a run from a state satisfying `Inv` if it
    holds of every iteration that ends the loop and `Inv` holds again after every iteration that goes on (running out of the
    model's fuel is an abort).  A statement whose trace depends on the fuel (`iterStates`: `processActionF_sents`,
    `processActionF_buf`, `processActionF_success`) cannot go through it and has its own induction with `processActionF_succ`. -/
theorem processActionF_induct {Inv : CS → Oracle → List Out → Option Time → Prop} {Post : PA → Prop}
    (hfuel : ∀ c o out tmo, Inv c o out tmo →
        Post ({ c with aborted := true }, o, out ++ [Out.abortAssert "model: fuel exhausted"], tmo))
    (hstop : ∀ c o out tmo, Inv c o out tmo → (bodyStep c o out tmo).2 = false → Post (bodyStep c o out tmo).1)
    (hgo : ∀ c o out tmo, Inv c o out tmo → (bodyStep c o out tmo).2 = true →
        Inv (bodyStep c o out tmo).1.1 (bodyStep c o out tmo).1.2.1 (bodyStep c o out tmo).1.2.2.1 (bodyStep c o out tmo).1.2.2.2)
    (fuel : Nat) (c : CS) (o : Oracle) (out : List Out) (tmo : Option Time) (h : Inv c o out tmo) :
    Post (processActionF fuel c o out tmo) := by
  induction fuel generalizing c o out tmo with
  | zero => exact hfuel c o out tmo h
  | succ n ih =>
    rw [processActionF_succ]
    unfold andThen
    split
    · exact ih _ _ _ _ (hgo c o out tmo h ‹_›)
    · exact hstop c o out tmo h (Bool.eq_false_iff.2 ‹_›)

/-- a property of the pass state that every iteration keeps, and an abort keeps, holds after the run -/
theorem processActionF_invariant {I : CS → Prop} (habort : ∀ c, I c → I { c with aborted := true })
    (hstep : ∀ c o out tmo, I c → I (bodyStep c o out tmo).1.1)
    (fuel : Nat) (c : CS) (o : Oracle) (out : List Out) (tmo : Option Time) (h : I c) :
    I (processActionF fuel c o out tmo).1 :=
  processActionF_induct (Inv := fun c _ _ _ => I c) (Post := fun r => I r.1)
    (fun c _ _ _ h => habort c h) (fun c o out tmo h _ => hstep c o out tmo h) (fun c o out tmo h _ => hstep c o out tmo h)
    fuel c o out tmo h

/-- the action whose statements this iteration executes, if it executes any: the loop is not aborted, the queue is
    not empty, the head's deadline has not passed, the device is connected — and then it is the head of the queue
    (with its time stamp set) -/
def speaker (c : CS) : Option Action :=
  if c.aborted then none else
  match c.dev.acts with
  | [] => none
  | a0 :: _ =>
    if c.env.now ≥ (stamp c.env.now a0).timeStamp.getD c.env.now + c.dev.timeout then none
    else if c.dev.conn != 2 then none
    else some (stamp c.env.now a0)

/-- the branches of one iteration: the loop is over (aborted, or nothing queued); or the head — `a`, with its time
    stamp `ts` set — is overdue; or it is in time and the device is not CONNECTED (its deadline is registered); or it is
    in time on a CONNECTED device and the interpreter runs, with what is left until the deadline -/
theorem bodyStep_branches (c : CS) (o : Oracle) (out : List Out) (tmo : Option Time) :
    ((c.aborted = true ∨ c.dev.acts = []) ∧ bodyStep c o out tmo = ((c, o, out, tmo), false)) ∨
    ∃ a0 rest ts, c.aborted = false ∧ c.dev.acts = a0 :: rest ∧ (stamp c.env.now a0).timeStamp = some ts ∧
      ((c.env.now ≥ ts + c.dev.timeout ∧
          bodyStep c o out tmo = (onTimeout rest c (stamp c.env.now a0) o out tmo, false)) ∨
       (c.env.now < ts + c.dev.timeout ∧ c.dev.conn ≠ 2 ∧
          bodyStep c o out tmo = (({ c with dev := { c.dev with acts := stamp c.env.now a0 :: rest } }, o, out,
            upd tmo (ts + c.dev.timeout - c.env.now)), false)) ∨
       (c.env.now < ts + c.dev.timeout ∧ c.dev.conn = 2 ∧
          bodyStep c o out tmo = onRunStep rest c (stamp c.env.now a0) o out tmo (ts + c.dev.timeout - c.env.now))) := by
  unfold bodyStep
  cases hab : c.aborted
  · cases hacts : c.dev.acts with
    | nil => exact Or.inl ⟨Or.inr rfl, rfl⟩
    | cons a0 rest =>
      right
      have hst : (stamp c.env.now a0).timeStamp = some ((stamp c.env.now a0).timeStamp.getD c.env.now) := by
        unfold stamp
        cases h : a0.timeStamp <;> simp [h]
      refine ⟨a0, rest, _, rfl, rfl, hst, ?_⟩
      simp only [Bool.false_eq_true, ↓reduceIte]
      by_cases hdue : c.env.now ≥ (stamp c.env.now a0).timeStamp.getD c.env.now + c.dev.timeout
      · exact Or.inl ⟨hdue, by rw [if_pos hdue]⟩
      · right
        rw [if_neg hdue]
        by_cases h2 : c.dev.conn = 2
        · exact Or.inr ⟨Nat.lt_of_not_ge hdue, h2, by simp [h2]⟩
        · exact Or.inl ⟨Nat.lt_of_not_ge hdue, h2, by simp [h2]⟩
  · exact Or.inl ⟨Or.inl rfl, rfl⟩

/-- the four ways one iteration can go, seen from `speaker` -/
theorem bodyStep_cases (c : CS) (o : Oracle) (out : List Out) (tmo : Option Time) :
    (speaker c = none ∧ bodyStep c o out tmo = ((c, o, out, tmo), false)) ∨
    (∃ a0 rest, c.dev.acts = a0 :: rest ∧ speaker c = none ∧
        bodyStep c o out tmo = (onTimeout rest c (stamp c.env.now a0) o out tmo, false)) ∨
    (∃ a0 rest left, c.dev.acts = a0 :: rest ∧ speaker c = none ∧ c.dev.conn ≠ 2 ∧
        bodyStep c o out tmo = (({ c with dev := { c.dev with acts := stamp c.env.now a0 :: rest } }, o, out, upd tmo left), false)) ∨
    (∃ a0 rest left, c.dev.acts = a0 :: rest ∧ speaker c = some (stamp c.env.now a0) ∧ c.dev.conn = 2 ∧
        bodyStep c o out tmo = onRunStep rest c (stamp c.env.now a0) o out tmo left) := by
  rcases bodyStep_branches c o out tmo with ⟨hs, e⟩ | ⟨a0, rest, ts, hab, hacts, hts, h⟩
  · refine Or.inl ⟨?_, e⟩
    unfold speaker
    rcases hs with hs | hs
    · rw [if_pos hs]
    · rw [hs]; split <;> rfl
  · have hsp : speaker c = if c.env.now ≥ ts + c.dev.timeout then none else if c.dev.conn != 2 then none
        else some (stamp c.env.now a0) := by
      unfold speaker
      rw [if_neg (by rw [hab]; decide), hacts]
      dsimp only
      rw [hts]; rfl
    rcases h with ⟨hdue, e⟩ | ⟨hlt, h2, e⟩ | ⟨hlt, h2, e⟩
    · exact Or.inr (Or.inl ⟨a0, rest, hacts, by rw [hsp, if_pos hdue], e⟩)
    · exact Or.inr (Or.inr (Or.inl ⟨a0, rest, _, hacts,
        by rw [hsp, if_neg (Nat.not_le_of_lt hlt), if_pos (by simpa using h2)], h2, e⟩))
    · exact Or.inr (Or.inr (Or.inr ⟨a0, rest, _, hacts,
        by rw [hsp, if_neg (Nat.not_le_of_lt hlt), if_neg (by simp [h2])], h2, e⟩))

/-- the action `_enqueue_ping` creates -/
def pingAction (d : Dev) : Action :=
  { loginAction d with com := 6, exec := [{ block := (d.scripts 6).getD [], pos := 0, plugs := none, plugItr := none, plugCopy := none, processing := false }] }

def appendPing (now : Time) (c : CS) : CS :=
  { c with dev := { c.dev with acts := c.dev.acts ++ [pingAction c.dev], lastPing := some now } }

/-- `_enqueue_ping` with its timer -/
def postPollPing (now : Time) (r : CS × Option Time) : CS × Option Time :=
  if r.1.dev.conn == 2 && (r.1.dev.scripts 6).isSome && r.1.dev.pingPeriod > 0 then
    match r.1.dev.lastPing with
    | some t =>
      if now ≥ t + r.1.dev.pingPeriod then (appendPing now r.1, r.2)
      else (r.1, upd r.2 (t + r.1.dev.pingPeriod - now))
    | none => (appendPing now r.1, r.2)
  else r

/-- the three ways through `_enqueue_ping` with its timer: the ping period is over (or no ping was ever sent) and a ping action is
    appended; the rest of the period is registered; or nothing (no ping script, no period, not CONNECTED) -/
theorem postPollPing_cases (now : Time) (r : CS × Option Time) :
    postPollPing now r = (appendPing now r.1, r.2) ∨ (∃ left, 0 < left ∧ postPollPing now r = (r.1, upd r.2 left)) ∨
    postPollPing now r = r := by
  unfold postPollPing
  split
  · split
    · split
      · exact .inl rfl
      · exact .inr (.inl ⟨_, by unfold Time at *; omega, rfl⟩)
    · exact .inl rfl
  · exact .inr (.inr rfl)

/-- the descriptor half of `dev_post_poll` -/
def postPollReady (d : Dev) (env : Env) : CS × Bool :=
  if (if d.fd.isSome then env.revents else 0) != 0 then
    handleReady { dev := d, env := { env with revents := (if d.fd.isSome then env.revents else 0) }, sys := [] }
  else ({ dev := d, env := env, sys := [] }, false)

def postPollReconnect (r : CS × Bool) : CS × Option Time :=
  if r.2 || r.1.dev.conn == 0 then reconnectDev r.1 none else (r.1, none)

/-- everything `dev_post_poll` does before `_process_action` -/
def postPollPre (d : Dev) (env : Env) : CS × Option Time :=
  postPollPing env.now (postPollReconnect (postPollReady d env))

def postPoll' (d : Dev) (env : Env) (o : Oracle) : CS × Oracle × List Out × Option Time :=
  if (postPollReady d env).1.aborted then ((postPollReady d env).1, o, [], none) else
  processAction (postPollPre d env).1 o [] (postPollPre d env).2

theorem postPoll_eq (d : Dev) (env : Env) (o : Oracle) : postPoll d env o = postPoll' d env o := by
  unfold postPoll postPoll' postPollPre postPollPing postPollReconnect postPollReady appendPing pingAction
  rfl

/-- a pass ends after the descriptor half if that ran into an assertion; otherwise it is `_process_action` on what
    `postPollPre` made of the device -/
theorem postPoll_cases (d : Dev) (env : Env) (o : Oracle) :
    ((postPollReady d env).1.aborted = true ∧ postPoll d env o = ((postPollReady d env).1, o, [], none)) ∨
    ((postPollReady d env).1.aborted = false ∧
      postPoll d env o = processActionF (passFuel (postPollPre d env).1.dev) (postPollPre d env).1 o [] (postPollPre d env).2) := by
  rw [postPoll_eq]
  unfold postPoll'
  by_cases h : (postPollReady d env).1.aborted = true
  · exact Or.inl ⟨h, if_pos h⟩
  · exact Or.inr ⟨Bool.eq_false_iff.2 h, if_neg h⟩

theorem postPoll_of_ready (d : Dev) (env : Env) (o : Oracle) (h : (postPollReady d env).1.aborted = false) :
    postPoll d env o = processActionF (passFuel (postPollPre d env).1.dev) (postPollPre d env).1 o [] (postPollPre d env).2 :=
  (postPoll_cases d env o).elim (fun ha => absurd ha.1 (by rw [h]; exact Bool.false_ne_true)) (·.2)

end Login2

end Pm.Dev2
