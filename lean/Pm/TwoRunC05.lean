import Pm.TwoRun
import Pm.FrameMulti
/-! C05 with a general client phase.

    Two runs that differ only in device `B` (position `j` of the device list, plugs `PB`): its state, its descriptor's events, the
    regex answers it consumes.  Clients on descriptors outside a set `F` ("tracked": same record in both runs) may send
    anything that does not *observe* `B` (`NotObs`); clients on descriptors of `F` (they may have actions in flight on `B`,
    and so differ between the runs) send nothing.  Then every pass keeps the relation: tracked clients have the same
    record, every device but `B` is in the same state. -/
namespace Pm.Daemon.TwoRun
open Pm Pm.Client Pm.Daemon Pm.Daemon.Isolation
open Pm.Dev2 (Dev Plug SAgree QOn QOff ActsOK withArgs)

/-! ### what a request line may not do: observe `B` -/

/-- the target list `bn` names a node wired to one of the plugs `PB` (`_command_needs_device`) -/
def Touch (PB : List Plug) (bn : List Bytes) : Bool :=
  PB.any fun p => match p.node with | some n => bn.contains n | none => false

/-- the selection `t` of a `device` query (`none`: no argument, every device) covers a device with the plugs `PB` -/
def Hit (PB : List Plug) (t : Option Hostlist) : Bool :=
  match t with
  | none => true
  | some hl => PB.any fun p => match p.node with | some n => (find hl (toChars n)).isSome | none => false

theorem needsDev_touch (d : Dev) (bn : List Bytes) : needsDev d bn = Touch d.plugs bn := rfl
theorem devHit_hit (t : Option Hostlist) (d : Dev) : ClientPf.devHit t d = Hit d.plugs t := by
  cases t <;> rfl

/-- **the request line does not observe the device with the plugs `PB`** (alias table `als`).  Following the cascade of
    `_parse_input`: `help`, `nodes`, `telemetry`, `exprange`, `quit`, an over-long line and an unknown command never do; a
    power command or query with a target list does not if none of its alias-expanded targets is a node of `PB`; a `device`
    query with an argument does not if the argument selects no node of `PB`.  A bare `status`/`temp`/`beacon` (all nodes)
    and a bare `device` (all devices) *do* observe it. -/
def NotObs (PB : List Plug) (als : List (Name × List Name)) (line : Bytes) : Prop :=
  LineP (fun names => Touch PB (names.map ofChars) = false) (fun t => Hit PB t = false) als line

theorem RestP.mono {IOK IOK' : List Name → Prop} {DOK DOK' : Option Hostlist → Prop} {als : List (Name × List Name)} {str : Bytes}
    (h1 : ∀ n, IOK n → IOK' n) (h2 : ∀ t, DOK t → DOK' t) (h : RestP IOK DOK als str) : RestP IOK' DOK' als str := by
  unfold RestP at h ⊢
  split
  · rename_i hm
    rw [hm] at h
    dsimp only at h
    split
    · rename_i hb; rw [if_pos hb] at h; exact fun n => h1 n (h n)
    · rename_i hb; rw [if_neg hb] at h; exact fun a ha => h2 _ (h a ha)
  · rename_i com arg hm
    rw [hm] at h
    exact fun hl hc => h1 _ (h hl hc)

theorem LineP.mono {IOK IOK' : List Name → Prop} {DOK DOK' : Option Hostlist → Prop} {als : List (Name × List Name)} {line : Bytes}
    (h1 : ∀ n, IOK n → IOK' n) (h2 : ∀ t, DOK t → DOK' t) (h : LineP IOK DOK als line) : LineP IOK' DOK' als line :=
  fun hl a1 a2 a3 a4 a5 => RestP.mono h1 h2 (h hl a1 a2 a3 a4 a5)

/-! ### the relation between the two device lists, and what `install` and the `device` query need of it -/

/-- the device lists agree (stale store copies apart) except at position `j`, where both hold a device of the same name with the
    plugs `PB` -/
def DRL2 (j : Nat) (PB : List Plug) (l l' : Devs) : Prop :=
  DevsRel j l l' ∧ ∀ B B', l[j]? = some B → l'[j]? = some B' → B.1 = B'.1 ∧ B.2.plugs = PB ∧ B'.2.plugs = PB

theorem map_eq_pointwise {α β : Type} (f g : α → β) (l l' : List α) (hlen : l.length = l'.length)
    (h : ∀ (i : Nat) a b, l[i]? = some a → l'[i]? = some b → f a = g b) : l.map f = l'.map g := by
  apply List.ext_getElem?
  intro i
  rw [List.getElem?_map, List.getElem?_map]
  cases ha : l[i]? with
  | none =>
    have : l'[i]? = none := by
      rw [List.getElem?_eq_none_iff] at ha ⊢; omega
    rw [this]; rfl
  | some a =>
    cases hb : l'[i]? with
    | none =>
      rw [List.getElem?_eq_none_iff] at hb
      have := (List.getElem?_eq_some_iff.mp ha).1
      omega
    | some b => simp [h i a b ha hb]

theorem foldl_eq_pointwise {α β : Type} (f g : β → α → β) : ∀ (l l' : List α) (x : β), l.length = l'.length →
    (∀ (i : Nat) a b acc, l[i]? = some a → l'[i]? = some b → f acc a = g acc b) → l.foldl f x = l'.foldl g x := by
  intro l
  induction l with
  | nil => intro l' x hl _; cases l' with | nil => rfl | cons _ _ => simp at hl
  | cons a r ih =>
    intro l' x hl h
    cases l' with
    | nil => simp at hl
    | cons b r' =>
      rw [List.foldl_cons, List.foldl_cons, h 0 a b x rfl rfl]
      exact ih r' _ (by simpa using hl) (fun i a' b' acc ha hb => h (i + 1) a' b' acc (by simpa using ha) (by simpa using hb))

theorem strip_congr {α : Type} (f : Dev → α) (hf : ∀ d s, f (withArgs d s) = f d) {nd nd' : Bytes × Dev} (h : strip nd = strip nd') :
    f nd.2 = f nd'.2 := by
  have h2 : withArgs nd.2 [] = withArgs nd'.2 [] := congrArg Prod.snd h
  rw [← hf nd.2 [], ← hf nd'.2 [], h2]

theorem installDev_strip (com : Nat) (bn : List Bytes) (cid : Nat) (tele : Bool) (al : Nat) (nd : Bytes × Dev) :
    strip (Enq.installDev com bn cid tele al nd) = Enq.installDev com bn cid tele al (strip nd) := by
  unfold Enq.installDev strip
  simp only [Enq.enqueue_eq]
  show (nd.1, withArgs _ []) = (nd.1, _)
  congr 1
  have h1 : (withArgs nd.2 []).plugs = nd.2.plugs := rfl
  have h2 : (withArgs nd.2 []).scripts = nd.2.scripts := rfl
  have h3 : (withArgs nd.2 []).acts = nd.2.acts := rfl
  have h4 : (withArgs nd.2 []).conn = nd.2.conn := rfl
  rw [h1, h2, h3, h4]
  by_cases hc : (decide ((Enq.newActs nd.2.plugs nd.2.scripts com bn cid tele al).length > 0) && nd.2.conn != 2) = true
  · rw [if_pos hc, if_pos hc]; rfl
  · rw [if_neg hc, if_neg hc]; rfl

theorem strip_installDev {nd nd' : Bytes × Dev} (h : strip nd = strip nd') (com : Nat) (bn : List Bytes) (cid : Nat) (tele : Bool) (al : Nat) :
    strip (Enq.installDev com bn cid tele al nd) = strip (Enq.installDev com bn cid tele al nd') := by
  rw [installDev_strip, installDev_strip, h]

section Closure
variable {j : Nat} {PB : List Plug}

theorem DRL2.at_ne {l l' : Devs} (h : DRL2 j PB l l') (i : Nat) (hi : i ≠ j) (a b : Bytes × Dev) (ha : l[i]? = some a)
    (hb : l'[i]? = some b) : strip a = strip b := by
  have := h.1.2 i hi
  rw [ha, hb] at this
  simpa using this

theorem instOK_drl2 (bn : List Bytes) (hT : Touch PB bn = false) : InstOK (DRL2 j PB) bn := by
  intro l l' h com cid tele al
  have hlen := h.1.1
  refine ⟨?_, ?_, ?_⟩
  · have : l'.map (fun (nd : Bytes × Dev) => needsDev nd.2 bn && !handles nd.2 com bn) =
        l.map (fun (nd : Bytes × Dev) => needsDev nd.2 bn && !handles nd.2 com bn) := by
      apply map_eq_pointwise _ _ _ _ hlen.symm
      intro i b a hb ha
      by_cases hi : i = j
      · subst hi
        obtain ⟨_, p1, p2⟩ := h.2 a b ha hb
        rw [needsDev_touch, needsDev_touch, p1, p2, hT]
        simp
      · exact (strip_congr (fun d => needsDev d bn && !handles d com bn) (fun _ _ => rfl) (h.at_ne i hi a b ha hb)).symm
    have e : ∀ (x : Devs), x.any (fun (nd : Bytes × Dev) => needsDev nd.2 bn && !handles nd.2 com bn) =
        (x.map (fun (nd : Bytes × Dev) => needsDev nd.2 bn && !handles nd.2 com bn)).any id := by
      intro x; rw [List.any_map]; rfl
    rw [e, e, this]
  · unfold Enq.installTotal
    congr 1
    apply map_eq_pointwise _ _ _ _ hlen.symm
    intro i b a hb ha
    by_cases hi : i = j
    · subst hi
      obtain ⟨_, p1, p2⟩ := h.2 a b ha hb
      rw [Enq.newActs_uninvolved (by rw [p2]; exact hT), Enq.newActs_uninvolved (by rw [p1]; exact hT)]
    · exact (strip_congr (fun d => (Enq.newActs d.plugs d.scripts com bn cid tele al).length) (fun _ _ => rfl) (h.at_ne i hi a b ha hb)).symm
  · refine ⟨⟨by simp [hlen], ?_⟩, ?_⟩
    · intro i hi
      have e : strip ∘ Enq.installDev com bn cid tele al = Enq.installDev com bn cid tele al ∘ strip :=
        funext (installDev_strip com bn cid tele al)
      rw [List.getElem?_map, List.getElem?_map, Option.map_map, Option.map_map, e, ← Option.map_map, ← Option.map_map, h.1.2 i hi]
    · intro B B' hB hB'
      rw [List.getElem?_map] at hB hB'
      obtain ⟨a, ha, rfl⟩ := Option.map_eq_some_iff.mp hB
      obtain ⟨b, hb, rfl⟩ := Option.map_eq_some_iff.mp hB'
      obtain ⟨p0, p1, p2⟩ := h.2 a b ha hb
      rw [Enq.installDev_uninvolved (by rw [needsDev_touch, p1]; exact hT), Enq.installDev_uninvolved (by rw [needsDev_touch, p2]; exact hT)]
      exact ⟨p0, p1, p2⟩

theorem devOK_drl2 (t : Option Hostlist) (hH : Hit PB t = false) : DevOK (DRL2 j PB) t := by
  intro l l' h w w' hs
  rw [devStep_specs hs]
  apply foldl_eq_pointwise _ _ _ _ _ h.1.1.symm
  intro i b a acc hb ha
  by_cases hi : i = j
  · subst hi
    obtain ⟨_, p1, p2⟩ := h.2 a b ha hb
    cases acc with
    | none => rfl
    | some bytes =>
      rw [ClientPf.devReplyStep_some, ClientPf.devReplyStep_some, devHit_hit, devHit_hit, p1, p2, hH, Bool.not_false, if_pos rfl, if_pos rfl]
  · have hst := h.at_ne i hi a b ha hb
    have := strip_congr (fun d => ClientPf.devReplyStep w t acc (a.1, d)) (fun _ _ => rfl) hst
    rw [show b = (a.1, b.2) from Prod.ext (strip_fst hst).symm rfl]
    exact this.symm

end Closure

theorem ofChars_toChars (b : Bytes) : ofChars (toChars b) = b := by
  unfold toChars ofChars
  rw [List.map_map]
  conv => rhs; rw [← List.map_id b]
  apply List.map_congr_left
  intro x _
  simp only [Function.comp_apply, id]
  rw [Reply.toNat_ofNat_small _ x.toNat_lt]
  simp

theorem namesQ_of_noTouch (Q : Bytes → Bool) (PB : List Plug) (hQB : ∀ nb, Q nb = false → ∃ p ∈ PB, p.node = some nb)
    (names : List Name) (h : Touch PB (names.map ofChars) = false) : NamesQ Q names := by
  intro nb hnb
  cases hq : Q nb with
  | true => rfl
  | false =>
    obtain ⟨p, hp, hn⟩ := hQB nb hq
    have : Touch PB (names.map ofChars) = true := by
      unfold Touch
      rw [List.any_eq_true]
      refine ⟨p, hp, ?_⟩
      rw [hn]
      simp only [List.contains_eq_mem, List.mem_map, decide_eq_true_eq]
      exact ⟨toChars nb, hnb, ofChars_toChars nb⟩
    rw [h] at this; cases this

/-! ### the client phase -/

theorem sagree_cons (Q : Bytes → Bool) : ∀ (s s' : Store) (x : Nat × List Pm.Dev2.Arg), SAgree Q s s' → SAgree Q (x :: s) (x :: s') := by
  intro s s' x h al
  have e : ∀ t : Store, Pm.Dev2.cell (x :: t) al = if al == x.1 then x.2 else Pm.Dev2.cell t al := by
    intro t
    unfold Pm.Dev2.cell
    rw [List.lookup_cons]
    split <;> simp_all
  rw [e, e]
  split
  · rfl
  · exact h al

/-- single run: every table entry after `cli_post_poll` stems from a served client with the same id and descriptor, and its
    command is that client's old one or a new one whose targets satisfy `NOK` — provided the client's request lines in this
    pass only name target lists that satisfy `NOK` -/
theorem cliPostPoll_cmdstep (NOK : List Name → Prop) (w : W) (p : PassIn) :
    ∀ x ∈ (cliPostPoll w p.acc p.envs).clients, ∃ c ∈ servedIn w p, c.id = x.id ∧ c.fd = x.fd ∧
      ((∀ l ∈ turnLines c (p.envs.find? (·.fd == c.fd)), LineP NOK (fun _ => True) w.cfg.aliases l) → CmdStep NOK c x) := by
  refine (cliPostPoll_induct (fun v => v.cfg.aliases = w.cfg.aliases ∧ ∀ x ∈ v.clients, ∃ c ∈ servedIn w p, c.id = x.id ∧ c.fd = x.fd ∧
      ((∀ l ∈ turnLines c (p.envs.find? (·.fd == c.fd)), LineP NOK (fun _ => True) w.cfg.aliases l) → CmdStep NOK c x))
    w p.acc p.envs ⟨by rw [cliStart, cliAccept_plan], fun x hx => ⟨x, hx, rfl, rfl, fun _ => CmdStep.refl NOK x⟩⟩ ?_).2
  intro v ⟨hv, h⟩ c0 hc0
  by_cases hex : v.exited = true
  · have e1 : ClientPf.cliStep p.envs v c0 = v := by unfold ClientPf.cliStep; simp [hex]
    rw [e1]; exact ⟨hv, h⟩
  obtain ⟨t1, t2⟩ := cliStep_tab p.envs v c0 (by simpa using hex)
  rw [t1]
  refine ⟨(clientPass_aliases v c0 _).trans hv, fun x hx => ?_⟩
  rcases (mem_tabUpd _ c0.id v.clients x).mp hx with ⟨hx, _⟩ | ⟨ho, _⟩
  · exact h x hx
  · exact ⟨c0, hc0, (t2 x ho).1.symm, (t2 x ho).2.symm, fun hL => clientPass_cmd NOK v c0 _ x ho (by rw [hv]; exact hL)⟩

/-- the relation between the worlds of the two runs, between passes (`Q`: the nodes that are not wired to `B`; `F`: the
    descriptors of the clients that are *not* tracked).  `gok`, `nob`, `nob'` are invariants of one run each, carried along
    because the device phase needs them of both worlds (`pass_gen_g`). -/
structure MRel (Q : Bytes → Bool) (F : Nat → Bool) (j : Nat) (PB : List Plug) (w w' : W) : Prop where
  cfg : w'.cfg = w.cfg
  specs : w'.specs = w.specs
  alNext : w'.alNext = w.alNext
  nextId : w'.nextId = w.nextId
  nacc : w'.nacc = w.nacc
  nsock : w'.nsock = w.nsock
  npair : w'.npair = w.npair
  nfork : w'.nfork = w.nfork
  ex : w.exited = false
  ex' : w'.exited = false
  store : SAgree Q w.store w'.store
  devs : DRL2 j PB w.devs w'.devs
  tab : w'.clients.filter (nonF F) = w.clients.filter (nonF F)
  gok : ∀ c ∈ w.clients, F c.fd = false → ∀ k, c.cmd = some k → NamesQ Q k.names
  sys : w'.sys.filter (offF F) = w.sys.filter (offF F)
  nob : ∀ B, w.devs[j]? = some B → ∀ x ∈ B.2.acts, ∀ c ∈ w.clients, F c.fd = false → x.clientId ≠ c.id
  nob' : ∀ B', w'.devs[j]? = some B' → ∀ x ∈ B'.2.acts, ∀ c ∈ w'.clients, F c.fd = false → x.clientId ≠ c.id

/-- what is assumed of the client phase of one pass: the same `accept` verdict; the same events on the descriptors outside `F`; a
    client accepted in this pass is tracked; the request lines of the tracked clients do not observe `B`; the other clients
    are inert; both worlds satisfy the id discipline -/
structure CliHyps (F : Nat → Bool) (PB : List Plug) (w w' : W) (p p' : PassIn) : Prop where
  acc : p'.acc = p.acc
  evs : ∀ fd, F fd = false → p'.envs.find? (·.fd == fd) = p.envs.find? (·.fd == fd)
  newfd : F (1000 + w.nacc) = false
  lines : ∀ c ∈ servedIn w p, F c.fd = false → ∀ l ∈ turnLines c (p.envs.find? (·.fd == c.fd)), NotObs PB w.cfg.aliases l
  inert : ∀ c ∈ w.clients, F c.fd = true → Inert p.envs c
  inert' : ∀ c ∈ w'.clients, F c.fd = true → Inert p'.envs c
  ids : IdsFresh w
  ids' : IdsFresh w'

/-! ### the client phase in both runs -/

/-- `DRL2` with the devices at position `j` named: the client phase keeps it, so it leaves these two devices as they are -/
structure DRL2at (j : Nat) (B B' : Bytes × Dev) (l l' : Devs) : Prop where
  rel : DevsRel j l l'
  left : l[j]? = some B
  right : l'[j]? = some B'

section At
variable {j : Nat} {PB : List Plug} {B B' : Bytes × Dev}

theorem DRL2at.drl2 {l l' : Devs} (h : DRL2at j B B' l l') (hp : B.1 = B'.1 ∧ B.2.plugs = PB ∧ B'.2.plugs = PB) : DRL2 j PB l l' :=
  ⟨h.rel, fun X X' hX hX' => by rw [h.left] at hX; rw [h.right] at hX'; cases hX; cases hX'; exact hp⟩

/-- `install` with a target list that names no node of `PB` enqueues nothing on the two devices at `j` -/
theorem instOK_at (hp : B.1 = B'.1 ∧ B.2.plugs = PB ∧ B'.2.plugs = PB) (bn : List Bytes) (hT : Touch PB bn = false) :
    InstOK (DRL2at j B B') bn := by
  intro l l' h com cid tele al
  obtain ⟨a1, a2, a3⟩ := instOK_drl2 bn hT l l' (h.drl2 hp) com cid tele al
  refine ⟨a1, a2, a3.1, ?_, ?_⟩
  · rw [List.getElem?_map, h.left, Option.map_some, Enq.installDev_uninvolved (by rw [needsDev_touch, hp.2.1]; exact hT)]
  · rw [List.getElem?_map, h.right, Option.map_some, Enq.installDev_uninvolved (by rw [needsDev_touch, hp.2.2]; exact hT)]

theorem lineDevsOK_at (hp : B.1 = B'.1 ∧ B.2.plugs = PB ∧ B'.2.plugs = PB) (als : List (Name × List Name)) (line : Bytes)
    (h : NotObs PB als line) : LineDevsOK (DRL2at j B B') als line :=
  LineP.mono (fun _ hn => instOK_at hp _ hn) (fun t ht l l' hl => devOK_drl2 t ht l l' (hl.drl2 hp)) h

end At

theorem cliPostPoll_merge_at (Q : Bytes → Bool) (F : Nat → Bool) (j : Nat) (PB : List Plug) (w w' : W) (p p' : PassIn)
    (hr : MRel Q F j PB w w') (hc : CliHyps F PB w w' p p') {B B' : Bytes × Dev} (hB : w.devs[j]? = some B)
    (hB' : w'.devs[j]? = some B') :
    CRel F (DRL2at j B B') (SAgree Q) w.cfg.aliases (cliPostPoll w p.acc p.envs) (cliPostPoll w' p'.acc p'.envs) ∧
    (cliPostPoll w' p'.acc p'.envs).clients.filter (nonF F) = (cliPostPoll w p.acc p.envs).clients.filter (nonF F) :=
  cliPostPoll_merge (sagree_cons Q) w w' p p' hr.cfg hr.specs hr.alNext (by rw [hr.ex, hr.ex']) ⟨hr.devs.1, hB, hB'⟩ hr.store hr.nextId
    hr.nacc hr.tab hc.acc hc.evs hc.newfd (fun c hcm hF l hl => lineDevsOK_at (hr.devs.2 _ _ hB hB') _ l (hc.lines c hcm hF l hl))
    hc.inert hc.inert' hc.ids hc.ids'

/-! ### one whole pass -/

theorem stepped_plugs (p : PassIn) (a : DevAcc) (nd : Bytes × Dev) : (stepped p a nd).1 = nd.1 ∧ (stepped p a nd).2.plugs = nd.2.plugs := by
  refine ⟨rfl, ?_⟩
  obtain ⟨d', h1, h2, _⟩ := devPass_devs p a nd
  rw [devPass_devs_eq] at h1
  have := List.append_cancel_left h1
  simp only [List.cons.injEq, and_true] at this
  rw [this]; exact h2

theorem daemonPass_fixed (w : W) (p : PassIn) (hex : (cliPostPoll w p.acc p.envs).exited = false) :
    (daemonPass w p).1.cfg = (cliPostPoll w p.acc p.envs).cfg ∧ (daemonPass w p).1.specs = (cliPostPoll w p.acc p.envs).specs ∧
    (daemonPass w p).1.alNext = (cliPostPoll w p.acc p.envs).alNext ∧ (daemonPass w p).1.nextId = (cliPostPoll w p.acc p.envs).nextId ∧
    (daemonPass w p).1.nacc = (cliPostPoll w p.acc p.envs).nacc ∧ (daemonPass w p).1.sys = (cliPostPoll w p.acc p.envs).sys ∧
    (∃ G : Cli → Cli, (daemonPass w p).1.clients = (cliPostPoll w p.acc p.envs).clients.map G ∧ ∀ x, (G x).id = x.id ∧ (G x).fd = x.fd) ∧
    (daemonPass w p).1.devs = steppedList p (acc0 (cliPostPoll w p.acc p.envs)) (cliPostPoll w p.acc p.envs).devs := by
  have := daemonPass_devs w p hex
  have h := devPhase_frame p (cliPostPoll w p.acc p.envs)
  have e := fun {α : Type} (f : W → α) => congrArg f h.same
  rw [daemonPass_world] at this ⊢
  exact ⟨e W.cfg, e W.specs, e W.alNext, e W.nextId, e W.nacc, e W.sys, h.keep, this⟩

/-- **one run: "no client outside `F` has an action on the device at position `j`" is kept by a client phase** that leaves that
    device alone: the ids of the table entries are those of the clients served, and a client accepted in this pass has an id no
    queued action carries -/
theorem cliPostPoll_nob (F : Nat → Bool) (j : Nat) (w : W) (p : PassIn) (hi : IdsFresh w) (hjw : j < w.devs.length)
    (hfix : (cliPostPoll w p.acc p.envs).devs[j]? = some w.devs[j])
    (hnob : ∀ B, w.devs[j]? = some B → ∀ x ∈ B.2.acts, ∀ c ∈ w.clients, F c.fd = false → x.clientId ≠ c.id) :
    ∀ B, (cliPostPoll w p.acc p.envs).devs[j]? = some B → ∀ x ∈ B.2.acts, ∀ c ∈ (cliPostPoll w p.acc p.envs).clients,
      F c.fd = false → x.clientId ≠ c.id := by
  intro B hB x hx c hcm hF
  rw [hfix] at hB; cases hB
  obtain ⟨c1, hc1, e1, e2, _⟩ := cliPostPoll_cmdstep (fun _ => True) w p c hcm
  rw [← e1]
  rcases mem_servedIn.mp hc1 with h | ⟨_, rfl⟩
  · exact hnob _ (List.getElem?_eq_getElem hjw) x hx c1 h (by rw [e2]; exact hF)
  · exact Nat.ne_of_lt (hi.acts _ (List.getElem_mem hjw) x hx)

/-- … **and by the device phase**: a device's actions carry client ids that were in its queue before, or the internal id `0` -/
theorem daemonPass_nob (F : Nat → Bool) (j : Nat) (w : W) (p : PassIn) (hi0 : IdsFresh (cliPostPoll w p.acc p.envs))
    (hex : (cliPostPoll w p.acc p.envs).exited = false) (hj : j < (cliPostPoll w p.acc p.envs).devs.length)
    (hnob : ∀ B, (cliPostPoll w p.acc p.envs).devs[j]? = some B → ∀ x ∈ B.2.acts, ∀ c ∈ (cliPostPoll w p.acc p.envs).clients,
      F c.fd = false → x.clientId ≠ c.id) :
    ∀ B, (daemonPass w p).1.devs[j]? = some B → ∀ x ∈ B.2.acts, ∀ c ∈ (daemonPass w p).1.clients, F c.fd = false → x.clientId ≠ c.id := by
  obtain ⟨_, _, _, _, _, _, ⟨G, eG, kG⟩, f7⟩ := daemonPass_fixed w p hex
  generalize cliPostPoll w p.acc p.envs = w0 at *
  intro X hX x hx c hcm hF
  rw [f7, steppedList_get p w0.devs (acc0 w0) j _ (List.getElem?_eq_getElem hj)] at hX
  cases hX
  rw [eG] at hcm
  obtain ⟨c0, hc0, rfl⟩ := List.mem_map.mp hcm
  rw [(kG c0).1]
  rcases stepped_keys (fun cid _ => cid = 0 ∨ ∃ a ∈ w0.devs[j].2.acts, a.clientId = cid) (Or.inl rfl) p
    (accAt p (acc0 w0) w0.devs j) w0.devs[j] (fun a ha => Or.inr ⟨a, ha, rfl⟩) x hx with h0 | ⟨a, ha, h1⟩
  · rw [h0]; exact Nat.ne_of_lt (hi0.pos c0.id (List.mem_map.mpr ⟨c0, hc0, rfl⟩))
  · rw [← h1]; exact hnob _ (List.getElem?_eq_getElem hj) a ha c0 hc0 (by rw [← (kG c0).2]; exact hF)

/-- **the client phase keeps the relation** (unless it ends the process): the tracked clients' lines do not observe `B`, so they
    change neither the two devices at `j` nor what is compared of the rest, and their new commands target `Q`-nodes -/
theorem cliPostPoll_mrel (Q : Bytes → Bool) (F : Nat → Bool) (j : Nat) (PB : List Plug) (w w' : W) (p p' : PassIn)
    (hQB : ∀ nb, Q nb = false → ∃ pl ∈ PB, pl.node = some nb) (hr : MRel Q F j PB w w') (hc : CliHyps F PB w w' p p')
    (hjw : j < w.devs.length) (hex : (cliPostPoll w p.acc p.envs).exited = false) :
    MRel Q F j PB (cliPostPoll w p.acc p.envs) (cliPostPoll w' p'.acc p'.envs) := by
  have hjw' : j < w'.devs.length := hr.devs.1.1 ▸ hjw
  obtain ⟨g1, g2⟩ := cliPostPoll_merge_at Q F j PB w w' p p' hr hc (List.getElem?_eq_getElem hjw) (List.getElem?_eq_getElem hjw')
  have k := cliPostPoll_ctrs w p.acc p.envs
  have k' := cliPostPoll_ctrs w' p'.acc p'.envs
  simp only [ctrs, Prod.mk.injEq] at k k'
  obtain ⟨k5, k6, k1, k2, k3, _⟩ := k
  obtain ⟨k5', k6', k1', k2', k3', _⟩ := k'
  refine ⟨g1.cfg, g1.specs, g1.alNext, by rw [k5, k5', hr.nextId, hc.acc], by rw [k6, k6', hr.nacc, hc.acc], by rw [k1, k1', hr.nsock],
    by rw [k2, k2', hr.npair], by rw [k3, k3', hr.nfork], hex, by rw [g1.exited]; exact hex, g1.store,
    g1.devs.drl2 (hr.devs.2 _ _ (List.getElem?_eq_getElem hjw) (List.getElem?_eq_getElem hjw')), g2, ?_, g1.sys,
    cliPostPoll_nob F j w p hc.ids hjw g1.devs.left hr.nob, cliPostPoll_nob F j w' p' hc.ids' hjw' g1.devs.right hr.nob'⟩
  -- a tracked client keeps its command or gets a new one, from a line that touches no node of `PB`
  intro c hcm hF k hk
  obtain ⟨c1, hc1, _, e2, hstep⟩ := cliPostPoll_cmdstep (NamesQ Q) w p c hcm
  have hF1 : F c1.fd = false := by rw [e2]; exact hF
  have hl : ∀ l ∈ turnLines c1 (p.envs.find? (·.fd == c1.fd)), LineP (NamesQ Q) (fun _ => True) w.cfg.aliases l :=
    fun l hlm => LineP.mono (fun n hn => namesQ_of_noTouch Q PB hQB n hn) (fun _ _ => trivial) (hc.lines c1 hc1 hF1 l hlm)
  rcases hstep hl with h1 | ⟨k', h1, h2⟩
  · rcases mem_servedIn.mp hc1 with h3 | ⟨_, rfl⟩
    · exact hr.gok c1 h3 hF1 k (by rw [← h1]; exact hk)
    · rw [h1] at hk; cases hk
  · rw [hk] at h1; cases h1; exact h2

theorem MRel.tracked {Q : Bytes → Bool} {F : Nat → Bool} {j : Nat} {PB : List Plug} {w w' : W} (h : MRel Q F j PB w w')
    (hi' : IdsFresh w') :
    (∀ g c, cliRec w g = some c → F c.fd = false → cliRec w' g = some c) ∧
    (∀ fd, F fd = false → ClientPf.written w'.sys fd = ClientPf.written w.sys fd) ∧
    (∀ i, i ≠ j → (w.devs[i]?).map strip = (w'.devs[i]?).map strip) ∧ w.devs.length = w'.devs.length ∧
    SAgree Q w.store w'.store :=
  ⟨(tracked_of_filter F h.tab h.sys hi').1, (tracked_of_filter F h.tab h.sys hi').2, h.devs.1.2, h.devs.1.1, h.store⟩

/-- **the device phase keeps the relation**: `pass_gen_g` for the id of every tracked client — none of which has an action on the
    device at `j` — gives the client's record, and for an id no client has the part of the relation that is about no client -/
theorem daemonPass_mrel (Q : Bytes → Bool) (F : Nat → Bool) (j : Nat) (PB : List Plug) (w w' : W) (p p' : PassIn)
    (xp xB xB' xq : List Pm.Dev2.RxCall)
    (hr0 : MRel Q F j PB (cliPostPoll w p.acc p.envs) (cliPostPoll w' p'.acc p'.envs))
    (hi0 : IdsFresh (cliPostPoll w p.acc p.envs)) (hi0' : IdsFresh (cliPostPoll w' p'.acc p'.envs))
    (hd : DevHyps Q F j (cliPostPoll w p.acc p.envs) (cliPostPoll w' p'.acc p'.envs) p p' xp xB xB' xq) :
    MRel Q F j PB (daemonPass w p).1 (daemonPass w' p').1 := by
  obtain ⟨f1, f2, f3, f4, f5, fS, ⟨G, eG, kG⟩, f7⟩ := daemonPass_fixed w p hr0.ex
  obtain ⟨f1', f2', f3', f4', f5', fS', ⟨G', eG', kG'⟩, f7'⟩ := daemonPass_fixed w' p' hr0.ex'
  have hjlt := hd.j_lt
  have hjlt' : j < (cliPostPoll w' p'.acc p'.envs).devs.length := hr0.devs.1.1 ▸ hjlt
  have nobF := daemonPass_nob F j w p hi0 hr0.ex hjlt hr0.nob
  have nobF' := daemonPass_nob F j w' p' hi0' hr0.ex' hjlt' hr0.nob'
  generalize hw0 : cliPostPoll w p.acc p.envs = w0 at *
  generalize hw0' : cliPostPoll w' p'.acc p'.envs = w0' at *
  -- the device phase for one id
  have hstep : ∀ g, g ≠ 0 → cliRec w0 g = cliRec w0' g → GOk Q w0 g →
      (∀ B, w0.devs[j]? = some B → ∀ x ∈ B.2.acts, x.clientId ≠ g) →
      (∀ B', w0'.devs[j]? = some B' → ∀ x ∈ B'.2.acts, x.clientId ≠ g) →
      PassRel Q g j (daemonPass w p).1 (daemonPass w' p').1 :=
    fun g hg h1 h2 h3 h4 => pass_gen_g Q F g j w w' p p' xp xB xB' xq w0 w0' hw0 hw0' hr0.ex hr0.ex' h1 h2 hr0.store hr0.nsock.symm
      hr0.npair.symm hr0.nfork.symm hr0.devs.1 hd hg h3 h4
  have htracked : ∀ c ∈ w0.clients, F c.fd = false → PassRel Q c.id j (daemonPass w p).1 (daemonPass w' p').1 := by
    intro c hcm hF
    have e1 : cliRec w0 c.id = some c := hi0.cliRec_of_mem hcm
    have e2 : cliRec w0' c.id = some c := (hr0.tracked hi0').1 c.id c e1 hF
    refine hstep c.id (Nat.ne_of_gt (hi0.pos c.id (List.mem_map.mpr ⟨c, hcm, rfl⟩))) (by rw [e1, e2]) ?_
      (fun B hB x hx => hr0.nob B hB x hx c hcm hF) (fun B' hB' x hx => hr0.nob' B' hB' x hx c (cliRec_mem e2).1 hF)
    intro c' hc' k hk
    rw [e1] at hc'; cases hc'
    exact hr0.gok c hcm hF k hk
  have hdummy : PassRel Q w0.nextId j (daemonPass w p).1 (daemonPass w' p').1 := by
    have e1 := hi0.cliRec_none (Nat.le_refl w0.nextId)
    have e2 := hi0'.cliRec_none (Nat.le_of_eq hr0.nextId)
    refine hstep w0.nextId (Nat.ne_of_gt hi0.one) (by rw [e1, e2]) (fun c' hc' => by rw [e1] at hc'; cases hc')
      (fun B hB x hx => Nat.ne_of_lt (hi0.acts B (List.mem_of_getElem? hB) x hx))
      (fun B' hB' x hx => Nat.ne_of_lt (hr0.nextId ▸ hi0'.acts B' (List.mem_of_getElem? hB') x hx))
  -- the relation after the pass
  refine ⟨by rw [f1, f1', hr0.cfg], by rw [f2, f2', hr0.specs], by rw [f3, f3', hr0.alNext], by rw [f4, f4', hr0.nextId],
    by rw [f5, f5', hr0.nacc], hdummy.nsock.symm, hdummy.npair.symm, hdummy.nfork.symm, hdummy.ex, hdummy.ex', hdummy.store,
    ⟨hdummy.devs, ?_⟩, ?_, ?_, by rw [fS, fS', hr0.sys], nobF, nobF'⟩
  · -- position `j` still holds a device of the same name with the plugs `PB`
    intro X X' hX hX'
    rw [f7, steppedList_get p w0.devs (acc0 w0) j _ (List.getElem?_eq_getElem hjlt)] at hX
    rw [f7', steppedList_get p' w0'.devs (acc0 w0') j _ (List.getElem?_eq_getElem hjlt')] at hX'
    cases hX; cases hX'
    obtain ⟨q0, q1, q2⟩ := hr0.devs.2 _ _ (List.getElem?_eq_getElem hjlt) (List.getElem?_eq_getElem hjlt')
    obtain ⟨s1, s2⟩ := stepped_plugs p (accAt p (acc0 w0) w0.devs j) w0.devs[j]
    obtain ⟨s1', s2'⟩ := stepped_plugs p' (accAt p' (acc0 w0') w0'.devs j) w0'.devs[j]
    exact ⟨by rw [s1, s1', q0], by rw [s2, q1], by rw [s2', q2]⟩
  · -- the tables still agree on the tracked clients
    exact filter_after_keep F hr0.tab ⟨G, eG, kG⟩ ⟨G', eG', kG'⟩ hi0 hi0' fun c hc hF => (htracked c hc hF).cli.symm
  · -- the commands of the tracked clients still target `Q`-nodes only
    intro c hcm hF k hk
    rw [eG] at hcm
    obtain ⟨c0, hc0, rfl⟩ := List.mem_map.mp hcm
    exact (htracked c0 hc0 (by rw [← (kG c0).2]; exact hF)).gok (G c0) (cliRec_keep hi0 eG kG hc0) k hk

/-- **one whole pass with a general client phase.**  The relation `MRel` is kept — by the client phase, then by the device phase; in
    particular every tracked client has the same record in both runs afterwards, and every device but `B` is in the same state. -/
theorem pass_gen (Q : Bytes → Bool) (F : Nat → Bool) (j : Nat) (PB : List Plug) (w w' : W) (p p' : PassIn)
    (xp xB xB' xq : List Pm.Dev2.RxCall) (hQB : ∀ nb, Q nb = false → ∃ pl ∈ PB, pl.node = some nb)
    (hr : MRel Q F j PB w w') (hc : CliHyps F PB w w' p p')
    (hd : DevHyps Q F j (cliPostPoll w p.acc p.envs) (cliPostPoll w' p'.acc p'.envs) p p' xp xB xB' xq) :
    MRel Q F j PB (daemonPass w p).1 (daemonPass w' p').1 := by
  have hjw : j < w.devs.length := by
    have := congrArg List.length (cliPostPoll_devfds w p.acc p.envs)
    rw [List.length_map, List.length_map] at this
    exact this ▸ hd.j_lt
  exact daemonPass_mrel Q F j PB w w' p p' xp xB xB' xq (cliPostPoll_mrel Q F j PB w w' p p' hQB hr hc hjw hd.ex)
    (cliPostPoll_ids w p.acc p.envs hc.ids) (cliPostPoll_ids w' p'.acc p'.envs hc.ids') hd

/-! ### any number of passes -/

theorem MRel.withX {Q : Bytes → Bool} {F : Nat → Bool} {j : Nat} {PB : List Plug} {w w' : W} (h : MRel Q F j PB w w')
    (xs xs' : List Pm.Dev2.RxCall) : MRel Q F j PB { w with pendingX := xs } { w' with pendingX := xs' } :=
  ⟨h.cfg, h.specs, h.alNext, h.nextId, h.nacc, h.nsock, h.npair, h.nfork, h.ex, h.ex', h.store, h.devs, h.tab, h.gok, h.sys, h.nob, h.nob'⟩

/-- every pass of the two runs (each given with the regex answers recorded for it) satisfies `CliHyps` and `DevHyps` -/
inductive GenRun (Q : Bytes → Bool) (F : Nat → Bool) (j : Nat) (PB : List Plug) :
    W → W → List ((PassIn × List Pm.Dev2.RxCall) × (PassIn × List Pm.Dev2.RxCall)) → Prop
  | nil (w w' : W) : GenRun Q F j PB w w' []
  | cons (w w' : W) (p p' : PassIn) (xs xs' : List Pm.Dev2.RxCall)
      (rest : List ((PassIn × List Pm.Dev2.RxCall) × (PassIn × List Pm.Dev2.RxCall))) (xp xB xB' xq : List Pm.Dev2.RxCall) :
      CliHyps F PB (withX w xs) (withX w' xs') p p' →
      DevHyps Q F j (cliPostPoll (withX w xs) p.acc p.envs) (cliPostPoll (withX w' xs') p'.acc p'.envs) p p' xp xB xB' xq →
      GenRun Q F j PB (daemonPass (withX w xs) p).1 (daemonPass (withX w' xs') p').1 rest →
      GenRun Q F j PB w w' (((p, xs), (p', xs')) :: rest)

theorem passes_gen (Q : Bytes → Bool) (F : Nat → Bool) (j : Nat) (PB : List Plug)
    (hQB : ∀ nb, Q nb = false → ∃ pl ∈ PB, pl.node = some nb) (w w' : W)
    (l : List ((PassIn × List Pm.Dev2.RxCall) × (PassIn × List Pm.Dev2.RxCall)))
    (hr : MRel Q F j PB w w') (h : GenRun Q F j PB w w' l) :
    MRel Q F j PB (passes w (l.map (·.1))) (passes w' (l.map (·.2))) := by
  induction h with
  | nil w w' => exact hr
  | cons w w' p p' xs xs' rest xp xB xB' xq hc hd _ ih =>
    simp only [passes, List.map_cons, List.foldl_cons] at ih ⊢
    exact ih (pass_gen Q F j PB _ _ p p' xp xB xB' xq hQB (hr.withX xs xs') hc hd)

theorem GenRun.take {Q : Bytes → Bool} {F : Nat → Bool} {j : Nat} {PB : List Plug} {w w' : W}
    {l : List ((PassIn × List Pm.Dev2.RxCall) × (PassIn × List Pm.Dev2.RxCall))} (h : GenRun Q F j PB w w' l) (n : Nat) :
    GenRun Q F j PB w w' (l.take n) := by
  induction h generalizing n with
  | nil w w' => simpa using GenRun.nil w w'
  | cons w w' p p' xs xs' rest xp xB xB' xq hc hd _ ih =>
    cases n with
    | zero => exact .nil w w'
    | succ n => exact .cons w w' p p' xs xs' _ xp xB xB' xq hc hd (ih n)

theorem MRel.same_rec {Q : Bytes → Bool} {F : Nat → Bool} {j : Nat} {PB : List Plug} {w w' : W} (h : MRel Q F j PB w w')
    (hi' : IdsFresh w') (g : Nat)
    (hg : (∃ c, cliRec w g = some c ∧ F c.fd = false) ∨ (cliRec w g = none ∧ cliRec w' g = none)) :
    cliRec w' g = cliRec w g := by
  rcases hg with ⟨c, hc, hF⟩ | ⟨h1, h2⟩
  · rw [hc]; exact (h.tracked hi').1 g c hc hF
  · rw [h1, h2]

/-- the index of the first pass in which client `g`'s command in progress is completed -/
def replyPassX (w : W) (ps : List (PassIn × List Pm.Dev2.RxCall)) (g : Nat) : Option Nat :=
  (List.range ps.length).find? fun n =>
    ((cliRec (passes w (ps.take n)) g).bind (·.cmd)).isSome &&
    (match cliRec (passes w (ps.take (n + 1))) g with | some c => c.cmd.isNone | none => false)

theorem replyPassX_congr (w w' : W) (ps ps' : List (PassIn × List Pm.Dev2.RxCall)) (g : Nat) (hl : ps'.length = ps.length)
    (h : ∀ n, cliRec (passes w' (ps'.take n)) g = cliRec (passes w (ps.take n)) g) : replyPassX w' ps' g = replyPassX w ps g := by
  unfold replyPassX
  rw [hl]
  congr 1
  funext n
  rw [h n, h (n + 1)]

theorem passes_ids (w : W) (ps : List (PassIn × List Pm.Dev2.RxCall)) (h : IdsFresh w) : IdsFresh (passes w ps) := by
  unfold passes
  induction ps generalizing w with
  | nil => exact h
  | cons x r ih =>
    rw [List.foldl_cons]
    exact ih _ (daemonPass_ids _ x.1 (h.congr rfl rfl rfl))

end Pm.Daemon.TwoRun
