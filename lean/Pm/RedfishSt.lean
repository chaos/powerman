import Pm.RedfishPW
import Pm.Logic
/-! The plug-state association list; `processOne` by cases. -/
namespace Pm.Redfish

theorem lookup_filter_ne (st : St) (p x : Nat) (h : x ≠ p) :
    List.lookup x (st.filter (fun e => !decide (e.1 = p))) = List.lookup x st :=
  lookup_filter _ x st fun e _ hk => by
    have : e.1 = x := by simpa using Eq.symm (beq_iff_eq.1 hk)
    simp [this, h]

theorem isOn_setSt (st : St) (p : Nat) (v : Bool) (x : Nat) :
    isOn (setSt st p v) x = if x = p then v else isOn st x := by
  unfold isOn setSt
  by_cases h : x = p
  · subst h; simp
  · have : (x == p) = false := by simp [h]
    simp [List.lookup_cons, this, h, lookup_filter_ne st p x h]

theorem isOn_descOff_fold (c : Cfg) (p : Nat) (l : List PlugCfg) (st : St) (x : Nat) :
    isOn (l.foldl (fun s q => if isDesc c q.name p then setSt s q.name false else s) st) x
      = (isOn st x && !(l.any fun q => q.name = x && isDesc c q.name p)) := by
  induction l generalizing st with
  | nil => simp
  | cons q l ih =>
    rw [List.foldl_cons, ih]
    by_cases hd : isDesc c q.name p = true
    · simp only [hd, if_true, isOn_setSt, List.any_cons]
      by_cases hx : x = q.name
      · subst hx; simp
      · have : ¬ q.name = x := fun e => hx e.symm
        simp [hx, this]
    · simp [hd]

theorem isOn_descendantsOff {c : Cfg} (st : St) (p x : Nat) :
    isOn (descendantsOff c st p) x = (isOn st x && !isDesc c x p) := by
  unfold descendantsOff
  rw [isOn_descOff_fold]
  by_cases hd : isDesc c x p = true
  · have hk : known c x = true := by
      obtain ⟨q, hq⟩ := anc_nonempty_parent (isDesc_iff.1 hd)
      exact parentOf_known hq
    unfold known at hk
    cases hl : lookup c x with
    | none => simp [hl] at hk
    | some pc =>
      have ⟨hn, hm⟩ := lookup_name hl
      have : (c.plugs.any fun q => q.name = x && isDesc c q.name p) = true := by
        rw [List.any_eq_true]; exact ⟨pc, hm, by simp [hn, hd]⟩
      simp [this, hd]
  · have : (c.plugs.any fun q => q.name = x && isDesc c q.name p) = false := by
      rw [List.any_eq_false]; intro q _
      by_cases e : q.name = x
      · subst e; simpa using hd
      · simp [e]
    simp [this, hd]

/-- the state after an accepted power command on `p` -/
def powerSt (c : Cfg) (st : St) (cmd : Cmd) (p : Nat) : St :=
  if cmd == .on then setSt st p true else descendantsOff c (setSt st p false) p

theorem isOn_powerSt_on (c : Cfg) (st : St) (p x : Nat) :
    isOn (powerSt c st .on p) x = (decide (x = p) || isOn st x) := by
  simp only [powerSt, beq_self_eq_true, if_true, isOn_setSt]
  by_cases h : x = p <;> simp [h]

theorem isOn_powerSt_off (c : Cfg) (st : St) (p x : Nat) (cmd : Cmd) (h : cmd ≠ .on) :
    isOn (powerSt c st cmd p) x = (isOn st x && !decide (x = p) && !isDesc c x p) := by
  have : (cmd == Cmd.on) = false := by cases cmd <;> simp_all
  unfold powerSt
  rw [this]
  simp only [Bool.false_eq_true, if_false]
  rw [isOn_descendantsOff, isOn_setSt]
  by_cases h : x = p <;> simp [h]

def outIf (m : M) (b : Bool) (l : Line) : M := if b then { m with out := m.out ++ [l] } else m

theorem outIf_fields (m : M) (b : Bool) (l : Line) :
    (outIf m b l).active = m.active ∧ (outIf m b l).delayed = m.delayed ∧ (outIf m b l).waiting = m.waiting ∧
    (outIf m b l).st = m.st := by
  cases b <;> simp [outIf]

theorem processOne_fail (c : Cfg) (m : M) (pm : PM) (h : hostFails c pm.plug = true) :
    processOne c m pm = processWaiters c (outIf m pm.output (.status pm.plug .error)) pm.plug .error := by
  simp [processOne, h, outIf]

theorem processOne_stat (c : Cfg) (m : M) (pm : PM) (h : hostFails c pm.plug = false) (hc : pm.cmd = .stat) :
    processOne c m pm =
      processWaiters c (outIf m pm.output (.status pm.plug (statStr c m pm.plug))) pm.plug (statStr c m pm.plug) := by
  simp [processOne, h, hc, outIf]

theorem processOne_fresh (c : Cfg) (m : M) (pm : PM) (h : hostFails c pm.plug = false) (hc : pm.cmd ≠ .stat)
    (hwt : pm.waitState = false) :
    processOne c m pm =
      { m with st := powerSt c m.st pm.cmd pm.plug,
               delayed := m.delayed ++ [{ pm with output := true, waitState := true }] } := by
  unfold processOne powerSt
  cases hcm : pm.cmd <;> simp_all

theorem processOne_done (c : Cfg) (m : M) (pm : PM) (h : hostFails c pm.plug = false) (hc : pm.cmd ≠ .stat)
    (hwt : pm.waitState = true) (hs : (statStr c m pm.plug == .on) = (pm.cmd == .on)) :
    processOne c m pm =
      processWaiters c { m with out := m.out ++ [.ok pm.plug] } pm.plug (statStr c m pm.plug) := by
  unfold processOne
  cases hcm : pm.cmd <;> simp_all

theorem processOne_again (c : Cfg) (m : M) (pm : PM) (h : hostFails c pm.plug = false) (hc : pm.cmd ≠ .stat)
    (hwt : pm.waitState = true) (hs : (statStr c m pm.plug == .on) ≠ (pm.cmd == .on)) :
    processOne c m pm = { m with delayed := m.delayed ++ [pm] } := by
  unfold processOne
  cases hcm : pm.cmd <;> simp_all

end Pm.Redfish
