import Pm.Daemon
import Pm.HLMore
/-! `createR` (`Pm/Daemon`: the `hostlist_create` of the daemon model and of redfishpower's command layer, which only tells
    success from failure) is `create` with the error codes forgotten, so what is proved of `create` holds of it. -/
namespace Pm.Daemon
open Pm

/-- one token of `createR` -/
def crStep (acc : CR) (tok : List Char) : CR :=
  match acc with
  | .ok hl =>
    match createTok hl tok with
    | .ok hl' => .ok hl'
    | .error _ => .err
  | other => other

theorem createR_eq_foldl (s : List Char) : createR s = (tokens s).foldl crStep (.ok []) := by
  unfold createR
  congr 1
  funext acc tok
  unfold crStep createTok
  cases acc with
  | ok hl =>
    simp only
    rcases h1 : splitOnFirst '[' tok with ⟨pfx, _ | rest⟩
    · simp only
      by_cases hc : ']' ∈ tok <;> simp [hc]
    · simp only
      rcases h2 : splitOnFirst ']' rest with ⟨body, _ | sfx⟩
      · simp
      · simp only
        cases h3 : parseRangeList body with
        | error e => simp
        | ok rs => simp only; by_cases hs : sfx.isEmpty = true <;> simp [hs]
  | err => rfl
  | fatal => rfl

theorem foldl_crStep_err : ∀ (toks : List (List Char)), toks.foldl crStep .err = .err
  | [] => rfl
  | _ :: r => foldl_crStep_err r

theorem foldl_crStep : ∀ (toks : List (List Char)) (hl : Hostlist),
    toks.foldl crStep (.ok hl) = match toks.foldlM createTok hl with | .ok x => .ok x | .error _ => .err
  | [], _ => rfl
  | t :: r, hl => by
    rw [List.foldl_cons, List.foldlM_cons,
      show crStep (.ok hl) t = (match createTok hl t with | .ok x => CR.ok x | .error _ => .err) from rfl]
    cases createTok hl t with
    | error e => exact foldl_crStep_err r
    | ok x => exact foldl_crStep r x

theorem createR_eq (s : List Char) : createR s = match create s with | .ok hl => .ok hl | .error _ => .err := by
  rw [createR_eq_foldl, create_eq]; exact foldl_crStep _ _

theorem create_of_createR (s : List Char) (hl : Hostlist) (h : createR s = .ok hl) : create s = .ok hl := by
  rw [createR_eq] at h
  cases hc : create s with
  | ok x => rw [hc] at h; cases h; rfl
  | error e => rw [hc] at h; cases h

end Pm.Daemon
