import Pm.Logic
import Pm.Daemon
import Pm.AliasProof
import Pm.ToBuf
/-! Helper lemmas for property C01 (a request commands only the plugs of the nodes it names).

`enqueue` (the mirror of `dev_enqueue_actions` + `_enqueue_targeted_actions` for one device) is cut into pieces
(`tgt`, `mkAct`, `singletActs`, `chosenActs`, `newActs`) and proved equal to the original (`enqueue_eq`); what is said of
the appended actions is read off one case lemma, `newActs_cases`.  Then the loop of `install` over the devices
(`installDev`, `installTotal`, `install_fold`) and what a `send` of a fresh action writes (`stmtSend_*`). -/
namespace Pm.Daemon.Enq
open Pm Pm.Client
open Pm.Dev2 (Dev Action Stmt Plug Arg ExecCtx StepR Oracle Out stmtSend hsprintf rangedNames setTop teleMem clipTo clipTo_append_of_le)

/-- "this plug is mapped to a node named in the request" (`plug->node != NULL && hostlist_find(hl, plug->node) != -1`) -/
def tgt (targets : List Bytes) (p : Plug) : Bool :=
  match p.node with | some n => targets.contains n | none => false

/-- `dev->scripts[c] != NULL` -/
def hasS (scripts : Nat → Option (List Stmt)) (c : Nat) : Bool := (scripts c).isSome
/-- `_get_all_script(dev, com) != -1` / `_get_ranged_script(dev, com) != -1` given the slot of the variant -/
def hasO (scripts : Nat → Option (List Stmt)) (o : Option Nat) : Bool := (o.map (hasS scripts)).getD false

/-- `_create_action`: depends on the device only through its script table -/
def mkAct (scripts : Nat → Option (List Stmt)) (com : Nat) (plugs : Option (List Plug)) (cid : Nat) (tele : Bool) (al : Nat) : Action :=
  { uid := 0, com, exec := [{ block := (scripts com).getD [], pos := 0, plugs, plugItr := none, plugCopy := none, processing := false }],
    clientId := cid, telemetry := tele, errnum := .success, timeStamp := none, delayStart := 0, arglist := al }

theorem mkAction_eq (d : Dev) (com : Nat) (plugs : Option (List Plug)) (cid : Nat) (tele : Bool) (al : Nat) :
    mkAction d com plugs cid tele al 0 = mkAct d.scripts com plugs cid tele al := rfl

/-- the list `new_acts` of `_enqueue_targeted_actions`: one singlet action per targeted plug, if the singlet script exists -/
def singletActs (plugs : List Plug) (scripts : Nat → Option (List Stmt)) (com : Nat) (targets : List Bytes)
    (cid : Nat) (tele : Bool) (al : Nat) : List Action :=
  if hasS scripts com then (plugs.filter (tgt targets)).map fun p => mkAct scripts com (some [p]) cid tele al else []

/-- the four-way choice at the end of `_enqueue_targeted_actions` -/
def chosenActs (plugs : List Plug) (scripts : Nat → Option (List Stmt)) (com : Nat) (targets : List Bytes)
    (cid : Nat) (tele : Bool) (al : Nat) : List Action :=
  if hasS scripts com && (singletActs plugs scripts com targets cid tele al).length == 1 then
    singletActs plugs scripts com targets cid tele al
  else if (plugs.all (tgt targets) || (isQuery com && !hasS scripts com)) && hasO scripts (allOf com) then
    [mkAct scripts ((allOf com).getD 0) none cid tele al]
  else if hasO scripts (rangedOf com) then
    [mkAct scripts ((rangedOf com).getD 0) (some (plugs.filter (tgt targets))) cid tele al]
  else singletActs plugs scripts com targets cid tele al

/-- what `dev_enqueue_actions` appends to one device's queue: a function of the device's plug list and script
    table and of the request only -/
def newActs (plugs : List Plug) (scripts : Nat → Option (List Stmt)) (com : Nat) (targets : List Bytes)
    (cid : Nat) (tele : Bool) (al : Nat) : List Action :=
  if !(hasS scripts com || hasO scripts (allOf com) || hasO scripts (rangedOf com)) || (plugs.filter (tgt targets)).isEmpty then []
  else chosenActs plugs scripts com targets cid tele al

theorem enqueue_eq (d : Dev) (com : Nat) (targets : List Bytes) (cid : Nat) (tele : Bool) (al : Nat) :
    enqueue d com targets cid tele al =
      ({ d with acts := d.acts ++ newActs d.plugs d.scripts com targets cid tele al },
       (newActs d.plugs d.scripts com targets cid tele al).length) := by
  have key : enqueue d com targets cid tele al =
      if !(hasS d.scripts com || hasO d.scripts (allOf com) || hasO d.scripts (rangedOf com)) || (d.plugs.filter (tgt targets)).isEmpty
      then (d, 0)
      else ({ d with acts := d.acts ++ chosenActs d.plugs d.scripts com targets cid tele al },
            (chosenActs d.plugs d.scripts com targets cid tele al).length) := rfl
  rw [key]
  unfold newActs
  split <;> simp

theorem enqueue_acts (d : Dev) (com : Nat) (targets : List Bytes) (cid : Nat) (tele : Bool) (al : Nat) :
    (enqueue d com targets cid tele al).1.acts = d.acts ++ newActs d.plugs d.scripts com targets cid tele al := by
  rw [enqueue_eq]

theorem enqueue_count (d : Dev) (com : Nat) (targets : List Bytes) (cid : Nat) (tele : Bool) (al : Nat) :
    (enqueue d com targets cid tele al).2 = (newActs d.plugs d.scripts com targets cid tele al).length := by
  rw [enqueue_eq]

theorem tgt_iff {targets : List Bytes} {p : Plug} : tgt targets p = true ↔ ∃ n, p.node = some n ∧ n ∈ targets := by
  unfold tgt
  cases p.node with
  | none => simp
  | some n => simp

theorem tgt_of_mem {targets : List Bytes} {p : Plug} {n : Bytes} (hn : p.node = some n) (hm : n ∈ targets) : tgt targets p = true :=
  tgt_iff.mpr ⟨n, hn, hm⟩

theorem hasO_spec {scripts : Nat → Option (List Stmt)} {o : Option Nat} (h : hasO scripts o = true) :
    ∃ c, o = some c ∧ hasS scripts c = true ∧ o.getD 0 = c := by
  cases o with
  | none => simp [hasO] at h
  | some c => exact ⟨c, rfl, by simpa [hasO] using h, rfl⟩

theorem mem_singletActs {plugs : List Plug} {scripts : Nat → Option (List Stmt)} {com : Nat} {targets : List Bytes}
    {cid : Nat} {tele : Bool} {al : Nat} {a : Action} (h : a ∈ singletActs plugs scripts com targets cid tele al) :
    hasS scripts com = true ∧ ∃ p, p ∈ plugs.filter (tgt targets) ∧ a = mkAct scripts com (some [p]) cid tele al := by
  unfold singletActs at h
  split at h
  · rename_i hs
    obtain ⟨p, hp, rfl⟩ := List.mem_map.mp h
    exact ⟨hs, p, hp, rfl⟩
  · cases h

/-- every appended action is of one of three shapes, and each shape comes with the condition under which
    `_enqueue_targeted_actions` chooses it -/
theorem newActs_cases {plugs : List Plug} {scripts : Nat → Option (List Stmt)} {com : Nat} {targets : List Bytes}
    {cid : Nat} {tele : Bool} {al : Nat} {a : Action} (h : a ∈ newActs plugs scripts com targets cid tele al) :
    (hasS scripts com = true ∧ ∃ p, p ∈ plugs.filter (tgt targets) ∧ a = mkAct scripts com (some [p]) cid tele al) ∨
    (∃ c, allOf com = some c ∧ hasS scripts c = true ∧
        (plugs.all (tgt targets) = true ∨ (isQuery com = true ∧ hasS scripts com = false)) ∧
        a = mkAct scripts c none cid tele al) ∨
    (∃ c, rangedOf com = some c ∧ hasS scripts c = true ∧
        a = mkAct scripts c (some (plugs.filter (tgt targets))) cid tele al) := by
  unfold newActs at h
  split at h
  · cases h
  · unfold chosenActs at h
    split at h
    · exact .inl (mem_singletActs h)
    · split at h
      · rename_i hall
        simp only [Bool.and_eq_true, Bool.or_eq_true, Bool.not_eq_true'] at hall
        obtain ⟨c, hc, hs, hg⟩ := hasO_spec hall.2
        simp only [List.mem_singleton] at h
        rw [hg] at h
        exact .inr (.inl ⟨c, hc, hs, hall.1, h⟩)
      · split at h
        · rename_i hr
          obtain ⟨c, hc, hs, hg⟩ := hasO_spec hr
          simp only [List.mem_singleton] at h
          rw [hg] at h
          exact .inr (.inr ⟨c, hc, hs, h⟩)
        · exact .inl (mem_singletActs h)

theorem newActs_mk {d : Dev} {com : Nat} {targets : List Bytes} {cid : Nat} {tele : Bool} {al : Nat} {a : Action}
    (h : a ∈ newActs d.plugs d.scripts com targets cid tele al) : ∃ com' plugs, a = mkAction d com' plugs cid tele al 0 := by
  rcases newActs_cases h with ⟨_, p, _, rfl⟩ | ⟨c, _, _, _, rfl⟩ | ⟨c, _, _, rfl⟩ <;> exact ⟨_, _, (mkAction_eq ..).symm⟩

/-- the plug list given to the outer (first created, last on the stack) context of an action; `none` for an `_all` action -/
def _root_.Pm.Dev2.Action.outerPlugs (a : Action) : Option (List Plug) := a.exec.getLast?.bind (·.plugs)

/-- the plugs an action can command on device `d`: the plug list of its outer context (one plug for a singlet action,
    the argument list of a ranged one); every plug of the device for an `_all` action -/
def _root_.Pm.Dev2.Action.commanded (d : Dev) (a : Action) : List Plug := a.outerPlugs.getD d.plugs

@[simp] theorem outerPlugs_mkAct (scripts : Nat → Option (List Stmt)) (com : Nat) (plugs : Option (List Plug)) (cid : Nat) (tele : Bool) (al : Nat) :
    (mkAct scripts com plugs cid tele al).outerPlugs = plugs := rfl

theorem newActs_exec {plugs : List Plug} {scripts : Nat → Option (List Stmt)} {com : Nat} {targets : List Bytes}
    {cid : Nat} {tele : Bool} {al : Nat} {a : Action} (h : a ∈ newActs plugs scripts com targets cid tele al) :
    a.exec = [{ block := (scripts a.com).getD [], pos := 0, plugs := a.outerPlugs, plugItr := none, plugCopy := none, processing := false }] ∧
    (scripts a.com).isSome = true := by
  rcases newActs_cases h with ⟨hs, p, _, rfl⟩ | ⟨c, _, hs, _, rfl⟩ | ⟨c, _, hs, rfl⟩ <;> exact ⟨rfl, hs⟩

theorem newActs_subset {plugs : List Plug} {scripts : Nat → Option (List Stmt)} {com : Nat} {targets : List Bytes}
    {cid : Nat} {tele : Bool} {al : Nat} {a : Action} (h : a ∈ newActs plugs scripts com targets cid tele al)
    {ps : List Plug} (hps : a.outerPlugs = some ps) :
    ∀ p ∈ ps, p ∈ plugs ∧ ∃ n, p.node = some n ∧ n ∈ targets := by
  have filt : ∀ q, q ∈ plugs.filter (tgt targets) → q ∈ plugs ∧ ∃ n, q.node = some n ∧ n ∈ targets :=
    fun q hq => ⟨(List.mem_filter.mp hq).1, tgt_iff.mp (List.mem_filter.mp hq).2⟩
  rcases newActs_cases h with ⟨_, q, hq, rfl⟩ | ⟨c, _, _, _, rfl⟩ | ⟨c, _, _, rfl⟩
  · simp only [outerPlugs_mkAct, Option.some.injEq] at hps; subst hps
    intro p hp; simp only [List.mem_singleton] at hp; subst hp; exact filt _ hq
  · simp at hps
  · simp only [outerPlugs_mkAct, Option.some.injEq] at hps; subst hps
    exact filt

theorem newActs_plugs_shape {plugs : List Plug} {scripts : Nat → Option (List Stmt)} {com : Nat} {targets : List Bytes}
    {cid : Nat} {tele : Bool} {al : Nat} {a : Action} (h : a ∈ newActs plugs scripts com targets cid tele al) :
    (∃ p, p ∈ plugs.filter (tgt targets) ∧ a.outerPlugs = some [p] ∧ a.com = com) ∨
    (a.outerPlugs = none ∧ allOf com = some a.com) ∨
    (a.outerPlugs = some (plugs.filter (tgt targets)) ∧ rangedOf com = some a.com) := by
  rcases newActs_cases h with ⟨_, q, hq, rfl⟩ | ⟨c, hc, _, _, rfl⟩ | ⟨c, hc, _, rfl⟩
  · exact .inl ⟨q, hq, rfl, rfl⟩
  · exact .inr (.inl ⟨rfl, hc⟩)
  · exact .inr (.inr ⟨rfl, hc⟩)

theorem newActs_all {plugs : List Plug} {scripts : Nat → Option (List Stmt)} {com : Nat} {targets : List Bytes}
    {cid : Nat} {tele : Bool} {al : Nat} {a : Action} (h : a ∈ newActs plugs scripts com targets cid tele al)
    (hn : a.outerPlugs = none) :
    allOf com = some a.com ∧ (plugs.all (tgt targets) = true ∨ (isQuery com = true ∧ hasS scripts com = false)) := by
  rcases newActs_cases h with ⟨_, q, hq, rfl⟩ | ⟨c, hc, _, hall, rfl⟩ | ⟨c, hc, _, rfl⟩
  · simp at hn
  · exact ⟨hc, hall⟩
  · simp at hn

theorem newActs_kind {plugs : List Plug} {scripts : Nat → Option (List Stmt)} {com : Nat} {targets : List Bytes}
    {cid : Nat} {tele : Bool} {al : Nat} {a : Action} (h : a ∈ newActs plugs scripts com targets cid tele al) :
    (a.com = com ∨ allOf com = some a.com ∨ rangedOf com = some a.com) ∧
    a.clientId = cid ∧ a.arglist = al ∧ a.telemetry = tele := by
  rcases newActs_cases h with ⟨_, q, hq, rfl⟩ | ⟨c, hc, _, _, rfl⟩ | ⟨c, hc, _, rfl⟩
  · exact ⟨.inl rfl, rfl, rfl, rfl⟩
  · exact ⟨.inr (.inl hc), rfl, rfl, rfl⟩
  · exact ⟨.inr (.inr hc), rfl, rfl, rfl⟩

theorem filter_tgt_nil_of_not_any {plugs : List Plug} {targets : List Bytes} (h : plugs.any (tgt targets) = false) :
    plugs.filter (tgt targets) = [] := by
  rw [List.any_eq_false] at h
  exact List.filter_eq_nil_iff.mpr h

theorem newActs_uninvolved {plugs : List Plug} {scripts : Nat → Option (List Stmt)} {com : Nat} {targets : List Bytes}
    {cid : Nat} {tele : Bool} {al : Nat} (h : plugs.any (tgt targets) = false) :
    newActs plugs scripts com targets cid tele al = [] := by
  unfold newActs
  rw [filter_tgt_nil_of_not_any h]
  simp

theorem needsDev_eq (d : Dev) (targets : List Bytes) : needsDev d targets = d.plugs.any (tgt targets) := rfl
theorem implemented_eq (d : Dev) (com : Nat) :
    implemented d com = (hasS d.scripts com || hasO d.scripts (allOf com) || hasO d.scripts (rangedOf com)) := rfl
theorem handles_eq (d : Dev) (com : Nat) (targets : List Bytes) :
    handles d com targets =
      (if hasS d.scripts com || hasO d.scripts (rangedOf com) then true
       else if !hasO d.scripts (allOf com) then false
       else if isQuery com then true
       else d.plugs.all (tgt targets)) := rfl

theorem needsDev_false_iff (d : Dev) (targets : List Bytes) :
    needsDev d targets = false ↔ ∀ p ∈ d.plugs, ∀ n, p.node = some n → n ∉ targets := by
  rw [needsDev_eq, List.any_eq_false]
  simp only [tgt_iff, not_exists, not_and]

theorem all_tgt_iff (plugs : List Plug) (targets : List Bytes) :
    plugs.all (tgt targets) = true ↔ ∀ p ∈ plugs, ∃ n, p.node = some n ∧ n ∈ targets := by
  simp only [List.all_eq_true, tgt_iff]

/-- `handles` as a function of five Booleans (singlet, ranged, `_all` script present; query; every plug targeted): it implies
    `implemented`, and where neither the `_all` nor the ranged variant is chosen the singlet script is there -/
theorem handles_bool : ∀ S R A Q L : Bool, (if S || R then true else if !A then false else if Q then true else L) = true →
    (S || A || R) = true ∧ (¬ ((L || (Q && !S)) && A) = true → ¬ R = true → S = true) := by
  decide

theorem handles_implemented {d : Dev} {com : Nat} {targets : List Bytes} (h : handles d com targets = true) :
    implemented d com = true := by
  rw [handles_eq] at h
  exact (handles_bool _ _ _ _ _ h).1

theorem newActs_handled {d : Dev} {com : Nat} {targets : List Bytes} (cid : Nat) (tele : Bool) (al : Nat)
    (hh : handles d com targets = true) (htp : d.plugs.filter (tgt targets) ≠ []) :
    newActs d.plugs d.scripts com targets cid tele al = chosenActs d.plugs d.scripts com targets cid tele al := by
  have himp := handles_implemented hh
  rw [implemented_eq] at himp
  unfold newActs
  exact if_neg (by simp [himp, htp])

theorem handles_singlet {d : Dev} {com : Nat} {targets : List Bytes} (hh : handles d com targets = true)
    (hA : ¬ ((d.plugs.all (tgt targets) || (isQuery com && !hasS d.scripts com)) && hasO d.scripts (allOf com)) = true)
    (hR : ¬ hasO d.scripts (rangedOf com) = true) : hasS d.scripts com = true := by
  rw [handles_eq] at hh
  exact (handles_bool _ _ _ _ _ hh).2 hA hR

/-- an involved device that passed the capability check gets at least one action (finding F15) -/
theorem newActs_ne_nil {d : Dev} {com : Nat} {targets : List Bytes} {cid : Nat} {tele : Bool} {al : Nat}
    (hn : needsDev d targets = true) (hh : handles d com targets = true) :
    newActs d.plugs d.scripts com targets cid tele al ≠ [] := by
  rw [needsDev_eq] at hn
  obtain ⟨p, hp, ht⟩ := List.any_eq_true.mp hn
  have htp : d.plugs.filter (tgt targets) ≠ [] := List.ne_nil_of_mem (List.mem_filter.mpr ⟨hp, ht⟩)
  have hsing : hasS d.scripts com = true → singletActs d.plugs d.scripts com targets cid tele al ≠ [] := by
    intro hs; unfold singletActs; rw [if_pos hs]; simpa using htp
  rw [newActs_handled cid tele al hh htp]
  unfold chosenActs
  refine ite_cases (P := (· ≠ [])) (fun h => hsing (Bool.and_eq_true_iff.mp h).1) fun _ => ?_
  refine ite_cases (P := (· ≠ [])) (fun _ => List.cons_ne_nil _ _) fun hA => ?_
  exact ite_cases (P := (· ≠ [])) (fun _ => List.cons_ne_nil _ _) fun hR => hsing (handles_singlet hh hA hR)

theorem enqueue_uninvolved {d : Dev} {targets : List Bytes} (com cid : Nat) (tele : Bool) (al : Nat)
    (h : needsDev d targets = false) : enqueue d com targets cid tele al = (d, 0) := by
  rw [enqueue_eq, newActs_uninvolved (by rw [← needsDev_eq]; exact h)]
  simp

theorem enqueue_frame (d : Dev) (com : Nat) (targets : List Bytes) (cid : Nat) (tele : Bool) (al : Nat) :
    (enqueue d com targets cid tele al).1 = { d with acts := (enqueue d com targets cid tele al).1.acts } := by
  rw [enqueue_eq]

/-! ### `install`: the fold over the configured devices -/

/-- what the loop of `dev_enqueue_actions` does to one device -/
def installDev (com : Nat) (bnames : List Bytes) (cid : Nat) (tele : Bool) (al : Nat) (nd : Bytes × Dev) : Bytes × Dev :=
  (nd.1, if (enqueue nd.2 com bnames cid tele al).2 > 0 && (enqueue nd.2 com bnames cid tele al).1.conn != 2
         then { (enqueue nd.2 com bnames cid tele al).1 with retryCount := 0 } else (enqueue nd.2 com bnames cid tele al).1)

/-- total number of actions a request creates -/
def installTotal (com : Nat) (bnames : List Bytes) (cid : Nat) (tele : Bool) (al : Nat) (devs : List (Bytes × Dev)) : Nat :=
  (devs.map fun nd => (newActs nd.2.plugs nd.2.scripts com bnames cid tele al).length).sum

theorem install_fold (com : Nat) (bnames : List Bytes) (cid : Nat) (tele : Bool) (al : Nat) (devs : List (Bytes × Dev))
    (acc : List (Bytes × Dev) × Nat) :
    devs.foldl (fun (acc : List (Bytes × Dev) × Nat) (nd : Bytes × Dev) =>
      let (d1, n) := enqueue nd.2 com bnames cid tele al
      let d1 := if n > 0 && d1.conn != 2 then { d1 with retryCount := 0 } else d1
      (acc.1 ++ [(nd.1, d1)], acc.2 + n)) acc
    = (acc.1 ++ devs.map (installDev com bnames cid tele al), acc.2 + installTotal com bnames cid tele al devs) := by
  induction devs generalizing acc with
  | nil => simp [installTotal]
  | cons nd rest ih =>
    rw [List.foldl_cons, ih]
    simp only [installTotal, List.map_cons, List.sum_cons, installDev, enqueue_count]
    simp [Nat.add_assoc]

theorem installDev_fst (com : Nat) (bnames : List Bytes) (cid : Nat) (tele : Bool) (al : Nat) (nd : Bytes × Dev) :
    (installDev com bnames cid tele al nd).1 = nd.1 := by unfold installDev; rfl

theorem installDev_spec (com : Nat) (bnames : List Bytes) (cid : Nat) (tele : Bool) (al : Nat) (nd : Bytes × Dev) :
    (installDev com bnames cid tele al nd).2.plugs = nd.2.plugs ∧
    (installDev com bnames cid tele al nd).2.scripts = nd.2.scripts ∧
    (installDev com bnames cid tele al nd).2.acts = nd.2.acts ++ newActs nd.2.plugs nd.2.scripts com bnames cid tele al ∧
    (installDev com bnames cid tele al nd).2.toBuf = nd.2.toBuf ∧
    (installDev com bnames cid tele al nd).2.fromBuf = nd.2.fromBuf ∧
    (installDev com bnames cid tele al nd).2.conn = nd.2.conn := by
  unfold installDev
  rw [enqueue_eq]
  split <;> simp

theorem installDev_uninvolved {com : Nat} {bnames : List Bytes} {cid : Nat} {tele : Bool} {al : Nat} {nd : Bytes × Dev}
    (h : needsDev nd.2 bnames = false) : installDev com bnames cid tele al nd = nd := by
  unfold installDev
  rw [enqueue_uninvolved com cid tele al h]
  simp

/-! ### `_process_send`: what goes on the wire -/

/-- first-time send of a singlet action: the format with the configured name of the one plug, queued behind what is queued;
    `dev->to` holds 65536 bytes: beyond that the oldest queued bytes give way (`clipTo`) -/
theorem stmtSend_singlet (d : Dev) (a : Action) (o : Oracle) (e : ExecCtx) (fmt : Bytes) (p : Plug)
    (hp : e.processing = false) (hs : e.plugs = some [p]) :
    (stmtSend d a o e fmt).dev = { d with toBuf := clipTo (d.toBuf ++ hsprintf fmt (some p.name)) } ∧
    (stmtSend d a o e fmt).out.head? = some (.sent (hsprintf fmt (some p.name))) := by
  unfold stmtSend
  simp only [hp, hs, Bool.not_false, ↓reduceIte]
  split <;> simp

/-- first-time send of a ranged action (two plugs or more): the format with the sorted, compressed list of the
    configured plug names; when the sort asserts (F19) nothing is written -/
theorem stmtSend_ranged (d : Dev) (a : Action) (o : Oracle) (e : ExecCtx) (fmt : Bytes) (p q : Plug) (r : List Plug)
    (hp : e.processing = false) (hs : e.plugs = some (p :: q :: r)) :
    match rangedNames ((p :: q :: r).map (·.name)) with
    | some n => (stmtSend d a o e fmt).dev = { d with toBuf := clipTo (d.toBuf ++ hsprintf fmt (some n)) } ∧
                (stmtSend d a o e fmt).out.head? = some (.sent (hsprintf fmt (some n)))
    | none => (stmtSend d a o e fmt).dev = d ∧ (stmtSend d a o e fmt).out = [.abortAssert "hostlist_sort assert in _process_send"] := by
  unfold stmtSend
  simp only [hp, hs, Bool.not_false, ↓reduceIte]
  cases rangedNames ((p :: q :: r).map (·.name)) with
  | none => simp
  | some n => simp only [Option.map_some]; split <;> simp

/-- first-time send of an `_all` action (no plug list; an empty one is treated alike): `%s` is not substituted -/
theorem stmtSend_all (d : Dev) (a : Action) (o : Oracle) (e : ExecCtx) (fmt : Bytes)
    (hp : e.processing = false) (hs : e.plugs = none ∨ e.plugs = some []) :
    (stmtSend d a o e fmt).dev = { d with toBuf := clipTo (d.toBuf ++ hsprintf fmt none) } ∧
    (stmtSend d a o e fmt).out.head? = some (.sent (hsprintf fmt none)) := by
  unfold stmtSend
  rcases hs with hs | hs <;> simp only [hp, hs, Bool.not_false, ↓reduceIte] <;> split <;> simp

theorem stmtSend_singlet_below (d : Dev) (a : Action) (o : Oracle) (e : ExecCtx) (fmt : Bytes) (p : Plug)
    (hp : e.processing = false) (hs : e.plugs = some [p]) (hfit : (d.toBuf ++ hsprintf fmt (some p.name)).length ≤ 65536) :
    (stmtSend d a o e fmt).dev = { d with toBuf := d.toBuf ++ hsprintf fmt (some p.name) } ∧
    (stmtSend d a o e fmt).out.head? = some (.sent (hsprintf fmt (some p.name))) := by
  have h := stmtSend_singlet d a o e fmt p hp hs
  rw [clipTo_append_of_le _ _ hfit] at h; exact h

theorem stmtSend_ranged_below (d : Dev) (a : Action) (o : Oracle) (e : ExecCtx) (fmt : Bytes) (p q : Plug) (r : List Plug)
    (hp : e.processing = false) (hs : e.plugs = some (p :: q :: r)) (n : Bytes)
    (hn : rangedNames ((p :: q :: r).map (·.name)) = some n) (hfit : (d.toBuf ++ hsprintf fmt (some n)).length ≤ 65536) :
    (stmtSend d a o e fmt).dev = { d with toBuf := d.toBuf ++ hsprintf fmt (some n) } ∧
    (stmtSend d a o e fmt).out.head? = some (.sent (hsprintf fmt (some n))) := by
  have h := stmtSend_ranged d a o e fmt p q r hp hs
  rw [hn] at h
  dsimp only at h
  rw [clipTo_append_of_le _ _ hfit] at h; exact h

theorem stmtSend_all_below (d : Dev) (a : Action) (o : Oracle) (e : ExecCtx) (fmt : Bytes)
    (hp : e.processing = false) (hs : e.plugs = none ∨ e.plugs = some []) (hfit : (d.toBuf ++ hsprintf fmt none).length ≤ 65536) :
    (stmtSend d a o e fmt).dev = { d with toBuf := d.toBuf ++ hsprintf fmt none } ∧
    (stmtSend d a o e fmt).out.head? = some (.sent (hsprintf fmt none)) := by
  have h := stmtSend_all d a o e fmt hp hs
  rw [clipTo_append_of_le _ _ hfit] at h; exact h

theorem stmtSend_again (d : Dev) (a : Action) (o : Oracle) (e : ExecCtx) (fmt : Bytes) (hp : e.processing = true) :
    (stmtSend d a o e fmt).dev = d ∧ (stmtSend d a o e fmt).out = [] := by
  unfold stmtSend
  simp only [hp, Bool.not_true, Bool.false_eq_true, ↓reduceIte]
  split <;> simp

/-! ### the plugs a fresh action commands, and what its first `send` writes -/

theorem isQuery_comIdx (com : Com) :
    isQuery (comIdx com) = false ↔ com ∈ [Com.on, .off, .cycle, .reset, .flash, .unflash] := by
  cases com <;> decide

theorem newActs_commanded {d : Dev} {com : Nat} {targets : List Bytes} {cid : Nat} {tele : Bool} {al : Nat} {a : Action}
    (hq : isQuery com = false) (h : a ∈ newActs d.plugs d.scripts com targets cid tele al) :
    ∀ p ∈ a.commanded d, p ∈ d.plugs ∧ ∃ n, p.node = some n ∧ n ∈ targets := by
  intro p hp
  unfold Action.commanded at hp
  cases ho : a.outerPlugs with
  | some ps => rw [ho] at hp; exact newActs_subset h ho p hp
  | none =>
    rw [ho] at hp
    simp only [Option.getD_none] at hp
    rcases (newActs_all h ho).2 with hall | ⟨hq', _⟩
    · exact ⟨hp, tgt_iff.mp (List.all_eq_true.mp hall p hp)⟩
    · rw [hq] at hq'; cases hq'

theorem newActs_topCtx {plugs : List Plug} {scripts : Nat → Option (List Stmt)} {com : Nat} {targets : List Bytes}
    {cid : Nat} {tele : Bool} {al : Nat} {a : Action} (h : a ∈ newActs plugs scripts com targets cid tele al) :
    (Pm.Dev2.topCtx a).plugs = a.outerPlugs ∧ (Pm.Dev2.topCtx a).processing = false ∧ (Pm.Dev2.topCtx a).pos = 0 ∧
    (Pm.Dev2.topCtx a).block = (scripts a.com).getD [] := by
  unfold Pm.Dev2.topCtx
  rw [(newActs_exec h).1]
  exact ⟨rfl, rfl, rfl, rfl⟩

theorem fresh_singlet_send {d : Dev} {com : Nat} {targets : List Bytes} {cid : Nat} {tele : Bool} {al : Nat} {a : Action}
    (h : a ∈ newActs d.plugs d.scripts com targets cid tele al) {p : Plug} (hp : a.outerPlugs = some [p])
    (d' : Dev) (o : Oracle) (fmt : Bytes) :
    (stmtSend d' a o (Pm.Dev2.topCtx a) fmt).dev.toBuf = clipTo (d'.toBuf ++ hsprintf fmt (some p.name)) ∧
    p ∈ d.plugs ∧ ∃ n, p.node = some n ∧ n ∈ targets := by
  obtain ⟨h1, h2, _, _⟩ := newActs_topCtx h
  refine ⟨?_, newActs_subset h hp p (by simp)⟩
  rw [(stmtSend_singlet d' a o _ fmt p h2 (h1.trans hp)).1]

/-! ### the keyword of a command, and targets that went through `conf_exp_aliases` -/

def kwOf : Com → Bytes
  | .on => kwOn | .off => kwOff | .cycle => kwCycle | .reset => kwReset | .flash => kwFlash | .unflash => kwUnflash
  | .status => kwStatus | .temp => kwTemp | .beacon => kwBeacon

theorem alias_commanded {d : Dev} {com : Nat} {als : List (Name × List Name)} {typed : List Name} {cid : Nat} {tele : Bool}
    {al : Nat} {a : Action} (hq : isQuery com = false)
    (h : a ∈ newActs d.plugs d.scripts com ((expAliases als typed).map ofChars) cid tele al) :
    ∀ p ∈ a.commanded d, p ∈ d.plugs ∧ ∃ m, p.node = some (ofChars m) ∧
      ((m ∈ typed ∧ aliasOf als m = none) ∨ ∃ b ∈ typed, ∃ hs, aliasOf als b = some hs ∧ m ∈ hs) := by
  intro p hp
  obtain ⟨h1, n, hn, hmem⟩ := newActs_commanded hq h p hp
  obtain ⟨m, hm, rfl⟩ := List.mem_map.mp hmem
  exact ⟨h1, m, hn, AliasPf.mem_expAliases.mp hm⟩

theorem alias_subset {d : Dev} {com : Nat} {als : List (Name × List Name)} {typed : List Name} {cid : Nat} {tele : Bool}
    {al : Nat} {a : Action}
    (h : a ∈ newActs d.plugs d.scripts com ((expAliases als typed).map ofChars) cid tele al)
    {ps : List Plug} (hps : a.outerPlugs = some ps) :
    ∀ p ∈ ps, p ∈ d.plugs ∧ ∃ m, p.node = some (ofChars m) ∧
      ((m ∈ typed ∧ aliasOf als m = none) ∨ ∃ b ∈ typed, ∃ hs, aliasOf als b = some hs ∧ m ∈ hs) := by
  intro p hp
  obtain ⟨h1, n, hn, hmem⟩ := newActs_subset h hps p hp
  obtain ⟨m, hm, rfl⟩ := List.mem_map.mp hmem
  exact ⟨h1, m, hn, AliasPf.mem_expAliases.mp hm⟩

/-! ### concrete devices for the non-vacuity examples -/
def exP1 : Plug := ⟨[49], some [110, 49]⟩          -- plug "1" ↦ node "n1"
def exP2 : Plug := ⟨[50], none⟩                    -- plug "2" unused
def exP3 : Plug := ⟨[51], some [110, 51]⟩          -- plug "3" ↦ node "n3"
def exP4 : Plug := ⟨[52], some [110, 52]⟩          -- plug "4" ↦ node "n4"

def exDevWith (plugs : List Plug) (scripts : Nat → Option (List Stmt)) : Dev :=
  { plugs, scripts, timeout := 0, acts := [], toBuf := [], fromBuf := [], xmStr := none, xmOffs := [], xmResult := false,
    xmUsed := false, args := [], nextUid := 0, shortCircuitDelay := false }

/-- `off` (10), `off_ranged` (11) and `off_all` (12) scripts, each one `send` -/
def exScripts : Nat → Option (List Stmt)
  | 10 => some [.send [111, 102, 102, 32, 37, 115, 10]]      -- "off %s\n"
  | 11 => some [.send [111, 102, 102, 32, 37, 115, 10]]
  | 12 => some [.send [111, 102, 102, 32, 42, 10]]           -- "off *\n"
  | _ => none
def exScriptsAllOnly : Nat → Option (List Stmt)
  | 12 => some [.send [111, 102, 102, 32, 42, 10]]
  | _ => none
def exScriptsSinglet : Nat → Option (List Stmt)
  | 10 => some [.send [111, 102, 102, 32, 37, 115, 10]]
  | _ => none

def exDev : Dev := exDevWith [exP1, exP2, exP3, exP4] exScripts
def exDevFull : Dev := exDevWith [exP1, exP3] exScripts

def summary (l : List Action) : List (Nat × Option (List Plug)) := l.map fun a => (a.com, a.outerPlugs)

-- two of three mapped plugs named: one ranged action for exactly those two plugs
example : needsDev exDev [[110, 49], [110, 51]] = true ∧ handles exDev 10 [[110, 49], [110, 51]] = true ∧
    summary (newActs exDev.plugs exDev.scripts 10 [[110, 49], [110, 51]] 5 false 2) = [(11, some [exP1, exP3])] := by decide +kernel
-- one plug named: the singlet script
theorem ex_singlet : summary (newActs exDev.plugs exDev.scripts 10 [[110, 51]] 5 false 2) = [(10, some [exP3])] := by decide +kernel
example : summary (newActs exDev.plugs exDev.scripts 10 [[110, 51]] 5 false 2) = [(10, some [exP3])] := ex_singlet
-- every plug of the device named (and none unused): the `_all` script
example : summary (newActs exDevFull.plugs exDevFull.scripts 10 [[110, 51], [110, 49], [120]] 5 false 2) = [(12, none)] ∧
    exDevFull.plugs.all (tgt [[110, 51], [110, 49], [120]]) = true := by decide +kernel
-- every *mapped* plug named but one plug unused: not `_all`
theorem ex_ranged_mapped : summary (newActs exDev.plugs exDev.scripts 10 [[110, 49], [110, 51], [110, 52]] 5 false 2) = [(11, some [exP1, exP3, exP4])] := by decide +kernel
example : summary (newActs exDev.plugs exDev.scripts 10 [[110, 49], [110, 51], [110, 52]] 5 false 2) = [(11, some [exP1, exP3, exP4])] := ex_ranged_mapped
-- no ranged, no all: one singlet action per named plug, in configuration order
theorem ex_singlets : summary (newActs exDev.plugs exScriptsSinglet 10 [[110, 52], [110, 49]] 5 false 2) = [(10, some [exP1]), (10, some [exP4])] := by decide +kernel
example : summary (newActs exDev.plugs exScriptsSinglet 10 [[110, 52], [110, 49]] 5 false 2) = [(10, some [exP1]), (10, some [exP4])] := ex_singlets
-- nothing named
example : needsDev exDev [[122]] = false ∧ (enqueue exDev 10 [[122]] 5 false 2).2 = 0 := by decide +kernel
-- the F15 shape: only `off_all` exists and part of the device is named.  `implemented` holds, `handles` does not
-- (the request is refused with 213), and indeed nothing would be enqueued
example : needsDev (exDevWith [exP1, exP3] exScriptsAllOnly) [[110, 49]] = true ∧
    implemented (exDevWith [exP1, exP3] exScriptsAllOnly) 10 = true ∧
    handles (exDevWith [exP1, exP3] exScriptsAllOnly) 10 [[110, 49]] = false ∧
    newActs [exP1, exP3] exScriptsAllOnly 10 [[110, 49]] 5 false 2 = [] := by decide +kernel
/-- a daemon with two devices (`exDev` and a one-plug device for node "z9"), nodes n1 n3 n4 configured, one idle client -/
def exW : W :=
  { cfg := { plugs := [], has := [], nodes := ([['n', '1'], ['n', '3'], ['n', '4']] : List Name).foldl pushHost [], version := [] },
    clients := [], devs := [([100], exDev), ([101], exDevWith [⟨[49], some [122, 57]⟩] exScripts)] }
def exC : Cli := { id := 5, fd := 1000 }
/-- the line `off n[1,3]\n` -/
def exLine : Bytes := [111, 102, 102, 32, 110, 91, 49, 44, 51, 93, 10]

-- from the client's line to the queues: one `off_ranged` action for plugs "1","3" on the first device, nothing on the second
theorem exLine_enq : (parseLine exW exC exLine).1.devs.map (fun nd => summary nd.2.acts) = [[(11, some [exP1, exP3])], []] ∧
    ((parseLine exW exC exLine).2.cmd.map fun k => (k.com, k.names, k.pending)) = some (Com.off, [['n', '1'], ['n', '3']], 1) := by decide +kernel
example : (parseLine exW exC exLine).1.devs.map (fun nd => summary nd.2.acts) = [[(11, some [exP1, exP3])], []] ∧
    ((parseLine exW exC exLine).2.cmd.map fun k => (k.com, k.names, k.pending)) = some (Com.off, [['n', '1'], ['n', '3']], 1) := exLine_enq

/-! ### a configuration with aliases

Two devices: `dt` with plugs "0"…"7" ↦ t0…t7, `du` with plugs "0"…"3" ↦ u0…u3; scripts `on`, `on_ranged`, `off`, `off_ranged`,
`status_all`.  Aliases `rackt = t0,t1,t2,t3`, `mix = t7,u1,u2`, `dupl = t1,t1`. -/

def alPlug (pfx : Char) (i : Nat) : Plug := ⟨bstr (toString i), some (ofChars (pfx :: (toString i).toList))⟩
def alScripts : Nat → Option (List Stmt)
  | 7 => some [.send (bstr "on %s\n")] | 8 => some [.send (bstr "on %s\n")]
  | 10 => some [.send (bstr "off %s\n")] | 11 => some [.send (bstr "off %s\n")]
  | 3 => some [.send (bstr "stat\n")]
  | _ => none
def alDevT : Dev := exDevWith ((List.range 8).map (alPlug 't')) alScripts
def alDevU : Dev := exDevWith ((List.range 4).map (alPlug 'u')) alScripts
def alNames : List Name := ((List.range 8).map fun i => 't' :: (toString i).toList) ++ ((List.range 4).map fun i => 'u' :: (toString i).toList)
def alW : W :=
  { cfg := { plugs := [], has := [], nodes := alNames.foldl pushHost [], version := [], aliases := AliasPf.exAls },
    clients := [], devs := [(bstr "dt", alDevT), (bstr "du", alDevU)] }

/-- what a request line does to `alW`: the client's target list as text, the number of actions awaited, and per device the
    appended actions (script slot, names of the plugs listed) -/
def alRun (line : String) : Option (List String × Nat) × List (List (Nat × Option (List String))) :=
  let r := parseLine alW exC (bstr line)
  (r.2.cmd.map fun k => (k.names.map String.ofList, k.pending),
   r.1.devs.map fun nd => nd.2.acts.map fun a => (a.com, a.outerPlugs.map fun ps => ps.map fun p => String.ofList (toChars p.name)))

-- `on rackt,u3`: the alias name is replaced by its four hosts, after the plain name; `on_ranged` for plugs 0-3 of `dt`, `on` for plug 3 of `du`
theorem alRun_on : alRun "on rackt,u3\n" =
    (some (["u3", "t0", "t1", "t2", "t3"], 2), [[(8, some ["0", "1", "2", "3"])], [(7, some ["3"])]]) := by decide +kernel
example : alRun "on rackt,u3\n" =
    (some (["u3", "t0", "t1", "t2", "t3"], 2), [[(8, some ["0", "1", "2", "3"])], [(7, some ["3"])]]) := alRun_on
-- `status mix,mix`: an alias typed twice is expanded twice; part of each device is named and there is no singlet `status`: `status_all`
theorem alRun_status : alRun "status mix,mix\n" =
    (some (["t7", "u1", "u2", "t7", "u1", "u2"], 2), [[(3, none)], [(3, none)]]) := by decide +kernel
example : alRun "status mix,mix\n" =
    (some (["t7", "u1", "u2", "t7", "u1", "u2"], 2), [[(3, none)], [(3, none)]]) := alRun_status
-- `off t2,rackt`: t2 is in the list twice (typed, and as a host of `rackt`); one `off_ranged` action, plug 2 listed once
theorem alRun_off : alRun "off t2,rackt\n" =
    (some (["t2", "t0", "t1", "t2", "t3"], 1), [[(11, some ["0", "1", "2", "3"])], []]) := by decide +kernel
example : alRun "off t2,rackt\n" =
    (some (["t2", "t0", "t1", "t2", "t3"], 1), [[(11, some ["0", "1", "2", "3"])], []]) := alRun_off
-- `off dupl` (`dupl = t1,t1`): duplicates inside an alias are kept; one singlet `off` for plug 1
theorem alRun_dupl : alRun "off dupl\n" = (some (["t1", "t1"], 1), [[(10, some ["1"])], []]) := by decide +kernel
example : alRun "off dupl\n" = (some (["t1", "t1"], 1), [[(10, some ["1"])], []]) := alRun_dupl
-- `on rackt,zz9`: the unknown name is reported (209), nothing is enqueued
theorem alRun_unknown : (parseLine alW exC (bstr "on rackt,zz9\n")).2.toBuf = bstr "209 No such nodes: zz9\r\npowerman> " ∧
    (parseLine alW exC (bstr "on rackt,zz9\n")).1.devs.map (fun nd => nd.2.acts.length) = [0, 0] := by decide +kernel
example : (parseLine alW exC (bstr "on rackt,zz9\n")).2.toBuf = bstr "209 No such nodes: zz9\r\npowerman> " ∧
    (parseLine alW exC (bstr "on rackt,zz9\n")).1.devs.map (fun nd => nd.2.acts.length) = [0, 0] := alRun_unknown

/-! ### a limit of the property: `foreachplug` inside a singlet script

`_process_foreach` iterates the plug list of the *device* for every action that is not of a `_ranged` kind (mirrored by
`stmtForeach`).  A singlet script that contains `foreachplug`/`foreachnode` therefore addresses every plug of the
device although the action was created for one plug.  No shipped device file does this (they use `foreach*` only in
`_all` and `_ranged` scripts) and the configuration parser does not forbid it. -/

def exScriptsForeach : Nat → Option (List Stmt)
  | 10 => some [.foreachplug [.send [111, 102, 102, 32, 37, 115, 10]]]
  | _ => none

/-- the device's output buffer after the first two statements of `a` have run (nothing pending from the device) -/
def twoSteps (d : Dev) (a : Action) : Bytes :=
  let s1 := Pm.Dev2.processStmt d a ⟨[]⟩ 0
  (Pm.Dev2.processStmt s1.dev s1.act s1.oracle 0).dev.toBuf

/-- request `off n3` on a device with plugs "1" ↦ n1, "3" ↦ n3 whose `off` script is `foreachplug { send "off %s\n" }`:
    one singlet action for plug "3" is created, and the first thing it writes is `off 1\n` -/
theorem foreach_in_singlet_counterexample :
    (newActs [exP1, exP3] exScriptsForeach 10 [[110, 51]] 5 false 2).map
        (fun a => (a.com, a.outerPlugs, twoSteps (exDevWith [exP1, exP3] exScriptsForeach) a))
      = [(10, some [exP3], [111, 102, 102, 32, 49, 10])] := by decide +kernel

end Pm.Daemon.Enq
