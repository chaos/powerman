namespace Pm

def ndig (n : Nat) : Nat := (Nat.toDigits 10 n).length

/-- mirrors `_zero_padded(num, width)` in hostlist.c -/
def zeroPadded (n w : Nat) : Nat := if w > ndig n then w - ndig n else 0

/-- mirrors printf("%0*lu", w, n) -/
def fmtNum (w n : Nat) : List Char := List.replicate (zeroPadded n w) '0' ++ Nat.toDigits 10 n

theorem sub_min_self (a s : Nat) : a - min a s = a - s := by
  rcases Nat.le_total a s with h | h
  · rw [Nat.min_eq_left h, Nat.sub_self, Nat.sub_eq_zero_of_le h]
  · rw [Nat.min_eq_right h]

theorem ndig_pos (n : Nat) : 0 < ndig n := Nat.length_toDigits_pos

theorem ndig_mono {n m : Nat} (h : n ≤ m) : ndig n ≤ ndig m := by
  unfold ndig
  have hm : (Nat.toDigits 10 m).length ≤ (Nat.toDigits 10 m).length := Nat.le_refl _
  have hpos : 0 < (Nat.toDigits 10 m).length := Nat.length_toDigits_pos
  rw [Nat.length_toDigits_le_iff (by decide) hpos] at hm ⊢
  omega

/-- mirrors `_width_equiv`: returns adjusted (wn', wm') on success -/
def widthEquiv (n wn m wm : Nat) : Option (Nat × Nat) :=
  let npad := zeroPadded n wn
  let nmpad := zeroPadded n wm
  let mpad := zeroPadded m wm
  let mnpad := zeroPadded m wn
  if npad ≠ nmpad ∧ mpad ≠ mnpad then none
  else if npad ≠ nmpad then
    (if mpad = mnpad then some (wn, wn) else none)
  else
    (if npad = nmpad then some (wm, wm) else none)

theorem zeroPadded_eq (n w : Nat) : zeroPadded n w = w - ndig n := by
  unfold zeroPadded; split <;> omega

theorem fmt_of_pad_eq {lo w w' x : Nat} (hp : zeroPadded lo w = zeroPadded lo w') (hx : lo ≤ x) :
    fmtNum w x = fmtNum w' x := by
  obtain ⟨c, hc⟩ := Nat.exists_eq_add_of_le (ndig_mono hx)
  rw [zeroPadded_eq, zeroPadded_eq] at hp
  unfold fmtNum
  rw [zeroPadded_eq, zeroPadded_eq, hc, ← Nat.sub_sub, ← Nat.sub_sub, hp]

/-- `_width_equiv` without its redundant tests: the first range keeps its padding at the other width, or else the second does -/
theorem widthEquiv_eq (n wn m wm : Nat) : widthEquiv n wn m wm =
    if zeroPadded n wn = zeroPadded n wm then some (wm, wm)
    else if zeroPadded m wm = zeroPadded m wn then some (wn, wn) else none := by
  unfold widthEquiv
  by_cases h1 : zeroPadded n wn = zeroPadded n wm <;> by_cases h2 : zeroPadded m wm = zeroPadded m wn <;> simp [h1, h2]

/-- soundness of `_width_equiv` for whole ranges: after a successful call both ranges
    print every element exactly as before. -/
theorem widthEquiv_sound {n wn m wm wn' wm' : Nat} (h : widthEquiv n wn m wm = some (wn', wm')) :
    wn' = wm' ∧ (∀ x, n ≤ x → fmtNum wn' x = fmtNum wn x) ∧ (∀ y, m ≤ y → fmtNum wm' y = fmtNum wm y) := by
  rw [widthEquiv_eq] at h
  split at h
  · rename_i h1
    cases h
    exact ⟨rfl, fun x hx => fmt_of_pad_eq h1.symm hx, fun _ _ => rfl⟩
  · split at h
    · rename_i h2
      cases h
      exact ⟨rfl, fun _ _ => rfl, fun y hy => fmt_of_pad_eq h2.symm hy⟩
    · cases h

end Pm
