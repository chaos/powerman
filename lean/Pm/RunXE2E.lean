import Pm.RunX
import Pm.EndToEnd
/-! # The end-to-end run theorems: any number of passes

`Pm/EndToEnd.lean` has the per-pass lemmas and the vocabulary of runs (`Alive`, `runFins`): the per-pass lemmas (`daemonPass_inv`, `daemonPass_view`, `daemonPass_over`, …) hold for
an arbitrary world, regex answers pending or not, and the invariant `Inv` does not mention `pendingX` (`feed_inv`).  Here they
are chained over `runX`, where every pass brings its own regex answers.

The statements over `Isolation.runPasses`, the plain fold of `daemonPass` (a run in which only the *first* pass can see a regex
answer, see `Pm/RunX.lean`), are the special case `qs := ps.map PassX.plain`. -/
namespace Pm.Daemon.E2E
open Pm Pm.Client Pm.Daemon
open Pm.Daemon.Reply (okLine errLine isPower)
open Pm.Dev2 (Dev ActErr RxCall)

theorem feed_inv {w : W} (rx : List RxCall) (h : Inv w) : Inv (feed w rx) := h.withX _

theorem feed_cliRec (w : W) (rx : List RxCall) (g : Nat) : cliRec (feed w rx) g = cliRec w g := rfl

/-- the completions a run reports for client `g`, in order -/
def runFinsX : W → List PassX → Nat → List (Bytes × ActErr)
  | _, [], _ => []
  | w, q :: qs, g => passFins (feed w q.rx) q.p g ++ runFinsX (stepX w q) qs g

/-- no pass of the run ends in a modelled assertion -/
def AliveX : W → List PassX → Prop
  | _, [] => True
  | w, q :: qs => passDead (feed w q.rx) q.p = false ∧ AliveX (stepX w q) qs

instance AliveX.decidable : ∀ (w : W) (qs : List PassX), Decidable (AliveX w qs)
  | _, [] => isTrue trivial
  | w, q :: qs => @instDecidableAnd _ _ _ (AliveX.decidable (stepX w q) qs)

theorem runFinsX_append (w : W) (qs rs : List PassX) (g : Nat) :
    runFinsX w (qs ++ rs) g = runFinsX w qs g ++ runFinsX (runX w qs) rs g := by
  induction qs generalizing w with
  | nil => rfl
  | cons q qs ih => rw [List.cons_append, runFinsX, runFinsX, ih, runX_cons, List.append_assoc]

theorem AliveX.append {w : W} {qs rs : List PassX} (h : AliveX w (qs ++ rs)) : AliveX w qs ∧ AliveX (runX w qs) rs := by
  induction qs generalizing w with
  | nil => exact ⟨trivial, h⟩
  | cons q qs ih =>
    obtain ⟨h1, h2⟩ := h
    obtain ⟨i1, i2⟩ := ih h2
    exact ⟨⟨h1, i1⟩, i2⟩

theorem AliveX.of_append {w : W} {qs rs : List PassX} (h1 : AliveX w qs) (h2 : AliveX (runX w qs) rs) : AliveX w (qs ++ rs) := by
  induction qs generalizing w with
  | nil => exact h2
  | cons q qs ih => exact ⟨h1.1, ih h1.2 h2⟩

theorem runFinsX_plain (w : W) (ps : List PassIn) (g : Nat) : runFinsX w (ps.map PassX.plain) g = runFins w ps g := by
  induction ps generalizing w with
  | nil => rfl
  | cons p r ih =>
    rw [List.map_cons, runFinsX, runFins, stepX_plain, ih]
    show passFins (feed w []) p g ++ _ = _
    rw [feed_nil]

theorem aliveX_plain (w : W) (ps : List PassIn) : AliveX w (ps.map PassX.plain) ↔ Alive w ps := by
  induction ps generalizing w with
  | nil => exact Iff.rfl
  | cons p r ih =>
    rw [List.map_cons]
    show (passDead (feed w []) p = false ∧ AliveX (stepX w (.plain p)) _) ↔ (passDead w p = false ∧ Alive (daemonPass w p).1 r)
    rw [feed_nil, stepX_plain, ih]

theorem stepX_inv (w : W) (q : PassX) (h : Inv w) (hd : passDead (feed w q.rx) q.p = false) : Inv (stepX w q) :=
  daemonPass_inv _ _ (feed_inv q.rx h) hd

/-- **what every pass keeps under the invariant is kept, with the invariant, by a run none of whose passes ends in an assertion** -/
theorem runX_alive_of (P : W → Prop) (hstep : ∀ w q, Inv w → P w → P (stepX w q)) :
    ∀ (qs : List PassX) (w : W), Inv w → AliveX w qs → P w → Inv (runX w qs) ∧ P (runX w qs) := by
  intro qs
  induction qs with
  | nil => exact fun _ h _ hp => ⟨h, hp⟩
  | cons q qs ih => exact fun w h ha hp => ih _ (stepX_inv w q h ha.1) ha.2 (hstep w q h hp)

/-- **the invariant over a run, whatever the regex engine answers in every pass** -/
theorem runX_inv (w : W) (qs : List PassX) (h : Inv w) (ha : AliveX w qs) : Inv (runX w qs) :=
  (runX_alive_of (fun _ => True) (fun _ _ _ _ => trivial) qs w h ha trivial).1

theorem stepX_alNext (w : W) (q : PassX) (h : Inv w) : w.alNext ≤ (stepX w q).alNext :=
  daemonPass_alNext (feed w q.rx) q.p (feed_inv q.rx h)

theorem runX_alNext (w : W) (qs : List PassX) (h : Inv w) (ha : AliveX w qs) : w.alNext ≤ (runX w qs).alNext :=
  (runX_alive_of (fun u => w.alNext ≤ u.alNext) (fun u q hu hp => Nat.le_trans hp (stepX_alNext u q hu)) qs w h ha (Nat.le_refl _)).2

theorem stepX_over (g A : Nat) (w : W) (q : PassX) (hinv : Inv w) (h : Over g A w) : Over g A (stepX w q) :=
  daemonPass_over g A (feed w q.rx) q.p (feed_inv q.rx hinv) h

theorem runX_over (g A : Nat) (w : W) (qs : List PassX) (h : Inv w) (ha : AliveX w qs) (ho : Over g A w) : Over g A (runX w qs) :=
  (runX_alive_of (Over g A) (stepX_over g A) qs w h ha ho).2

/-- **tracking a command over a run.**  Client `g` has command `k` at the start; if after the run it still has a command with
    the same arglist id, that command is `k` with `pending` lowered by the number of completions the run reported for `g` —
    fewer than `pending` — and the error flag or-ed with "one of them failed". -/
theorem run_trackX (g : Nat) : ∀ (qs : List PassX) (w : W) (c : Cli) (k : CmdC), Inv w → AliveX w qs →
    cliRec w g = some c → c.cmd = some k →
    ∀ c' k', cliRec (runX w qs) g = some c' → c'.cmd = some k' → k'.al = k.al →
      (runFinsX w qs g).length < k.pending ∧
      k' = { k with error := k.error || (runFinsX w qs g).any failed, pending := k.pending - (runFinsX w qs g).length } := by
  intro qs
  induction qs with
  | nil =>
    intro w c k hinv _ hc hk c' k' hc' hk' _
    have : cliRec (runX w []) g = cliRec w g := rfl
    rw [this, hc] at hc'; cases hc'
    rw [hk] at hk'; cases hk'
    exact ⟨hinv.link.pos g c k hc hk, by cases k; simp [runFinsX]⟩
  | cons q qs ih =>
    intro w c k hinv ha hc hk c' k' hc' hk' hal
    obtain ⟨ha1, ha2⟩ := ha
    have hinv' := stepX_inv w q hinv ha1
    rw [runX_cons] at hc'
    have hA : k.al < (stepX w q).alNext := Nat.lt_of_lt_of_le (hinv.scope.cmds g c k hc hk) (stepX_alNext w q hinv)
    have hover : cliRec (stepX w q) g = none ∨ (∃ c2, cliRec (stepX w q) g = some c2 ∧ c2.cmd = none) → False := by
      intro hgone
      have ho : Over g k.al (stepX w q) := by
        refine ⟨hA, ?_⟩
        intro c2 k2 h1 h2
        rcases hgone with hn | ⟨c3, h3, h4⟩
        · rw [hn] at h1; cases h1
        · rw [h3] at h1; cases h1; rw [h4] at h2; cases h2
      exact (runX_over g k.al _ qs hinv' ha2 ho).2 c' k' hc' hk' hal
    rcases daemonPass_view (feed w q.rx) q.p g c k (feed_inv q.rx hinv) ha1 hc hk with ⟨_, hn⟩ | ⟨c1, _, _, ⟨hlt, hrec⟩ | ⟨_, r, _, hrec⟩⟩
    · exact absurd (Or.inl hn) hover
    · obtain ⟨i1, i2⟩ := ih _ _ _ hinv' ha2 hrec rfl c' k' hc' hk' hal
      simp only at i1 i2
      refine ⟨by rw [runFinsX, List.length_append]; omega, ?_⟩
      rw [i2, runFinsX]
      simp only [List.any_append, List.length_append, Bool.or_assoc, Nat.sub_sub]
    · exact absurd (Or.inr ⟨_, hrec, rfl⟩) hover

/-- **the pass that answers the command.**  Client `g` has command `k0` at the start of a run none
    of whose passes ends in an assertion; before the last pass `q` the command (identified by its arglist id) is still in
    progress, after it the client is there and idle.  Then the run reported exactly `k0.pending` completions for `g`, and in
    pass `q` the client — `c1` is its record when the client phase of `q` is over — was sent the lines of that pass, then
    the terminal reply `r` computed from `k0`'s targets, the flag `k0.error ∨ some completion of the run failed` and the
    arglist as it stands after the pass, then the prompt, and nothing else. -/
theorem run_answerX (w0 : W) (qs : List PassX) (q : PassX) (g : Nat) (c0 : Cli) (k0 : CmdC) (c' : Cli)
    (hinv : Inv w0) (ha : AliveX w0 (qs ++ [q])) (hc0 : cliRec w0 g = some c0) (hk0 : c0.cmd = some k0)
    (hbusy : ∃ c k, cliRec (runX w0 qs) g = some c ∧ c.cmd = some k ∧ k.al = k0.al)
    (hidle : cliRec (runX w0 (qs ++ [q])) g = some c') (hnone : c'.cmd = none) :
    (runFinsX w0 (qs ++ [q]) g).length = k0.pending ∧
    ∃ c1 r, cliRec (cliPostPoll (feed (runX w0 qs) q.rx) q.p.acc q.p.envs) g = some c1 ∧
      finalReply c1.exprange { k0 with error := k0.error || (runFinsX w0 (qs ++ [q]) g).any failed,
                                       args := (storeArgs (runX w0 (qs ++ [q])) k0.al).map argC } = some r ∧
      c'.toBuf = c1.toBuf ++ passText (feed (runX w0 qs) q.rx) q.p g ++ r ++ prompt := by
  obtain ⟨ha1, ha2⟩ := ha.append
  obtain ⟨c, k, hc, hk, hal⟩ := hbusy
  obtain ⟨t1, t2⟩ := run_trackX g qs w0 c0 k0 hinv ha1 hc0 hk0 c k hc hk hal
  have hinv1 := runX_inv w0 qs hinv ha1
  have hlast : runX w0 (qs ++ [q]) = (daemonPass (feed (runX w0 qs) q.rx) q.p).1 := by rw [runX_append]; rfl
  rw [hlast] at hidle ⊢
  have hF : runFinsX w0 (qs ++ [q]) g = runFinsX w0 qs g ++ passFins (feed (runX w0 qs) q.rx) q.p g := by
    rw [runFinsX_append]; simp [runFinsX]
  rcases daemonPass_view (feed (runX w0 qs) q.rx) q.p g c k (feed_inv q.rx hinv1) ha2.1 hc hk with
    ⟨_, hn⟩ | ⟨c1, h1, _, ⟨_, hrec⟩ | ⟨hn, r, hr, hrec⟩⟩
  · rw [hn] at hidle; cases hidle
  · rw [hrec] at hidle; cases hidle; cases hnone
  · rw [hrec] at hidle
    simp only [Option.some.injEq] at hidle
    subst hidle
    rw [t2] at hn hr
    simp only at hn hr
    refine ⟨by rw [hF, List.length_append]; omega, c1, r, h1, ?_, rfl⟩
    rw [← hr]
    apply Reply.finalReply_congr <;> simp only [hF, List.any_append, Bool.or_assoc]

/-- **what can become of a command over a run**: it is still in progress at the end; or there is
    a pass `q` of the run before which it is in progress and after which the client is gone (destroyed: the completions of
    its actions are dropped) or idle (answered: `run_answerX` says with what) -/
theorem run_outcomeX (g : Nat) : ∀ (qs : List PassX) (w : W) (c : Cli) (k : CmdC), Inv w → AliveX w qs →
    cliRec w g = some c → c.cmd = some k →
    (∃ c' k', cliRec (runX w qs) g = some c' ∧ c'.cmd = some k' ∧ k'.al = k.al) ∨
    (∃ qs1 q qs2, qs = qs1 ++ q :: qs2 ∧
      (∃ c1 k1, cliRec (runX w qs1) g = some c1 ∧ c1.cmd = some k1 ∧ k1.al = k.al) ∧
      (cliRec (runX w (qs1 ++ [q])) g = none ∨ ∃ c2, cliRec (runX w (qs1 ++ [q])) g = some c2 ∧ c2.cmd = none)) := by
  intro qs
  induction qs with
  | nil => intro w c k _ _ hc hk; exact Or.inl ⟨c, k, hc, hk, rfl⟩
  | cons q qs ih =>
    intro w c k hinv ha hc hk
    obtain ⟨ha1, ha2⟩ := ha
    have hhere : ∃ c1 k1, cliRec (runX w []) g = some c1 ∧ c1.cmd = some k1 ∧ k1.al = k.al := ⟨c, k, hc, hk, rfl⟩
    rcases daemonPass_view (feed w q.rx) q.p g c k (feed_inv q.rx hinv) ha1 hc hk with ⟨_, hn⟩ | ⟨c1, _, _, ⟨_, hrec⟩ | ⟨_, r, _, hrec⟩⟩
    · exact Or.inr ⟨[], q, qs, rfl, hhere, Or.inl hn⟩
    · rcases ih _ _ _ (stepX_inv w q hinv ha1) ha2 hrec rfl with h | ⟨qs1, q', qs2, e, ⟨c2, k2, h1, h2, h3⟩, h4⟩
      · exact Or.inl h
      · exact Or.inr ⟨q :: qs1, q', qs2, by rw [e]; rfl, ⟨c2, k2, h1, h2, h3⟩, h4⟩
    · exact Or.inr ⟨[], q, qs, rfl, hhere, Or.inr ⟨_, hrec, rfl⟩⟩

/-- **soundness, regex answers arbitrary in every pass.**  (Hypotheses as in `run_answerX`; the command is a power command.)
    If the client's output buffer ends with `102 Command completed successfully` and the prompt after the answering pass,
    then: the error flag was clear at the start; the run reported exactly `pending` completions for the client — as many as
    it had actions queued at the start —; every one of them is a success; and no result cell of a target is `unknown` in
    the arglist as it stands after the pass. -/
theorem soundX (w0 : W) (qs : List PassX) (q : PassX) (g : Nat) (c0 : Cli) (k0 : CmdC) (c' : Cli)
    (hinv : Inv w0) (ha : AliveX w0 (qs ++ [q])) (hc0 : cliRec w0 g = some c0) (hk0 : c0.cmd = some k0)
    (hp : isPower k0.com = true)
    (hbusy : ∃ c k, cliRec (runX w0 qs) g = some c ∧ c.cmd = some k ∧ k.al = k0.al)
    (hidle : cliRec (runX w0 (qs ++ [q])) g = some c') (hnone : c'.cmd = none)
    (h102 : okLine ++ prompt <:+ c'.toBuf) :
    k0.error = false ∧ (runFinsX w0 (qs ++ [q]) g).length = k0.pending ∧ k0.pending = totalQ g w0.devs ∧
    (∀ x ∈ runFinsX w0 (qs ++ [q]) g, x.2 = .success) ∧ ResultsOk (runX w0 (qs ++ [q])) k0 := by
  obtain ⟨hlen, c1, r, _, hr, hbuf⟩ := run_answerX w0 qs q g c0 k0 c' hinv ha hc0 hk0 hbusy hidle hnone
  obtain ⟨hiff, helse⟩ := power_reply c1.exprange k0 _ _ r hp hr
  have hrok : r = okLine := by
    apply Classical.byContradiction
    intro hne
    rw [hbuf, helse hne] at h102
    exact not_ok_suffix_err _ h102
  obtain ⟨e1, e2, e3⟩ := hiff.mp hrok
  have hcnt : pendingOf c0 = totalQ g w0.devs := hinv.link.count g c0 hc0
  unfold pendingOf at hcnt
  rw [hk0] at hcnt
  exact ⟨e1, hlen, hcnt, e2, e3⟩

/-- **completeness, regex answers arbitrary in every pass.**  (Hypotheses as in `run_answerX`; a power command.)  If the error
    flag was clear at the start, every completion the run reported for the client is a success, and no result cell of a
    target is `unknown` after the pass, the client was sent — after the lines of that pass — `102 Command completed
    successfully` and the prompt. -/
theorem completeX (w0 : W) (qs : List PassX) (q : PassX) (g : Nat) (c0 : Cli) (k0 : CmdC) (c' : Cli)
    (hinv : Inv w0) (ha : AliveX w0 (qs ++ [q])) (hc0 : cliRec w0 g = some c0) (hk0 : c0.cmd = some k0)
    (hp : isPower k0.com = true)
    (hbusy : ∃ c k, cliRec (runX w0 qs) g = some c ∧ c.cmd = some k ∧ k.al = k0.al)
    (hidle : cliRec (runX w0 (qs ++ [q])) g = some c') (hnone : c'.cmd = none)
    (herr : k0.error = false) (hall : ∀ x ∈ runFinsX w0 (qs ++ [q]) g, x.2 = .success)
    (hres : ResultsOk (runX w0 (qs ++ [q])) k0) :
    ∃ c1, cliRec (cliPostPoll (feed (runX w0 qs) q.rx) q.p.acc q.p.envs) g = some c1 ∧
      c'.toBuf = c1.toBuf ++ passText (feed (runX w0 qs) q.rx) q.p g ++ okLine ++ prompt := by
  obtain ⟨_, c1, r, h1, hr, hbuf⟩ := run_answerX w0 qs q g c0 k0 c' hinv ha hc0 hk0 hbusy hidle hnone
  obtain ⟨hiff, _⟩ := power_reply c1.exprange k0 _ _ r hp hr
  have hrok : r = okLine := hiff.mpr ⟨herr, hall, hres⟩
  exact ⟨c1, h1, by rw [hbuf, hrok]⟩

/-- **errors, regex answers arbitrary in every pass.**  (Hypotheses as in `run_answerX`; a power command.)  If the error flag
    was set at the start, or some completion the run reported for the client is a failure, or some result cell of a target
    is `unknown` after the pass, the client was sent — after the lines of that pass — `210 Command completed with errors` and
    the prompt; and every failed completion of that pass has its line `308 <device>: <reason>` among those lines. -/
theorem errorsX (w0 : W) (qs : List PassX) (q : PassX) (g : Nat) (c0 : Cli) (k0 : CmdC) (c' : Cli)
    (hinv : Inv w0) (ha : AliveX w0 (qs ++ [q])) (hc0 : cliRec w0 g = some c0) (hk0 : c0.cmd = some k0)
    (hp : isPower k0.com = true)
    (hbusy : ∃ c k, cliRec (runX w0 qs) g = some c ∧ c.cmd = some k ∧ k.al = k0.al)
    (hidle : cliRec (runX w0 (qs ++ [q])) g = some c') (hnone : c'.cmd = none)
    (hbad : k0.error = true ∨ (∃ x ∈ runFinsX w0 (qs ++ [q]) g, x.2 ≠ .success) ∨ ¬ ResultsOk (runX w0 (qs ++ [q])) k0) :
    (∃ c1, cliRec (cliPostPoll (feed (runX w0 qs) q.rx) q.p.acc q.p.envs) g = some c1 ∧
      c'.toBuf = c1.toBuf ++ passText (feed (runX w0 qs) q.rx) q.p g ++ errLine ++ prompt) ∧
    ∀ x ∈ passFins (feed (runX w0 qs) q.rx) q.p g, x.2 ≠ .success →
      ∃ u v reason, passText (feed (runX w0 qs) q.rx) q.p g = u ++ (bstr "308 " ++ (x.1 ++ reason) ++ crlf) ++ v := by
  obtain ⟨_, c1, r, h1, hr, hbuf⟩ := run_answerX w0 qs q g c0 k0 c' hinv ha hc0 hk0 hbusy hidle hnone
  obtain ⟨hiff, helse⟩ := power_reply c1.exprange k0 _ _ r hp hr
  have hrne : r ≠ okLine := by
    intro hrok
    obtain ⟨e1, e2, e3⟩ := hiff.mp hrok
    rcases hbad with h | ⟨x, hx, hf⟩ | h
    · rw [e1] at h; cases h
    · exact hf (e2 x hx)
    · exact h e3
  exact ⟨⟨c1, h1, by rw [hbuf, helse hrne]⟩, fun x hx hf => passText_failure _ q.p g x hx hf⟩

/-! ### runs of `Isolation.runPasses`: the case `qs := ps.map PassX.plain`

In such a run only the first pass can see a regex answer; every statement below is the one above it for `runX`, read through
`runX_runPasses`, `runFinsX_plain` and `aliveX_plain`. -/

open Pm.Daemon.Isolation (runPasses)

theorem plain_snoc (ps : List PassIn) (p : PassIn) : (ps ++ [p]).map PassX.plain = ps.map PassX.plain ++ [PassX.plain p] := by
  rw [List.map_append]; rfl

theorem runPasses_inv (w : W) (ps : List PassIn) (h : Inv w) (ha : Alive w ps) : Inv (runPasses w ps) := by
  rw [← runX_runPasses]; exact runX_inv w _ h ((aliveX_plain w ps).mpr ha)

theorem run_track (g : Nat) : ∀ (ps : List PassIn) (w : W) (c : Cli) (k : CmdC), Inv w → Alive w ps →
    cliRec w g = some c → c.cmd = some k →
    ∀ c' k', cliRec (runPasses w ps) g = some c' → c'.cmd = some k' → k'.al = k.al →
      (runFins w ps g).length < k.pending ∧
      k' = { k with error := k.error || (runFins w ps g).any failed, pending := k.pending - (runFins w ps g).length } := by
  intro ps w c k hinv ha hc hk c' k' hc' hk' hal
  rw [← runX_runPasses] at hc'
  have := run_trackX g _ w c k hinv ((aliveX_plain w ps).mpr ha) hc hk c' k' hc' hk' hal
  rwa [runFinsX_plain] at this

theorem run_outcome (g : Nat) : ∀ (ps : List PassIn) (w : W) (c : Cli) (k : CmdC), Inv w → Alive w ps →
    cliRec w g = some c → c.cmd = some k →
    (∃ c' k', cliRec (runPasses w ps) g = some c' ∧ c'.cmd = some k' ∧ k'.al = k.al) ∨
    (∃ ps1 p ps2, ps = ps1 ++ p :: ps2 ∧
      (∃ c1 k1, cliRec (runPasses w ps1) g = some c1 ∧ c1.cmd = some k1 ∧ k1.al = k.al) ∧
      (cliRec (runPasses w (ps1 ++ [p])) g = none ∨ ∃ c2, cliRec (runPasses w (ps1 ++ [p])) g = some c2 ∧ c2.cmd = none)) := by
  intro ps w c k hinv ha hc hk
  rcases run_outcomeX g _ w c k hinv ((aliveX_plain w ps).mpr ha) hc hk with h | ⟨qs1, q, qs2, e, h1, h2⟩
  · rw [runX_runPasses] at h; exact Or.inl h
  · obtain ⟨ps1, r, e1, rfl, e2⟩ := List.map_eq_append_iff.mp e
    obtain ⟨p, ps2, rfl, rfl, rfl⟩ := List.map_eq_cons_iff.mp e2
    rw [runX_runPasses] at h1
    rw [← plain_snoc, runX_runPasses] at h2
    exact Or.inr ⟨ps1, p, ps2, e1, h1, h2⟩

theorem sound (w0 : W) (ps : List PassIn) (p : PassIn) (g : Nat) (c0 : Cli) (k0 : CmdC) (c' : Cli)
    (hinv : Inv w0) (ha : Alive w0 (ps ++ [p])) (hc0 : cliRec w0 g = some c0) (hk0 : c0.cmd = some k0)
    (hp : isPower k0.com = true)
    (hbusy : ∃ c k, cliRec (runPasses w0 ps) g = some c ∧ c.cmd = some k ∧ k.al = k0.al)
    (hidle : cliRec (runPasses w0 (ps ++ [p])) g = some c') (hnone : c'.cmd = none)
    (h102 : okLine ++ prompt <:+ c'.toBuf) :
    k0.error = false ∧ (runFins w0 (ps ++ [p]) g).length = k0.pending ∧ k0.pending = totalQ g w0.devs ∧
    (∀ x ∈ runFins w0 (ps ++ [p]) g, x.2 = .success) ∧ ResultsOk (runPasses w0 (ps ++ [p])) k0 := by
  rw [← runX_runPasses] at hbusy hidle
  rw [← aliveX_plain] at ha
  rw [plain_snoc] at ha hidle
  have := soundX w0 _ (.plain p) g c0 k0 c' hinv ha hc0 hk0 hp hbusy hidle hnone h102
  rwa [← plain_snoc, runFinsX_plain, runX_runPasses] at this

theorem complete (w0 : W) (ps : List PassIn) (p : PassIn) (g : Nat) (c0 : Cli) (k0 : CmdC) (c' : Cli)
    (hinv : Inv w0) (ha : Alive w0 (ps ++ [p])) (hc0 : cliRec w0 g = some c0) (hk0 : c0.cmd = some k0)
    (hp : isPower k0.com = true)
    (hbusy : ∃ c k, cliRec (runPasses w0 ps) g = some c ∧ c.cmd = some k ∧ k.al = k0.al)
    (hidle : cliRec (runPasses w0 (ps ++ [p])) g = some c') (hnone : c'.cmd = none)
    (herr : k0.error = false) (hall : ∀ x ∈ runFins w0 (ps ++ [p]) g, x.2 = .success)
    (hres : ResultsOk (runPasses w0 (ps ++ [p])) k0) :
    ∃ c1, cliRec (cliPostPoll (runPasses w0 ps) p.acc p.envs) g = some c1 ∧
      c'.toBuf = c1.toBuf ++ passText (runPasses w0 ps) p g ++ okLine ++ prompt := by
  rw [← runX_runPasses] at hbusy hidle hres
  rw [← aliveX_plain] at ha
  rw [← runFinsX_plain] at hall
  rw [plain_snoc] at ha hidle hall hres
  have := completeX w0 _ (.plain p) g c0 k0 c' hinv ha hc0 hk0 hp hbusy hidle hnone herr hall hres
  rw [runX_runPasses] at this
  have e : feed (runPasses w0 ps) (PassX.plain p).rx = runPasses w0 ps := feed_nil _
  rw [e] at this
  exact this

theorem errors (w0 : W) (ps : List PassIn) (p : PassIn) (g : Nat) (c0 : Cli) (k0 : CmdC) (c' : Cli)
    (hinv : Inv w0) (ha : Alive w0 (ps ++ [p])) (hc0 : cliRec w0 g = some c0) (hk0 : c0.cmd = some k0)
    (hp : isPower k0.com = true)
    (hbusy : ∃ c k, cliRec (runPasses w0 ps) g = some c ∧ c.cmd = some k ∧ k.al = k0.al)
    (hidle : cliRec (runPasses w0 (ps ++ [p])) g = some c') (hnone : c'.cmd = none)
    (hbad : k0.error = true ∨ (∃ x ∈ runFins w0 (ps ++ [p]) g, x.2 ≠ .success) ∨ ¬ ResultsOk (runPasses w0 (ps ++ [p])) k0) :
    (∃ c1, cliRec (cliPostPoll (runPasses w0 ps) p.acc p.envs) g = some c1 ∧
      c'.toBuf = c1.toBuf ++ passText (runPasses w0 ps) p g ++ errLine ++ prompt) ∧
    ∀ x ∈ passFins (runPasses w0 ps) p g, x.2 ≠ .success →
      ∃ u v reason, passText (runPasses w0 ps) p g = u ++ (bstr "308 " ++ (x.1 ++ reason) ++ crlf) ++ v := by
  rw [← runX_runPasses] at hbusy hidle hbad
  rw [← aliveX_plain] at ha
  rw [← runFinsX_plain] at hbad
  rw [plain_snoc] at ha hidle hbad
  have := errorsX w0 _ (.plain p) g c0 k0 c' hinv ha hc0 hk0 hp hbusy hidle hnone hbad
  rw [runX_runPasses] at this
  have e : feed (runPasses w0 ps) (PassX.plain p).rx = runPasses w0 ps := feed_nil _
  rw [e] at this
  exact this

end Pm.Daemon.E2E

section AxiomChecks
open Pm.Daemon.E2E
/-- info: 'Pm.Daemon.E2E.soundX' depends on axioms: [propext, Classical.choice, Quot.sound] -/
#guard_msgs in #print axioms soundX
/-- info: 'Pm.Daemon.E2E.completeX' depends on axioms: [propext, Classical.choice, Quot.sound] -/
#guard_msgs in #print axioms completeX
/-- info: 'Pm.Daemon.E2E.errorsX' depends on axioms: [propext, Classical.choice, Quot.sound] -/
#guard_msgs in #print axioms errorsX
/-- info: 'Pm.Daemon.E2E.run_outcomeX' depends on axioms: [propext, Classical.choice, Quot.sound] -/
#guard_msgs in #print axioms run_outcomeX
/-- info: 'Pm.Daemon.E2E.run_trackX' depends on axioms: [propext, Classical.choice, Quot.sound] -/
#guard_msgs in #print axioms run_trackX
/-- info: 'Pm.Daemon.E2E.run_answerX' depends on axioms: [propext, Classical.choice, Quot.sound] -/
#guard_msgs in #print axioms run_answerX
/-- info: 'Pm.Daemon.E2E.runX_inv' depends on axioms: [propext, Classical.choice, Quot.sound] -/
#guard_msgs in #print axioms runX_inv
/-- info: 'Pm.Daemon.E2E.sound' depends on axioms: [propext, Classical.choice, Quot.sound] -/
#guard_msgs in #print axioms sound
/-- info: 'Pm.Daemon.E2E.complete' depends on axioms: [propext, Classical.choice, Quot.sound] -/
#guard_msgs in #print axioms complete
/-- info: 'Pm.Daemon.E2E.errors' depends on axioms: [propext, Classical.choice, Quot.sound] -/
#guard_msgs in #print axioms errors
/-- info: 'Pm.Daemon.E2E.run_outcome' depends on axioms: [propext, Classical.choice, Quot.sound] -/
#guard_msgs in #print axioms run_outcome
/-- info: 'Pm.Daemon.E2E.run_track' depends on axioms: [propext, Classical.choice, Quot.sound] -/
#guard_msgs in #print axioms run_track
end AxiomChecks
