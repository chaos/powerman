import Pm.LsdListBase
/-! # `list_node_create` and `list_node_destroy` on a represented list

`nodeCreate_spec` / `nodeDestroy_spec`: what the two node functions of `list.c` do to `Rep` (`Pm/LsdListBase.lean`): the
allocation from the free list (refilled in chunks), the pointer updates, `tail`, `count`, and the iterator loop with its
assertion — which holds for every iterator, so the functions never return `none`. -/
namespace Pm.LsdList
variable {α : Type}

theorem Chain.congr {l l' : LList α} {ns : List Nat} {items : List α} (h : Chain l ns items) (hc : l'.cells = l.cells)
    (hh : l'.head = l.head) : Chain l' ns items :=
  ⟨h.len, by rw [hh]; exact h.head, by rw [hc]; exact h.cell, h.inj⟩

theorem fixIters_eq (l : LList α) (fix : Iter → Iter) (its : List (Nat × Iter))
    (h : ∀ ki ∈ its, iterAssert l (fix ki.2) = true) :
    fixIters l fix its = some (its.map (fun ki => (ki.1, fix ki.2))) := by
  induction its with
  | nil => rfl
  | cons ki rest ih =>
    obtain ⟨k, i⟩ := ki
    have h1 := h (k, i) (by simp)
    simp only [] at h1
    simp [fixIters, h1, ih (fun ki hk => h ki (by simp [hk]))]

theorem range_map_nodup (n m : Nat) : ((List.range m).map (fun k => n + 1 + k)).Nodup := by
  have : (List.range m).map (fun k => n + 1 + k) = List.range' (n + 1) m := by
    rw [List.range'_eq_map_range]
  rw [this]; exact List.nodup_range'

theorem nodeAlloc_spec {l : LList α} {ns : List Nat} {items : List α} (h : Rep l ns items) :
    Rep (nodeAlloc l).2 ns items ∧ (∀ (k : Nat), ns[k]? ≠ some (nodeAlloc l).1) ∧
    (nodeAlloc l).1 < (nodeAlloc l).2.cells.size ∧ (nodeAlloc l).1 ∉ (nodeAlloc l).2.free ∧
    (nodeAlloc l).2.iters = l.iters ∧ (nodeAlloc l).2.fdel = l.fdel := by
  unfold nodeAlloc
  split
  · rename_i p rest hfree
    have hn := h.freeNodup
    have ho := h.freeOk
    rw [hfree] at hn ho
    have hn' := List.nodup_cons.mp hn
    refine ⟨⟨⟨h.len, h.head, h.cell, h.inj⟩, h.count, h.tail, hn'.2, ?_, h.keys, h.place⟩, ?_, ?_, hn'.1, rfl, rfl⟩
    · intro q hq; exact ho q (by simp [hq])
    · exact (ho p (by simp)).2
    · exact (ho p (by simp)).1
  · rename_i hfree
    have hlt : ∀ (k n : Nat), ns[k]? = some n → n < l.cells.size := fun k n hn => h.toChain.lt_size k n hn
    refine ⟨⟨⟨h.len, h.head, ?_, h.inj⟩, h.count, h.tail, range_map_nodup _ _, ?_, h.keys, h.place⟩, ?_, ?_, ?_, rfl, rfl⟩
    · intro k n hn
      simp only [Array.getElem?_append, hlt k n hn, if_true]
      exact h.cell k n hn
    · intro q hq
      simp only [List.mem_map, List.mem_range] at hq
      obtain ⟨a, ha, rfl⟩ := hq
      refine ⟨by simp [listAlloc] at ha ⊢; omega, ?_⟩
      intro k hk
      have := hlt k _ hk; omega
    · intro k hk
      have := hlt k _ hk
      simp only [] at this; omega
    · simp [listAlloc]
    · simp only [List.mem_map, List.mem_range]
      rintro ⟨a, _, ha⟩; omega

/-- `list_node_create` after the allocation of the node `p` -/
def nodeCreateAt (l1 : LList α) (p : Nat) (pp : Ref) (x : α) : Option (LList α) :=
  match load l1 pp with
  | none => none
  | some pnext =>
    let l2 := { l1 with cells := l1.cells.setIfInBounds p { data := some x, next := pnext } }
    let l3 := if pnext.isNone then { l2 with tail := .next p } else l2
    match store l3 pp (some p) with
    | none => none
    | some l4 =>
      let l5 := { l4 with count := l4.count + 1 }
      match fixIters l5 (fixCreate pp p pnext) l5.iters with
      | none => none
      | some its => some { l5 with iters := its }

theorem nodeCreate_eq (l : LList α) (pp : Ref) (x : α) :
    nodeCreate l pp x = nodeCreateAt (nodeAlloc l).2 (nodeAlloc l).1 pp x := by
  unfold nodeCreate nodeCreateAt
  rfl

/-- the state after the pointer updates of `list_node_create`, before the iterator loop -/
def linked (l1 : LList α) (p : Nat) (pp : Ref) (pnext : Option Nat) (x : α) : Option (LList α) :=
  let l2 := { l1 with cells := l1.cells.setIfInBounds p { data := some x, next := pnext } }
  let l3 := if pnext.isNone then { l2 with tail := .next p } else l2
  (store l3 pp (some p)).map (fun l4 => { l4 with count := l4.count + 1 })

theorem linked_eq (l1 : LList α) (p : Nat) (pp : Ref) (pnext : Option Nat) (x : α) :
    linked l1 p pp pnext x =
      (store { l1 with cells := l1.cells.setIfInBounds p { data := some x, next := pnext },
                       tail := if pnext = none then .next p else l1.tail } pp (some p)).map
        (fun l4 => { l4 with count := l4.count + 1 }) := by
  unfold linked; cases pnext <;> rfl

theorem linked_spec {l1 : LList α} {ns : List Nat} {items : List α} (h : Rep l1 ns items) (p f : Nat) (x : α)
    (hf : f ≤ ns.length) (hp : ∀ (k : Nat), ns[k]? ≠ some p) (hps : p < l1.cells.size) :
    ∃ l5, linked l1 p (fieldAt ns f) ns[f]? x = some l5 ∧ Chain l5 (ns.insertIdx f p) (items.insertIdx f x) ∧
      l5.count = l1.count + 1 ∧ l5.tail = fieldAt (ns.insertIdx f p) (ns.length + 1) ∧ l5.free = l1.free ∧
      l5.iters = l1.iters ∧ l5.fdel = l1.fdel ∧ l5.cells.size = l1.cells.size := by
  have hlen := h.len
  have htail : (if ns[f]? = none then Ref.next p else l1.tail) = fieldAt (ns.insertIdx f p) (ns.length + 1) := by
    rw [fieldAt_insertIdx ns f p _ hf]
    by_cases e : f = ns.length
    · subst e
      have h2 : ¬ ns.length + 1 ≤ ns.length := by omega
      simp [h2]
    · have h1 : f < ns.length := by omega
      have h2 : ¬ ns.length + 1 ≤ f := by omega
      have h3 : ¬ ns.length = f := by omega
      have h4 : ¬ ns.length ≤ f := by omega
      simp [h2, h3, h4, h.tail]
  have hoff : ∀ (k n : Nat), ns[k]? = some n → (l1.cells.setIfInBounds p { data := some x, next := ns[f]? })[n]? = l1.cells[n]? := by
    intro k n hk
    have : p ≠ n := fun e => hp k (e ▸ hk)
    simp [this]
  -- filling in the new node leaves the chain as it is; then `*pp = p`
  have h3 : Chain ({ l1 with cells := l1.cells.setIfInBounds p { data := some x, next := ns[f]? },
                               tail := fieldAt (ns.insertIdx f p) (ns.length + 1) } : LList α) ns items :=
    h.toChain.frame rfl hoff
  obtain ⟨cells, head, e, hh, hpred, hfr, hsz⟩ := h3.store f hf (some p)
  rw [linked_eq, htail, e]
  refine ⟨_, rfl, ?_, rfl, rfl, rfl, rfl, rfl, by simp [hsz]⟩
  refine h.toChain.insert f p x hf hp ?_ hh hpred ?_
  · rw [hfr p (fun k hk => absurd hk (hp k))]
    simp [hps]
  · intro k n hk hk1
    rw [hfr n (fun k' hk' => h.inj k' k n hk' hk ▸ hk1)]
    exact hoff k n hk

theorem nodeCreateAt_eq (l1 : LList α) (p : Nat) (pp : Ref) (x : α) :
    nodeCreateAt l1 p pp x =
      match load l1 pp with
      | none => none
      | some pnext =>
        match linked l1 p pp pnext x with
        | none => none
        | some l5 =>
          match fixIters l5 (fixCreate pp p pnext) l5.iters with
          | none => none
          | some its => some { l5 with iters := its } := by
  unfold nodeCreateAt linked
  cases load l1 pp with
  | none => rfl
  | some pnext =>
    simp only []
    cases store (if pnext.isNone = true then
        ({ l1 with cells := l1.cells.setIfInBounds p { data := some x, next := pnext }, tail := Ref.next p } : LList α)
        else { l1 with cells := l1.cells.setIfInBounds p { data := some x, next := pnext } }) pp (some p) <;> rfl

theorem mem_insertIdx_ne {ns : List Nat} {f p q : Nat} (_hf : f ≤ ns.length) (hq : ∀ (k : Nat), ns[k]? ≠ some q) (hpq : q ≠ p) :
    ∀ (k : Nat), (ns.insertIdx f p)[k]? ≠ some q := by
  intro k
  rw [List.getElem?_insertIdx]
  split
  · exact hq k
  · split
    · simp; omega
    · exact hq _

/-- **`list_node_create` at the `f`-th field**: a node `p` that was not on the chain is linked in at position `f`, the item
    is inserted at position `f`, every iterator is patched by `fixCreate`, and the result represents that list. -/
theorem nodeCreate_spec {l : LList α} {ns : List Nat} {items : List α} (h : Rep l ns items) (f : Nat) (x : α) (hf : f ≤ ns.length) :
    ∃ l' p, nodeCreate l (fieldAt ns f) x = some l' ∧ Rep l' (ns.insertIdx f p) (items.insertIdx f x) ∧
      l'.iters = l.iters.map (fun ki => (ki.1, fixCreate (fieldAt ns f) p ns[f]? ki.2)) ∧ l'.fdel = l.fdel := by
  obtain ⟨h1, hp, hps, hpf, hit, hfd⟩ := nodeAlloc_spec h
  rw [nodeCreate_eq, nodeCreateAt_eq, h1.toChain.load f hf]
  generalize (nodeAlloc l).1 = p at *
  generalize (nodeAlloc l).2 = l1 at *
  obtain ⟨l5, e5, hch, hcnt, htl, hfr, hits, hfdel, hsz⟩ := linked_spec h1 p f x hf hp hps
  simp only [e5]
  have hass : ∀ ki ∈ l5.iters, iterAssert l5 (fixCreate (fieldAt ns f) p ns[f]? ki.2) = true := by
    intro ki hki
    rw [hits] at hki
    obtain ⟨j, g, pl⟩ := h1.place ki hki
    exact (pl.create h1.inj f p hf).assert hch
  rw [fixIters_eq l5 _ _ hass]
  refine ⟨_, p, rfl, ⟨hch.congr rfl rfl, ?_, by simp [htl, List.length_insertIdx, hf], ?_, ?_, ?_, ?_⟩, by simp [hits, hit], by simp [hfdel, hfd]⟩
  · simp [hcnt, h1.count, List.length_insertIdx, hf]
  · simp only [hfr]; exact h1.freeNodup
  · simp only [hfr, hsz]
    intro q hq
    refine ⟨(h1.freeOk q hq).1, mem_insertIdx_ne hf (h1.freeOk q hq).2 ?_⟩
    intro e; subst e; exact hpf hq
  · simp only [List.map_map, hits]
    exact h1.keys
  · intro ki hki
    simp only [hits, List.mem_map] at hki
    obtain ⟨ki0, hk0, rfl⟩ := hki
    obtain ⟨j, g, pl⟩ := h1.place ki0 hk0
    exact ⟨_, _, pl.create h1.inj f p hf⟩

/-- the state after the pointer updates of `list_node_destroy`, before the iterator loop -/
def unlinked (l : LList α) (pp : Ref) (pnext : Option Nat) : Option (LList α) :=
  (store l pp pnext).map (fun l1 => { l1 with tail := if pnext = none then pp else l1.tail, count := l1.count - 1 })

theorem nodeDestroy_eq (l : LList α) (pp : Ref) :
    nodeDestroy l pp =
      match load l pp with
      | none => none
      | some none => some (none, l)
      | some (some p) =>
        match l.cells[p]? with
        | none => none
        | some c =>
          match unlinked l pp c.next with
          | none => none
          | some l3 =>
            match fixIters l3 (fixDestroy pp p c.next) l3.iters with
            | none => none
            | some its => some (c.data, nodeFree { l3 with iters := its } p) := by
  unfold nodeDestroy unlinked
  cases load l pp with
  | none => rfl
  | some a =>
    cases a with
    | none => rfl
    | some p =>
      simp only []
      cases l.cells[p]? with
      | none => rfl
      | some c =>
        simp only []
        cases store l pp c.next with
        | none => rfl
        | some l1 => cases c.next <;> rfl

theorem unlinked_spec {l : LList α} {ns : List Nat} {items : List α} (h : Rep l ns items) (f n : Nat) (hn : ns[f]? = some n) :
    ∃ l3, unlinked l (fieldAt ns f) ns[f + 1]? = some l3 ∧ Chain l3 (ns.eraseIdx f) (items.eraseIdx f) ∧
      l3.count = l.count - 1 ∧ l3.tail = fieldAt (ns.eraseIdx f) (ns.length - 1) ∧ l3.free = l.free ∧
      l3.iters = l.iters ∧ l3.fdel = l.fdel ∧ l3.cells.size = l.cells.size := by
  have hf : f < ns.length := (List.getElem?_eq_some_iff.mp hn).1
  have htail : (if ns[f + 1]? = none then fieldAt ns f else l.tail) = fieldAt (ns.eraseIdx f) (ns.length - 1) := by
    rw [fieldAt_eraseIdx]
    by_cases e : f + 1 = ns.length
    · have h1 : ns[f + 1]? = none := by simp [e]
      have h2 : ns.length - 1 = f := by omega
      simp [h1, h2]
    · have h1 : ns[f + 1]? ≠ none := by simp; omega
      have h2 : ¬ ns.length - 1 ≤ f := by omega
      have h3 : ns.length - 1 + 1 = ns.length := by omega
      simp [h1, h2, h3, h.tail]
  obtain ⟨cells, head, e, hh, hpred, hfr, hsz⟩ := h.toChain.store f (Nat.le_of_lt hf) ns[f + 1]?
  unfold unlinked
  rw [e]
  refine ⟨_, rfl, ?_, rfl, htail, rfl, rfl, rfl, hsz⟩
  exact h.toChain.erase f hf hh hpred (fun k n hk hk1 _ => hfr n (fun k' hk' => h.inj k' k n hk' hk ▸ hk1))

theorem mem_eraseIdx_ne {ns : List Nat} {f q : Nat} (hq : ∀ (k : Nat), ns[k]? ≠ some q) :
    ∀ (k : Nat), (ns.eraseIdx f)[k]? ≠ some q := by
  intro k
  rw [List.getElem?_eraseIdx]
  split
  · exact hq k
  · exact hq _

theorem Inj.eraseIdx_ne {ns : List Nat} (hi : Inj ns) {f n : Nat} (hn : ns[f]? = some n) :
    ∀ (k : Nat), (ns.eraseIdx f)[k]? ≠ some n := by
  intro k
  rw [List.getElem?_eraseIdx]
  split
  · intro e; have := hi k f n e hn; omega
  · intro e; have := hi (k + 1) f n e hn; omega

/-- **`list_node_destroy` at the `f`-th field** when that field holds a node: the node is unlinked and put on the free list,
    its item is returned, every iterator is patched by `fixDestroy`, and the result represents the list without that item. -/
theorem nodeDestroy_spec {l : LList α} {ns : List Nat} {items : List α} (h : Rep l ns items) (f n : Nat) (hn : ns[f]? = some n) :
    ∃ l', nodeDestroy l (fieldAt ns f) = some (items[f]?, l') ∧ Rep l' (ns.eraseIdx f) (items.eraseIdx f) ∧
      l'.iters = l.iters.map (fun ki => (ki.1, fixDestroy (fieldAt ns f) n ns[f + 1]? ki.2)) ∧ l'.fdel = l.fdel := by
  have hf : f < ns.length := (List.getElem?_eq_some_iff.mp hn).1
  rw [nodeDestroy_eq, h.toChain.load f (by omega), hn]
  simp only [h.cell f n hn]
  obtain ⟨l3, e3, hch, hcnt, htl, hfr, hits, hfdel, hsz⟩ := unlinked_spec h f n hn
  simp only [e3]
  have hass : ∀ ki ∈ l3.iters, iterAssert l3 (fixDestroy (fieldAt ns f) n ns[f + 1]? ki.2) = true := by
    intro ki hki
    rw [hits] at hki
    obtain ⟨j, g, pl⟩ := h.place ki hki
    exact (pl.destroy h.inj f n hn).assert hch
  rw [fixIters_eq l3 _ _ hass]
  have hlen : (ns.eraseIdx f).length = ns.length - 1 := by simp [List.length_eraseIdx, hf]
  refine ⟨_, rfl, ⟨hch.congr rfl rfl, ?_, by simp [nodeFree, htl, hlen], ?_, ?_, ?_, ?_⟩, by simp [nodeFree, hits], by simp [nodeFree, hfdel]⟩
  · simp [nodeFree, hcnt, h.count, hlen]
  · simp only [nodeFree, hfr]
    refine List.nodup_cons.mpr ⟨?_, h.freeNodup⟩
    intro hm; exact (h.freeOk n hm).2 f hn
  · simp only [nodeFree, hfr, hsz, List.mem_cons]
    intro q hq
    rcases hq with rfl | hq
    · exact ⟨h.toChain.lt_size f q hn, h.inj.eraseIdx_ne hn⟩
    · exact ⟨(h.freeOk q hq).1, mem_eraseIdx_ne (h.freeOk q hq).2⟩
  · simp only [nodeFree, List.map_map, hits]
    exact h.keys
  · intro ki hki
    simp only [nodeFree, hits, List.mem_map] at hki
    obtain ⟨ki0, hk0, rfl⟩ := hki
    obtain ⟨j, g, pl⟩ := h.place ki0 hk0
    exact ⟨_, _, pl.destroy h.inj f n hn⟩

/-- `list_node_destroy` at the last field (which holds `NULL`): nothing happens -/
theorem nodeDestroy_end {l : LList α} {ns : List Nat} {items : List α} (h : Rep l ns items) :
    nodeDestroy l (fieldAt ns ns.length) = some (none, l) := by
  rw [nodeDestroy_eq, h.toChain.load ns.length (Nat.le_refl _)]
  simp
end Pm.LsdList
