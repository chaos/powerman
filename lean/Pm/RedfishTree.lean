import Pm.Redfish
/-! Well-formed plug forests (`WF`), ancestors, depth. -/
namespace Pm.Redfish

def parentOf (c : Cfg) (p : Nat) : Option Nat := (lookup c p).bind (·.parent)
def known (c : Cfg) (p : Nat) : Bool := (lookup c p).isSome
def depth (c : Cfg) (p : Nat) : Nat := (ancUp c p).length

/-- plug names distinct, every parent defined, acyclic (every upward chain ends before the fuel
    `plugs.length` of `ancUp` runs out) -/
def WF (c : Cfg) : Bool :=
  decide (c.plugs.map (·.name)).Nodup &&
  c.plugs.all (fun pc => match pc.parent with | none => true | some q => known c q) &&
  c.plugs.all (fun pc => decide ((ancUp c pc.name).length < c.plugs.length))

theorem lookup_name {c : Cfg} {p : Nat} {pc : PlugCfg} (h : lookup c p = some pc) : pc.name = p ∧ pc ∈ c.plugs := by
  unfold lookup at h
  have h1 := List.find?_some h
  have h2 := List.mem_of_find?_eq_some h
  simp at h1; exact ⟨h1, h2⟩

theorem known_of_mem {c : Cfg} {pc : PlugCfg} (h : pc ∈ c.plugs) : known c pc.name = true := by
  unfold known lookup
  rw [List.find?_isSome]
  exact ⟨pc, h, by simp⟩

theorem WF_parent_known {c : Cfg} (hw : WF c = true) {p q : Nat} (h : parentOf c p = some q) : known c q = true := by
  unfold parentOf at h
  cases hl : lookup c p with
  | none => simp [hl] at h
  | some pc =>
    simp [hl] at h
    have ⟨_, hm⟩ := lookup_name hl
    unfold WF at hw
    simp only [Bool.and_eq_true, List.all_eq_true] at hw
    have := hw.1.2 pc hm
    simp [h] at this; exact this

theorem WF_len {c : Cfg} (hw : WF c = true) {p : Nat} (h : known c p = true) : (ancUp c p).length < c.plugs.length := by
  unfold known at h
  cases hl : lookup c p with
  | none => simp [hl] at h
  | some pc =>
    have ⟨hn, hm⟩ := lookup_name hl
    unfold WF at hw
    simp only [Bool.and_eq_true, List.all_eq_true] at hw
    have := hw.2 pc hm
    simp [hn] at this; exact this

theorem ancestorsUp_len_le (c : Cfg) (f p : Nat) : (ancestorsUp c f p).length ≤ f := by
  induction f generalizing p with
  | zero => simp [ancestorsUp]
  | succ f ih =>
    unfold ancestorsUp
    split
    · simp; exact ih _
    · simp

theorem ancestorsUp_stable (c : Cfg) (f p : Nat) (h : (ancestorsUp c f p).length < f) (k : Nat) :
    ancestorsUp c (f + k) p = ancestorsUp c f p := by
  induction f generalizing p with
  | zero => simp at h
  | succ f ih =>
    have : f + 1 + k = (f + k) + 1 := by omega
    rw [this]
    cases hq : (lookup c p).bind (·.parent) with
    | none => simp only [ancestorsUp, hq]
    | some q =>
      simp only [ancestorsUp, hq] at h ⊢
      simp at h
      rw [ih q h]

theorem parentOf_known {c : Cfg} {p q : Nat} (h : parentOf c p = some q) : known c p = true := by
  unfold parentOf at h; unfold known
  cases hl : lookup c p <;> simp_all

theorem ancUp_root {c : Cfg} {p : Nat} (h : parentOf c p = none) : ancUp c p = [] := by
  unfold ancUp
  cases hn : c.plugs.length with
  | zero => simp [ancestorsUp]
  | succ n => unfold ancestorsUp; unfold parentOf at h; simp [h]

theorem ancUp_cons {c : Cfg} (hw : WF c = true) {p q : Nat} (h : parentOf c p = some q) :
    ancUp c p = q :: ancUp c q := by
  have hq := WF_len hw (WF_parent_known hw h)
  have hp := WF_len hw (parentOf_known h)
  unfold ancUp at *
  cases hn : c.plugs.length with
  | zero => rw [hn] at hp; simp at hp
  | succ n =>
    rw [hn] at hp hq
    have hpar : (lookup c p).bind (·.parent) = some q := h
    have e1 : ancestorsUp c (n + 1) p = q :: ancestorsUp c n q := by
      rw [ancestorsUp]; simp only [hpar]
    rw [e1] at hp ⊢
    simp at hp
    rw [ancestorsUp_stable c n q hp 1]

theorem depth_cons {c : Cfg} (hw : WF c = true) {p q : Nat} (h : parentOf c p = some q) :
    depth c p = depth c q + 1 := by
  unfold depth; rw [ancUp_cons hw h]; simp

theorem depth_root {c : Cfg} {p : Nat} (h : parentOf c p = none) : depth c p = 0 := by
  unfold depth; rw [ancUp_root h]; rfl

theorem isDesc_iff {c : Cfg} {p a : Nat} : isDesc c p a = true ↔ a ∈ ancUp c p := by
  unfold isDesc; simp

theorem anc_induction {c : Cfg} (hw : WF c = true) (P : Nat → Prop)
    (hroot : ∀ p, parentOf c p = none → P p)
    (hstep : ∀ p q, parentOf c p = some q → P q → P p) : ∀ p, P p := by
  intro p
  generalize hd : depth c p = d
  induction d generalizing p with
  | zero =>
    cases hp : parentOf c p with
    | none => exact hroot p hp
    | some q => rw [depth_cons hw hp] at hd; omega
  | succ d ih =>
    cases hp : parentOf c p with
    | none => exact hroot p hp
    | some q =>
      rw [depth_cons hw hp] at hd
      exact hstep p q hp (ih q (by omega))

theorem ancUp_suffix {c : Cfg} (hw : WF c = true) : ∀ p a, a ∈ ancUp c p →
    ∃ pre, ancUp c p = pre ++ a :: ancUp c a ∧ ∀ x ∈ pre, a ∈ ancUp c x := by
  refine anc_induction hw _ ?_ ?_
  · intro p hp a ha; rw [ancUp_root hp] at ha; simp at ha
  · intro p q hp ih a ha
    rw [ancUp_cons hw hp] at ha ⊢
    rcases List.mem_cons.1 ha with rfl | ha'
    · exact ⟨[], by simp⟩
    · obtain ⟨pre, e, hx⟩ := ih a ha'
      refine ⟨q :: pre, by simp [e], ?_⟩
      intro x hxm
      rcases List.mem_cons.1 hxm with rfl | hxm
      · exact ha'
      · exact hx x hxm

theorem anc_trans {c : Cfg} (hw : WF c = true) {p a b : Nat} (h1 : a ∈ ancUp c p) (h2 : b ∈ ancUp c a) :
    b ∈ ancUp c p := by
  obtain ⟨pre, e, _⟩ := ancUp_suffix hw p a h1
  rw [e]; simp [h2]

theorem depth_anc_lt {c : Cfg} (hw : WF c = true) {p a : Nat} (h : a ∈ ancUp c p) : depth c a < depth c p := by
  obtain ⟨pre, e, _⟩ := ancUp_suffix hw p a h
  unfold depth; rw [e]; simp; omega

theorem anc_irrefl {c : Cfg} (hw : WF c = true) (p : Nat) : p ∉ ancUp c p := by
  intro h; have := depth_anc_lt hw h; omega

theorem anc_known {c : Cfg} (hw : WF c = true) : ∀ p a, a ∈ ancUp c p → known c a = true := by
  refine anc_induction hw _ ?_ ?_
  · intro p hp a ha; rw [ancUp_root hp] at ha; simp at ha
  · intro p q hp ih a ha
    rw [ancUp_cons hw hp] at ha
    rcases List.mem_cons.1 ha with rfl | ha'
    · exact WF_parent_known hw hp
    · exact ih a ha'

theorem anc_of_parent {c : Cfg} (hw : WF c = true) {p q : Nat} (h : parentOf c p = some q) : q ∈ ancUp c p := by
  rw [ancUp_cons hw h]; simp

theorem anc_nonempty_parent {c : Cfg} {p a : Nat} (h : a ∈ ancUp c p) : ∃ q, parentOf c p = some q := by
  cases hp : parentOf c p with
  | none => rw [ancUp_root hp] at h; simp at h
  | some q => exact ⟨q, rfl⟩

theorem anc_comparable {c : Cfg} (hw : WF c = true) {p a b : Nat} (ha : a ∈ ancUp c p) (hb : b ∈ ancUp c p) :
    a = b ∨ a ∈ ancUp c b ∨ b ∈ ancUp c a := by
  obtain ⟨pre, e, hx⟩ := ancUp_suffix hw p a ha
  rw [e] at hb
  rcases List.mem_append.1 hb with h | h
  · right; left; exact hx b h
  · rcases List.mem_cons.1 h with rfl | h
    · left; rfl
    · right; right; exact h

theorem chain_links {c : Cfg} (hw : WF c = true) : ∀ p, ∀ xy ∈ (p :: ancUp c p).zip (ancUp c p),
    parentOf c xy.1 = some xy.2 ∧ (xy.1 = p ∨ xy.1 ∈ ancUp c p) := by
  refine anc_induction hw _ ?_ ?_
  · intro p hp xy h; rw [ancUp_root hp] at h; simp at h
  · intro p q hp ih xy h
    rw [ancUp_cons hw hp] at h ⊢
    simp only [List.zip_cons_cons, List.mem_cons] at h
    rcases h with rfl | h
    · exact ⟨hp, Or.inl rfl⟩
    · have := ih xy h
      refine ⟨this.1, Or.inr ?_⟩
      rcases this.2 with e | e
      · simp [e]
      · simp [e]

theorem childOf_spec {c : Cfg} (hw : WF c = true) {p a : Nat} (h : a ∈ ancUp c p) :
    parentOf c (childOf c p a) = some a ∧ (childOf c p a = p ∨ childOf c p a ∈ ancUp c p) := by
  unfold childOf
  simp only
  cases hf : ((p :: ancUp c p).zip (ancUp c p)).find? (·.2 = a) with
  | none =>
    exfalso
    rw [List.find?_eq_none] at hf
    have hm : a ∈ ((p :: ancUp c p).zip (ancUp c p)).map Prod.snd := by
      rw [List.map_snd_zip (by simp)]; exact h
    obtain ⟨xy, hxy, e⟩ := List.mem_map.1 hm
    exact hf xy hxy (by simp [e])
  | some xy =>
    have h1 := List.find?_some hf
    have h2 := List.mem_of_find?_eq_some hf
    have := chain_links hw p xy h2
    simp at h1
    rw [h1] at this
    exact this

theorem childOf_anc {c : Cfg} (hw : WF c = true) {p a : Nat} (h : a ∈ ancUp c p) :
    a ∈ ancUp c (childOf c p a) := anc_of_parent hw (childOf_spec hw h).1

theorem childOf_proper {c : Cfg} (hw : WF c = true) {p a : Nat} (h : a ∈ ancUp c p) (hnd : parentOf c p ≠ some a) :
    childOf c p a ∈ ancUp c p := by
  rcases (childOf_spec hw h).2 with e | e
  · exact absurd (e ▸ (childOf_spec hw h).1) hnd
  · exact e

theorem depth_childOf {c : Cfg} (hw : WF c = true) {p a : Nat} (h : a ∈ ancUp c p) :
    depth c (childOf c p a) = depth c a + 1 := depth_cons hw (childOf_spec hw h).1

theorem rootOf_spec {c : Cfg} (hw : WF c = true) : ∀ p, (∃ q, parentOf c p = some q) →
    rootOf c p ∈ ancUp c p ∧ parentOf c (rootOf c p) = none := by
  refine anc_induction hw _ ?_ ?_
  · intro p hp ⟨q, hq⟩; rw [hp] at hq; cases hq
  · intro p q hp ih _
    unfold rootOf
    rw [ancUp_cons hw hp]
    cases hq : parentOf c q with
    | none => rw [ancUp_root hq]; simp [hq]
    | some r =>
      have := ih ⟨r, hq⟩
      unfold rootOf at this
      have hne : ancUp c q ≠ [] := by rw [ancUp_cons hw hq]; simp
      rw [List.getLast?_cons_of_ne_nil hne] at *
      cases hl : (ancUp c q).getLast? with
      | none => rw [List.getLast?_eq_none_iff] at hl; exact absurd hl hne
      | some z =>
        rw [hl] at this; simp at this ⊢
        exact ⟨Or.inr this.1, this.2⟩

end Pm.Redfish
