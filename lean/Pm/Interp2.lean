/- C08 on a reduced model: the ExecCtx stack machine simulates the loop-free reference, one micro-step at a time.
   Reduced statement set (send / expect / foreachplug / ifon) but the full control structure:
   context stack, per-context statement position, plug iterator, `processing` flag, stalls. -/
namespace Pm.I2

inductive Stmt where
  | send (s : String)
  | expect (p : String)
  | fplug (body : List Stmt)
  | ifon (body : List Stmt)

structure Plug where
  name : String
  on : Option Bool            -- this action's arglist state for the plug's node: some true = on, none = unknown
deriving DecidableEq

inductive Eff where
  | sent (s : String) (arg : Option String)
  | consumed (p : String)
deriving DecidableEq

structure Env where
  devPlugs : List Plug
  toBusy : Bool               -- dev->to not yet drained
  input : List String         -- what the device has sent; `expect p` matches iff the head is `p`

structure Ctx where
  block : List Stmt
  pos : Nat
  plug : Option Plug
  itr : Option Nat
  processing : Bool

inductive Res (σ : Type) where
  | stalled
  | fin (err : Bool)
  | step (env : Env) (s : σ) (effs : List Eff)

def plugState (p : Option Plug) : Option Bool := p.bind (·.on)

/-- one trip round the loops of `_process_action` for the head action -/
def mstep (env : Env) : List Ctx → Res (List Ctx)
  | [] => .fin false
  | c :: rest =>
    match c.block[c.pos]? with
    | none => .step env rest []                                            -- block done: pop
    | some (.send s) =>
      if !c.processing then .step { env with toBusy := true } ({ c with processing := true } :: rest) [.sent s (c.plug.map (·.name))]
      else if env.toBusy then .stalled
      else .step env ({ c with processing := false, pos := c.pos + 1 } :: rest) []
    | some (.expect p) =>
      match env.input with
      | l :: ls => if l = p then .step { env with input := ls } ({ c with pos := c.pos + 1 } :: rest) [.consumed p] else .stalled
      | [] => .stalled
    | some (.fplug body) =>
      match env.devPlugs[c.itr.getD 0]? with
      | some pl => .step env ({ block := body, pos := 0, plug := some pl, itr := none, processing := false }
                              :: { c with itr := some (c.itr.getD 0 + 1) } :: rest) []
      | none => .step env ({ c with itr := none, pos := c.pos + 1 } :: rest) []
    | some (.ifon body) =>
      if c.processing then .step env ({ c with processing := false, pos := c.pos + 1 } :: rest) []
      else match plugState c.plug with
        | some true => .step env ({ block := body, pos := 0, plug := c.plug, itr := none, processing := false }
                                  :: { c with processing := true } :: rest) []
        | some false => .step env ({ c with pos := c.pos + 1 } :: rest) []
        | none => .fin true

inductive FOp where
  | send (s : String) (arg : Option String)
  | expect (p : String)
  | guard (st : Option Bool) (body : List FOp)

mutual
def unroll (devPlugs : List Plug) : List Stmt → Option Plug → List FOp
  | [], _ => []
  | s :: r, plug => unrollStmt devPlugs s plug ++ unroll devPlugs r plug
def unrollStmt (devPlugs : List Plug) : Stmt → Option Plug → List FOp
  | .send s, plug => [.send s (plug.map (·.name))]
  | .expect p, _ => [.expect p]
  | .fplug body, _ => devPlugs.flatMap fun p => unroll devPlugs body (some p)
  | .ifon body, plug => [.guard (plugState plug) (unroll devPlugs body plug)]
end

/-- the part of a `foreachplug` that is still to come when the iterator stands at `ps` -/
def unrollEach (devPlugs : List Plug) (ps : List Plug) (body : List Stmt) : List FOp :=
  ps.flatMap fun p => unroll devPlugs body (some p)

structure F where
  rem : List FOp
  inflight : Bool

def fstep (env : Env) (f : F) : Res F :=
  match f.rem with
  | [] => .fin false
  | .send s a :: r =>
    if !f.inflight then .step { env with toBusy := true } { f with inflight := true } [.sent s a]
    else if env.toBusy then .stalled
    else .step env { rem := r, inflight := false } []
  | .expect p :: r =>
    match env.input with
    | l :: ls => if l = p then .step { env with input := ls } { f with rem := r } [.consumed p] else .stalled
    | [] => .stalled
  | .guard st body :: r =>
    match st with
    | some true => .step env { f with rem := body ++ r } []
    | some false => .step env { f with rem := r } []
    | none => .fin true

/-! ## abstraction: the continuation a stack stands for -/

/-- what is left of one context's block, as operations of the reference: a `foreachplug` from its iterator on, an `ifon` whose
    body is running (`processing`) without its guard -/
def contCtx (devPlugs : List Plug) (c : Ctx) : List FOp :=
  match c.block[c.pos]? with
  | none => []
  | some (.fplug body) => unrollEach devPlugs (devPlugs.drop (c.itr.getD 0)) body ++ unroll devPlugs (c.block.drop (c.pos + 1)) c.plug
  | some (.ifon body) =>
    (if c.processing then [] else [.guard (plugState c.plug) (unroll devPlugs body c.plug)])
      ++ unroll devPlugs (c.block.drop (c.pos + 1)) c.plug
  | some _ => unroll devPlugs (c.block.drop c.pos) c.plug

/-- … of the whole stack, top first -/
def cont (devPlugs : List Plug) (stack : List Ctx) : List FOp := stack.flatMap (contCtx devPlugs)

/-- the context stands inside a `send`: written, not yet drained -/
def ctxInflight (c : Ctx) : Bool :=
  match c.block[c.pos]? with
  | some (.send _) => c.processing
  | _ => false

def topInflight : List Ctx → Bool
  | c :: _ => ctxInflight c
  | [] => false

/-- flags that must be clear for the abstraction to mean anything (F5: a `_rewind_action` that keeps `processing` and the plug
    iterator breaks exactly this) -/
def CtxOK (c : Ctx) : Prop :=
  match c.block[c.pos]? with
  | some (.send _) => c.itr = none
  | some (.expect _) => c.processing = false ∧ c.itr = none
  | some (.fplug _) => c.processing = false
  | some (.ifon _) => c.itr = none
  | none => True

/-- the state of the reference that a stack stands for -/
def abs (devPlugs : List Plug) (stack : List Ctx) : F := { rem := cont devPlugs stack, inflight := topInflight stack }

theorem drop_pos {α} {l : List α} {k : Nat} {a : α} (h : l[k]? = some a) : l.drop k = a :: l.drop (k + 1) := by
  obtain ⟨hlt, rfl⟩ := List.getElem?_eq_some_iff.mp h
  exact List.drop_eq_getElem_cons hlt

theorem drop_none {α} {l : List α} {k : Nat} (h : l[k]? = none) : l.drop k = [] :=
  List.drop_eq_nil_of_le (List.getElem?_eq_none_iff.mp h)

theorem unrollEach_drop (devPlugs : List Plug) (k : Nat) (pl : Plug) (body : List Stmt)
    (h : devPlugs[k]? = some pl) :
    unrollEach devPlugs (devPlugs.drop k) body =
      unroll devPlugs body (some pl) ++ unrollEach devPlugs (devPlugs.drop (k + 1)) body := by
  rw [drop_pos h]; simp [unrollEach]

theorem unrollEach_drop_none (devPlugs : List Plug) (k : Nat) (body : List Stmt) (h : devPlugs[k]? = none) :
    unrollEach devPlugs (devPlugs.drop k) body = [] := by
  rw [drop_none h]; simp [unrollEach]

/-- a context below the top is always parked on the block statement that pushed its child -/
def ParentOK (c : Ctx) : Prop :=
  match c.block[c.pos]? with
  | some (.fplug _) => True
  | some (.ifon _) => c.processing = true
  | _ => False

def StackOK (stack : List Ctx) : Prop := (∀ c ∈ stack, CtxOK c) ∧ (∀ c ∈ stack.tail, ParentOK c)

/-- outcome of one machine micro-step seen through the abstraction; where the machine goes on, the new stack is well-formed -/
inductive Sim (env : Env) (stack : List Ctx) : Res (List Ctx) → Prop where
  | stalled : fstep env (abs env.devPlugs stack) = .stalled → Sim env stack .stalled
  | fin (e : Bool) : fstep env (abs env.devPlugs stack) = .fin e → Sim env stack (.fin e)
  | stutter (stack' : List Ctx) : StackOK stack' → abs env.devPlugs stack' = abs env.devPlugs stack →
      Sim env stack (.step env stack' [])
  | step (env' : Env) (stack' : List Ctx) (effs : List Eff) : StackOK stack' →
      fstep env (abs env.devPlugs stack) = .step env' (abs env.devPlugs stack') effs → env'.devPlugs = env.devPlugs →
      Sim env stack (.step env' stack' effs)

theorem ctxOK_fresh (block : List Stmt) (pos : Nat) (plug : Option Plug) :
    CtxOK { block, pos, plug, itr := none, processing := false } := by
  unfold CtxOK; split <;> simp

/-- the three things a micro-step does to a well-formed stack: pop, replace the top, push a fresh context on a parked one -/
theorem StackOK.pop {c : Ctx} {rest : List Ctx} (h : StackOK (c :: rest)) : StackOK rest :=
  ⟨fun x hx => h.1 x (List.mem_cons_of_mem _ hx), fun x hx => h.2 x (List.mem_of_mem_tail hx)⟩

theorem StackOK.top {c : Ctx} {rest : List Ctx} (h : StackOK (c :: rest)) (c' : Ctx) (hc' : CtxOK c') : StackOK (c' :: rest) :=
  ⟨fun x hx => (List.mem_cons.mp hx).elim (fun e => e ▸ hc') fun hx => h.1 x (List.mem_cons_of_mem _ hx), h.2⟩

theorem StackOK.push {c : Ctx} {rest : List Ctx} (h : StackOK (c :: rest)) (body : List Stmt) (pl : Option Plug) (c' : Ctx)
    (hc' : CtxOK c') (hp : ParentOK c') :
    StackOK ({ block := body, pos := 0, plug := pl, itr := none, processing := false } :: c' :: rest) :=
  ⟨fun x hx => (List.mem_cons.mp hx).elim (fun e => e ▸ ctxOK_fresh _ _ _) ((h.top c' hc').1 x),
   fun x hx => (List.mem_cons.mp hx).elim (fun e => e ▸ hp) (h.2 x)⟩

theorem ctxInflight_parent (c : Ctx) (h : ParentOK c) : ctxInflight c = false := by
  unfold ParentOK at h
  unfold ctxInflight
  cases hcur : c.block[c.pos]? with
  | none => rfl
  | some s => cases s <;> simp_all

theorem topInflight_parent (rest : List Ctx) (h : ∀ c ∈ rest, ParentOK c) : topInflight rest = false := by
  cases rest with
  | nil => rfl
  | cons p ps => exact ctxInflight_parent p (h p (by simp))

theorem cont_cons (dp : List Plug) (c : Ctx) (rest : List Ctx) : cont dp (c :: rest) = contCtx dp c ++ cont dp rest := by
  simp [cont]

/-- a context with clear flags denotes exactly the unrolling of what is left of its block -/
theorem contCtx_fresh (dp : List Plug) (c : Ctx) (hi : c.itr = none) (hp : c.processing = false) :
    contCtx dp c = unroll dp (c.block.drop c.pos) c.plug := by
  unfold contCtx
  cases hcur : c.block[c.pos]? with
  | none => simp [drop_none hcur, unroll]
  | some s =>
    rw [drop_pos hcur]
    cases s with
    | send _ => simp
    | expect _ => simp
    | fplug body => simp [hi, unroll, unrollStmt, unrollEach]
    | ifon body => simp [hp, unroll, unrollStmt]

theorem ctxInflight_noproc (c : Ctx) (hp : c.processing = false) : ctxInflight c = false := by
  unfold ctxInflight; split <;> simp_all

theorem abs_fresh (dp : List Plug) (c : Ctx) (rest : List Ctx) (hi : c.itr = none) (hp : c.processing = false) :
    abs dp (c :: rest) = ⟨unroll dp (c.block.drop c.pos) c.plug ++ cont dp rest, false⟩ := by
  simp only [abs, cont_cons, contCtx_fresh dp c hi hp, topInflight, ctxInflight_noproc c hp]

theorem abs_send (dp : List Plug) (c : Ctx) (rest : List Ctx) (str : String) (hcur : c.block[c.pos]? = some (.send str)) :
    abs dp (c :: rest) =
      ⟨.send str (c.plug.map (·.name)) :: (unroll dp (c.block.drop (c.pos + 1)) c.plug ++ cont dp rest), c.processing⟩ := by
  simp [abs, cont_cons, contCtx, hcur, drop_pos hcur, unroll, unrollStmt, topInflight, ctxInflight]

theorem abs_expect (dp : List Plug) (c : Ctx) (rest : List Ctx) (p : String) (hcur : c.block[c.pos]? = some (.expect p)) :
    abs dp (c :: rest) = ⟨.expect p :: (unroll dp (c.block.drop (c.pos + 1)) c.plug ++ cont dp rest), false⟩ := by
  simp [abs, cont_cons, contCtx, hcur, drop_pos hcur, unroll, unrollStmt, topInflight, ctxInflight]

theorem abs_fplug (dp : List Plug) (c : Ctx) (rest : List Ctx) (body : List Stmt) (hcur : c.block[c.pos]? = some (.fplug body)) :
    abs dp (c :: rest) =
      ⟨unrollEach dp (dp.drop (c.itr.getD 0)) body ++ (unroll dp (c.block.drop (c.pos + 1)) c.plug ++ cont dp rest), false⟩ := by
  simp [abs, cont_cons, contCtx, hcur, topInflight, ctxInflight]

theorem abs_ifon (dp : List Plug) (c : Ctx) (rest : List Ctx) (body : List Stmt) (hcur : c.block[c.pos]? = some (.ifon body)) :
    abs dp (c :: rest) =
      ⟨(if c.processing then [] else [.guard (plugState c.plug) (unroll dp body c.plug)])
          ++ (unroll dp (c.block.drop (c.pos + 1)) c.plug ++ cont dp rest), false⟩ := by
  simp [abs, cont_cons, contCtx, hcur, topInflight, ctxInflight]

/-- C08 core: every micro-step of the stack machine is either invisible (push / pop / iterator
    bookkeeping leave the denoted continuation unchanged) or is exactly one step of the reference,
    with the same effects, the same stall and the same failure; and it leaves a well-formed stack. -/
theorem mstep_sim (env : Env) (stack : List Ctx) (hok : StackOK stack) :
    Sim env stack (mstep env stack) := by
  cases stack with
  | nil => exact Sim.fin false (by simp [fstep, abs, cont])
  | cons c rest =>
    have hc := hok.1 c (by simp)
    have hti := topInflight_parent rest (by simpa using hok.2)
    -- the top context moved on to its next statement, all flags clear
    have hnext : ∀ c' : Ctx, c' = { block := c.block, pos := c.pos + 1, plug := c.plug, itr := none, processing := false } →
        StackOK (c' :: rest) := fun c' e => hok.top c' (e ▸ ctxOK_fresh _ _ _)
    unfold CtxOK at hc
    simp only [mstep]
    split
    next hcur =>
      refine Sim.stutter rest hok.pop ?_
      have h1 : contCtx env.devPlugs c = [] := by simp [contCtx, hcur]
      have h2 : topInflight (c :: rest) = false := by simp [topInflight, ctxInflight, hcur]
      simp only [abs, cont_cons, h1, List.nil_append, hti, h2]
    next str hcur =>
      rw [hcur] at hc
      by_cases hp : c.processing = true
      · simp only [hp, Bool.not_true, Bool.false_eq_true, if_false]
        by_cases hb : env.toBusy = true
        · simp only [hb, if_true]
          refine Sim.stalled ?_
          rw [abs_send _ _ _ _ hcur]
          simp [fstep, hp, hb]
        · simp only [hb]
          refine Sim.step env _ [] (hnext _ (by rw [← hc])) ?_ rfl
          have hb' : env.toBusy = false := by simpa using hb
          rw [abs_send _ _ _ _ hcur, abs_fresh _ { c with processing := false, pos := c.pos + 1 } rest hc rfl]
          simp [fstep, hp, hb']
      · have hp' : c.processing = false := by simpa using hp
        simp only [hp', Bool.not_false, if_true]
        refine Sim.step _ _ _ (hok.top _ (by unfold CtxOK; simp [hcur, hc])) ?_ rfl
        rw [abs_send _ _ _ _ hcur, abs_send _ { c with processing := true } rest str hcur]
        simp [fstep, hp']
    next p hcur =>
      rw [hcur] at hc
      obtain ⟨hproc, hitr⟩ := hc
      split
      next l ls hin =>
        split
        next heq =>
          refine Sim.step _ _ _ (hnext _ (by rw [← hproc, ← hitr])) ?_ rfl
          rw [abs_expect _ _ _ _ hcur, abs_fresh _ { c with pos := c.pos + 1 } rest hitr hproc]
          simp [fstep, hin, heq]
        next hne =>
          refine Sim.stalled ?_
          rw [abs_expect _ _ _ _ hcur]
          simp [fstep, hin, hne]
      next hin =>
        refine Sim.stalled ?_
        rw [abs_expect _ _ _ _ hcur]
        simp [fstep, hin]
    next body hcur =>
      rw [hcur] at hc
      split
      next pl hpl =>
        refine Sim.stutter _ (hok.push body (some pl) _ (by unfold CtxOK; simp [hcur, hc]) (by unfold ParentOK; simp [hcur])) ?_
        rw [abs_fplug _ _ _ _ hcur,
            abs_fresh _ { block := body, pos := 0, plug := some pl, itr := none, processing := false } _ rfl rfl]
        simp [cont_cons, contCtx, hcur, unrollEach_drop _ _ _ _ hpl]
      next hpl =>
        refine Sim.stutter _ (hnext _ (by rw [← hc])) ?_
        rw [abs_fplug _ _ _ _ hcur, abs_fresh _ { c with itr := none, pos := c.pos + 1 } rest rfl hc]
        simp [unrollEach_drop_none _ _ _ hpl]
    next body hcur =>
      rw [hcur] at hc
      by_cases hp : c.processing = true
      · simp only [hp, if_true]
        refine Sim.stutter _ (hnext _ (by rw [← hc])) ?_
        rw [abs_ifon _ _ _ _ hcur, abs_fresh _ { c with processing := false, pos := c.pos + 1 } rest hc rfl]
        simp [hp]
      · have hp' : c.processing = false := by simpa using hp
        simp only [hp', Bool.false_eq_true, if_false]
        split
        next hst =>
          refine Sim.step env _ [] (hok.push body c.plug _ (by unfold CtxOK; simp [hcur, hc]) (by unfold ParentOK; simp [hcur])) ?_ rfl
          rw [abs_ifon _ _ _ _ hcur,
              abs_fresh _ { block := body, pos := 0, plug := c.plug, itr := none, processing := false } _ rfl rfl]
          simp [fstep, hp', hst, cont_cons, contCtx, hcur]
        next hst =>
          refine Sim.step env _ [] (hnext _ (by rw [← hc, ← hp'])) ?_ rfl
          rw [abs_ifon _ _ _ _ hcur, abs_fresh _ { c with processing := false, pos := c.pos + 1 } rest hc rfl]
          simp [fstep, hp', hst]
        next hst =>
          refine Sim.fin true ?_
          rw [abs_ifon _ _ _ _ hcur]
          simp [fstep, hp', hst]

inductive Status where
  | stalled | fin (e : Bool) | outOfFuel
deriving DecidableEq

/-- one pass of `_process_action` for the head action: micro-steps until it stalls or ends -/
def mrun : Nat → Env → List Ctx → List Eff → Env × List Ctx × List Eff × Status
  | 0, env, st, acc => (env, st, acc, .outOfFuel)
  | n + 1, env, st, acc =>
    match mstep env st with
    | .stalled => (env, st, acc, .stalled)
    | .fin e => (env, st, acc, .fin e)
    | .step env' st' effs => mrun n env' st' (acc ++ effs)

def frun : Nat → Env → F → List Eff → Env × F × List Eff × Status
  | 0, env, f, acc => (env, f, acc, .outOfFuel)
  | n + 1, env, f, acc =>
    match fstep env f with
    | .stalled => (env, f, acc, .stalled)
    | .fin e => (env, f, acc, .fin e)
    | .step env' f' effs => frun n env' f' (acc ++ effs)

/-- C08: a whole pass of the stack machine — any script, any plug list, any device input, any
    point at which it was left by earlier passes — is a pass of the loop-free reference on the
    continuation the stack denotes: same effects in the same order, same stall, same outcome. -/
theorem C08_refines_pass : ∀ (n : Nat) (env : Env) (st : List Ctx) (acc : List Eff)
    (env' : Env) (st' : List Ctx) (effs : List Eff) (s : Status),
    StackOK st → mrun n env st acc = (env', st', effs, s) → s ≠ .outOfFuel →
    ∃ k, frun k env (abs env.devPlugs st) acc = (env', abs env.devPlugs st', effs, s) ∧ StackOK st'
         ∧ env'.devPlugs = env.devPlugs := by
  intro n
  induction n with
  | zero =>
    intro env st acc env' st' effs s _ h hs
    simp only [mrun, Prod.mk.injEq] at h
    obtain ⟨-, -, -, rfl⟩ := h
    exact absurd rfl hs
  | succ n ih =>
    intro env st acc env' st' effs s hok h hs
    have hsim := mstep_sim env st hok
    simp only [mrun] at h
    generalize mstep env st = r at hsim h
    cases hsim with
    | stalled hf =>
      simp only [Prod.mk.injEq] at h
      obtain ⟨rfl, rfl, rfl, rfl⟩ := h
      exact ⟨1, by simp [frun, hf], hok, rfl⟩
    | fin e hf =>
      simp only [Prod.mk.injEq] at h
      obtain ⟨rfl, rfl, rfl, rfl⟩ := h
      exact ⟨1, by simp [frun, hf], hok, rfl⟩
    | stutter st2 hok2 habs =>
      simp only [List.append_nil] at h
      obtain ⟨k, hk, hok', hdp⟩ := ih env st2 acc env' st' effs s hok2 h hs
      exact ⟨k, by rw [← habs]; exact hk, hok', hdp⟩
    | step env2 st2 effs2 hok2 hf hdp2 =>
      simp only at h
      obtain ⟨k, hk, hok', hdp⟩ := ih env2 st2 (acc ++ effs2) env' st' effs s hok2 h hs
      refine ⟨k + 1, ?_, hok', by rw [hdp, hdp2]⟩
      simp only [frun, hf]
      rw [hdp2] at hk
      exact hk

/-- a fresh action is well-formed, and denotes the unrolling of its whole script -/
theorem C08_initial (dp : List Plug) (script : List Stmt) (plug : Option Plug) :
    StackOK [{ block := script, pos := 0, plug, itr := none, processing := false }] ∧
    abs dp [{ block := script, pos := 0, plug, itr := none, processing := false }] = ⟨unroll dp script plug, false⟩ := by
  refine ⟨⟨?_, by simp⟩, ?_⟩
  · intro c hc; simp only [List.mem_singleton] at hc; subst hc; exact ctxOK_fresh _ _ _
  · rw [abs_fresh _ _ _ rfl rfl]; simp [cont]

end Pm.I2

