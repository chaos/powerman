/-! # liblsd's list (`liblsd/list.c`) at node level

A mirror of `list.c`, one definition per C function, with the nodes *as memory cells with addresses*: the node memory is an
array of cells `(data, next)`; a node pointer (`ListNode`) is an index into it (`none` = `NULL`); a pointer to a node pointer
(`ListNode *`: `l->tail`, `i->prev`, the `pp` arguments of `list_node_create` / `list_node_destroy`, `pp` / `ppPrev` / `ppPos` of
`list_sort`) is a `Ref`: the address of `l->head` or the address of the `next` field of a cell.  The iterators registered with
the list (`l->iNext` chain) are carried with their `pos` / `prev` and are patched by `list_node_create` / `list_node_destroy`
exactly as in C.  The per-process free list of nodes (`list_free_nodes`, LIFO, refilled in chunks of `LIST_ALLOC` = 32 cells)
is modelled, so that a node address is reused exactly when the C code reuses it.

Conventions.
* Data pointers (`void *`) are values of an arbitrary type `α`; a cell holds `Option α` (`none` = `NULL`, also the content
  of fresh memory).  `assert (x != NULL)` is therefore true by typing.
* Every function returns an `Option`: `none` = the C code would die here — an `assert` fires (the only structural one is
  `assert ((i->pos == *i->prev) || (i->pos == (*i->prev)->next))` in the two node functions; the `magic` assertions become
  "the iterator handle is registered"), or a `NULL` / wild pointer is dereferenced, or a loop does not end (fuel; in valid
  states the fuel provably suffices: `Pm/LsdListLoop.lean`, `Pm/LsdListSort.lean`).
* `malloc` succeeds.  `list_node_free` leaves the cell as it is (in C its first word, `data`, is overwritten by the free-list
  link; nothing reads it).  The free lists of list headers and of iterator structs are not modelled (an iterator is named by a
  handle chosen by the caller); threads (`WITH_PTHREADS`) are not modelled.  `l->count` is a natural number.
* Callbacks (`ListFindF`, `ListForF`, `ListCmpF`, with their `key` / `arg` closed over) are pure functions: a callback that
  itself modifies the list is outside the model.  `fDel` is a flag; the functions that call it return the items it was called on.
* No proofs in this file.  It is compared with the real `list.c` by `harness/u_list.c` / `lib/listlayer.py` (driver `LlMain.lean`). -/
namespace Pm.LsdList

/-- `LIST_ALLOC` -/
def listAlloc : Nat := 32

/-- `struct listNode` -/
structure Cell (α : Type) where
  data : Option α
  next : Option Nat
  deriving Repr

/-- a `ListNode *`: `&l->head` or `&p->next` -/
inductive Ref where
  | head
  | next (p : Nat)
  deriving DecidableEq, Repr, Inhabited

/-- `struct listIterator` (without `list`, `iNext`, `magic`) -/
structure Iter where
  pos : Option Nat
  prev : Ref
  deriving DecidableEq, Repr, Inhabited

/-- the node memory and `list_free_nodes` (they outlive a list) -/
structure Heap (α : Type) where
  cells : Array (Cell α)
  free : List Nat

/-- `struct list`, together with the node memory and the iterator chain `l->iNext` (newest first), each iterator under the
    handle its creator chose -/
structure LList (α : Type) where
  cells : Array (Cell α)
  free : List Nat
  head : Option Nat
  tail : Ref
  count : Nat
  iters : List (Nat × Iter)
  fdel : Bool

variable {α : Type}

/-- `*r` (`none`: `r` is not the address of anything) -/
def load (l : LList α) : Ref → Option (Option Nat)
  | .head => some l.head
  | .next p => (l.cells[p]?).map (·.next)

/-- `*r = v` -/
def store (l : LList α) (r : Ref) (v : Option Nat) : Option (LList α) :=
  match r with
  | .head => some { l with head := v }
  | .next p =>
    match l.cells[p]? with
    | none => none
    | some c => some { l with cells := l.cells.setIfInBounds p { c with next := v } }

/-- `*r` when it must not be `NULL` (it is dereferenced next) -/
def ptr (l : LList α) (r : Ref) : Option Nat :=
  match load l r with
  | some (some p) => some p
  | _ => none

/-- `p->data` when it must not be `NULL` (it is handed to a callback) -/
def dataOf (l : LList α) (p : Nat) : Option α :=
  match l.cells[p]? with
  | some c => c.data
  | none => none

/-- `(*r)->data` -/
def dataAt (l : LList α) (r : Ref) : Option α :=
  match ptr l r with
  | some p => dataOf l p
  | none => none

/-- `list_node_alloc` (`list_alloc_aux`): the first cell of the free list; an empty free list is first refilled with a chunk
    of `LIST_ALLOC` fresh cells, chained in address order -/
def nodeAlloc (l : LList α) : Nat × LList α :=
  match l.free with
  | p :: rest => (p, { l with free := rest })
  | [] =>
    let n := l.cells.size
    (n, { l with cells := l.cells ++ Array.replicate listAlloc { data := none, next := none },
                 free := (List.range (listAlloc - 1)).map (fun k => n + 1 + k) })

/-- `list_node_free` -/
def nodeFree (l : LList α) (p : Nat) : LList α := { l with free := p :: l.free }

/-- `assert ((i->pos == *i->prev) || (i->pos == (*i->prev)->next))` -/
def iterAssert (l : LList α) (i : Iter) : Bool :=
  match load l i.prev with
  | none => false
  | some a =>
    if i.pos = a then true else
    match a with
    | none => false
    | some n => load l (.next n) == some i.pos

/-- the body of the iterator loop of `list_node_create` -/
def fixCreate (pp : Ref) (p : Nat) (pnext : Option Nat) (i : Iter) : Iter :=
  if i.prev = pp then { i with prev := .next p }
  else if i.pos = pnext then { i with pos := some p }
  else i

/-- the body of the iterator loop of `list_node_destroy` -/
def fixDestroy (pp : Ref) (p : Nat) (pnext : Option Nat) (i : Iter) : Iter :=
  if i.pos = some p then { pos := pnext, prev := pp }
  else if i.prev = .next p then { i with prev := pp }
  else i

/-- `for (i=l->iNext; i; i=i->iNext) { fix-up; assert }` -/
def fixIters (l : LList α) (fix : Iter → Iter) : List (Nat × Iter) → Option (List (Nat × Iter))
  | [] => some []
  | (k, i) :: rest =>
    if iterAssert l (fix i) then (fixIters l fix rest).map ((k, fix i) :: ·) else none

/-- `list_node_create (l, pp, x)` -/
def nodeCreate (l : LList α) (pp : Ref) (x : α) : Option (LList α) :=
  let (p, l1) := nodeAlloc l
  match load l1 pp with
  | none => none
  | some pnext =>
    let l2 := { l1 with cells := l1.cells.setIfInBounds p { data := some x, next := pnext } }
    let l3 := if pnext.isNone then { l2 with tail := .next p } else l2
    match store l3 pp (some p) with
    | none => none
    | some l4 =>
      let l5 := { l4 with count := l4.count + 1 }
      match fixIters l5 (fixCreate pp p pnext) l5.iters with
      | none => none
      | some its => some { l5 with iters := its }

/-- `list_node_destroy (l, pp)`: the data of the removed node (`NULL` when `*pp` is `NULL`) -/
def nodeDestroy (l : LList α) (pp : Ref) : Option (Option α × LList α) :=
  match load l pp with
  | none => none
  | some none => some (none, l)
  | some (some p) =>
    match l.cells[p]? with
    | none => none
    | some c =>
      match store l pp c.next with
      | none => none
      | some l1 =>
        let l2 := if c.next.isNone then { l1 with tail := pp } else l1
        let l3 := { l2 with count := l2.count - 1 }
        match fixIters l3 (fixDestroy pp p c.next) l3.iters with
        | none => none
        | some its => some (c.data, nodeFree { l3 with iters := its } p)

/-! ## general-purpose functions -/

/-- `list_create (f)` on the given node memory -/
def create (h : Heap α) (fdel : Bool) : LList α :=
  { cells := h.cells, free := h.free, head := none, tail := .head, count := 0, iters := [], fdel := fdel }

/-- the node loop of `list_destroy` -/
def destroyLoop : Nat → LList α → Option Nat → List α → Option (List α × LList α)
  | _, l, none, del => some (del, l)
  | 0, _, some _, _ => none
  | fuel + 1, l, some p, del =>
    match l.cells[p]? with
    | none => none
    | some c =>
      destroyLoop fuel (nodeFree l p) c.next (match c.data with | some d => if l.fdel then del ++ [d] else del | none => del)

/-- `list_destroy`: the items `fDel` was called on, and the node memory -/
def destroy (l : LList α) : Option (List α × Heap α) :=
  match destroyLoop (l.cells.size + 1) l l.head [] with
  | none => none
  | some (del, l') => some (del, { cells := l'.cells, free := l'.free })

/-- `list_is_empty` -/
def isEmpty (l : LList α) : Bool := l.count == 0

/-- `list_count` -/
def countOf (l : LList α) : Nat := l.count

/-- `list_append` -/
def append (l : LList α) (x : α) : Option (LList α) := nodeCreate l l.tail x

/-- `list_prepend` -/
def prepend (l : LList α) (x : α) : Option (LList α) := nodeCreate l .head x

/-- the loop of `list_find_first` -/
def findFirstLoop (l : LList α) (f : α → Bool) : Nat → Option Nat → Option (Option α)
  | _, none => some none
  | 0, some _ => none
  | fuel + 1, some p =>
    match l.cells[p]? with
    | none => none
    | some c =>
      match c.data with
      | none => none
      | some d => if f d then some (some d) else findFirstLoop l f fuel c.next

/-- `list_find_first (l, f, key)` -/
def findFirst (l : LList α) (f : α → Bool) : Option (Option α) := findFirstLoop l f (l.cells.size + 1) l.head

/-- the loop of `list_delete_all`: count so far, items handed to `fDel` so far -/
def deleteAllLoop (f : α → Bool) : Nat → LList α → Ref → Nat → List α → Option (Nat × List α × LList α)
  | 0, _, _, _, _ => none
  | fuel + 1, l, pp, n, del =>
    match load l pp with
    | none => none
    | some none => some (n, del, l)
    | some (some p) =>
      match dataOf l p with
      | none => none
      | some d =>
        if f d then
          match nodeDestroy l pp with
          | none => none
          | some (some v, l') => deleteAllLoop f fuel l' pp (n + 1) (if l.fdel then del ++ [v] else del)
          | some (none, l') => deleteAllLoop f fuel l' pp n del
        else deleteAllLoop f fuel l (.next p) n del

/-- `list_delete_all (l, f, key)`: the count, the items `fDel` was called on -/
def deleteAll (l : LList α) (f : α → Bool) : Option (Nat × List α × LList α) :=
  deleteAllLoop f (l.cells.size + 1) l .head 0 []

/-- the loop of `list_for_each` -/
def forEachLoop (l : LList α) (f : α → Int) : Nat → Option Nat → Int → Option Int
  | _, none, n => some n
  | 0, some _, _ => none
  | fuel + 1, some p, n =>
    match l.cells[p]? with
    | none => none
    | some c =>
      match c.data with
      | none => none
      | some d => if f d < 0 then some (-(n + 1)) else forEachLoop l f fuel c.next (n + 1)

/-- `list_for_each (l, f, arg)` -/
def forEach (l : LList α) (f : α → Int) : Option Int := forEachLoop l f (l.cells.size + 1) l.head 0

/-- the inner loop of `list_sort`: `while (f ((*pp)->data, (*ppPos)->data) >= 0) ppPos = &(*ppPos)->next;` (`x` = `(*pp)->data`) -/
def sortFindPos (l : LList α) (f : α → α → Int) (x : α) : Nat → Ref → Option Ref
  | 0, _ => none
  | fuel + 1, ppPos =>
    match ptr l ppPos with
    | none => none
    | some q =>
      match dataOf l q with
      | none => none
      | some y => if f x y ≥ 0 then sortFindPos l f x fuel (.next q) else some ppPos

/-- `pTmp = (*pp)->next; (*pp)->next = *ppPos; *ppPos = *pp; *pp = pTmp;` -/
def sortMove (l : LList α) (pp ppPos : Ref) : Option (LList α) :=
  match ptr l pp with
  | none => none
  | some q =>
    match load l (.next q), load l ppPos with
    | some pTmp, some a =>
      match store l (.next q) a with
      | none => none
      | some l1 =>
        match store l1 ppPos (some q) with
        | none => none
        | some l2 => store l2 pp pTmp
    | _, _ => none

/-- the outer loop of `list_sort`: the list and the final `pp` -/
def sortLoop (f : α → α → Int) : Nat → LList α → Ref → Ref → Option (LList α × Ref)
  | 0, _, _, _ => none
  | fuel + 1, l, ppPrev, pp =>
    match load l pp with
    | none => none
    | some none => some (l, pp)
    | some (some q) =>
      match dataOf l q, dataAt l ppPrev with
      | some x, some y =>
        if f x y < 0 then
          match sortFindPos l f x (l.cells.size + 1) .head with
          | none => none
          | some ppPos =>
            match sortMove l pp ppPos with
            | none => none
            | some l' =>
              if ppPrev = ppPos then
                match ptr l' ppPrev with
                | none => none
                | some r => sortLoop f fuel l' (.next r) pp
              else sortLoop f fuel l' ppPrev pp
        else sortLoop f fuel l pp (.next q)
      | _, _ => none

/-- `list_sort (l, f)` -/
def sort (l : LList α) (f : α → α → Int) : Option (LList α) :=
  if l.count > 1 then
    match ptr l .head with
    | none => none
    | some h =>
      match sortLoop f (l.cells.size + 1) l .head (.next h) with
      | none => none
      | some (l', pp) =>
        some { l' with tail := pp, iters := l'.iters.map (fun ki => (ki.1, { pos := l'.head, prev := .head })) }
  else some l

/-! ## stack and queue access -/

/-- `list_push` -/
def push (l : LList α) (x : α) : Option (LList α) := nodeCreate l .head x

/-- `list_pop` -/
def pop (l : LList α) : Option (Option α × LList α) := nodeDestroy l .head

/-- `list_peek` -/
def peek (l : LList α) : Option (Option α) :=
  match l.head with
  | none => some none
  | some p => (l.cells[p]?).map (·.data)

/-- `list_enqueue` -/
def enqueue (l : LList α) (x : α) : Option (LList α) := nodeCreate l l.tail x

/-- `list_dequeue` -/
def dequeue (l : LList α) : Option (Option α × LList α) := nodeDestroy l .head

/-! ## iterators -/

/-- the registered iterator with handle `k` (`assert (i->magic == LIST_MAGIC)`) -/
def iterOf (l : LList α) (k : Nat) : Option Iter := l.iters.lookup k

/-- `*i = v` for the registered iterator with handle `k` -/
def setIter (l : LList α) (k : Nat) (v : Iter) : LList α :=
  { l with iters := l.iters.map (fun ki => if ki.1 = k then (k, v) else ki) }

/-- `list_iterator_create (l)`; the new iterator gets the handle `k` -/
def iteratorCreate (l : LList α) (k : Nat) : LList α :=
  { l with iters := (k, { pos := l.head, prev := .head }) :: l.iters }

/-- `list_iterator_reset (i)` -/
def iteratorReset (l : LList α) (k : Nat) : Option (LList α) :=
  match iterOf l k with
  | none => none
  | some _ => some (setIter l k { pos := l.head, prev := .head })

/-- `list_iterator_destroy (i)`: unlinked from the chain -/
def iteratorDestroy (l : LList α) (k : Nat) : Option (LList α) :=
  match iterOf l k with
  | none => none
  | some _ => some { l with iters := l.iters.eraseP (fun ki => ki.1 == k) }

/-- `list_next (i)` -/
def next (l : LList α) (k : Nat) : Option (Option α × LList α) :=
  match iterOf l k with
  | none => none
  | some i =>
    -- if ((p = i->pos)) i->pos = p->next;
    let pos' : Option (Option Nat) := match i.pos with | none => some none | some p => (l.cells[p]?).map (·.next)
    match pos', load l i.prev with
    | some pos1, some a =>
      -- if (*i->prev != p) i->prev = &(*i->prev)->next;
      let prev' : Option Ref := if a ≠ i.pos then (match a with | some n => some (.next n) | none => none) else some i.prev
      match prev' with
      | none => none
      | some prev1 =>
        let v : Option (Option α) := match i.pos with | none => some none | some p => (l.cells[p]?).map (·.data)
        match v with
        | none => none
        | some v => some (v, setIter l k { pos := pos1, prev := prev1 })
    | _, _ => none

/-- `list_insert (i, x)` -/
def insert (l : LList α) (k : Nat) (x : α) : Option (LList α) :=
  match iterOf l k with
  | none => none
  | some i => nodeCreate l i.prev x

/-- `list_find (i, f, key)`: `while ((v=list_next(i)) && !f(v,key)) {;}` -/
def find (f : α → Bool) : Nat → LList α → Nat → Option (Option α × LList α)
  | 0, _, _ => none
  | fuel + 1, l, k =>
    match next l k with
    | none => none
    | some (none, l') => some (none, l')
    | some (some v, l') => if f v then some (some v, l') else find f fuel l' k

/-- `list_remove (i)` -/
def remove (l : LList α) (k : Nat) : Option (Option α × LList α) :=
  match iterOf l k with
  | none => none
  | some i =>
    match load l i.prev with
    | none => none
    | some a => if a ≠ i.pos then nodeDestroy l i.prev else some (none, l)

/-- `list_delete (i)`: 1 or 0, the item `fDel` was called on -/
def delete (l : LList α) (k : Nat) : Option (Nat × List α × LList α) :=
  match remove l k with
  | none => none
  | some (some v, l') => some (1, if l'.fdel then [v] else [], l')
  | some (none, l') => some (0, [], l')

/-! ## the state as the harness prints it, and the representation invariant -/

/-- the nodes from `p` on, following `next` to `NULL` (`none`: a wild pointer, or no end within the fuel) -/
def walk (cells : Array (Cell α)) : Nat → Option Nat → Option (List Nat)
  | _, none => some []
  | 0, some _ => none
  | fuel + 1, some p =>
    match cells[p]? with
    | none => none
    | some c => (walk cells fuel c.next).map (p :: ·)

/-- the nodes of the list in order -/
def nodes (l : LList α) : Option (List Nat) := walk l.cells (l.cells.size + 1) l.head

/-- the items in order: the chain from `head` (`NULL` data and wild pointers are skipped; `valid` excludes them) -/
def contents (l : LList α) : List α :=
  ((nodes l).getD []).filterMap (fun p => dataOf l p)

/-- the `next` fields along the chain: `&l->head`, then `&p->next` for every node -/
def fieldsOf (ns : List Nat) : List Ref := .head :: ns.map .next

/-- what these fields hold: every node, then `NULL` -/
def targetsOf (ns : List Nat) : List (Option Nat) := ns.map some ++ [none]

/-- an iterator's place: `prev` is the `j`-th field of the chain and `pos` is what that field holds (`gap = false`:
    nothing to remove) or the node after that (`gap = true`: the node the `j`-th field holds is the item last returned) -/
def iterPlace (ns : List Nat) (i : Iter) : Option (Nat × Bool) :=
  let j := (fieldsOf ns).idxOf i.prev
  if j ≤ ns.length then
    if (targetsOf ns)[j]? = some i.pos then some (j, false)
    else if (targetsOf ns)[j + 1]? = some i.pos then some (j, true)
    else none
  else none

/-- the representation invariant (it implies every assertion of `list.c`): the chain from `head` ends in `NULL`, has
    `count` nodes, all with data; `tail` is the address of the field that holds the final `NULL`; the free cells are
    distinct, exist, and are not in the chain; the iterator handles are distinct and every iterator has a place. -/
def valid (l : LList α) : Bool :=
  match nodes l with
  | none => false
  | some ns =>
    l.count == ns.length
    && l.tail == (fieldsOf ns).getLast!
    && ns.all (fun p => (dataOf l p).isSome)
    && decide l.free.Nodup
    && l.free.all (fun p => decide (p < l.cells.size) && !ns.contains p)
    && decide (l.iters.map (·.1)).Nodup
    && l.iters.all (fun ki => (iterPlace ns ki.2).isSome)

/-! ## sequences of calls -/

/-- one call of the API (`find` / `pred`: the callback and its key; `cmp`: the comparison) -/
inductive Op (α : Type) where
  | append (x : α) | prepend (x : α) | push (x : α) | enqueue (x : α)
  | pop | dequeue | peek | isEmpty | count
  | findFirst (f : α → Bool) | deleteAll (f : α → Bool) | forEach (f : α → Int) | sort (cmp : α → α → Int)
  | itCreate (k : Nat) | itReset (k : Nat) | itDestroy (k : Nat)
  | next (k : Nat) | insert (k : Nat) (x : α) | find (k : Nat) (f : α → Bool) | remove (k : Nat) | delete (k : Nat)

/-- what a call answers -/
inductive Res (α : Type) where
  | unit
  | item (v : Option α)
  | num (n : Int)
  | flag (b : Bool)
  | deleted (n : Nat) (items : List α)
  deriving Repr, DecidableEq

/-- the answer and the list after the call; `none`: the C code dies in it -/
def Op.apply (l : LList α) : Op α → Option (Res α × LList α)
  | .append x => (LsdList.append l x).map (.item (some x), ·)
  | .prepend x => (LsdList.prepend l x).map (.item (some x), ·)
  | .push x => (LsdList.push l x).map (.item (some x), ·)
  | .enqueue x => (LsdList.enqueue l x).map (.item (some x), ·)
  | .pop => (LsdList.pop l).map (fun r => (.item r.1, r.2))
  | .dequeue => (LsdList.dequeue l).map (fun r => (.item r.1, r.2))
  | .peek => (LsdList.peek l).map (fun v => (.item v, l))
  | .isEmpty => some (.flag (LsdList.isEmpty l), l)
  | .count => some (.num (LsdList.countOf l), l)
  | .findFirst f => (LsdList.findFirst l f).map (fun v => (.item v, l))
  | .deleteAll f => (LsdList.deleteAll l f).map (fun r => (.deleted r.1 r.2.1, r.2.2))
  | .forEach f => (LsdList.forEach l f).map (fun n => (.num n, l))
  | .sort cmp => (LsdList.sort l cmp).map (.unit, ·)
  | .itCreate k => if (iterOf l k).isSome then none else some (.unit, iteratorCreate l k)
  | .itReset k => (iteratorReset l k).map (.unit, ·)
  | .itDestroy k => (iteratorDestroy l k).map (.unit, ·)
  | .next k => (LsdList.next l k).map (fun r => (.item r.1, r.2))
  | .insert k x => (LsdList.insert l k x).map (.item (some x), ·)
  | .find k f => (LsdList.find f (l.cells.size + 2) l k).map (fun r => (.item r.1, r.2))
  | .remove k => (LsdList.remove l k).map (fun r => (.item r.1, r.2))
  | .delete k => (LsdList.delete l k).map (fun r => (.deleted r.1 r.2.1, r.2.2))

/-- a sequence of calls: the answers and the list at the end; `none`: the C code dies on the way -/
def run (l : LList α) : List (Op α) → Option (List (Res α) × LList α)
  | [] => some ([], l)
  | op :: ops =>
    match op.apply l with
    | none => none
    | some (r, l') => (run l' ops).map (fun x => (r :: x.1, x.2))

end Pm.LsdList
