import Pm.E2EDev
import Pm.E2ECli
import Pm.IsolationProof
import Pm.EnqLine
/-! End-to-end composition for C02: what a run of callbacks does to one client's command, and that `assert(c->cmd != NULL)` fires
    only through the sort assertion (`anyBad_F19`, finding F19); the invariant linking a client's command record to the actions
    of that client still in the device queues (`Link`: `pending` = number of its actions queued), which holds at start-up
    (`inv_init`, `initialConnect_inv`) and is kept by every pass that does not end in a modelled assertion; what one pass does to
    a client's command as a function of the completions the devices report for it (`CmdAfter`; `devPass_view`,
    `daemonPass_view`); that a command that is over never comes back (`Over`); the vocabulary of runs of `runPasses` (`Alive`,
    `runFins`); what the terminal reply of a power command says about the completions (`power_reply`); and how an evaluated
    run is read.  The run theorems: `Pm/RunXE2E.lean` (`sound`, `complete`, `errors`). -/
namespace Pm.Daemon.E2E
open Pm Pm.Client Pm.Daemon
open Pm.Daemon.Reply (cliOf outStep outText finErr isFin errPre okLine errLine withStore entriesOf isPower cmd_self)
open Pm.Daemon.Isolation (Iso IdsFresh ArgScope worldAt ids)
open Pm.Dev2 (Dev Action ActErr Oracle qcount fcount outCid)
open Pm.Dev2.Login2 (NoClientLogin)
open Pm.Daemon.Enq (installDev installTotal newActs)
abbrev DOut := Pm.Dev2.Out

/-! ## A. a run of callbacks, seen from one client -/

/-- a run of callbacks none of which is a completion for client `id`: the lines addressed to it are appended, in order;
    nothing else of its record changes — whether or not it has a command -/
theorem fold_nofin (name : Bytes) (id : Nat) (outs : List DOut) (acc : W × List String) (c : Cli)
    (h : cliOf acc.1 id = some c) (hn : outs.countP (isFin id) = 0) :
    cliOf (outs.foldl (outStep name) acc).1 id = some { c with toBuf := c.toBuf ++ outs.flatMap (outText name id) } := by
  rw [Reply.fold_rec, h]
  exact congrArg some (Reply.recRun_nofin name _ id outs c hn)

theorem split_last {α : Type} (p : α → Bool) (l : List α) (h : 0 < l.countP p) :
    ∃ pre x post, l = pre ++ x :: post ∧ p x = true ∧ post.countP p = 0 ∧ pre.countP p + 1 = l.countP p := by
  induction l with
  | nil => simp at h
  | cons y r ih =>
    by_cases hr : 0 < r.countP p
    · obtain ⟨pre, x, post, h1, h2, h3, h4⟩ := ih hr
      refine ⟨y :: pre, x, post, by rw [h1]; rfl, h2, h3, ?_⟩
      rw [List.countP_cons, List.countP_cons, ← h4]; omega
    · have hr0 : r.countP p = 0 := by omega
      rw [List.countP_cons, hr0] at h
      have hy : p y = true := by
        cases hb : p y
        · rw [hb] at h; simp at h
        · rfl
      exact ⟨[], y, r, rfl, hy, hr0, by rw [List.countP_cons, hr0, hy]; simp⟩

theorem isFin_iff {id : Nat} {x : DOut} : isFin id x = true ↔ ∃ e, x = Pm.Dev2.Out.finish id e := by
  cases x <;> simp [isFin]

/-- the command as the reply functions see it when the run `pre`, then the completion `e`, have been delivered -/
def finalCmd (w : W) (k : CmdC) (id : Nat) (pre : List DOut) (e : ActErr) : CmdC :=
  { k with error := k.error || pre.any (finErr id) || (e != .success), args := (storeArgs w k.al).map argC }

/-- **a whole run of callbacks, seen from client `id`** (`applyOuts` for one device).  With `n` = the number of completions
    for `id` in the run:
    * no command, `n = 0`: only the lines addressed to the client are appended;
    * a command with more than `n` completions outstanding: `pending` lowered by `n`, their error bits or-ed into the flag,
      the lines appended (`Reply.fold_pending`);
    * a command with exactly `n > 0` outstanding: the run splits at the last completion `e` for `id` into `pre`, `e`, `post`
      (no completion for `id` in `post`), and either building the reply hit the sort assertion (reported) or the command
      is cleared and the client was sent: the lines of `pre`, the `308` line of `e` if any, the reply computed from the
      accumulated error flag and the arglist in the store, the prompt — and then the lines of `post`. -/
theorem applyOuts_client (w : W) (name : Bytes) (outs : List DOut) (id : Nat) (c : Cli) (h : cliOf w id = some c) :
    (c.cmd = none → outs.countP (isFin id) = 0 →
      cliOf (applyOuts w name outs).1 id = some { c with toBuf := c.toBuf ++ outs.flatMap (outText name id) }) ∧
    (∀ k, c.cmd = some k → outs.countP (isFin id) < k.pending →
      cliOf (applyOuts w name outs).1 id =
        some { c with cmd := some { k with error := k.error || outs.any (finErr id), pending := k.pending - outs.countP (isFin id) },
                      toBuf := c.toBuf ++ outs.flatMap (outText name id) }) ∧
    (∀ k, c.cmd = some k → 0 < k.pending → outs.countP (isFin id) = k.pending →
      ∃ pre e post, outs = pre ++ Pm.Dev2.Out.finish id e :: post ∧ post.countP (isFin id) = 0 ∧
        pre.countP (isFin id) + 1 = k.pending ∧
        ("O ABORT act_finish" ∈ (applyOuts w name outs).2 ∨
         ∃ r, finalReply c.exprange (finalCmd w k id pre e) = some r ∧
           cliOf (applyOuts w name outs).1 id =
             some { c with cmd := none,
                           toBuf := c.toBuf ++ pre.flatMap (outText name id) ++ errPre e name ++ r ++ prompt ++
                                    post.flatMap (outText name id) })) := by
  rw [Reply.applyOuts_eq]
  refine ⟨fun _ hn => fold_nofin name id outs (w, []) c h hn, fun k hk hlt => Reply.fold_pending name id outs (w, []) c k h hk hlt, ?_⟩
  intro k hk hpos hn
  obtain ⟨pre, x, post, h1, h2, h3, h4⟩ := split_last (isFin id) outs (by omega)
  obtain ⟨e, rfl⟩ := isFin_iff.mp h2
  refine ⟨pre, e, post, h1, h3, by omega, ?_⟩
  have hf := Reply.fold_final name id pre e (w, []) c k h hk (by omega)
  simp only at hf
  have hsplit : outs.foldl (outStep name) (w, []) =
      post.foldl (outStep name) ((pre ++ [Pm.Dev2.Out.finish id e]).foldl (outStep name) (w, [])) := by
    rw [h1, ← List.foldl_append]; simp
  rw [hsplit]
  generalize (pre ++ [Pm.Dev2.Out.finish id e]).foldl (outStep name) (w, []) = mid at hf ⊢
  cases hr : finalReply c.exprange (finalCmd w k id pre e) with
  | none =>
    left
    unfold finalCmd at hr
    rw [hr] at hf
    exact Reply.fold_msgs_mono name post mid _ hf
  | some r =>
    right
    unfold finalCmd at hr
    rw [hr] at hf
    refine ⟨r, rfl, ?_⟩
    rw [fold_nofin name id post mid _ hf h3]

/-! ### the assertion in `_act_finish` -/

/-- some `_act_finish` call of the run of callbacks returned through an assertion (`assert(c->cmd != NULL)`, or the
    assertion inside `hostlist_sort` while the reply was built) -/
def anyBad (name : Bytes) : W → List DOut → Bool
  | _, [] => false
  | w, o :: r =>
    (match o with | .finish cid e => (actFinish w cid e name).2 | _ => false) || anyBad name (outStep name (w, []) o).1 r

/-- `anyBad` is the model's own report: an `_act_finish` of the run that returned through an assertion left the line
    `O ABORT act_finish` among the messages of `applyOuts`, which is what makes `devPass` set `dead` -/
theorem anyBad_reported (name : Bytes) (w : W) (outs : List DOut) (h : anyBad name w outs = true) :
    "O ABORT act_finish" ∈ (applyOuts w name outs).2 := by
  rw [Reply.applyOuts_eq]
  have key : ∀ (outs : List DOut) (acc : W × List String),
      anyBad name acc.1 outs = true → "O ABORT act_finish" ∈ (outs.foldl (outStep name) acc).2 := by
    intro outs
    induction outs with
    | nil => intro acc h; cases h
    | cons o r ih =>
      intro acc h
      rw [List.foldl_cons]
      have hw : (outStep name (acc.1, []) o).1 = (outStep name acc o).1 := by cases o <;> rfl
      cases o with
      | finish cid e =>
        have h : ((actFinish acc.1 cid e name).2 || anyBad name (outStep name (acc.1, []) (.finish cid e)).1 r) = true := h
        rcases Bool.or_eq_true_iff.mp h with h | h
        · refine Reply.fold_msgs_mono name r _ _ ?_
          show _ ∈ (if (actFinish acc.1 cid e name).2 then acc.2 ++ ["O ABORT act_finish"] else acc.2)
          rw [if_pos h]; exact List.mem_append_right _ (List.mem_singleton.mpr rfl)
        · exact ih _ (hw ▸ h)
      | _ => exact ih _ (hw ▸ (show anyBad name (outStep name (acc.1, []) _).1 r = true from h))
  exact key outs (w, []) h

/-- the number of completions a client waits for: `pending` of its command, `0` without a command -/
def pendingOf (c : Cli) : Nat := match c.cmd with | some k => k.pending | none => 0

theorem pendingOf_none {c : Cli} (h : c.cmd = none) : pendingOf c = 0 := by unfold pendingOf; rw [h]
theorem pendingOf_some {c : Cli} {k : CmdC} (h : c.cmd = some k) : pendingOf c = k.pending := by unfold pendingOf; rw [h]

/-- One callback, under the hypothesis `anyBad_F19` carries along the run — nobody is sent more completions than it waits
    for, a command in progress waits for at least one: either this is F19 (the last completion of a command, and the reply
    cannot be built), or the callback's `_act_finish` does not end in an assertion and the hypothesis holds for the rest. -/
theorem outStep_owed (name : Bytes) (o : DOut) (r : List DOut) (w : W)
    (h : ∀ g c, cliOf w g = some c → (o :: r).countP (isFin g) ≤ pendingOf c ∧ ∀ k, c.cmd = some k → 0 < k.pending) :
    (∃ g c k e, cliOf w g = some c ∧ c.cmd = some k ∧ k.pending = 1 ∧ finalReply c.exprange (withStore w k e) = none) ∨
    (anyBad name w (o :: r) = anyBad name (outStep name (w, []) o).1 r ∧
      ∀ g c, cliOf (outStep name (w, []) o).1 g = some c →
        r.countP (isFin g) ≤ pendingOf c ∧ ∀ k, c.cmd = some k → 0 < k.pending) := by
  -- either some last completion would hit the sort assertion, or every reply that is asked for can be built
  by_cases hF : ∃ g c k e, cliOf w g = some c ∧ c.cmd = some k ∧ k.pending = 1 ∧ finalReply c.exprange (withStore w k e) = none
  · exact Or.inl hF
  have hreply : ∀ g c k e, cliOf w g = some c → c.cmd = some k → k.pending = 1 →
      ∃ rr, finalReply c.exprange { k with error := k.error || (e != ActErr.success), args := cellsOf w k.al } = some rr := by
    intro g c k e hc hk hp
    cases hr : finalReply c.exprange { k with error := k.error || (e != ActErr.success), args := cellsOf w k.al } with
    | some rr => exact ⟨rr, rfl⟩
    | none => exact absurd ⟨g, c, k, e, hc, hk, hp, hr⟩ hF
  refine Or.inr ⟨?_, fun g c' hc' => ?_⟩
  · -- no `_act_finish` verdict
    cases o with
    | finish cid e =>
      show ((actFinish w cid e name).2 || _) = _
      rw [actFinish_decide]
      cases hq : cliRec w cid with
      | none => rfl
      | some c =>
        obtain ⟨hle, hpos⟩ := h cid c hq
        rw [List.countP_cons, show isFin cid (Pm.Dev2.Out.finish cid e) = true by simp [isFin]] at hle
        cases hk : c.cmd with
        | none => rw [pendingOf_none hk, if_pos rfl] at hle; exact absurd hle (by omega)
        | some k =>
          dsimp only
          rw [hk]
          by_cases hp : k.pending = 1
          · obtain ⟨rr, hr⟩ := hreply cid c k e hq hk hp
            rw [finDecide_last _ _ _ _ hp, hr]; rfl
          · rw [finDecide_more _ _ _ _ hp]; rfl
    | _ => rfl
  · -- the record of every client goes through `recOut`
    rw [Reply.outStep_eq, Reply.cliOf_eq, applyOut_rec] at hc'
    cases hq : cliRec w g with
    | none => rw [hq] at hc'; cases hc'
    | some c =>
      rw [hq] at hc'
      cases hc'
      obtain ⟨hle, hpos⟩ := h g c hq
      rw [List.countP_cons] at hle
      cases hk : c.cmd with
      | none =>
        have h0 := pendingOf_none hk
        have hf : isFin g o = false := by
          cases hb : isFin g o
          · rfl
          · rw [hb, h0] at hle; simp at hle
        rw [Reply.recOut_nofin name _ g o c hf]
        exact ⟨show r.countP (isFin g) ≤ pendingOf c by omega, fun k hk' => absurd (hk.symm.trans hk') (by simp)⟩
      | some k =>
        have hpk : pendingOf c = k.pending := pendingOf_some hk
        have hp0 := hpos k hk
        by_cases hlast : isFin g o = true ∧ k.pending = 1
        · obtain ⟨e, rfl⟩ := isFin_iff.mp hlast.1
          obtain ⟨rr, hr⟩ := hreply g c k e hq hk hlast.2
          rw [Reply.recOut_last name _ g e c k hk hlast.2, hr]
          rw [hlast.1, if_pos rfl, hpk, hlast.2] at hle
          exact ⟨show r.countP (isFin g) ≤ 0 by omega, fun k' hk' => by simp at hk'⟩
        · have hp : isFin g o = true → k.pending ≠ 1 := fun hf hp => hlast ⟨hf, hp⟩
          rw [Reply.recOut_pending name _ g o c k hk hp]
          rw [hpk] at hle
          by_cases hf : isFin g o = true
          · have := hp hf
            rw [if_pos hf] at hle ⊢
            exact ⟨show r.countP (isFin g) ≤ k.pending - 1 by omega, fun k' hk' => by cases hk'; show 0 < k.pending - 1; omega⟩
          · rw [if_neg hf] at hle ⊢
            exact ⟨show r.countP (isFin g) ≤ k.pending - 0 by omega, fun k' hk' => by cases hk'; show 0 < k.pending - 0; omega⟩

/-- **`assert(c->cmd != NULL)` cannot fire.**  If no client is sent more completions than it waits for (which the invariant
    `Link` guarantees for every device's turn) and a command in progress waits for at least one, the only way an
    `_act_finish` call of the run ends in an assertion is F19: the last completion of a command arrives and the reply
    cannot be built because `hostlist_sort` asserts (a query command: for a power command the reply always exists). -/
theorem anyBad_F19 (name : Bytes) : ∀ (outs : List DOut) (w : W),
    (∀ g c, cliOf w g = some c → outs.countP (isFin g) ≤ pendingOf c) →
    (∀ g c k, cliOf w g = some c → c.cmd = some k → 0 < k.pending) → anyBad name w outs = true →
    ∃ wm g c k e, cliOf wm g = some c ∧ c.cmd = some k ∧ k.pending = 1 ∧ finalReply c.exprange (withStore wm k e) = none := by
  intro outs
  induction outs with
  | nil => intro w _ _ h; simp [anyBad] at h
  | cons o r ih =>
    intro w hcount hpos h
    rcases outStep_owed name o r w (fun g c hc => ⟨hcount g c hc, fun k => hpos g c k hc⟩) with ⟨g, c, k, e, hw⟩ | ⟨h0, h1⟩
    · exact ⟨w, g, c, k, e, hw⟩
    · rw [h0] at h
      exact ih _ (fun g c hc => (h1 g c hc).1) (fun g c k hc => (h1 g c hc).2 k) h

/-! ## B. the invariant -/

/-- **`pending` = queued.**  For every live client the number of completions it waits for is the number of its actions in
    all device queues, and a command in progress waits for at least one; client actions never use script slot 0 (login:
    `_disconnect` drops such a head silently); arglist id 0 is never handed out (it is the dummy id of the internal
    actions). -/
structure Link (w : W) : Prop where
  count : ∀ g c, cliRec w g = some c → pendingOf c = totalQ g w.devs
  pos : ∀ g c k, cliRec w g = some c → c.cmd = some k → 0 < k.pending
  ncl : ∀ nd ∈ w.devs, NoClientLogin nd.2
  al : 0 < w.alNext
  alpos : ∀ g c k, cliRec w g = some c → c.cmd = some k → 0 < k.al

/-- the id and arglist disciplines of C11 together with `Link` -/
def Inv (w : W) : Prop := Iso w ∧ Link w

theorem Inv.iso {w : W} (h : Inv w) : Iso w := h.1
theorem Inv.ids {w : W} (h : Inv w) : IdsFresh w := h.1.1
theorem Inv.scope {w : W} (h : Inv w) : ArgScope w := h.1.2
theorem Inv.link {w : W} (h : Inv w) : Link w := h.2

theorem Link.congr {w w' : W} (h : Link w) (h1 : w'.clients = w.clients) (h2 : w'.devs = w.devs) (h3 : w'.alNext = w.alNext) :
    Link w' := by
  have hc : ∀ g, cliRec w' g = cliRec w g := cliRec_congr h1
  exact ⟨fun g c hg => by rw [h2]; exact h.count g c (hc g ▸ hg), fun g c k hg => h.pos g c k (hc g ▸ hg),
    by rw [h2]; exact h.ncl, by rw [h3]; exact h.al, fun g c k hg => h.alpos g c k (hc g ▸ hg)⟩

/-- the invariant reads the client table, the devices and the two counters only -/
theorem Inv.congr {w w' : W} (h : Inv w) (h1 : w'.clients = w.clients) (h2 : w'.devs = w.devs) (h3 : w'.nextId = w.nextId)
    (h4 : w'.alNext = w.alNext) : Inv w' :=
  ⟨⟨h.ids.congr h1 h3 h2, h.scope.congr h1 h4 h2⟩, h.link.congr h1 h2 h4⟩

theorem Inv.withX {w : W} (h : Inv w) (xs : List Pm.Dev2.RxCall) : Inv { w with pendingX := xs } := h.congr rfl rfl rfl rfl

theorem Inv.endPass {w : W} (h : Inv w) (t : Option Nat) : Inv { w with pendingX := [], tmo := t } := h.congr rfl rfl rfl rfl

theorem cliAccept_link (w : W) (acc : Nat) (hI : IdsFresh w) (h : Link w) : Link (ClientPf.cliAccept w acc) := by
  obtain ⟨new, k, n, ev, _, _, e⟩ := cliAccept_shape w acc
  have hdevs : (ClientPf.cliAccept w acc).devs = w.devs := by rw [e]
  have hal : (ClientPf.cliAccept w acc).alNext = w.alNext := by rw [e]
  refine ⟨fun g c hg => ?_, fun g c k hg hk => h.pos g c k (cliAccept_rec_cmd w acc g c k hg hk) hk, hdevs ▸ h.ncl, hal ▸ h.al,
    fun g c k hg hk => h.alpos g c k (cliAccept_rec_cmd w acc g c k hg hk) hk⟩
  rw [hdevs]
  rcases cliAccept_rec_cases w acc g c hg with hg | ⟨rfl, rfl⟩
  · exact h.count g c hg
  · -- the new client waits for nothing, and no queued action carries the id it got
    rw [totalQ_zero_of fun nd hnd a ha e => Nat.lt_irrefl _ (e ▸ hI.acts nd hnd a ha)]
    rfl

theorem installDev_ncl (cm : Com) (bn : List Bytes) (cid : Nat) (tele : Bool) (al : Nat) (nd : Bytes × Dev)
    (h : NoClientLogin nd.2) : NoClientLogin (installDev (comIdx cm) bn cid tele al nd).2 := by
  unfold NoClientLogin
  rw [(Enq.installDev_spec (comIdx cm) bn cid tele al nd).2.2.1]
  intro a ha h0
  rcases List.mem_append.mp ha with ha | ha
  · exact h a ha h0
  · exfalso
    rcases (Enq.newActs_kind ha).1 with e | e | e
    · rw [e] at h0; cases cm <;> simp [comIdx] at h0
    · exact Pm.Dev2.Login2.allOf_ne_zero _ _ e h0
    · exact Pm.Dev2.Login2.rangedOf_ne_zero _ _ e h0

/-- one turn of the loop of `cli_post_poll` and the shared tables: queues, store and arglist counter are what they were, or
    one request of the client served was accepted — every device went through `installDev`, stamped with the arglist id
    `alNext`, and one arglist was opened under that id -/
theorem cliStep_world (envs : List FdEnv) (w : W) (c0 : Cli) :
    ((ClientPf.cliStep envs w c0).devs = w.devs ∧ (ClientPf.cliStep envs w c0).store = w.store ∧
      (ClientPf.cliStep envs w c0).alNext = w.alNext) ∨
    ∃ args com bn tele, (ClientPf.cliStep envs w c0).devs = w.devs.map (installDev com bn c0.id tele w.alNext) ∧
      (ClientPf.cliStep envs w c0).store = (w.alNext, args) :: w.store ∧ (ClientPf.cliStep envs w c0).alNext = w.alNext + 1 := by
  rcases Isolation.cliStep_does envs w c0 with ⟨_, e⟩ | ⟨_, ext, t⟩
  · rw [e]; exact Or.inl ⟨rfl, rfl, rfl⟩
  cases hr : (clientPass w c0 (envs.find? (·.fd == c0.fd))).2 with
  | none => exact Or.inl ⟨(t.gone hr).devs, (t.gone hr).store, (t.gone hr).alNext⟩
  | some c =>
    rcases (t.alive c hr).inst.enq with ⟨a1, a2, a3, _⟩ | ⟨_, _, args, com, bn, tele, _, _, b3, b4, b5⟩
    · exact Or.inl ⟨a1, a2, a3⟩
    · exact Or.inr ⟨args, com, bn, tele, b5, b4, b3⟩

theorem cliStep_alNext (envs : List FdEnv) (w : W) (c0 : Cli) : w.alNext ≤ (ClientPf.cliStep envs w c0).alNext := by
  rcases cliStep_world envs w c0 with ⟨_, _, h⟩ | ⟨_, _, _, _, _, _, h⟩ <;> rw [h]
  · exact Nat.le_refl _
  · exact Nat.le_succ _

/-- **one turn of the loop of `cli_post_poll` keeps `Link`.**  The turn does nothing, or unlinks the client (queues as they were),
    or writes its record back after at most one accepted request: then every queue grew by `installDev`, the client served waits
    for exactly `installTotal` more (`totalQ_install` at its own id), and for every other id the count is unchanged
    (`totalQ_install` at another id adds `0`) and so is the record. -/
theorem cliStep_link (envs : List FdEnv) (w : W) (c0 : Cli) (hI : Iso w) (h : Link w) (hc0 : c0 ∈ w.clients) :
    Link (ClientPf.cliStep envs w c0) := by
  -- `Link`, record by record
  suffices key : (∀ g c, cliRec (ClientPf.cliStep envs w c0) g = some c →
        pendingOf c = totalQ g (ClientPf.cliStep envs w c0).devs ∧ ∀ k, c.cmd = some k → 0 < k.pending ∧ 0 < k.al) ∧
      ∀ nd ∈ (ClientPf.cliStep envs w c0).devs, NoClientLogin nd.2 from
    ⟨fun g c hc => (key.1 g c hc).1, fun g c k hc hk => ((key.1 g c hc).2 k hk).1, key.2,
      Nat.lt_of_lt_of_le h.al (cliStep_alNext envs w c0), fun g c k hc hk => ((key.1 g c hc).2 k hk).2⟩
  have hold : ∀ g c, cliRec w g = some c → pendingOf c = totalQ g w.devs ∧ ∀ k, c.cmd = some k → 0 < k.pending ∧ 0 < k.al :=
    fun g c hc => ⟨h.count g c hc, fun k hk => ⟨h.pos g c k hc hk, h.alpos g c k hc hk⟩⟩
  have hrec0 : cliRec w c0.id = some c0 := hI.1.cliRec_of_mem hc0
  rcases Isolation.cliStep_does envs w c0 with ⟨_, e⟩ | ⟨_, ext, t⟩
  · rw [e]; exact ⟨hold, h.ncl⟩
  generalize ClientPf.cliStep envs w c0 = w' at t ⊢
  -- the other clients: same record, and the request (if any) adds none of their actions
  have hoth : ∀ g c', g ≠ c0.id → cliRec w' g = some c' → cliRec w g = some c' := fun g c' hg hc' => t.other g hg ▸ hc'
  cases hr : (clientPass w c0 (envs.find? (·.fd == c0.fd))).2 with
  | some c =>
    have hinst := (t.alive c hr).inst
    have henq := hinst.enq
    have hself : cliRec w' c0.id = some c := (t.self hc0).trans hr
    rcases hinst.req with ⟨d1, d2⟩ | ⟨hidle, cm, names, tele, al, b1, b2, _, b4⟩
    · rw [d1]
      refine ⟨fun g c' hc' => ?_, h.ncl⟩
      by_cases hg : g = c0.id
      · subst hg
        rw [hself] at hc'; cases hc'
        have := hold c0.id c0 hrec0
        unfold pendingOf at this ⊢
        rw [d2]; exact this
      · exact hold g c' (hoth g c' hg hc')
    · rw [b4]
      refine ⟨fun g c' hc' => ?_, ?_⟩
      · rw [totalQ_install]
        by_cases hg : g = c0.id
        · subst hg
          rw [hself] at hc'; cases hc'
          have := h.count c0.id c0 hrec0
          unfold pendingOf at this ⊢
          rw [hidle] at this
          rw [b1, if_pos rfl, ← this]
          refine ⟨by simp, fun k hk => ?_⟩
          simp only [Option.some.injEq] at hk
          subst hk
          rcases henq with ⟨_, _, _, a4⟩ | ⟨_, k0, _, _, _, _, e1, e2, _⟩
          · rw [hidle, b1] at a4; cases a4
          · rw [b1] at e1; cases e1; exact ⟨b2, by rw [e2]; exact h.al⟩
        · rw [if_neg hg, Nat.add_zero]
          exact hold g c' (hoth g c' hg hc')
      · intro nd hnd
        obtain ⟨nd0, hnd0, rfl⟩ := List.mem_map.mp hnd
        exact installDev_ncl cm _ _ _ _ nd0 (h.ncl nd0 hnd0)
  | none =>
    rw [(t.gone hr).devs]
    refine ⟨fun g c hg => hold g c ?_, h.ncl⟩
    by_cases hgc : g = c0.id
    · rw [hgc, t.self hc0, hr] at hg; cases hg
    · exact hoth g c hgc hg

theorem cliStep_inv (envs : List FdEnv) (w : W) (c : Cli) (h : Inv w) (hc : c ∈ w.clients) : Inv (ClientPf.cliStep envs w c) := by
  have hidm : c.id ∈ ids w := List.mem_map.mpr ⟨c, hc, rfl⟩
  exact ⟨⟨(Isolation.cliStep_ids envs w c h.ids (h.ids.below c.id hidm)).1,
    Isolation.cliStep_scope envs w c h.scope (h.ids.cliRec_of_mem hc) (Nat.ne_of_gt (h.ids.pos c.id hidm))⟩,
    cliStep_link envs w c h.iso h.link hc⟩

/-- `cli_post_poll` keeps the invariant, and with it every property that each turn of its loop keeps under the invariant -/
theorem cliPostPoll_inv_and (w : W) (acc : Nat) (envs : List FdEnv) (P : W → Prop) (h : Inv w)
    (h0 : P (ClientPf.cliAccept { w with sys := [], caps := envs.map fun (e : FdEnv) => (e.fd, e.cap) } acc))
    (hP : ∀ w c0, Inv w → P w → c0 ∈ w.clients → P (ClientPf.cliStep envs w c0)) :
    Inv (cliPostPoll w acc envs) ∧ P (cliPostPoll w acc envs) := by
  have h1 : Inv { w with sys := [], caps := envs.map fun (e : FdEnv) => (e.fd, e.cap) } := h.congr rfl rfl rfl rfl
  have h2 : Inv (ClientPf.cliAccept _ acc) :=
    ⟨⟨Isolation.cliAccept_ids _ acc h1.1.1, Isolation.cliAccept_scope _ acc h1.1.2⟩, cliAccept_link _ acc h1.1.1 h1.2⟩
  exact cliPostPoll_keeps (fun u => Inv u ∧ P u) (fun _ hu => hu.1.ids.nodup) w acc envs ⟨h2, h0⟩
    (fun u c0 hu hc0 => ⟨cliStep_inv envs u c0 hu.1 hc0, hP u c0 hu.1 hu.2 hc0⟩)

/-- a property that `accept` establishes and every turn of the loop of `cli_post_poll` keeps (under the invariant) holds
    after `cli_post_poll` -/
theorem cliPostPoll_with_inv (w : W) (acc : Nat) (envs : List FdEnv) (P : W → Prop) (h : Inv w)
    (h0 : P (ClientPf.cliAccept { w with sys := [], caps := envs.map fun (e : FdEnv) => (e.fd, e.cap) } acc))
    (hP : ∀ w c0, Inv w → P w → c0 ∈ w.clients → P (ClientPf.cliStep envs w c0)) : P (cliPostPoll w acc envs) :=
  (cliPostPoll_inv_and w acc envs P h h0 hP).2

theorem cliPostPoll_inv (w : W) (acc : Nat) (envs : List FdEnv) (h : Inv w) : Inv (cliPostPoll w acc envs) :=
  (cliPostPoll_inv_and w acc envs (fun _ => True) h trivial (fun _ _ _ _ _ => trivial)).1

/-! ## C. one device's share of the device phase -/

theorem fcount_eq (g : Nat) (outs : List DOut) : fcount g outs = outs.countP (isFin g) := by
  unfold fcount
  congr 1

/-- the callbacks of device `nd`'s turn -/
abbrev outsOf (p : PassIn) (a : DevAcc) (nd : Bytes × Dev) : List DOut := (devStep p a.w a.oracle nd).2.2.1
/-- the device as its turn leaves it -/
abbrev devAfter (p : PassIn) (a : DevAcc) (nd : Bytes × Dev) : Dev := (devStep p a.w a.oracle nd).1.dev

theorem devStep_ncl (p : PassIn) (w : W) (o : Oracle) (nd : Bytes × Dev) (h : NoClientLogin nd.2) :
    NoClientLogin (devStep p w o nd).1.dev :=
  (Pm.Dev2.Login2.postPoll_fifo { nd.2 with args := w.store } (devEnv p w nd) o h).1

theorem devStep_count (p : PassIn) (w : W) (o : Oracle) (nd : Bytes × Dev) (h : NoClientLogin nd.2) (g : Nat) (hg : g ≠ 0) :
    (devStep p w o nd).2.2.1.countP (isFin g) + qcount g (devStep p w o nd).1.dev.acts = qcount g nd.2.acts := by
  rw [← fcount_eq]
  exact Pm.Dev2.E2E.postPoll_count { nd.2 with args := w.store } (devEnv p w nd) o h g hg

/-- a turn after which the pass is alive started alive, and no `_act_finish` hit an assertion in it -/
theorem devPass_was_alive (p : PassIn) (a : DevAcc) (nd : Bytes × Dev) (h : (devPass p a nd).dead = false) :
    a.dead = false ∧ "O ABORT act_finish" ∉ (applyOuts (afterStep a.w (devStep p a.w a.oracle nd).1) nd.1 (outsOf p a nd)).2 := by
  have hd : a.dead = false := alive_of_foldl p [nd] a h
  refine ⟨hd, fun hm => ?_⟩
  rw [Pm.Daemon.devPass_alive p a nd hd] at h
  have h2 : isAbortMsg (applyOuts (afterStep a.w (devStep p a.w a.oracle nd).1) nd.1 (outsOf p a nd)).2 = false :=
    (Bool.or_eq_false_iff.mp h).2
  have : isAbortMsg (applyOuts (afterStep a.w (devStep p a.w a.oracle nd).1) nd.1 (outsOf p a nd)).2 = true := by
    unfold isAbortMsg
    rw [List.any_eq_true]
    exact ⟨_, hm, by decide +kernel⟩
  rw [h2] at this; cases this

theorem stepped_alive (p : PassIn) (a : DevAcc) (nd : Bytes × Dev) (hd : a.dead = false) :
    stepped p a nd = (nd.1, devAfter p a nd) := by
  unfold stepped; simp [hd]

theorem cliRec_isSome_iff (w : W) (g : Nat) : (cliRec w g).isSome = true ↔ g ∈ ids w := by
  unfold cliRec ids
  rw [List.find?_isSome]
  simp only [List.mem_map, beq_iff_eq]

/-- a live client's id is not `0`, the id of the internal login and ping actions -/
theorem Inv.ne_zero {w : W} (h : Inv w) {g : Nat} {c : Cli} (hc : cliRec w g = some c) : g ≠ 0 :=
  Nat.ne_of_gt (h.ids.pos g ((cliRec_isSome_iff w g).mp (by rw [hc]; rfl)))

theorem outText_of_notMine (name : Bytes) (g : Nat) (x : DOut) (h : outCid x ≠ some g) : outText name g x = [] := by
  cases x with
  | finish cid e => exact if_neg fun e' => h (congrArg some e')
  | telemetry cid t => exact if_neg fun e' => h (congrArg some e')
  | diag cid t => exact if_neg fun e' => h (congrArg some e')
  | _ => rfl

theorem isFin_of_finErr {g : Nat} {x : DOut} (h : finErr g x = true) : isFin g x = true := by
  cases x with
  | finish cid e => exact (Bool.and_eq_true_iff.mp h).1
  | _ => cases h

theorem Link.le_pending {w : W} (h : Link w) {g : Nat} {c : Cli} (hc : cliRec w g = some c) {nd : Bytes × Dev} (hnd : nd ∈ w.devs) :
    qcount g nd.2.acts ≤ pendingOf c := by
  rw [h.count g c hc]
  obtain ⟨l1, l2, e⟩ := List.append_of_mem hnd
  rw [e, totalQ_append, totalQ_cons]; omega

theorem forCid_nil_of_lastFin {g : Nat} {pre post : List DOut} {e : ActErr}
    (h : Pm.Dev2.E2E.LastFin g (pre ++ Pm.Dev2.Out.finish g e :: post)) (hp : post.countP (isFin g) = 0) :
    ∀ x ∈ post, outCid x ≠ some g := by
  have hnil : Pm.Dev2.E2E.forCid g post = [] := by
    cases hl : (Pm.Dev2.E2E.forCid g post).getLast? with
    | none => exact List.getLast?_eq_none_iff.mp hl
    | some x =>
      exfalso
      have hx : (Pm.Dev2.E2E.forCid g (pre ++ Pm.Dev2.Out.finish g e :: post)).getLast? = some x := by
        rw [show pre ++ Pm.Dev2.Out.finish g e :: post = (pre ++ [Pm.Dev2.Out.finish g e]) ++ post by simp,
          Pm.Dev2.E2E.forCid_append, List.getLast?_append, hl]
        rfl
      have hfin := h x hx
      have hmem := List.mem_of_getLast? hl
      have hxp : x ∈ post := (List.mem_filter.mp hmem).1
      have hxc : outCid x = some g := by simpa using (List.mem_filter.mp hmem).2
      have : isFin g x = true := by
        cases x with
        | finish cid e => exact beq_iff_eq.mpr (Option.some.inj hxc)
        | _ => cases hfin
      have hpos : 0 < post.countP (isFin g) := List.countP_pos_iff.mpr ⟨x, hxp, this⟩
      omega
  intro x hx hc
  have : x ∈ Pm.Dev2.E2E.forCid g post := List.mem_filter.mpr ⟨hx, by simpa using hc⟩
  rw [hnil] at this; cases this

theorem flatMap_outText_nil (name : Bytes) (g : Nat) (l : List DOut) (h : ∀ x ∈ l, outCid x ≠ some g) :
    l.flatMap (outText name g) = [] := by
  rw [List.flatMap_eq_nil_iff]
  intro x hx
  exact outText_of_notMine name g x (h x hx)

theorem any_finErr_nil (g : Nat) (l : List DOut) (h : l.countP (isFin g) = 0) : l.any (finErr g) = false := by
  rw [List.any_eq_false]
  intro x hx hf
  have hpos : 0 < l.countP (isFin g) := List.countP_pos_iff.mpr ⟨x, hx, isFin_of_finErr hf⟩
  omega

/-- **one device's turn, seen from client `g`** (pass alive after the turn; `n` = completions for `g` the device reports):
    `n` + what the device still holds for `g` is what it held; a client without a command is not touched; a command that
    waits for more than `n` completions has `pending` lowered by `n`, the error bits or-ed into its flag and the `305`/`308`/
    `309` lines appended; a command that waits for exactly `n` is answered: after those lines come the terminal reply —
    computed from the accumulated flag and the arglist as it stands in the store after this device's turn — and the
    prompt, nothing else; and then no action of `g` is queued anywhere. -/
theorem devPass_view (p : PassIn) (a : DevAcc) (nd : Bytes × Dev) (rest : List (Bytes × Dev)) (g : Nat) (c : Cli)
    (hinv : Inv (worldAt a (nd :: rest))) (hd : (devPass p a nd).dead = false) (hc : cliRec a.w g = some c) :
    (outsOf p a nd).countP (isFin g) + qcount g (devAfter p a nd).acts = qcount g nd.2.acts ∧
    (c.cmd = none → cliRec (devPass p a nd).w g = some c ∧ (outsOf p a nd).countP (isFin g) = 0) ∧
    (∀ k, c.cmd = some k → (outsOf p a nd).countP (isFin g) < k.pending →
      cliRec (devPass p a nd).w g =
        some { c with cmd := some { k with error := k.error || (outsOf p a nd).any (finErr g),
                                           pending := k.pending - (outsOf p a nd).countP (isFin g) },
                      toBuf := c.toBuf ++ (outsOf p a nd).flatMap (outText nd.1 g) }) ∧
    (∀ k, c.cmd = some k → (outsOf p a nd).countP (isFin g) = k.pending →
      totalQ g (worldAt (devPass p a nd) rest).devs = 0 ∧
      ∃ r, finalReply c.exprange { k with error := k.error || (outsOf p a nd).any (finErr g),
                                          args := (storeArgs (devPass p a nd).w k.al).map argC } = some r ∧
        cliRec (devPass p a nd).w g =
          some { c with cmd := none, toBuf := c.toBuf ++ (outsOf p a nd).flatMap (outText nd.1 g) ++ r ++ prompt }) := by
  obtain ⟨hd0, hnab⟩ := devPass_was_alive p a nd hd
  have hcW : cliRec (worldAt a (nd :: rest)) g = some c := hc
  have hg : g ≠ 0 := Inv.ne_zero hinv hcW
  have hndm := Isolation.mem_worldAt a nd rest
  have hcount := devStep_count p a.w a.oracle nd (hinv.link.ncl nd hndm) g hg
  have hle := hinv.link.le_pending hcW hndm
  have hw := Isolation.devPass_w p a nd hd0
  have hc1 : cliOf (afterStep a.w (devStep p a.w a.oracle nd).1) g = some c := hc
  obtain ⟨hA, hB, hC⟩ := applyOuts_client (afterStep a.w (devStep p a.w a.oracle nd).1) nd.1 (outsOf p a nd) g c hc1
  dsimp only [outsOf, devAfter] at *
  refine ⟨hcount, ?_, ?_, ?_⟩
  · intro hnone
    have h0 := pendingOf_none hnone
    have hq0 : qcount g nd.2.acts = 0 := by omega
    refine ⟨?_, by omega⟩
    rw [devPass_client p a nd g hg (Pm.Dev2.qcount_zero_iff.mp hq0)]
    exact hc
  · intro k hk hlt
    rw [hw]
    exact hB k hk hlt
  · intro k hk hn
    have hpk : pendingOf c = k.pending := pendingOf_some hk
    have hpos := hinv.link.pos g c k hcW hk
    have hq' : qcount g (devStep p a.w a.oracle nd).1.dev.acts = 0 := by omega
    have htot : totalQ g (worldAt (devPass p a nd) rest).devs = 0 := by
      rw [Isolation.worldAt_devPass_devs, stepped_alive p a nd hd0]
      have hT := hinv.link.count g c hcW
      have : (worldAt a (nd :: rest)).devs = a.devs ++ nd :: rest := rfl
      rw [this, totalQ_append, totalQ_cons] at hT
      rw [totalQ_append, totalQ_cons]
      show totalQ g a.devs + (qcount g (devStep p a.w a.oracle nd).1.dev.acts + totalQ g rest) = 0
      omega
    refine ⟨htot, ?_⟩
    obtain ⟨pre, e, post, hsplit, hpost, hpre, hres⟩ := hC k hk hpos hn
    rcases hres with hab | ⟨r, hr, hrec⟩
    · exact absurd hab hnab
    · have hlast : Pm.Dev2.E2E.LastFin g (devStep p a.w a.oracle nd).2.2.1 :=
        Pm.Dev2.E2E.postPoll_lastFin { nd.2 with args := a.w.store } (devEnv p a.w nd) a.oracle g hg hq'
      rw [hsplit] at hlast
      have hnot := forCid_nil_of_lastFin hlast hpost
      have htext : (devStep p a.w a.oracle nd).2.2.1.flatMap (outText nd.1 g) = pre.flatMap (outText nd.1 g) ++ errPre e nd.1 := by
        rw [hsplit, List.flatMap_append, List.flatMap_cons, flatMap_outText_nil nd.1 g post hnot]
        simp [outText]
      have herr : (devStep p a.w a.oracle nd).2.2.1.any (finErr g) = (pre.any (finErr g) || (e != .success)) := by
        rw [hsplit, List.any_append, List.any_cons, any_finErr_nil g post hpost]
        simp [finErr]
      have hstore : storeArgs (afterStep a.w (devStep p a.w a.oracle nd).1) k.al = storeArgs (devPass p a nd).w k.al := by
        unfold storeArgs; rw [devPass_store_eq _ _ _ hd0]; rfl
      refine ⟨r, ?_, ?_⟩
      · rw [← hr]
        apply Reply.finalReply_congr <;> simp only [finalCmd, herr, hstore, Bool.or_assoc]
      · rw [hw]
        refine hrec.trans ?_
        rw [htext, flatMap_outText_nil nd.1 g post hnot]
        simp [List.append_assoc]

theorem devPass_rec_before (p : PassIn) (a : DevAcc) (nd : Bytes × Dev) (g : Nat) (c' : Cli)
    (h : cliRec (devPass p a nd).w g = some c') : ∃ c, cliRec a.w g = some c := by
  have hm : g ∈ ids (devPass p a nd).w := (cliRec_isSome_iff _ g).mp (by rw [h]; rfl)
  rw [(Isolation.devPass_ids_eq p a nd).1] at hm
  have := (cliRec_isSome_iff a.w g).mpr hm
  cases hq : cliRec a.w g with
  | none => rw [hq] at this; cases this
  | some c => exact ⟨c, rfl⟩

/-- **one device's turn keeps `pending` = queued** (pass alive after the turn) -/
theorem devPass_link (p : PassIn) (a : DevAcc) (nd : Bytes × Dev) (rest : List (Bytes × Dev))
    (hinv : Inv (worldAt a (nd :: rest))) (hd : (devPass p a nd).dead = false) : Link (worldAt (devPass p a nd) rest) := by
  obtain ⟨hd0, _⟩ := devPass_was_alive p a nd hd
  have hdevs : (worldAt (devPass p a nd) rest).devs = a.devs ++ (nd.1, (devStep p a.w a.oracle nd).1.dev) :: rest := by
    rw [Isolation.worldAt_devPass_devs, stepped_alive p a nd hd0]
  have hold : (worldAt a (nd :: rest)).devs = a.devs ++ nd :: rest := rfl
  have hndm := Isolation.mem_worldAt a nd rest
  -- every record afterwards, in terms of the record before
  have key : ∀ g c', cliRec (devPass p a nd).w g = some c' →
      pendingOf c' = totalQ g (worldAt (devPass p a nd) rest).devs ∧ (∀ k, c'.cmd = some k → 0 < k.pending ∧ 0 < k.al) := by
    intro g c' hc'
    obtain ⟨c, hc⟩ := devPass_rec_before p a nd g c' hc'
    have hcW : cliRec (worldAt a (nd :: rest)) g = some c := hc
    obtain ⟨h1, h2, h3, h4⟩ := devPass_view p a nd rest g c hinv hd hc
    dsimp only [outsOf, devAfter] at h1 h2 h3 h4
    have hle := hinv.link.le_pending hcW hndm
    have hT := hinv.link.count g c hcW
    rw [hold, totalQ_append, totalQ_cons] at hT
    rw [hdevs, totalQ_append, totalQ_cons]
    show _ = totalQ g a.devs + (qcount g (devStep p a.w a.oracle nd).1.dev.acts + totalQ g rest) ∧ _
    cases hk : c.cmd with
    | none =>
      obtain ⟨e1, e2⟩ := h2 hk
      rw [e1] at hc'; cases hc'
      refine ⟨by omega, fun k hk' => by rw [hk] at hk'; cases hk'⟩
    | some k =>
      have hpk : pendingOf c = k.pending := pendingOf_some hk
      by_cases hlt : (devStep p a.w a.oracle nd).2.2.1.countP (isFin g) < k.pending
      · rw [h3 k hk hlt] at hc'
        simp only [Option.some.injEq] at hc'
        subst hc'
        refine ⟨by simp only [pendingOf]; omega, ?_⟩
        intro k' hk'
        simp only [Option.some.injEq] at hk'
        subst hk'
        exact ⟨by simp only; omega, hinv.link.alpos g c k hcW hk⟩
      · have hn : (devStep p a.w a.oracle nd).2.2.1.countP (isFin g) = k.pending := by omega
        obtain ⟨_, r, _, hrec⟩ := h4 k hk hn
        rw [hrec] at hc'
        simp only [Option.some.injEq] at hc'
        subst hc'
        refine ⟨by simp only [pendingOf]; omega, fun k' hk' => by simp at hk'⟩
  refine ⟨fun g c' hc' => (key g c' hc').1, fun g c' k hc' hk => ((key g c' hc').2 k hk).1, ?_, ?_,
    fun g c' k hc' hk => ((key g c' hc').2 k hk).2⟩
  · intro x hx
    rw [hdevs] at hx
    rcases List.mem_append.mp hx with hx | hx
    · exact hinv.link.ncl x (by rw [hold]; exact List.mem_append_left _ hx)
    · rcases List.mem_cons.mp hx with rfl | hx
      · exact devStep_ncl p a.w a.oracle nd (hinv.link.ncl nd hndm)
      · exact hinv.link.ncl x (by rw [hold]; simp [hx])
  · show 0 < (devPass p a nd).w.alNext
    rw [(Isolation.devPass_ids_eq p a nd).2.2]
    exact hinv.link.al

theorem devPass_inv (p : PassIn) (a : DevAcc) (nd : Bytes × Dev) (rest : List (Bytes × Dev))
    (hinv : Inv (worldAt a (nd :: rest))) (hd : (devPass p a nd).dead = false) : Inv (worldAt (devPass p a nd) rest) :=
  ⟨Isolation.devPass_iso p a nd rest hinv.1, devPass_link p a nd rest hinv hd⟩

/-- the pass ended in a modelled assertion (`assert` in `_act_finish`, in the device layer, in `hostlist_sort`; or the
    iteration bound of a mirror): the C process is gone, what the model computes from there on means nothing -/
def passDead (w : W) (p : PassIn) : Bool :=
  if (cliPostPoll w p.acc p.envs).exited then false
  else ((cliPostPoll w p.acc p.envs).devs.foldl (devPass p) (acc0 (cliPostPoll w p.acc p.envs))).dead

/-- **a whole pass keeps the invariant** unless it ends in an assertion -/
theorem daemonPass_inv (w : W) (p : PassIn) (h : Inv w) (hd : passDead w p = false) : Inv (daemonPass w p).1 := by
  refine daemonPass_keeps_alive Inv (fun a nd rest hal hi => devPass_inv p a nd rest hi hal) (fun _ t hi => Inv.endPass hi t) w
    (fun hex => ?_) (cliPostPoll_inv w p.acc p.envs h)
  unfold passDead at hd
  rwa [if_neg (by rw [hex]; exact Bool.false_ne_true)] at hd

/-- the daemon starts in a state that satisfies the invariant: no client, empty queues -/
theorem inv_init (w : W) (hc : w.clients = []) (hq : ∀ nd ∈ w.devs, nd.2.acts = []) (hn : 0 < w.nextId) (ha : 0 < w.alNext) :
    Inv w := by
  refine ⟨Isolation.iso_init w hc hq hn, ?_, ?_, ?_, ha, ?_⟩
  · intro g c h; simp [cliRec, hc] at h
  · intro g c k h; simp [cliRec, hc] at h
  · intro nd hnd a ha'; rw [hq nd hnd] at ha'; cases ha'
  · intro g c k h; simp [cliRec, hc] at h

/-- the invariant, spelled out for one client -/
theorem Inv.spelled {w : W} (h : Inv w) (g : Nat) (c : Cli) (hc : cliRec w g = some c) :
    match c.cmd with
    | some k => k.pending = totalQ g w.devs ∧ 0 < k.pending
    | none => totalQ g w.devs = 0 := by
  have h1 := h.link.count g c hc
  cases hk : c.cmd with
  | none => exact h1.symm.trans (pendingOf_none hk)
  | some k => exact ⟨(pendingOf_some hk).symm.trans h1, h.link.pos g c k hc hk⟩

/-! ### start-up: `dev_initial_connect` -/

theorem foldl_icStep_link (now : Nat) (con soe : List Nat) (g : Nat) (hg : g ≠ 0) : ∀ (l : List (Bytes × Dev)) (acc : W × List String × List (Bytes × Dev)),
    (∀ nd ∈ l, NoClientLogin nd.2) → (∀ nd ∈ acc.2.2, NoClientLogin nd.2) →
    totalQ g (l.foldl (Isolation.icStep now con soe) acc).2.2 = totalQ g acc.2.2 + totalQ g l ∧
    ∀ nd ∈ (l.foldl (Isolation.icStep now con soe) acc).2.2, NoClientLogin nd.2 := by
  intro l
  induction l with
  | nil => intro acc _ ha; exact ⟨by simp, ha⟩
  | cons nd r ih =>
    intro acc hl ha
    rw [List.foldl_cons]
    obtain ⟨w, lines, devs⟩ := acc
    have hn : ∀ x ∈ (Isolation.icStep now con soe (w, lines, devs) nd).2.2, NoClientLogin x.2 := by
      intro x hx
      simp only [Isolation.icStep, List.mem_append, List.mem_singleton] at hx
      rcases hx with hx | rfl
      · exact ha x hx
      · exact Pm.Dev2.Login2.connectDev_ncl _ (hl nd (by simp))
    obtain ⟨i1, i2⟩ := ih (Isolation.icStep now con soe (w, lines, devs) nd) (fun x hx => hl x (by simp [hx])) hn
    refine ⟨?_, i2⟩
    rw [i1]
    have := congrArg (List.count g) (Pm.Dev2.Login2.connectDev_clientIds { dev := nd.2, env := mkDevEnv w nd.2 now con soe [], sys := [] })
    rw [Pm.Dev2.clientIds_count g hg, Pm.Dev2.clientIds_count g hg] at this
    simp only at this
    simp only [Isolation.icStep, totalQ_append, totalQ_cons, totalQ_nil, this]
    omega

/-- **`dev_initial_connect` keeps the invariant** (it only adds login actions, which belong to no client) -/
theorem initialConnect_inv (w : W) (now : Nat) (con soe : List Nat) (h : Inv w) : Inv (initialConnect w now con soe).1 := by
  refine ⟨Isolation.initialConnect_iso w now con soe h.1, ?_⟩
  rw [Isolation.initialConnect_eq]
  obtain ⟨h1, _, h3, _⟩ := Isolation.foldl_icStep (fun _ _ => True) trivial now con soe w.devs (w, [], [])
    (fun _ _ _ _ => trivial) (by intro nd hnd; cases hnd)
  have hc : ∀ g, cliRec { (w.devs.foldl (Isolation.icStep now con soe) (w, [], [])).1 with devs := (w.devs.foldl (Isolation.icStep now con soe) (w, [], [])).2.2 } g = cliRec w g :=
    cliRec_congr h1
  refine ⟨?_, fun g c k hg => h.link.pos g c k (hc g ▸ hg), ?_, by rw [show _ = w.alNext from h3]; exact h.link.al,
    fun g c k hg => h.link.alpos g c k (hc g ▸ hg)⟩
  · intro g c hg
    rw [hc g] at hg
    have hgid : g ≠ 0 := Inv.ne_zero h hg
    rw [h.link.count g c hg]
    have := (foldl_icStep_link now con soe g hgid w.devs (w, [], []) h.link.ncl (by intro nd hnd; cases hnd)).1
    simp only [totalQ_nil, Nat.zero_add] at this
    exact this.symm
  · exact (foldl_icStep_link now con soe 1 (by decide) w.devs (w, [], []) h.link.ncl (by intro nd hnd; cases hnd)).2

/-- **under the invariant the assertion `assert(c->cmd != NULL)` of `_act_finish` is unreachable**: in the turn of any device,
    an `_act_finish` call can end in an assertion only through F19 (the reply of a query command cannot be built because
    `hostlist_sort` asserts) -/
theorem devPass_assert_unreachable (p : PassIn) (a : DevAcc) (nd : Bytes × Dev) (rest : List (Bytes × Dev))
    (hinv : Inv (worldAt a (nd :: rest)))
    (h : anyBad nd.1 (afterStep a.w (devStep p a.w a.oracle nd).1) (outsOf p a nd) = true) :
    ∃ wm g c k e, cliOf wm g = some c ∧ c.cmd = some k ∧ k.pending = 1 ∧ finalReply c.exprange (withStore wm k e) = none := by
  refine anyBad_F19 nd.1 _ _ ?_ ?_ h
  · intro g c hc
    have hcW : cliRec (worldAt a (nd :: rest)) g = some c := hc
    have hg : g ≠ 0 := Inv.ne_zero hinv hcW
    have hndm := Isolation.mem_worldAt a nd rest
    have hcount := devStep_count p a.w a.oracle nd (hinv.link.ncl nd hndm) g hg
    have hle := hinv.link.le_pending hcW hndm
    show (devStep p a.w a.oracle nd).2.2.1.countP (isFin g) ≤ pendingOf c
    omega
  · intro g c k hc hk
    exact hinv.link.pos g c k hc hk

/-! ## D. the device phase of a pass, seen from one client -/

/-- the completions for `g` in a run of callbacks of device `name`: (device, outcome), in order -/
def finsOf (g : Nat) (name : Bytes) (outs : List DOut) : List (Bytes × ActErr) :=
  outs.filterMap fun x => match x with | .finish cid e => if cid = g then some (name, e) else none | _ => none

def failed (x : Bytes × ActErr) : Bool := x.2 != .success

theorem finsOf_cons (g : Nat) (name : Bytes) (x : DOut) (r : List DOut) :
    finsOf g name (x :: r) = finsOf g name [x] ++ finsOf g name r := by
  simp [finsOf, List.filterMap_cons]
  split <;> simp

theorem finsOf_length (g : Nat) (name : Bytes) (outs : List DOut) : (finsOf g name outs).length = outs.countP (isFin g) := by
  induction outs with
  | nil => rfl
  | cons x r ih =>
    rw [finsOf_cons, List.length_append, ih, List.countP_cons]
    cases x with
    | finish cid e => by_cases h : cid = g <;> simp [finsOf, isFin, h]; omega
    | _ => simp [finsOf, isFin]

theorem finsOf_failed (g : Nat) (name : Bytes) (outs : List DOut) : (finsOf g name outs).any failed = outs.any (finErr g) := by
  induction outs with
  | nil => rfl
  | cons x r ih =>
    rw [finsOf_cons, List.any_append, ih, List.any_cons]
    cases x with
    | finish cid e => by_cases h : cid = g <;> simp [finsOf, finErr, failed, h]
    | _ => simp [finsOf, finErr]

theorem mem_finsOf {g : Nat} {name : Bytes} {outs : List DOut} {x : Bytes × ActErr} :
    x ∈ finsOf g name outs ↔ x.1 = name ∧ Pm.Dev2.Out.finish g x.2 ∈ outs := by
  unfold finsOf
  rw [List.mem_filterMap]
  constructor
  · rintro ⟨o, ho, h⟩
    cases o with
    | finish cid e =>
      simp only at h
      split at h
      · rename_i hc; subst hc
        simp only [Option.some.injEq] at h; subst h
        exact ⟨rfl, ho⟩
      · cases h
    | _ => simp at h
  · rintro ⟨h1, h2⟩
    refine ⟨_, h2, ?_⟩
    simp only [if_true, Option.some.injEq]
    rw [← h1]

/-- the callbacks of device `nd`'s turn; none once the pass is dead -/
def turnOuts (p : PassIn) (a : DevAcc) (nd : Bytes × Dev) : List DOut := if a.dead then [] else outsOf p a nd

/-- the completions the device phase reports for `g`, device by device in configuration order -/
def foldFins (p : PassIn) (g : Nat) : DevAcc → List (Bytes × Dev) → List (Bytes × ActErr)
  | _, [] => []
  | a, nd :: r => finsOf g nd.1 (turnOuts p a nd) ++ foldFins p g (devPass p a nd) r

/-- the `305`/`308`/`309` lines the device phase writes to `g` -/
def foldText (p : PassIn) (g : Nat) : DevAcc → List (Bytes × Dev) → Bytes
  | _, [] => []
  | a, nd :: r => (turnOuts p a nd).flatMap (outText nd.1 g) ++ foldText p g (devPass p a nd) r

theorem turnOuts_alive (p : PassIn) (a : DevAcc) (nd : Bytes × Dev) (h : a.dead = false) : turnOuts p a nd = outsOf p a nd := by
  unfold turnOuts; simp [h]

/-- the devices behind the one that delivered the last completion: client `g` has no command and (hence) no action anywhere;
    nothing is reported for it, nothing is written to it, its record and the arglist `al` (to which no queued action refers)
    stay as they are -/
theorem foldl_devPass_idle (p : PassIn) (g : Nat) (al : Nat) (hal : al ≠ 0) : ∀ (l : List (Bytes × Dev)) (a : DevAcc) (c : Cli),
    Inv (worldAt a l) → (l.foldl (devPass p) a).dead = false → cliRec a.w g = some c → c.cmd = none →
    (∀ nd ∈ l, ∀ x ∈ nd.2.acts, x.arglist ≠ al) →
    cliRec (l.foldl (devPass p) a).w g = some c ∧ foldFins p g a l = [] ∧ foldText p g a l = [] ∧
    (l.foldl (devPass p) a).w.store.lookup al = a.w.store.lookup al := by
  intro l
  induction l with
  | nil => intro a c _ _ hc _ _; exact ⟨hc, rfl, rfl, rfl⟩
  | cons nd r ih =>
    intro a c hinv hd hc hnone hq
    have h1 : (devPass p a nd).dead = false := alive_of_foldl p r _ hd
    obtain ⟨hd0, _⟩ := devPass_was_alive p a nd h1
    have hcW : cliRec (worldAt a (nd :: r)) g = some c := hc
    have hg : g ≠ 0 := Inv.ne_zero hinv hcW
    have hndm := Isolation.mem_worldAt a nd r
    have hle := hinv.link.le_pending hcW hndm
    have hq0 : qcount g nd.2.acts = 0 := by
      have := pendingOf_none hnone
      omega
    have hnone' := Pm.Dev2.qcount_zero_iff.mp hq0
    obtain ⟨_, h2, _, _⟩ := devPass_view p a nd r g c hinv h1 hc
    obtain ⟨e1, e2⟩ := h2 hnone
    have haddr : ∀ x ∈ outsOf p a nd, outCid x ≠ some g := by
      intro x hx hcx
      rcases Isolation.devStep_addr p a.w a.oracle nd x hx g hcx with h0 | ⟨b, hb, hbc⟩
      · exact hg h0
      · exact hnone' b hb hbc
    rw [List.foldl_cons] at hd ⊢
    obtain ⟨i1, i2, i3, i4⟩ := ih (devPass p a nd) c (devPass_inv p a nd r hinv h1) hd e1 hnone
      (fun x hx => hq x (by simp [hx]))
    refine ⟨i1, ?_, ?_, ?_⟩
    · unfold foldFins
      rw [i2, turnOuts_alive p a nd hd0, List.append_nil]
      apply List.eq_nil_of_length_eq_zero
      rw [finsOf_length]; exact e2
    · unfold foldText
      rw [i3, turnOuts_alive p a nd hd0, List.append_nil]
      exact flatMap_outText_nil nd.1 g _ haddr
    · rw [i4]
      exact devPass_store_cell p a nd al hal (hq nd (by simp))

/-- What has become, in the world `w'`, of the command `k` client `g` had (record `c`) after the completions `F` were reported
    for it and the lines `T` written to it.  Fewer than `pending` completions: the command stays, `pending` lowered by their number,
    the error flag or-ed with "one of them failed", `T` appended.  Exactly `pending`: the command is cleared and the client was
    sent `T`, then the terminal reply computed from that flag and the arglist as it stands in the store of `w'`, then the prompt. -/
def CmdAfter (w' : W) (g : Nat) (c : Cli) (k : CmdC) (F : List (Bytes × ActErr)) (T : Bytes) : Prop :=
  (F.length < k.pending ∧
    cliRec w' g = some { c with cmd := some { k with error := k.error || F.any failed, pending := k.pending - F.length },
                                toBuf := c.toBuf ++ T }) ∨
  (F.length = k.pending ∧
    ∃ r, finalReply c.exprange { k with error := k.error || F.any failed, args := (storeArgs w' k.al).map argC } = some r ∧
      cliRec w' g = some { c with cmd := none, toBuf := c.toBuf ++ T ++ r ++ prompt })

theorem CmdAfter.nil {w' : W} {g : Nat} {c : Cli} {k : CmdC} (hpos : 0 < k.pending) (hc : cliRec w' g = some c) (hk : c.cmd = some k) :
    CmdAfter w' g c k [] [] :=
  .inl ⟨hpos, hc.trans (congrArg some (cmd_self c k hk))⟩

/-- progress by `F₁`, `T₁` that leaves the command in progress, then what became of the command so left, is what became of `k` -/
theorem CmdAfter.step {w' : W} {g : Nat} {c : Cli} {k : CmdC} {F₁ F₂ : List (Bytes × ActErr)} {T₁ T₂ : Bytes} (hlt : F₁.length < k.pending)
    (h : CmdAfter w' g { c with cmd := some { k with error := k.error || F₁.any failed, pending := k.pending - F₁.length },
                                toBuf := c.toBuf ++ T₁ }
      { k with error := k.error || F₁.any failed, pending := k.pending - F₁.length } F₂ T₂) :
    CmdAfter w' g c k (F₁ ++ F₂) (T₁ ++ T₂) := by
  rcases h with ⟨j1, j2⟩ | ⟨j1, r', j2, j3⟩
  · simp only at j1
    refine .inl ⟨by rw [List.length_append]; omega, ?_⟩
    rw [j2]
    simp only [List.any_append, List.length_append, Bool.or_assoc, List.append_assoc, Nat.sub_sub]
  · simp only at j1
    refine .inr ⟨by rw [List.length_append]; omega, r', ?_, ?_⟩
    · rw [← j2]
      apply Reply.finalReply_congr <;> simp only [List.any_append, Bool.or_assoc]
    · rw [j3]
      simp only [List.append_assoc]

/-- **the device phase, seen from client `g`** which has command `k` when the phase begins (pass alive at its end): `CmdAfter`
    with the completions reported for `g` by the devices, in order, and the lines written to it -/
theorem foldl_devPass_view (p : PassIn) (g : Nat) : ∀ (l : List (Bytes × Dev)) (a : DevAcc) (c : Cli) (k : CmdC),
    Inv (worldAt a l) → (l.foldl (devPass p) a).dead = false → cliRec a.w g = some c → c.cmd = some k →
    CmdAfter (l.foldl (devPass p) a).w g c k (foldFins p g a l) (foldText p g a l) := by
  intro l
  induction l with
  | nil => exact fun a c k hinv _ hc hk => .nil (hinv.link.pos g c k hc hk) hc hk
  | cons nd r ih =>
    intro a c k hinv hd hc hk
    have h1 : (devPass p a nd).dead = false := alive_of_foldl p r _ hd
    obtain ⟨hd0, _⟩ := devPass_was_alive p a nd h1
    have hcW : cliRec (worldAt a (nd :: r)) g = some c := hc
    have hndm := Isolation.mem_worldAt a nd r
    have hle := hinv.link.le_pending hcW hndm
    have hpk : pendingOf c = k.pending := pendingOf_some hk
    obtain ⟨hcnt, _, h3, h4⟩ := devPass_view p a nd r g c hinv h1 hc
    have hinv1 := devPass_inv p a nd r hinv h1
    rw [List.foldl_cons] at hd ⊢
    have hF : foldFins p g a (nd :: r) = finsOf g nd.1 (outsOf p a nd) ++ foldFins p g (devPass p a nd) r := by
      rw [foldFins, turnOuts_alive p a nd hd0]
    have hT : foldText p g a (nd :: r) = (outsOf p a nd).flatMap (outText nd.1 g) ++ foldText p g (devPass p a nd) r := by
      rw [foldText, turnOuts_alive p a nd hd0]
    rw [hF, hT]
    by_cases hlt : (outsOf p a nd).countP (isFin g) < k.pending
    · have hrec := h3 k hk hlt
      rw [← finsOf_failed g nd.1, ← finsOf_length g nd.1] at hrec
      exact .step (by rw [finsOf_length]; exact hlt) (ih (devPass p a nd) _ _ hinv1 hd hrec rfl)
    · have hn : (outsOf p a nd).countP (isFin g) = k.pending := by
        dsimp only [outsOf, devAfter] at hcnt hlt ⊢
        omega
      obtain ⟨htot, r', hr', hrec⟩ := h4 k hk hn
      -- the devices behind: nothing of `g` is queued there
      have hrest0 : totalQ g r = 0 := by
        rw [Isolation.worldAt_devPass_devs, totalQ_append, totalQ_cons] at htot
        omega
      have hal := hinv.link.alpos g c k hcW hk
      have hq : ∀ nd' ∈ r, ∀ x ∈ nd'.2.acts, x.arglist ≠ k.al := by
        intro nd' hnd' x hx
        have hmem : nd' ∈ (worldAt a (nd :: r)).devs := by simp [worldAt, hnd']
        apply hinv.scope.foreign hcW hk (Nat.ne_of_gt hal) hmem hx
        intro hxg
        obtain ⟨l1, l2, e⟩ := List.append_of_mem hnd'
        rw [e, totalQ_append, totalQ_cons] at hrest0
        have := Pm.Dev2.qcount_pos_of_mem hx hxg
        omega
      obtain ⟨i1, i2, i3, i4⟩ := foldl_devPass_idle p g k.al (Nat.ne_of_gt hal) r (devPass p a nd) _ hinv1 hd hrec rfl hq
      right
      refine ⟨by rw [i2, List.append_nil, finsOf_length]; exact hn, r', ?_, ?_⟩
      · rw [← hr']
        apply Reply.finalReply_congr <;> simp only [i2, List.append_nil, finsOf_failed]
        unfold storeArgs; rw [i4]
      · rw [i1, i3, List.append_nil]

/-! ## E. a whole pass, seen from one client -/

/-- **one turn of the loop of `cli_post_poll`, seen from client `g`**: its record is what it was (not its turn, or the daemon
    has exited); or it is its turn (`c0` is its record) and it is destroyed, or its new record `c` is what `clientPass`
    returns, the store is the one `clientPass` leaves, and `Isolation.Enq` relates the two worlds and commands -/
theorem cliStep_view (envs : List FdEnv) (g : Nat) (w : W) (c0 : Cli) (hI : Inv w) (hc0 : c0 ∈ w.clients) :
    cliRec (ClientPf.cliStep envs w c0) g = cliRec w g ∨
    (g = c0.id ∧ cliRec w g = some c0 ∧
      (cliRec (ClientPf.cliStep envs w c0) g = none ∨
       ∃ c, (clientPass w c0 (envs.find? (·.fd == c0.fd))).2 = some c ∧ cliRec (ClientPf.cliStep envs w c0) g = some c ∧
         (ClientPf.cliStep envs w c0).store = (clientPass w c0 (envs.find? (·.fd == c0.fd))).1.store ∧
         Isolation.Enq c0.id w (ClientPf.cliStep envs w c0) c0.cmd c.cmd)) := by
  by_cases hg : g = c0.id
  · subst hg
    have hrec0 : cliRec w c0.id = some c0 := hI.ids.cliRec_of_mem hc0
    rcases Isolation.cliStep_does envs w c0 with ⟨_, e⟩ | ⟨_, ext, t⟩
    · rw [e]; exact Or.inl rfl
    · refine Or.inr ⟨rfl, hrec0, ?_⟩
      cases hr : (clientPass w c0 (envs.find? (·.fd == c0.fd))).2 with
      | none => exact Or.inl ((t.self hc0).trans hr)
      | some c => exact Or.inr ⟨c, rfl, (t.self hc0).trans hr, t.proj W.store fun _ => rfl, (t.alive c hr).inst.enq⟩
  · exact Or.inl (Isolation.cliStep_other envs w c0 g hg)

/-- client `g` is gone, or still has the command `k` -/
def GoneOrHas (g : Nat) (k : CmdC) (w : W) : Prop := cliRec w g = none ∨ ∃ c, cliRec w g = some c ∧ c.cmd = some k

theorem cliStep_busy (envs : List FdEnv) (g : Nat) (k : CmdC) (w : W) (c0 : Cli) (hI : Inv w) (h : GoneOrHas g k w) (hc0 : c0 ∈ w.clients) :
    GoneOrHas g k (ClientPf.cliStep envs w c0) := by
  rcases cliStep_view envs g w c0 hI hc0 with e | ⟨_, hrec0, hn | ⟨c, _, hself, _, henq⟩⟩
  · unfold GoneOrHas; rw [e]; exact h
  · exact Or.inl hn
  · have hk0 : c0.cmd = some k := by
      rcases h with h | ⟨c', h1, h2⟩
      · rw [hrec0] at h; cases h
      · rw [hrec0] at h1; cases h1; exact h2
    exact Or.inr ⟨c, hself, by rw [(henq.busy (by rw [hk0]; rfl)).2.2.2, hk0]⟩

/-- **the client phase does not touch a command in progress**: the client is destroyed (error on its descriptor), or its
    command record is exactly what it was -/
theorem cliPostPoll_busy (w : W) (acc : Nat) (envs : List FdEnv) (g : Nat) (c : Cli) (k : CmdC) (h : Inv w)
    (hc : cliRec w g = some c) (hk : c.cmd = some k) : GoneOrHas g k (cliPostPoll w acc envs) :=
  cliPostPoll_with_inv w acc envs (GoneOrHas g k) h (Or.inr ⟨c, cliAccept_rec _ acc g c hc, hk⟩)
    (fun w c0 hI hB hc0 => cliStep_busy envs g k w c0 hI hB hc0)

/-- the completions a pass reports for client `g`: (device, outcome), devices in configuration order -/
def passFins (w : W) (p : PassIn) (g : Nat) : List (Bytes × ActErr) :=
  if (cliPostPoll w p.acc p.envs).exited then []
  else foldFins p g (acc0 (cliPostPoll w p.acc p.envs)) (cliPostPoll w p.acc p.envs).devs

theorem mem_passFins {w : W} {p : PassIn} {g : Nat} {x : Bytes × ActErr} :
    x ∈ passFins w p g ↔ (cliPostPoll w p.acc p.envs).exited = false ∧
      x ∈ foldFins p g (acc0 (cliPostPoll w p.acc p.envs)) (cliPostPoll w p.acc p.envs).devs := by
  unfold passFins
  cases (cliPostPoll w p.acc p.envs).exited <;> simp

/-- the `305`/`308`/`309` lines the device phase of a pass writes to client `g` -/
def passText (w : W) (p : PassIn) (g : Nat) : Bytes :=
  if (cliPostPoll w p.acc p.envs).exited then []
  else foldText p g (acc0 (cliPostPoll w p.acc p.envs)) (cliPostPoll w p.acc p.envs).devs

/-- **the device phase, seen from a client with a command in progress** (pass not ending in an assertion): whatever command `k`
    client `g` has when the client phase is over — in particular one accepted in this very pass: `CmdAfter` with the completions
    and the lines of the pass -/
theorem devPhase_view (w : W) (p : PassIn) (g : Nat) (c1 : Cli) (k : CmdC) (hinv : Inv w) (hd : passDead w p = false)
    (hc : cliRec (cliPostPoll w p.acc p.envs) g = some c1) (hk : c1.cmd = some k) :
    k.pending = totalQ g (cliPostPoll w p.acc p.envs).devs ∧
    CmdAfter (daemonPass w p).1 g c1 k (passFins w p g) (passText w p g) := by
  have h0 := cliPostPoll_inv w p.acc p.envs hinv
  have hcnt : k.pending = totalQ g (cliPostPoll w p.acc p.envs).devs := by
    exact (pendingOf_some hk).symm.trans (h0.link.count g c1 hc)
  refine ⟨hcnt, ?_⟩
  rw [daemonPass_world]; unfold devPhase
  unfold passFins passText
  unfold passDead at hd
  dsimp only
  by_cases hex : (cliPostPoll w p.acc p.envs).exited = true
  · simp only [hex, ↓reduceIte]
    exact .nil (h0.link.pos g c1 k hc hk) hc hk
  · simp only [hex, Bool.false_eq_true, ↓reduceIte] at hd ⊢
    exact foldl_devPass_view p g (cliPostPoll w p.acc p.envs).devs (acc0 (cliPostPoll w p.acc p.envs)) c1 k
      (by rw [Isolation.worldAt_acc0]; exact h0) hd hc hk

/-- **one pass, seen from a client with a command in progress** (pass not ending in an assertion).  The client phase
    destroys the client, or leaves its command untouched (record `c1`), and then `devPhase_view` applies. -/
theorem daemonPass_view (w : W) (p : PassIn) (g : Nat) (c : Cli) (k : CmdC) (hinv : Inv w) (hd : passDead w p = false)
    (hc : cliRec w g = some c) (hk : c.cmd = some k) :
    (cliRec (cliPostPoll w p.acc p.envs) g = none ∧ cliRec (daemonPass w p).1 g = none) ∨
    ∃ c1, cliRec (cliPostPoll w p.acc p.envs) g = some c1 ∧ c1.cmd = some k ∧
      CmdAfter (daemonPass w p).1 g c1 k (passFins w p g) (passText w p g) := by
  rcases cliPostPoll_busy w p.acc p.envs g c k hinv hc hk with hb | ⟨c1, hb1, hb2⟩
  · refine Or.inl ⟨hb, ?_⟩
    -- the device phase changes no client id
    obtain ⟨G, hG, kG⟩ := (devPhase_frame p (cliPostPoll w p.acc p.envs)).keep
    rw [daemonPass_world, cliRec, hG, find_map_id G (fun x => (kG x).1), show List.find? _ _ = none from hb]
    rfl
  · exact Or.inr ⟨c1, hb1, hb2, (devPhase_view w p g c1 k hinv hd hb1 hb2).2⟩

/-- client `g` has no command, or one whose error flag is clear -/
def FlagClear (g : Nat) (w : W) : Prop := ∀ c k, cliRec w g = some c → c.cmd = some k → k.error = false

theorem cliStep_fresh (envs : List FdEnv) (g : Nat) (w : W) (c0 : Cli) (hI : Inv w) (h : FlagClear g w) (hc0 : c0 ∈ w.clients) :
    FlagClear g (ClientPf.cliStep envs w c0) := by
  intro c' k hc' hk
  rcases cliStep_view envs g w c0 hI hc0 with e | ⟨_, hrec0, hn | ⟨c, hc, hself, _, _⟩⟩
  · rw [e] at hc'; exact h c' k hc' hk
  · rw [hn] at hc'; cases hc'
  · rw [hself] at hc'; cases hc'
    rcases clientPass_req w c0 _ c' hc with ⟨_, d2⟩ | ⟨_, cm, names, tele, al, b1, _⟩
    · exact h c0 k hrec0 (d2 ▸ hk)
    · rw [b1] at hk; cases hk; rfl

/-- **a command accepted in this pass starts with a clear error flag**: if client `g` has no command (or is not there yet)
    when the pass begins, whatever command it has when the client phase is over has `error = false` -/
theorem cliPostPoll_fresh (w : W) (acc : Nat) (envs : List FdEnv) (g : Nat) (h : Inv w)
    (hidle : ∀ c k, cliRec w g = some c → c.cmd = some k → False) : FlagClear g (cliPostPoll w acc envs) := by
  refine cliPostPoll_with_inv w acc envs (FlagClear g) h ?_ (fun w c0 hI hF hc0 => cliStep_fresh envs g w c0 hI hF hc0)
  intro c k hc hk
  have hc := cliAccept_rec_cmd _ acc g c k hc hk
  exact (hidle c k hc hk).elim

/-! ## F. a command that is over never comes back -/

/-- arglist id `A` has been handed out, and client `g` (if it is there) is not running the command with that arglist -/
def Over (g A : Nat) (w : W) : Prop := A < w.alNext ∧ ∀ c k, cliRec w g = some c → c.cmd = some k → k.al ≠ A

theorem cliAccept_over (g A : Nat) (w : W) (acc : Nat) (h : Over g A w) : Over g A (ClientPf.cliAccept w acc) := by
  obtain ⟨new, k, n, ev, _, _, e⟩ := cliAccept_shape w acc
  exact ⟨by rw [e]; exact h.1, fun c k hc hk => h.2 c k (cliAccept_rec_cmd w acc g c k hc hk) hk⟩

theorem cliStep_over (envs : List FdEnv) (g A : Nat) (w : W) (c0 : Cli) (hI : Inv w) (h : Over g A w) (hc0 : c0 ∈ w.clients) :
    Over g A (ClientPf.cliStep envs w c0) := by
  refine ⟨Nat.lt_of_lt_of_le h.1 (cliStep_alNext envs w c0), ?_⟩
  intro c' k hc' hk
  rcases cliStep_view envs g w c0 hI hc0 with e | ⟨_, hrec0, hn | ⟨c, _, hself, _, henq⟩⟩
  · rw [e] at hc'; exact h.2 c' k hc' hk
  · rw [hn] at hc'; cases hc'
  · rw [hself] at hc'; cases hc'
    rcases henq with ⟨_, _, _, a4⟩ | ⟨_, k0, _, _, _, _, e1, e2, _⟩
    · exact h.2 c0 k hrec0 (a4 ▸ hk)
    · rw [e1] at hk; cases hk
      rw [e2]; exact Nat.ne_of_gt h.1

theorem devPass_over (g A : Nat) (p : PassIn) (a : DevAcc) (nd : Bytes × Dev) (hd : a.dead = false) (h : Over g A a.w) :
    Over g A (devPass p a nd).w := by
  refine ⟨by rw [(Isolation.devPass_ids_eq p a nd).2.2]; exact h.1, fun c' k' hc' hk' => ?_⟩
  rw [Isolation.devPass_w p a nd hd] at hc'
  obtain ⟨c, k, h1, h2, h3⟩ := Isolation.applyOuts_cmd (afterStep a.w (devStep p a.w a.oracle nd).1) nd.1 _ g c' k' hc' hk'
  rw [← h3]
  exact h.2 c k h1 h2

/-- **a command that is over stays over**: no later pass gives client `g` a command with the arglist id `A` again -/
theorem daemonPass_over (g A : Nat) (w : W) (p : PassIn) (hinv : Inv w) (h : Over g A w) : Over g A (daemonPass w p).1 :=
  daemonPass_keeps (Over g A) (fun a nd _ hd ho => devPass_over g A p a nd hd ho) (fun _ _ ho => ho) w
    (cliPostPoll_with_inv w p.acc p.envs (Over g A) hinv (cliAccept_over g A _ p.acc h)
      (fun w c0 hI hO hc0 => cliStep_over p.envs g A w c0 hI hO hc0))

/-! ## G. the vocabulary of runs of `runPasses` -/

open Pm.Daemon.Isolation (runPasses)

/-- the completions a run of passes reports for client `g`, in order -/
def runFins : W → List PassIn → Nat → List (Bytes × ActErr)
  | _, [], _ => []
  | w, p :: ps, g => passFins w p g ++ runFins (daemonPass w p).1 ps g

/-- no pass of the run ends in a modelled assertion -/
def Alive : W → List PassIn → Prop
  | _, [] => True
  | w, p :: ps => passDead w p = false ∧ Alive (daemonPass w p).1 ps

theorem runPasses_cons (w : W) (p : PassIn) (ps : List PassIn) : runPasses w (p :: ps) = runPasses (daemonPass w p).1 ps := rfl

theorem runPasses_append (w : W) (ps qs : List PassIn) : runPasses w (ps ++ qs) = runPasses (runPasses w ps) qs := by
  unfold runPasses; rw [List.foldl_append]

theorem runFins_append (w : W) (ps qs : List PassIn) (g : Nat) :
    runFins w (ps ++ qs) g = runFins w ps g ++ runFins (runPasses w ps) qs g := by
  induction ps generalizing w with
  | nil => rfl
  | cons p ps ih => rw [List.cons_append, runFins, runFins, ih, runPasses_cons, List.append_assoc]

theorem Alive.append {w : W} {ps qs : List PassIn} (h : Alive w (ps ++ qs)) : Alive w ps ∧ Alive (runPasses w ps) qs := by
  induction ps generalizing w with
  | nil => exact ⟨trivial, h⟩
  | cons p ps ih =>
    obtain ⟨h1, h2⟩ := h
    obtain ⟨i1, i2⟩ := ih h2
    exact ⟨⟨h1, i1⟩, i2⟩

/-- the device phase hands out no arglist id -/
theorem devPhase_alNext (w : W) (p : PassIn) : (daemonPass w p).1.alNext = (cliPostPoll w p.acc p.envs).alNext := by
  rw [daemonPass_world]
  have := congrArg W.alNext (devPhase_frame p (cliPostPoll w p.acc p.envs)).same
  exact this

theorem daemonPass_alNext (w : W) (p : PassIn) (h : Inv w) : w.alNext ≤ (daemonPass w p).1.alNext := by
  rw [devPhase_alNext]
  refine cliPostPoll_with_inv w p.acc p.envs (fun x => w.alNext ≤ x.alNext) h ?_
    (fun x c0 _ hx _ => Nat.le_trans hx (cliStep_alNext p.envs x c0))
  obtain ⟨new, k, n, ev, _, _, e⟩ := cliAccept_shape { w with sys := [], caps := p.envs.map fun (e : FdEnv) => (e.fd, e.cap) } p.acc
  rw [e]
  exact Nat.le_refl _

/-! ## H. reading off C02 -/

theorem not_ok_suffix_err (X : Bytes) : ¬ (okLine ++ prompt <:+ X ++ errLine ++ prompt) := by
  intro h
  obtain ⟨t, ht⟩ := h
  have h1 : t ++ okLine = X ++ errLine := by
    apply List.append_cancel_right (bs := prompt)
    simpa [List.append_assoc] using ht
  have h2 := congrArg (fun (l : List UInt8) => (l.reverse.take 35)) h1
  simp only [List.reverse_append] at h2
  have e1 : (okLine.reverse ++ t.reverse).take 35 = okLine.reverse.take 35 := by
    rw [List.take_append_of_le_length]; decide +kernel
  have e2 : (errLine.reverse ++ X.reverse).take 35 = errLine.reverse := by
    rw [List.take_append_of_le_length (by decide +kernel)]; decide +kernel
  rw [e1, e2] at h2
  revert h2
  decide +kernel

theorem any_failed_false {F : List (Bytes × ActErr)} : F.any failed = false ↔ ∀ x ∈ F, x.2 = .success := by
  rw [List.any_eq_false]
  constructor
  · intro h x hx
    have := h x hx
    simpa [failed] using this
  · intro h x hx
    simp [failed, h x hx]

/-- the terminal line of a power command, from the flag "error so far or one of the completions `F` failed" and the arglist
    `args`: 102 exactly when the flag is clear, every completion is a success and no result cell of a target is `unknown`;
    210 otherwise -/
theorem power_reply (ex : Bool) (k : CmdC) (F : List (Bytes × ActErr)) (args : List ArgC) (r : Bytes) (hp : isPower k.com = true)
    (hr : finalReply ex { k with error := k.error || F.any failed, args := args } = some r) :
    (r = okLine ↔ k.error = false ∧ (∀ x ∈ F, x.2 = .success) ∧
      ∀ n ∈ k.names, ∀ a, args.find? (·.node == n) = some a → a.result ≠ 1) ∧
    (r ≠ okLine → r = errLine) := by
  obtain ⟨h1, h2⟩ := Reply.finalReply_power_iff ex { k with error := k.error || F.any failed, args := args } hp
  rw [hr] at h1 h2
  simp only [Option.some.injEq, Bool.or_eq_false_iff, any_failed_false, ne_eq] at h1 h2
  exact ⟨by rw [h1]; exact and_assoc, h2⟩

/-- every failed completion of a pass leaves a line `308 <device>: <reason>` among the lines written to the client -/
theorem foldText_failure (p : PassIn) (g : Nat) : ∀ (l : List (Bytes × Dev)) (a : DevAcc) (x : Bytes × ActErr),
    x ∈ foldFins p g a l → x.2 ≠ .success →
    ∃ u v reason, foldText p g a l = u ++ (bstr "308 " ++ (x.1 ++ reason) ++ crlf) ++ v := by
  intro l
  induction l with
  | nil => intro a x hx; simp [foldFins] at hx
  | cons nd r ih =>
    intro a x hx hf
    rw [foldFins] at hx
    rw [foldText]
    rcases List.mem_append.mp hx with hx | hx
    · obtain ⟨h1, h2⟩ := mem_finsOf.mp hx
      obtain ⟨o1, o2, ho⟩ := List.append_of_mem h2
      obtain ⟨reason, hre⟩ := Reply.errPre_failure x.2 nd.1 hf
      refine ⟨o1.flatMap (outText nd.1 g), o2.flatMap (outText nd.1 g) ++ foldText p g (devPass p a nd) r, reason, ?_⟩
      rw [ho, List.flatMap_append, List.flatMap_cons, h1, ← hre]
      simp [outText, List.append_assoc]
    · obtain ⟨u, v, reason, e⟩ := ih _ x hx hf
      exact ⟨(turnOuts p a nd).flatMap (outText nd.1 g) ++ u, v, reason, by rw [e]; simp [List.append_assoc]⟩

theorem passText_failure (w : W) (p : PassIn) (g : Nat) (x : Bytes × ActErr) (hx : x ∈ passFins w p g) (hf : x.2 ≠ .success) :
    ∃ u v reason, passText w p g = u ++ (bstr "308 " ++ (x.1 ++ reason) ++ crlf) ++ v := by
  obtain ⟨hex, hx⟩ := mem_passFins.mp hx
  unfold passText
  rw [hex]
  exact foldText_failure p g _ _ x hx hf

/-- a completion in the log of the device phase was reported by the turn of some device, under that device's name -/
theorem mem_foldFins (p : PassIn) (g : Nat) : ∀ (l : List (Bytes × Dev)) (a : DevAcc) (x : Bytes × ActErr),
    x ∈ foldFins p g a l →
    ∃ i nd, l[i]? = some nd ∧ x.1 = nd.1 ∧ (accAt p a l i).dead = false ∧
      Pm.Dev2.Out.finish g x.2 ∈ (devStep p (accAt p a l i).w (accAt p a l i).oracle nd).2.2.1 := by
  intro l
  induction l with
  | nil => intro a x hx; simp [foldFins] at hx
  | cons nd r ih =>
    intro a x hx
    rw [foldFins] at hx
    rcases List.mem_append.mp hx with hx | hx
    · obtain ⟨h1, h2⟩ := mem_finsOf.mp hx
      unfold turnOuts at h2
      split at h2
      · cases h2
      · rename_i hd
        exact ⟨0, nd, rfl, h1, by simpa using hd, by simpa using h2⟩
    · obtain ⟨i, nd', h1, h2, h3, h4⟩ := ih _ x hx
      exact ⟨i + 1, nd', by simpa using h1, h2, by rw [accAt_succ_cons]; exact h3, by rw [accAt_succ_cons]; exact h4⟩

/-- **a success in a device's turn is a script that ran to its end**: the turn's `_process_action` loop went through an
    iteration (`iterStates`, starting from the device as `_handle_ready_device`, `_reconnect` and the ping left it) in which
    the head action — an action of client `g` — completed (`Completes`) -/
theorem turn_success (p : PassIn) (w : W) (o : Oracle) (nd : Bytes × Dev) (g : Nat)
    (h : Pm.Dev2.Out.finish g .success ∈ (devStep p w o nd).2.2.1) :
    ∃ s ∈ Pm.Dev2.Login2.iterStates
        (Pm.Dev2.passFuel (Pm.Dev2.Login2.postPollPre { nd.2 with args := w.store } (devEnv p w nd)).1.dev)
        (Pm.Dev2.Login2.postPollPre { nd.2 with args := w.store } (devEnv p w nd)).1 o []
        (Pm.Dev2.Login2.postPollPre { nd.2 with args := w.store } (devEnv p w nd)).2,
      ∃ act, Pm.Dev2.E2E.Completes s.1 s.2 act ∧ act.clientId = g :=
  Pm.Dev2.E2E.postPoll_success _ _ _ g h

/-- **an accepted request**: the line leaves a client that had no command with the command `k`.  Then `k`'s error flag is
    clear, `pending` is the number of actions `dev_enqueue_actions` appended over all devices (positive), every device's
    queue was extended by its `newActs` for the request, and every device the request involves passed the capability check -/
theorem request_installed (w : W) (c : Cli) (line : Bytes) (k : CmdC) (h0 : c.cmd = none)
    (hk : (parseLine w c line).2.cmd = some k) :
    ∃ tele al, k.error = false ∧ 0 < k.pending ∧
      k.pending = installTotal (comIdx k.com) (k.names.map ofChars) c.id tele al w.devs ∧
      (parseLine w c line).1.devs = w.devs.map (installDev (comIdx k.com) (k.names.map ofChars) c.id tele al) ∧
      (∀ nd ∈ w.devs, needsDev nd.2 (k.names.map ofChars) = true → handles nd.2 (comIdx k.com) (k.names.map ofChars) = true) := by
  rcases parseLine_req w c line with ⟨_, h2⟩ | ⟨_, cm, names, tele, al, b1, b2, b3, b4⟩
  · rw [h2, h0] at hk; cases hk
  · rw [b1] at hk
    simp only [Option.some.injEq] at hk
    subst hk
    exact ⟨tele, al, rfl, b2, rfl, b4, b3⟩

/-- **targets that no script can handle**: if some device the request involves has no script variant that can serve it,
    `install` answers 213, nothing is queued and the client gets no command -/
theorem cannot_be_handled (w : W) (c : Cli) (com : Com) (names : List Name) (nd : Bytes × Dev) (hnd : nd ∈ w.devs)
    (hneed : needsDev nd.2 (names.map ofChars) = true) (hno : handles nd.2 (comIdx com) (names.map ofChars) = false) :
    install w c com names = (w, put c (codeLine 213 ++ crlf ++ (if c.quit then [] else prompt))) := by
  rcases Enq.install_cases w c com names with h | ⟨h1, _⟩
  · exact h
  · rw [h1 nd hnd hneed] at hno; cases hno

/-- the result cells the reply looks at: the arglist of the command as it stands in the store of `w` -/
def resultCells (w : W) (k : CmdC) : List ArgC := (storeArgs w k.al).map argC

/-- no result cell of a target is classified unsuccessful (`RT_UNKNOWN`) -/
def ResultsOk (w : W) (k : CmdC) : Prop := ∀ n ∈ k.names, ∀ a, (resultCells w k).find? (·.node == n) = some a → a.result ≠ 1

/-! ## I. reading an evaluated run

The example files evaluate a concrete run once, as a conjunction of decidable facts, and name the records they find in it
with `Option.getD`.  These lemmas turn the `Bool` forms the evaluator decides into the forms the theorems ask for. -/

theorem eq_some_getD {α : Type} {o : Option α} (d : α) (h : o.isSome = true) : o = some (o.getD d) := by
  cases o with
  | none => cases h
  | some a => rfl

theorem idle_of_isNone {o : Option Cli} (h : (o.bind (·.cmd)).isNone = true) : ∀ c k, o = some c → c.cmd = some k → False := by
  intro c k hc hk
  rw [hc, Option.bind_some, hk] at h
  cases h

theorem busy_of_al {o : Option Cli} {al : Nat} (h : (o.bind (·.cmd)).map (·.al) = some al) :
    ∃ c k, o = some c ∧ c.cmd = some k ∧ k.al = al := by
  cases o with
  | none => cases h
  | some c =>
    cases hk : c.cmd with
    | none => rw [Option.bind_some, hk] at h; cases h
    | some k => rw [Option.bind_some, hk] at h; exact ⟨c, k, rfl, hk, Option.some.inj h⟩

instance Alive.decidable : ∀ (w : W) (ps : List PassIn), Decidable (Alive w ps)
  | _, [] => isTrue trivial
  | w, p :: ps => @instDecidableAnd _ _ _ (Alive.decidable (daemonPass w p).1 ps)

end Pm.Daemon.E2E

section AxiomChecks
open Pm.Daemon.E2E
/-- info: 'Pm.Daemon.E2E.daemonPass_inv' depends on axioms: [propext, Classical.choice, Quot.sound] -/
#guard_msgs in #print axioms daemonPass_inv
/-- info: 'Pm.Daemon.E2E.daemonPass_view' depends on axioms: [propext, Classical.choice, Quot.sound] -/
#guard_msgs in #print axioms daemonPass_view
/-- info: 'Pm.Daemon.E2E.turn_success' depends on axioms: [propext, Classical.choice, Quot.sound] -/
#guard_msgs in #print axioms turn_success
/-- info: 'Pm.Daemon.E2E.request_installed' depends on axioms: [propext, Classical.choice, Quot.sound] -/
#guard_msgs in #print axioms request_installed
/-- info: 'Pm.Daemon.E2E.newActs_covers' depends on axioms: [propext, Quot.sound] -/
#guard_msgs in #print axioms newActs_covers
/-- info: 'Pm.Daemon.E2E.cannot_be_handled' depends on axioms: [propext, Quot.sound] -/
#guard_msgs in #print axioms cannot_be_handled
/-- info: 'Pm.Daemon.E2E.anyBad_F19' depends on axioms: [propext, Classical.choice, Quot.sound] -/
#guard_msgs in #print axioms anyBad_F19
/-- info: 'Pm.Daemon.E2E.initialConnect_inv' depends on axioms: [propext, Classical.choice, Quot.sound] -/
#guard_msgs in #print axioms initialConnect_inv
/-- info: 'Pm.Daemon.E2E.devPhase_view' depends on axioms: [propext, Classical.choice, Quot.sound] -/
#guard_msgs in #print axioms devPhase_view
/-- info: 'Pm.Daemon.E2E.cliPostPoll_fresh' depends on axioms: [propext, Classical.choice, Quot.sound] -/
#guard_msgs in #print axioms cliPostPoll_fresh
end AxiomChecks
