import Pm.RedfishTerm
/-! `runCmd` cut into enqueue / phased check / root queries / loop;
    the loop's invariant holds initially, hence `runCmd` ends with all three lists empty -/
namespace Pm.Redfish

def mk (cmd : Cmd) (t : Nat) : PM := { cmd := cmd, plug := t, output := true, waitState := false }

def m0 (st : St) : M := { active := [], delayed := [], waiting := [], st := st, out := [] }

/-- the target loop of `stat_cmd` / `power_cmd`, verbatim -/
def enqStep (c : Cfg) (cmd : Cmd) (m : M) (t : Nat) : M :=
  match lookup c t with
  | none => { m with out := m.out ++ [.unknown t] }
  | some pc =>
    let pm : PM := { cmd, plug := t, output := true, waitState := false }
    if pc.parent.isSome then { m with waiting := m.waiting ++ [pm] } else { m with active := m.active ++ [pm] }

def enq (c : Cfg) (st : St) (cmd : Cmd) (targets : List Nat) : M := targets.foldl (enqStep c cmd) (m0 st)

def phasedB (c : Cfg) (cmd : Cmd) (m1 : M) : Bool :=
  let all := m1.active ++ m1.waiting
  cmd == .on && all.length > 1 && all.any fun a => all.any fun b => isDesc c a.plug b.plug

def rootStep (c : Cfg) (m : M) (pm : PM) : M :=
  let root := rootOf c pm.plug
  if plugActive m root pm.cmd then m
  else { m with active := m.active ++ [{ cmd := .stat, plug := root, output := false, waitState := false }] }

def afterPhased (c : Cfg) (cmd : Cmd) (m1 : M) : M :=
  if phasedB c cmd m1 then
    { m1 with out := m1.out ++ (m1.active ++ m1.waiting).map (fun pm => Line.phased pm.plug), active := [], waiting := [] }
  else m1

def setup (c : Cfg) (cmd : Cmd) (m1 : M) : M :=
  if m1.waiting.isEmpty then m1 else
  (afterPhased c cmd m1).waiting.foldl (rootStep c) (afterPhased c cmd m1)

def fuelOf (c : Cfg) (targets : List Nat) : Nat := 4 * (c.plugs.length + targets.length) + 8

theorem runCmd_eq (c : Cfg) (st : St) (cmd : Cmd) (targets : List Nat) :
    runCmd c st cmd targets =
      (let m3 := runLoop c (fuelOf c targets) (setup c cmd (enq c st cmd targets))
       (m3.out, m3.st, isDone m3)) := by
  rfl

def isRootT (c : Cfg) (t : Nat) : Bool := known c t && (parentOf c t).isNone
def isChildT (c : Cfg) (t : Nat) : Bool := (parentOf c t).isSome

theorem isRootT_iff {c : Cfg} {t : Nat} : isRootT c t = true ↔ known c t = true ∧ parentOf c t = none := by
  simp [isRootT]

theorem isChildT_iff {c : Cfg} {t : Nat} : isChildT c t = true ↔ ∃ q, parentOf c t = some q :=
  Option.isSome_iff_exists

theorem enq_fold (c : Cfg) (cmd : Cmd) (ts : List Nat) (m : M) :
    ts.foldl (enqStep c cmd) m =
      { m with active := m.active ++ (ts.filter (isRootT c)).map (mk cmd),
               waiting := m.waiting ++ (ts.filter (isChildT c)).map (mk cmd),
               out := m.out ++ (ts.filter (fun t => !known c t)).map Line.unknown } := by
  induction ts generalizing m with
  | nil => simp
  | cons t ts ih =>
    rw [List.foldl_cons, ih]
    unfold enqStep
    cases hl : lookup c t with
    | none => simp [isRootT, isChildT, known, parentOf, hl]
    | some pc =>
      cases hp : pc.parent with
      | none => simp [isRootT, isChildT, known, parentOf, hl, hp, mk]
      | some q => simp [isRootT, isChildT, known, parentOf, hl, hp, mk]

theorem enq_eq (c : Cfg) (st : St) (cmd : Cmd) (ts : List Nat) :
    enq c st cmd ts =
      { active := (ts.filter (isRootT c)).map (mk cmd), delayed := [],
        waiting := (ts.filter (isChildT c)).map (mk cmd), st := st,
        out := (ts.filter (fun t => !known c t)).map Line.unknown } := by
  unfold enq; rw [enq_fold]; simp [m0]

theorem root_fold (c : Cfg) (ws : List PM) (m : M) :
    ∃ qs, ws.foldl (rootStep c) m = { m with active := m.active ++ qs } ∧
      (∀ q ∈ qs, ∃ w ∈ ws, q = query (rootOf c w.plug) ∧ plugActive m (rootOf c w.plug) w.cmd = false) ∧
      (∀ w ∈ ws, plugActive { m with active := m.active ++ qs } (rootOf c w.plug) w.cmd = true) := by
  obtain ⟨qs, e, h1, h2⟩ := query_fold (fun _ => true) (fun w => rootOf c w.plug) ws m
  refine ⟨qs, e, fun q hq => ?_, fun w hw => h2 w hw rfl⟩
  obtain ⟨w, hw, _, r⟩ := h1 q hq
  exact ⟨w, hw, r⟩

theorem SInv_setup' {c : Cfg} (hw : WF c = true) (cmd : Cmd) (m1 : M)
    (hA : ∀ i ∈ m1.active, i.cmd = cmd ∧ i.waitState = false) (hD : m1.delayed = [])
    (hW : ∀ w ∈ m1.waiting, w.cmd = cmd ∧ w.waitState = false ∧ ∃ q, parentOf c w.plug = some q) :
    SInv c (2 * c.plugs.length + 2) cmd (setup c cmd m1) := by
  unfold setup
  split
  · -- nothing waits
    rename_i hemp
    rw [List.isEmpty_iff] at hemp
    constructor
    · intro i hi
      rw [hD] at hi; simp at hi
      have := rem_le i
      have := hA i hi
      exact ⟨by omega, Or.inr ⟨this.1, by simp [this.2]⟩⟩
    · intro w hwm; rw [hemp] at hwm; simp at hwm
    · intro w hwm; rw [hemp] at hwm; simp at hwm
  · unfold afterPhased
    split
    · -- refused: nothing left
      constructor
      · intro i hi; simp [hD] at hi
      · intro w hwm; simp at hwm
      · intro w hwm; simp at hwm
    · obtain ⟨qs, e, h1, h2⟩ := root_fold c m1.waiting m1
      rw [e]
      constructor
      · intro i hi
        have := rem_le i
        refine ⟨by omega, ?_⟩
        simp only [List.mem_append, hD] at hi
        rcases hi with (hi | hi) | hi
        · have := hA i hi; exact Or.inr ⟨this.1, by simp [this.2]⟩
        · obtain ⟨w, _, rfl, _⟩ := h1 i hi; exact Or.inl rfl
        · simp at hi
      · intro w hwm
        have := hW w hwm
        exact ⟨Or.inr this.1, this.2.1⟩
      · intro w hwm
        obtain ⟨_, _, hq⟩ := hW w hwm
        have hr := rootOf_spec hw w.plug hq
        obtain ⟨i, hi, hip⟩ := plugActive_item (h2 w hwm)
        refine ⟨i, by simp only [hD, List.append_nil] at hi ⊢; exact hi, hip ▸ hr.1, ?_⟩
        have := rem_le i
        have hk : known c w.plug = true := by obtain ⟨q, hq⟩ := hq; exact parentOf_known hq
        have : depth c w.plug < c.plugs.length := WF_len hw hk
        omega

theorem enq_props (c : Cfg) (st : St) (cmd : Cmd) (ts : List Nat) :
    (∀ i ∈ (enq c st cmd ts).active, i.cmd = cmd ∧ i.waitState = false) ∧ (enq c st cmd ts).delayed = [] ∧
    (∀ w ∈ (enq c st cmd ts).waiting, w.cmd = cmd ∧ w.waitState = false ∧ ∃ q, parentOf c w.plug = some q) := by
  rw [enq_eq]
  refine ⟨?_, rfl, ?_⟩
  · intro i hi; simp at hi; obtain ⟨t, _, rfl⟩ := hi; exact ⟨rfl, rfl⟩
  · intro w hwm
    simp at hwm
    obtain ⟨t, ht, rfl⟩ := hwm
    exact ⟨rfl, rfl, isChildT_iff.1 ht.2⟩

theorem SInv_setup {c : Cfg} (hw : WF c = true) (st : St) (cmd : Cmd) (ts : List Nat) :
    SInv c (2 * c.plugs.length + 2) cmd (setup c cmd (enq c st cmd ts)) :=
  SInv_setup' hw cmd _ (enq_props c st cmd ts).1 (enq_props c st cmd ts).2.1 (enq_props c st cmd ts).2.2

theorem fuel_enough (c : Cfg) (ts : List Nat) : 2 * c.plugs.length + 2 < fuelOf c ts := by
  unfold fuelOf; omega

theorem runCmd_done {c : Cfg} (hw : WF c = true) (st : St) (cmd : Cmd) (ts : List Nat) :
    (runCmd c st cmd ts).2.2 = true := by
  rw [runCmd_eq]
  exact runLoop_done hw _ _ _ (SInv_setup hw st cmd ts) (fuel_enough c ts)

end Pm.Redfish
