import Pm.RedfishStat
import Pm.RedfishClosed
/-! `on` / `off`: the invariant relating the machine to the closed form of `specPower`. -/
namespace Pm.Redfish

/-- a parent query: silent, and (for `off`) about a plug that is not a target unless that target is already dealt with -/
structure IsQuery (c : Cfg) (C : Cmd) (T : List Nat) (st : St) (i : PM) : Prop where
  cmd : i.cmd = .stat
  silent : i.output = false
  report : i.plug ∉ T ∨ (C = .off ∧ (isOn st i.plug = false ∨ hostFails c i.plug = true))

/-- the operator's command on a target; once "sent", the simulated state agrees with it -/
structure IsPower (C : Cmd) (T : List Nat) (st : St) (i : PM) : Prop where
  cmd : i.cmd = C
  output : i.output = true
  target : i.plug ∈ T
  sent : i.waitState = true → isOn st i.plug = (C == .on)

/-- a message still to run: a status query or a power command of the kind the rules expect, for a known plug with
    every ancestor effectively on -/
structure Item (c : Cfg) (st0 : St) (C : Cmd) (T : List Nat) (st : St) (i : PM) : Prop where
  kind : IsQuery c C T st i ∨ IsPower C T st i
  isKnown : known c i.plug = true
  clear : clearPath c (effStat c st0 C T) i.plug

/-- a waiting message: the operator's command on a target that has a parent, not yet "sent" -/
structure Waiter (C : Cmd) (T : List Nat) (w : PM) : Prop where
  cmd : w.cmd = C
  output : w.output = true
  fresh : w.waitState = false
  target : w.plug ∈ T

/-- plugs whose power command has not been "sent" yet -/
def unsentPlugs (rest new : List PM) (m : M) : List Nat :=
  (m.waiting ++ (rest ++ new ++ m.delayed).filter unsent).map (·.plug)

/-- what is fixed while the machine carries out `C` on the targets `T` -/
structure PSit (c : Cfg) (C : Cmd) (T : List Nat) : Prop where
  notStat : C ≠ .stat
  targetsKnown : ∀ t ∈ T, known c t = true
  /-- an `on` that was not refused has no target above another -/
  noRelatives : C = .on → ∀ t ∈ T, ∀ a ∈ ancUp c t, a ∉ T

/-- where the request of a non-root target `t` of `off` is -/
inductive Request (c : Cfg) (st0 : St) (C : Cmd) (T : List Nat) (todo waiting : List PM) (st : St) (t : Nat) : Prop
  | waiting (w : PM) : w ∈ waiting → w.plug = t → Request c st0 C T todo waiting st t
  /-- never to be sent: an ancestor is not effectively on -/
  | blocked (b : Nat) : b ∈ ancUp c t → effStat c st0 C T b ≠ .on → Request c st0 C T todo waiting st t
  /-- in the active list, not yet processed in this round -/
  | active (i : PM) : i ∈ todo → i.plug = t → i.cmd = .off → Request c st0 C T todo waiting st t
  | done : isOn st t = false → Request c st0 C T todo waiting st t
  | fails : hostFails c t = true → Request c st0 C T todo waiting st t

/-- Invariant of the loop for `on` / `off` (`C`) of the targets `T` from the plug states `st0` (shape `Inv P rest new m`:
    see `RoundStart`).  It ties the machine to the closed form of the rules (`effStat`, `succeeds`, `finalOn`). -/
structure PInv (c : Cfg) (st0 : St) (C : Cmd) (T : List Nat) (P rest new : List PM) (m : M) : Prop where
  act : m.active = P ++ rest ++ new
  items : ∀ i ∈ rest ++ new ++ m.delayed, Item c st0 C T m.st i
  waiters : ∀ w ∈ m.waiting, Waiter C T w
  /-- the final states of the rules (all of `T` applied to `st0`) are the current states with the commands not yet
      sent applied -/
  balance : ∀ x, finalOn c st0 C T T x = curOn c st0 C T m.st (unsentPlugs rest new m) x
  request : C = .off → ∀ t ∈ T, (parentOf c t).isSome = true → Request c st0 C T (rest ++ new) m.waiting m.st t

theorem Item.power {c : Cfg} {st0 : St} {C : Cmd} {T : List Nat} {st : St} {i : PM} (hi : Item c st0 C T st i)
    (hc : i.cmd ≠ .stat) : IsPower C T st i :=
  hi.kind.resolve_left fun hq => hc hq.cmd

theorem Request.mono {c : Cfg} {st0 : St} {C : Cmd} {T : List Nat} {todo todo' ws : List PM} {st : St} {t : Nat}
    (h : Request c st0 C T todo ws st t) (hsub : ∀ i ∈ todo, i ∈ todo') : Request c st0 C T todo' ws st t := by
  cases h with
  | waiting w a b => exact .waiting w a b
  | blocked b x y => exact .blocked b x y
  | active i a b d => exact .active i (hsub i a) b d
  | done a => exact .done a
  | fails a => exact .fails a

theorem effStat_fail {c : Cfg} {st0 : St} {C : Cmd} {T : List Nat} {a : Nat} (h : hostFails c a = true) :
    effStat c st0 C T a = .error := by
  simp [effStat, h, statOf_fail h]

theorem effStat_nontarget {c : Cfg} {st0 : St} {C : Cmd} {T : List Nat} {a : Nat} (h : a ∉ T) :
    effStat c st0 C T a = statOf c st0 a := by
  simp [effStat, h]

theorem effStat_off_target {c : Cfg} {st0 : St} {T : List Nat} {a : Nat} (h : a ∈ T) (hf : hostFails c a = false) :
    effStat c st0 .off T a = .off := by
  simp [effStat, h, hf]

theorem blk_at {c : Cfg} (hw : WF c = true) {st0 : St} {C : Cmd} {T : List Nat} {t a : Nat} (ha : a ∈ ancUp c t)
    (hoff : effStat c st0 C T a ≠ .on) (hcp : clearPath c (effStat c st0 C T) a) :
    blk c st0 C T t = some (a, effStat c st0 C T a) := firstOff_at hw _ ha hoff hcp

theorem blk_clear {c : Cfg} {st0 : St} {C : Cmd} {T : List Nat} {t : Nat}
    (hcp : clearPath c (effStat c st0 C T) t) : blk c st0 C T t = none :=
  firstOff_none.2 (by unfold clearPath at hcp; simpa using hcp)

theorem not_succeeds_below {c : Cfg} (hw : WF c = true) {st0 : St} {C : Cmd} {T : List Nat} {t a : Nat}
    (ha : a ∈ ancUp c t) (hoff : effStat c st0 C T a ≠ .on) (hcp : clearPath c (effStat c st0 C T) a) :
    succeeds c st0 C T t = false := by
  simp [succeeds, blk_at hw ha hoff hcp]

theorem curOn_nontarget {c : Cfg} {st0 : St} {C : Cmd} {T : List Nat} {a : Nat} (hne : C ≠ .stat) (hT : a ∉ T)
    (hcp : clearPath c (effStat c st0 C T) a) (st : St) {L : List Nat} (hL : ∀ t ∈ L, t ∈ T) :
    curOn c st0 C T st L a = isOn st a := by
  have hat : ∀ t ∈ L, (a == t) = false := fun t ht => by
    have : ¬ a = t := fun e => hT (e ▸ hL t ht)
    simpa using this
  unfold curOn
  cases C with
  | stat => exact absurd rfl hne
  | on =>
    have : (L.any fun t => succeeds c st0 .on T t && a == t) = false := by
      rw [List.any_eq_false]; intro t ht; simp [hat t ht]
    simp [this]
  | off =>
    have : (L.any fun t => succeeds c st0 .off T t && (a == t || isDesc c a t)) = false := by
      rw [List.any_eq_false]; intro t ht
      cases hsu : succeeds c st0 .off T t with
      | false => simp
      | true =>
        have hf := (succeeds_iff.1 hsu).2
        cases hd : isDesc c a t with
        | false => simp [hat t ht]
        | true =>
          -- a target above `a` that is switched off is effectively off: the path of `a` is not clear
          have := hcp t (isDesc_iff.1 hd)
          rw [effStat_off_target (hL t ht) hf] at this; cases this
    simp [this]

theorem PInv.unsent_sub {c : Cfg} {st0 : St} {C : Cmd} {T : List Nat} {P rest new : List PM} {m : M}
    (h : PInv c st0 C T P rest new m) : ∀ t ∈ unsentPlugs rest new m, t ∈ T := by
  intro t ht
  simp only [unsentPlugs, List.mem_map, List.mem_append, List.mem_filter] at ht
  obtain ⟨j, hj | ⟨hj, hpb⟩, rfl⟩ := ht
  · exact (h.waiters j hj).target
  · rcases (h.items j (by simp only [List.mem_append]; exact hj)).kind with hq | hp
    · simp [unsent, hq.cmd] at hpb
    · exact hp.target

theorem PInv.untouched {c : Cfg} {st0 : St} {C : Cmd} {T : List Nat} {P rest new : List PM} {m : M}
    (hs : PSit c C T) (h : PInv c st0 C T P rest new m) {a : Nat} (hT : a ∉ T)
    (hcp : clearPath c (effStat c st0 C T) a) : isOn m.st a = isOn st0 a := by
  rw [← curOn_nontarget hs.notStat hT hcp m.st h.unsent_sub, ← h.balance a, finalOn_eq_curOn,
    curOn_nontarget hs.notStat hT hcp st0 fun _ h => h]

/-- what a completing message reports about its plug is the closed-form status, when a waiter below cares -/
theorem PInv.res {c : Cfg} {st0 : St} {C : Cmd} {T : List Nat} {P rest new : List PM} {i : PM} {m : M}
    (hs : PSit c C T) (h : PInv c st0 C T P (i :: rest) new m) (hfr : isFresh c i = false) {w : PM}
    (hwm : w ∈ m.waiting) (ha : i.plug ∈ ancUp c w.plug) : resStat c m i = effStat c st0 C T i.plug := by
  have hi := h.items i (by simp)
  rw [resStat_eq]
  by_cases hf : hostFails c i.plug = true
  · rw [effStat_fail hf, statOf_fail hf]
  · have hf' : hostFails c i.plug = false := by simpa using hf
    rcases hi.kind with ⟨_, _, hq⟩ | ⟨hc, _, hT, hg⟩
    · rcases hq with hq | ⟨hC, hq | hq⟩
      · rw [effStat_nontarget hq]; unfold statOf; rw [h.untouched hs hq hi.clear]
      · by_cases hT : i.plug ∈ T
        · subst hC; rw [effStat_off_target hT hf']; simp [statOf, hf', hq]
        · rw [effStat_nontarget hT]; unfold statOf; rw [h.untouched hs hT hi.clear]
      · exact absurd hq hf
    · cases C with
      | stat => exact absurd rfl hs.notStat
      | on => exact absurd hT (hs.noRelatives rfl _ (h.waiters w hwm).target _ ha)
      | off =>
        rw [effStat_off_target hT hf']
        simp [statOf, hf', hg (sent_of_not_fresh hfr hf' (by rw [hc]; decide))]

theorem PInv_congr {c : Cfg} {st0 : St} {C : Cmd} {T : List Nat} {P rest new : List PM} {m m' : M}
    (h : PInv c st0 C T P rest new m) (e1 : m'.active = m.active) (e2 : m'.delayed = m.delayed)
    (e3 : m'.waiting = m.waiting) (e4 : m'.st = m.st) : PInv c st0 C T P rest new m' := by
  constructor
  · rw [e1]; exact h.act
  · rw [e2, e4]; exact h.items
  · rw [e3]; exact h.waiters
  · rw [e4]; unfold unsentPlugs; rw [e2, e3]; exact h.balance
  · rw [e3, e4]; exact h.request

theorem unsent_waiter {C : Cmd} (hne : C ≠ .stat) {w : PM} (h1 : w.cmd = C) (h2 : w.waitState = false) : unsent w = true := by
  simp [unsent, h1, h2, hne]

theorem PInv_pw {c : Cfg} (hw : WF c = true) {st0 : St} {C : Cmd} {T : List Nat} (hs : PSit c C T)
    {P rest new : List PM} {i : PM} {m : M} {s : Stat} (h : PInv c st0 C T P (i :: rest) new m)
    (hsE : ∀ w ∈ m.waiting, i.plug ∈ ancUp c w.plug → s = effStat c st0 C T i.plug)
    (hpi : unsent i = true → succeeds c st0 C T i.plug = false)
    (hpd : C = .off → i.cmd = .off → isOn m.st i.plug = false ∨ hostFails c i.plug = true) :
    ∃ new', PInv c st0 C T (P ++ [i]) rest new' (processWaiters c m i.plug s) := by
  obtain ⟨qs, e1, e2, e3, _, e5, e6⟩ := pw_shape c m i.plug s
  have hcp := (h.items i (by simp)).clear
  have hne := hs.notStat
  have hadded : ∀ j ∈ movedF c i.plug s m.waiting ++ qs, Item c st0 C T m.st j ∧ (unsent j = true → j ∈ m.waiting) := by
    intro j hj
    rcases List.mem_append.1 hj with hj | hj
    · obtain ⟨hson, hjw, _, hp⟩ := mem_movedF.1 hj
      have hwt := h.waiters j hjw
      have hE : effStat c st0 C T i.plug = .on := by rw [← hsE j hjw (anc_of_parent hw hp)]; exact hson
      exact ⟨⟨Or.inr ⟨hwt.cmd, hwt.output, hwt.target, fun hh => by rw [hwt.fresh] at hh; cases hh⟩,
        hs.targetsKnown _ hwt.target, clearPath_child hw hp hcp hE⟩, fun _ => hjw⟩
    · obtain ⟨hson, w, hwm, ha, hnd, rfl, hpa⟩ := e6 j hj
      have hwt := h.waiters w hwm
      have hE : effStat c st0 C T i.plug = .on := by rw [← hsE w hwm ha]; exact hson
      have hx := childOf_spec hw ha
      have hcpx := clearPath_child hw hx.1 hcp hE
      refine ⟨⟨Or.inl ⟨rfl, rfl, ?_⟩, parentOf_known hx.1, hcpx⟩, fun hh => by simp [unsent, query] at hh⟩
      by_cases hxT : childOf c w.plug i.plug ∈ T
      · right
        cases hC : C with
        | stat => exact absurd hC hne
        | on => exact absurd hxT (hs.noRelatives hC _ hwt.target _ (childOf_proper hw ha hnd))
        | off =>
          refine ⟨rfl, ?_⟩
          have hwc : w.cmd = .off := by rw [hwt.cmd, hC]
          -- an `off` message for the child in the active list would have kept the query from being sent
          have seen : ∀ j ∈ m.active ++ movedF c i.plug .on m.waiting, j.plug = childOf c w.plug i.plug → j.cmd = .off →
              False := by
            intro j hjm hjp hjc
            have : plugActive { m with active := m.active ++ movedF c i.plug .on m.waiting }
                (childOf c w.plug i.plug) w.cmd = true := by
              unfold plugActive
              rw [List.any_eq_true]
              exact ⟨j, hjm, by simp [hjp, hwc, hjc]⟩
            rw [this] at hpa; cases hpa
          cases h.request hC _ hxT (by rw [hx.1]; rfl) with
          | waiting w' hw'm hw'p =>
            exact (seen w' (List.mem_append_right _ (mem_movedF_on.2
              ⟨hw'm, by rw [hw'p]; exact anc_of_parent hw hx.1, by rw [hw'p]; exact hx.1⟩)) hw'p
              (by rw [(h.waiters w' hw'm).cmd, hC])).elim
          | blocked b hb hbE => exact absurd (hcpx b hb) hbE
          | active j hjm hjp hjc =>
            exact (seen j (List.mem_append_left _ (by rw [h.act, List.append_assoc]; exact List.mem_append_right _ hjm))
              hjp hjc).elim
          | done hh => exact .inl hh
          | fails hh => exact .inr hh
      · exact Or.inl hxT
  refine ⟨new ++ (movedF c i.plug s m.waiting ++ qs), ?_⟩
  constructor
  · rw [e1, h.act]; simp
  · rw [e2, e3]
    intro j hj
    simp only [List.mem_append] at hj
    rcases hj with (hj | hj | hj) | hj
    · exact h.items j (by simp [hj])
    · exact h.items j (by simp [hj])
    · exact (hadded j (List.mem_append.2 hj)).1
    · exact h.items j (by simp [hj])
  · rw [e5]; intro w hwk; exact h.waiters w (keepF_sub hwk)
  · intro x
    rw [h.balance x, e3]
    apply curOn_congr
    intro t hsucc
    unfold unsentPlugs
    rw [e5, e2]
    simp only [List.mem_map, List.mem_append, List.mem_filter, List.mem_cons]
    constructor
    · rintro ⟨j, hj, rfl⟩
      rcases hj with hj | ⟨((hj | hj) | hj) | hj, hpb⟩
      · -- a waiter stays, or has a blocker and does not succeed, or is released
        rcases waiter_fate (c := c) (a := i.plug) (s := s) hj with hk | ⟨hs', ha⟩ | ⟨_, hmv, _⟩
        · exact ⟨j, Or.inl hk, rfl⟩
        · rw [not_succeeds_below hw ha (by rw [← hsE j hj ha]; exact hs') hcp] at hsucc; cases hsucc
        · have hwt := h.waiters j hj
          exact ⟨j, Or.inr ⟨Or.inl (Or.inr (Or.inr (Or.inl hmv))), unsent_waiter hne hwt.cmd hwt.fresh⟩, rfl⟩
      · subst hj; rw [hpi hpb] at hsucc; cases hsucc
      · exact ⟨j, Or.inr ⟨Or.inl (Or.inl hj), hpb⟩, rfl⟩
      · exact ⟨j, Or.inr ⟨Or.inl (Or.inr (Or.inl hj)), hpb⟩, rfl⟩
      · exact ⟨j, Or.inr ⟨Or.inr hj, hpb⟩, rfl⟩
    · rintro ⟨j, hj, rfl⟩
      rcases hj with hj | ⟨(hj | hj | hj | hj) | hj, hpb⟩
      · exact ⟨j, Or.inl (keepF_sub hj), rfl⟩
      · exact ⟨j, Or.inr ⟨Or.inl (Or.inl (Or.inr hj)), hpb⟩, rfl⟩
      · exact ⟨j, Or.inr ⟨Or.inl (Or.inr hj), hpb⟩, rfl⟩
      · exact ⟨j, Or.inl ((hadded j (List.mem_append_left _ hj)).2 hpb), rfl⟩
      · exact ⟨j, Or.inl ((hadded j (List.mem_append_right _ hj)).2 hpb), rfl⟩
      · exact ⟨j, Or.inr ⟨Or.inr hj, hpb⟩, rfl⟩
  · intro hC t ht hpar
    rw [e3, e5]
    cases h.request hC t ht hpar with
    | waiting w hwm hwp =>
      rcases waiter_fate (c := c) (a := i.plug) (s := s) hwm with hk | ⟨hs', ha⟩ | ⟨_, hmv, _⟩
      · exact .waiting w hk hwp
      · exact .blocked i.plug (hwp ▸ ha) (by rw [← hsE w hwm ha]; exact hs')
      · exact .active w (by simp [hmv]) hwp (by rw [(h.waiters w hwm).cmd, hC])
    | blocked b hb hbE => exact .blocked b hb hbE
    | active j hjm hjp hjc =>
      simp only [List.mem_append, List.mem_cons] at hjm
      rcases hjm with (rfl | hjm) | hjm
      · exact hjp ▸ (hpd hC hjc).elim .done .fails
      · exact .active j (by simp [hjm]) hjp hjc
      · exact .active j (by simp [hjm]) hjp hjc
    | done hh => exact .done hh
    | fails hh => exact .fails hh

theorem isOn_powerSt_off_mono {c : Cfg} {st : St} {p x : Nat} (h : isOn st x = false) :
    isOn (powerSt c st .off p) x = false := by
  rw [isOn_powerSt_off _ _ _ _ _ (by decide), h]; rfl

theorem IsQuery_mono {c : Cfg} {C : Cmd} {T : List Nat} {st : St} {j : PM} (p : Nat) (h : IsQuery c C T st j) :
    IsQuery c C T (powerSt c st C p) j := by
  obtain ⟨h1, h2, h3⟩ := h
  refine ⟨h1, h2, ?_⟩
  rcases h3 with h3 | ⟨hC, h3 | h3⟩
  · exact Or.inl h3
  · subst hC; exact Or.inr ⟨rfl, Or.inl (isOn_powerSt_off_mono h3)⟩
  · exact Or.inr ⟨hC, Or.inr h3⟩

theorem IsPower_mono {c : Cfg} {C : Cmd} {T : List Nat} {st : St} {j : PM} (p : Nat) (h : IsPower C T st j) :
    IsPower C T (powerSt c st C p) j := by
  obtain ⟨h1, h2, h3, h4⟩ := h
  refine ⟨h1, h2, h3, fun hwt => ?_⟩
  have := h4 hwt
  cases C with
  | stat => rw [isOn_powerSt_off _ _ _ _ _ (by decide), this]; rfl
  | on => rw [isOn_powerSt_on, this]; simp
  | off => rw [isOn_powerSt_off _ _ _ _ _ (by decide), this]; rfl

theorem PInv_fresh {c : Cfg} {st0 : St} {C : Cmd} {T : List Nat} (hs : PSit c C T) {P rest new : List PM}
    {i i' : PM} {m : M} (h : PInv c st0 C T P (i :: rest) new m) (hc : i.cmd ≠ .stat) (hwt : i.waitState = false)
    (hf : hostFails c i.plug = false) (hi' : i' = { i with output := true, waitState := true }) :
    PInv c st0 C T (P ++ [i]) rest new
      { m with st := powerSt c m.st i.cmd i.plug, delayed := m.delayed ++ [i'] } := by
  have hi := h.items i (by simp)
  have hne := hs.notStat
  obtain ⟨hC, _, hT, _⟩ := hi.power hc
  have hsucc : succeeds c st0 C T i.plug = true := succeeds_iff.2 ⟨blk_clear hi.clear, hf⟩
  have hpl : i'.plug = i.plug := by simp [hi']
  -- the plug of `i` is now in the state asked for
  have hdone : isOn (powerSt c m.st C i.plug) i.plug = (C == .on) := by
    cases C with
    | stat => exact absurd rfl hne
    | on => rw [isOn_powerSt_on]; simp
    | off => rw [isOn_powerSt_off _ _ _ _ _ (by decide)]; simp
  rw [hC]
  constructor
  · simp [h.act]
  · intro j hj
    simp only [List.mem_append, List.mem_singleton] at hj
    have old : ∀ j, j ∈ (i :: rest) ++ new ++ m.delayed → Item c st0 C T (powerSt c m.st C i.plug) j := by
      intro j hj
      have := h.items j hj
      exact ⟨this.kind.elim (fun q => Or.inl (IsQuery_mono _ q)) (fun q => Or.inr (IsPower_mono _ q)), this.isKnown,
        this.clear⟩
    rcases hj with (hj | hj) | hj | hj
    · exact old j (by simp [hj])
    · exact old j (by simp [hj])
    · exact old j (by simp [hj])
    · subst hj
      exact ⟨Or.inr ⟨by simp [hi', hC], by simp [hi'], by rw [hpl]; exact hT, fun _ => by rw [hpl]; exact hdone⟩,
        by rw [hpl]; exact hi.isKnown, by rw [hpl]; exact hi.clear⟩
  · exact h.waiters
  · intro x
    have hpb : unsent i = true := by simp [unsent, hc, hwt]
    have hpb' : unsent i' = false := by simp [unsent, hi']
    rw [h.balance x, ← curOn_powerSt hne hsucc]
    refine curOn_congr (fun t _ => ?_) x
    simp only [unsentPlugs, List.cons_append, List.filter_cons, hpb, if_true, List.filter_append, List.filter_nil, hpb',
      List.map_append, List.map_cons, List.mem_append, List.mem_cons, List.append_nil, Bool.false_eq_true, if_false]
    constructor
    · rintro (h1 | rfl | h1)
      · exact .inr (.inl h1)
      · exact .inl rfl
      · exact .inr (.inr h1)
    · rintro (rfl | h1 | h1)
      · exact .inr (.inl rfl)
      · exact .inl h1
      · exact .inr (.inr h1)
  · intro hC' t ht hpar
    subst hC'
    cases h.request rfl t ht hpar with
    | waiting w a b => exact .waiting w a b
    | blocked b x y => exact .blocked b x y
    | active j hjm hjp hjc =>
      rcases List.mem_cons.1 hjm with rfl | hjm
      · exact .done (hjp ▸ hdone)
      · exact .active j hjm hjp hjc
    | done hh => exact .done (isOn_powerSt_off_mono hh)
    | fails hh => exact .fails hh

theorem PInv_again_false {c : Cfg} {st0 : St} {C : Cmd} {T : List Nat} {P rest new : List PM} {i : PM} {m : M}
    (h : PInv c st0 C T P (i :: rest) new m) : isAgain c m i = false := by
  have hi := h.items i (by simp)
  unfold isAgain
  by_cases hf : hostFails c i.plug = true
  · simp [hf]
  · by_cases hc : i.cmd = .stat
    · simp [hc]
    · cases hwt : i.waitState
      · simp
      · obtain ⟨hC, _, _, hg⟩ := hi.power hc
        -- the plug is in the state asked for, so the poll agrees with the command
        have : (statStr c m i.plug == .on) = (i.cmd == .on) := by
          unfold statStr; rw [hg hwt, hC]; cases C <;> rfl
        rw [this]; simp

theorem PInv_justifies {c : Cfg} (hw : WF c = true) (st0 : St) {C : Cmd} {T : List Nat} (hs : PSit c C T) :
    Justifies (powLine c st0 C T) c (PInv c st0 C T) where
  act := fun _ _ _ _ h => h.act
  outp := by
    intro P i rest new m h hc
    exact ((h.items i (by simp)).power hc).output
  own := by
    intro P i rest new m h _ _ ho
    have hi := h.items i (by simp)
    rcases hi.kind with hq | ⟨hC, _, _, _⟩
    · rw [hq.silent] at ho; cases ho
    · have hcs : i.cmd ≠ .stat := by rw [hC]; exact hs.notStat
      -- no blocker: both print `error` for a failing host and `ok` otherwise
      rw [powLine_eq, blk_clear hi.clear]
      simp [ownLine, powLineB, hcs]
  waiters := by
    intro P i rest new m h hfr _ hs' w hwm ha _
    have hwt := h.waiters w hwm
    rw [h.res hs hfr hwm ha] at hs' ⊢
    -- the blocker of `w` is `i.plug`; the machine's formula differs from the rules' only by its test for `stat`
    rw [powLine_eq, blk_at hw ha hs' (h.items i (by simp)).clear]
    unfold wline1 powLineB
    rw [hwt.cmd, if_neg (by simpa using hs.notStat)]
  step := by
    intro P i rest new m h
    have hi := h.items i (by simp)
    rw [processOne_shape c m i fun hc => (hi.power hc).output]
    by_cases hfr : isFresh c i = true
    · simp only [hfr, if_true]
      simp only [isFresh, unsent, Bool.and_eq_true, Bool.not_eq_true', decide_eq_true_eq] at hfr
      exact ⟨new, PInv_fresh hs h hfr.2.1 hfr.2.2 hfr.1 rfl⟩
    · have hfr : isFresh c i = false := by simpa using hfr
      simp only [hfr, PInv_again_false h, Bool.false_eq_true, if_false]
      obtain ⟨f1, f2, f3, f4⟩ := outIf_fields m i.output (ownLine c m i)
      apply PInv_pw hw hs (PInv_congr h f1 f2 f3 f4)
      · intro w hwm ha
        exact h.res hs hfr (f3 ▸ hwm) ha
      · intro hpb
        -- not sent, yet not fresh: its host fails
        exact succeeds_fails (by simpa [isFresh, hpb] using hfr)
      · intro hC hc
        rw [f4]
        cases hf : hostFails c i.plug
        · left
          have hcs : i.cmd ≠ .stat := by rw [hc]; decide
          rw [(hi.power hcs).sent (sent_of_not_fresh hfr hf hcs), hC]; rfl
        · exact Or.inr rfl
  turn := by
    intro P new m h
    refine ⟨by simp, fun j hj => h.items j (by simpa using hj), h.waiters, fun x => ?_, fun hC t ht hpar => ?_⟩
    · simpa [unsentPlugs] using h.balance x
    · exact (h.request hC t ht hpar).mono fun j hj => by simp at hj ⊢; exact .inl hj

end Pm.Redfish
