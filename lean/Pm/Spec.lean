/- C17 on a small stand-alone model: the static format check is sound for the dynamic formatter -/
namespace Pm.Spec

abbrev Bytes := List Nat

/-- a send string after splitting at '%' -/
inductive Tok where
  | lit (c : Nat)       -- ordinary byte
  | pct                 -- "%%"
  | str                 -- "%s"
  | bad                 -- any other conversion, or a trailing '%'
deriving DecidableEq

/-- `afterPct` = the previous byte was an unconsumed '%' -/
def toksAux : Bool → Bytes → List Tok
  | false, [] => []
  | true, [] => [.bad]
  | false, c :: r => if c = 37 then toksAux true r else .lit c :: toksAux false r
  | true, c :: r => (if c = 37 then .pct else if c = 115 then .str else .bad) :: toksAux false r

def toks (fmt : Bytes) : List Tok := toksAux false fmt

/-- `hvsprintf(fmt, arg)` as the interpreter uses it: at most one optional string argument.
    `none` = undefined behaviour -/
def render : List Tok → Option Bytes → Option Bytes
  | [], _ => some []
  | .lit c :: r, a => (render r a).map (c :: ·)
  | .pct :: r, a => (render r a).map (37 :: ·)
  | .str :: r, some arg => (render r none).map (arg ++ ·)       -- the single argument is consumed
  | .str :: _, none => none
  | .bad :: _, _ => none

/-- the static check run over every send string of every shipped specification;
    `k` = number of string arguments the context provides (0 or 1) -/
def sendSafe : List Tok → Nat → Bool
  | [], _ => true
  | .lit _ :: r, k => sendSafe r k
  | .pct :: r, k => sendSafe r k
  | .str :: r, k => k > 0 && sendSafe r (k - 1)
  | .bad :: _, _ => false

def nargs (a : Option Bytes) : Nat := if a.isSome then 1 else 0

theorem sendSafe_sound : ∀ (ts : List Tok) (arg : Option Bytes),
    sendSafe ts (nargs arg) = true → (render ts arg).isSome = true
  | [], _, _ => rfl
  | .lit c :: r, a, h => by simp only [sendSafe] at h; simpa [render] using sendSafe_sound r a h
  | .pct :: r, a, h => by simp only [sendSafe] at h; simpa [render] using sendSafe_sound r a h
  | .str :: r, some arg, h => by
    simp only [sendSafe, nargs, Option.isSome_some, if_true, Bool.and_eq_true] at h
    simpa [render] using sendSafe_sound r none (by simpa [nargs] using h.2)
  | .str :: r, none, h => by simp [sendSafe, nargs] at h
  | .bad :: r, a, h => by simp [sendSafe] at h

/-- C17 link between the kernel-decided table predicate and the interpreter: a send string that
    passes the check never drives the formatter into undefined behaviour, with or without argument
    as its context provides -/
theorem C17_send_never_ub (fmt : Bytes) (arg : Option Bytes) (h : sendSafe (toks fmt) (nargs arg) = true) :
    (render (toks fmt) arg).isSome = true := sendSafe_sound _ _ h

-- a shipped string and a forbidden one, as the table would contain them
example : sendSafe (toks [111, 110, 32, 37, 115, 13, 10]) 1 = true := by decide      -- "on %s\r\n"
example : sendSafe (toks [111, 110, 32, 37, 100, 13, 10]) 1 = false := by decide     -- "on %d\r\n"
example : sendSafe (toks [108, 111, 103, 105, 110, 32, 37, 115, 10]) 0 = false := by decide   -- "login %s\n" without argument

end Pm.Spec

