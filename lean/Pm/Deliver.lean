import Pm.Daemon
/-! The delivery of a device's callbacks to the clients (`applyOuts`, `_act_finish`), described once.

    `_act_finish` finds the client, *decides* from its command alone (`finDecide`: a function of the command, the `exprange`
    flag and the arglist of the command) and rewrites the records of that id.  So a run of callbacks is a run of such rewrites
    and of `put`s.  Three ways to reason about such a run: a property of (callbacks delivered so far, world reached) that every
    callback keeps at its place in the list holds of the run (`applyOuts_keeps_pre`; its instance `MapsAt` / `applyOuts_map_at`
    says what the run does to the world: the table mapped entry by entry, records not addressed left alone); a relation between
    two worlds that `_act_finish` and a `put` keep is kept (`applyOuts_rel₂`); and seen from one client the run is a fold of a
    function over that client's record (`recRun`, `applyOuts_rec`). -/
namespace Pm.Daemon
open Pm Pm.Client
open Pm.Dev2 (ActErr)

/-- client `g`'s record -/
def cliRec (w : W) (g : Nat) : Option Cli := w.clients.find? (·.id == g)

theorem cliRec_congr {w w' : W} (h : w'.clients = w.clients) (g : Nat) : cliRec w' g = cliRec w g := by
  unfold cliRec; rw [h]

theorem find_map_id (F : Cli → Cli) (hF : ∀ c, (F c).id = c.id) (g : Nat) (l : List Cli) :
    (l.map F).find? (·.id == g) = (l.find? (·.id == g)).map F := by
  rw [List.find?_map]
  congr 1
  apply congrArg (fun q => List.find? q l)
  funext c
  simp [hF]

theorem updCli_other (w : W) (id g : Nat) (f : Cli → Cli) (hf : ∀ c, (f c).id = c.id) (h : id ≠ g) :
    cliRec (updCli w id f) g = cliRec w g := by
  unfold cliRec updCli
  dsimp only
  rw [find_map_id (fun c => if c.id == id then f c else c) (by intro c; split <;> simp [hf]) g]
  cases hq : w.clients.find? (·.id == g) with
  | none => rfl
  | some c =>
    have : c.id = g := by simpa using List.find?_some hq
    have hne : ¬ c.id = id := by rw [this]; exact fun e => h e.symm
    simp [hne]

theorem updCli_self (w : W) (g : Nat) (f : Cli → Cli) (hf : ∀ c, (f c).id = c.id) :
    cliRec (updCli w g f) g = (cliRec w g).map f := by
  unfold cliRec updCli
  dsimp only
  rw [find_map_id (fun c => if c.id == g then f c else c) (by intro c; split <;> simp [hf]) g]
  cases hq : w.clients.find? (·.id == g) with
  | none => rfl
  | some c =>
    have : c.id = g := by simpa using List.find?_some hq
    simp [this]

theorem cliRec_id {w : W} {g : Nat} {c : Cli} (h : cliRec w g = some c) : c.id = g := by
  simpa using List.find?_some h

theorem map_self (o : Option Cli) (f : Cli → Cli) (h : ∀ c, f c = c) : o = o.map f := by
  cases o with
  | none => rfl
  | some c => exact congrArg some (h c).symm

/-! ### what `_act_finish` decides -/

namespace Reply

def errText (err : ActErr) (name : Bytes) : Bytes := match err with
  | .expfail => name ++ bstr ": action timed out waiting for expected response"
  | .abort => name ++ bstr ": action aborted due to previous action timeout"
  | .connectTimeout => name ++ bstr ": connect timeout"
  | .loginTimeout => name ++ bstr ": login timeout"
  | .success => []
/-- what a completion writes at once: a `308 <device>: <reason>` line for a failure, nothing for a success -/
def errPre (err : ActErr) (name : Bytes) : Bytes := if err != .success then bstr "308 " ++ errText err name ++ crlf else []

def teleLine (name t : Bytes) : Bytes :=
  bstr "305 " ++ ((String.fromUTF8! ⟨t.toArray⟩).replace "(dev)" ("(" ++ String.fromUTF8! ⟨name.toArray⟩ ++ ")")).toUTF8.toList ++ crlf

/-- the arglist entries in iteration order: `arglist_next` walks the target hostlist and looks each name up -/
def entriesOf (c : CmdC) : List ArgC := c.names.filterMap fun n => c.args.find? (·.node == n)

end Reply
open Reply (errPre teleLine entriesOf)

/-- the reply reads of a command its kind, its error flag and the arglist entries of its targets -/
theorem finalReply_entries (ex : Bool) (c c' : CmdC) (hcom : c.com = c'.com) (herr : c.error = c'.error)
    (hent : entriesOf c = entriesOf c') : finalReply ex c = finalReply ex c' := by
  unfold entriesOf at hent
  unfold finalReply
  simp only [hcom, herr, hent]

/-- the arglist `al` as the reply functions see it -/
def cellsOf (w : W) (al : Nat) : List ArgC := (storeArgs w al).map argC

/-- What `_act_finish` decides from the command of the client it has found (`ex`: the client's `exprange` flag, `cells al`: the
    arglist `al`).  `none`: an assertion (`assert(c->cmd != NULL)`, or the sort inside the final reply).  Otherwise the command
    the client is left with — counted down, or none after the last completion — and the text it is sent. -/
def finDecide (ex : Bool) (cells : Nat → List ArgC) (name : Bytes) (e : ActErr) : Option CmdC → Option (Option CmdC × Bytes)
  | none => none
  | some k =>
    if k.pending == 1 then
      (finalReply ex { k with error := k.error || (e != .success), args := cells k.al }).map fun r => (none, errPre e name ++ r ++ prompt)
    else some (some { k with error := k.error || (e != .success), pending := k.pending - 1 }, errPre e name)

/-- **`_act_finish`**: the client is not there; or the decision is an assertion; or every record of that id gets the new command
    and the text -/
theorem actFinish_decide (w : W) (id : Nat) (e : ActErr) (name : Bytes) :
    actFinish w id e name =
      match cliRec w id with
      | none => (w, false)
      | some c =>
        match finDecide c.exprange (cellsOf w) name e c.cmd with
        | none => (w, true)
        | some kt => (updCli w id fun x => put { x with cmd := kt.1 } kt.2, false) := by
  unfold actFinish
  change (match cliRec w id with | none => _ | some c => _) = _
  cases hq : cliRec w id with
  | none => rfl
  | some c =>
    have hid : c.id = id := cliRec_id hq
    dsimp only
    cases c.cmd with
    | none => rfl
    | some k =>
      dsimp only [finDecide]
      rw [hid]
      by_cases hp : (k.pending == 1) = true
      · rw [if_pos hp, if_pos hp]
        change (match finalReply c.exprange { k with error := k.error || (e != .success), args := cellsOf w k.al } with | some r => _ | none => _) = _
        cases finalReply c.exprange { k with error := k.error || (e != .success), args := cellsOf w k.al } <;> rfl
      · rw [if_neg hp, if_neg hp]
        rfl

theorem finDecide_more (ex : Bool) (cells : Nat → List ArgC) (name : Bytes) (e : ActErr) {k : CmdC} (hp : k.pending ≠ 1) :
    finDecide ex cells name e (some k) =
      some (some { k with error := k.error || (e != .success), pending := k.pending - 1 }, errPre e name) :=
  if_neg (by simpa using hp)

theorem finDecide_last (ex : Bool) (cells : Nat → List ArgC) (name : Bytes) (e : ActErr) {k : CmdC} (hp : k.pending = 1) :
    finDecide ex cells name e (some k) =
      (finalReply ex { k with error := k.error || (e != .success), args := cells k.al }).map fun r => (none, errPre e name ++ r ++ prompt) :=
  if_pos (by simpa using hp)

/-- the decision reads, of the arglist, only the entries the reply looks at -/
theorem finDecide_congr (ex : Bool) (cells cells' : Nat → List ArgC) (name : Bytes) (e : ActErr) (cmd : Option CmdC)
    (h : ∀ k, cmd = some k → entriesOf { k with args := cells k.al } = entriesOf { k with args := cells' k.al }) :
    finDecide ex cells name e cmd = finDecide ex cells' name e cmd := by
  cases cmd with
  | none => rfl
  | some k =>
    have hr := finalReply_entries ex { k with error := k.error || (e != .success), args := cells k.al }
      { k with error := k.error || (e != .success), args := cells' k.al } rfl rfl (h k rfl)
    simp only [finDecide, hr]

/-- a command the decision leaves is the old one counted down: same request, same arglist -/
theorem finDecide_some {ex : Bool} {cells : Nat → List ArgC} {name : Bytes} {e : ActErr} {cmd : Option CmdC} {k' : CmdC} {t : Bytes}
    (h : finDecide ex cells name e cmd = some (some k', t)) :
    ∃ k, cmd = some k ∧ k.pending ≠ 1 ∧ k' = { k with error := k.error || (e != .success), pending := k.pending - 1 } ∧
      t = errPre e name := by
  cases cmd with
  | none => cases h
  | some k =>
    simp only [finDecide] at h
    by_cases hp : (k.pending == 1) = true
    · rw [if_pos hp] at h
      cases hr : finalReply ex { k with error := k.error || (e != .success), args := cells k.al } <;> rw [hr] at h <;> cases h
    · rw [if_neg hp] at h
      cases h
      exact ⟨k, rfl, by simpa using hp, rfl, rfl⟩

theorem actFinish_other (w : W) (id g : Nat) (e : ActErr) (name : Bytes) (h : id ≠ g) :
    cliRec (actFinish w id e name).1 g = cliRec w g := by
  rw [actFinish_decide]
  cases cliRec w id with
  | none => rfl
  | some c =>
    dsimp only
    cases finDecide c.exprange (cellsOf w) name e c.cmd with
    | none => rfl
    | some kt => exact updCli_other w id g _ (fun _ => rfl) h

/-! ### a run of callbacks -/

/-- one callback of device `name` delivered: the step of the fold `applyOuts`, on the world and the messages reported so far -/
def applyOut (name : Bytes) (acc : W × List String) (o : Pm.Dev2.Out) : W × List String :=
  let (w, msgs) := acc
  match o with
  | .finish cid e => let (w, bad) := actFinish w cid e name; (w, if bad then msgs ++ ["O ABORT act_finish"] else msgs)
  | .telemetry cid t =>
    let t' := (String.fromUTF8! ⟨t.toArray⟩).replace "(dev)" ("(" ++ String.fromUTF8! ⟨name.toArray⟩ ++ ")")
    (updCli w cid fun c => put c (bstr "305 " ++ t'.toUTF8.toList ++ crlf), msgs)
  | .diag cid t => (updCli w cid fun c => put c (bstr "309 " ++ t ++ crlf), msgs)
  | .sent _ => (w, msgs)
  | .rxMismatch want got => (w, msgs ++ [s!"O RXMISMATCH want pat {want.pat} subj {hexOf want.subject} asked pat {got.1} subj {hexOf got.2}"])
  | .abortAssert site => (w, msgs ++ [s!"O ABORT {site}"])

theorem applyOuts_eq (w : W) (name : Bytes) (outs : List Pm.Dev2.Out) :
    applyOuts w name outs = outs.foldl (applyOut name) (w, []) := by
  unfold applyOuts applyOut
  rfl

/-- **a run of callbacks, one world, with the callbacks delivered so far in view**: `P pre u` speaks of the world `u` reached when
    the callbacks `pre` have been delivered; what every callback of the list keeps (at its place in the list), the run keeps -/
theorem applyOuts_keeps_pre (P : List Pm.Dev2.Out → W → Prop) (name : Bytes) (outs : List Pm.Dev2.Out)
    (hstep : ∀ (pre : List Pm.Dev2.Out) (acc : W × List String) (o : Pm.Dev2.Out) (post : List Pm.Dev2.Out),
      outs = pre ++ o :: post → P pre acc.1 → P (pre ++ [o]) (applyOut name acc o).1)
    (w : W) (h : P [] w) : P outs (applyOuts w name outs).1 := by
  rw [applyOuts_eq]
  have key : ∀ (l pre : List Pm.Dev2.Out) (acc : W × List String), outs = pre ++ l → P pre acc.1 →
      P outs (l.foldl (applyOut name) acc).1 := by
    intro l
    induction l with
    | nil => intro pre acc he ha; rw [he, List.append_nil]; exact ha
    | cons o r ih =>
      intro pre acc he ha
      exact ih (pre ++ [o]) _ (by rw [he, List.append_assoc]; rfl) (hstep pre acc o r he ha)
  exact key outs [] (w, []) rfl h

/-- **the same callbacks delivered in two worlds**: a relation that `_act_finish` and a `put` keep is kept; and where related
    worlds give the same verdicts, the messages are the same -/
theorem applyOuts_rel₂ (R : W → W → Prop) (name : Bytes)
    (hfin : ∀ w w' id e, R w w' → R (actFinish w id e name).1 (actFinish w' id e name).1)
    (hput : ∀ w w' id b, R w w' → R (updCli w id fun c => put c b) (updCli w' id fun c => put c b))
    (outs : List Pm.Dev2.Out) (w w' : W) (h : R w w') :
    R (applyOuts w name outs).1 (applyOuts w' name outs).1 ∧
    ((∀ w w' id e, R w w' → (actFinish w' id e name).2 = (actFinish w id e name).2) →
      (applyOuts w' name outs).2 = (applyOuts w name outs).2) := by
  rw [applyOuts_eq, applyOuts_eq]
  have hstep : ∀ (acc acc' : W × List String) o, R acc.1 acc'.1 →
      R (applyOut name acc o).1 (applyOut name acc' o).1 ∧
      ((∀ w w' id e, R w w' → (actFinish w' id e name).2 = (actFinish w id e name).2) → acc'.2 = acc.2 →
        (applyOut name acc' o).2 = (applyOut name acc o).2) := by
    intro acc acc' o ha
    cases o with
    | finish cid e =>
      refine ⟨hfin _ _ cid e ha, fun hv hm => ?_⟩
      show (if (actFinish acc'.1 cid e name).2 then _ else _) = (if (actFinish acc.1 cid e name).2 then _ else _)
      rw [hv _ _ cid e ha, hm]
    | telemetry cid t => exact ⟨hput _ _ cid _ ha, fun _ hm => hm⟩
    | diag cid t => exact ⟨hput _ _ cid _ ha, fun _ hm => hm⟩
    | sent _ => exact ⟨ha, fun _ hm => hm⟩
    | rxMismatch _ _ => exact ⟨ha, fun _ hm => congrArg (· ++ _) hm⟩
    | abortAssert _ => exact ⟨ha, fun _ hm => congrArg (· ++ _) hm⟩
  have key : ∀ (acc acc' : W × List String), R acc.1 acc'.1 →
      R (outs.foldl (applyOut name) acc).1 (outs.foldl (applyOut name) acc').1 ∧
      ((∀ w w' id e, R w w' → (actFinish w' id e name).2 = (actFinish w id e name).2) → acc'.2 = acc.2 →
        (outs.foldl (applyOut name) acc').2 = (outs.foldl (applyOut name) acc).2) := by
    induction outs with
    | nil => exact fun _ _ ha => ⟨ha, fun _ hm => hm⟩
    | cons o r ih =>
      intro acc acc' ha
      obtain ⟨s1, s2⟩ := hstep acc acc' o ha
      exact ⟨(ih _ _ s1).1, fun hv hm => (ih _ _ s1).2 hv (s2 hv hm)⟩
  exact ⟨(key _ _ h).1, fun hv => (key _ _ h).2 hv rfl⟩

/-- what the map `G` of the table does to the entry `x`: id and descriptor stay, and the record stays as it is when none of the
    callbacks `pre` is addressed to it -/
structure EntryKept (A : Nat → Pm.Dev2.Out → Prop) (pre : List Pm.Dev2.Out) (G : Cli → Cli) (x : Cli) : Prop where
  id : (G x).id = x.id
  fd : (G x).fd = x.fd
  alone : (∀ o ∈ pre, ¬ A x.id o) → G x = x

theorem EntryKept.of_eq {A : Nat → Pm.Dev2.Out → Prop} {pre : List Pm.Dev2.Out} {G : Cli → Cli} {x y : Cli} (e : G x = y)
    (hid : y.id = x.id) (hfd : y.fd = x.fd) (hal : (∀ o ∈ pre, ¬ A x.id o) → y = x) : EntryKept A pre G x := by
  subst e; exact ⟨hid, hfd, hal⟩

/-- `u` is `w` but for the client table; there every entry is mapped by a function that keeps id and descriptor and leaves a
    record alone to which none of the callbacks `pre` is addressed (`A g o`: callback `o` is addressed to client `g`) -/
def MapsAt (A : Nat → Pm.Dev2.Out → Prop) (w : W) (pre : List Pm.Dev2.Out) (u : W) : Prop :=
  ∃ G : Cli → Cli, u = { w with clients := w.clients.map G } ∧ ∀ x, EntryKept A pre G x

/-- **what a run of callbacks does to the world**: `MapsAt`, for every `A` that holds of a completion, a telemetry line and a
    diagnostic line and the client they name -/
theorem applyOuts_map_at (A : Nat → Pm.Dev2.Out → Prop) (hfin : ∀ id e, A id (.finish id e)) (htel : ∀ id t, A id (.telemetry id t))
    (hdiag : ∀ id t, A id (.diag id t)) (w : W) (name : Bytes) (outs : List Pm.Dev2.Out) :
    MapsAt A w outs (applyOuts w name outs).1 := by
  -- a callback either leaves the world, hence the map `G`, as it is (`hsame`) …
  have hsame : ∀ (pre : List Pm.Dev2.Out) (o : Pm.Dev2.Out) (u : W), MapsAt A w pre u → MapsAt A w (pre ++ [o]) u := by
    rintro pre o u ⟨G, hu, hG⟩
    exact ⟨G, hu, fun x => ⟨(hG x).id, (hG x).fd, fun h => (hG x).alone fun o' ho' => h o' (List.mem_append_left _ ho')⟩⟩
  -- … or is one `updCli` at the id it is addressed to, which composes with `G` (`hupd`)
  have hupd : ∀ (pre : List Pm.Dev2.Out) (o : Pm.Dev2.Out) (u : W) id (f : Cli → Cli), A id o → (∀ x, (f x).id = x.id ∧ (f x).fd = x.fd) →
      MapsAt A w pre u → MapsAt A w (pre ++ [o]) (updCli u id f) := by
    rintro pre o u id f hA hf ⟨G, rfl, hG⟩
    refine ⟨fun x => if (G x).id == id then f (G x) else G x, by simp [updCli, List.map_map], fun x => ?_⟩
    by_cases hx : (G x).id = id
    · refine .of_eq (if_pos (by simpa using hx)) ((hf _).1.trans (hG x).id) ((hf _).2.trans (hG x).fd)
        fun h => absurd ?_ (h o (by simp))
      rw [← (hG x).id, hx]; exact hA
    · exact .of_eq (if_neg (by simpa using hx)) (hG x).id (hG x).fd
        fun h => (hG x).alone fun o' ho' => h o' (List.mem_append_left _ ho')
  refine applyOuts_keeps_pre (MapsAt A w) name outs (fun pre acc o _ _ hu => ?_) w ⟨id, by simp, fun _ => ⟨rfl, rfl, fun _ => rfl⟩⟩
  cases o with
  | finish cid e =>
    show MapsAt A w _ (actFinish acc.1 cid e name).1
    rw [actFinish_decide]
    cases cliRec acc.1 cid with
    | none => exact hsame pre _ _ hu
    | some c =>
      dsimp only
      cases finDecide c.exprange (cellsOf acc.1) name e c.cmd with
      | none => exact hsame pre _ _ hu
      | some kt => exact hupd pre _ _ cid (fun x => put { x with cmd := kt.1 } kt.2) (hfin cid e) (fun _ => ⟨rfl, rfl⟩) hu
  | telemetry cid t => exact hupd pre _ _ cid _ (htel cid t) (fun _ => ⟨rfl, rfl⟩) hu
  | diag cid t => exact hupd pre _ _ cid _ (hdiag cid t) (fun _ => ⟨rfl, rfl⟩) hu
  | _ => exact hsame pre _ _ hu

theorem applyOuts_map (w : W) (name : Bytes) (outs : List Pm.Dev2.Out) :
    ∃ G : Cli → Cli, (applyOuts w name outs).1 = { w with clients := w.clients.map G } ∧ ∀ x, (G x).id = x.id ∧ (G x).fd = x.fd := by
  obtain ⟨G, h, hG⟩ := applyOuts_map_at (fun _ _ => True) (fun _ _ => trivial) (fun _ _ => trivial) (fun _ _ => trivial) w name outs
  exact ⟨G, h, fun x => ⟨(hG x).id, (hG x).fd⟩⟩

theorem applyOut_store (name : Bytes) (acc : W × List String) (o : Pm.Dev2.Out) : (applyOut name acc o).1.store = acc.1.store := by
  cases o with
  | finish cid e =>
    show (actFinish acc.1 cid e name).1.store = _
    rw [actFinish_decide]
    cases cliRec acc.1 cid with
    | none => rfl
    | some c => dsimp only; cases finDecide c.exprange (cellsOf acc.1) name e c.cmd <;> rfl
  | _ => rfl

theorem applyOuts_store (w : W) (name : Bytes) (outs : List Pm.Dev2.Out) : (applyOuts w name outs).1.store = w.store := by
  obtain ⟨G, h, _⟩ := applyOuts_map w name outs
  rw [h]

/-! ### seen from one client -/

/-- what one callback does to the record `c` of client `g`: a completion addressed to `g` rewrites command and output as
    `finDecide` says (an assertion leaves the record as it is), a telemetry or diagnostic line addressed to `g` is appended,
    everything else passes by -/
def recOut (name : Bytes) (cells : Nat → List ArgC) (g : Nat) (o : Pm.Dev2.Out) (c : Cli) : Cli :=
  match o with
  | .finish cid e =>
    if cid = g then
      match finDecide c.exprange cells name e c.cmd with
      | none => c
      | some kt => put { c with cmd := kt.1 } kt.2
    else c
  | .telemetry cid t => if cid = g then put c (teleLine name t) else c
  | .diag cid t => if cid = g then put c (bstr "309 " ++ t ++ crlf) else c
  | _ => c

/-- the record of client `g` after a run of callbacks of the device `name`, the store being `cells` -/
def recRun (name : Bytes) (cells : Nat → List ArgC) (g : Nat) (outs : List Pm.Dev2.Out) (c : Cli) : Cli :=
  outs.foldl (fun c o => recOut name cells g o c) c

theorem recRun_cons (name : Bytes) (cells : Nat → List ArgC) (g : Nat) (o : Pm.Dev2.Out) (r : List Pm.Dev2.Out) (c : Cli) :
    recRun name cells g (o :: r) c = recRun name cells g r (recOut name cells g o c) := rfl

theorem updCli_rec (w : W) (id g : Nat) (f : Cli → Cli) (hf : ∀ c, (f c).id = c.id) :
    cliRec (updCli w id f) g = (cliRec w g).map fun c => if id = g then f c else c := by
  by_cases h : id = g
  · subst h; rw [updCli_self _ _ _ hf]; simp
  · rw [updCli_other _ _ _ _ hf h]; exact map_self _ _ fun c => by rw [if_neg h]

theorem applyOut_rec (name : Bytes) (acc : W × List String) (o : Pm.Dev2.Out) (g : Nat) :
    cliRec (applyOut name acc o).1 g = (cliRec acc.1 g).map (recOut name (cellsOf acc.1) g o) := by
  cases o with
  | finish cid e =>
    show cliRec (actFinish acc.1 cid e name).1 g = _
    rw [actFinish_decide]
    by_cases h : cid = g
    · subst h
      cases hq : cliRec acc.1 cid with
      | none => exact hq
      | some c =>
        dsimp only [Option.map_some, recOut]
        rw [if_pos rfl]
        cases finDecide c.exprange (cellsOf acc.1) name e c.cmd with
        | none => exact hq
        | some kt =>
          dsimp only
          rw [updCli_self acc.1 cid (fun x => put { x with cmd := kt.1 } kt.2) (fun _ => rfl), hq]
          rfl
    · have hid : ∀ c : Cli, recOut name (cellsOf acc.1) g (.finish cid e) c = c := fun c => by simp only [recOut, if_neg h]
      cases cliRec acc.1 cid with
      | none => exact map_self _ _ hid
      | some c =>
        dsimp only
        cases finDecide c.exprange (cellsOf acc.1) name e c.cmd with
        | none => exact map_self _ _ hid
        | some kt =>
          dsimp only
          rw [updCli_other acc.1 cid g (fun x => put { x with cmd := kt.1 } kt.2) (fun _ => rfl) h]
          exact map_self _ _ hid
  | telemetry cid t => exact updCli_rec acc.1 cid g (fun c => put c (teleLine name t)) (fun _ => rfl)
  | diag cid t => exact updCli_rec acc.1 cid g (fun c => put c (bstr "309 " ++ t ++ crlf)) (fun _ => rfl)
  | sent _ => exact map_self _ _ fun _ => rfl
  | rxMismatch _ _ => exact map_self _ _ fun _ => rfl
  | abortAssert _ => exact map_self _ _ fun _ => rfl

theorem actFinish_rec (w : W) (id : Nat) (e : ActErr) (name : Bytes) :
    cliRec (actFinish w id e name).1 id = (cliRec w id).map (recOut name (cellsOf w) id (.finish id e)) :=
  applyOut_rec name (w, []) (.finish id e) id

theorem foldl_applyOut_rec (name : Bytes) (outs : List Pm.Dev2.Out) (g : Nat) (acc : W × List String) :
    cliRec (outs.foldl (applyOut name) acc).1 g = (cliRec acc.1 g).map (recRun name (cellsOf acc.1) g outs) := by
  induction outs generalizing acc with
  | nil => exact map_self _ _ fun _ => rfl
  | cons o r ih =>
    have hc : cellsOf (applyOut name acc o).1 = cellsOf acc.1 := funext fun al => by simp only [cellsOf, storeArgs, applyOut_store]
    rw [List.foldl_cons, ih, applyOut_rec, hc, Option.map_map]
    rfl

theorem applyOuts_rec (w : W) (name : Bytes) (outs : List Pm.Dev2.Out) (g : Nat) :
    cliRec (applyOuts w name outs).1 g = (cliRec w g).map (recRun name (cellsOf w) g outs) := by
  rw [applyOuts_eq]
  exact foldl_applyOut_rec name outs g (w, [])

/-- callbacks that leave the record of `g` alone (those not addressed to `g`) may be dropped -/
theorem recRun_filter (name : Bytes) (cells : Nat → List ArgC) (g : Nat) (q : Pm.Dev2.Out → Bool)
    (hq : ∀ o, q o = false → ∀ c, recOut name cells g o c = c) (outs : List Pm.Dev2.Out) (c : Cli) :
    recRun name cells g (outs.filter q) c = recRun name cells g outs c := by
  induction outs generalizing c with
  | nil => rfl
  | cons o r ih =>
    rw [List.filter_cons, recRun_cons]
    cases hm : q o with
    | true => rw [if_pos rfl, recRun_cons, ih]
    | false => rw [if_neg Bool.false_ne_true, ih, hq o hm c]

theorem recOut_cmd (name : Bytes) (cells : Nat → List ArgC) (g : Nat) (o : Pm.Dev2.Out) (c : Cli) :
    (∀ k', (recOut name cells g o c).cmd = some k' → ∃ k, c.cmd = some k ∧ k'.com = k.com ∧ k'.names = k.names ∧ k'.al = k.al) ∧
    (recOut name cells g o c).exprange = c.exprange ∧
    ∀ cells' : Nat → List ArgC,
      (∀ k, c.cmd = some k → entriesOf { k with args := cells' k.al } = entriesOf { k with args := cells k.al }) →
      recOut name cells' g o c = recOut name cells g o c := by
  have same : ∀ c1 : Cli, c1.cmd = c.cmd → ∀ k', c1.cmd = some k' →
      ∃ k, c.cmd = some k ∧ k'.com = k.com ∧ k'.names = k.names ∧ k'.al = k.al :=
    fun c1 h k' hk' => ⟨k', h ▸ hk', rfl, rfl, rfl⟩
  cases o with
  | finish cid e =>
    by_cases h : cid = g
    · simp only [recOut, if_pos h]
      refine ⟨?_, ?_, fun cells' hc => ?_⟩
      · cases hd : finDecide c.exprange cells name e c.cmd with
        | none => exact same c rfl
        | some kt =>
          intro k' hk'
          obtain ⟨k, h1, _, h2, _⟩ := finDecide_some (hd.trans (congrArg some (Prod.ext hk' rfl)))
          exact ⟨k, h1, by rw [h2], by rw [h2], by rw [h2]⟩
      · cases finDecide c.exprange cells name e c.cmd <;> rfl
      · rw [finDecide_congr c.exprange cells' cells name e c.cmd hc]
    · simp only [recOut, if_neg h]
      exact ⟨same c rfl, trivial, fun _ _ => trivial⟩
  | telemetry cid t =>
    have e : recOut name cells g (.telemetry cid t) c = if cid = g then put c (teleLine name t) else c := rfl
    rw [e]
    exact ⟨by split <;> exact same _ rfl, by split <;> rfl, fun _ _ => rfl⟩
  | diag cid t =>
    have e : recOut name cells g (.diag cid t) c = if cid = g then put c (bstr "309 " ++ t ++ crlf) else c := rfl
    rw [e]
    exact ⟨by split <;> exact same _ rfl, by split <;> rfl, fun _ _ => rfl⟩
  | sent _ => exact ⟨same c rfl, rfl, fun _ _ => rfl⟩
  | rxMismatch _ _ => exact ⟨same c rfl, rfl, fun _ _ => rfl⟩
  | abortAssert _ => exact ⟨same c rfl, rfl, fun _ _ => rfl⟩

/-- **what the fold reads and keeps**: a command left at the end is the command of the start counted down (same request, same
    arglist); and of the store only the entries the reply to that command looks at are read -/
theorem recRun_cmd (name : Bytes) (cells : Nat → List ArgC) (g : Nat) (outs : List Pm.Dev2.Out) (c : Cli) :
    (∀ k', (recRun name cells g outs c).cmd = some k' → ∃ k, c.cmd = some k ∧ k'.com = k.com ∧ k'.names = k.names ∧ k'.al = k.al) ∧
    ∀ cells' : Nat → List ArgC,
      (∀ k, c.cmd = some k → entriesOf { k with args := cells' k.al } = entriesOf { k with args := cells k.al }) →
      recRun name cells' g outs c = recRun name cells g outs c := by
  induction outs generalizing c with
  | nil => exact ⟨fun k' hk' => ⟨k', hk', rfl, rfl, rfl⟩, fun _ _ => Eq.refl c⟩
  | cons o r ih =>
    obtain ⟨a1, _, a3⟩ := recOut_cmd name cells g o c
    obtain ⟨b1, b2⟩ := ih (recOut name cells g o c)
    refine ⟨fun k' hk' => ?_, fun cells' hc => ?_⟩
    · obtain ⟨k1, h1, h2, h3, h4⟩ := b1 k' hk'
      obtain ⟨k, g1, g2, g3, g4⟩ := a1 k1 h1
      exact ⟨k, g1, h2.trans g2, h3.trans g3, h4.trans g4⟩
    · rw [recRun_cons, recRun_cons, a3 cells' hc]
      refine b2 cells' fun k1 hk1 => ?_
      obtain ⟨k, g1, _, g3, g4⟩ := a1 k1 hk1
      have := hc k g1
      unfold entriesOf at this ⊢
      dsimp only at this ⊢
      rw [g3, g4]
      exact this

end Pm.Daemon
