import Pm.LsdListNode
/-! # The calls of `list.c` without loops refine the list with cursors

`absOf l`: the list with cursors (`Abs`, `Pm/LsdListAbs.lean`) that a node-level state (`Pm/LsdList.lean`) stands for — the items
on the chain and, for every iterator, the place the harness prints (`iterPlace`).
`RepA l ns a`: the node-level state `l` is represented on the chain `ns` and stands for the list with cursors `a` (`absOf l = a`).
`Refines x y`: the outcome `y` of a call on `l` is the outcome `x` of that call on `a` — both are undefined (a handle that is
not registered), or the answers agree and the new state stands for the new list with cursors.  Every call is proved in one
of these two shapes: a call that cannot fail as `∃ l' ns', call l = some l' ∧ RepA l' ns' (call a)`, a call through an
iterator handle as `Refines (call a) (call l)`. -/
namespace Pm.LsdList
variable {α : Type}

/-- the cursor of an iterator on the chain `ns`: the place the harness prints -/
def cur (ns : List Nat) (i : Iter) : Nat × Bool := (iterPlace ns i).getD (0, false)

/-- the list with cursors a node-level state stands for -/
def absOf (l : LList α) : Abs α :=
  { items := contents l, curs := l.iters.map (fun ki => (ki.1, cur ((nodes l).getD []) ki.2)), fdel := l.fdel }

/-! ## `Rep` determines `nodes`, `contents`, the cursors -/

theorem walk_of_chain {l : LList α} {ns : List Nat} {items : List α} (h : Chain l ns items) :
    ∀ (k fuel : Nat), k ≤ ns.length → ns.length - k < fuel → walk l.cells fuel ns[k]? = some (ns.drop k) := by
  intro k fuel hk hfuel
  induction fuel generalizing k with
  | zero => omega
  | succ fuel ih =>
    by_cases hlt : k < ns.length
    · obtain ⟨n, hn⟩ : ∃ n, ns[k]? = some n := ⟨ns[k]'hlt, by simp⟩
      rw [hn]
      simp only [walk, h.cell k n hn]
      rw [ih (k + 1) (by omega) (by omega)]
      have : ns.drop k = n :: ns.drop (k + 1) := by
        rw [List.drop_eq_getElem_cons hlt]
        have : ns[k] = n := by simpa [List.getElem?_eq_getElem hlt] using hn
        rw [this]
      simp [this]
    · have e : k = ns.length := by omega
      subst e
      simp [walk]

/-- pigeonhole: distinct numbers below `n` are at most `n` -/
theorem length_le_of_nodup_lt : ∀ (n : Nat) (xs : List Nat), xs.Nodup → (∀ x ∈ xs, x < n) → xs.length ≤ n := by
  intro n
  induction n with
  | zero =>
    intro xs _ hb
    cases xs with
    | nil => simp
    | cons x _ => exact absurd (hb x (by simp)) (by omega)
  | succ n ih =>
    intro xs hn hb
    have h1 := ih (xs.erase n) (hn.erase n) (by
      intro x hx
      have hx' := (hn.mem_erase_iff).mp hx
      have := hb x hx'.2
      have := hx'.1
      omega)
    have h2 : xs.length ≤ (xs.erase n).length + 1 := by
      rw [List.length_erase]; split <;> omega
    omega

theorem Chain.length_le {l : LList α} {ns : List Nat} {items : List α} (h : Chain l ns items) : ns.length ≤ l.cells.size := by
  apply length_le_of_nodup_lt _ _ (inj_iff_nodup.mp h.inj)
  intro x hx
  obtain ⟨k, hk, rfl⟩ := List.getElem_of_mem hx
  exact h.lt_size k _ (by simp [List.getElem?_eq_getElem hk])

theorem Chain.nodes {l : LList α} {ns : List Nat} {items : List α} (h : Chain l ns items) : nodes l = some ns := by
  have := walk_of_chain h 0 (l.cells.size + 1) (by omega) (by have := h.length_le; omega)
  simpa [LsdList.nodes, h.head] using this

theorem Chain.dataOf {l : LList α} {ns : List Nat} {items : List α} (h : Chain l ns items) (k n : Nat) (hn : ns[k]? = some n) :
    dataOf l n = items[k]? := by
  simp [LsdList.dataOf, h.cell k n hn]

theorem Chain.contents {l : LList α} {ns : List Nat} {items : List α} (h : Chain l ns items) : contents l = items := by
  have hmap : ns.map (fun p => LsdList.dataOf l p) = items.map some := by
    apply List.ext_getElem?
    intro k
    simp only [List.getElem?_map]
    by_cases hlt : k < ns.length
    · have hn : ns[k]? = some ns[k] := by simp [List.getElem?_eq_getElem hlt]
      have hlt' : k < items.length := by rw [h.len]; exact hlt
      rw [hn, Option.map_some, h.dataOf k _ hn]
      simp [List.getElem?_eq_getElem hlt']
    · have h1 : ns[k]? = none := by simp; omega
      have h2 : items[k]? = none := by simp; rw [h.len]; omega
      simp [h1, h2]
  unfold LsdList.contents
  rw [h.nodes]
  simp only [Option.getD_some]
  have e : List.filterMap (fun p => LsdList.dataOf l p) ns = List.filterMap id (List.map (fun p => LsdList.dataOf l p) ns) := by
    rw [List.filterMap_map]; rfl
  rw [e, hmap, List.filterMap_map]
  simp

theorem fieldsOf_getElem? (ns : List Nat) (j : Nat) (hj : j ≤ ns.length) : (fieldsOf ns)[j]? = some (fieldAt ns j) := by
  cases j with
  | zero => simp [fieldsOf, fieldAt]
  | succ j =>
    have hlt : j < ns.length := by omega
    simp [fieldsOf, fieldAt, List.getElem?_eq_getElem hlt]

theorem fieldsOf_length (ns : List Nat) : (fieldsOf ns).length = ns.length + 1 := by simp [fieldsOf]

theorem fieldsOf_nodup {ns : List Nat} (hi : Inj ns) : (fieldsOf ns).Nodup := by
  rw [List.Nodup, List.pairwise_iff_getElem]
  intro a b ha hb hab e
  rw [fieldsOf_length] at ha hb
  have h1 := fieldsOf_getElem? ns a (by omega)
  have h2 := fieldsOf_getElem? ns b (by omega)
  rw [List.getElem?_eq_getElem (by rw [fieldsOf_length]; omega)] at h1 h2
  have : fieldAt ns a = fieldAt ns b := by
    have h1' := Option.some.inj h1
    have h2' := Option.some.inj h2
    rw [← h1', ← h2', e]
  have := fieldAt_inj ns hi a b (by omega) (by omega) this
  omega

theorem idxOf_fieldAt {ns : List Nat} (hi : Inj ns) (j : Nat) (hj : j ≤ ns.length) : (fieldsOf ns).idxOf (fieldAt ns j) = j := by
  have hlt : j < (fieldsOf ns).length := by rw [fieldsOf_length]; omega
  have h1 := fieldsOf_getElem? ns j hj
  rw [List.getElem?_eq_getElem hlt] at h1
  have h1' := Option.some.inj h1
  rw [← h1']
  exact (fieldsOf_nodup hi).idxOf_getElem j hlt

theorem targetsOf_getElem? (ns : List Nat) (j : Nat) (hj : j ≤ ns.length) : (targetsOf ns)[j]? = some ns[j]? := by
  unfold targetsOf
  by_cases hlt : j < ns.length
  · rw [List.getElem?_append_left (by simpa using hlt)]
    simp [List.getElem?_eq_getElem hlt]
  · have e : j = ns.length := by omega
    subst e
    rw [List.getElem?_append_right (by simp)]
    simp

theorem Place.iterPlace {ns : List Nat} (hi : Inj ns) {i : Iter} {j : Nat} {g : Bool} (p : Place ns i j g) :
    iterPlace ns i = some (j, g) := by
  have hle := p.le
  have hj : j ≤ ns.length := by omega
  unfold LsdList.iterPlace
  simp only [p.prev, idxOf_fieldAt hi j hj, hj, if_true, targetsOf_getElem? ns j hj]
  cases g with
  | false => simp [p.pos]
  | true =>
    simp at hle
    have h1 : ¬ ns[j]? = i.pos := by
      rw [p.pos]; intro e
      have := hi.idx_eq j (j + 1) hj (by simpa using hle) (by simpa using e)
      omega
    have h1' : ¬ some ns[j]? = some i.pos := by simpa using h1
    simp only [h1', if_false, targetsOf_getElem? ns (j + 1) hle]
    simp [p.pos]

theorem Place.cur {ns : List Nat} (hi : Inj ns) {i : Iter} {j : Nat} {g : Bool} (p : Place ns i j g) : cur ns i = (j, g) := by
  simp [LsdList.cur, p.iterPlace hi]

/-- `valid` as a proposition: the state represents some list -/
def Valid (l : LList α) : Prop := ∃ ns items, Rep l ns items

/-- `l` is represented on the chain `ns` and stands for the list with cursors `a` -/
structure RepA (l : LList α) (ns : List Nat) (a : Abs α) : Prop where
  rep : Rep l ns a.items
  abs : absOf l = a

theorem Rep.absOf_eq {l : LList α} {ns : List Nat} {items : List α} (h : Rep l ns items) :
    LsdList.absOf l = { items := items, curs := l.iters.map (fun ki => (ki.1, cur ns ki.2)), fdel := l.fdel } := by
  simp [LsdList.absOf, h.toChain.contents, h.toChain.nodes]

theorem Rep.repA {l : LList α} {ns : List Nat} {items : List α} (h : Rep l ns items) : RepA l ns (LsdList.absOf l) :=
  ⟨by rw [h.absOf_eq]; exact h, rfl⟩

theorem RepA.valid {l : LList α} {ns : List Nat} {a : Abs α} (h : RepA l ns a) : Valid l := ⟨ns, a.items, h.rep⟩

theorem RepA.curs {l : LList α} {ns : List Nat} {a : Abs α} (h : RepA l ns a) :
    a.curs = l.iters.map (fun ki => (ki.1, cur ns ki.2)) := by
  have := h.abs; rw [h.rep.absOf_eq] at this; rw [← this]

theorem RepA.fdel {l : LList α} {ns : List Nat} {a : Abs α} (h : RepA l ns a) : a.fdel = l.fdel := by
  have := h.abs; rw [h.rep.absOf_eq] at this; rw [← this]

theorem RepA.len {l : LList α} {ns : List Nat} {a : Abs α} (h : RepA l ns a) : a.items.length = ns.length := h.rep.len

/-- the outcome `y` of a call on the node-level state is the outcome `x` of the call on the list with cursors -/
def Refines {ρ : Type} (x : Option (ρ × Abs α)) (y : Option (ρ × LList α)) : Prop :=
  match x with
  | none => y = none
  | some (r, a') => ∃ l' ns', y = some (r, l') ∧ RepA l' ns' a'

theorem Refines.map {ρ σ : Type} (f : ρ → σ) {x : Option (ρ × Abs α)} {y : Option (ρ × LList α)} (h : Refines x y) :
    Refines (x.map fun p => (f p.1, p.2)) (y.map fun p => (f p.1, p.2)) :=
  match x, h with
  | none, h => by rw [show y = none from h]; exact rfl
  | some (r, a'), ⟨l', ns', e, hr⟩ => by rw [e]; exact ⟨l', ns', rfl, hr⟩

/-- a call that answers `r` whatever the list, and cannot fail -/
theorem Refines.withRes {ρ : Type} (r : ρ) {y : Option (LList α)} {a' : Abs α} (h : ∃ l' ns', y = some l' ∧ RepA l' ns' a') :
    Refines (some (r, a')) (y.map (r, ·)) :=
  let ⟨l', ns', e, hr⟩ := h; ⟨l', ns', by rw [e]; rfl, hr⟩

theorem Refines.of_some {ρ : Type} {x : Option (ρ × Abs α)} {y : Option (ρ × LList α)} (h : Refines x y) {r : ρ} {a' : Abs α}
    (hx : x = some (r, a')) : ∃ l' ns', y = some (r, l') ∧ RepA l' ns' a' := by
  subst hx; exact h

theorem refines_iff {ρ : Type} {x : Option (ρ × Abs α)} {y : Option (ρ × LList α)} :
    Refines x y ↔ (x = none → y = none) ∧ ∀ r a', x = some (r, a') → ∃ l' ns', y = some (r, l') ∧ RepA l' ns' a' := by
  cases x with
  | none => exact ⟨fun h => ⟨fun _ => h, nofun⟩, fun h => h.1 rfl⟩
  | some p => exact ⟨fun h => ⟨nofun, fun r a' e => by cases e; exact h⟩, fun h => h.2 _ _ rfl⟩

/-! ## the two node functions -/

/-- patched iterators, seen as cursors -/
theorem curs_map {l : LList α} {ns : List Nat} {items : List α} (h : Rep l ns items) {ns' : List Nat} (hi' : Inj ns')
    (fix : Iter → Iter) (cf : Nat × Bool → Nat × Bool)
    (hpl : ∀ i j g, Place ns i j g → Place ns' (fix i) (cf (j, g)).1 (cf (j, g)).2) :
    (l.iters.map (fun ki => (ki.1, fix ki.2))).map (fun ki => (ki.1, cur ns' ki.2)) =
      (l.iters.map (fun ki => (ki.1, cur ns ki.2))).map (fun kc => (kc.1, cf kc.2)) := by
  simp only [List.map_map]
  apply List.map_congr_left
  intro ki hki
  obtain ⟨j, g, pl⟩ := h.place ki hki
  simp only [Function.comp, pl.cur h.inj, (hpl _ j g pl).cur hi']

theorem nodeCreate_abs {l : LList α} {ns : List Nat} {a : Abs α} (h : RepA l ns a) (f : Nat) (x : α) (hf : f ≤ ns.length) :
    ∃ l' ns', nodeCreate l (fieldAt ns f) x = some l' ∧ RepA l' ns' (a.createAt f x) := by
  obtain ⟨l', p, e, hr, hits, hfd⟩ := nodeCreate_spec h.rep f x hf
  refine ⟨l', _, e, hr, ?_⟩
  rw [hr.absOf_eq, hits, curs_map h.rep hr.inj _ (curCreate f) (fun i j g pl => pl.create h.rep.inj f p hf)]
  simp [Abs.createAt, h.curs, hfd, h.fdel]

theorem nodeDestroy_abs {l : LList α} {ns : List Nat} {a : Abs α} (h : RepA l ns a) (f : Nat) (hf : f < ns.length) :
    ∃ l', nodeDestroy l (fieldAt ns f) = some (a.items[f]?, l') ∧ RepA l' (ns.eraseIdx f) (a.destroyAt f) := by
  have hn := List.getElem?_eq_getElem hf
  obtain ⟨l', e, hr, hits, hfd⟩ := nodeDestroy_spec h.rep f _ hn
  refine ⟨l', e, hr, ?_⟩
  rw [hr.absOf_eq, hits, curs_map h.rep hr.inj _ (curDestroy f) (fun i j g pl => pl.destroy h.rep.inj f _ hn)]
  simp [Abs.destroyAt, h.curs, hfd, h.fdel]

/-! ## the simple calls -/

theorem append_abs {l : LList α} {ns : List Nat} {a : Abs α} (h : RepA l ns a) (x : α) :
    ∃ l' ns', append l x = some l' ∧ RepA l' ns' (a.append x) := by
  unfold append Abs.append
  rw [h.rep.tail, h.len]
  exact nodeCreate_abs h ns.length x (Nat.le_refl _)

theorem prepend_abs {l : LList α} {ns : List Nat} {a : Abs α} (h : RepA l ns a) (x : α) :
    ∃ l' ns', prepend l x = some l' ∧ RepA l' ns' (a.prepend x) :=
  nodeCreate_abs h 0 x (Nat.zero_le _)

theorem pop_abs {l : LList α} {ns : List Nat} {a : Abs α} (h : RepA l ns a) :
    ∃ l' ns', pop l = some ((a.pop).1, l') ∧ RepA l' ns' (a.pop).2 := by
  unfold pop Abs.pop
  by_cases e : 0 < ns.length
  · obtain ⟨l', e', hr⟩ := nodeDestroy_abs h 0 e
    rw [List.getElem?_eq_getElem (h.len ▸ e)] at e' ⊢
    exact ⟨l', _, e', hr⟩
  · have hend := nodeDestroy_end h.rep
    rw [show ns.length = 0 by omega] at hend
    rw [List.getElem?_eq_none (by rw [h.len]; omega)]
    exact ⟨l, ns, hend, h⟩

theorem peek_abs {l : LList α} {ns : List Nat} {a : Abs α} (h : RepA l ns a) : peek l = some a.items[0]? := by
  unfold peek
  rw [h.rep.head]
  cases hn : ns[0]? with
  | none => rw [List.getElem?_eq_none (by rw [h.len]; simpa using hn)]
  | some n => simp [h.rep.cell 0 n hn]

theorem count_abs {l : LList α} {ns : List Nat} {a : Abs α} (h : RepA l ns a) : countOf l = a.items.length := by
  unfold countOf; rw [h.rep.count, h.len]

theorem isEmpty_abs {l : LList α} {ns : List Nat} {a : Abs α} (h : RepA l ns a) : isEmpty l = a.items.isEmpty := by
  unfold isEmpty; rw [h.rep.count, ← h.len]
  cases a.items <;> simp

/-! ## iterators -/

theorem lookup_mem {β : Type} : ∀ (l : List (Nat × β)) (k : Nat) (v : β), l.lookup k = some v → (k, v) ∈ l := by
  intro l k v
  induction l with
  | nil => simp
  | cons a rest ih =>
    obtain ⟨k', v'⟩ := a
    rw [List.lookup_cons]
    by_cases e : k = k'
    · subst e; simp; intro e; simp [e]
    · have : (k == k') = false := by simpa using e
      simp only [this]
      intro h; simp [ih h]

theorem lookup_none_not_mem {β : Type} (l : List (Nat × β)) (k : Nat) (h : l.lookup k = none) : k ∉ l.map (·.1) := by
  rw [List.lookup_eq_none_iff] at h
  intro hm
  obtain ⟨p, hp, rfl⟩ := List.mem_map.mp hm
  simpa using h p hp

theorem RepA.curOf {l : LList α} {ns : List Nat} {a : Abs α} (h : RepA l ns a) (k : Nat) :
    a.curOf k = (iterOf l k).map (cur ns) := by
  unfold Abs.curOf iterOf
  rw [h.curs, lookup_map_snd]

/-- a handle is registered on both levels or on neither; a registered iterator has the place its cursor names -/
theorem RepA.iter {l : LList α} {ns : List Nat} {a : Abs α} (h : RepA l ns a) (k : Nat) :
    (iterOf l k = none ∧ a.curOf k = none) ∨
    ∃ i j g, iterOf l k = some i ∧ a.curOf k = some (j, g) ∧ Place ns i j g := by
  have hc := h.curOf k
  cases hk : iterOf l k with
  | none => exact .inl ⟨rfl, by rw [hc, hk]; rfl⟩
  | some i =>
    obtain ⟨j, g, pl⟩ := h.rep.place (k, i) (lookup_mem _ _ _ hk)
    exact .inr ⟨i, j, g, rfl, by rw [hc, hk, Option.map_some, pl.cur h.rep.inj], pl⟩

/-- the registered iterators replaced by others that have places -/
theorem RepA.withIters {l : LList α} {ns : List Nat} {a : Abs α} (h : RepA l ns a) (its : List (Nat × Iter))
    (hk : (its.map (·.1)).Nodup) (hp : ∀ ki ∈ its, ∃ j g, Place ns ki.2 j g) :
    RepA { l with iters := its } ns { a with curs := its.map (fun ki => (ki.1, cur ns ki.2)) } := by
  have hr : Rep ({ l with iters := its } : LList α) ns a.items :=
    ⟨h.rep.toChain.congr rfl rfl, h.rep.count, h.rep.tail, h.rep.freeNodup, h.rep.freeOk, hk, hp⟩
  exact ⟨hr, by rw [hr.absOf_eq, h.fdel]⟩

theorem RepA.setIter {l : LList α} {ns : List Nat} {a : Abs α} (h : RepA l ns a) (k : Nat) (v : Iter) (j : Nat) (g : Bool)
    (pl : Place ns v j g) : RepA (setIter l k v) ns (a.setCur k (j, g)) := by
  have hr := h.withIters (l.iters.map fun ki => if ki.1 = k then (k, v) else ki) ?_ ?_
  · have e : (l.iters.map fun ki => if ki.1 = k then (k, v) else ki).map (fun ki => (ki.1, cur ns ki.2)) =
        a.curs.map (fun kc => if kc.1 = k then (k, (j, g)) else kc) := by
      rw [h.curs, List.map_map, List.map_map]
      apply List.map_congr_left
      intro ki _
      simp only [Function.comp]
      split <;> simp_all [pl.cur h.rep.inj]
    rw [e] at hr
    exact hr
  · have e : (l.iters.map fun ki => if ki.1 = k then (k, v) else ki).map (·.1) = l.iters.map (·.1) := by
      rw [List.map_map]
      apply List.map_congr_left
      intro ki _
      simp only [Function.comp]
      split <;> simp_all
    exact e ▸ h.rep.keys
  · intro ki hki
    obtain ⟨ki0, hk0, rfl⟩ := List.mem_map.mp hki
    split
    · exact ⟨j, g, pl⟩
    · exact h.rep.place ki0 hk0

theorem Chain.reset_place {l : LList α} {ns : List Nat} {items : List α} (h : Chain l ns items) :
    Place ns { pos := l.head, prev := .head } 0 false := ⟨by simp, rfl, by simp [h.head]⟩

theorem iteratorCreate_abs {l : LList α} {ns : List Nat} {a : Abs α} (h : RepA l ns a) (k : Nat) (hk : iterOf l k = none) :
    RepA (iteratorCreate l k) ns (a.itCreate k) := by
  have pl := h.rep.toChain.reset_place
  have hr := h.withIters ((k, { pos := l.head, prev := .head }) :: l.iters)
    (List.nodup_cons.mpr ⟨lookup_none_not_mem _ _ hk, h.rep.keys⟩)
    (fun ki hki => (List.mem_cons.mp hki).elim (fun e => e ▸ ⟨0, false, pl⟩) (h.rep.place ki))
  rw [List.map_cons, pl.cur h.rep.inj, ← h.curs] at hr
  exact hr

theorem iteratorReset_abs {l : LList α} {ns : List Nat} {a : Abs α} (h : RepA l ns a) (k : Nat) {ρ : Type} (r : ρ) :
    Refines ((a.itReset k).map (r, ·)) ((iteratorReset l k).map (r, ·)) := by
  unfold Abs.itReset iteratorReset
  rcases h.iter k with ⟨hi, hc⟩ | ⟨i, j, g, hi, hc, -⟩
  · rw [hi, hc]; rfl
  · rw [hi, hc]
    exact ⟨_, ns, rfl, h.setIter k _ 0 false h.rep.toChain.reset_place⟩

theorem iteratorDestroy_abs {l : LList α} {ns : List Nat} {a : Abs α} (h : RepA l ns a) (k : Nat) {ρ : Type} (r : ρ) :
    Refines ((a.itDestroy k).map (r, ·)) ((iteratorDestroy l k).map (r, ·)) := by
  unfold Abs.itDestroy iteratorDestroy
  rcases h.iter k with ⟨hi, hc⟩ | ⟨i, j, g, hi, hc, -⟩
  · rw [hi, hc]; rfl
  · have hsub : (l.iters.eraseP (fun ki => ki.1 == k)).Sublist l.iters := List.eraseP_sublist
    have hr := h.withIters _ (h.rep.keys.sublist (hsub.map _)) (fun ki hki => h.rep.place ki (hsub.subset hki))
    rw [hi, hc, h.curs, List.eraseP_map]
    exact ⟨_, ns, rfl, hr⟩

/-- the place after `list_next`: behind the item that is returned -/
theorem Place.next {ns : List Nat} {i : Iter} {j : Nat} {g : Bool} (pl : Place ns i j g) :
    Place ns { pos := ns[j + g.toNat + 1]?, prev := fieldAt ns (j + g.toNat) } (j + g.toNat) (decide (j + g.toNat < ns.length)) := by
  have hle := pl.le
  by_cases hlt : j + g.toNat < ns.length
  · exact ⟨by simp [hlt]; omega, rfl, by simp [hlt]⟩
  · exact ⟨by simp [hlt]; omega, rfl, by simp [hlt]; omega⟩

/-- `list_next` through an iterator at place `(j, g)`: the item after the gap (after the returned item, when there is one)
    is returned, `pos` moves on, and `prev` moves on exactly when an item had been returned before -/
theorem next_of_place {l : LList α} {ns : List Nat} {items : List α} (h : Chain l ns items) {k : Nat} {i : Iter} {j : Nat} {g : Bool}
    (hi : iterOf l k = some i) (pl : Place ns i j g) :
    next l k = some (items[j + g.toNat]?, setIter l k { pos := ns[j + g.toNat + 1]?, prev := fieldAt ns (j + g.toNat) }) := by
  have hle := pl.le
  have hload : load l i.prev = some ns[j]? := pl.prev ▸ h.load j (by omega)
  have hg : ns[j]? = ns[j + g.toNat]? ↔ g = false := pl.pos ▸ pl.holds_pos_iff h.inj
  have hprev : (if ns[j]? ≠ ns[j + g.toNat]? then (match ns[j]? with | some n => some (Ref.next n) | none => none)
      else some i.prev) = some (fieldAt ns (j + g.toNat)) := by
    cases g with
    | false => rw [if_neg (fun hne => hne (hg.mpr rfl)), pl.prev]; rfl
    | true =>
      have hlt : j < ns.length := by simp at hle; omega
      rw [if_pos (mt hg.mp nofun), List.getElem?_eq_getElem hlt]
      exact congrArg some (fieldAt_succ ns j _ (List.getElem?_eq_getElem hlt)).symm
  unfold next
  simp only [hi, hload, pl.pos]
  cases hn : ns[j + g.toNat]? with
  | some n =>
    rw [hn] at hprev
    simp only [h.cell _ n hn, Option.map_some]
    split
    · next heq => exact absurd (hprev.symm.trans heq) nofun
    · next prev1 heq => cases hprev.symm.trans heq; rfl
  | none =>
    have hlen := List.getElem?_eq_none_iff.mp hn
    have e1 : items[j + g.toNat]? = none := List.getElem?_eq_none (h.len ▸ hlen)
    have e2 : ns[j + g.toNat + 1]? = none := List.getElem?_eq_none (by omega)
    rw [hn] at hprev
    simp only [e1, e2]
    split
    · next heq => exact absurd (hprev.symm.trans heq) nofun
    · next prev1 heq => cases hprev.symm.trans heq; rfl

theorem next_abs {l : LList α} {ns : List Nat} {a : Abs α} (h : RepA l ns a) (k : Nat) : Refines (a.next k) (next l k) := by
  rcases h.iter k with ⟨hi, hc⟩ | ⟨i, j, g, hi, hc, pl⟩
  · unfold Abs.next next; rw [hi, hc]; rfl
  · have hcur : (if g = true then j + 1 else j) = j + g.toNat := by cases g <;> rfl
    rw [next_of_place h.rep.toChain hi pl]
    simp only [Abs.next, hc, Option.map_some, hcur, h.len]
    exact ⟨_, ns, rfl, h.setIter k _ _ _ pl.next⟩

theorem insert_abs {l : LList α} {ns : List Nat} {a : Abs α} (h : RepA l ns a) (k : Nat) (x : α) {ρ : Type} (r : ρ) :
    Refines ((a.insert k x).map (r, ·)) ((insert l k x).map (r, ·)) := by
  unfold Abs.insert insert
  rcases h.iter k with ⟨hi, hc⟩ | ⟨i, j, g, hi, hc, pl⟩
  · rw [hi, hc]; rfl
  · simp only [hi, hc, Option.map_some, pl.prev]
    exact .withRes r (nodeCreate_abs h j x (by have := pl.le; omega))

theorem remove_abs {l : LList α} {ns : List Nat} {a : Abs α} (h : RepA l ns a) (k : Nat) : Refines (a.remove k) (remove l k) := by
  unfold Abs.remove remove
  rcases h.iter k with ⟨hi, hc⟩ | ⟨i, j, g, hi, hc, pl⟩
  · rw [hi, hc]; rfl
  · have hle := pl.le
    have hload : load l i.prev = some ns[j]? := pl.prev ▸ h.rep.toChain.load j (by omega)
    have hg := pl.holds_pos_iff h.rep.inj
    simp only [hi, hc, Option.map_some, hload]
    cases g with
    | false => rw [if_neg Bool.false_ne_true, if_neg (fun hne => hne (hg.mpr rfl))]; exact ⟨l, ns, rfl, h⟩
    | true =>
      rw [if_pos rfl, if_pos (mt hg.mp nofun), pl.prev]
      obtain ⟨l', e, hr⟩ := nodeDestroy_abs h j (by simp at hle; omega)
      exact ⟨l', _, e, hr⟩

theorem delete_abs {l : LList α} {ns : List Nat} {a : Abs α} (h : RepA l ns a) (k : Nat) :
    Refines ((a.delete k).map fun r => (Res.deleted r.1 r.2.1, r.2.2)) ((delete l k).map fun r => (Res.deleted r.1 r.2.1, r.2.2)) := by
  have hrm := remove_abs h k
  unfold delete Abs.delete
  cases e2 : a.remove k with
  | none => rw [e2] at hrm; rw [show remove l k = none from hrm]; rfl
  | some x =>
    obtain ⟨r, a'⟩ := x
    rw [e2] at hrm
    obtain ⟨l', ns', e1, hr⟩ := hrm
    have hf : l'.fdel = a.fdel := by rw [← hr.fdel, Abs.remove_fdel a k r a' e2]
    rw [e1]
    cases r with
    | none => exact ⟨l', ns', rfl, hr⟩
    | some v => exact ⟨l', ns', by simp [hf], hr⟩

end Pm.LsdList
