import Pm.FrameCli
import Pm.ReplyProof
import Pm.RunX
/-! For C11 (clients are isolated from one another).

    Routing: `applyOuts` delivers a callback to the client whose id it carries and to nobody else, and what that client gets is
    a function of the callbacks carrying its id, its own record and its own arglist (`OwnView`, `applyOuts_own`).  The frame of
    one client's share of `cli_post_poll` (`CliIso` for a stage, `PassIso` for the share, `CliTurn` for the turn of the loop) is
    what the rest builds on: departure, one command per client, the id discipline (`IdsFresh`) and the scope of a result
    (`ArgScope`), both kept by a whole pass (`daemonPass_iso`), and back-pressure (a client that does not read). -/
namespace Pm.Daemon.Isolation
open Pm Pm.Client Pm.Daemon
open Pm.Dev2 (Dev Action ActErr Oracle outCid cell)
abbrev DOut := Pm.Dev2.Out

/-! ## routing, client half -/

/-- the callback is addressed to client `g` -/
def mine (g : Nat) (o : DOut) : Bool := outCid o == some g

theorem mine_iff (g : Nat) (o : DOut) : mine g o = true ↔ outCid o = some g := by simp [mine]

/-- what `applyOuts` reads on behalf of client `g`: its record and, when it has a command, the arglist of that command -/
def OwnView (g : Nat) (w w' : W) : Prop :=
  cliRec w g = cliRec w' g ∧ ∀ c k, cliRec w g = some c → c.cmd = some k → storeArgs w k.al = storeArgs w' k.al

theorem OwnView.refl (g : Nat) (w : W) : OwnView g w w := ⟨rfl, fun _ _ _ _ => rfl⟩

theorem OwnView.symm {g : Nat} {w w' : W} (h : OwnView g w w') : OwnView g w' w :=
  ⟨h.1.symm, fun c k hc hk => (h.2 c k (h.1 ▸ hc) hk).symm⟩

theorem OwnView.trans {g : Nat} {a b c : W} (h1 : OwnView g a b) (h2 : OwnView g b c) : OwnView g a c :=
  ⟨h1.1.trans h2.1, fun x k hx hk => (h1.2 x k hx hk).trans (h2.2 x k (h1.1 ▸ hx) hk)⟩

/-- **client half of the routing invariant.**  Two runs of `applyOuts` for the same device: the worlds look the same to
    client `g` (same record of `g`, same arglist of `g`'s command) and the two callback lists contain the same callbacks
    addressed to `g`, in the same order — whatever else they contain, and whatever the other clients' records and
    arglists are.  Then `g`'s record is the same afterwards, and the worlds still look the same to `g`.  (The record goes
    through `recRun`, which drops the callbacks of others and reads of the store only the arglist of `g`'s command.) -/
theorem applyOuts_own (w w' : W) (name : Bytes) (outs outs' : List DOut) (g : Nat) (hv : OwnView g w w')
    (hf : outs.filter (mine g) = outs'.filter (mine g)) :
    OwnView g (applyOuts w name outs).1 (applyOuts w' name outs').1 := by
  obtain ⟨hc, hs⟩ := hv
  have hst : ∀ (u : W) (l : List DOut), storeArgs (applyOuts u name l).1 = storeArgs u := fun u l =>
    funext fun al => by simp only [storeArgs, Pm.Daemon.applyOuts_store]
  have hq : ∀ (cells : Nat → List ArgC) (o : DOut), mine g o = false → ∀ c, recOut name cells g o c = c :=
    fun cells o ho c => recOut_other name cells g o c fun e => by rw [(mine_iff g o).mpr e] at ho; cases ho
  rw [OwnView, applyOuts_rec, applyOuts_rec, hst, hst, ← hc]
  cases hq0 : cliRec w g with
  | none => exact ⟨Eq.refl none, fun _ _ h => nomatch h⟩
  | some c =>
    have e : recRun name (cellsOf w) g outs c = recRun name (cellsOf w') g outs' c := by
      rw [← recRun_filter name _ g (mine g) (hq _) outs, ← recRun_filter name _ g (mine g) (hq _) outs', hf]
      exact (recRun_cmd name (cellsOf w') g _ c).2 (cellsOf w) fun k hk =>
        congrArg (fun a => Reply.entriesOf { k with args := List.map argC a }) (hs c k hq0 hk)
    refine ⟨congrArg some e, fun c' k' hc' hk' => ?_⟩
    obtain ⟨k, h1, _, _, h2⟩ := (recRun_cmd name (cellsOf w) g outs c).1 k' (Option.some.inj hc' ▸ hk')
    rw [h2]; exact hs c k hq0 h1

/-- no callback carries `g`'s id: `g`'s record is not touched (and nothing but client records ever is) -/
theorem applyOuts_untouched (w : W) (name : Bytes) (outs : List DOut) (g : Nat) (h : ∀ x ∈ outs, outCid x ≠ some g) :
    cliRec (applyOuts w name outs).1 g = cliRec w g ∧ sansClients (applyOuts w name outs).1 = sansClients w :=
  ⟨applyOuts_other w name outs g h, applyOuts_sans w name outs⟩

/-! ### the same, position by position in the client table (so that it does not depend on ids being distinct) -/

theorem applyOuts_mapped (w : W) (name : Bytes) (outs : List DOut) :
    MapsAt (fun g o => outCid o = some g) w outs (applyOuts w name outs).1 :=
  applyOuts_map_at _ (fun _ _ => rfl) (fun _ _ => rfl) (fun _ _ => rfl) w name outs

/-- the client table after a run of callbacks: same ids position by position, and a record whose id no callback carries is
    exactly what it was -/
theorem applyOuts_table (w : W) (name : Bytes) (outs : List DOut) (i : Nat) (c : Cli) (h : w.clients[i]? = some c) :
    ∃ c', (applyOuts w name outs).1.clients[i]? = some c' ∧ c'.id = c.id ∧
      ((∀ x ∈ outs, outCid x ≠ some c.id) → c' = c) := by
  obtain ⟨G, e, hG⟩ := applyOuts_mapped w name outs
  refine ⟨G c, ?_, (hG c).id, (hG c).alone⟩
  rw [e]
  show (w.clients.map G)[i]? = some (G c)
  rw [List.getElem?_map, h]; rfl

theorem applyOuts_length (w : W) (name : Bytes) (outs : List DOut) :
    (applyOuts w name outs).1.clients.length = w.clients.length := by
  obtain ⟨G, h, _⟩ := applyOuts_map w name outs
  rw [h]; exact List.length_map _

/-- callbacks for clients that are gone are dropped without touching anything -/
theorem applyOuts_absent (w : W) (name : Bytes) (outs : List DOut)
    (h : ∀ x ∈ outs, ∀ id, outCid x = some id → cliRec w id = none) : (applyOuts w name outs).1 = w := by
  obtain ⟨G, e, hG⟩ := applyOuts_mapped w name outs
  have : w.clients.map G = w.clients := by
    conv => rhs; rw [← List.map_id w.clients]
    refine List.map_congr_left fun x hx => (hG x).alone fun o ho ha => ?_
    have := List.find?_eq_none.mp (h o ho x.id ha) x hx
    simp at this
  rw [e, this]

/-! ### routing through one device's share of the pass -/

/-- device half (all three callbacks): whatever `dev_post_poll` reports for device `nd` carries the client id of an action
    that was in `nd`'s queue when the pass began, or `0` (the internal login/ping actions, which belong to no client) -/
theorem devStep_addr (p : PassIn) (w : W) (o : Oracle) (nd : Bytes × Dev) :
    ∀ x ∈ (devStep p w o nd).2.2.1, ∀ cid, outCid x = some cid → cid = 0 ∨ ∃ a ∈ nd.2.acts, a.clientId = cid :=
  (devStep_frame (fun _ => false) (fun cid => cid = 0 ∨ ∃ a ∈ nd.2.acts, a.clientId = cid) (fun _ => True) p w o nd
    (fun _ _ _ _ => rfl) ⟨Or.inl rfl, trivial⟩ (fun a ha => ⟨Or.inr ⟨a, ha, rfl⟩, trivial⟩)).addr

theorem devPass_w (p : PassIn) (a : DevAcc) (nd : Bytes × Dev) (hd : a.dead = false) :
    (devPass p a nd).w =
      (applyOuts (afterStep a.w (devStep p a.w a.oracle nd).1) nd.1 (devStep p a.w a.oracle nd).2.2.1).1 := by
  rw [devPass_alive p a nd hd]

/-- both halves: after `devPass`, client `g`'s record is what `applyOuts` makes of the callbacks carrying `g`'s id alone -/
theorem devPass_routing (p : PassIn) (a : DevAcc) (nd : Bytes × Dev) (g : Nat) (hd : a.dead = false) :
    cliRec (devPass p a nd).w g =
      cliRec (applyOuts (afterStep a.w (devStep p a.w a.oracle nd).1) nd.1
        ((devStep p a.w a.oracle nd).2.2.1.filter (mine g))).1 g := by
  rw [devPass_w p a nd hd]
  exact (applyOuts_own _ _ nd.1 _ _ g (OwnView.refl g _) (by rw [List.filter_filter]; simp)).1

/-- two runs of one device's share of the pass from accumulators that differ in the *other* clients (their number, their
    records, their commands): client `g` ends with the same record -/
theorem devPass_own (p : PassIn) (a a' : DevAcc) (nd : Bytes × Dev) (g : Nat) (hd : a.dead = false) (hd' : a'.dead = false)
    (hc : cliRec a.w g = cliRec a'.w g) (hs : a.w.store = a'.w.store)
    (h1 : a.w.nsock = a'.w.nsock) (h2 : a.w.npair = a'.w.npair) (h3 : a.w.nfork = a'.w.nfork) (ho : a.oracle = a'.oracle) :
    cliRec (devPass p a nd).w g = cliRec (devPass p a' nd).w g ∧ (devPass p a nd).w.store = (devPass p a' nd).w.store := by
  rw [devPass_w p a nd hd, devPass_w p a' nd hd']
  have hstep : devStep p a.w a.oracle nd = devStep p a'.w a'.oracle nd := by
    rw [ho]; exact devStep_reads p p a.w a'.w a'.oracle nd hs h1 h2 h3 rfl rfl rfl (fun _ _ => rfl)
  rw [hstep]
  constructor
  · have hv : OwnView g (afterStep a.w (devStep p a'.w a'.oracle nd).1) (afterStep a'.w (devStep p a'.w a'.oracle nd).1) :=
      ⟨hc, fun _ _ _ _ => rfl⟩
    exact (applyOuts_own _ _ nd.1 _ _ g hv rfl).1
  · rw [applyOuts_store, applyOuts_store]; rfl

/-! ## the frame of one client's share of `cli_post_poll` -/

/-- the fields of the world that one client's share of `cli_post_poll` never writes (in particular the client table: the
    record being served is held outside the table and written back by the loop of `cli_post_poll`) -/
def kept (w : W) : List Cli × List (Bytes × Bytes) × Nat × Nat × Nat × Nat × Nat × Option Nat × List Pm.Dev2.RxCall :=
  (w.clients, w.specs, w.nextId, w.nacc, w.nsock, w.npair, w.nfork, w.tmo, w.pendingX)

/-- the descriptor a logged system call is about -/
def sysFd : Sys → Option Nat
  | .accept _ => none
  | .close fd => some fd
  | .read fd _ => some fd
  | .write fd _ _ _ => some fd

def isWrite : Sys → Bool
  | .write _ _ _ _ => true
  | _ => false

/-- what one client's request processing may do to the queues and the arglist store: nothing (and the client's command is
    what it was), or — only when the client had no command — one `install`: every device gets its share of actions stamped
    with this client's id and the fresh arglist id `w.alNext`, the arglist is opened under that id, the counter is
    incremented, and the client now has the command that refers to it.  (The name is also that of the namespace
    `Pm.Daemon.Enq` of the lemmas about `dev_enqueue_actions`: `Enq.installDev` is from there.) -/
def Enq (cid : Nat) (w w' : W) (cmd cmd' : Option CmdC) : Prop :=
  (w'.devs = w.devs ∧ w'.store = w.store ∧ w'.alNext = w.alNext ∧ cmd' = cmd) ∨
  (cmd = none ∧ ∃ (k : CmdC) (args : List Pm.Dev2.Arg) (com : Nat) (bn : List Bytes) (tele : Bool),
      cmd' = some k ∧ k.al = w.alNext ∧ w'.alNext = w.alNext + 1 ∧ w'.store = (w.alNext, args) :: w.store ∧
      w'.devs = w.devs.map (Enq.installDev com bn cid tele w.alNext))

theorem Enq.same {cid : Nat} {w w' : W} {cmd cmd' : Option CmdC} (h1 : w'.devs = w.devs) (h2 : w'.store = w.store)
    (h3 : w'.alNext = w.alNext) (h4 : cmd' = cmd) : Enq cid w w' cmd cmd' := Or.inl ⟨h1, h2, h3, h4⟩

theorem Enq.trans {cid : Nat} {w w' w'' : W} {cmd cmd' cmd'' : Option CmdC} (h1 : Enq cid w w' cmd cmd')
    (h2 : Enq cid w' w'' cmd' cmd'') : Enq cid w w'' cmd cmd'' := by
  rcases h1 with ⟨a1, a2, a3, a4⟩ | ⟨hc, k, args, com, bn, tele, b1, b2, b3, b4, b5⟩
  · rcases h2 with ⟨c1, c2, c3, c4⟩ | ⟨hc', k, args, com, bn, tele, d1, d2, d3, d4, d5⟩
    · exact Or.inl ⟨c1.trans a1, c2.trans a2, c3.trans a3, c4.trans a4⟩
    · refine Or.inr ⟨a4 ▸ hc', k, args, com, bn, tele, d1, ?_, ?_, ?_, ?_⟩
      · rw [d2, a3]
      · rw [d3, a3]
      · rw [d4, a3, a2]
      · rw [d5, a3, a1]
  · rcases h2 with ⟨c1, c2, c3, c4⟩ | ⟨hc', _⟩
    · exact Or.inr ⟨hc, k, args, com, bn, tele, c4.trans b1, b2, c3.trans b3, c2.trans b4, c1.trans b5⟩
    · rw [b1] at hc'; cases hc'

/-- `Enq` is what `ClientPf.Inst` says with the request forgotten -/
theorem _root_.Pm.Daemon.ClientPf.Inst.enq {w : W} {c : Cli} {r : W × Cli} (h : ClientPf.Inst w c r) :
    Enq c.id w r.1 c.cmd r.2.cmd := by
  rcases h.2 with ⟨a1, a2, a3, a4⟩ | ⟨idle, com, names, tele, _, _, b3, b4, b5, b6⟩
  · exact .inl ⟨a1, a2, a3, a4⟩
  · exact .inr ⟨idle, _, _, _, _, tele, b3, rfl, b6, b5, b4⟩

/-- one stage of a client's share of the pass, from world `w` and record `c` to `r`, logging the system calls `ext` -/
structure CliIso (w : W) (c : Cli) (r : W × Cli) (ext : List Sys) : Prop where
  kept : kept r.1 = kept w
  id : r.2.id = c.id
  fd : r.2.fd = c.fd
  quit : c.quit = true → r.2.quit = true
  enq : Enq c.id w r.1 c.cmd r.2.cmd
  sys : r.1.sys = w.sys ++ ext
  sysfd : ∀ s ∈ ext, sysFd s = some c.fd
  caps : ∀ fd, fd ≠ c.fd → capOf r.1 fd = capOf w fd
  buf : (∃ b, r.2.toBuf = c.toBuf ++ b) ∨ ∃ s ∈ ext, isWrite s = true

/-- a stage that at most sets `exited` (the `exit` request): nothing else changes -/
theorem CliIso.exits (w : W) (c : Cli) (x : Bool) : CliIso w c ({ w with exited := x }, c) [] :=
  ⟨rfl, rfl, rfl, fun h => h, Enq.same rfl rfl rfl rfl, by simp, by simp, fun _ _ => rfl, Or.inl ⟨[], by simp⟩⟩

theorem CliIso.refl (w : W) (c : Cli) : CliIso w c (w, c) [] := CliIso.exits w c w.exited

theorem CliIso.trans {w : W} {c : Cli} {r r' : W × Cli} {e e' : List Sys} (h1 : CliIso w c r e) (h2 : CliIso r.1 r.2 r' e') :
    CliIso w c r' (e ++ e') where
  kept := h2.kept.trans h1.kept
  id := h2.id.trans h1.id
  fd := h2.fd.trans h1.fd
  quit := fun h => h2.quit (h1.quit h)
  enq := h1.enq.trans (h1.id ▸ h2.enq)
  sys := by rw [h2.sys, h1.sys, List.append_assoc]
  sysfd := by
    intro s hs
    rcases List.mem_append.mp hs with hs | hs
    · exact h1.sysfd s hs
    · rw [h2.sysfd s hs, h1.fd]
  caps := fun fd hfd => (h2.caps fd (by rw [h1.fd]; exact hfd)).trans (h1.caps fd hfd)
  buf := by
    rcases h1.buf with ⟨b, hb⟩ | ⟨s, hs, hw⟩
    · rcases h2.buf with ⟨b', hb'⟩ | ⟨s, hs, hw⟩
      · exact Or.inl ⟨b ++ b', by rw [hb', hb, List.append_assoc]⟩
      · exact Or.inr ⟨s, List.mem_append_right _ hs, hw⟩
    · exact Or.inr ⟨s, List.mem_append_left _ hs, hw⟩

/-- a stage that only touches the record: flags, appended output, consumed input -/
theorem CliIso.record (w : W) (c c' : Cli) (hid : c'.id = c.id) (hfd : c'.fd = c.fd) (hq : c.quit = true → c'.quit = true)
    (hcmd : c'.cmd = c.cmd) (hb : ∃ b, c'.toBuf = c.toBuf ++ b) : CliIso w c (w, c') [] :=
  ⟨rfl, hid, hfd, hq, Enq.same rfl rfl rfl hcmd, by simp, by simp, fun _ _ => rfl, Or.inl hb⟩

/-- `WQ`, "write ⇒ quit": if this stage wrote to the descriptor, the client has quit.  True of every stage except
    `_handle_write` called for POLLOUT — the only other caller of `_handle_write` is the `quit` command -/
def WQ (r : W × Cli) (ext : List Sys) : Prop := (∃ s ∈ ext, isWrite s = true) → r.2.quit = true

theorem WQ.nil (r : W × Cli) : WQ r [] := by intro ⟨s, hs, _⟩; cases hs

theorem WQ.trans {r r' : W × Cli} {e e' : List Sys} (h1 : WQ r e) (h2 : CliIso r.1 r.2 r' e') (h3 : WQ r' e') :
    WQ r' (e ++ e') := by
  intro ⟨s, hs, hw⟩
  rcases List.mem_append.mp hs with hs | hs
  · exact h2.quit (h1 ⟨s, hs, hw⟩)
  · exact h3 ⟨s, hs, hw⟩

theorem capOf_setCap_ne (w : W) (fd fd' : Nat) (v : Int) (h : fd' ≠ fd) : capOf (setCap w fd v) fd' = capOf w fd' := by
  unfold capOf setCap
  dsimp only
  rw [List.lookup_cons, show (fd' == fd) = false from beq_false_of_ne h]
  exact congrArg (·.getD 0) (lookup_filter _ fd' w.caps fun _ _ e => bne_iff_ne.2 fun hx => h ((eq_of_beq e).trans hx))

/-- a stage that logs one system call on the client's own descriptor and touches the record -/
theorem CliIso.sysOnly (w : W) (c c' : Cli) (s : Sys) (hs : sysFd s = some c.fd) (hid : c'.id = c.id) (hfd : c'.fd = c.fd)
    (hq : c.quit = true → c'.quit = true) (hcmd : c'.cmd = c.cmd)
    (hb : (∃ b, c'.toBuf = c.toBuf ++ b) ∨ isWrite s = true) : CliIso w c ({ w with sys := w.sys ++ [s] }, c') [s] :=
  ⟨rfl, hid, hfd, hq, Enq.same rfl rfl rfl hcmd, rfl, by simpa using hs, fun _ _ => rfl,
    hb.elim Or.inl (fun h => Or.inr ⟨s, by simp, h⟩)⟩

theorem CliIso.ite {w : W} {c : Cli} {p : Prop} [Decidable p] {a b : W × Cli} {ext : List Sys}
    (ha : p → CliIso w c a ext) (hb : ¬p → CliIso w c b ext) : CliIso w c (if p then a else b) ext :=
  ite_cases (P := fun r => CliIso w c r ext) ha hb

/-- a write that also uses up capacity of the client's own descriptor -/
theorem CliIso.setCap {w : W} {c : Cli} {r : W × Cli} {ext : List Sys} (h : CliIso w c r ext) (v : Int) :
    CliIso w c (setCap r.1 c.fd v, r.2) ext :=
  ⟨h.kept, h.id, h.fd, h.quit, h.enq, h.sys, h.sysfd, fun fd hfd => (capOf_setCap_ne _ _ _ _ hfd).trans (h.caps fd hfd), h.buf⟩

theorem hwCore_iso (w : W) (c : Cli) : ∃ ext, CliIso w c (ClientPf.hwCore w c) ext := by
  rcases ClientPf.hwCore_spec w c with h | ⟨e, h⟩ | ⟨b, rest, bl, v, _, h⟩ <;> rw [h]
  · exact ⟨[], CliIso.refl w c⟩
  · exact ⟨_, CliIso.sysOnly w c _ _ rfl rfl rfl (fun _ => rfl) rfl (Or.inr rfl)⟩
  · exact ⟨_, (CliIso.sysOnly w c { c with toBuf := rest } (.write c.fd b false bl) rfl rfl rfl (fun h => h) rfl
      (Or.inr rfl)).setCap v⟩

theorem handleWrite_iso (w : W) (c : Cli) : ∃ ext, CliIso w c (handleWrite w c) ext := by
  rw [ClientPf.handleWrite_eq]
  obtain ⟨ext, h⟩ := hwCore_iso w (if c.quit then { c with blocking := true } else c)
  have h0 : CliIso w c (w, if c.quit then { c with blocking := true } else c) [] := by
    apply CliIso.record
    · split <;> rfl
    · split <;> rfl
    · intro hq; rw [if_pos hq]; exact hq
    · split <;> rfl
    · exact ⟨[], by split <;> simp⟩
  exact ⟨[] ++ ext, h0.trans h⟩

theorem cpRead_iso (w : W) (c : Cli) (e : Option FdEnv) :
    ∃ ext, CliIso w c (ClientPf.cpRead w c e) ext ∧ ∀ s ∈ ext, isWrite s = false := by
  rcases ClientPf.cpRead_cases w c e with h | ⟨n, c', h, hc'⟩ <;> rw [h]
  · exact ⟨[], CliIso.refl w c, by simp⟩
  · -- one `read` is logged; the record changes in `quit` or in the input buffer
    rcases hc' with rfl | ⟨d, rfl⟩
    · exact ⟨_, CliIso.sysOnly w c _ (.read c.fd n) rfl rfl rfl (fun _ => rfl) rfl (Or.inl ⟨[], by simp⟩), by simp [isWrite]⟩
    · exact ⟨_, CliIso.sysOnly w c _ (.read c.fd n) rfl rfl rfl (fun h => h) rfl (Or.inl ⟨[], by simp⟩), by simp [isWrite]⟩

/-- the capacity half of `_handle_read` changes the input buffer and its size only -/
theorem clipC_iso (w : W) (c : Cli) (e : Option FdEnv) : CliIso w c (w, clipC c e) [] :=
  CliIso.record w c _ (by simp) (by simp) (fun h => by simpa using h) (by simp) ⟨[], by simp⟩

/-! ### `_parse_input` -/

/-- a stage with its log in which only the `quit` command writes to the descriptor -/
def Stage (w : W) (c : Cli) (r : W × Cli) : Prop := ∃ ext, CliIso w c r ext ∧ WQ r ext

theorem Stage.silent {w : W} {c : Cli} {r : W × Cli} (h : CliIso w c r []) : Stage w c r := ⟨[], h, WQ.nil r⟩

theorem Stage.trans {w : W} {c : Cli} {r r' : W × Cli} (h1 : Stage w c r) (h2 : Stage r.1 r.2 r') : Stage w c r' := by
  obtain ⟨e1, i1, q1⟩ := h1
  obtain ⟨e2, i2, q2⟩ := h2
  exact ⟨e1 ++ e2, i1.trans i2, q1.trans i2 q2⟩

theorem plQuit_iso (w : W) (c : Cli) : Stage w c (ClientPf.plQuit w c) := by
  unfold ClientPf.plQuit
  obtain ⟨ext, h⟩ := handleWrite_iso w (put { c with quit := true } (codeLine 101 ++ crlf))
  have h0 : CliIso w c (w, put { c with quit := true } (codeLine 101 ++ crlf)) [] :=
    CliIso.record w c _ rfl rfl (fun _ => rfl) rfl ⟨_, rfl⟩
  exact ⟨[] ++ ext, h0.trans h, fun _ => h.quit rfl⟩

/-- an accepted request: every device gets its share of actions under the fresh arglist id, the arglist is opened, the client
    has the command -/
theorem accepted_iso (w : W) (c : Cli) (com : Com) (names : List Name) (hidle : c.cmd = none) :
    CliIso w c (ClientPf.afterAccept w c com names) [] :=
  ⟨rfl, rfl, rfl, id, .inr ⟨hidle, _, _, _, _, _, rfl, rfl, rfl, rfl, rfl⟩, (List.append_nil _).symm, (fun _ h => nomatch h),
    fun _ _ => rfl, .inl ⟨[], (List.append_nil _).symm⟩⟩

theorem install_iso (w : W) (c : Cli) (com : Com) (names : List Name) (hidle : c.cmd = none) :
    CliIso w c (install w c com names) [] := by
  rcases ClientPf.install_outcomes w c com names with h | ⟨_, _, h⟩ <;> rw [h]
  · exact CliIso.record w c _ rfl rfl (fun h => h) rfl ⟨_, rfl⟩
  · exact accepted_iso w c com names hidle

/-- everything a request line can do is such a stage -/
theorem _root_.Pm.Daemon.ClientPf.LineDoes.stage {w : W} {c : Cli} {str : Bytes} {r : W × Cli} (h : ClientPf.LineDoes w c str r) :
    Stage w c r := by
  cases h with
  | nodes hl _ => exact .silent ⟨rfl, rfl, rfl, id, .same rfl rfl rfl rfl, by simp, by simp, fun _ _ => rfl, .inl ⟨_, rfl⟩⟩
  | exit _ => exact .silent (.exits w c true)
  | quit _ => exact plQuit_iso w c
  | accept com names idle _ _ _ _ => exact .silent (accepted_iso w c com names idle)
  | _ => exact .silent (.record w c _ rfl rfl id rfl ⟨_, rfl⟩)

theorem parseLine_iso (w : W) (c : Cli) (line : Bytes) : Stage w c (parseLine w c line) :=
  (ClientPf.parseLine_does w c line).stage

theorem dropFrom_iso (w : W) (c : Cli) (n : Nat) : CliIso w c (w, { c with fromBuf := c.fromBuf.drop n }) [] :=
  CliIso.record w c _ rfl rfl (fun h => h) rfl ⟨[], by simp⟩

theorem handleInput_iso (w : W) (c : Cli) : Stage w c (handleInput w c) :=
  ClientPf.handleInput_walk (R := Stage) (fun w c => .silent (.refl w c)) Stage.trans (fun w c n => .silent (dropFrom_iso w c n))
    (fun w c l => parseLine_iso w c l) w c

/-! ### one client's whole share of `cli_post_poll` -/

/-- the frame of `clientPass w c e = r`, logging the system calls `ext`: whether the client survives (`alive`) or is
    destroyed (`gone`) -/
structure PassIso (w : W) (c : Cli) (r : W × Option Cli) (ext : List Sys) : Prop where
  kept : kept r.1 = kept w
  sys : r.1.sys = w.sys ++ ext
  sysfd : ∀ s ∈ ext, sysFd s = some c.fd
  caps : ∀ fd, fd ≠ c.fd → capOf r.1 fd = capOf w fd
  alive : ∀ c', r.2 = some c' → c'.id = c.id ∧ c'.fd = c.fd ∧ (c.quit = true → c'.quit = true) ∧
      Enq c.id w r.1 c.cmd c'.cmd ∧ ((∃ b, c'.toBuf = c.toBuf ++ b) ∨ ∃ s ∈ ext, isWrite s = true)
  gone : r.2 = none → r.1.devs = w.devs ∧ r.1.store = w.store ∧ r.1.alNext = w.alNext ∧
      (r.1.exited = w.exited ∨ r.1.exited = false)

theorem cpDead_iso (w : W) (c : Cli) : PassIso w c (ClientPf.cpDead w c) [Sys.close c.fd] :=
  ⟨rfl, rfl, by simp [sysFd], fun _ _ => rfl, fun c' h => by simp [ClientPf.cpDead] at h, fun _ => ⟨rfl, rfl, rfl, Or.inl rfl⟩⟩

theorem cpTail_iso (w : W) (c : Cli) (r : W × Cli) (ext : List Sys) (h : CliIso w c r ext) :
    ∃ ext', PassIso w c (ClientPf.cpTail r) ext' := by
  have hsome : PassIso w c (r.1, some r.2) ext :=
    ⟨h.kept, h.sys, h.sysfd, h.caps,
     fun c' hc' => by
       simp only [Option.some.injEq] at hc'
       subst hc'
       exact ⟨h.id, h.fd, h.quit, h.enq, h.buf⟩,
     fun hn => by simp at hn⟩
  unfold ClientPf.cpTail
  split
  · exact ⟨ext, hsome⟩
  · rename_i hex
    split
    · rename_i hq
      have hcmd : r.2.cmd = none := by
        simp only [Bool.and_eq_true, Option.isNone_iff_eq_none] at hq
        exact hq.2
      refine ⟨ext ++ [Sys.close r.2.fd], h.kept, ?_, ?_, h.caps, ?_, ?_⟩
      · simp [ClientPf.cpDead, h.sys]
      · intro s hs
        rcases List.mem_append.mp hs with hs | hs
        · exact h.sysfd s hs
        · simp only [List.mem_singleton] at hs; subst hs; simp [sysFd, h.fd]
      · intro c' hc'; simp [ClientPf.cpDead] at hc'
      · intro _
        -- the client is destroyed here only without a command (`hcmd`), so `h.enq` cannot be the `install`, which gives it one
        have henq := h.enq
        rw [hcmd] at henq
        rcases henq with ⟨a1, a2, a3, _⟩ | ⟨_, k, _, _, _, _, hk, _⟩
        · exact ⟨a1, a2, a3, Or.inr (by simpa [ClientPf.cpDead] using hex)⟩
        · cases hk
    · exact ⟨ext, hsome⟩

/-- **the frame of `clientPass`**; and when the descriptor is not reported writable, only the `quit` command writes to it -/
theorem clientPass_iso (w : W) (c : Cli) (e : Option FdEnv) :
    ∃ ext, PassIso w c (clientPass w c e) ext ∧
      (ClientPf.cpRev c e &&& 2 = 0 → ∀ c', (clientPass w c e).2 = some c' → (∃ s ∈ ext, isWrite s = true) → c'.quit = true) := by
  -- before `cpTail`: the frame, and without `POLLOUT` only the `quit` command has written
  rcases ClientPf.clientPass_invariant w c e (P := fun r => ∃ ext, CliIso w c r ext ∧ (ClientPf.cpRev c e &&& 2 = 0 → WQ r ext))
      ⟨[], CliIso.refl w c, fun _ => WQ.nil _⟩
      (by
        obtain ⟨ext, h, n⟩ := cpRead_iso w (clipC c e) (clipE c e)
        exact ⟨[] ++ ext, (clipC_iso w c e).trans h, fun _ ⟨s, hs, hw⟩ => by rw [n s (by simpa using hs)] at hw; cases hw⟩)
      (fun hpo r ⟨e1, h1, _⟩ => by
        obtain ⟨e2, h2⟩ := handleWrite_iso r.1 r.2
        exact ⟨_, h1.trans h2, fun h0 => absurd h0 hpo⟩)
      (fun r ⟨e1, h1, q1⟩ => by
        obtain ⟨e3, h3, q3⟩ := handleInput_iso r.1 r.2
        exact ⟨_, h1.trans h3, fun h0 => WQ.trans (q1 h0) h3 q3⟩) with hd | ⟨r, ⟨ext, hr, q⟩, ht⟩
  · rw [hd]; exact ⟨_, cpDead_iso w c, fun _ c' h => by simp [ClientPf.cpDead] at h⟩
  · rw [ht]
    obtain ⟨ext', hp⟩ := cpTail_iso w c r ext hr
    refine ⟨ext', hp, fun h0 c' hc' hw => ?_⟩
    have s1 := hp.sys
    rw [ClientPf.cpTail_world r c' hc', hr.sys] at s1
    rw [← List.append_cancel_left s1] at hw
    rw [ClientPf.cpTail_alive r c' hc']
    exact q h0 hw

/-! ### the loop of `cli_post_poll`: the served record is written back, or the client is unlinked -/

theorem kept_clients {w w' : W} (h : kept w' = kept w) : w'.clients = w.clients := by
  simp only [kept, Prod.mk.injEq] at h; exact h.1
theorem kept_nextId {w w' : W} (h : kept w' = kept w) : w'.nextId = w.nextId := by
  simp only [kept, Prod.mk.injEq] at h; exact h.2.2.1

/-- the write-back of the loop of `cli_post_poll`: the served record replaces the table entry, or the entry is unlinked -/
def tabUpd (o : Option Cli) (id : Nat) (T : List Cli) : List Cli :=
  match o with
  | some c => T.map fun x => if x.id == id then c else x
  | none => T.filter fun x => x.id != id

theorem cliStep_cases (envs : List FdEnv) (w : W) (c0 : Cli) :
    (w.exited = true ∧ ClientPf.cliStep envs w c0 = w) ∨
    (w.exited = false ∧ ∃ ext, PassIso w c0 (clientPass w c0 (envs.find? (·.fd == c0.fd))) ext ∧
      ClientPf.cliStep envs w c0 = { (clientPass w c0 (envs.find? (·.fd == c0.fd))).1 with
        clients := tabUpd (clientPass w c0 (envs.find? (·.fd == c0.fd))).2 c0.id w.clients }) := by
  unfold ClientPf.cliStep
  cases hex : w.exited with
  | true => exact Or.inl ⟨rfl, by simp⟩
  | false =>
    refine Or.inr ⟨rfl, ?_⟩
    obtain ⟨ext, h, _⟩ := clientPass_iso w c0 (envs.find? (·.fd == c0.fd))
    refine ⟨ext, h, ?_⟩
    have hcl := kept_clients h.kept
    generalize clientPass w c0 (envs.find? (·.fd == c0.fd)) = r at h hcl ⊢
    obtain ⟨w', r⟩ := r
    have hcl' : w'.clients = w.clients := hcl
    cases r with
    | none => simp [hcl', tabUpd]
    | some c =>
      have hid : c.id = c0.id := (h.alive c rfl).1
      simp [hcl', hid, tabUpd]

theorem find_tabUpd_ne (o : Option Cli) (id g : Nat) (T : List Cli) (ho : ∀ c, o = some c → c.id = id) (hg : g ≠ id) :
    (tabUpd o id T).find? (·.id == g) = T.find? (·.id == g) := by
  cases o with
  | some c => exact (Reply.find_map_upd T id g (fun _ => c) fun _ _ => ho c rfl).trans (if_neg hg)
  | none =>
    show (T.filter fun x => x.id != id).find? (·.id == g) = _
    induction T with
    | nil => rfl
    | cons x xs ih =>
      rw [List.filter_cons, List.find?_cons]
      by_cases hx : x.id = id
      · have h2 : (x.id == g) = false := by rw [hx]; simpa using fun h => hg h.symm
        have h3 : (x.id != id) = false := by simpa using hx
        simp only [h3, Bool.false_eq_true, if_false, h2, ih]
      · have h3 : (x.id != id) = true := by simpa using hx
        simp only [h3, if_true, List.find?_cons, ih]

theorem find_filter_self (xs : List Cli) (id : Nat) : (xs.filter fun x => x.id != id).find? (·.id == id) = none := by
  rw [List.find?_eq_none]
  intro x hx
  have := (List.mem_filter.mp hx).2
  simpa using this

theorem find_tabUpd_self (o : Option Cli) (id : Nat) (T : List Cli) (ho : ∀ c, o = some c → c.id = id) (hT : ∃ y ∈ T, y.id = id) :
    (tabUpd o id T).find? (·.id == id) = o := by
  cases o with
  | none => exact find_filter_self T id
  | some c =>
    obtain ⟨y, hy, hid⟩ := hT
    show (T.map fun x => if x.id == id then c else x).find? (·.id == id) = some c
    rw [Reply.find_map_upd T id id (fun _ => c) (fun _ _ => ho c rfl), if_pos rfl]
    cases hq : T.find? (·.id == id) with
    | some x => rfl
    | none => have := List.find?_eq_none.mp hq y hy; simp [hid] at this

theorem mem_tabUpd (o : Option Cli) (id : Nat) (T : List Cli) (x : Cli) :
    x ∈ tabUpd o id T ↔ (x ∈ T ∧ x.id ≠ id) ∨ (o = some x ∧ ∃ y ∈ T, y.id = id) := by
  cases o with
  | none =>
    show x ∈ T.filter (fun y => y.id != id) ↔ _
    rw [List.mem_filter]
    constructor
    · rintro ⟨hx, hne⟩; exact Or.inl ⟨hx, by simpa using hne⟩
    · rintro (⟨hx, hne⟩ | ⟨hx, _⟩)
      · exact ⟨hx, by simpa using hne⟩
      · cases hx
  | some c =>
    show x ∈ T.map (fun y => if y.id == id then c else y) ↔ _
    rw [List.mem_map]
    constructor
    · rintro ⟨y, hy, rfl⟩
      by_cases hyid : y.id = id
      · right; rw [if_pos (by simpa using hyid)]; exact ⟨rfl, y, hy, hyid⟩
      · left; rw [if_neg (by simpa using hyid)]; exact ⟨hy, hyid⟩
    · rintro (⟨hx, hne⟩ | ⟨hx, y0, hy0, hid0⟩)
      · exact ⟨x, hx, if_neg (by simpa using hne)⟩
      · exact ⟨y0, hy0, by rw [if_pos (by simpa using hid0)]; exact (Option.some.inj hx)⟩

theorem tabUpd_map_sublist {α : Type} (f : Cli → α) (o : Option Cli) (id : Nat) (T : List Cli)
    (h : ∀ c, o = some c → ∀ y ∈ T, y.id = id → f c = f y) : ((tabUpd o id T).map f).Sublist (T.map f) := by
  cases o with
  | none => exact List.filter_sublist.map _
  | some c =>
    show ((T.map fun y => if y.id == id then c else y).map f).Sublist _
    rw [List.map_map]
    refine (List.map_congr_left fun y hy => ?_) ▸ List.Sublist.refl _
    show f y = f (if y.id == id then c else y)
    by_cases hyid : y.id = id
    · rw [if_pos (by simpa using hyid), h c rfl y hy hyid]
    · rw [if_neg (by simpa using hyid)]

theorem kept_nacc {w w' : W} (h : kept w' = kept w) : w'.nacc = w.nacc := by
  simp only [kept, Prod.mk.injEq] at h; exact h.2.2.2.1

/-- the served record is written back as `c`: same id and descriptor, what was enqueued is what `Inst` says, and in the table the
    records of that id are replaced by `c` -/
structure WroteBack (w : W) (c0 c : Cli) (w' : W) : Prop where
  id : c.id = c0.id
  fd : c.fd = c0.fd
  inst : ClientPf.Inst w c0 (w', c)
  clients : w'.clients = w.clients.map fun (x : Cli) => if x.id == c0.id then c else x

/-- the client served is destroyed: queues, store and arglist counter are as they were, and the records of its id are gone from
    the table -/
structure Unlinked (w : W) (c0 : Cli) (w' : W) : Prop where
  devs : w'.devs = w.devs
  store : w'.store = w.store
  alNext : w'.alNext = w.alNext
  exited : w.exited = false → w'.exited = false
  clients : w'.clients = w.clients.filter fun (x : Cli) => x.id != c0.id

/-- **What the turn of client `c0` in the loop of `cli_post_poll` makes of the world `w`** (`r`: what the client's share of the
    pass returned; `ext`: the system calls it logged; `w'`: the world after the turn).  But for the table the world is the one
    the share of the pass left; in the table the records of other ids stay, the record served is replaced by the one returned,
    or, when none is returned, unlinked. -/
structure CliTurn (w : W) (c0 : Cli) (r : W × Option Cli) (ext : List Sys) (w' : W) : Prop where
  world : sansClients w' = sansClients r.1
  sys : w'.sys = w.sys ++ ext
  sysfd : ∀ s ∈ ext, sysFd s = some c0.fd
  caps : ∀ fd, fd ≠ c0.fd → capOf w' fd = capOf w fd
  nextId : w'.nextId = w.nextId
  nacc : w'.nacc = w.nacc
  clients : w'.clients = tabUpd r.2 c0.id w.clients
  other : ∀ g, g ≠ c0.id → cliRec w' g = cliRec w g
  self : c0 ∈ w.clients → cliRec w' c0.id = r.2
  mem : c0 ∈ w.clients → ∀ x, x ∈ w'.clients ↔ (x ∈ w.clients ∧ x.id ≠ c0.id) ∨ r.2 = some x
  fds : (∀ x ∈ w.clients, x.id = c0.id → x.fd = c0.fd) → (w'.clients.map (·.fd)).Sublist (w.clients.map (·.fd))
  alive : ∀ c, r.2 = some c → WroteBack w c0 c w'
  gone : r.2 = none → Unlinked w c0 w'

theorem CliTurn.proj {α : Type} {w : W} {c0 : Cli} {r : W × Option Cli} {ext : List Sys} {w' : W} (t : CliTurn w c0 r ext w')
    (f : W → α) (hf : ∀ u, f (sansClients u) = f u) : f w' = f r.1 := by
  rw [← hf w', t.world, hf]

/-- **one turn of the loop of `cli_post_poll`**: nothing, when the process has exited; else `CliTurn` -/
theorem cliStep_does (envs : List FdEnv) (w : W) (c0 : Cli) :
    (w.exited = true ∧ ClientPf.cliStep envs w c0 = w) ∨
    (w.exited = false ∧ ∃ ext, CliTurn w c0 (clientPass w c0 (envs.find? (·.fd == c0.fd))) ext (ClientPf.cliStep envs w c0)) := by
  rcases cliStep_cases envs w c0 with h | ⟨hex, ext, hp, e⟩
  · exact Or.inl h
  refine Or.inr ⟨hex, ext, ?_⟩
  have hid : ∀ c, (clientPass w c0 (envs.find? (·.fd == c0.fd))).2 = some c → c.id = c0.id := fun c hc => (hp.alive c hc).1
  have hfd : ∀ c, (clientPass w c0 (envs.find? (·.fd == c0.fd))).2 = some c → c.fd = c0.fd := fun c hc => (hp.alive c hc).2.1
  have hnx : (clientPass w c0 (envs.find? (·.fd == c0.fd))).1.nextId = w.nextId := kept_nextId hp.kept
  have hna : (clientPass w c0 (envs.find? (·.fd == c0.fd))).1.nacc = w.nacc := kept_nacc hp.kept
  rw [e]
  refine ⟨rfl, hp.sys, hp.sysfd, hp.caps, hnx, hna, rfl, fun g hg => find_tabUpd_ne _ _ g _ hid hg,
    fun hc0 => find_tabUpd_self _ _ _ hid ⟨c0, hc0, rfl⟩, fun hc0 x => (mem_tabUpd _ _ _ x).trans (or_congr_right (and_iff_left ⟨c0, hc0, rfl⟩)),
    fun hu => tabUpd_map_sublist (·.fd) _ _ _ fun c hc y hy hyid => (hfd c hc).trans (hu y hy hyid).symm,
    fun c hc => ⟨hid c hc, hfd c hc, ClientPf.clientPass_inst w c0 _ c hc, by rw [hc]; rfl⟩, fun hn => ?_⟩
  obtain ⟨g1, g2, g3, g4⟩ := hp.gone hn
  exact ⟨g1, g2, g3, fun hx => g4.elim (fun e => e.trans hx) id, by rw [hn]; rfl⟩

/-- **one turn of the loop never touches another client's record** -/
theorem cliStep_other (envs : List FdEnv) (w : W) (c0 : Cli) (g : Nat) (hg : g ≠ c0.id) :
    cliRec (ClientPf.cliStep envs w c0) g = cliRec w g := by
  rcases cliStep_does envs w c0 with ⟨_, h⟩ | ⟨_, ext, t⟩
  · rw [h]
  · exact t.other g hg

theorem foldl_cliStep_other (envs : List FdEnv) (g : Nat) (l : List Cli) (w : W) (h : ∀ c ∈ l, c.id ≠ g) :
    cliRec (l.foldl (ClientPf.cliStep envs) w) g = cliRec w g :=
  List.foldlRecOn (motive := fun u => cliRec u g = cliRec w g) l _ rfl fun u hu c hc =>
    (cliStep_other envs u c g fun e => h c hc e.symm).trans hu

/-! ## departure -/

/-- the client served in this turn of the loop is destroyed (`goto client_dead`: ERR/NVAL on its descriptor, or it has quit
    / hit EOF and has no command in progress): no device, no arglist, no counter and no other client's record changes; its
    own record is gone; only system calls on its own descriptor are logged -/
theorem cliStep_departure (envs : List FdEnv) (w : W) (c0 : Cli) (hex : w.exited = false)
    (h : (clientPass w c0 (envs.find? (·.fd == c0.fd))).2 = none) :
    (ClientPf.cliStep envs w c0).devs = w.devs ∧ (ClientPf.cliStep envs w c0).store = w.store ∧
    (ClientPf.cliStep envs w c0).alNext = w.alNext ∧ (ClientPf.cliStep envs w c0).nextId = w.nextId ∧
    (ClientPf.cliStep envs w c0).exited = false ∧
    (ClientPf.cliStep envs w c0).clients = w.clients.filter (fun x => x.id != c0.id) ∧
    cliRec (ClientPf.cliStep envs w c0) c0.id = none ∧
    (∀ g, g ≠ c0.id → cliRec (ClientPf.cliStep envs w c0) g = cliRec w g) ∧
    ∃ ext, (ClientPf.cliStep envs w c0).sys = w.sys ++ ext ∧ (∀ s ∈ ext, sysFd s = some c0.fd) ∧
      (∀ fd, fd ≠ c0.fd → capOf (ClientPf.cliStep envs w c0) fd = capOf w fd) := by
  rcases cliStep_does envs w c0 with ⟨hx, _⟩ | ⟨_, ext, t⟩
  · rw [hex] at hx; cases hx
  · have u := t.gone h
    refine ⟨u.devs, u.store, u.alNext, t.nextId, u.exited hex, u.clients, ?_, t.other, ext, t.sys, t.sysfd, t.caps⟩
    rw [cliRec, u.clients]; exact find_filter_self w.clients c0.id

/-! ## one command per client -/

/-- one request line: nothing is enqueued, or — only for a client without a command — exactly one `install` -/
theorem parseLine_enq (w : W) (c : Cli) (line : Bytes) :
    Enq c.id w (parseLine w c line).1 c.cmd (parseLine w c line).2.cmd := by
  obtain ⟨_, h, _⟩ := parseLine_iso w c line
  exact h.enq

/-- while a command is in progress nothing this client sends reaches the queues -/
theorem Enq.busy {cid : Nat} {w w' : W} {cmd cmd' : Option CmdC} (h : Enq cid w w' cmd cmd') (hb : cmd.isSome = true) :
    w'.devs = w.devs ∧ w'.store = w.store ∧ w'.alNext = w.alNext ∧ cmd' = cmd := by
  rcases h with h | ⟨hn, _⟩
  · exact h
  · rw [hn] at hb; cases hb

/-- the actions an `install` appends carry the installing client's id, its telemetry flag and the new arglist id -/
theorem installDev_acts (com : Nat) (bn : List Bytes) (cid : Nat) (tele : Bool) (al : Nat) (nd : Bytes × Dev) :
    ∀ a ∈ (Enq.installDev com bn cid tele al nd).2.acts, a ∈ nd.2.acts ∨ (a.clientId = cid ∧ a.arglist = al ∧ a.telemetry = tele) := by
  intro a ha
  rw [(Enq.installDev_spec com bn cid tele al nd).2.2.1] at ha
  rcases List.mem_append.mp ha with ha | ha
  · exact Or.inl ha
  · right
    rcases Enq.newActs_cases ha with ⟨_, p, _, rfl⟩ | ⟨c, _, _, _, rfl⟩ | ⟨c, _, _, rfl⟩ <;> exact ⟨rfl, rfl, rfl⟩

/-- the queues after whatever one client's requests did: every action is an old one or carries this client's id, and
    in the latter case the arglist id that was fresh before -/
theorem Enq.acts {cid : Nat} {w w' : W} {cmd cmd' : Option CmdC} (h : Enq cid w w' cmd cmd') :
    ∀ nd' ∈ w'.devs, ∀ a ∈ nd'.2.acts, (∃ nd ∈ w.devs, a ∈ nd.2.acts) ∨ (a.clientId = cid ∧ a.arglist = w.alNext) := by
  intro nd' hnd' a ha
  rcases h with ⟨h1, _⟩ | ⟨_, k, args, com, bn, tele, _, _, _, _, h5⟩
  · rw [h1] at hnd'; exact Or.inl ⟨nd', hnd', ha⟩
  · rw [h5] at hnd'
    obtain ⟨nd, hnd, rfl⟩ := List.mem_map.mp hnd'
    rcases installDev_acts com bn cid tele w.alNext nd a ha with h | h
    · exact Or.inl ⟨nd, hnd, h⟩
    · exact Or.inr ⟨h.1, h.2.1⟩

/-- ... and no old action is lost or changed -/
theorem Enq.acts_kept {cid : Nat} {w w' : W} {cmd cmd' : Option CmdC} (h : Enq cid w w' cmd cmd') :
    ∀ nd ∈ w.devs, ∀ a ∈ nd.2.acts, ∃ nd' ∈ w'.devs, nd'.1 = nd.1 ∧ a ∈ nd'.2.acts := by
  intro nd hnd a ha
  rcases h with ⟨h1, _⟩ | ⟨_, k, args, com, bn, tele, _, _, _, _, h5⟩
  · rw [h1]; exact ⟨nd, hnd, rfl, ha⟩
  · rw [h5]
    refine ⟨Enq.installDev com bn cid tele w.alNext nd, List.mem_map.mpr ⟨nd, hnd, rfl⟩, rfl, ?_⟩
    rw [(Enq.installDev_spec com bn cid tele w.alNext nd).2.2.1]
    exact List.mem_append_left _ ha

/-! ## the queue after one device's share of the pass: no action changes owner or arglist -/
open Pm.Dev2 (Keys DevFrame.keys postPoll_keys)

/-- the entry device `nd` leaves in the processed list: its queue holds only actions with a (client id, arglist id) pair
    that was in the queue before, or `(0, 0)` -/
theorem stepped_keys (S : Nat → Nat → Prop) (h0 : S 0 0) (p : PassIn) (a : DevAcc) (nd : Bytes × Dev) (hk : Keys S nd.2.acts) :
    Keys S (stepped p a nd).2.acts := by
  unfold stepped
  dsimp only
  split
  · exact hk
  · exact postPoll_keys S h0 _ _ _ hk

/-! ## the id discipline -/

/-- the ids of the live clients, in table order -/
def ids (w : W) : List Nat := w.clients.map (·.id)

/-- the live clients' ids are pairwise distinct, positive (`0` is the id of the internal login/ping actions) and below the
    counter `nextId`; every queued action carries an id below the counter (so the id the next client gets is carried by
    no action — not even by one a departed client left behind) -/
structure IdsFresh (w : W) : Prop where
  nodup : (ids w).Nodup
  pos : ∀ i ∈ ids w, 0 < i
  below : ∀ i ∈ ids w, i < w.nextId
  acts : ∀ nd ∈ w.devs, ∀ a ∈ nd.2.acts, a.clientId < w.nextId
  one : 0 < w.nextId

theorem IdsFresh.transfer {w w' : W} (h : IdsFresh w) (hids : (ids w').Sublist (ids w)) (hn : w'.nextId = w.nextId)
    (hacts : ∀ nd' ∈ w'.devs, ∀ a ∈ nd'.2.acts, a.clientId < w.nextId) : IdsFresh w' :=
  ⟨h.nodup.sublist hids, fun i hi => h.pos i (hids.subset hi), fun i hi => hn ▸ h.below i (hids.subset hi), hn ▸ hacts, hn ▸ h.one⟩

theorem IdsFresh.congr {w w' : W} (h : IdsFresh w) (h1 : w'.clients = w.clients) (h2 : w'.nextId = w.nextId)
    (h3 : w'.devs = w.devs) : IdsFresh w' :=
  h.transfer (by unfold ids; rw [h1]; exact List.Sublist.refl _) h2 (by rw [h3]; exact h.acts)

/-- `UniqueIds` of the C05 statements follows -/
theorem IdsFresh.unique {w : W} (h : IdsFresh w) : UniqueIds w.clients := UniqueIds.of_nodup _ h.nodup

/-- under the invariant the table holds one record per id: a member is the record `_find_client` finds -/
theorem IdsFresh.cliRec_of_mem {w : W} (h : IdsFresh w) {c : Cli} (hc : c ∈ w.clients) : cliRec w c.id = some c := by
  unfold cliRec
  cases hf : w.clients.find? (·.id == c.id) with
  | none =>
    have := List.find?_eq_none.mp hf c hc
    simp at this
  | some x =>
    have hx := List.mem_of_find?_eq_some hf
    have hid : x.id = c.id := by simpa using List.find?_some hf
    rw [h.unique x hx c hc hid]

theorem cliRec_mem {w : W} {g : Nat} {c : Cli} (h : cliRec w g = some c) : c ∈ w.clients ∧ c.id = g :=
  ⟨List.mem_of_find?_eq_some h, by simpa using List.find?_some h⟩

theorem IdsFresh.cliRec_none {u : W} (hu : IdsFresh u) {n : Nat} (hn : u.nextId ≤ n) : cliRec u n = none := by
  cases hq : cliRec u n with
  | none => rfl
  | some c =>
    obtain ⟨hm, hid⟩ := cliRec_mem hq
    exact absurd (hid ▸ hu.below c.id (List.mem_map.mpr ⟨c, hm, rfl⟩)) (Nat.not_lt.mpr hn)

/-- accepting a connection: the new client gets the counter's value, the counter moves on -/
theorem cliAccept_ids (w : W) (acc : Nat) (h : IdsFresh w) : IdsFresh (ClientPf.cliAccept w acc) := by
  obtain ⟨new, k, n, ev, hnew, _, e⟩ := cliAccept_shape w acc
  rw [e]
  rcases hnew with ⟨rfl, _⟩ | ⟨rfl, rfl, _⟩
  · simp only [List.append_nil]
    exact ⟨h.nodup, h.pos, fun i hi => Nat.lt_add_right k (h.below i hi),
      fun nd hnd a ha => Nat.lt_add_right k (h.acts nd hnd a ha), Nat.lt_add_right k h.one⟩
  · have hmem : ∀ i, i ∈ (w.clients ++ [ClientPf.newClient w]).map (·.id) → i ∈ ids w ∨ i = w.nextId := fun i hi => by
      rw [List.map_append, List.mem_append] at hi
      exact hi.imp_right fun hi => by simpa [ClientPf.newClient] using hi
    refine ⟨?_, fun i hi => ?_, fun i hi => ?_, fun nd hnd a ha => Nat.lt_succ_of_lt (h.acts nd hnd a ha), Nat.succ_pos _⟩
    · show ((w.clients ++ [ClientPf.newClient w]).map (·.id)).Nodup
      rw [List.map_append, List.nodup_append]
      refine ⟨h.nodup, by simp, fun a ha b hb => ?_⟩
      simp only [List.map_cons, List.map_nil, List.mem_singleton, ClientPf.newClient] at hb
      have := h.below a ha
      omega
    · rcases hmem i hi with hi | hi
      · exact h.pos i hi
      · rw [hi]; exact h.one
    · show i < w.nextId + 1
      rcases hmem i hi with hi | hi
      · exact Nat.lt_succ_of_lt (h.below i hi)
      · omega

/-- the id handed out by `accept` is new: no live client has it and no queued action carries it -/
theorem newClient_fresh (w : W) (h : IdsFresh w) :
    (∀ c ∈ w.clients, c.id ≠ (ClientPf.newClient w).id) ∧
    (∀ nd ∈ w.devs, ∀ a ∈ nd.2.acts, a.clientId ≠ (ClientPf.newClient w).id) ∧ (ClientPf.newClient w).id ≠ 0 := by
  refine ⟨?_, ?_, ?_⟩
  · intro c hc
    have := h.below c.id (List.mem_map.mpr ⟨c, hc, rfl⟩)
    simp only [ClientPf.newClient]; omega
  · intro nd hnd a ha
    have := h.acts nd hnd a ha
    simp only [ClientPf.newClient]; omega
  · have := h.one
    simp only [ClientPf.newClient]; omega

/-- `h0`: the actions an `install` appends carry the id `c0.id` -/
theorem cliStep_ids (envs : List FdEnv) (w : W) (c0 : Cli) (h : IdsFresh w) (h0 : c0.id < w.nextId) :
    IdsFresh (ClientPf.cliStep envs w c0) ∧ (ClientPf.cliStep envs w c0).nextId = w.nextId := by
  rcases cliStep_does envs w c0 with ⟨_, e⟩ | ⟨_, ext, t⟩
  · rw [e]; exact ⟨h, rfl⟩
  refine ⟨h.transfer ?_ t.nextId fun nd' hnd' a ha => ?_, t.nextId⟩
  · rw [ids, t.clients]
    exact tabUpd_map_sublist (·.id) _ _ _ fun c hc y _ hy => (t.alive c hc).id.trans hy.symm
  · cases hr : (clientPass w c0 (envs.find? (·.fd == c0.fd))).2 with
    | some c =>
      rcases (t.alive c hr).inst.enq.acts nd' hnd' a ha with ⟨nd, hnd, ha⟩ | ⟨hcid, _⟩
      · exact h.acts nd hnd a ha
      · rw [hcid]; exact h0
    | none => exact h.acts nd' ((t.gone hr).devs ▸ hnd') a ha

theorem foldl_cliStep_ids (envs : List FdEnv) (l : List Cli) (w : W) (h : IdsFresh w) (hl : ∀ c ∈ l, c.id < w.nextId) :
    IdsFresh (l.foldl (ClientPf.cliStep envs) w) :=
  (List.foldlRecOn (motive := fun u => IdsFresh u ∧ u.nextId = w.nextId) l _ ⟨h, rfl⟩ fun u hu c hc =>
    have r := cliStep_ids envs u c hu.1 (hu.2 ▸ hl c hc)
    ⟨r.1, r.2.trans hu.2⟩).1

theorem cliPostPoll_ids (w : W) (acc : Nat) (envs : List FdEnv) (h : IdsFresh w) : IdsFresh (cliPostPoll w acc envs) :=
  cliPostPoll_keeps IdsFresh (fun _ hu => hu.nodup) w acc envs (cliAccept_ids _ acc (h.congr rfl rfl rfl)) fun u c hu hc =>
    (cliStep_ids envs u c hu (hu.below c.id (List.mem_map.mpr ⟨c, hc, rfl⟩))).1

/-! ### the device phase -/

theorem devPass_ids_eq (p : PassIn) (a : DevAcc) (nd : Bytes × Dev) :
    ids (devPass p a nd).w = ids a.w ∧ (devPass p a nd).w.nextId = a.w.nextId ∧ (devPass p a nd).w.alNext = a.w.alNext := by
  cases hd : a.dead with
  | true => rw [devPass_dead _ _ _ hd]; exact ⟨rfl, rfl, rfl⟩
  | false =>
    obtain ⟨G, hG, kG⟩ := applyOuts_map (afterStep a.w (devStep p a.w a.oracle nd).1) nd.1 (devStep p a.w a.oracle nd).2.2.1
    rw [devPass_w p a nd hd, hG]
    refine ⟨?_, rfl, rfl⟩
    show (a.w.clients.map G).map (·.id) = a.w.clients.map (·.id)
    rw [List.map_map]
    exact List.map_congr_left fun c _ => (kG c).1

theorem worldAt_devPass_devs (p : PassIn) (a : DevAcc) (nd : Bytes × Dev) (rest : List (Bytes × Dev)) :
    (worldAt (devPass p a nd) rest).devs = a.devs ++ stepped p a nd :: rest := by
  show (devPass p a nd).devs ++ rest = _
  rw [devPass_devs_eq]; simp

/-- every action queued anywhere after `nd`'s share has the (client id, arglist id) pair of an action queued before, or
    `(0, 0)` -/
theorem worldAt_devPass_keys (S : Nat → Nat → Prop) (h0 : S 0 0) (p : PassIn) (a : DevAcc) (nd : Bytes × Dev)
    (rest : List (Bytes × Dev)) (h : ∀ x ∈ (worldAt a (nd :: rest)).devs, Keys S x.2.acts) :
    ∀ x ∈ (worldAt (devPass p a nd) rest).devs, Keys S x.2.acts := by
  intro x hx
  rw [worldAt_devPass_devs] at hx
  have h' : ∀ x ∈ a.devs ++ nd :: rest, Keys S x.2.acts := h
  rcases List.mem_append.mp hx with hx | hx
  · exact h' x (List.mem_append_left _ hx)
  · rcases List.mem_cons.mp hx with rfl | hx
    · exact stepped_keys S h0 p a nd (h' nd (by simp))
    · exact h' x (by simp [hx])

theorem devPass_idsFresh (p : PassIn) (a : DevAcc) (nd : Bytes × Dev) (rest : List (Bytes × Dev))
    (h : IdsFresh (worldAt a (nd :: rest))) : IdsFresh (worldAt (devPass p a nd) rest) := by
  obtain ⟨h1, h2, _⟩ := devPass_ids_eq p a nd
  refine h.transfer (by show (ids (devPass p a nd).w).Sublist (ids a.w); rw [h1]; exact List.Sublist.refl _) h2 ?_
  intro x hx b hb
  exact worldAt_devPass_keys (fun cid _ => cid < a.w.nextId) h.one p a nd rest (fun y hy b hb => h.acts y hy b hb) x hx b hb

theorem daemonPass_ids (w : W) (p : PassIn) (h : IdsFresh w) : IdsFresh (daemonPass w p).1 :=
  daemonPass_keeps IdsFresh (fun a nd rest _ hi => devPass_idsFresh p a nd rest hi) (fun _ _ hi => hi.congr rfl rfl rfl) w
    (cliPostPoll_ids w p.acc p.envs h)

/-! ## the scope of a result: arglists -/

/-- the arglist discipline.  `cmds`/`acts`: every arglist id in use by a client's command or by a client's action is below
    the counter `alNext` (so the id the next command gets is new); `owned`: an action carrying the arglist id of client
    `g`'s command is `g`'s action; `apart`: two clients' commands have different arglist ids; `internal`: the login and ping
    actions (client id `0`) carry the dummy arglist id `0`. -/
structure ArgScope (w : W) : Prop where
  cmds : ∀ g c k, cliRec w g = some c → c.cmd = some k → k.al < w.alNext
  acts : ∀ nd ∈ w.devs, ∀ a ∈ nd.2.acts, a.clientId ≠ 0 → a.arglist < w.alNext
  owned : ∀ g c k, cliRec w g = some c → c.cmd = some k → ∀ nd ∈ w.devs, ∀ a ∈ nd.2.acts, a.clientId ≠ 0 →
    a.arglist = k.al → a.clientId = g
  apart : ∀ g g' c c' k k', cliRec w g = some c → cliRec w g' = some c' → c.cmd = some k → c'.cmd = some k' →
    k.al = k'.al → g = g'
  internal : ∀ nd ∈ w.devs, ∀ a ∈ nd.2.acts, a.clientId = 0 → a.arglist = 0

/-- a step in which at most client `cid` gets a command, on the arglist id `w.alNext` (and then the counter moves on): every
    command afterwards is (up to its counters) a command of the same client before, or `cid`'s with `al = w.alNext`; every action
    afterwards is internal, has the owner and arglist of an action before, or is `cid`'s with `arglist = w.alNext` -/
theorem ArgScope.step {w w' : W} (h : ArgScope w) (cid : Nat) (hcid : cid ≠ 0) (hal : w.alNext ≤ w'.alNext)
    (hcli : ∀ g c' k', cliRec w' g = some c' → c'.cmd = some k' →
      (∃ c k, cliRec w g = some c ∧ c.cmd = some k ∧ k.al = k'.al) ∨ (g = cid ∧ k'.al = w.alNext ∧ w.alNext < w'.alNext))
    (hacts : ∀ nd' ∈ w'.devs, ∀ a' ∈ nd'.2.acts, (a'.clientId = 0 ∧ a'.arglist = 0) ∨
      (∃ nd ∈ w.devs, ∃ a ∈ nd.2.acts, a.clientId = a'.clientId ∧ a.arglist = a'.arglist) ∨
      (a'.clientId = cid ∧ a'.arglist = w.alNext ∧ w.alNext < w'.alNext)) :
    ArgScope w' := by
  -- an old command or action has an id below `w.alNext`, a new one the id `w.alNext`: the two kinds never meet
  have hc : ∀ g c' k', cliRec w' g = some c' → c'.cmd = some k' →
      (k'.al < w.alNext ∧ ∃ c k, cliRec w g = some c ∧ c.cmd = some k ∧ k.al = k'.al) ∨ (g = cid ∧ k'.al = w.alNext ∧ w.alNext < w'.alNext) :=
    fun g c' k' hc' hk' => (hcli g c' k' hc' hk').imp_left fun ⟨c, k, hc, hk, e⟩ => ⟨e ▸ h.cmds g c k hc hk, c, k, hc, hk, e⟩
  have ha : ∀ nd' ∈ w'.devs, ∀ a' ∈ nd'.2.acts, a'.clientId ≠ 0 →
      (a'.arglist < w.alNext ∧ ∃ nd ∈ w.devs, ∃ a ∈ nd.2.acts, a.clientId = a'.clientId ∧ a.arglist = a'.arglist) ∨
      (a'.clientId = cid ∧ a'.arglist = w.alNext ∧ w.alNext < w'.alNext) := by
    intro nd' hnd' a' ha' hne
    rcases hacts nd' hnd' a' ha' with ⟨h0, _⟩ | ⟨nd, hnd, a, ha, e1, e2⟩ | hn
    · exact absurd h0 hne
    · exact .inl ⟨e2 ▸ h.acts nd hnd a ha (e1 ▸ hne), nd, hnd, a, ha, e1, e2⟩
    · exact .inr hn
  refine ⟨?_, ?_, ?_, ?_, ?_⟩
  · intro g c' k' hc' hk'
    rcases hc g c' k' hc' hk' with ⟨e, _⟩ | ⟨_, e, e'⟩
    · exact Nat.lt_of_lt_of_le e hal
    · exact e ▸ e'
  · intro nd' hnd' a' ha' hne
    rcases ha nd' hnd' a' ha' hne with ⟨e, _⟩ | ⟨_, e, e'⟩
    · exact Nat.lt_of_lt_of_le e hal
    · exact e ▸ e'
  · intro g c' k' hc' hk' nd' hnd' a' ha' hne hal'
    rcases hc g c' k' hc' hk' with ⟨e, c, k, hc0, hk0, ek⟩ | ⟨eg, e, _⟩ <;>
      rcases ha nd' hnd' a' ha' hne with ⟨f, nd, hnd, a, haa, e1, e2⟩ | ⟨fg, f, _⟩
    · rw [← e1]; exact h.owned g c k hc0 hk0 nd hnd a haa (e1 ▸ hne) (by rw [e2, hal', ek])
    · exact absurd (hal'.symm.trans f) (Nat.ne_of_lt e)
    · exact absurd (hal'.trans e) (Nat.ne_of_lt f)
    · rw [fg, eg]
  · intro g g' c1 c2 k1 k2 hc1 hc2 hk1 hk2 e
    rcases hc g c1 k1 hc1 hk1 with ⟨e1, d1, l1, hd1, hl1, f1⟩ | ⟨eg, e1, _⟩ <;>
      rcases hc g' c2 k2 hc2 hk2 with ⟨e2, d2, l2, hd2, hl2, f2⟩ | ⟨eg', e2, _⟩
    · exact h.apart g g' d1 d2 l1 l2 hd1 hd2 hl1 hl2 (by rw [f1, f2, e])
    · exact absurd (e.trans e2) (Nat.ne_of_lt e1)
    · exact absurd (e.symm.trans e1) (Nat.ne_of_lt e2)
    · rw [eg, eg']
  · intro nd' hnd' a' ha' h0
    rcases hacts nd' hnd' a' ha' with ⟨_, h1⟩ | ⟨nd, hnd, a, haa, e1, e2⟩ | ⟨e1, _⟩
    · exact h1
    · rw [← e2]; exact h.internal nd hnd a haa (by rw [e1]; exact h0)
    · exact absurd (e1 ▸ h0) hcid

/-- a step that creates no arglist -/
theorem ArgScope.transfer {w w' : W} (h : ArgScope w)
    (hcli : ∀ g c' k', cliRec w' g = some c' → c'.cmd = some k' → ∃ c k, cliRec w g = some c ∧ c.cmd = some k ∧ k.al = k'.al)
    (hal : w'.alNext = w.alNext)
    (hacts : ∀ nd' ∈ w'.devs, ∀ a' ∈ nd'.2.acts,
      (a'.clientId = 0 ∧ a'.arglist = 0) ∨ ∃ nd ∈ w.devs, ∃ a ∈ nd.2.acts, a.clientId = a'.clientId ∧ a.arglist = a'.arglist) :
    ArgScope w' :=
  h.step 1 (by decide) (Nat.le_of_eq hal.symm) (fun g c' k' hc' hk' => .inl (hcli g c' k' hc' hk'))
    fun nd' hnd' a' ha' => (hacts nd' hnd' a' ha').imp_right .inl

theorem cliAccept_scope (w : W) (acc : Nat) (h : ArgScope w) : ArgScope (ClientPf.cliAccept w acc) := by
  refine h.transfer (fun g c' k' hc' hk' => ⟨c', k', cliAccept_rec_cmd w acc g c' k' hc' hk', hk', rfl⟩) ?_ fun nd hnd a ha => ?_
  all_goals obtain ⟨new, k, n, ev, _, _, e⟩ := cliAccept_shape w acc
  · rw [e]
  · rw [e] at hnd; exact Or.inr ⟨nd, hnd, a, ha, rfl, rfl⟩

theorem cliStep_scope (envs : List FdEnv) (w : W) (c0 : Cli) (h : ArgScope w) (hc0 : cliRec w c0.id = some c0)
    (hpos : c0.id ≠ 0) : ArgScope (ClientPf.cliStep envs w c0) := by
  rcases cliStep_does envs w c0 with ⟨_, e⟩ | ⟨_, ext, t⟩
  · rw [e]; exact h
  generalize ClientPf.cliStep envs w c0 = w', clientPass w c0 (envs.find? (·.fd == c0.fd)) = r at t ⊢
  -- what the turn did to `c0`'s command and to the queues: nothing, or one `install` on the arglist id `w.alNext`
  have key : w.alNext ≤ w'.alNext ∧
      (∀ c k', r.2 = some c → c.cmd = some k' → c0.cmd = some k' ∨ (k'.al = w.alNext ∧ w.alNext < w'.alNext)) ∧
      ∀ nd' ∈ w'.devs, ∀ a ∈ nd'.2.acts,
        (∃ nd ∈ w.devs, a ∈ nd.2.acts) ∨ (a.clientId = c0.id ∧ a.arglist = w.alNext ∧ w.alNext < w'.alNext) := by
    cases hr : r.2 with
    | none =>
      have u := t.gone hr
      exact ⟨Nat.le_of_eq u.alNext.symm, fun _ _ hc => (nomatch hc), fun nd' hnd' a ha => .inl ⟨nd', u.devs ▸ hnd', ha⟩⟩
    | some c =>
      have henq : Enq c0.id w w' c0.cmd c.cmd := (t.alive c hr).inst.enq
      have hacts := henq.acts
      rcases henq with ⟨a1, _, a3, a4⟩ | ⟨_, k, _, _, _, _, b1, b2, b3, _, _⟩
      · refine ⟨Nat.le_of_eq a3.symm, fun c1 k' hc1 hk' => .inl ?_, fun nd' hnd' a ha => .inl ⟨nd', a1 ▸ hnd', ha⟩⟩
        cases hc1
        exact a4 ▸ hk'
      · have hlt : w.alNext < w'.alNext := b3 ▸ Nat.lt_succ_self _
        refine ⟨Nat.le_of_lt hlt, fun c1 k' hc1 hk' => .inr ?_, fun nd' hnd' a ha =>
          (hacts nd' hnd' a ha).imp_right fun ⟨e1, e2⟩ => ⟨e1, e2, hlt⟩⟩
        cases hc1
        rw [b1] at hk'; cases hk'
        exact ⟨b2, hlt⟩
  refine h.step c0.id hpos key.1 (fun g c' k' hc' hk' => ?_) fun nd' hnd' a ha => .inr ?_
  · by_cases hg : g = c0.id
    · subst hg
      rw [t.self (List.mem_of_find?_eq_some hc0)] at hc'
      exact (key.2.1 c' k' hc' hk').imp (fun hk => ⟨c0, k', hc0, hk, rfl⟩) fun hn => ⟨rfl, hn⟩
    · exact .inl ⟨c', k', t.other g hg ▸ hc', hk', rfl⟩
  · exact (key.2.2 nd' hnd' a ha).imp_left fun ⟨nd, hnd, ha⟩ => ⟨nd, hnd, a, ha, rfl, rfl⟩

/-- the state invariant behind the isolation statements (C11): both disciplines -/
def Iso (w : W) : Prop := IdsFresh w ∧ ArgScope w

theorem cliPostPoll_iso (w : W) (acc : Nat) (envs : List FdEnv) (h : Iso w) : Iso (cliPostPoll w acc envs) := by
  have h1 : Iso { w with sys := [], caps := envs.map fun (e : FdEnv) => (e.fd, e.cap) } :=
    ⟨h.1.congr rfl rfl rfl, ⟨h.2.cmds, h.2.acts, h.2.owned, h.2.apart, h.2.internal⟩⟩
  refine cliPostPoll_keeps Iso (fun _ hu => hu.1.nodup) w acc envs ⟨cliAccept_ids _ acc h1.1, cliAccept_scope _ acc h1.2⟩
    (fun u c hu hc => ?_)
  have hidm : c.id ∈ ids u := List.mem_map.mpr ⟨c, hc, rfl⟩
  exact ⟨(cliStep_ids envs u c hu.1 (hu.1.below c.id hidm)).1,
    cliStep_scope envs u c hu.2 (hu.1.cliRec_of_mem hc) (Nat.ne_of_gt (hu.1.pos c.id hidm))⟩

/-! ### callbacks never give a client a command, and never move a command to another arglist -/

theorem applyOuts_cmd (w : W) (name : Bytes) (outs : List DOut) (g : Nat) (c' : Cli) (k' : CmdC)
    (hc' : cliRec (applyOuts w name outs).1 g = some c') (hk' : c'.cmd = some k') :
    ∃ c k, cliRec w g = some c ∧ c.cmd = some k ∧ k.al = k'.al := by
  rw [applyOuts_rec] at hc'
  cases hq : cliRec w g with
  | none => rw [hq] at hc'; cases hc'
  | some c =>
    rw [hq] at hc'
    obtain ⟨k, h1, _, _, h2⟩ := (recRun_cmd name (cellsOf w) g outs c).1 k' (Option.some.inj hc' ▸ hk')
    exact ⟨c, k, rfl, h1, h2.symm⟩

theorem devPass_scope (p : PassIn) (a : DevAcc) (nd : Bytes × Dev) (rest : List (Bytes × Dev))
    (h : ArgScope (worldAt a (nd :: rest))) : ArgScope (worldAt (devPass p a nd) rest) := by
  refine h.transfer ?_ (devPass_ids_eq p a nd).2.2 ?_
  · intro g c' k' hc' hk'
    have hc' : cliRec (devPass p a nd).w g = some c' := hc'
    show ∃ c k, cliRec a.w g = some c ∧ c.cmd = some k ∧ k.al = k'.al
    cases hd : a.dead with
    | true => rw [devPass_dead _ _ _ hd] at hc'; exact ⟨c', k', hc', hk', rfl⟩
    | false =>
      rw [devPass_w p a nd hd] at hc'
      exact applyOuts_cmd (afterStep a.w (devStep p a.w a.oracle nd).1) nd.1 _ g c' k' hc' hk'
  · intro x hx b hb
    exact worldAt_devPass_keys
      (fun cid al => (cid = 0 ∧ al = 0) ∨ ∃ nd0 ∈ (worldAt a (nd :: rest)).devs, ∃ a0 ∈ nd0.2.acts, a0.clientId = cid ∧ a0.arglist = al)
      (Or.inl ⟨rfl, rfl⟩) p a nd rest (fun y hy b hb => Or.inr ⟨y, hy, b, hb, rfl, rfl⟩) x hx b hb

theorem devPass_iso (p : PassIn) (a : DevAcc) (nd : Bytes × Dev) (rest : List (Bytes × Dev))
    (h : Iso (worldAt a (nd :: rest))) : Iso (worldAt (devPass p a nd) rest) :=
  ⟨devPass_idsFresh p a nd rest h.1, devPass_scope p a nd rest h.2⟩

theorem ArgScope.congr {w w' : W} (h : ArgScope w) (h1 : w'.clients = w.clients) (h2 : w'.alNext = w.alNext)
    (h3 : w'.devs = w.devs) : ArgScope w' := by
  have hc : ∀ g, cliRec w' g = cliRec w g := cliRec_congr h1
  exact h.transfer (fun g c' k' hc' hk' => ⟨c', k', hc g ▸ hc', hk', rfl⟩) h2
    (fun nd hnd a ha => Or.inr ⟨nd, h3 ▸ hnd, a, ha, rfl, rfl⟩)

theorem daemonPass_iso (w : W) (p : PassIn) (h : Iso w) : Iso (daemonPass w p).1 :=
  daemonPass_keeps Iso (fun a nd rest _ hi => devPass_iso p a nd rest hi)
    (fun _ _ hi => ⟨hi.1.congr rfl rfl rfl, hi.2.congr rfl rfl rfl⟩) w (cliPostPoll_iso w p.acc p.envs h)

/-- the daemon starts in a state that satisfies both: no client, empty queues, counters at their initial values -/
theorem iso_init (w : W) (hc : w.clients = []) (hq : ∀ nd ∈ w.devs, nd.2.acts = []) (hn : 0 < w.nextId) : Iso w := by
  refine ⟨⟨by simp [ids, hc], by simp [ids, hc], by simp [ids, hc], ?_, hn⟩, ⟨?_, ?_, ?_, ?_, ?_⟩⟩
  · intro nd hnd a ha; rw [hq nd hnd] at ha; cases ha
  · intro g c k h; simp [cliRec, hc] at h
  · intro nd hnd a ha; rw [hq nd hnd] at ha; cases ha
  · intro g c k h; simp [cliRec, hc] at h
  · intro g g' c c' k k' h; simp [cliRec, hc] at h
  · intro nd hnd a ha; rw [hq nd hnd] at ha; cases ha

theorem runPasses_iso (w : W) (ps : List PassIn) (h : Iso w) : Iso (runPasses w ps) := by
  unfold runPasses
  induction ps generalizing w with
  | nil => exact h
  | cons p r ih => rw [List.foldl_cons]; exact ih _ (daemonPass_iso w p h)

/-! ### `dev_initial_connect` (start-up) only adds login actions -/

/-- one step of the loop of `dev_initial_connect` -/
def icStep (now : Nat) (con soe : List Nat) (acc : W × List String × List (Bytes × Dev)) (nd : Bytes × Dev) : W × List String × List (Bytes × Dev) :=
  let (w, lines, devs) := acc
  let env := mkDevEnv w nd.2 now con soe []
  let c := Pm.Dev2.connectDev { dev := nd.2, env := env, sys := [] }
  ({ w with nsock := w.nsock + countSock c.sys, npair := w.npair + countPair c.sys, nfork := w.nfork + countFork c.sys },
   lines ++ showSys [] c.sys, devs ++ [(nd.1, c.dev)])

theorem initialConnect_eq (w : W) (now : Nat) (con soe : List Nat) :
    (initialConnect w now con soe).1 =
      { (w.devs.foldl (icStep now con soe) (w, [], [])).1 with devs := (w.devs.foldl (icStep now con soe) (w, [], [])).2.2 } := by
  unfold initialConnect icStep
  rfl

theorem foldl_icStep (S : Nat → Nat → Prop) (h0 : S 0 0) (now : Nat) (con soe : List Nat) (l : List (Bytes × Dev))
    (acc : W × List String × List (Bytes × Dev)) (hl : ∀ nd ∈ l, Keys S nd.2.acts) (ha : ∀ nd ∈ acc.2.2, Keys S nd.2.acts) :
    (l.foldl (icStep now con soe) acc).1.clients = acc.1.clients ∧ (l.foldl (icStep now con soe) acc).1.nextId = acc.1.nextId ∧
    (l.foldl (icStep now con soe) acc).1.alNext = acc.1.alNext ∧ ∀ nd ∈ (l.foldl (icStep now con soe) acc).2.2, Keys S nd.2.acts := by
  induction l generalizing acc with
  | nil => exact ⟨rfl, rfl, rfl, ha⟩
  | cons nd r ih =>
    rw [List.foldl_cons]
    obtain ⟨w, lines, devs⟩ := acc
    have := ih (icStep now con soe (w, lines, devs) nd) (fun x hx => hl x (by simp [hx])) (by
      intro x hx
      simp only [icStep, List.mem_append, List.mem_singleton] at hx
      rcases hx with hx | rfl
      · exact ha x hx
      · exact DevFrame.keys (Pm.Dev2.connectDev_devFrame { dev := nd.2, env := mkDevEnv w nd.2 now con soe [], sys := [] }) h0 (hl nd (by simp)))
    exact this

theorem initialConnect_iso (w : W) (now : Nat) (con soe : List Nat) (h : Iso w) : Iso (initialConnect w now con soe).1 := by
  rw [initialConnect_eq]
  constructor
  · obtain ⟨h1, h2, _, h4⟩ := foldl_icStep (fun cid _ => cid < w.nextId) h.1.one now con soe w.devs (w, [], [])
      (fun nd hnd a ha => h.1.acts nd hnd a ha) (by intro nd hnd; cases hnd)
    refine h.1.transfer (by unfold ids; rw [show _ = w.clients from h1]; exact List.Sublist.refl _) h2 ?_
    exact fun nd hnd a ha => h4 nd hnd a ha
  · obtain ⟨h1, _, h3, h4⟩ := foldl_icStep
      (fun cid al => (cid = 0 ∧ al = 0) ∨ ∃ nd0 ∈ w.devs, ∃ a0 ∈ nd0.2.acts, a0.clientId = cid ∧ a0.arglist = al)
      (Or.inl ⟨rfl, rfl⟩) now con soe w.devs (w, [], [])
      (fun nd hnd a ha => Or.inr ⟨nd, hnd, a, ha, rfl, rfl⟩) (by intro nd hnd; cases hnd)
    have hc : ∀ g, cliRec { (w.devs.foldl (icStep now con soe) (w, [], [])).1 with devs := (w.devs.foldl (icStep now con soe) (w, [], [])).2.2 } g = cliRec w g :=
      cliRec_congr h1
    exact h.2.transfer (fun g c' k' hc' hk' => ⟨c', k', hc g ▸ hc', hk', rfl⟩) h3 (fun nd hnd a ha => h4 nd hnd a ha)

/-! ### what the disciplines give: only `g`'s own actions write `g`'s arglist -/

/-- under the arglist discipline an action of somebody else (another client, or the internal login/ping) does not carry the
    arglist id of `g`'s command (`k.al ≠ 0`: the internal actions carry the dummy id `0`, F24; see the FINDING at `C11_result_scope`) -/
theorem ArgScope.foreign {w : W} (h : ArgScope w) {g : Nat} {c : Cli} {k : CmdC} (hc : cliRec w g = some c) (hk : c.cmd = some k)
    (hal : k.al ≠ 0) {nd : Bytes × Dev} (hnd : nd ∈ w.devs) {x : Action} (hx : x ∈ nd.2.acts) (hne : x.clientId ≠ g) :
    x.arglist ≠ k.al := by
  intro e
  by_cases h0 : x.clientId = 0
  · exact hal (e ▸ h.internal nd hnd x hx h0)
  · exact hne (h.owned g c k hc hk nd hnd x hx h0 e)

/-- under the arglist discipline, while client `g` has a command with arglist `k.al ≠ 0`: a device on which `g` has no
    action queued leaves `g`'s arglist exactly as it is — whatever the other clients' actions on that device do, even
    on the very same nodes -/
theorem devPass_result_scope (p : PassIn) (a : DevAcc) (nd : Bytes × Dev) (rest : List (Bytes × Dev)) (g : Nat) (c : Cli) (k : CmdC)
    (h : ArgScope (worldAt a (nd :: rest))) (hc : cliRec a.w g = some c) (hk : c.cmd = some k) (hal : k.al ≠ 0)
    (hq : ∀ x ∈ nd.2.acts, x.clientId ≠ g) : storeArgs (devPass p a nd).w k.al = storeArgs a.w k.al := by
  have hnd := mem_worldAt a nd rest
  have : ∀ x ∈ nd.2.acts, x.arglist ≠ k.al := fun x hx => h.foreign hc hk hal hnd hx (hq x hx)
  unfold storeArgs
  rw [devPass_store_cell p a nd k.al hal this]

/-- one statement of a script, run for action `a`, writes no arglist but `a`'s own -/
theorem processStmt_own_arglist (d : Dev) (a : Action) (o : Oracle) (now : Nat) (al : Nat) (h : al ≠ a.arglist) :
    (Pm.Dev2.processStmt d a o now).dev.args.lookup al = d.args.lookup al :=
  (Pm.Dev2.processStmt_frame (fun _ => false) d a o now (fun _ _ _ _ => rfl)).cellOther al h

/-! ## back-pressure: a client that does not read -/

theorem written_eq_nil (ext : List Sys) (fd : Nat) (h : ∀ s ∈ ext, isWrite s = true → sysFd s ≠ some fd) :
    ClientPf.written ext fd = [] := by
  unfold ClientPf.written
  rw [List.flatMap_eq_nil_iff]
  intro s hs
  cases s with
  | write f b e bl =>
    have : (f == fd) = false := by simpa [sysFd] using h _ hs rfl
    simp [this]
  | accept _ => rfl
  | close _ => rfl
  | read _ _ => rfl

theorem written_other (ss ext : List Sys) (fd fd0 : Nat) (h : ∀ s ∈ ext, sysFd s = some fd0) (hne : fd ≠ fd0) :
    ClientPf.written (ss ++ ext) fd = ClientPf.written ss fd := by
  have hnil := written_eq_nil ext fd fun s hs _ => by rw [h s hs]; simpa using fun e => hne e.symm
  rw [ClientPf.written_append, hnil, List.append_nil]

/-- one turn of the client loop logs system calls on the served client's descriptor only, and changes the write capacity
    of that descriptor only -/
theorem cliStep_sys (envs : List FdEnv) (w : W) (c0 : Cli) :
    ∃ ext, (ClientPf.cliStep envs w c0).sys = w.sys ++ ext ∧ (∀ s ∈ ext, sysFd s = some c0.fd) ∧
      ∀ fd, fd ≠ c0.fd → capOf (ClientPf.cliStep envs w c0) fd = capOf w fd := by
  rcases cliStep_does envs w c0 with ⟨_, e⟩ | ⟨_, ext, t⟩
  · exact ⟨[], by rw [e]; simp, by simp, fun _ _ => by rw [e]⟩
  · exact ⟨ext, t.sys, t.sysfd, t.caps⟩

/-- **frame of the client loop**: the turns of clients other than `x` (other id, other descriptor) leave `x`'s record, the
    bytes written to `x`'s descriptor and the capacity of `x`'s descriptor exactly as they are -/
theorem foldl_cliStep_frame (envs : List FdEnv) (x : Cli) (l : List Cli) (w : W) (hid : ∀ c ∈ l, c.id ≠ x.id)
    (hfd : ∀ c ∈ l, c.fd ≠ x.fd) :
    cliRec (l.foldl (ClientPf.cliStep envs) w) x.id = cliRec w x.id ∧
    ClientPf.written (l.foldl (ClientPf.cliStep envs) w).sys x.fd = ClientPf.written w.sys x.fd ∧
    capOf (l.foldl (ClientPf.cliStep envs) w) x.fd = capOf w x.fd := by
  refine List.foldlRecOn (motive := fun u => cliRec u x.id = cliRec w x.id ∧ ClientPf.written u.sys x.fd = ClientPf.written w.sys x.fd ∧
    capOf u x.fd = capOf w x.fd) l _ ⟨rfl, rfl, rfl⟩ fun u ⟨i1, i2, i3⟩ c hc => ?_
  obtain ⟨ext, s1, s2, s3⟩ := cliStep_sys envs u c
  refine ⟨(cliStep_other envs u c x.id fun e => hid c hc e.symm).trans i1, ?_, (s3 x.fd fun e => hfd c hc e.symm).trans i3⟩
  rw [s1, ← i2]
  exact written_other u.sys ext x.fd c.fd s2 fun e => hfd c hc e.symm

/-- in the loop of `cli_post_poll` a client's record is read and written in its own turn only: the turns before it leave
    it as it is (so the record the loop serves is the one in the table), the turns after it leave what its own turn made
    of it -/
theorem foldl_cliStep_split (envs : List FdEnv) (x : Cli) (pre post : List Cli) (w : W)
    (hpre : ∀ c ∈ pre, c.id ≠ x.id) (hpost : ∀ c ∈ post, c.id ≠ x.id) :
    cliRec (pre.foldl (ClientPf.cliStep envs) w) x.id = cliRec w x.id ∧
    cliRec ((pre ++ x :: post).foldl (ClientPf.cliStep envs) w) x.id =
      cliRec (ClientPf.cliStep envs (pre.foldl (ClientPf.cliStep envs) w) x) x.id := by
  refine ⟨foldl_cliStep_other envs x.id pre w hpre, ?_⟩
  rw [List.foldl_append, List.foldl_cons]
  exact foldl_cliStep_other envs x.id post _ hpost

/-- the turn of a client for which the pass brings nothing is the identity (`cliStep_quiet`), so the loop of `cli_post_poll` runs
    exactly as if that client's turn were skipped: a client that has stopped reading and is silent costs the other sessions
    nothing in the client phase -/
theorem foldl_cliStep_skip (envs : List FdEnv) (s : Cli) (pre post : List Cli) (w : W) (h : IdsFresh w)
    (hl : ∀ c ∈ pre, c.id < w.nextId) (hs : s ∈ w.clients) (hpre : ∀ c ∈ pre, c.id ≠ s.id) (hq : QuietCli envs s) :
    (pre ++ s :: post).foldl (ClientPf.cliStep envs) w = (pre ++ post).foldl (ClientPf.cliStep envs) w := by
  rw [List.foldl_append, List.foldl_append, List.foldl_cons]
  have hmem : s ∈ (pre.foldl (ClientPf.cliStep envs) w).clients :=
    List.foldlRecOn (motive := fun u : W => s ∈ u.clients) pre _ hs fun u hu c hc => cliStep_keeps_mem envs u c s hu fun e => hpre c hc e.symm
  rw [cliStep_quiet envs _ s hmem hq (foldl_cliStep_ids envs pre w h hl).unique]

/-- `_handle_write` on a non-blocking descriptor that takes nothing (the model's `cap = 0`: the `write` fails with EAGAIN and
    `cbuf_read_to_fd` returns -1): an empty write is logged and the client is marked as gone; nothing else happens -/
theorem handleWrite_stuck (w : W) (c : Cli) (hcap : capOf w c.fd = 0) (hq : c.quit = false) (hb : c.blocking = false)
    (hne : c.toBuf ≠ []) :
    handleWrite w c = ({ w with sys := w.sys ++ [Sys.write c.fd [] false false] }, { c with quit := true }) := by
  unfold handleWrite
  have he : c.toBuf.isEmpty = false := by simpa using hne
  simp [hq, hb, he, hcap]

/-- a client whose descriptor is not reported writable in this pass, and which survives the pass without having quit:
    nothing was written to its descriptor and its output buffer only grew -/
theorem clientPass_unwritable (w : W) (c : Cli) (e : Option FdEnv) (c' : Cli) (hrev : ClientPf.cpRev c e &&& 2 = 0)
    (h : (clientPass w c e).2 = some c') (hq : c'.quit = false) :
    (∃ b, c'.toBuf = c.toBuf ++ b) ∧ ClientPf.written (clientPass w c e).1.sys c.fd = ClientPf.written w.sys c.fd := by
  obtain ⟨ext, hp, hw⟩ := clientPass_iso w c e
  have hno : ∀ s ∈ ext, isWrite s = false := by
    intro s hs
    cases hws : isWrite s with
    | false => rfl
    | true => have := hw hrev c' h ⟨s, hs, hws⟩; rw [hq] at this; cases this
  obtain ⟨_, _, _, _, hbuf⟩ := hp.alive c' h
  constructor
  · rcases hbuf with hb | ⟨s, hs, hws⟩
    · exact hb
    · rw [hno s hs] at hws; cases hws
  · have hnil := written_eq_nil ext c.fd fun s hs hws => by rw [hno s hs] at hws; cases hws
    rw [hp.sys, ClientPf.written_append, hnil, List.append_nil]

/-- `_handle_write` for a client that has quit: the descriptor is made blocking and the *whole* buffer is handed to one
    `write`, whatever the capacity `cap ≥ 0` of the descriptor; that the daemon then sleeps in `write` (finding F23) is
    visible in the model only as the `blocks` flag of the logged call -/
theorem handleWrite_quit (w : W) (c : Cli) (hq : c.quit = true) (hne : c.toBuf ≠ []) (hcap : ¬ capOf w c.fd < 0) :
    handleWrite w c =
      (setCap { w with sys := w.sys ++ [Sys.write c.fd c.toBuf false (decide (capOf w c.fd < (c.toBuf.length : Int)))] } c.fd
         (if capOf w c.fd < (c.toBuf.length : Int) then 0 else capOf w c.fd - (c.toBuf.length : Int)),
       { c with blocking := true, toBuf := [] }) := by
  unfold handleWrite
  have he : c.toBuf.isEmpty = false := by simpa using hne
  simp [hq, he, hcap]

/-! ## example worlds for the non-vacuity examples of `Props/C11`

One device `A` with one plug (`1` ↦ node `a1`) and a `status` script (`send "st %s\n"`, `expect`, `setplugstate $1 $2`).  Two
clients connect and both ask `status a1` — the same node, at the same time. -/
namespace Two
open Pm.Dev2 (Stmt Plug Arg RxCall)

def nodeA : Bytes := [97, 49]
def plugA : Plug := { name := [49], node := some nodeA }
def statScript : List Stmt := [.send [115, 116, 32, 37, 115, 10], .expect 1, .setplugstate none 1 2 [(.on, 2), (.off, 3)]]
def scripts : Nat → Option (List Stmt) := fun k => if k == 2 then some statScript else none
def devA : Dev :=
  { plugs := [plugA], scripts := scripts, timeout := 5000000, acts := [], toBuf := [], fromBuf := [], xmStr := none, xmOffs := [],
    xmResult := false, xmUsed := false, args := [], nextUid := 1, shortCircuitDelay := false, conn := 2, loggedIn := true,
    fd := some 2000, statConnects := 1 }
/-- the daemon after start-up: no client, an empty queue -/
def w0 : W :=
  { cfg := { plugs := [], has := [], nodes := pushHost [] ['a', '1'], version := [50] }, clients := [],
    devs := [([65], devA)], nsock := 1 }
def line : Bytes := bstr "status a1\n"
/-- pass 1: a connection is accepted (client 1, descriptor 1000) -/
def p1 : PassIn := { now := 1000, acc := 1, con := [0], soe := [0], envs := [] }
/-- pass 2: a second connection is accepted (client 2, descriptor 1001); client 1 sends `status a1` -/
def p2 : PassIn := { now := 2000, acc := 1, con := [0], soe := [0], envs := [{ fd := 1000, rev := 1, rk := 0, data := line, cap := 100 }] }
/-- pass 3: client 2 sends `status a1` too; the device takes the bytes of client 1's action -/
def p3 : PassIn :=
  { now := 3000, acc := 0, con := [0], soe := [0],
    envs := [{ fd := 1001, rev := 1, rk := 0, data := line, cap := 100 }, { fd := 2000, rev := 2, rk := 0, data := [], cap := 100 }] }
/-- both requests in flight: the queue of `A` holds client 1's action (arglist 1) and client 2's (arglist 2) -/
def w3 : W := runPasses w0 [p1, p2, p3]
/-- the regex answers for the device's reply `1 on\n` -/
def xs4 : List RxCall :=
  [{ pat := 1, subject := bstr "1 on\n", answer := some [(0, 5), (0, 1), (2, 4)] }, { pat := 2, subject := bstr "on", answer := some [(0, 2)] }]
/-- pass 4: the device answers client 1's action -/
def p4 : PassIn := { now := 4000, acc := 0, con := [0], soe := [0], envs := [{ fd := 2000, rev := 1, rk := 0, data := bstr "1 on\n", cap := 100 }] }
def w3x : W := { w3 with pendingX := xs4 }
def w4 : W := (daemonPass w3x p4).1
/-- instead of pass 4: client 1's descriptor reports an error -/
def pErr : PassIn := { now := 3500, acc := 0, con := [0], soe := [0], envs := [{ fd := 1000, rev := 8, rk := 0, data := [], cap := 0 }] }
def w3d : W := (daemonPass w3 pErr).1
def w4d : W := (daemonPass { w3d with pendingX := xs4 } p4).1

theorem iso0 : Iso w0 := iso_init w0 rfl (by intro nd hnd; simp [w0] at hnd; subst hnd; rfl) (by decide)
theorem iso3 : Iso w3 := runPasses_iso w0 _ iso0

/-- the state reached: two clients, each with a `status` command on the one node `a1`, pending on one action each; the
    queue of `A` holds the two actions, stamped (1, arglist 1) and (2, arglist 2) -/
theorem reached : ids w3 = [1, 2] ∧ w3.clients.map (·.fd) = [1000, 1001] ∧
    w3.clients.map (fun c => c.cmd.map fun k => k.names) = [some [['a', '1']], some [['a', '1']]] ∧
    w3.clients.map (fun c => c.cmd.map fun k => (comIdx k.com, k.al, k.pending)) = [some (2, 1, 1), some (2, 2, 1)] ∧
    w3.devs.map (fun nd => nd.2.acts.map fun a => (a.clientId, a.arglist)) = [[(1, 1), (2, 2)]] ∧
    w3.nextId = 3 ∧ w3.alNext = 3 := by decide +kernel

end Two

end Pm.Daemon.Isolation
