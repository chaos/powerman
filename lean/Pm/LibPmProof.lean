import Pm.ScanfProof
/-! Helper lemmas for property C16 (client library `libpowerman.c` and the CLI's reply loop), over `Pm/LibPmModel.lean`. -/
namespace Pm.LibPmModel

/-! ### the kernel `readK` -/

deriving instance DecidableEq for Chunk

theorem readK_some {cs : List Chunk} {space : Nat} {bs : Bytes} {cs' : List Chunk} (h : readK cs space = (some (some bs), cs')) :
    ∃ b r, cs = .data b :: r ∧ b ≠ [] ∧
      ((b.length ≤ space ∧ bs = b ∧ cs' = r) ∨ (space < b.length ∧ bs = b.take space ∧ cs' = .data (b.drop space) :: r)) := by
  unfold readK at h
  split at h
  · simp at h
  · simp at h
  · simp at h
  · rename_i b r
    by_cases hb : b.isEmpty
    · simp [hb] at h
    · have hne : b ≠ [] := by simpa using hb
      by_cases hl : b.length ≤ space
      · simp [hb, hl] at h
        exact ⟨b, r, rfl, hne, .inl ⟨hl, h.1.symm, h.2.symm⟩⟩
      · simp [hb, hl] at h
        exact ⟨b, r, rfl, hne, .inr ⟨by omega, h.1.symm, h.2.symm⟩⟩

theorem readK_bounds (cs : List Chunk) (space : Nat) (bs : Bytes) (cs' : List Chunk) (hs : 0 < space)
    (h : readK cs space = (some (some bs), cs')) : 0 < bs.length ∧ bs.length ≤ space := by
  obtain ⟨b, r, rfl, hne, ⟨hl, rfl, rfl⟩ | ⟨hl, rfl, rfl⟩⟩ := readK_some h
  · exact ⟨List.length_pos_iff.mpr hne, hl⟩
  · rw [List.length_take]; omega

theorem readK_measure (cs : List Chunk) (space : Nat) (bs : Bytes) (cs' : List Chunk) (hs : 0 < space)
    (h : readK cs space = (some (some bs), cs')) : chunkBytes cs' < chunkBytes cs := by
  obtain ⟨b, r, rfl, hne, ⟨hl, rfl, rfl⟩ | ⟨hl, rfl, rfl⟩⟩ := readK_some h
  · simp only [chunkBytes]; omega
  · simp only [chunkBytes, List.length_drop]; omega

theorem readK_le (cs : List Chunk) (space : Nat) : chunkBytes (readK cs space).2 ≤ chunkBytes cs := by
  unfold readK
  split
  · simp
  · simp [chunkBytes]
  · simp [chunkBytes]
  · rename_i b r
    by_cases hb : b.isEmpty
    · simp [hb, chunkBytes] <;> omega
    · by_cases hl : b.length ≤ space
      · simp [hb, hl, chunkBytes] <;> omega
      · simp [hb, hl, chunkBytes, List.length_drop] <;> omega

/-! ### `_strncmpend` (guarded) -/

theorem prompt_length : prompt.length = 10 := rfl

theorem endsWith_short (b : Bytes) (h : b.length < 10) : endsWith b prompt = false := by
  unfold endsWith
  simp [prompt_length]
  intro h'; omega

theorem endsWith_iff (b s : Bytes) : endsWith b s = true ↔ ∃ p, b = p ++ s := by
  unfold endsWith
  simp only [ge_iff_le, Bool.and_eq_true, decide_eq_true_eq, beq_iff_eq]
  constructor
  · rintro ⟨hl, hd⟩
    refine ⟨b.take (b.length - s.length), ?_⟩
    conv => lhs; rw [← List.take_append_drop (b.length - s.length) b]
    rw [hd]
  · rintro ⟨p, rfl⟩
    simp

/-! ### segmentations of a byte string -/

/-- the bytes carried by the data chunks of a script -/
def bytesOf : List Chunk → Bytes
  | [] => []
  | .data b :: r => b ++ bytesOf r
  | _ :: r => bytesOf r

/-- `Seg cs s t`: the script `cs` is a sequence of non-empty data chunks carrying the bytes `s`, followed by the script `t` -/
inductive Seg : List Chunk → Bytes → List Chunk → Prop
  | nil (t : List Chunk) : Seg t [] t
  | cons (b : Bytes) (hb : b ≠ []) {cs : List Chunk} {s : Bytes} {t : List Chunk} : Seg cs s t → Seg (.data b :: cs) (b ++ s) t

theorem Seg_of_map (ds : List Bytes) (t : List Chunk) (h : ∀ d ∈ ds, d ≠ []) : Seg (ds.map .data ++ t) ds.flatten t := by
  induction ds with
  | nil => exact .nil t
  | cons d ds ih =>
    simp only [List.map_cons, List.cons_append, List.flatten_cons]
    exact .cons d (h d (by simp)) (ih (fun x hx => h x (by simp [hx])))

/-- a segmentation of `s`: non-empty pieces whose concatenation is `s` -/
def Segmentation (ds : List Bytes) (s : Bytes) : Prop := (∀ d ∈ ds, d ≠ []) ∧ ds.flatten = s

theorem Seg_of_segmentation (ds : List Bytes) (s : Bytes) (t : List Chunk) (h : Segmentation ds s) : Seg (ds.map .data ++ t) s t := by
  rw [← h.2]; exact Seg_of_map ds t h.1

instance (ds : List Bytes) (s : Bytes) : Decidable (Segmentation ds s) := by unfold Segmentation; infer_instance

theorem Seg_nil_inv {cs t : List Chunk} (h : Seg cs [] t) : cs = t := by
  generalize hs : ([] : Bytes) = s at h
  cases h with
  | nil => rfl
  | cons b hb h' => simp at hs; exact absurd hs.1 hb

theorem Seg_length {cs : List Chunk} {s : Bytes} {t : List Chunk} (h : Seg cs s t) : s.length + chunkBytes t ≤ chunkBytes cs := by
  induction h with
  | nil t => simp
  | cons b hb h' ih => simp [chunkBytes]; omega

theorem readK_seg {cs : List Chunk} {s : Bytes} {t : List Chunk} (h : Seg cs s t) (hs : s ≠ []) (space : Nat) (hsp : 0 < space) :
    ∃ bs s' cs', readK cs space = (some (some bs), cs') ∧ bs ≠ [] ∧ bs.length ≤ space ∧ s = bs ++ s' ∧ Seg cs' s' t := by
  cases h with
  | nil => exact absurd rfl hs
  | @cons b hb r s0 _ h' =>
    have hbe : b.isEmpty = false := by simpa using hb
    by_cases hl : b.length ≤ space
    · exact ⟨b, s0, r, by simp [readK, hbe, hl], hb, hl, rfl, h'⟩
    · refine ⟨b.take space, b.drop space ++ s0, .data (b.drop space) :: r, by simp [readK, hbe, hl], ?_, ?_, ?_, ?_⟩
      · intro h0
        have := congrArg List.length h0
        rw [List.length_take, List.length_nil] at this; omega
      · rw [List.length_take]; omega
      · rw [← List.append_assoc, List.take_append_drop]
      · refine .cons _ ?_ h'
        intro h0
        have := congrArg List.length h0
        rw [List.length_drop, List.length_nil] at this; omega

theorem readK_bytesOf (cs : List Chunk) (space : Nat) (bs : Bytes) (cs' : List Chunk)
    (h : readK cs space = (some (some bs), cs')) : bytesOf cs = bs ++ bytesOf cs' := by
  obtain ⟨b, r, rfl, _, ⟨_, rfl, rfl⟩ | ⟨_, rfl, rfl⟩⟩ := readK_some h
  · rfl
  · simp only [bytesOf]
    rw [← List.append_assoc, List.take_append_drop]

/-! ### `_server_recv_response`: the read loop -/

/-- the buffer size the loop reads with (`buflen` after the optional `xrealloc`) -/
def growLen (buf : Bytes) (buflen : Nat) : Nat := if buflen - buf.length == 0 then buflen + LINEMAX else buflen

theorem growLen_space (buf : Bytes) (buflen : Nat) (h : buf.length ≤ buflen) :
    0 < growLen buf buflen - buf.length ∧ buf.length ≤ growLen buf buflen := by
  unfold growLen LINEMAX
  split <;> simp_all <;> omega

theorem recvLoop_succ (fuel : Nat) (buf : Bytes) (buflen : Nat) (cs : List Chunk) :
    recvLoop (fuel + 1) buf buflen cs =
      match readK cs (growLen buf buflen - buf.length) with
      | (none, cs') => (.error 7, cs')
      | (some none, cs') => (.error 1, cs')
      | (some (some bs), cs') =>
        if endsWith (buf ++ bs) prompt then (.ok (buf ++ bs), cs')
        else recvLoop fuel (buf ++ bs) (growLen buf buflen) cs' := by
  rw [recvLoop]; rfl

/-- the invariant `count ≤ buflen` is kept by every iteration: what is appended fits in the space left -/
theorem recv_step_bounds (buf : Bytes) (buflen : Nat) (cs : List Chunk) (h : buf.length ≤ buflen)
    (bs : Bytes) (cs' : List Chunk) (hr : readK cs (growLen buf buflen - buf.length) = (some (some bs), cs')) :
    0 < bs.length ∧ (buf ++ bs).length ≤ growLen buf buflen := by
  have hg := growLen_space buf buflen h
  have hb := readK_bounds cs _ bs cs' hg.1 hr
  refine ⟨hb.1, ?_⟩
  simp; omega

theorem recvLoop_fuel (f1 f2 : Nat) (buf : Bytes) (buflen : Nat) (cs : List Chunk) (h : buf.length ≤ buflen)
    (h1 : chunkBytes cs < f1) (h2 : chunkBytes cs < f2) : recvLoop f1 buf buflen cs = recvLoop f2 buf buflen cs := by
  induction f1 generalizing f2 buf buflen cs with
  | zero => omega
  | succ f1 ih =>
    obtain ⟨f2, rfl⟩ : ∃ k, f2 = k + 1 := ⟨f2 - 1, by omega⟩
    rw [recvLoop_succ, recvLoop_succ]
    generalize hr : readK cs (growLen buf buflen - buf.length) = r
    obtain ⟨x, cs'⟩ := r
    rcases x with _ | _ | bs
    · rfl
    · rfl
    · have hm := readK_measure cs _ bs cs' (growLen_space buf buflen h).1 hr
      have hb := recv_step_bounds buf buflen cs h bs cs' hr
      simp only
      split
      · rfl
      · exact ih f2 _ _ _ hb.2 (by omega) (by omega)

/-- the loop without fuel -/
def recv (buf : Bytes) (buflen : Nat) (cs : List Chunk) : Except Nat Bytes × List Chunk :=
  recvLoop (chunkBytes cs + 1) buf buflen cs

theorem recvLoop_eq_recv (fuel : Nat) (buf : Bytes) (buflen : Nat) (cs : List Chunk) (h : buf.length ≤ buflen)
    (hf : chunkBytes cs < fuel) : recvLoop fuel buf buflen cs = recv buf buflen cs :=
  recvLoop_fuel _ _ _ _ _ h hf (by omega)

theorem recv_step (buf : Bytes) (buflen : Nat) (cs : List Chunk) (h : buf.length ≤ buflen) :
    recv buf buflen cs =
      match readK cs (growLen buf buflen - buf.length) with
      | (none, cs') => (.error 7, cs')
      | (some none, cs') => (.error 1, cs')
      | (some (some bs), cs') =>
        if endsWith (buf ++ bs) prompt then (.ok (buf ++ bs), cs')
        else recv (buf ++ bs) (growLen buf buflen) cs' := by
  unfold recv
  rw [recvLoop_succ]
  generalize hr : readK cs (growLen buf buflen - buf.length) = r
  obtain ⟨x, cs'⟩ := r
  rcases x with _ | _ | bs
  · rfl
  · rfl
  · have hm := readK_measure cs _ bs cs' (growLen_space buf buflen h).1 hr
    have hb := recv_step_bounds buf buflen cs h bs cs' hr
    simp only
    split
    · rfl
    · exact recvLoop_fuel _ _ _ _ _ hb.2 (by omega) (by omega)

theorem recvResponse_loop (cs : List Chunk) : recvLoop (recvFuel cs) [] 0 cs = recv [] 0 cs := rfl

theorem recvLoop_error_codes (fuel : Nat) (buf : Bytes) (buflen : Nat) (cs : List Chunk) (e : Nat) (cs' : List Chunk)
    (h : recvLoop fuel buf buflen cs = (.error e, cs')) : e = 7 ∨ e = 1 := by
  induction fuel generalizing buf buflen cs with
  | zero => simp [recvLoop] at h
  | succ fuel ih =>
    rw [recvLoop_succ] at h
    generalize readK cs (growLen buf buflen - buf.length) = r at h
    obtain ⟨x, cs1⟩ := r
    rcases x with _ | _ | bs
    · simp at h; omega
    · simp at h; omega
    · simp only at h
      split at h
      · simp at h
      · exact ih _ _ _ h

/-- the read loop on a script that begins with a segmentation of `s`, when the accumulated bytes end with the prompt at no byte
    position strictly inside `s`: it reads exactly `s`, stops there if the buffer then ends with the prompt, and otherwise goes on
    with what follows -/
theorem recv_seg (n : Nat) : ∀ (buf : Bytes) (buflen : Nat) (cs : List Chunk) (s : Bytes) (t : List Chunk), s.length ≤ n →
    Seg cs s t → s ≠ [] → buf.length ≤ buflen →
    (∀ q r, s = q ++ r → q ≠ [] → r ≠ [] → endsWith (buf ++ q) prompt = false) →
    (endsWith (buf ++ s) prompt = true ∧ recv buf buflen cs = (.ok (buf ++ s), t)) ∨
    (endsWith (buf ++ s) prompt = false ∧ ∃ buflen', (buf ++ s).length ≤ buflen' ∧ recv buf buflen cs = recv (buf ++ s) buflen' t) := by
  induction n with
  | zero =>
    intro buf buflen cs s t hn _ hs
    exact absurd (List.eq_nil_of_length_eq_zero (by omega)) hs
  | succ n ih =>
    intro buf buflen cs s t hn hseg hs hb hq
    have hg := growLen_space buf buflen hb
    obtain ⟨bs, s', cs', hr, hbs, hbl, rfl, hseg'⟩ := readK_seg hseg hs _ hg.1
    have hb' : (buf ++ bs).length ≤ growLen buf buflen := by simp; omega
    rw [recv_step buf buflen cs hb, hr]
    simp only
    by_cases hs' : s' = []
    · subst hs'
      have := Seg_nil_inv hseg'
      subst this
      simp only [List.append_nil]
      by_cases he : endsWith (buf ++ bs) prompt = true
      · exact .inl ⟨he, by simp [he]⟩
      · exact .inr ⟨by simpa using he, growLen buf buflen, hb', by simp [he]⟩
    · have he : endsWith (buf ++ bs) prompt = false := hq bs s' rfl hbs hs'
      simp only [he, Bool.false_eq_true, ↓reduceIte]
      have hlen : s'.length ≤ n := by
        have : 0 < bs.length := List.length_pos_iff.mpr hbs
        simp at hn; omega
      have := ih (buf ++ bs) (growLen buf buflen) cs' s' t hlen hseg' hs' hb' (by
        intro q r hqr hq0 hr0
        rw [List.append_assoc]
        exact hq (bs ++ q) r (by rw [hqr, List.append_assoc]) (by simp [hq0]) hr0)
      simpa [List.append_assoc] using this

/-- the decidable form of "the prompt ends no proper non-empty prefix" -/
def promptInside (buf s : Bytes) : Bool :=
  (List.range s.length).any fun k => 0 < k && endsWith (buf ++ s.take k) prompt

theorem promptInside_false (buf s : Bytes) (h : promptInside buf s = false) :
    ∀ q r, s = q ++ r → q ≠ [] → r ≠ [] → endsWith (buf ++ q) prompt = false := by
  intro q r hs hq hr
  unfold promptInside at h
  rw [← Bool.not_eq_true, List.any_eq_true] at h
  by_cases he : endsWith (buf ++ q) prompt = true
  · exfalso; apply h
    refine ⟨q.length, ?_, ?_⟩
    · have : 0 < r.length := List.length_pos_iff.mpr hr
      simp [hs]; omega
    · have : 0 < q.length := List.length_pos_iff.mpr hq
      simp [hs, he, this]
  · simpa using he

theorem recv_seg_noprompt {cs : List Chunk} {s : Bytes} {t : List Chunk} (hseg : Seg cs s t)
    (hq : ∀ q r, s = q ++ r → q ≠ [] → endsWith q prompt = false) :
    ∃ buflen', s.length ≤ buflen' ∧ recv [] 0 cs = recv s buflen' t := by
  by_cases hs : s = []
  · subst hs
    have := Seg_nil_inv hseg; subst this
    exact ⟨0, by simp, rfl⟩
  · rcases recv_seg s.length [] 0 cs s t (Nat.le_refl _) hseg hs (by simp) (fun q r h1 h2 _ => by simpa using hq q r h1 h2) with h | h
    · have := hq s [] (by simp) hs
      simp [this] at h
    · obtain ⟨_, b, hb, he⟩ := h
      exact ⟨b, by simpa using hb, by simpa using he⟩

/-! ### segmentation independence of the read loop -/

theorem recv_split (cs : List Chunk) (s : Bytes) (t : List Chunk) (hseg : Seg cs s t)
    (hend : endsWith s prompt = true)
    (hq : ∀ q r, s = q ++ r → q ≠ [] → r ≠ [] → endsWith q prompt = false) :
    recvLoop (recvFuel cs) [] 0 cs = (.ok s, t) := by
  have hs : s ≠ [] := by
    intro h; subst h; simp [endsWith, prompt] at hend
  rcases recv_seg s.length [] 0 cs s t (Nat.le_refl _) hseg hs (by simp) (by simpa using hq) with h | h
  · rw [recvResponse_loop]; simpa using h.2
  · simp [hend] at h

theorem recvLoop_ok_sound (fuel : Nat) (buf : Bytes) (buflen : Nat) (cs : List Chunk) (b : Bytes) (cs' : List Chunk)
    (hb : buf.length ≤ buflen) (hf : chunkBytes cs < fuel) (h : recvLoop fuel buf buflen cs = (.ok b, cs')) :
    endsWith b prompt = true ∧ buf ++ bytesOf cs = b ++ bytesOf cs' := by
  induction fuel generalizing buf buflen cs with
  | zero => omega
  | succ fuel ih =>
    rw [recvLoop_succ] at h
    generalize hr : readK cs (growLen buf buflen - buf.length) = r at h
    obtain ⟨x, cs1⟩ := r
    rcases x with _ | _ | bs
    · simp at h
    · simp at h
    · have hm := readK_measure cs _ bs cs1 (growLen_space buf buflen hb).1 hr
      have hbd := recv_step_bounds buf buflen cs hb bs cs1 hr
      have hby := readK_bytesOf cs _ bs cs1 hr
      simp only at h
      split at h
      · rename_i he
        simp only [Prod.mk.injEq, Except.ok.injEq] at h
        obtain ⟨rfl, rfl⟩ := h
        exact ⟨he, by rw [hby, List.append_assoc]⟩
      · have := ih (buf ++ bs) (growLen buf buflen) cs1 hbd.2 (by omega) h
        exact ⟨this.1, by rw [hby, ← List.append_assoc]; exact this.2⟩

theorem prompt_no_border : ∀ k < 10, 0 < k → prompt.take k ≠ prompt.drop (10 - k) := by decide

theorem prompt_not_inside (body : Bytes) (h : ¬ prompt <:+: body) :
    ∀ q r, body ++ prompt = q ++ r → q ≠ [] → r ≠ [] → endsWith q prompt = false := by
  intro q r hs _ hr
  rw [← Bool.not_eq_true, endsWith_iff]
  rintro ⟨p, rfl⟩
  apply h
  rcases List.append_eq_append_iff.mp hs with ⟨a', h1, h2⟩ | ⟨c', h1, _⟩
  · -- the cut falls inside the final prompt: `p ++ prompt = body ++ a'` and `prompt = a' ++ r`.  With `a'` empty the first
    -- equation shows the prompt at the end of `body`; otherwise `a'` is a proper prefix of the prompt (second equation) and a
    -- suffix of it (first equation, by lengths), and the prompt has no such border (`prompt_no_border`)
    by_cases ha : a' = []
    · subst ha
      simp only [List.append_nil] at h1
      exact ⟨p, [], by simp [h1]⟩
    · exfalso
      have hk1 : 0 < a'.length := List.length_pos_iff.mpr ha
      have hr1 : 0 < r.length := List.length_pos_iff.mpr hr
      have hlen : a'.length + r.length = 10 := by
        have := congrArg List.length h2
        simp [prompt] at this; omega
      have ht : prompt.take a'.length = a' := by rw [h2]; simp
      have hl2 : p.length + 10 = body.length + a'.length := by
        have := congrArg List.length h1
        simp [prompt] at this; omega
      have hd : prompt.drop (10 - a'.length) = a' := by
        have e1 : (p ++ prompt).drop (p.length + (10 - a'.length)) = prompt.drop (10 - a'.length) := by
          rw [List.drop_append, List.drop_of_length_le (by omega)]
          simp
        have e2 : (body ++ a').drop (p.length + (10 - a'.length)) = a' := by
          have : p.length + (10 - a'.length) = body.length := by omega
          rw [this, List.drop_left]
        rw [← e1, h1, e2]
      exact prompt_no_border a'.length (by omega) hk1 (by rw [ht, hd])
  · exact ⟨p, c', by rw [h1]⟩

/-! ### the read loop with its memory accesses logged -/

/-- one `read` of the loop: `count` bytes were in the buffer, `n` bytes were stored at `buf + count`, the buffer had `buflen` bytes -/
structure Access where
  count : Nat
  n : Nat
  buflen : Nat

/-- `recvLoop`, logging every `read` into the buffer -/
def recvLoopT : Nat → Bytes → Nat → List Chunk → (Except Nat Bytes × List Chunk) × List Access
  | 0, buf, _, cs => ((.ok buf, cs), [])
  | fuel + 1, buf, buflen, cs =>
    match readK cs (growLen buf buflen - buf.length) with
    | (none, cs') => ((.error 7, cs'), [])
    | (some none, cs') => ((.error 1, cs'), [])
    | (some (some bs), cs') =>
      let a : Access := ⟨buf.length, bs.length, growLen buf buflen⟩
      if endsWith (buf ++ bs) prompt then ((.ok (buf ++ bs), cs'), [a])
      else let r := recvLoopT fuel (buf ++ bs) (growLen buf buflen) cs'; (r.1, a :: r.2)

theorem recvLoopT_fst (fuel : Nat) (buf : Bytes) (buflen : Nat) (cs : List Chunk) :
    (recvLoopT fuel buf buflen cs).1 = recvLoop fuel buf buflen cs := by
  induction fuel generalizing buf buflen cs with
  | zero => rfl
  | succ fuel ih =>
    rw [recvLoopT, recvLoop_succ]
    generalize readK cs (growLen buf buflen - buf.length) = r
    obtain ⟨x, cs'⟩ := r
    rcases x with _ | _ | bs
    · rfl
    · rfl
    · simp only
      split
      · rfl
      · exact ih _ _ _

theorem recvLoopT_safe (fuel : Nat) (buf : Bytes) (buflen : Nat) (cs : List Chunk) (h : buf.length ≤ buflen) :
    ∀ a ∈ (recvLoopT fuel buf buflen cs).2, 0 < a.n ∧ a.count + a.n ≤ a.buflen := by
  induction fuel generalizing buf buflen cs with
  | zero => simp [recvLoopT]
  | succ fuel ih =>
    rw [recvLoopT]
    generalize hr : readK cs (growLen buf buflen - buf.length) = r
    obtain ⟨x, cs'⟩ := r
    rcases x with _ | _ | bs
    · simp
    · simp
    · have hb := recv_step_bounds buf buflen cs h bs cs' hr
      have hb2 : buf.length + bs.length ≤ growLen buf buflen := by simpa using hb.2
      simp only
      split
      · intro a ha
        simp only [List.mem_cons, List.not_mem_nil, or_false] at ha
        subst ha
        exact ⟨hb.1, hb2⟩
      · intro a ha
        simp only [List.mem_cons] at ha
        rcases ha with rfl | ha
        · exact ⟨hb.1, hb2⟩
        · exact ih _ _ _ hb.2 a ha

theorem recvLoopT_first (fuel : Nat) (buf : Bytes) (buflen : Nat) (cs : List Chunk) (hb : buf.length ≤ buflen)
    (hf : chunkBytes cs < fuel) (b : Bytes) (cs' : List Chunk) (h : (recvLoopT fuel buf buflen cs).1 = (.ok b, cs')) :
    ∃ pre last, (recvLoopT fuel buf buflen cs).2 = pre ++ [last] ∧
      b = (buf ++ bytesOf cs).take (last.count + last.n) ∧ endsWith b prompt = true ∧
      ∀ a ∈ pre, endsWith ((buf ++ bytesOf cs).take (a.count + a.n)) prompt = false := by
  induction fuel generalizing buf buflen cs with
  | zero => omega
  | succ fuel ih =>
    rw [recvLoopT] at h ⊢
    generalize hr : readK cs (growLen buf buflen - buf.length) = r at h ⊢
    obtain ⟨x, cs1⟩ := r
    rcases x with _ | _ | bs
    · simp at h
    · simp at h
    · have hm := readK_measure cs _ bs cs1 (growLen_space buf buflen hb).1 hr
      have hbd := recv_step_bounds buf buflen cs hb bs cs1 hr
      have hby := readK_bytesOf cs _ bs cs1 hr
      have htake : (buf ++ bytesOf cs).take (buf.length + bs.length) = buf ++ bs := by
        rw [hby, ← List.append_assoc]
        have : buf.length + bs.length = (buf ++ bs).length := by simp
        rw [this, List.take_left]
      simp only at h ⊢
      split
      · rename_i he
        rw [if_pos he] at h
        simp only [Prod.mk.injEq, Except.ok.injEq] at h
        obtain ⟨rfl, _⟩ := h
        exact ⟨[], _, rfl, htake.symm, he, by simp⟩
      · rename_i he
        rw [if_neg he] at h
        obtain ⟨pre, last, h1, h2, h3, h4⟩ := ih (buf ++ bs) (growLen buf buflen) cs1 hbd.2 (by omega) h
        have heq : buf ++ bs ++ bytesOf cs1 = buf ++ bytesOf cs := by rw [hby, List.append_assoc]
        rw [heq] at h2 h4
        refine ⟨⟨buf.length, bs.length, growLen buf buflen⟩ :: pre, last, by simp only [h1, List.cons_append], h2, h3, ?_⟩
        intro a ha
        rcases List.mem_cons.mp ha with rfl | ha
        · simp only [htake]; simpa using he
        · exact h4 a ha

/-! ### `_parse_response` -/

theorem parseResponse_go_zero (buf : Bytes) (len i p : Nat) (acc : List Bytes) : parseResponse.go buf len 0 i p acc = acc := by
  rw [parseResponse.go]

theorem parseResponse_go_succ (buf : Bytes) (len fuel i p : Nat) (acc : List Bytes) :
    parseResponse.go buf len (fuel + 1) i p acc =
      if i < len - 2 then
        if buf[i]? == some 13 && buf[i+1]? == some 10 then
          parseResponse.go buf len fuel (i + 1) (i + 2) (acc ++ [(buf.drop p).take (i + 2 - p)])
        else parseResponse.go buf len fuel (i + 1) p acc
      else acc := by
  rw [parseResponse.go]

/-- the scan at index `i`, with the fuel the loop has left there -/
def scanAt (buf : Bytes) (i p : Nat) (acc : List Bytes) : List Bytes :=
  parseResponse.go buf buf.length (buf.length + 1 - i) i p acc

theorem parseResponse_eq (buf : Bytes) : parseResponse buf = scanAt buf 0 0 [] := rfl

theorem scanAt_stop (buf : Bytes) (i p : Nat) (acc : List Bytes) (h : buf.length - 2 ≤ i) : scanAt buf i p acc = acc := by
  unfold scanAt
  cases hf : buf.length + 1 - i with
  | zero => rw [parseResponse_go_zero]
  | succ f => rw [parseResponse_go_succ, if_neg (by omega)]

theorem scanAt_step (buf : Bytes) (i p : Nat) (acc : List Bytes) (h : i < buf.length - 2) :
    scanAt buf i p acc =
      if buf[i]? == some 13 && buf[i+1]? == some 10 then scanAt buf (i + 1) (i + 2) (acc ++ [(buf.drop p).take (i + 2 - p)])
      else scanAt buf (i + 1) p acc := by
  unfold scanAt
  have : buf.length + 1 - i = (buf.length + 1 - (i + 1)) + 1 := by omega
  rw [this, parseResponse_go_succ, if_pos h]

def hasCRLF : Bytes → Bool
  | a :: b :: r => (a == 13 && b == 10) || hasCRLF (b :: r)
  | _ => false

theorem hasCRLF_index (b : Bytes) (h : hasCRLF b = false) (k : Nat) : ¬ (b[k]? = some 13 ∧ b[k+1]? = some 10) := by
  induction b generalizing k with
  | nil => simp
  | cons a r ih =>
    cases r with
    | nil => cases k <;> simp
    | cons c r =>
      simp only [hasCRLF, Bool.or_eq_false_iff, Bool.and_eq_false_iff] at h
      cases k with
      | zero =>
        simp only [List.getElem?_cons_zero, Option.some.injEq, Nat.zero_add, List.getElem?_cons_succ]
        rintro ⟨rfl, rfl⟩
        simp at h
      | succ k =>
        simp only [List.getElem?_cons_succ]
        exact ih h.2 k

theorem scanAt_skip (buf : Bytes) (d : Nat) : ∀ (i j p : Nat) (acc : List Bytes), j = i + d → j ≤ buf.length - 2 →
    (∀ k, i ≤ k → k < j → ¬ (buf[k]? = some 13 ∧ buf[k+1]? = some 10)) → scanAt buf i p acc = scanAt buf j p acc := by
  induction d with
  | zero => intro i j p acc hj _ _; simp at hj; rw [hj]
  | succ d ih =>
    intro i j p acc hj hle hc
    rw [scanAt_step buf i p acc (by omega)]
    have := hc i (Nat.le_refl _) (by omega)
    have hb : (buf[i]? == some 13 && buf[i+1]? == some 10) = false := by
      rw [← Bool.not_eq_true]; simpa using this
    rw [hb]
    simp only [Bool.false_eq_true, ↓reduceIte]
    exact ih (i + 1) j p acc (by omega) hle (fun k h1 h2 => hc k (by omega) h2)

theorem idx_mid (pre m suf : Bytes) (k : Nat) (hk : k < m.length) : (pre ++ (m ++ suf))[pre.length + k]? = m[k]? := by
  rw [List.getElem?_append_right (by omega)]
  simp [List.getElem?_append_left hk]

theorem noCRLF_mid (pre m suf : Bytes) (hm : hasCRLF m = false) (k : Nat) (h1 : pre.length ≤ k) (h2 : k + 1 < pre.length + m.length) :
    ¬ ((pre ++ (m ++ suf))[k]? = some 13 ∧ (pre ++ (m ++ suf))[k+1]? = some 10) := by
  obtain ⟨e, rfl⟩ : ∃ e, k = pre.length + e := ⟨k - pre.length, by omega⟩
  rw [idx_mid _ _ _ _ (by omega), Nat.add_assoc, idx_mid _ _ _ _ (by omega)]
  exact hasCRLF_index _ hm e

theorem scanAt_line (buf pre x post : Bytes) (acc : List Bytes) (hbuf : buf = pre ++ (x ++ [13, 10] ++ post)) (hpost : post ≠ [])
    (hx : hasCRLF (x ++ [13]) = false) :
    scanAt buf pre.length pre.length acc = scanAt buf (pre.length + x.length + 2) (pre.length + x.length + 2) (acc ++ [x ++ [13, 10]]) := by
  have hpl : 0 < post.length := List.length_pos_iff.mpr hpost
  have hlen : buf.length = pre.length + x.length + 2 + post.length := by
    rw [hbuf]; simp only [List.length_append, List.length_cons, List.length_nil]; omega
  have hbuf' : buf = pre ++ ((x ++ [13]) ++ (10 :: post)) := by
    rw [hbuf]; simp only [List.append_assoc, List.cons_append, List.nil_append]
  rw [scanAt_skip buf x.length pre.length (pre.length + x.length) pre.length acc rfl (by omega) (by
    intro k h1 h2
    rw [hbuf']
    exact noCRLF_mid pre (x ++ [13]) (10 :: post) hx k h1 (by simp; omega))]
  have h13 : buf[pre.length + x.length]? = some 13 := by
    rw [hbuf, idx_mid _ _ _ _ (by simp)]; simp
  have h10 : buf[pre.length + x.length + 1]? = some 10 := by
    rw [hbuf, Nat.add_assoc, idx_mid _ _ _ _ (by simp)]; simp
  rw [scanAt_step buf _ _ _ (by omega), h13, h10]
  simp only [beq_self_eq_true, Bool.and_self, ↓reduceIte]
  have hslice : (buf.drop pre.length).take (pre.length + x.length + 2 - pre.length) = x ++ [13, 10] := by
    rw [hbuf, List.drop_left]
    have : pre.length + x.length + 2 - pre.length = (x ++ [13, 10]).length := by simp; omega
    rw [this, List.take_left]
  rw [hslice]
  by_cases h1 : pre.length + x.length + 1 < buf.length - 2
  · rw [scanAt_step buf _ _ _ h1, h10]
    simp
  · rw [scanAt_stop buf _ _ _ (by omega), scanAt_stop buf _ _ _ (by omega)]

theorem scanAt_tail (buf pre post : Bytes) (acc : List Bytes) (hbuf : buf = pre ++ post) (hx : hasCRLF post = false) :
    scanAt buf pre.length pre.length acc = acc := by
  by_cases h : buf.length - 2 ≤ pre.length
  · exact scanAt_stop _ _ _ _ h
  · rw [scanAt_skip buf (buf.length - 2 - pre.length) pre.length (buf.length - 2) pre.length acc (by omega) (Nat.le_refl _) (by
      intro k h1 h2
      have hlen : buf.length = pre.length + post.length := by rw [hbuf, List.length_append]
      have := noCRLF_mid pre post [] hx k h1 (by omega)
      rw [List.append_nil] at this
      rw [hbuf]; exact this)]
    exact scanAt_stop _ _ _ _ (Nat.le_refl _)

/-- a line of the reply: bytes `x` that hold no CRLF, also not with the CR that follows (that adds nothing: `isLine_iff`),
    then CRLF -/
def IsLine (l : Bytes) : Prop := ∃ x, l = x ++ [13, 10] ∧ hasCRLF (x ++ [13]) = false

theorem hasCRLF_append_cr (x : Bytes) : hasCRLF (x ++ [13]) = hasCRLF x := by
  induction x with
  | nil => rfl
  | cons a x ih =>
    cases x with
    | nil => simp [hasCRLF]
    | cons b r =>
      simp only [List.cons_append, hasCRLF] at ih ⊢
      rw [ih]

theorem isLine_iff (l : Bytes) : IsLine l ↔ ∃ x, l = x ++ crlf ∧ hasCRLF x = false := by
  unfold IsLine
  simp only [hasCRLF_append_cr, crlf]

theorem hasCRLF_cons (a : UInt8) (r : Bytes) (h : a ≠ 13) : hasCRLF (a :: r) = hasCRLF r := by
  cases r with
  | nil => rfl
  | cons b r => simp [hasCRLF, h]

theorem hasCRLF_append_crlf (p r : Bytes) : hasCRLF (p ++ 13 :: 10 :: r) = true := by
  induction p with
  | nil => simp [hasCRLF]
  | cons a p ih =>
    cases hp : p ++ 13 :: 10 :: r with
    | nil => simp at hp
    | cons b r' =>
      rw [hp] at ih
      simp [hasCRLF, hp, ih]

theorem hasCRLF_no13 (w : Bytes) (h : ∀ b ∈ w, b ≠ 13) : hasCRLF (w ++ [13]) = false := by
  induction w with
  | nil => rfl
  | cons a w ih =>
    rw [List.cons_append, hasCRLF_cons _ _ (h a (by simp))]
    exact ih (fun b hb => h b (by simp [hb]))

theorem line_prefix_noCRLF (x q r : Bytes) (hx : hasCRLF (x ++ [13]) = false) (h : x ++ [13, 10] = q ++ r) (hr : r ≠ []) :
    endsWith q crlf = false := by
  rw [← Bool.not_eq_true, endsWith_iff]
  rintro ⟨p, rfl⟩
  have h1 : (x ++ [13, 10]).dropLast = x ++ [13] := by
    have : x ++ [13, 10] = (x ++ [13]) ++ [10] := by simp
    rw [this, List.dropLast_concat]
  have h2 : (p ++ crlf ++ r).dropLast = p ++ crlf ++ r.dropLast := List.dropLast_append_of_ne_nil hr
  rw [h, h2] at h1
  have := hasCRLF_append_crlf p r.dropLast
  rw [← h1] at hx
  simp [crlf] at hx
  rw [hx] at this
  exact absurd this (by simp)

theorem scanAt_lines (buf post : Bytes) (hpost : post ≠ []) (hx : hasCRLF post = false) (ls : List Bytes) :
    ∀ (pre : Bytes) (acc : List Bytes), buf = pre ++ (ls.flatten ++ post) → (∀ l ∈ ls, IsLine l) →
      scanAt buf pre.length pre.length acc = acc ++ ls := by
  induction ls with
  | nil =>
    intro pre acc hbuf _
    simp only [List.flatten_nil, List.nil_append] at hbuf
    rw [scanAt_tail buf pre post acc hbuf hx]; simp
  | cons l ls ih =>
    intro pre acc hbuf hl
    obtain ⟨x, rfl, hxl⟩ := hl l (by simp)
    rw [scanAt_line buf pre x (ls.flatten ++ post) acc (by simp [hbuf]) (by simp [hpost]) hxl]
    have := ih (pre ++ (x ++ [13, 10])) (acc ++ [x ++ [13, 10]]) (by simp [hbuf]) (fun l h => hl l (by simp [h]))
    simp only [List.length_append, List.length_cons, List.length_nil, Nat.zero_add, Nat.reduceAdd] at this
    rw [← Nat.add_assoc] at this
    rw [this]; simp

theorem prompt_noCRLF : hasCRLF prompt = false := by decide

theorem parseResponse_lines (ls : List Bytes) (hl : ∀ l ∈ ls, IsLine l) : parseResponse (ls.flatten ++ prompt) = ls := by
  rw [parseResponse_eq]
  have := scanAt_lines (ls.flatten ++ prompt) prompt (by decide) prompt_noCRLF ls [] [] (by simp) hl
  simpa using this

/-! ### `sscanf("%d")` and `strtol` on a reply line -/

theorem scanInt_digits (ds : Bytes) (rest : Bytes) (hd : ∀ d ∈ ds, isDigit d = true) (hne : ds ≠ [])
    (hr : ∀ x r, rest = x :: r → isDigit x = false) (hv : digitsVal ds < 2147483648) :
    scanInt (ds ++ rest) = some (digitsVal ds : Int) := by
  have htw := takeWhile_digits ds rest hd hr
  obtain ⟨a, ds', rfl⟩ := List.exists_cons_of_ne_nil hne
  obtain ⟨hsp, h45, h43⟩ := digit_plain a (hd a (by simp))
  unfold scanInt
  simp only [List.cons_append, List.dropWhile_cons, hsp, Bool.false_eq_true, ↓reduceIte]
  split
  · rename_i r h; simp at h; exact absurd h.1 h45
  · rename_i r h; simp at h; exact absurd h.1 h43
  · rw [← List.cons_append]
    simp only [htw]
    simp only [List.isEmpty_cons, Bool.false_eq_true, ↓reduceIte]
    have : ¬ ((digitsVal (a :: ds') : Int) > 9223372036854775807) := by omega
    simp only [this, ↓reduceIte]
    rw [toInt32_small _ hv]

theorem strtolCli_digits (ds : Bytes) (rest : Bytes) (hd : ∀ d ∈ ds, isDigit d = true) (hne : ds ≠ [])
    (hr : ∀ x r, rest = x :: r → isDigit x = false) (hv : digitsVal ds < 2147483648) :
    strtolCli (ds ++ rest) = (digitsVal ds : Int) := by
  have htw := takeWhile_digits ds rest hd hr
  obtain ⟨a, ds', rfl⟩ := List.exists_cons_of_ne_nil hne
  obtain ⟨hsp, h45, h43⟩ := digit_plain a (hd a (by simp))
  unfold strtolCli
  simp only [List.cons_append, List.dropWhile_cons, hsp, Bool.false_eq_true, ↓reduceIte]
  split
  · rename_i r h; simp at h; exact absurd h.1 h45
  · rename_i r h; simp at h; exact absurd h.1 h43
  · rw [← List.cons_append]
    simp only [htw]
    have : ¬ ((digitsVal (a :: ds') : Int) ≥ 9223372036854775807) := by omega
    simp only [this, Bool.false_eq_true, ↓reduceIte]

/-- the three decimal digits of a reply code -/
def digits3 (n : Nat) : Bytes := [UInt8.ofNat (48 + n / 100), UInt8.ofNat (48 + n / 10 % 10), UInt8.ofNat (48 + n % 10)]

theorem digit_toNat (d : Nat) (h : d < 10) : (UInt8.ofNat (48 + d)).toNat = 48 + d := by
  rw [UInt8.toNat_ofNat']; omega

theorem digitsVal_three (a b c : Nat) (ha : a < 10) (hb : b < 10) (hc : c < 10) :
    digitsVal [UInt8.ofNat (48 + a), UInt8.ofNat (48 + b), UInt8.ofNat (48 + c)] = 100 * a + 10 * b + c := by
  simp only [digitsVal, List.foldl_cons, List.foldl_nil, digit_toNat, ha, hb, hc]
  omega

theorem digits3_val (n : Nat) (h : n < 1000) : digitsVal (digits3 n) = n := by
  rw [digits3, digitsVal_three _ _ _ (by omega) (by omega) (by omega)]
  omega

theorem digits3_digits (n : Nat) (h : n < 1000) : ∀ d ∈ digits3 n, isDigit d = true := by
  intro d hd
  simp only [digits3, List.mem_cons, List.not_mem_nil, or_false] at hd
  rw [isDigit_iff]
  rcases hd with rfl | rfl | rfl <;> rw [digit_toNat _ (by omega)] <;> omega

theorem cstr_digits3 (n : Nat) (h : n < 1000) (text : Bytes) : cstr (digits3 n ++ 32 :: text) = digits3 n ++ 32 :: cstr text := by
  rw [cstr_append_of_nonul _ _ (fun x hx => digit_ne_zero x (digits3_digits n h x hx))]
  congr 1

theorem scanInt_line (n : Nat) (h : n < 1000) (text : Bytes) : scanInt (cstr (digits3 n ++ 32 :: text)) = some (n : Int) := by
  rw [cstr_digits3 n h, scanInt_digits _ _ (digits3_digits n h) (by simp [digits3]) (by
    intro x r hx; simp at hx; rw [← hx.1]; rfl) (by rw [digits3_val n h]; omega), digits3_val n h]

theorem strtolCli_line (n : Nat) (h : n < 1000) (text : Bytes) : strtolCli (cstr (digits3 n ++ 32 :: text)) = (n : Int) := by
  rw [cstr_digits3 n h, strtolCli_digits _ _ (digits3_digits n h) (by simp [digits3]) (by
    intro x r hx; simp at hx; rw [← hx.1]; rfl) (by rw [digits3_val n h]; omega), digits3_val n h]

/-! ### `_server_retcode` -/

/-- what one line contributes to the verdict -/
def verdict (l : Bytes) : Option Nat :=
  match scanInt (cstr l) with
  | some c => if successCodes.contains c then some 0 else if failureCodes.contains c then some c.toNat else none
  | none => none

theorem retcode_nil : retcode [] = 8 := rfl

theorem retcode_cons (l : Bytes) (ls : List Bytes) : retcode (l :: ls) = (verdict l).getD (retcode ls) := by
  unfold retcode verdict
  rw [List.reverse_cons, List.foldl_append, List.foldl_cons, List.foldl_nil]
  cases scanInt (cstr l) with
  | none => rfl
  | some c =>
    simp only
    split
    · rfl
    · split <;> rfl

theorem retcode_none (ls : List Bytes) (h : ∀ l ∈ ls, verdict l = none) : retcode ls = 8 := by
  induction ls with
  | nil => rfl
  | cons l ls ih =>
    rw [retcode_cons, h l (by simp), Option.getD_none]
    exact ih (fun x hx => h x (by simp [hx]))

theorem retcode_first (pre post : List Bytes) (l : Bytes) (r : Nat) (hpre : ∀ x ∈ pre, verdict x = none)
    (hl : verdict l = some r) : retcode (pre ++ l :: post) = r := by
  induction pre with
  | nil => simp [retcode_cons, hl]
  | cons p pre ih =>
    rw [List.cons_append, retcode_cons, hpre p (by simp), Option.getD_none]
    exact ih (fun x hx => hpre x (by simp [hx]))

theorem verdict_none_iff (l : Bytes) :
    verdict l = none ↔ ∀ d, scanInt (cstr l) = some d → d ∉ successCodes ∧ d ∉ failureCodes := by
  unfold verdict
  cases scanInt (cstr l) with
  | none => simp
  | some c =>
    simp only [Option.some.injEq, forall_eq']
    by_cases h1 : c ∈ successCodes
    · simp [h1]
    · by_cases h2 : c ∈ failureCodes
      · simp [h1, h2]
      · simp [h1, h2]

theorem failure_pos (c : Int) (h : c ∈ failureCodes) : 0 < c := by
  simp only [failureCodes, List.mem_cons, List.not_mem_nil, or_false] at h
  omega

theorem verdict_of_scan (l : Bytes) (c : Int) (h : scanInt (cstr l) = some c) (hc : c ∈ successCodes ∨ c ∈ failureCodes) :
    verdict l = some (if c ∈ successCodes then 0 else c.toNat) := by
  unfold verdict
  rw [h]
  by_cases h1 : c ∈ successCodes
  · simp [h1]
  · simp [h1, hc.resolve_left h1]

/-- the first line with a 1xx/2xx number `c` decides: 0 for a success code, else `c` itself (a failure code is positive) -/
theorem retcode_of_scan (pre post : List Bytes) (l : Bytes) (c : Int) (hl : scanInt (cstr l) = some c)
    (hc : c ∈ successCodes ∨ c ∈ failureCodes) (hpre : ∀ x ∈ pre, verdict x = none) :
    (retcode (pre ++ l :: post) = 0 ↔ c ∈ successCodes) ∧ (c ∉ successCodes → (retcode (pre ++ l :: post) : Int) = c) := by
  rw [retcode_first pre post l _ hpre (verdict_of_scan l c hl hc)]
  by_cases hs : c ∈ successCodes
  · simp [hs]
  · have := failure_pos c (hc.resolve_left hs)
    simp only [hs, ↓reduceIte, iff_false, not_false_eq_true, forall_const]
    omega

theorem verdict_zero (l : Bytes) (h : verdict l = some 0) : ∃ c ∈ successCodes, scanInt (cstr l) = some c := by
  unfold verdict at h
  cases hs : scanInt (cstr l) with
  | none => simp [hs] at h
  | some c =>
    rw [hs] at h
    simp only at h
    by_cases h1 : c ∈ successCodes
    · exact ⟨c, h1, rfl⟩
    · by_cases h2 : c ∈ failureCodes
      · have := failure_pos c h2
        simp [h1, h2] at h
        omega
      · simp [h1, h2] at h

theorem retcode_zero (ls : List Bytes) (h : retcode ls = 0) : ∃ l ∈ ls, ∃ c ∈ successCodes, scanInt (cstr l) = some c := by
  induction ls with
  | nil => simp [retcode_nil] at h
  | cons l ls ih =>
    rw [retcode_cons] at h
    cases hv : verdict l with
    | none =>
      rw [hv, Option.getD_none] at h
      obtain ⟨x, hx, hc⟩ := ih h
      exact ⟨x, by simp [hx], hc⟩
    | some r =>
      rw [hv, Option.getD_some] at h
      subst h
      exact ⟨l, by simp, verdict_zero l hv⟩

/-! ### reply lines as the server sends them -/

/-- a reply line `NNN␠text\r\n` -/
structure RLine where
  code : Nat
  text : Bytes

def RLine.bytes (l : RLine) : Bytes := digits3 l.code ++ 32 :: l.text ++ crlf

/-- three digits, a non-empty text without NUL and without CRLF (nor a final CR) -/
def RLine.ok (l : RLine) : Prop := l.code < 1000 ∧ l.text ≠ [] ∧ (∀ b ∈ l.text, b ≠ 0) ∧ hasCRLF (l.text ++ [13]) = false

instance (l : RLine) : Decidable l.ok := by unfold RLine.ok; infer_instance

/-- what `_process_line` prints for the line: on stdout, on stderr -/
def RLine.out (l : RLine) : Bytes := if l.code = 103 ∨ l.code = 104 ∨ l.code = 105 ∨ l.code = 309 then [] else l.text ++ [10]

def RLine.err (l : RLine) : Bytes := if l.code = 309 then l.text ++ [10] else []

theorem digits3_ne13 (n : Nat) (h : n < 1000) : ∀ d ∈ digits3 n, d ≠ 13 := by
  intro d hd h13
  have := digits3_digits n h d hd
  subst h13
  simp [isDigit] at this

theorem RLine.noCRLF (l : RLine) (h : l.ok) : hasCRLF ((digits3 l.code ++ 32 :: l.text) ++ [13]) = false := by
  have hd := digits3_ne13 l.code h.1
  simp only [digits3, List.mem_cons, List.not_mem_nil, or_false, forall_eq_or_imp, forall_eq] at hd
  simp only [digits3, List.cons_append, List.nil_append]
  rw [hasCRLF_cons _ _ hd.1, hasCRLF_cons _ _ hd.2.1, hasCRLF_cons _ _ hd.2.2, hasCRLF_cons _ _ (by decide)]
  obtain ⟨-, -, -, hcr⟩ := h
  exact hcr

theorem RLine.bytes_length (l : RLine) : l.bytes.length = l.text.length + 6 := by
  simp [RLine.bytes, digits3, crlf]

theorem RLine.isLine (l : RLine) (h : l.ok) : IsLine l.bytes :=
  ⟨digits3 l.code ++ 32 :: l.text, by simp [RLine.bytes, crlf], l.noCRLF h⟩

theorem RLine.verdict (l : RLine) (h : l.ok) (hc : (l.code : Int) ∈ successCodes) : verdict l.bytes = some 0 := by
  have : l.bytes = digits3 l.code ++ 32 :: (l.text ++ crlf) := by simp [RLine.bytes]
  rw [verdict_of_scan _ _ (by rw [this]; exact scanInt_line l.code h.1 _) (.inl hc)]
  simp [hc]

/-- a word for `%s`: non-empty, no white space, no NUL -/
def IsWord (w : Bytes) : Prop := w ≠ [] ∧ ∀ b ∈ w, isSpace b = false ∧ b ≠ 0

instance (w : Bytes) : Decidable (IsWord w) := by unfold IsWord; infer_instance

/-- `%s` after a literal that ends in a blank: the blank is skipped, the word is read up to the next white space -/
theorem scanWord (w rest : Bytes) (hw : IsWord w) (hr : ∀ x r, rest = x :: r → isSpace x = true) :
    ((32 :: (w ++ rest)).dropWhile isSpace).takeWhile (fun b => !isSpace b) = w := by
  obtain ⟨a, w', rfl⟩ := List.exists_cons_of_ne_nil hw.1
  have ha := (hw.2 a (by simp)).1
  have h32 : isSpace 32 = true := by decide
  simp only [List.cons_append, List.dropWhile_cons, h32, ↓reduceIte, ha, Bool.false_eq_true]
  rw [← List.cons_append, List.takeWhile_append_of_pos (by intro x hx; simp [(hw.2 x hx).1])]
  cases rest with
  | nil => simp
  | cons x r => simp [hr x r rfl]

theorem cstr_lit_word (p w t : Bytes) (hp : ∀ b ∈ p, b ≠ 0) (hw : IsWord w) (ht : ∀ b ∈ t, b ≠ 0) :
    cstr (p ++ w ++ t) = p ++ w ++ t := by
  apply cstr_of_nonul
  intro x hx
  simp only [List.mem_append] at hx
  rcases hx with (h | h) | h
  · exact hp x h
  · exact (hw.2 x h).2
  · exact ht x h

theorem lit_word_noCRLF (p w : Bytes) (hp : ∀ b ∈ p, b ≠ 13) (hw : IsWord w) : hasCRLF ((p ++ w) ++ [13]) = false := by
  apply hasCRLF_no13
  intro b hb h13
  subst h13
  rcases List.mem_append.mp hb with h | h
  · exact hp _ h rfl
  · have := (hw.2 _ h).1
    revert this; decide

/-- a conforming node line -/
def nodeLine (w : Bytes) : Bytes := str "307 " ++ w ++ crlf

theorem str_307 : str "307 " = [51, 48, 55, 32] := by decide +kernel

theorem nodeLine_isLine (w : Bytes) (hw : IsWord w) : IsLine (nodeLine w) :=
  ⟨str "307 " ++ w, by simp [nodeLine, crlf], lit_word_noCRLF _ w (by rw [str_307]; decide) hw⟩

theorem nodeLine_eq (w : Bytes) : nodeLine w = digits3 307 ++ 32 :: (w ++ crlf) := by
  have : digits3 307 = [51, 48, 55] := by decide
  simp [nodeLine, str_307, this]

theorem verdict_nodeLine (w : Bytes) : verdict (nodeLine w) = none := by
  rw [verdict_none_iff, nodeLine_eq, scanInt_line 307 (by omega)]
  intro d hd
  simp only [Option.some.injEq] at hd
  subst hd
  decide

theorem scan307_nodeLine (w : Bytes) (hw : IsWord w) : scan307 (cstr (nodeLine w)) = some w := by
  unfold nodeLine
  rw [cstr_lit_word (str "307 ") w crlf (by rw [str_307]; decide) hw (by decide), str_307]
  have := scanWord w crlf hw (by intro x r h; cases h; decide)
  simp [scan307, this, hw.1]

/-- a line whose three digits are not `307` is no node line: the digits determine the code (`digits3_val`) -/
theorem scan307_other (l : RLine) (h : l.ok) (hc : l.code ≠ 307) : scan307 (cstr l.bytes) = none := by
  have : l.bytes = digits3 l.code ++ 32 :: (l.text ++ crlf) := by simp [RLine.bytes]
  rw [this, cstr_digits3 _ h.1]
  unfold scan307
  split
  · rename_i r heq
    have hd : digits3 l.code = [51, 48, 55] := by
      simp only [digits3, List.cons_append, List.nil_append, List.cons.injEq] at heq ⊢
      exact ⟨heq.1, heq.2.1, heq.2.2.1, trivial⟩
    have hv := digits3_val l.code h.1
    rw [hd] at hv
    exact absurd hv.symm hc
  · rfl

/-! ### `_server_recv_response` as a whole -/

/-- the buffer `_server_recv_response` hands to `_parse_response` (when the read loop succeeds) -/
def replyBuf (cs : List Chunk) : Option Bytes :=
  match recvLoop (recvFuel cs) [] 0 cs with
  | (.ok buf, _) => some buf
  | _ => none

/-- the lines of the reply, in stream order -/
def replyLines (cs : List Chunk) : List Bytes :=
  match replyBuf cs with
  | some buf => parseResponse buf
  | none => []

theorem recvResponse_ok (cs : List Chunk) (buf : Bytes) (cs' : List Chunk) (h : recvLoop (recvFuel cs) [] 0 cs = (.ok buf, cs')) :
    recvResponse cs = (retcode (parseResponse buf), (if retcode (parseResponse buf) == 0 then (parseResponse buf).reverse else []), cs') ∧
    replyLines cs = parseResponse buf := by
  unfold recvResponse replyLines replyBuf
  rw [h]
  exact ⟨rfl, rfl⟩

theorem recvResponse_error (cs : List Chunk) (e : Nat) (cs' : List Chunk) (h : recvLoop (recvFuel cs) [] 0 cs = (.error e, cs')) :
    recvResponse cs = (e, [], cs') := by
  unfold recvResponse
  rw [h]

/-- the two ways `_server_recv_response` ends: the read loop handed over a buffer, whose lines decide; or it failed with 7 or 1
    and no line is handed out -/
theorem recvResponse_cases (cs : List Chunk) :
    (∃ buf cs', recvLoop (recvFuel cs) [] 0 cs = (.ok buf, cs') ∧ replyLines cs = parseResponse buf ∧
      recvResponse cs =
        (retcode (parseResponse buf), (if retcode (parseResponse buf) == 0 then (parseResponse buf).reverse else []), cs')) ∨
    (∃ e cs', recvLoop (recvFuel cs) [] 0 cs = (.error e, cs') ∧ (e = 7 ∨ e = 1) ∧ recvResponse cs = (e, [], cs')) := by
  generalize hr : recvLoop (recvFuel cs) [] 0 cs = r
  obtain ⟨x, cs'⟩ := r
  cases x with
  | error e => exact .inr ⟨e, cs', rfl, recvLoop_error_codes _ _ _ _ _ _ hr, recvResponse_error cs e cs' hr⟩
  | ok buf => exact .inl ⟨buf, cs', rfl, (recvResponse_ok cs buf cs' hr).2, (recvResponse_ok cs buf cs' hr).1⟩

theorem recvResponse_zero (cs : List Chunk) (h : (recvResponse cs).1 = 0) :
    (recvResponse cs).2.1 = (replyLines cs).reverse ∧ retcode (replyLines cs) = 0 := by
  rcases recvResponse_cases cs with ⟨buf, cs', -, hl, hr⟩ | ⟨e, cs', -, he, hr⟩ <;> rw [hr] at h ⊢ <;> simp only at h
  · rw [hl]; simp [h]
  · omega

theorem recvResponse_success_only_if (cs : List Chunk) (h : (recvResponse cs).1 = 0) :
    ∃ l ∈ replyLines cs, ∃ c ∈ successCodes, scanInt (cstr l) = some c :=
  retcode_zero _ (recvResponse_zero cs h).2

theorem recvResponse_nonzero (cs : List Chunk) (h : (recvResponse cs).1 ≠ 0) : (recvResponse cs).2.1 = [] := by
  rcases recvResponse_cases cs with ⟨buf, cs', -, -, hr⟩ | ⟨e, cs', -, -, hr⟩ <;> rw [hr] at h ⊢
  simp only at h
  simp [h]

theorem recvResponse_conforming (cs t : List Chunk) (ls : List Bytes) (hseg : Seg cs (ls.flatten ++ prompt) t)
    (hl : ∀ l ∈ ls, IsLine l) (hp : ¬ prompt <:+: ls.flatten) :
    recvResponse cs = (retcode ls, (if retcode ls == 0 then ls.reverse else []), t) ∧ replyLines cs = ls := by
  have h := recv_split cs _ t hseg (by rw [endsWith_iff]; exact ⟨_, rfl⟩) (prompt_not_inside _ hp)
  have := recvResponse_ok cs _ t h
  rw [parseResponse_lines ls hl] at this
  exact this

theorem recvResponse_ends (cs : List Chunk) (s : Bytes) (t : List Chunk) (hseg : Seg cs s t)
    (hq : ∀ q r, s = q ++ r → q ≠ [] → endsWith q prompt = false) :
    (t = [] → recvResponse cs = (7, [], [])) ∧ (∀ r, t = .eof :: r → recvResponse cs = (7, [], r)) ∧
    (∀ r, t = .data [] :: r → recvResponse cs = (7, [], r)) ∧ (∀ r, t = .err :: r → recvResponse cs = (1, [], r)) := by
  obtain ⟨b, hb, he⟩ := recv_seg_noprompt hseg hq
  rw [← recvResponse_loop] at he
  refine ⟨?_, ?_, ?_, ?_⟩
  · rintro rfl
    exact recvResponse_error cs 7 [] (by rw [he, recv_step _ _ _ hb]; rfl)
  · rintro r rfl
    exact recvResponse_error cs 7 r (by rw [he, recv_step _ _ _ hb]; rfl)
  · rintro r rfl
    exact recvResponse_error cs 7 r (by rw [he, recv_step _ _ _ hb]; rfl)
  · rintro r rfl
    exact recvResponse_error cs 1 r (by rw [he, recv_step _ _ _ hb]; rfl)

/-! ### `pm_node_status` -/

def onLine (node : Bytes) : Bytes := str "303 " ++ cstr node ++ str ": on" ++ crlf

def offLine (node : Bytes) : Bytes := str "303 " ++ cstr node ++ str ": off" ++ crlf

theorem nodeStatus_eq (node : Bytes) (cs : List Chunk) :
    nodeStatus node cs =
      if (recvResponse cs).1 != 0 then ((recvResponse cs).1, none, (recvResponse cs).2.2) else
      (0, some (if (recvResponse cs).2.1.any (fun l => cstr l == offLine node) then 1
                else if (recvResponse cs).2.1.any (fun l => cstr l == onLine node) then 2 else 0), (recvResponse cs).2.2) := by
  unfold nodeStatus onLine offLine
  rfl

theorem nodeStatus_spec (node : Bytes) (cs : List Chunk) (h : (recvResponse cs).1 = 0) :
    nodeStatus node cs =
      (0, some (if ∃ l ∈ replyLines cs, cstr l = offLine node then 1
                else if ∃ l ∈ replyLines cs, cstr l = onLine node then 2 else 0), (recvResponse cs).2.2) := by
  rw [nodeStatus_eq, (recvResponse_zero cs h).1]
  simp only [h, bne_self_eq_false, Bool.false_eq_true, ↓reduceIte, List.any_reverse, List.any_eq_true, beq_iff_eq]

theorem nodeStatus_fail (node : Bytes) (cs : List Chunk) (h : (recvResponse cs).1 ≠ 0) :
    nodeStatus node cs = ((recvResponse cs).1, none, (recvResponse cs).2.2) := by
  rw [nodeStatus_eq]
  simp [h]

theorem nodeStatus_state (node : Bytes) (cs : List Chunk) (st : Nat) (cs' : List Chunk) (h : nodeStatus node cs = (0, some st, cs')) :
    (recvResponse cs).1 = 0 ∧
    st = (if ∃ l ∈ replyLines cs, cstr l = offLine node then 1 else if ∃ l ∈ replyLines cs, cstr l = onLine node then 2 else 0) := by
  by_cases h0 : (recvResponse cs).1 = 0
  · rw [nodeStatus_spec node cs h0] at h
    simp only [Prod.mk.injEq, Option.some.injEq, true_and] at h
    exact ⟨h0, h.1.symm⟩
  · rw [nodeStatus_fail node cs h0] at h
    simp at h

theorem nodeStatus_on (node : Bytes) (cs cs' : List Chunk) (h : nodeStatus node cs = (0, some 2, cs')) :
    (∃ l ∈ replyLines cs, cstr l = onLine node) ∧ ¬ ∃ l ∈ replyLines cs, cstr l = offLine node := by
  have := (nodeStatus_state node cs 2 cs' h).2
  split at this
  · omega
  · rename_i hoff
    split at this
    · rename_i hon; exact ⟨hon, hoff⟩
    · omega

theorem nodeStatus_off (node : Bytes) (cs cs' : List Chunk) (h : nodeStatus node cs = (0, some 1, cs')) :
    ∃ l ∈ replyLines cs, cstr l = offLine node := by
  have := (nodeStatus_state node cs 1 cs' h).2
  split at this
  · rename_i hoff; exact hoff
  · split at this <;> omega

theorem nodeStatus_conforming (node : Bytes) (cs t : List Chunk) (ls : List Bytes) (hseg : Seg cs (ls.flatten ++ prompt) t)
    (hl : ∀ l ∈ ls, IsLine l) (hp : ¬ prompt <:+: ls.flatten) (hrc : retcode ls = 0) :
    nodeStatus node cs =
      (0, some (if ∃ l ∈ ls, cstr l = offLine node then 1 else if ∃ l ∈ ls, cstr l = onLine node then 2 else 0), t) := by
  obtain ⟨h1, h2⟩ := recvResponse_conforming cs t ls hseg hl hp
  have h0 : (recvResponse cs).1 = 0 := by rw [h1]; exact hrc
  rw [nodeStatus_spec node cs h0, h2, h1]

/-! ### `pm_node_iterator_create` -/

theorem nodeList_eq (cs : List Chunk) :
    nodeList cs =
      if (recvResponse cs).1 != 0 then ((recvResponse cs).1, [], (recvResponse cs).2.2) else
      (0, ((recvResponse cs).2.1.filterMap fun l => scan307 (cstr l)).reverse, (recvResponse cs).2.2) := by
  unfold nodeList
  rfl

theorem nodeList_spec (cs : List Chunk) (h : (recvResponse cs).1 = 0) :
    nodeList cs = (0, (replyLines cs).filterMap (fun l => scan307 (cstr l)), (recvResponse cs).2.2) := by
  rw [nodeList_eq, (recvResponse_zero cs h).1]
  simp [h, List.filterMap_reverse]

theorem nodeList_fail (cs : List Chunk) (h : (recvResponse cs).1 ≠ 0) :
    nodeList cs = ((recvResponse cs).1, [], (recvResponse cs).2.2) := by
  rw [nodeList_eq]
  simp [h]

theorem nodeList_conforming (cs t : List Chunk) (ws : List Bytes) (tl : RLine)
    (hseg : Seg cs ((ws.map nodeLine ++ [tl.bytes]).flatten ++ prompt) t)
    (hw : ∀ w ∈ ws, IsWord w) (htl : tl.ok) (hc : (tl.code : Int) ∈ successCodes)
    (hp : ¬ prompt <:+: (ws.map nodeLine ++ [tl.bytes]).flatten) :
    nodeList cs = (0, ws, t) := by
  have hl : ∀ l ∈ ws.map nodeLine ++ [tl.bytes], IsLine l := by
    intro l hl
    simp only [List.mem_append, List.mem_map, List.mem_cons, List.not_mem_nil, or_false] at hl
    rcases hl with ⟨w, hw', rfl⟩ | rfl
    · exact nodeLine_isLine w (hw w hw')
    · exact tl.isLine htl
  obtain ⟨h1, h2⟩ := recvResponse_conforming cs t _ hseg hl hp
  have hrc : retcode (ws.map nodeLine ++ [tl.bytes]) = 0 :=
    retcode_first _ [] _ 0 (by
      intro x hx
      simp only [List.mem_map] at hx
      obtain ⟨w, _, rfl⟩ := hx
      exact verdict_nodeLine w) (tl.verdict htl hc)
  have h0 : (recvResponse cs).1 = 0 := by rw [h1]; exact hrc
  rw [nodeList_spec cs h0, h2, h1]
  simp only [Prod.mk.injEq, true_and, and_true]
  have hne : tl.code ≠ 307 := by
    intro h; rw [h] at hc; revert hc; decide
  rw [List.filterMap_append]
  simp only [List.filterMap_cons, scan307_other tl htl hne, List.filterMap_nil, List.append_nil]
  clear hseg hp hl h1 h2 hrc h0
  induction ws with
  | nil => rfl
  | cons w ws ih =>
    have hw1 := hw w (by simp)
    rw [List.map_cons, List.filterMap_cons, scan307_nodeLine w hw1]
    simp only [List.cons.injEq, true_and]
    exact ih (fun x hx => hw x (by simp [hx]))

/-! ### `pm_node_on/off/cycle` and `pm_connect` -/

theorem simpleCmd_eq (cs : List Chunk) : simpleCmd cs = ((recvResponse cs).1, (recvResponse cs).2.2) := rfl

theorem connect_eq (cs : List Chunk) :
    connect cs =
      if (recvResponse cs).1 != 0 then ((recvResponse cs).1, 1, (recvResponse cs).2.2)
      else if (recvResponse (recvResponse cs).2.2).1 != 0 then
        ((recvResponse (recvResponse cs).2.2).1, 1, (recvResponse (recvResponse cs).2.2).2.2)
      else (0, 0, (recvResponse (recvResponse cs).2.2).2.2) := by
  unfold connect; rfl

theorem connect_spec (cs : List Chunk) :
    ((connect cs).1 = 0 ↔ (recvResponse cs).1 = 0 ∧ (recvResponse (recvResponse cs).2.2).1 = 0) ∧
    (connect cs).2.1 = (if (connect cs).1 = 0 then 0 else 1) := by
  rw [connect_eq]
  by_cases h1 : (recvResponse cs).1 = 0
  · by_cases h2 : (recvResponse (recvResponse cs).2.2).1 = 0
    · simp [h1, h2]
    · simp [h1, h2]
  · simp [h1]

/-! ### the CLI: the run cut into its stages -/

theorem readStr_succ (fuel : Nat) (acc : Bytes) (cs : List Chunk) :
    readStr (fuel + 1) acc cs =
      match readK cs 1 with
      | (none, cs') => (.error "powerman: EOF on read\n", cs')
      | (some none, cs') => (.error "powerman: read: Connection reset by peer\n", cs')
      | (some (some bs), cs') =>
        if endsWith (acc ++ bs) crlf then (.ok ((acc ++ bs).take ((acc ++ bs).length - 2)), cs') else readStr fuel (acc ++ bs) cs' := by
  rw [readStr]; rfl

theorem expectLoop_succ (fuel : Nat) (acc : Bytes) (need : Nat) (cs : List Chunk) :
    expectLoop (fuel + 1) acc need cs =
      match readK cs need with
      | (none, cs') => (.error "powerman: lost connection with server\n", cs')
      | (some none, cs') => (.error "powerman: lost connection with server: Connection reset by peer\n", cs')
      | (some (some bs), cs') =>
        if need - bs.length == 0 then (.ok (acc ++ bs), cs') else expectLoop fuel (acc ++ bs) (need - bs.length) cs' := by
  rw [expectLoop]; rfl

theorem processResponse_succ (fuel : Nat) (c : Cli) :
    processResponse (fuel + 1) c =
      match processLine c with
      | (.error m, c) => (.error m, c)
      | (.ok num, c) =>
        if 100 ≤ num && num < 300 then (.ok (if 200 ≤ num then num else 0), c) else processResponse fuel c := by
  rw [processResponse]; rfl

/-- one exchange of `main`: the response, then the prompt -/
def exchange (fuel : Nat) (c : Cli) : Except String Int × Cli :=
  match processResponse fuel c with
  | (.error m, c) => (.error m, c)
  | (.ok res, c) =>
    match expect prompt c.cs with
    | (.error m, cs') => (.error m, { c with cs := cs' })
    | (.ok (), cs') => (.ok res, { c with cs := cs' })

theorem cliRun_run_zero (f : Cli → Except String Int × Cli) (c : Cli) : cliRun.run f 0 c = (.ok 0, c) := by
  rw [cliRun.run]

theorem cliRun_run_succ (f : Cli → Except String Int × Cli) (k : Nat) (c : Cli) :
    cliRun.run f (k + 1) c =
      match f c with
      | (.error m, c) => (.error m, c)
      | (.ok res, c) => if res != 0 then (.ok res, c) else cliRun.run f k c := by
  rw [cliRun.run]; rfl

/-- `_process_version`: the banner line, the version scan and the optional warning -/
def stageVersion (o : CliOpts) (fuel : Nat) (c : Cli) : Except String Unit × Cli :=
  match readStr fuel [] c.cs with
  | (.error m, cs') => (.error m, { c with cs := cs' })
  | (.ok raw, cs') =>
    let c := { c with cs := cs' }
    match scanVersion (cstr raw) with
    | none => (.error "powerman: unexpected response from server\n", c)
    | some v =>
      (.ok (), if v != o.version then { c with errs := c.errs ++ str "powerman: warning: server version (" ++ v ++ str ") != client (" ++ o.version ++ str ")\n" } else c)

/-- `_expect` on the CLI state -/
def expectC (s : Bytes) (c : Cli) : Except String Unit × Cli :=
  match expect s c.cs with
  | (.error m, cs') => (.error m, { c with cs := cs' })
  | (.ok (), cs') => (.ok (), { c with cs := cs' })

def exchanges (o : CliOpts) : Nat := (if o.telemetry then 1 else 0) + (if o.exprange then 1 else 0) + 1

/-- `cliRun` with the reason of a failure kept apart: `.error m` = the run printed `m` and called `exit(1)`,
    `.ok res` = it reached `exit(res)` -/
def cliCore (o : CliOpts) (cs : List Chunk) : Except String Int × Cli :=
  let fuel := chunkBytes cs + 2
  match stageVersion o fuel { cs := cs } with
  | (.error m, c) => (.error m, c)
  | (.ok (), c) =>
    match expectC prompt c with
    | (.error m, c) => (.error m, c)
    | (.ok (), c) =>
      match cliRun.run (exchange fuel) (exchanges o) c with
      | (.error m, c) => (.error m, c)
      | (.ok res, c) =>
        match expectC goodbye c with
        | (.error m, c) => (.error m, c)
        | (.ok (), _) => (.ok res, c)

def cliFinish : Except String Int × Cli → Int × Bytes × Bytes
  | (.error m, c) => (1, c.out, c.errs ++ str m)
  | (.ok res, c) => (res, c.out, c.errs)

theorem cliRun_eq (o : CliOpts) (cs : List Chunk) : cliRun o cs = cliFinish (cliCore o cs) := by
  -- both sides run the same four stages (banner, prompt, exchanges, goodbye) on the same script; `cliRun` turns a failure into
  -- its exit triple on the spot, `cliCore` hands the text on and `cliFinish` does it at the end: stage by stage, name the result
  -- of the stage and look at it
  unfold cliRun cliCore stageVersion expectC
  simp only
  generalize readStr (chunkBytes cs + 2) [] cs = r1
  obtain ⟨x1, cs1⟩ := r1
  cases x1 with
  | error m => rfl
  | ok raw =>
    simp only
    cases scanVersion (cstr raw) with
    | none => rfl
    | some v =>
      simp only
      generalize (if (v != o.version) = true then ({ cs := cs1, errs := [] ++ str "powerman: warning: server version (" ++ v ++ str ") != client (" ++ o.version ++ str ")\n" } : Cli) else { cs := cs1 }) = c0
      generalize expect prompt c0.cs = r2
      obtain ⟨x2, cs2⟩ := r2
      cases x2 with
      | error m => rfl
      | ok u =>
        simp only
        show (match cliRun.run (exchange (chunkBytes cs + 2)) (exchanges o) ({ cs := cs2, out := c0.out, errs := c0.errs } : Cli) with
          | (Except.error m, c) => ((1 : Int), c.out, c.errs ++ str m)
          | (Except.ok res, c) =>
            match expect goodbye c.cs with
            | (Except.error m, cs') => (1, c.out, c.errs ++ str m)
            | (Except.ok PUnit.unit, _) => (res, c.out, c.errs)) = _
        generalize cliRun.run (exchange (chunkBytes cs + 2)) (exchanges o) _ = r3
        obtain ⟨x3, c3⟩ := r3
        cases x3 with
        | error m => rfl
        | ok res =>
          simp only
          generalize expect goodbye c3.cs = r4
          obtain ⟨x4, cs4⟩ := r4
          cases x4 with
          | error m => rfl
          | ok u => rfl

/-! ### the CLI's loops never run out of fuel -/

theorem readStr_nofuel (fuel : Nat) (acc : Bytes) (cs : List Chunk) (h : chunkBytes cs < fuel) :
    (readStr fuel acc cs).1 ≠ .error "fuel" ∧ chunkBytes (readStr fuel acc cs).2 ≤ chunkBytes cs ∧
    (∀ x, (readStr fuel acc cs).1 = .ok x → chunkBytes (readStr fuel acc cs).2 < chunkBytes cs) := by
  induction fuel generalizing acc cs with
  | zero => omega
  | succ fuel ih =>
    rw [readStr_succ]
    have hle := readK_le cs 1
    generalize hr : readK cs 1 = r at hle
    obtain ⟨x, cs'⟩ := r
    rcases x with _ | _ | bs
    · exact ⟨by simp, hle, by simp⟩
    · exact ⟨by simp, hle, by simp⟩
    · have hm := readK_measure cs 1 bs cs' (by omega) hr
      simp only
      split
      · exact ⟨by simp, hle, fun _ _ => hm⟩
      · have := ih (acc ++ bs) cs' (by omega)
        exact ⟨this.1, by omega, fun x hx => by have := this.2.2 x hx; omega⟩

theorem expectLoop_nofuel (fuel : Nat) (acc : Bytes) (need : Nat) (cs : List Chunk) (h : need < fuel) :
    (expectLoop fuel acc need cs).1 ≠ .error "fuel" ∧ chunkBytes (expectLoop fuel acc need cs).2 ≤ chunkBytes cs := by
  induction fuel generalizing acc need cs with
  | zero => omega
  | succ fuel ih =>
    rw [expectLoop_succ]
    have hle := readK_le cs need
    generalize hr : readK cs need = r at hle
    obtain ⟨x, cs'⟩ := r
    rcases x with _ | _ | bs
    · exact ⟨by simp, hle⟩
    · exact ⟨by simp, hle⟩
    · simp only
      split
      · exact ⟨by simp, hle⟩
      · rename_i hne
        have hpos : 0 < need := by
          rcases Nat.eq_zero_or_pos need with h0 | h0
          · simp [h0] at hne
          · exact h0
        have hb := readK_bounds cs need bs cs' hpos hr
        have := ih (acc ++ bs) (need - bs.length) cs' (by omega)
        exact ⟨this.1, by simp only at hle; omega⟩

theorem expect_nofuel (s : Bytes) (cs : List Chunk) :
    (expect s cs).1 ≠ .error "fuel" ∧ chunkBytes (expect s cs).2 ≤ chunkBytes cs := by
  unfold expect
  have := expectLoop_nofuel (s.length + 1) [] s.length cs (by omega)
  generalize expectLoop (s.length + 1) [] s.length cs = r at this
  obtain ⟨x, cs'⟩ := r
  cases x with
  | error m => simpa using this
  | ok got =>
    simp only at this ⊢
    split
    · exact ⟨by simp, this.2⟩
    · exact ⟨by simp, this.2⟩

theorem processLine_nofuel (c : Cli) :
    (processLine c).1 ≠ .error "fuel" ∧ chunkBytes (processLine c).2.cs ≤ chunkBytes c.cs ∧
    (∀ x, (processLine c).1 = .ok x → chunkBytes (processLine c).2.cs < chunkBytes c.cs) := by
  unfold processLine
  have := readStr_nofuel (chunkBytes c.cs + 2) [] c.cs (by omega)
  generalize readStr (chunkBytes c.cs + 2) [] c.cs = r at this
  obtain ⟨x, cs'⟩ := r
  cases x with
  | error m => simpa using this
  | ok raw =>
    have h3 := this.2.2 raw rfl
    simp only at this h3 ⊢
    split
    · split
      · exact ⟨by simp, this.2.1, fun _ _ => h3⟩
      · split
        · exact ⟨by simp, this.2.1, fun _ _ => h3⟩
        · exact ⟨by simp, this.2.1, fun _ _ => h3⟩
    · exact ⟨by simp, this.2.1, by simp⟩

theorem processResponse_nofuel (fuel : Nat) (c : Cli) (h : chunkBytes c.cs < fuel) :
    (processResponse fuel c).1 ≠ .error "fuel" ∧ chunkBytes (processResponse fuel c).2.cs ≤ chunkBytes c.cs := by
  induction fuel generalizing c with
  | zero => omega
  | succ fuel ih =>
    rw [processResponse_succ]
    have := processLine_nofuel c
    generalize processLine c = r at this
    obtain ⟨x, c'⟩ := r
    cases x with
    | error m => exact ⟨by simpa using this.1, this.2.1⟩
    | ok num =>
      have h3 := this.2.2 num rfl
      simp only at h3 ⊢
      split
      · exact ⟨by simp, this.2.1⟩
      · have := ih c' (by omega)
        exact ⟨this.1, by omega⟩

theorem exchange_nofuel (fuel : Nat) (c : Cli) (h : chunkBytes c.cs < fuel) :
    (exchange fuel c).1 ≠ .error "fuel" ∧ chunkBytes (exchange fuel c).2.cs ≤ chunkBytes c.cs := by
  unfold exchange
  have := processResponse_nofuel fuel c h
  generalize processResponse fuel c = r at this
  obtain ⟨x, c'⟩ := r
  cases x with
  | error m => exact ⟨by simpa using this.1, this.2⟩
  | ok res =>
    simp only at this ⊢
    have he := expect_nofuel prompt c'.cs
    generalize expect prompt c'.cs = r at he
    obtain ⟨y, cs'⟩ := r
    cases y with
    | error m => exact ⟨by simpa using he.1, by simp only at he ⊢; omega⟩
    | ok u => exact ⟨by simp, by simp only at he ⊢; omega⟩

theorem run_nofuel (fuel k : Nat) (c : Cli) (h : chunkBytes c.cs < fuel) :
    (cliRun.run (exchange fuel) k c).1 ≠ .error "fuel" ∧ chunkBytes (cliRun.run (exchange fuel) k c).2.cs ≤ chunkBytes c.cs := by
  induction k generalizing c with
  | zero => rw [cliRun_run_zero]; exact ⟨by simp, Nat.le_refl _⟩
  | succ k ih =>
    rw [cliRun_run_succ]
    have := exchange_nofuel fuel c h
    generalize exchange fuel c = r at this
    obtain ⟨x, c'⟩ := r
    cases x with
    | error m => exact ⟨by simpa using this.1, this.2⟩
    | ok res =>
      simp only at this ⊢
      split
      · exact ⟨by simp, this.2⟩
      · have := ih c' (by omega)
        exact ⟨this.1, by omega⟩

theorem stageVersion_nofuel (o : CliOpts) (fuel : Nat) (c : Cli) (h : chunkBytes c.cs < fuel) :
    (stageVersion o fuel c).1 ≠ .error "fuel" ∧ chunkBytes (stageVersion o fuel c).2.cs ≤ chunkBytes c.cs := by
  unfold stageVersion
  have := readStr_nofuel fuel [] c.cs h
  generalize readStr fuel [] c.cs = r at this
  obtain ⟨x, cs'⟩ := r
  cases x with
  | error m => exact ⟨by simpa using this.1, this.2.1⟩
  | ok raw =>
    simp only at this ⊢
    cases scanVersion (cstr raw) with
    | none => exact ⟨by simp, this.2.1⟩
    | some v =>
      simp only
      split
      · exact ⟨by simp, this.2.1⟩
      · exact ⟨by simp, this.2.1⟩

theorem expectC_nofuel (s : Bytes) (c : Cli) :
    (expectC s c).1 ≠ .error "fuel" ∧ chunkBytes (expectC s c).2.cs ≤ chunkBytes c.cs := by
  unfold expectC
  have := expect_nofuel s c.cs
  generalize expect s c.cs = r at this
  obtain ⟨x, cs'⟩ := r
  cases x with
  | error m => exact ⟨by simpa using this.1, this.2⟩
  | ok u => exact ⟨by simp, this.2⟩

theorem cliCore_nofuel (o : CliOpts) (cs : List Chunk) : (cliCore o cs).1 ≠ .error "fuel" := by
  unfold cliCore
  simp only
  have h1 := stageVersion_nofuel o (chunkBytes cs + 2) { cs := cs } (by simp)
  generalize stageVersion o (chunkBytes cs + 2) { cs := cs } = r1 at h1
  obtain ⟨x1, c1⟩ := r1
  cases x1 with
  | error m => simpa using h1.1
  | ok u =>
    simp only at h1 ⊢
    have h2 := expectC_nofuel prompt c1
    generalize expectC prompt c1 = r2 at h2
    obtain ⟨x2, c2⟩ := r2
    cases x2 with
    | error m => simpa using h2.1
    | ok u =>
      simp only at h2 ⊢
      have h3 := run_nofuel (chunkBytes cs + 2) (exchanges o) c2 (by omega)
      generalize cliRun.run (exchange (chunkBytes cs + 2)) (exchanges o) c2 = r3 at h3
      obtain ⟨x3, c3⟩ := r3
      cases x3 with
      | error m => simpa using h3.1
      | ok res =>
        simp only at h3 ⊢
        have h4 := expectC_nofuel goodbye c3
        generalize expectC goodbye c3 = r4 at h4
        obtain ⟨x4, c4⟩ := r4
        cases x4 with
        | error m => simpa using h4.1
        | ok u => simp

/-! ### the CLI on a conforming stream, however segmented -/

theorem readStr_seg (y : Bytes) : ∀ (acc : Bytes) (cs : List Chunk) (rest : Bytes) (t : List Chunk) (fuel : Nat),
    Seg cs (y ++ rest) t → y ≠ [] → y.length ≤ fuel → endsWith (acc ++ y) crlf = true →
    (∀ q r, y = q ++ r → q ≠ [] → r ≠ [] → endsWith (acc ++ q) crlf = false) →
    ∃ cs', readStr fuel acc cs = (.ok ((acc ++ y).take ((acc ++ y).length - 2)), cs') ∧ Seg cs' rest t := by
  induction y with
  | nil => intro _ _ _ _ _ _ h; exact absurd rfl h
  | cons a y ih =>
    intro acc cs rest t fuel hseg _ hf hend hq
    obtain ⟨fuel, rfl⟩ : ∃ k, fuel = k + 1 := ⟨fuel - 1, by simp at hf; omega⟩
    -- `xreadstr` asks for one byte at a time, so whatever the cut of the script it receives exactly the next byte `a` of `y`:
    -- the induction is over the bytes of `y`, the chunks play no part; it stops at the last byte by `hend`, not before by `hq`
    obtain ⟨bs, s', cs1, hr, hbs, hbl, hs, hseg'⟩ := readK_seg hseg (by simp) 1 (by omega)
    obtain ⟨b, rfl⟩ : ∃ b, bs = [b] := by
      match bs, hbs, hbl with
      | [b], _, _ => exact ⟨b, rfl⟩
      | _ :: _ :: _, _, h => simp at h
    simp only [List.cons_append, List.nil_append, List.cons.injEq] at hs
    obtain ⟨rfl, rfl⟩ := hs
    rw [readStr_succ, hr]
    simp only
    by_cases hy : y = []
    · subst hy
      simp only [List.nil_append] at hseg'
      rw [if_pos hend]
      exact ⟨cs1, rfl, hseg'⟩
    · have hne : endsWith (acc ++ [a]) crlf = false := hq [a] y rfl (by simp) hy
      rw [if_neg (by simp [hne])]
      obtain ⟨cs', h1, h2⟩ := ih (acc ++ [a]) cs1 rest t fuel hseg' hy (by simp at hf; omega) (by simpa using hend) (by
        intro q r hqr hq0 hr0
        have := hq (a :: q) r (by simp [hqr]) (by simp) hr0
        simpa using this)
      refine ⟨cs', ?_, h2⟩
      rw [h1]; simp

theorem readStr_line (x rest : Bytes) (cs t : List Chunk) (fuel : Nat) (hseg : Seg cs (x ++ crlf ++ rest) t)
    (hx : hasCRLF (x ++ [13]) = false) (hf : x.length + 2 ≤ fuel) :
    ∃ cs', readStr fuel [] cs = (.ok x, cs') ∧ Seg cs' rest t := by
  obtain ⟨cs', h1, h2⟩ := readStr_seg (x ++ crlf) [] cs rest t fuel hseg (by simp [crlf]) (by simp [crlf]; omega)
    (by rw [endsWith_iff]; exact ⟨x, by simp⟩) (by
      intro q r hqr _ hr
      simp only [List.nil_append]
      exact line_prefix_noCRLF x q r hx (by simpa [crlf] using hqr) hr)
  refine ⟨cs', ?_, h2⟩
  rw [h1]
  simp [crlf]

theorem expectLoop_seg (fuel : Nat) : ∀ (need : Nat) (y acc : Bytes) (cs : List Chunk) (rest : Bytes) (t : List Chunk),
    Seg cs (y ++ rest) t → y.length = need → 0 < need → need ≤ fuel →
    ∃ cs', expectLoop fuel acc need cs = (.ok (acc ++ y), cs') ∧ Seg cs' rest t := by
  induction fuel with
  | zero => intro need _ _ _ _ _ _ _ h1 h2; omega
  | succ fuel ih =>
    intro need y acc cs rest t hseg hy hpos hf
    have hyne : y ≠ [] := by intro h; subst h; simp at hy; omega
    -- a `read` of at most `need` bytes returns a non-empty prefix `bs` of `y` (`h1`) and leaves the rest of `y` in front of
    -- `rest` (`h2`): either `bs` is all of `y` and the loop is done, or it goes on for `y.drop bs.length` with less fuel
    obtain ⟨bs, s', cs1, hr, hbs, hbl, hs, hseg'⟩ := readK_seg hseg (by simp [hyne]) need hpos
    have hbpos : 0 < bs.length := List.length_pos_iff.mpr hbs
    have h1 : bs = y.take bs.length := by
      have : (y ++ rest).take bs.length = bs := by rw [hs]; simp
      rw [List.take_append_of_le_length (by omega)] at this
      exact this.symm
    have h2 : s' = y.drop bs.length ++ rest := by
      have : (y ++ rest).drop bs.length = s' := by rw [hs]; simp
      rw [List.drop_append_of_le_length (by omega)] at this
      exact this.symm
    rw [expectLoop_succ, hr]
    simp only
    by_cases hz : need - bs.length = 0
    · have hd : y.drop bs.length = [] := by
        apply List.eq_nil_of_length_eq_zero; simp; omega
      have hyb : y = bs := by
        have := List.take_append_drop bs.length y
        rw [hd, ← h1] at this; simpa using this.symm
      rw [hd] at h2
      simp only [List.nil_append] at h2
      subst h2
      simp only [hz, beq_self_eq_true, ↓reduceIte]
      exact ⟨cs1, by rw [hyb], hseg'⟩
    · rw [if_neg (by simpa using hz)]
      rw [h2] at hseg'
      obtain ⟨cs', h3, h4⟩ := ih (need - bs.length) (y.drop bs.length) (acc ++ bs) cs1 rest t hseg' (by simp; omega) (by omega) (by omega)
      refine ⟨cs', ?_, h4⟩
      rw [h3, List.append_assoc]
      congr 3
      conv => rhs; rw [← List.take_append_drop bs.length y, ← h1]

theorem expect_seg (p rest : Bytes) (cs t : List Chunk) (hseg : Seg cs (p ++ rest) t) (hp : p ≠ []) (hc : cstr p = p) :
    ∃ cs', expect p cs = (.ok (), cs') ∧ Seg cs' rest t := by
  obtain ⟨cs', h1, h2⟩ := expectLoop_seg (p.length + 1) p.length p [] cs rest t hseg rfl (List.length_pos_iff.mpr hp) (by omega)
  refine ⟨cs', ?_, h2⟩
  unfold expect
  rw [h1]
  simp [hc]

theorem expectC_seg (p rest : Bytes) (c : Cli) (t : List Chunk) (hseg : Seg c.cs (p ++ rest) t) (hp : p ≠ []) (hc : cstr p = p) :
    ∃ cs', expectC p c = (.ok (), { c with cs := cs' }) ∧ Seg cs' rest t := by
  obtain ⟨cs', h1, h2⟩ := expect_seg p rest c.cs t hseg hp hc
  refine ⟨cs', ?_, h2⟩
  unfold expectC
  rw [h1]

theorem processLine_seg (l : RLine) (h : l.ok) (c : Cli) (rest : Bytes) (t : List Chunk) (hseg : Seg c.cs (l.bytes ++ rest) t) :
    ∃ cs', processLine c = (.ok (l.code : Int), { cs := cs', out := c.out ++ l.out, errs := c.errs ++ l.err }) ∧ Seg cs' rest t := by
  have hlen := Seg_length hseg
  have hseg' : Seg c.cs ((digits3 l.code ++ 32 :: l.text) ++ crlf ++ rest) t := by
    simpa [RLine.bytes] using hseg
  obtain ⟨cs', h1, h2⟩ := readStr_line _ rest c.cs t (chunkBytes c.cs + 2) hseg' (l.noCRLF h) (by
    rw [List.length_append, l.bytes_length] at hlen
    simp [digits3]; omega)
  refine ⟨cs', ?_, h2⟩
  have hcs : cstr (digits3 l.code ++ 32 :: l.text) = digits3 l.code ++ 32 :: l.text := by
    obtain ⟨hcode, -, hnul, -⟩ := h
    rw [cstr_digits3 _ hcode, cstr_of_nonul _ hnul]
  have hnum := strtolCli_line l.code h.1 l.text
  rw [hcs] at hnum
  have htl : 0 < l.text.length := List.length_pos_iff.mpr h.2.1
  unfold processLine
  rw [h1]
  simp only [hcs, hnum]
  have hl4 : (digits3 l.code ++ 32 :: l.text).length > 4 := by simp [digits3]; omega
  have hd4 : (digits3 l.code ++ 32 :: l.text).drop 4 = l.text := by simp [digits3]
  rw [if_pos hl4, hd4]
  have ht : toInt32 (l.code : Int) = (l.code : Int) := toInt32_small l.code (by have := h.1; omega)
  simp only [ht]
  -- `_process_line` and `RLine.out`/`RLine.err` sort the text by the same four codes, one over `Int` and one over `Nat`: 103, 104,
  -- 105 print nothing, 309 goes to stderr, every other code to stdout
  unfold RLine.out RLine.err
  by_cases h103 : l.code = 103
  · simp [h103]
  by_cases h104 : l.code = 104
  · simp [h104]
  by_cases h105 : l.code = 105
  · simp [h105]
  by_cases h309 : l.code = 309
  · simp [h309]
  have e1 : ((l.code : Int) == 103) = false := by simp; omega
  have e2 : ((l.code : Int) == 104) = false := by simp; omega
  have e3 : ((l.code : Int) == 105) = false := by simp; omega
  have e4 : ((l.code : Int) == 309) = false := by simp; omega
  simp [e1, e2, e3, e4, h103, h104, h105, h309]

def outOf (ls : List RLine) : Bytes := (ls.map RLine.out).flatten

def errOf (ls : List RLine) : Bytes := (ls.map RLine.err).flatten

def bytesOfLines (ls : List RLine) : Bytes := (ls.map RLine.bytes).flatten

theorem bytesOfLines_length (ls : List RLine) : ls.length ≤ (bytesOfLines ls).length := by
  induction ls with
  | nil => simp [bytesOfLines]
  | cons l ls ih =>
    simp only [bytesOfLines, List.map_cons, List.flatten_cons, List.length_append, List.length_cons, l.bytes_length] at ih ⊢
    omega

theorem processResponse_seg (ls : List RLine) : ∀ (tl : RLine) (c : Cli) (rest : Bytes) (t : List Chunk) (fuel : Nat),
    (∀ l ∈ ls, l.ok ∧ ¬ (100 ≤ l.code ∧ l.code < 300)) → tl.ok → 100 ≤ tl.code → tl.code < 300 →
    Seg c.cs (bytesOfLines ls ++ tl.bytes ++ rest) t → ls.length < fuel →
    ∃ cs', processResponse fuel c =
        (.ok (if 200 ≤ tl.code then (tl.code : Int) else 0),
         { cs := cs', out := c.out ++ outOf (ls ++ [tl]), errs := c.errs ++ errOf (ls ++ [tl]) }) ∧ Seg cs' rest t := by
  induction ls with
  | nil =>
    intro tl c rest t fuel _ htl h1 h3 hseg hf
    obtain ⟨fuel, rfl⟩ : ∃ k, fuel = k + 1 := ⟨fuel - 1, by simp at hf; omega⟩
    obtain ⟨cs', hp, hs⟩ := processLine_seg tl htl c rest t (by simpa [bytesOfLines] using hseg)
    refine ⟨cs', ?_, hs⟩
    rw [processResponse_succ, hp]
    have e1 : (100 ≤ (tl.code : Int)) := by omega
    have e2 : ((tl.code : Int) < 300) := by omega
    simp only [e1, e2, decide_true, Bool.and_self, ↓reduceIte]
    have : (200 ≤ (tl.code : Int)) ↔ 200 ≤ tl.code := by omega
    simp [outOf, errOf, this]
  | cons l ls ih =>
    intro tl c rest t fuel hls htl h1 h3 hseg hf
    obtain ⟨fuel, rfl⟩ : ∃ k, fuel = k + 1 := ⟨fuel - 1, by simp at hf; omega⟩
    obtain ⟨hl, hcode⟩ := hls l (by simp)
    obtain ⟨cs1, hp, hs⟩ := processLine_seg l hl c (bytesOfLines ls ++ tl.bytes ++ rest) t (by
      simpa [bytesOfLines, List.append_assoc] using hseg)
    rw [processResponse_succ, hp]
    have e : (decide (100 ≤ (l.code : Int)) && decide ((l.code : Int) < 300)) = false := by
      rw [← Bool.not_eq_true]; simp; omega
    simp only [e, Bool.false_eq_true, ↓reduceIte]
    obtain ⟨cs', h4, h5⟩ := ih tl { cs := cs1, out := c.out ++ l.out, errs := c.errs ++ l.err } rest t fuel
      (fun x hx => hls x (by simp [hx])) htl h1 h3 hs (by simp at hf; omega)
    refine ⟨cs', ?_, h5⟩
    rw [h4]
    simp [outOf, errOf, List.append_assoc]

theorem cstr_prompt : cstr prompt = prompt := by decide

theorem cstr_goodbye : cstr goodbye = goodbye := by decide +kernel

/-- one exchange as the server sends it: the response and the prompt -/
structure Exch where
  lines : List RLine
  term : RLine

def Exch.ok (e : Exch) : Prop := (∀ l ∈ e.lines, l.ok ∧ ¬ (100 ≤ l.code ∧ l.code < 300)) ∧ e.term.ok ∧ 100 ≤ e.term.code ∧ e.term.code < 300

instance (e : Exch) : Decidable e.ok := by unfold Exch.ok; infer_instance

def Exch.all (e : Exch) : List RLine := e.lines ++ [e.term]

def Exch.bytes (e : Exch) : Bytes := bytesOfLines e.all ++ prompt

/-- the value `_process_response` returns: the 2xx code, or 0 -/
def Exch.res (e : Exch) : Int := if 200 ≤ e.term.code then (e.term.code : Int) else 0

theorem exchange_seg (e : Exch) (he : e.ok) (c : Cli) (rest : Bytes) (t : List Chunk) (fuel : Nat)
    (hseg : Seg c.cs (e.bytes ++ rest) t) (hf : e.lines.length < fuel) :
    ∃ cs', exchange fuel c = (.ok e.res, { cs := cs', out := c.out ++ outOf e.all, errs := c.errs ++ errOf e.all }) ∧ Seg cs' rest t := by
  obtain ⟨hlines, hterm, h100, h300⟩ := he
  obtain ⟨cs1, h1, h2⟩ := processResponse_seg e.lines e.term c (prompt ++ rest) t fuel hlines hterm h100 h300 (by
    simpa [Exch.bytes, Exch.all, bytesOfLines, List.append_assoc] using hseg) hf
  obtain ⟨cs', h3, h4⟩ := expect_seg prompt rest cs1 t h2 (by decide) cstr_prompt
  refine ⟨cs', ?_, h4⟩
  unfold exchange
  rw [h1]
  simp only
  rw [h3]
  rfl

def bytesOfExchs (es : List Exch) : Bytes := (es.map Exch.bytes).flatten

/-- the exchanges `main` performs: it stops after the first whose result is not 0 -/
theorem run_seg (init : List Exch) : ∀ (last : Exch) (k : Nat) (c : Cli) (rest : Bytes) (t : List Chunk) (fuel : Nat),
    (∀ e ∈ init, e.ok ∧ e.res = 0 ∧ e.lines.length < fuel) → last.ok → last.lines.length < fuel →
    (init.length + 1 = k ∨ (init.length + 1 ≤ k ∧ last.res ≠ 0)) →
    Seg c.cs (bytesOfExchs (init ++ [last]) ++ rest) t →
    ∃ cs', cliRun.run (exchange fuel) k c =
        (.ok last.res, { cs := cs', out := c.out ++ ((init ++ [last]).map fun e => outOf e.all).flatten,
                         errs := c.errs ++ ((init ++ [last]).map fun e => errOf e.all).flatten }) ∧ Seg cs' rest t := by
  induction init with
  | nil =>
    intro last k c rest t fuel _ hl hlf hk hseg
    obtain ⟨k, rfl⟩ : ∃ j, k = j + 1 := ⟨k - 1, by simp at hk; omega⟩
    obtain ⟨cs', h1, h2⟩ := exchange_seg last hl c rest t fuel (by simpa [bytesOfExchs] using hseg) hlf
    refine ⟨cs', ?_, h2⟩
    rw [cliRun_run_succ, h1]
    simp only
    by_cases hr : last.res = 0
    · have hk0 : k = 0 := by simp at hk; rcases hk with h | h; exact h; exact absurd hr h
      subst hk0
      rw [cliRun_run_zero]
      simp [hr]
    · simp [hr]
  | cons e init ih =>
    intro last k c rest t fuel hin hl hlf hk hseg
    obtain ⟨k, rfl⟩ : ∃ j, k = j + 1 := ⟨k - 1, by simp at hk; omega⟩
    obtain ⟨he, hres, hef⟩ := hin e (by simp)
    obtain ⟨cs1, h1, h2⟩ := exchange_seg e he c (bytesOfExchs (init ++ [last]) ++ rest) t fuel (by
      simpa [bytesOfExchs, List.append_assoc] using hseg) hef
    rw [cliRun_run_succ, h1]
    simp only [hres, bne_self_eq_false, Bool.false_eq_true, ↓reduceIte]
    obtain ⟨cs', h3, h4⟩ := ih last k { cs := cs1, out := c.out ++ outOf e.all, errs := c.errs ++ errOf e.all } rest t fuel
      (fun x hx => hin x (by simp [hx])) hl hlf (by simp at hk ⊢; omega) h2
    refine ⟨cs', ?_, h4⟩
    rw [h3]
    simp [List.append_assoc]

/-- the banner -/
def bannerLine (v : Bytes) : Bytes := str "001 " ++ v ++ crlf

theorem str_001 : str "001 " = [48, 48, 49, 32] := by decide +kernel

theorem scanVersion_banner (v : Bytes) (hv : IsWord v) : scanVersion (cstr (str "001 " ++ v)) = some v := by
  have hc := cstr_lit_word (str "001 ") v [] (by rw [str_001]; decide) hv (by simp)
  rw [List.append_nil] at hc
  rw [hc, str_001]
  have := scanWord v [] hv (by simp)
  rw [List.append_nil] at this
  simp [scanVersion, this, hv.1]

/-- the warning `_process_version` prints when the versions differ -/
def versionWarning (o : CliOpts) (v : Bytes) : Bytes :=
  if v != o.version then str "powerman: warning: server version (" ++ v ++ str ") != client (" ++ o.version ++ str ")\n" else []

theorem stageVersion_seg (o : CliOpts) (v : Bytes) (hv : IsWord v) (cs : List Chunk) (rest : Bytes) (t : List Chunk) (fuel : Nat)
    (hseg : Seg cs (bannerLine v ++ rest) t) (hf : chunkBytes cs < fuel) :
    ∃ cs', stageVersion o fuel { cs := cs } = (.ok (), { cs := cs', errs := versionWarning o v }) ∧ Seg cs' rest t := by
  have hlen := Seg_length hseg
  have hx := lit_word_noCRLF (str "001 ") v (by rw [str_001]; decide) hv
  obtain ⟨cs', h1, h2⟩ := readStr_line (str "001 " ++ v) rest cs t fuel (by simpa [bannerLine] using hseg) hx (by
    simp [bannerLine, crlf] at hlen; simp; omega)
  refine ⟨cs', ?_, h2⟩
  unfold stageVersion
  simp only
  rw [h1]
  simp only [scanVersion_banner v hv]
  unfold versionWarning
  split <;> simp

theorem bytesOfExchs_mem (es : List Exch) (e : Exch) (h : e ∈ es) : e.lines.length < (bytesOfExchs es).length := by
  induction es with
  | nil => simp at h
  | cons a es ih =>
    simp only [bytesOfExchs, List.map_cons, List.flatten_cons, List.length_append] at ih ⊢
    rcases List.mem_cons.mp h with rfl | h
    · have := bytesOfLines_length e.all
      simp [Exch.bytes, Exch.all, prompt] at this ⊢
      omega
    · have := ih h
      omega

theorem cliCore_conforming (o : CliOpts) (v : Bytes) (init : List Exch) (last : Exch) (cs t : List Chunk)
    (hseg : Seg cs (bannerLine v ++ prompt ++ bytesOfExchs (init ++ [last]) ++ goodbye) t)
    (hv : IsWord v) (hinit : ∀ e ∈ init, e.ok ∧ e.res = 0) (hlast : last.ok)
    (hk : init.length + 1 = exchanges o ∨ (init.length + 1 ≤ exchanges o ∧ last.res ≠ 0)) :
    ∃ cs', cliCore o cs = (.ok last.res,
      { cs := cs', out := ((init ++ [last]).map fun e => outOf e.all).flatten,
        errs := versionWarning o v ++ ((init ++ [last]).map fun e => errOf e.all).flatten }) := by
  have hlen := Seg_length hseg
  have hfuel : ∀ e ∈ init ++ [last], e.lines.length < chunkBytes cs + 2 := by
    intro e he
    have := bytesOfExchs_mem _ e he
    simp only [List.length_append] at hlen
    omega
  obtain ⟨cs1, h1, s1⟩ := stageVersion_seg o v hv cs (prompt ++ bytesOfExchs (init ++ [last]) ++ goodbye) t (chunkBytes cs + 2)
    (by simpa [List.append_assoc] using hseg) (by omega)
  obtain ⟨cs2, h2, s2⟩ := expectC_seg prompt (bytesOfExchs (init ++ [last]) ++ goodbye) { cs := cs1, errs := versionWarning o v } t
    (by simpa [List.append_assoc] using s1) (by decide) cstr_prompt
  obtain ⟨cs3, h3, s3⟩ := run_seg init last (exchanges o) { cs := cs2, errs := versionWarning o v } goodbye t (chunkBytes cs + 2)
    (fun e he => ⟨(hinit e he).1, (hinit e he).2, hfuel e (by simp [he])⟩) hlast (hfuel last (by simp)) hk s2
  obtain ⟨cs4, h4, _⟩ := expectC_seg goodbye [] (Cli.mk cs3 ([] ++ ((init ++ [last]).map fun e => outOf e.all).flatten)
      (versionWarning o v ++ ((init ++ [last]).map fun e => errOf e.all).flatten)) t
    (by simpa using s3) (by decide +kernel) cstr_goodbye
  refine ⟨cs3, ?_⟩
  unfold cliCore
  simp only
  rw [h1]
  simp only
  rw [h2]
  simp only
  rw [h3]
  simp only
  rw [h4]
  simp

theorem cliRun_conforming (o : CliOpts) (v : Bytes) (init : List Exch) (last : Exch) (cs t : List Chunk)
    (hseg : Seg cs (bannerLine v ++ prompt ++ bytesOfExchs (init ++ [last]) ++ goodbye) t)
    (hv : IsWord v) (hinit : ∀ e ∈ init, e.ok ∧ e.res = 0) (hlast : last.ok)
    (hk : init.length + 1 = exchanges o ∨ (init.length + 1 ≤ exchanges o ∧ last.res ≠ 0)) :
    cliRun o cs = (last.res, ((init ++ [last]).map fun e => outOf e.all).flatten,
      versionWarning o v ++ ((init ++ [last]).map fun e => errOf e.all).flatten) := by
  obtain ⟨cs', h⟩ := cliCore_conforming o v init last cs t hseg hv hinit hlast hk
  rw [cliRun_eq, h]
  rfl

end Pm.LibPmModel
