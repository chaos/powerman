import Pm.Dev2Proof
import Pm.Dev2Walk
import Pm.Dev2Moves
import Pm.InterpRef
import Pm.TelnetPass
/-! For C05 (one device cannot disturb the others): a single-run *frame* for one device's share of `dev_post_poll`:
  * every callback (`finish`/`telemetry`/`diag`) carries the client id of an action of the device's own queue
    (or `0`, the id of the internal login/ping actions);
  * every write to the shared arglist store goes to the arglist of an action of the queue (or to id `0`), and within
    a cell only entries whose node is a node of one of the device's own plugs are modified;
  * the static configuration of the device (plugs, scripts) is never changed.
  The frame of a statement (`StmtFrame`) is read off `StmtSpec`, that of the pass off the list of moves: `Kept` is what every
  move keeps (`Move.kept`), `postPoll_kept` what the pass keeps; `postPoll_frame` and `postPoll_keys` are readings of it. -/
namespace Pm.Dev2

abbrev Store := List (Nat × List Arg)

/-- one arglist of the store -/
def cell (s : Store) (al : Nat) : List Arg := (s.lookup al).getD []

theorem getArgs_eq (d : Dev) (al : Nat) : getArgs d al = cell d.args al := rfl

theorem lookup_filter_ne (s : Store) (id al : Nat) (h : al ≠ id) :
    (s.filter (·.1 ≠ id)).lookup al = s.lookup al :=
  lookup_filter _ al s fun _ _ e => decide_eq_true fun hx => h ((eq_of_beq e).trans hx)

theorem setArgs_lookup_ne (d : Dev) (id al : Nat) (as : List Arg) (h : al ≠ id) :
    (setArgs d id as).args.lookup al = d.args.lookup al := by
  have : (al == id) = false := by simp [h]
  have h2 := lookup_filter_ne d.args _ _ h
  unfold setArgs
  rw [List.lookup_cons, this]; exact h2

theorem setArgs_cell_self (d : Dev) (id : Nat) (as : List Arg) : cell (setArgs d id as).args id = as :=
  Interp.getArgs_setArgs d id as

theorem setArgs_cell_ne (d : Dev) (id al : Nat) (as : List Arg) (h : al ≠ id) :
    cell (setArgs d id as).args al = cell d.args al :=
  Interp.getArgs_setArgs_ne d id al as h

theorem filter_map_upd (Q : Bytes → Bool) (node : Bytes) (upd : Arg → Arg) (hupd : ∀ g, (upd g).node = g.node) (l : List Arg) :
    (l.map fun g => if g.node == node then upd g else g).filter (fun g => Q g.node)
      = (l.filter (fun g => Q g.node)).map fun g => if g.node == node then upd g else g := by
  have hn (g : Arg) : (if g.node == node then upd g else g).node = g.node := by
    split
    · exact hupd g
    · rfl
  rw [List.filter_map]
  exact congrArg _ (List.filter_congr fun g _ => congrArg Q (hn g))

theorem filter_map_upd_off (Q : Bytes → Bool) (node : Bytes) (upd : Arg → Arg) (hupd : ∀ g, (upd g).node = g.node)
    (hQ : Q node = false) (l : List Arg) :
    (l.map fun g => if g.node == node then upd g else g).filter (fun g => Q g.node) = l.filter (fun g => Q g.node) := by
  rw [filter_map_upd Q node upd hupd]
  refine (List.map_congr_left fun g hg => ?_).trans (List.map_id _)
  -- an entry `Q` selects is not an entry of `node`
  have hq : Q g.node = true := (List.mem_filter.1 hg).2
  exact if_neg fun e => by rw [eq_of_beq e, hQ] at hq; cases hq

/-- the nodes the device's own plugs are wired to are outside `Q` -/
def QOff (Q : Bytes → Bool) (d : Dev) : Prop := ∀ p ∈ d.plugs, ∀ n, p.node = some n → Q n = false

theorem findPlug_node (d : Dev) (pn : Bytes) (plug : Plug) (h : findPlug d pn = some plug) :
    plug ∈ d.plugs ∧ ∃ n, plug.node = some n :=
  have ⟨hf, hn⟩ := (Interp.findPlug_some_iff d pn plug).1 h
  ⟨List.mem_of_find?_eq_some hf, Option.isSome_iff_exists.1 hn⟩

/-- every callback in `outs` is addressed to a client of the set `C` -/
def Addr (C : Nat → Prop) (outs : List Out) : Prop := ∀ x ∈ outs, ∀ cid, outCid x = some cid → C cid

theorem Addr.append {C : Nat → Prop} {l m : List Out} (h1 : Addr C l) (h2 : Addr C m) : Addr C (l ++ m) := by
  intro x hx cid hc; simp at hx; rcases hx with hx | hx
  · exact h1 x hx cid hc
  · exact h2 x hx cid hc
theorem Addr.nil {C : Nat → Prop} : Addr C [] := by intro x hx; simp at hx
theorem Addr.mono {C C' : Nat → Prop} {l : List Out} (h : Addr C l) (hi : ∀ c, C c → C' c) : Addr C' l :=
  fun x hx cid hc => hi cid (h x hx cid hc)

/-- what one statement may do (single run): it keeps the static configuration, the identity of the action, addresses
    callbacks to the action's client only (`addr` is `Addr (· = a.clientId) r.out`), writes the action's own arglist only and
    there only entries of the device's own nodes -/
structure StmtFrame (Q : Bytes → Bool) (d : Dev) (a : Action) (r : StepR) : Prop where
  plugs : r.dev.plugs = d.plugs
  scripts : r.dev.scripts = d.scripts
  cid : r.act.clientId = a.clientId
  al : r.act.arglist = a.arglist
  addr : ∀ x ∈ r.out, ∀ c, outCid x = some c → c = a.clientId
  cellOther : ∀ al, al ≠ a.arglist → r.dev.args.lookup al = d.args.lookup al
  cellQ : ∀ al, (cell r.dev.args al).filter (fun g => Q g.node) = (cell d.args al).filter (fun g => Q g.node)

theorem teleMem_addr (cid pre bs) : Addr (· = cid) (teleMem cid pre bs) :=
  fun x hx _ hc => noteTo_addr (teleMem_to cid pre bs x hx) hc

theorem setArgs_upd_cellQ (Q : Bytes → Bool) (d : Dev) (id : Nat) (node : Bytes) (upd : Arg → Arg)
    (hupd : ∀ g, (upd g).node = g.node) (hQ : Q node = false) (al : Nat) :
    (cell (setArgs d id ((getArgs d id).map fun g => if g.node == node then upd g else g)).args al).filter (fun g => Q g.node)
      = (cell d.args al).filter (fun g => Q g.node) := by
  by_cases h : al = id
  · subst h; rw [setArgs_cell_self, getArgs_eq]; exact filter_map_upd_off Q node upd hupd hQ _
  · rw [setArgs_cell_ne _ _ _ _ h]

theorem findPlug_QOff (Q : Bytes → Bool) (d : Dev) (hQ : QOff Q d) (pn : Bytes) (plug : Plug) (h : findPlug d pn = some plug) :
    Q (plug.node.getD []) = false := by
  obtain ⟨hm, n, hn⟩ := findPlug_node d pn plug h
  rw [hn]; exact hQ plug hm n hn

/-! ### *whether and where* `_process_setplugstate` / `_process_setresult` write: the captured text and the plug, if there are
    both (this looks neither at the store nor at the oracle).  The ghost events of `Pm/QueryEv.lean` are written with these two;
    `QEv.spsTarget_eq` / `QEv.srTarget_eq` there read them in the interpreter's own terms (`chosenName`, `findPlug`). -/

def spsTarget (d : Dev) (e : ExecCtx) (lit : Option Bytes) (plugMp statMp : Int) : Option (Bytes × Plug) :=
  let plugName : Option Bytes := match lit with
    | some n => some n
    | none => match subOf d plugMp with
      | some n => some n
      | none => match e.plugs with
        | some (p :: _) => some p.name
        | _ => none
  match plugName with
  | none => none
  | some pn =>
    match subOf d statMp, findPlug d pn with
    | some s, some plug => some (s, plug)
    | _, _ => none

def srTarget (d : Dev) (plugMp statMp : Int) : Option (Bytes × Plug) :=
  match subOf d plugMp with
  | none => none
  | some pn =>
    match subOf d statMp, findPlug d pn with
    | some s, some plug => some (s, plug)
    | _, _ => none

theorem StmtSpec.addr {d : Dev} {a : Action} {r : StepR} (h : StmtSpec d a r) : Addr (· = a.clientId) r.out := by
  intro x hx c hc
  rcases h.out with ⟨hn, _⟩ | ⟨s, tele, ho, hn, _⟩
  · exact noteTo_addr (hn x hx) hc
  · rw [ho] at hx
    rcases List.mem_cons.1 hx with rfl | hx
    · cases hc
    · exact noteTo_addr (hn x hx) hc

/-- the frame of a statement is read off `StmtSpec`: the one write (`Wrote`) goes to the action's own arglist, and there to the
    entries of the node of a plug of this device, which is outside `Q` -/
theorem StmtSpec.frame {Q : Bytes → Bool} {d : Dev} {a : Action} {r : StepR} (h : StmtSpec d a r) (hQ : QOff Q d) :
    StmtFrame Q d a r := by
  refine ⟨by rw [h.dev], by rw [h.dev], by rw [h.act], by rw [h.act], h.addr, ?_, ?_⟩
  · rcases h.store with e | ⟨pn, plug, upd, _, _, e⟩ <;> rw [e]
    · exact fun _ _ => rfl
    · exact fun al hal => setArgs_lookup_ne d a.arglist al _ hal
  · rcases h.store with e | ⟨pn, plug, upd, hf, hu, e⟩ <;> rw [e]
    · exact fun _ => rfl
    · exact setArgs_upd_cellQ Q d a.arglist _ upd hu (findPlug_QOff Q d hQ _ _ hf)

theorem processStmt_frame (Q : Bytes → Bool) (d : Dev) (a : Action) (o : Oracle) (now : Time) (hQ : QOff Q d) :
    StmtFrame Q d a (processStmt d a o now) := (processStmt_spec d a o now).frame hQ

theorem StmtFrame.withAcc {Q d a r} (h : StmtFrame Q d a r) (acc : List Out) (hacc : Addr (· = a.clientId) acc) :
    StmtFrame Q d a { r with out := acc ++ r.out } where
  plugs := h.plugs
  scripts := h.scripts
  cid := h.cid
  al := h.al
  addr := Addr.append hacc h.addr
  cellOther := h.cellOther
  cellQ := h.cellQ

theorem StmtFrame.trans {Q d a r1 r2} (h1 : StmtFrame Q d a r1) (h2 : StmtFrame Q r1.dev r1.act r2) :
    StmtFrame Q d a r2 where
  plugs := by rw [h2.plugs, h1.plugs]
  scripts := by rw [h2.scripts, h1.scripts]
  cid := by rw [h2.cid, h1.cid]
  al := by rw [h2.al, h1.al]
  addr := h1.cid ▸ h2.addr
  cellOther := by
    intro al hal; rw [h2.cellOther al (by rw [h1.al]; exact hal), h1.cellOther al hal]
  cellQ := by intro al; rw [h2.cellQ, h1.cellQ]

theorem QOff.congr {Q : Bytes → Bool} {d d' : Dev} (hQ : QOff Q d) (h : d'.plugs = d.plugs) : QOff Q d' := by
  unfold QOff; rw [h]; exact hQ

theorem innerLoop_frame (Q : Bytes → Bool) (now : Time) (fuel : Nat) (d : Dev) (a : Action) (o : Oracle) (acc : List Out)
    (hQ : QOff Q d) (hacc : Addr (· = a.clientId) acc) :
    StmtFrame Q d a (innerLoop now fuel d a o acc) :=
  innerLoop_induct (now := now)
    (P := fun d a _ acc r => QOff Q d → Addr (· = a.clientId) acc → StmtFrame Q d a r)
    (fun d a o acc hQ hacc => (processStmt_frame Q d a o now hQ).withAcc acc hacc)
    (fun d a o _ _ _ _ ih hQ hacc =>
      have h := processStmt_frame Q d a o now hQ
      h.trans (ih (hQ.congr h.plugs) (h.cid ▸ Addr.append hacc h.addr)))
    fuel d a o acc hQ hacc

/-! ### the connection layer: never touches the store or the configuration; the queue only gains the login action,
    loses it, or has its head rewound -/

/-- What a function of the connection layer may do to the device: plugs, scripts and store stay, and every action of the new queue
    comes from the login action of `d` or an action of the old queue by rewinding it (`rewind`) zero or more times.  `acts` says
    this as the induction principle of that closure — whatever holds of the login action and of the old queue, and survives
    `rewind`, holds of the new queue — which is the form the users apply (`DevFrame.keys`, `DevFrame.actsOK`).  It says nothing
    about how many actions there are or in which order: counting goes through `Move.count`. -/
structure DevFrame (d d' : Dev) : Prop where
  plugs : d'.plugs = d.plugs
  scripts : d'.scripts = d.scripts
  args : d'.args = d.args
  acts : ∀ G : Action → Prop, G (loginAction d) → (∀ a, G a → G (rewind a)) → (∀ a ∈ d.acts, G a) → ∀ a' ∈ d'.acts, G a'

theorem DevFrame.rfl' (d : Dev) : DevFrame d d := ⟨rfl, rfl, rfl, fun _ _ _ h => h⟩

theorem loginAction_congr {d d' : Dev} (h : d'.scripts = d.scripts) : loginAction d' = loginAction d := by
  unfold loginAction; rw [h]

theorem DevFrame.trans {a b c : Dev} (h1 : DevFrame a b) (h2 : DevFrame b c) : DevFrame a c where
  plugs := by rw [h2.plugs, h1.plugs]
  scripts := by rw [h2.scripts, h1.scripts]
  args := by rw [h2.args, h1.args]
  acts := by
    intro G hl hr h
    exact h2.acts G (by rw [loginAction_congr h1.scripts]; exact hl) hr (h1.acts G hl hr h)

theorem DevFrame.of_eq {d d' : Dev} (hp : d'.plugs = d.plugs) (hs : d'.scripts = d.scripts) (ha : d'.args = d.args)
    (hq : d'.acts = d.acts) : DevFrame d d' := ⟨hp, hs, ha, fun _ _ _ h => by rw [hq]; exact h⟩

/-- the four tracked fields -/
def core (d : Dev) : List Plug × (Nat → Option (List Stmt)) × Store × List Action := (d.plugs, d.scripts, d.args, d.acts)

theorem ConnFrame.devFrame {d d' : Dev} (h : ConnFrame d d') : DevFrame d d' := .of_eq h.plugs h.scripts h.args h.acts

theorem ConnFrame.core {d d' : Dev} (h : ConnFrame d d') : core d' = core d := by
  simp only [Pm.Dev2.core, h.plugs, h.scripts, h.args, h.acts]
theorem connectOne_core (c : CS) : core (connectOne c).1.dev = core c.dev := (connectOne_frame c).dev.core

theorem enqueueLogin_devFrame (d : Dev) : DevFrame d (enqueueLogin d) where
  plugs := rfl
  scripts := rfl
  args := rfl
  acts := by
    intro G hl hr h a' ha'
    unfold enqueueLogin at ha'
    cases hq : d.acts with
    | nil => simp [hq] at ha'; subst ha'; exact hl
    | cons a r =>
      simp [hq] at ha'
      rcases ha' with ha' | ha' | ha'
      · subst ha'; exact hl
      · subst ha'; exact hr a (h a (by simp [hq]))
      · exact h a' (by simp [hq, ha'])

theorem connectDev_devFrame (c : CS) : DevFrame c.dev (connectDev c).dev := by
  obtain ⟨d1, hf, _, he⟩ := connectDev_frame c
  have h1 : DevFrame c.dev d1 := .of_eq hf.plugs hf.scripts hf.args hf.acts
  rcases he with ⟨e, _⟩ | ⟨e, _⟩ <;> rw [e]
  · exact h1.trans (enqueueLogin_devFrame _)
  · exact h1

theorem disconnectDev_devFrame (c : CS) : DevFrame c.dev (disconnectDev c).dev := by
  rw [disconnectDev_cs]
  exact ⟨rfl, rfl, rfl, fun _ _ _ h a' ha' => h a' (Timer.dropLogin_subset _ a' ha')⟩

theorem reconnectDev_devFrame (c : CS) (tmo : Option Time) : DevFrame c.dev (reconnectDev c tmo).1.dev :=
  reconnectDev_elim (Q := fun c1 => DevFrame c.dev c1.dev) (P := fun r => DevFrame c.dev r.dev) c tmo
    (fun _ => disconnectDev_devFrame c) (fun _ => .rfl' _) (fun c1 _ h => h.trans (connectDev_devFrame c1)) (fun _ _ h => h)

/-- what a piece of the pass may do to the store: arglists outside `L` keep their cell, and in every cell the
    entries `Q` selects are kept -/
def StoreFrame (Q : Bytes → Bool) (L : Nat → Prop) (s t : Store) : Prop :=
  (∀ al, ¬ L al → t.lookup al = s.lookup al) ∧
  (∀ al, (cell t al).filter (fun g => Q g.node) = (cell s al).filter (fun g => Q g.node))

theorem StoreFrame.outside {Q L} {s t : Store} (h : StoreFrame Q L s t) (al : Nat) (hal : ¬ L al) : t.lookup al = s.lookup al := h.1 al hal
theorem StoreFrame.nodes {Q L} {s t : Store} (h : StoreFrame Q L s t) (al : Nat) :
    (cell t al).filter (fun g => Q g.node) = (cell s al).filter (fun g => Q g.node) := h.2 al

theorem StoreFrame.rfl' {Q L} (s : Store) : StoreFrame Q L s s := ⟨fun _ _ => rfl, fun _ => rfl⟩
theorem StoreFrame.trans {Q L} {s t u : Store} (h1 : StoreFrame Q L s t) (h2 : StoreFrame Q L t u) : StoreFrame Q L s u :=
  ⟨fun al h => by rw [h2.outside al h, h1.outside al h], fun al => by rw [h2.nodes al, h1.nodes al]⟩
theorem StoreFrame.of_eq {Q L} {s t : Store} (h : t = s) : StoreFrame Q L s t := by subst h; exact StoreFrame.rfl' _

theorem StmtFrame.store {Q d a r} {L : Nat → Prop} (h : StmtFrame Q d a r) (hL : L a.arglist) : StoreFrame Q L d.args r.dev.args :=
  ⟨fun al hal => h.cellOther al (fun e => hal (e ▸ hL)), h.cellQ⟩

/-- what a piece of the pass that started on device `d` may have done when it hands back `r`: plugs and scripts are `d`'s, the
    callbacks went to clients of `C`, the store changed by a `StoreFrame Q L` -/
structure PAFrame (Q : Bytes → Bool) (C L : Nat → Prop) (d : Dev) (r : PA) : Prop where
  plugs : r.1.dev.plugs = d.plugs
  scripts : r.1.dev.scripts = d.scripts
  addr : Addr C r.2.2.1
  store : StoreFrame Q L d.args r.1.dev.args

theorem advance_arglist (a : Action) : (advance a).arglist = a.arglist := by
  unfold advance; dsimp only; split <;> rfl
theorem stamp_arglist (now : Time) (a : Action) : (stamp now a).arglist = a.arglist := by
  unfold stamp; split <;> rfl

/-! ### `onRun` and `dev_post_poll` for one device, cut in pieces

`Pm/Dev2Proof.lean` has a cut of the same two functions: `Login2.postPollReady` / `postPollReconnect` / `postPollPing` /
`Login2.postPoll'` (`Login2.postPoll_eq`), and `Login2.onRunStep`, the tail of `onRun` with a flag in place of the continuation.
The moves of `Pm/Dev2Moves.lean` are stated on that one: it is the one to use.  The pieces below are the same functions with
the arguments apart (`ppReady d env` is `Login2.postPollReady d env`, `ppReconnect c e` is `Login2.postPollReconnect (c, e)`,
`ppPing c now t` is `Login2.postPollPing now (c, t)`, `pingAction d` is `Login2.pingAction d`, all by `rfl`) and `onRun` with its
continuation kept.  They are here for two users: the ghost run of `Pm/QueryEv.lean` (`QEv.postPollEv`,
`QEv.onRunTailEv`, `QEv.onRunOkEv`) is written piece by piece beside them, and the two-run lemmas of this layer (`_wa`, `_ext`,
`_rel`) walk the same piece in two runs side by side, where the continuation is what the induction hypothesis is about. -/

/-- the head action ran to the end of a statement without error: advance, and complete it if its script is over -/
def onRunOk (k : CS → Oracle → List Out → Option Time → PA) (rest : List Action) (c : CS) (r : StepR) (out : List Out) (tmo : Option Time) : PA :=
  let a' := advance r.act
  if a'.exec.isEmpty then
    let fin := if a'.clientId != 0 then [Out.finish a'.clientId .success] else []
    let dev := { r.dev with acts := rest, loggedIn := r.dev.loggedIn || a'.com == 0, statActions := r.dev.statActions + 1, xmStr := none, xmResult := false, xmUsed := false }
    k { c with dev := dev } r.oracle (out ++ fin) tmo
  else k { c with dev := { r.dev with acts := a' :: rest } } r.oracle out tmo

/-- what `onRun` does with the result `r` of the statement loop -/
def onRunTail (k : CS → Oracle → List Out → Option Time → PA) (rest : List Action) (c : CS) (r : StepR) (out0 : List Out)
    (tmo : Option Time) (left : Time) : PA :=
  let out := out0 ++ r.out
  if hasAbort r.out then
    ({ c with dev := { r.dev with acts := r.act :: rest }, aborted := true }, r.oracle, out, tmo) else
  if !r.finished then ({ c with dev := { r.dev with acts := r.act :: rest } }, r.oracle, out,
    upd (match r.dev.wake with | some w => upd tmo w | none => tmo) left)
  else if r.act.errnum == .success then onRunOk k rest c r out tmo
  else failAll rest { c with dev := r.dev } r.act r.oracle out tmo

theorem onRun_eq (k rest c a o out tmo left) :
    onRun k rest c a o out tmo left = onRunTail k rest c (innerLoop c.env.now (loopBound a) { c.dev with wake := none } a o []) out tmo left := by
  unfold onRun onRunTail onRunOk
  rfl

/-- The four ways `onRunTail` can go, in two runs at once (`onRunOk_congr`: the two ways of `onRunOk`).  The tests read `out`,
    `finished` and `act` of the loop's result only, so two results that agree on these take the same way; a relation that holds
    between the two values on each way holds between the two tails.  With `q' = q` and `c' = c` this is the case rule of one run. -/
theorem onRunTail_congr {R : PA → PA → Prop} (k : CS → Oracle → List Out → Option Time → PA) (rest : List Action) (c c' : CS)
    (q q' : StepR) (out : List Out) (tmo : Option Time) (left : Time)
    (ho : q'.out = q.out) (hf : q'.finished = q.finished) (ha : q'.act = q.act)
    (habort : R ({ c with dev := { q.dev with acts := q.act :: rest }, aborted := true }, q.oracle, out ++ q.out, tmo)
      ({ c' with dev := { q'.dev with acts := q.act :: rest }, aborted := true }, q'.oracle, out ++ q.out, tmo))
    (hstall : R ({ c with dev := { q.dev with acts := q.act :: rest } }, q.oracle, out ++ q.out,
        upd (match q.dev.wake with | some w => upd tmo w | none => tmo) left)
      ({ c' with dev := { q'.dev with acts := q.act :: rest } }, q'.oracle, out ++ q.out,
        upd (match q'.dev.wake with | some w => upd tmo w | none => tmo) left))
    (hok : R (onRunOk k rest c q (out ++ q.out) tmo) (onRunOk k rest c' q' (out ++ q.out) tmo))
    (hfail : R (failAll rest { c with dev := q.dev } q.act q.oracle (out ++ q.out) tmo)
      (failAll rest { c' with dev := q'.dev } q.act q'.oracle (out ++ q.out) tmo)) :
    R (onRunTail k rest c q out tmo left) (onRunTail k rest c' q' out tmo left) := by
  unfold onRunTail
  dsimp only
  rw [ho, hf, ha]
  by_cases h1 : hasAbort q.out = true
  · rw [if_pos h1, if_pos h1]; exact habort
  rw [if_neg h1, if_neg h1]
  by_cases h2 : (!q.finished) = true
  · rw [if_pos h2, if_pos h2]; exact hstall
  rw [if_neg h2, if_neg h2]
  by_cases h3 : (q.act.errnum == ActErr.success) = true
  · rw [if_pos h3, if_pos h3]; exact hok
  · rw [if_neg h3, if_neg h3]; exact hfail

theorem onRunOk_congr {R : PA → PA → Prop} (k : CS → Oracle → List Out → Option Time → PA) (rest : List Action) (c c' : CS)
    (q q' : StepR) (out : List Out) (tmo : Option Time) (ha : q'.act = q.act)
    (hdone : R (k { c with dev := { q.dev with acts := rest, loggedIn := q.dev.loggedIn || (advance q.act).com == 0, statActions := q.dev.statActions + 1, xmStr := none, xmResult := false, xmUsed := false } } q.oracle
        (out ++ if (advance q.act).clientId != 0 then [Out.finish (advance q.act).clientId .success] else []) tmo)
      (k { c' with dev := { q'.dev with acts := rest, loggedIn := q'.dev.loggedIn || (advance q.act).com == 0, statActions := q'.dev.statActions + 1, xmStr := none, xmResult := false, xmUsed := false } } q'.oracle
        (out ++ if (advance q.act).clientId != 0 then [Out.finish (advance q.act).clientId .success] else []) tmo))
    (hnext : R (k { c with dev := { q.dev with acts := advance q.act :: rest } } q.oracle out tmo)
      (k { c' with dev := { q'.dev with acts := advance q.act :: rest } } q'.oracle out tmo)) :
    R (onRunOk k rest c q out tmo) (onRunOk k rest c' q' out tmo) := by
  unfold onRunOk
  dsimp only
  rw [ha]
  by_cases hc : (advance q.act).exec.isEmpty = true
  · rw [if_pos hc, if_pos hc]; exact hdone
  · rw [if_neg hc, if_neg hc]; exact hnext

def ppReady (d : Dev) (env : Env) : CS × Bool :=
  let c : CS := { dev := d, env := env, sys := [] }
  let flags := if c.dev.fd.isSome then env.revents else 0
  if flags != 0 then handleReady { c with env := { env with revents := flags } } else (c, false)

def ppReconnect (c : CS) (ioerr : Bool) : CS × Option Time :=
  if ioerr || c.dev.conn == 0 then reconnectDev c none else (c, none)

def pingAction (d : Dev) : Action :=
  { loginAction d with com := 6, exec := [{ block := (d.scripts 6).getD [], pos := 0, plugs := none, plugItr := none, plugCopy := none, processing := false }] }

def ppPing (c : CS) (now : Time) (tmo : Option Time) : CS × Option Time :=
  if c.dev.conn == 2 && (c.dev.scripts 6).isSome && c.dev.pingPeriod > 0 then
    match c.dev.lastPing with
    | some t =>
      if now ≥ t + c.dev.pingPeriod then
        ({ c with dev := { c.dev with acts := c.dev.acts ++ [pingAction c.dev], lastPing := some now } }, tmo)
      else (c, upd tmo (t + c.dev.pingPeriod - now))
    | none =>
      ({ c with dev := { c.dev with acts := c.dev.acts ++ [pingAction c.dev], lastPing := some now } }, tmo)
  else (c, tmo)

def postPoll' (d : Dev) (env : Env) (o : Oracle) : CS × Oracle × List Out × Option Time :=
  let r := ppReady d env
  if r.1.aborted then (r.1, o, [], none) else
  let r2 := ppReconnect r.1 r.2
  let r3 := ppPing r2.1 env.now r2.2
  processAction r3.1 o [] r3.2

/-- the descriptor half in the terms of `Pm/TelnetPass.lean` (`Tel.postPollReady_eq`) -/
theorem ppReady_eq (d : Dev) (env : Env) : ppReady d env =
    if Tel.ppFlags d env != 0 then handleReady (Tel.ppC0 d env) else ({ dev := d, env := env, sys := [] }, false) := rfl

theorem postPoll_eq (d : Dev) (env : Env) (o : Oracle) : postPoll d env o = postPoll' d env o := by
  unfold postPoll postPoll' ppReady ppReconnect ppPing pingAction
  rfl

theorem rewind_arglist (a : Action) : (rewind a).arglist = a.arglist := by
  unfold rewind; split <;> rfl

theorem ppReconnect_devFrame (c : CS) (ioerr : Bool) : DevFrame c.dev (ppReconnect c ioerr).1.dev := by
  unfold ppReconnect
  split
  · exact reconnectDev_devFrame _ _
  · exact DevFrame.rfl' _

theorem ppPing_frame (c : CS) (now : Time) (tmo : Option Time) :
    (ppPing c now tmo).1.dev.plugs = c.dev.plugs ∧ (ppPing c now tmo).1.dev.scripts = c.dev.scripts ∧
    (ppPing c now tmo).1.dev.args = c.dev.args ∧
    ((ppPing c now tmo).1.dev.acts = c.dev.acts ∨ (ppPing c now tmo).1.dev.acts = c.dev.acts ++ [pingAction c.dev]) := by
  unfold ppPing
  split
  · split
    · split
      · exact ⟨rfl, rfl, rfl, .inr rfl⟩
      · exact ⟨rfl, rfl, rfl, .inl rfl⟩
    · exact ⟨rfl, rfl, rfl, .inr rfl⟩
  · exact ⟨rfl, rfl, rfl, .inl rfl⟩

/-! ### what a pass keeps, read off the list of moves -/

/-- every queued action's (client id, arglist id) pair satisfies `S` -/
def Keys (S : Nat → Nat → Prop) (acts : List Action) : Prop := ∀ a ∈ acts, S a.clientId a.arglist

theorem Keys.nil {S : Nat → Nat → Prop} : Keys S [] := fun _ h => nomatch h
theorem Keys.cons {S : Nat → Nat → Prop} {a : Action} {l : List Action} (ha : S a.clientId a.arglist) (hl : Keys S l) :
    Keys S (a :: l) := fun b hb => by
  rcases List.mem_cons.1 hb with rfl | hb
  · exact ha
  · exact hl b hb

theorem Keys.uncons {S : Nat → Nat → Prop} {a : Action} {l r : List Action} (h : Keys S l) (e : l = a :: r) :
    S a.clientId a.arglist ∧ Keys S r :=
  ⟨h a (e ▸ List.mem_cons_self ..), fun b hb => h b (e ▸ List.mem_cons_of_mem _ hb)⟩

theorem DevFrame.keys {S : Nat → Nat → Prop} {d d' : Dev} (h : DevFrame d d') (h0 : S 0 0) (hk : Keys S d.acts) : Keys S d'.acts :=
  h.acts (fun a => S a.clientId a.arglist) h0 (fun a ha => by rw [rewind_clientId, rewind_arglist]; exact ha) hk

/-- What a pass that started on device `d`, with keys `S` in its queue (`S 0 0`: the login and ping actions), has done when it
    stands at `s`: plugs and scripts are `d`'s; every callback so far went to a client that has a key; arglists without a key
    have their cell, and the `Q`-entries of every cell are as they were (`Q` holding no node of `d`); the queue still holds
    keys of `S` only. -/
structure Kept (Q : Bytes → Bool) (S : Nat → Nat → Prop) (d : Dev) (s : PA) : Prop where
  plugs : s.1.dev.plugs = d.plugs
  scripts : s.1.dev.scripts = d.scripts
  addr : Addr (fun c => ∃ al, S c al) s.2.2.1
  store : StoreFrame Q (fun al => ∃ c, S c al) d.args s.1.dev.args
  keys : Keys S s.1.dev.acts

section
variable {Q : Bytes → Bool} {S : Nat → Nat → Prop} {d : Dev}

/-- a move of the connection layer: the reports stay, the device changes by a `DevFrame` -/
theorem Kept.conn {s s' : PA} (h : Kept Q S d s) (h0 : S 0 0) (hf : DevFrame s.1.dev s'.1.dev) (ho : s'.2.2.1 = s.2.2.1) :
    Kept Q S d s' :=
  ⟨hf.plugs.trans h.plugs, hf.scripts.trans h.scripts, ho ▸ h.addr, h.store.trans (.of_eq hf.args), hf.keys h0 h.keys⟩

theorem readyFinish_devFrame (c : CS) (h1 : c.dev.conn = 1) : DevFrame c.dev (Tel.readyFinish c).1.dev := by
  obtain ⟨c1, hw, ⟨_, e⟩ | ⟨_, e⟩⟩ := readyFinish_dev c h1 <;> rw [e]
  · exact hw.dev.devFrame
  · exact hw.dev.devFrame.trans (enqueueLogin_devFrame _)

theorem Move.ready_frame {s s' : PA} (m : Move .ready s s') : DevFrame s.1.dev s'.1.dev ∧ s'.2.2.1 = s.2.2.1 := by
  cases m with
  | assert => exact ⟨.rfl' _, rfl⟩
  | write => exact ⟨.of_eq rfl rfl rfl rfl, rfl⟩
  | read c => exact ⟨by rw [read_dev]; exact .of_eq rfl rfl rfl rfl, rfl⟩
  | finish c _ _ _ h1 _ => exact ⟨readyFinish_devFrame c h1, rfl⟩

theorem ppReady_devFrame (d : Dev) (env : Env) : DevFrame d (ppReady d env).1.dev := by
  rw [ppReady_eq]
  exact ite_cases (P := fun x : CS × Bool => DevFrame d x.1.dev)
    (fun _ => handleReady_keeps (I := DevFrame d) (fun m h => h.trans m.ready_frame.1) _ (.rfl' _)) fun _ => .rfl' _

theorem fins_addr {rest : List Action} {a : Action} {e e' : ActErr} (ha : S a.clientId a.arglist) (hr : Keys S rest) :
    Addr (fun c => ∃ al, S c al) (headFin a e ++ restFin rest e') := by
  intro x hx cid hc
  rcases List.mem_append.1 hx with hx | hx
  · rw [(mem_headFin hx).1] at hc; cases hc; exact ⟨_, ha⟩
  · obtain ⟨b, hb, _, rfl⟩ := mem_restFin hx
    cases hc; exact ⟨_, hr b hb⟩

theorem timeoutTele_addr (d0 : Dev) {a : Action} (ha : S a.clientId a.arglist) : Addr (fun c => ∃ al, S c al) (Fd.timeoutTele d0 a) := by
  intro x hx cid hc
  unfold Fd.timeoutTele at hx
  split at hx
  · split at hx
    · cases List.mem_singleton.1 hx; cases hc; exact ⟨_, ha⟩
    · rw [teleMem_addr _ _ _ x hx cid hc]; exact ⟨_, ha⟩
  · cases hx

/-- the interpreter ran on the head `a0` of the queue: what is kept with its result `r` in the head's place -/
theorem Kept.run {c : CS} {o : Oracle} {out : List Out} {tmo : Option Time} {a0 : Action} {rest : List Action} {r : StepR}
    (h : Kept Q S d (c, o, out, tmo)) (hQ : QOff Q d) (hacts : c.dev.acts = a0 :: rest) (hr : headRun c o a0 = r) :
    Kept Q S d ({ c with dev := { r.dev with acts := r.act :: rest } }, r.oracle, out ++ r.out, tmo) := by
  have hIL := innerLoop_frame Q c.env.now (loopBound (stamp c.env.now a0)) { c.dev with wake := none } (stamp c.env.now a0) o []
    (hQ.congr h.plugs) .nil
  rw [show innerLoop _ _ _ _ o [] = r from hr] at hIL
  obtain ⟨ha, hrest⟩ := h.keys.uncons hacts
  exact ⟨hIL.plugs.trans h.plugs, hIL.scripts.trans h.scripts,
    h.addr.append (Addr.mono hIL.addr fun cid e => ⟨a0.arglist, by rw [e, stamp_clientId]; exact ha⟩),
    h.store.trans (hIL.store ⟨_, by rw [stamp_arglist]; exact ha⟩),
    .cons (by rw [hIL.cid, hIL.al, stamp_clientId, stamp_arglist]; exact ha) hrest⟩

theorem Move.kept {k : Stage} {s s' : PA} (m : Move k s s') (hQ : QOff Q d) (h0 : S 0 0) (h : Kept Q S d s) : Kept Q S d s' := by
  -- plugs and scripts by `Move.static`: a case says where the callbacks went, what the store and the queue became
  have mk := fun ha hst hk => (⟨m.static.1.trans h.plugs, m.static.2.trans h.scripts, ha, hst, hk⟩ : Kept Q S d s')
  obtain _ | b := k
  · exact h.conn h0 m.ready_frame.1 m.ready_frame.2
  cases m with
  | disconnect c o out tmo _ => exact h.conn h0 (disconnectDev_devFrame c) rfl
  | connect b c o out tmo _ => exact h.conn h0 (connectDev_devFrame c) rfl
  | wait b c o out tmo left _ => exact h.conn h0 (.rfl' _) rfl
  | ping c o out tmo now =>
    refine mk h.addr h.store fun a ha => ?_
    rcases List.mem_append.1 ha with ha | ha
    · exact h.keys a ha
    · cases List.mem_singleton.1 ha; exact h0
  | stamp c o out tmo a0 rest hacts =>
    obtain ⟨ha, hrest⟩ := h.keys.uncons hacts
    exact mk h.addr h.store (.cons (by rw [stamp_clientId, stamp_arglist]; exact ha) hrest)
  | note c o out tmo a rest hacts => exact mk (h.addr.append (timeoutTele_addr _ (h.keys.uncons hacts).1)) h.store h.keys
  | failIdle c o out tmo a rest e hacts _ =>
    obtain ⟨ha, hrest⟩ := h.keys.uncons hacts
    exact mk (h.addr.append (fins_addr ha hrest)) h.store .nil
  | failConn c o out tmo a rest e hacts _ =>
    obtain ⟨ha, hrest⟩ := h.keys.uncons hacts
    have hf := disconnectDev_devFrame (failed c)
    exact mk (h.addr.append (fins_addr ha hrest)) (h.store.trans (.of_eq hf.args)) (hf.keys h0 .nil)
  | runAbort c o out tmo a0 rest r hacts _ hr _ =>
    have hk := h.run hQ hacts hr
    exact mk hk.addr hk.store hk.keys
  | runStall c o out tmo a0 rest r left hacts _ hr _ _ _ =>
    have hk := h.run hQ hacts hr
    exact mk hk.addr hk.store hk.keys
  | runDone c o out tmo a0 rest r hacts _ hr _ _ _ _ =>
    have hk := h.run hQ hacts hr
    obtain ⟨hra, hrest⟩ := hk.keys.uncons rfl
    refine mk (hk.addr.append ?_) hk.store hrest
    intro x hx cid hc
    rw [(mem_headFin hx).1] at hc; cases hc
    rw [advance_clientId]; exact ⟨_, hra⟩
  | runNext c o out tmo a0 rest r hacts _ hr _ _ _ _ =>
    have hk := h.run hQ hacts hr
    obtain ⟨hra, hrest⟩ := hk.keys.uncons rfl
    exact mk hk.addr hk.store (.cons (by rw [advance_clientId, advance_arglist]; exact hra) hrest)
  | runFail c o out tmo a0 rest r hacts _ hr _ _ _ =>
    have hk := h.run hQ hacts hr
    obtain ⟨hra, hrest⟩ := hk.keys.uncons rfl
    have hf := disconnectDev_devFrame (failed { c with dev := r.dev })
    exact mk (hk.addr.append (fins_addr hra hrest)) (hk.store.trans (.of_eq hf.args)) (hf.keys h0 .nil)
  | fuel c o out tmo =>
    exact mk (h.addr.append (fun x hx cid hc => by cases List.mem_singleton.1 hx; cases hc)) h.store h.keys

end

/-- **what one device's share of `dev_post_poll` keeps**, in one statement: with `S` a set of (client id, arglist id) pairs
    containing `(0, 0)` and the pairs of the queued actions, and `Q` a set of nodes none of which is wired to this device -/
theorem postPoll_kept (Q : Bytes → Bool) (S : Nat → Nat → Prop) (d : Dev) (env : Env) (o : Oracle) (hQ : QOff Q d) (h0 : S 0 0)
    (hk : Keys S d.acts) : Kept Q S d (postPoll d env o) :=
  (postPoll_run d env o).keeps (fun _ _ _ m => m.kept hQ h0) ⟨rfl, rfl, Addr.nil, .rfl' _, hk⟩

theorem StoreFrame.mono {Q : Bytes → Bool} {L L' : Nat → Prop} {s t : Store} (h : StoreFrame Q L s t) (hi : ∀ al, L al → L' al) :
    StoreFrame Q L' s t := ⟨fun al hal => h.outside al fun hl => hal (hi al hl), h.nodes⟩

/-- **single-run frame of one device's share of `dev_post_poll`**: with `C` a set of client ids containing `0` and the
    ids of the queued actions, `L` a set of arglist ids containing `0` and those of the queued actions, and `Q` a set of
    nodes none of which is wired to this device: callbacks go to `C` only, arglists outside `L` are untouched, entries of
    `Q`-nodes are untouched everywhere, plugs and scripts are kept. -/
theorem postPoll_frame (Q : Bytes → Bool) (C L : Nat → Prop) (d : Dev) (env : Env) (o : Oracle)
    (hQ : QOff Q d) (h0 : C 0 ∧ L 0) (hacts : Keys (fun c al => C c ∧ L al) d.acts) : PAFrame Q C L d (postPoll d env o) :=
  have h := postPoll_kept Q (fun c al => C c ∧ L al) d env o hQ h0 hacts
  ⟨h.plugs, h.scripts, h.addr.mono fun _ ⟨_, hc, _⟩ => hc, h.store.mono fun _ ⟨_, _, hl⟩ => hl⟩

/-- **`dev_post_poll` for one device never changes the owner or the arglist of a queued action**: every action in the queue
    afterwards has the (client id, arglist id) pair of an action that was queued before, or `(0, 0)` (login, ping) -/
theorem postPoll_keys (S : Nat → Nat → Prop) (h0 : S 0 0) (d : Dev) (env : Env) (o : Oracle) (hk : Keys S d.acts) :
    Keys S (postPoll d env o).1.dev.acts :=
  (postPoll_kept (fun _ => false) S d env o (fun _ _ _ _ => rfl) h0 hk).keys

/-- the tail of one round of the `do … while` loop -/
def innerStep (now : Time) (n : Nat) (a : Action) (acc : List Out) (q : StepR) : StepR :=
  if q.finished && q.act.exec.length > a.exec.length then innerLoop now n q.dev q.act q.oracle (acc ++ q.out)
  else { q with out := acc ++ q.out }

theorem innerLoop_succ (now n d a o acc) : innerLoop now (n + 1) d a o acc = innerStep now n a acc (processStmt d a o now) := rfl

theorem processStmt_plugs (d : Dev) (a : Action) (o : Oracle) (now : Time) : (processStmt d a o now).dev.plugs = d.plugs := by
  rw [(processStmt_spec d a o now).dev]

end Pm.Dev2
