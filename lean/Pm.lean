-- Every module of the library, in the groups of DESIGN.md §3.1 (the groups are not everywhere in import order).
-- model files and early pilots (each over its own small model)
import Pm.Basic
import Pm.Num
import Pm.Digits
import Pm.HL
import Pm.Find
import Pm.Create
import Pm.Sort
import Pm.Sort2
import Pm.SortF
import Pm.HLDefs
import Pm.Client
import Pm.Dev
import Pm.Dev2
import Pm.Daemon
import Pm.Signal
import Pm.StdioCli
import Pm.Cbuf
import Pm.CbufRing
import Pm.LsdList
import Pm.LsdHash
import Pm.Redfish
import Pm.RfCmd
import Pm.LibPmModel
import Pm.ConfigModel
import Pm.LexModel
import Pm.Grammar
import Pm.GrammarSem
import Pm.Serial
import Pm.SpecCheck
import Pm.Enq
import Pm.Backoff
import Pm.Config
import Pm.Conn
import Pm.Frame
import Pm.Interp2
import Pm.LibPm
import Pm.Memstr
import Pm.Pending
import Pm.Small
import Pm.Spec
import Pm.Telnet
-- base
import Pm.Logic
-- device: statements; the loop of _process_action and the pass as a sequence of moves
import Pm.Dev2Stmt
import Pm.Dev2Proof
import Pm.Dev2Clip
import Pm.Dev2Moves
import Pm.Dev2Count
import Pm.Dev2Login
import Pm.Dev2Login2
-- device: connections
import Pm.Dev2Walk
import Pm.Dev2Fd
-- device: bytes
import Pm.ToBuf
import Pm.TelnetProof
import Pm.TelnetPass
import Pm.ClientWrite
import Pm.CapProof
import Pm.ToBufProof
import Pm.ToBufProps
-- device: timers, recovery, ledgers, match object (WalkProof and CurInv, of the connection layer, build on the timers); shutdown
import Pm.Dev2Timer
import Pm.WalkProof
import Pm.CurInv
import Pm.TimerMin
import Pm.Shutdown
import Pm.E2EDev
import Pm.Dev2Ledger
import Pm.MatchOwn
-- interpreter against its reference, static checker
import Pm.InterpRef
import Pm.InterpSim
import Pm.InterpPass
import Pm.InterpSends
import Pm.SpecSound
import Pm.SpecSoundEx
-- client; requests and replies
import Pm.ClientProof
import Pm.AliasProof
import Pm.AliasConfig
import Pm.CreateR
import Pm.EnqProof
import Pm.Deliver
import Pm.ReplyProof
import Pm.ClientLine
import Pm.EnqLine
import Pm.PassRules
import Pm.ClientStream
import Pm.RunXCli
import Pm.IsolationProof
import Pm.E2ECli
-- frames (C05)
import Pm.FrameDev
import Pm.FrameOracle
import Pm.FrameRel
import Pm.FrameConn
import Pm.FrameProof
import Pm.FrameStutter
import Pm.FrameTwo
import Pm.FrameCli
import Pm.FrameMulti
import Pm.FrameEx
-- whole runs
import Pm.RunX
import Pm.EndToEnd
import Pm.RunXE2E
import Pm.E2EEx
import Pm.RunXEx
import Pm.TwoRun
import Pm.TwoRunC05
import Pm.TwoRunC11
import Pm.TwoRunGone
import Pm.RunXTwo
import Pm.RunXC05
import Pm.TwoRunEx
import Pm.RunXTwoEx
import Pm.RunXC05Ex
import Pm.QueryEv
import Pm.QueryCell
import Pm.QueryRun
import Pm.QueryAnswer
import Pm.QueryEx
import Pm.StreamClean
import Pm.StreamLine
import Pm.StreamRun
import Pm.StreamDev
import Pm.StreamWhole
import Pm.StreamReplace
-- ring, list, hash
import Pm.CbufRingBase
import Pm.CbufRingProof
import Pm.CbufRingGrow
import Pm.CbufRingWrite
import Pm.CbufRingLine
import Pm.CbufRingRun
import Pm.LsdListAbs
import Pm.LsdListProof
import Pm.LsdListSortProof
import Pm.LsdListBase
import Pm.LsdListNode
import Pm.LsdListOps
import Pm.LsdListLoop
import Pm.LsdListSort
import Pm.LsdListRun
import Pm.LsdListTop
import Pm.LsdHashProof
-- host lists
import Pm.HLProof
import Pm.HLMore
import Pm.HLFind
import Pm.SortFProof
import Pm.SortFuel
import Pm.RoundTrip
-- redfishpower
import Pm.RedfishTree
import Pm.RedfishPW
import Pm.RedfishSt
import Pm.RedfishTerm
import Pm.RedfishSetup
import Pm.RedfishLines
import Pm.RedfishOne
import Pm.RedfishSpec
import Pm.RedfishStat
import Pm.RedfishClosed
import Pm.RedfishPower
import Pm.RedfishRefine
import Pm.RedfishSeq
import Pm.RedfishProof
import Pm.RfCmdProof
import Pm.RfCmdLink
import Pm.RfCmdEx
-- libpowerman, configuration, lexer, grammar, serial
import Pm.ScanfProof
import Pm.LibPmProof
import Pm.ConfigProof
import Pm.LexProof
import Pm.GrammarLexProof
import Pm.GrammarProof
import Pm.GrammarSemProof
import Pm.SerialProof
-- tables regenerated from /repo on every run
import Pm.TablesCheck
import Pm.Generated.SpecsAll
-- the twenty properties
import Pm.Props.C01
import Pm.Props.C02
import Pm.Props.C03
import Pm.Props.C04
import Pm.Props.C05
import Pm.Props.C06
import Pm.Props.C07
import Pm.Props.C08
import Pm.Props.C09
import Pm.Props.C10
import Pm.Props.C11
import Pm.Props.C12
import Pm.Props.C13
import Pm.Props.C14
import Pm.Props.C15
import Pm.Props.C16
import Pm.Props.C17
import Pm.Props.C18
import Pm.Props.C19
import Pm.Props.C20
